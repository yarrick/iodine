import IodineModel.Lemmas.C06Events
import IodineModel.Lemmas.CliFrame
import IodineModel.Lemmas.Encoding
import IodineModel.Lemmas.Ite
/-
C06 for whole client sessions: the TUNNEL machine (`Client/Tunnel.lean`, `Client/Loop.lean`) — unmatched replies and the
buffer invariant, for arbitrary inputs and without any hypothesis on the configuration.

* `Keep c c'`: `c'` differs from `c` only in the bookkeeping of the send scheduler (timers, counters, the id window,
  the CMC seed, the lazy flag, `running`).  Everything `tunnel_dns` does with a reply whose id is none of the three
  remembered ones, or whose question does not start with an expected character, is `Keep` (`tunnelDns_unmatched`).
* `BInv B c`: every list of `c` that stands for a C array fits the array (`inpkt.data[64K]`, `outpkt.data[64K]`),
  `inpkt.len`/`outpkt.offset`/`outpkt.sentlen`/`outpkt.len` stay inside what is stored.  Invariant under every
  function of the tunnel phase for ARBITRARY inputs (`cstep_b`); the events respect the sizes of `out[64K]`
  (what `write_tun` is handed) and `packet[4096]` of `send_raw` (`C06.TunEventOk`).
-/
namespace Iodine.C06L
open Iodine Iodine.Client Iodine.Gen

structure Keep (c c' : Cli) : Prop where
  inpkt : c'.inpkt = c.inpkt
  outpkt : c'.outpkt = c.outpkt
  resent : c'.outchunkresent = c.outchunkresent
  ldt : c'.lastdownstreamtime = c.lastdownstreamtime
  uid : c'.userid = c.userid
  uc : c'.useridChar = c.useridChar
  uc2 : c'.useridChar2 = c.useridChar2
  enc : c'.dataenc = c.dataenc
  dn : c'.downenc = c.downenc
  ty : c'.doQtype = c.doQtype
  conn : c'.conn = c.conn
  td : c'.topdomain = c.topdomain
  ml : c'.hostnameMaxlen = c.hostnameMaxlen
  cmc : c'.datacmc = c.datacmc
  edns : c'.edns0 = c.edns0
  now : c'.now = c.now
  lrp : c'.lastrawping = c.lastrawping

/-- `Keep` is what the bookkeeping erasure of Lemmas/CliFrame.lean leaves -/
theorem Keep.of_frame {c c' : Cli} (h : CFrame erBook c c') : Keep c c' :=
  ⟨congrArg (·.inpkt) h, congrArg (·.outpkt) h, congrArg (·.outchunkresent) h, congrArg (·.lastdownstreamtime) h,
   congrArg (·.userid) h, congrArg (·.useridChar) h, congrArg (·.useridChar2) h, congrArg (·.dataenc) h,
   congrArg (·.downenc) h, congrArg (·.doQtype) h, congrArg (·.conn) h, congrArg (·.topdomain) h,
   congrArg (·.hostnameMaxlen) h, congrArg (·.datacmc) h, congrArg (·.edns0) h, congrArg (·.now) h,
   congrArg (·.lastrawping) h⟩

theorem Keep.refl (c : Cli) : Keep c c := .of_frame (.refl erBook c)

theorem Keep.trans {a b c : Cli} (h1 : Keep a b) (h2 : Keep b c) : Keep a c :=
  ⟨h2.inpkt.trans h1.inpkt, h2.outpkt.trans h1.outpkt, h2.resent.trans h1.resent, h2.ldt.trans h1.ldt,
   h2.uid.trans h1.uid, h2.uc.trans h1.uc, h2.uc2.trans h1.uc2, h2.enc.trans h1.enc, h2.dn.trans h1.dn,
   h2.ty.trans h1.ty, h2.conn.trans h1.conn, h2.td.trans h1.td, h2.ml.trans h1.ml, h2.cmc.trans h1.cmc,
   h2.edns.trans h1.edns, h2.now.trans h1.now, h2.lrp.trans h1.lrp⟩

/-! ### how much a sender emits (that it is queries only: `onlyQ_*` of Lemmas/CliFrame.lean) -/

theorem sendQueryPlain_le (c : Cli) (h : List Nat) : (sendQueryPlain c h).1.2.length ≤ 1 := by
  rw [sendQueryPlain]
  cases wireQuery (rotateChunkid c).chunkid (rotateChunkid c).doQtype (rotateChunkid c).edns0 h with
  | none => exact Nat.zero_le _
  | some ev => exact Nat.le_refl _

theorem lazyoffIter_le (c : Cli) (i : Nat) : (lazyoffIter c i).evs.length ≤ 1 :=
  ite_both (P := fun s : Sent => s.evs.length ≤ 1) (by unfold sendLazySwitch sendHandshakeQuery; exact sendQueryPlain_le _ _)
    (Nat.zero_le _)

theorem sendQueryCount_le (c : Cli) : (sendQueryCount c).evs.length ≤ 1 :=
  ite_both (P := fun s : Sent => s.evs.length ≤ 1)
    (ite_both (P := fun s : Sent => s.evs.length ≤ 1)
      (ite_both (P := fun s : Sent => s.evs.length ≤ 1) (Nat.zero_le _) (lazyoffIter_le _ 0)) (Nat.zero_le _)) (Nat.zero_le _)

/-- `send_query`: its own query, and the switch request if it decides on `handshake_lazyoff` -/
theorem sendQuery_le (c : Cli) (h : List Nat) : (sendQuery c h).evs.length ≤ 2 := by
  have h1 := sendQueryPlain_le c h
  refine ite_both (P := fun s : Sent => s.evs.length ≤ 2) ?_ (Nat.le_succ_of_le h1)
  show ((sendQueryPlain c h).1.2 ++ (sendQueryCount (sendQueryPlain c h).1.1).evs).length ≤ 2
  rw [List.length_append]
  exact Nat.add_le_add h1 (sendQueryCount_le _)

theorem sendPing_le (c : Cli) (hc : c.conn = .dnsNull) : (sendPing c).evs.length ≤ 2 := by
  rw [sendPing, if_pos hc]; exact sendQuery_le _ _

theorem keep_resume (c : Cli) (k : Resume) : Keep c (resume c k).1 := .of_frame (frame_resume c k)

theorem afterSend_k (c : Cli) (s : Sent) (k : Resume) (hk : Keep c s.c) :
    Keep c (afterSend s [] k).1 ∧ (afterSend s [] k).2.1 = s.evs := by
  unfold afterSend
  split
  · exact ⟨hk, by simp⟩
  · exact ⟨hk.trans (keep_resume s.c k), by simp⟩

/-- **the core of "unmatched replies are ignored"** (DNS mode): a reply whose id is none of the three remembered ones, or whose
question name does not start with `P`, `p` or the user-id character, changes only bookkeeping (`Keep`), and the only thing
it can make the client send is queries: at most the ping that was due anyway (`send_ping_soon ≠ 0`) and the lazy-mode switch
that ping's `send_query` may decide on. -/
theorem tunnelDns_unmatched (c : Cli) (q : Rq) (hc : c.conn = .dnsNull)
    (h : recentId c q.id = false ∨ notData c q.name0 = true) :
    Keep c (tunnelDns c q).1 ∧ OnlyQ (tunnelDns c q).2.1 ∧ (tunnelDns c q).2.1.length ≤ 2 ∧
      (c.sendPingSoon = 0 ∨ notData c q.name0 = true → (tunnelDns c q).2.1 = []) := by
  have quiet : ∀ c' : Cli, Keep c c' → Keep c c' ∧ OnlyQ ([] : List CEvent) ∧ ([] : List CEvent).length ≤ 2 ∧
      (c.sendPingSoon = 0 ∨ notData c q.name0 = true → ([] : List CEvent) = []) :=
    fun _ hk => ⟨hk, onlyQ_nil, Nat.zero_le _, fun _ => rfl⟩
  rw [tunnelDns_eq]
  by_cases hnd : notData c q.name0 = true
  · rw [if_pos hnd]; exact quiet _ (.of_frame rfl)
  rw [if_neg hnd]
  by_cases hrv : q.rv < 2
  · rw [if_pos hrv]; exact quiet _ (.of_frame ((frame_servfailCount c q).trans rfl))
  rw [if_neg hrv]
  by_cases hbad : q.rv = 5 ∧ q.buf.take 5 = ascii "BADIP"
  · rw [if_pos hbad]; exact quiet _ (Keep.refl c)
  -- the id is not recent: the exit that counts an out-of-sequence reply
  rw [if_neg hbad, if_pos (by rw [h.resolve_right hnd]; rfl)]
  extract_lets cOos
  have hk : Keep c cOos := .of_frame ((frame_tdCount c _ q.rv).trans (frame_oosCount _))
  by_cases hsn : (c.sendPingSoon != 0) = true
  · rw [if_pos hsn]
    have hcO : cOos.conn = .dnsNull := hk.conn.trans hc
    have ha := afterSend_k c (sendPing cOos) .dnsOosPing
      (hk.trans (.of_frame ((frame_sendPing_dns cOos hcO).coarsen erBook_erQ)))
    refine ⟨ha.1, ha.2 ▸ onlyQ_sendPing cOos hcO, ha.2 ▸ sendPing_le cOos hcO, fun hz => ?_⟩
    rcases hz with hz | hz
    · exact absurd hsn (by simp [hz])
    · exact absurd hz hnd
  · rw [if_neg hsn]; exact quiet _ hk

/-- the same for one whole turn of `client_tunnel`'s loop -/
theorem tunnelStep_unmatched (c : Cli) (q : Rq) (hc : c.conn = .dnsNull)
    (h : recentId c q.id = false ∨ notData c q.name0 = true) :
    Keep c (tunnelStep c (.rq q)).1.c ∧ OnlyQ (tunnelStep c (.rq q)).2.1 ∧ (tunnelStep c (.rq q)).2.1.length ≤ 2 ∧
      (c.sendPingSoon = 0 ∨ notData c q.name0 = true → (tunnelStep c (.rq q)).2.1 = []) := by
  -- the 60 s check touches `running` only
  have same : ∀ {α : Type} (f : Cli → α), f { c with running := false } = f c → f (afterSelect c) = f c :=
    fun f hf => ite_both (P := fun x => f x = f c) hf rfl
  have hk : Keep c (afterSelect c) := .of_frame (frame_afterSelect c)
  have hc1 : (afterSelect c).conn = .dnsNull := hk.conn.trans hc
  have e1 := same (recentId · q.id) rfl
  have e2 := same (notData · q.name0) rfl
  have ht := tunnelDns_unmatched (afterSelect c) q hc1 (by rw [e1, e2]; exact h)
  rw [same (·.sendPingSoon) rfl, e2] at ht
  have hrk : rawKeepalive (afterSelect c) = (afterSelect c, []) := by
    unfold rawKeepalive
    simp [hc1]
  have heq : tunnelStep c (.rq q) =
      if !(afterSelect c).running then (⟨afterSelect c, .idle⟩, [], .finished 0) else settle (tunnelDns (afterSelect c) q) := by
    unfold tunnelStep
    simp only [fire, hrk, after, List.nil_append, tunnelDnsInput, hc1, if_true]
  rw [heq]
  refine ite_both (P := fun o : CState × List CEvent × Next => Keep c o.1.c ∧ OnlyQ o.2.1 ∧ o.2.1.length ≤ 2 ∧
    (c.sendPingSoon = 0 ∨ notData c q.name0 = true → o.2.1 = [])) ⟨hk, onlyQ_nil, Nat.zero_le _, fun _ => rfl⟩ ?_
  rw [settle_c, settle_evs]
  exact ⟨hk.trans ht.1, ht.2.1, ht.2.2.1, ht.2.2.2⟩

/-- in the `select` of `handshake_lazyoff`'s `handshake_waitdns` an unfitting reply changes NOTHING -/
theorem lazyoffStep_unmatched (c : Cli) (i : Nat) (k : Resume) (q : Rq)
    (h : q.id ≠ c.chunkid ∨ (q.name0 ≠ 111 ∧ q.name0 ≠ 79)) :
    lazyoffStep c i k (.rq q) = (⟨c, .lazyoff i k⟩, [], .sel waitSel) := by
  unfold lazyoffStep
  simp only [fire, waitdnsRound, h, if_true]

/-- raw mode: a datagram that is too short, does not start with the magic, or carries another user nibble is dropped by
`read_dns_withq` before it has any effect -/
theorem readRaw_unmatched (c : Cli) (b : List Nat)
    (h : b.length < RAW_HDR_LEN ∨ b.take 3 ≠ rawHeader.take 3 ∨
      ((b.getD 3 0 &&& RAW_HDR_USR_MASK : Nat) : Int) ≠ c.userid) :
    readRaw c b = (c, []) := by
  unfold readRaw
  extract_lets d b3
  -- cutting the datagram at `sizeof(data)` changes none of the three tests
  have hl : d.length = min 65536 b.length := List.length_take
  have h23 : d.take 3 = b.take 3 := by rw [List.take_take]; rfl
  have hg : b3 = b.getD 3 0 := by
    show (b.take 65536).getD 3 0 = b.getD 3 0
    rw [List.getD_eq_getElem?_getD, List.getD_eq_getElem?_getD, List.getElem?_take, if_pos (by decide)]
  have h4 : RAW_HDR_LEN = 4 := rfl
  by_cases h1 : d.length < RAW_HDR_LEN
  · exact if_pos h1
  rw [if_neg h1]
  by_cases h2 : d.take 3 ≠ rawHeader.take 3
  · exact if_pos h2
  rw [if_neg h2]
  refine if_pos ?_
  rcases h with h | h | h
  · omega
  · exact absurd (h23 ▸ h) h2
  · exact hg ▸ h

/-- Every list of `c` that stands for a C array fits the array (`inpkt.data[64K]`, `outpkt.data[64K]`), and the indices the code
uses stay inside what is stored: `inpkt.len`, `outpkt.len` (unless the 64 KiB are full: `outStored`), `offset + sentlen`.
`B` bounds `outpkt.len`: 65537 holds for every tun frame, 65536 for frames of at most 65535 bytes (see `FrameOk`). -/
structure BInv (B : Nat) (c : Cli) : Prop where
  inData : c.inpkt.data.length ≤ 65536
  inLen : c.inpkt.len ≤ c.inpkt.data.length
  outData : c.outpkt.data.length ≤ 65536
  outStored : c.outpkt.len ≤ c.outpkt.data.length ∨ 65536 ≤ c.outpkt.data.length
  outMax : c.outpkt.len ≤ B
  outOff : c.outpkt.offset + c.outpkt.sentlen ≤ c.outpkt.len

def SameP (c c' : Cli) : Prop := c'.inpkt = c.inpkt ∧ c'.outpkt = c.outpkt

theorem Keep.sameP {c c' : Cli} (h : Keep c c') : SameP c c' := ⟨h.inpkt, h.outpkt⟩

theorem SameP.of_frame {c c' : Cli} (h : CFrame erTime c c') : SameP c c' := ⟨congrArg (·.inpkt) h, congrArg (·.outpkt) h⟩

theorem BInv.sameP {B : Nat} {c c' : Cli} (h : BInv B c) (e : SameP c c') : BInv B c' := by
  obtain ⟨e1, e2⟩ := e
  exact ⟨e1 ▸ h.inData, e1 ▸ h.inLen, e2 ▸ h.outData, e2 ▸ h.outStored, e2 ▸ h.outMax, e2 ▸ h.outOff⟩

theorem BInv.frame {B : Nat} {c c' : Cli} (h : BInv B c) (e : CFrame erTime c c') : BInv B c' := h.sameP (.of_frame e)

def EvsB (l : List CEvent) : Prop := ∀ e ∈ l, C06.TunEventOk e

theorem evsB_nil : EvsB [] := fun _ h => nomatch h

theorem evsB_append {a b : List CEvent} (ha : EvsB a) (hb : EvsB b) : EvsB (a ++ b) :=
  List.forall_mem_append.mpr ⟨ha, hb⟩

theorem evsB_one {e : CEvent} (h : C06.TunEventOk e) : EvsB [e] := List.forall_mem_singleton.mpr h

theorem evB_sendRaw (c : Cli) (buf : List Nat) (buflen cmd : Nat) : C06.TunEventOk (sendRaw c buf buflen cmd) := by
  show (rawHeader.take 3 ++ [(cmd ||| maskI c.userid 16) % 256] ++ buf.take (min (4096 - RAW_HDR_LEN) buflen)).length ≤ 4096
  simp only [List.length_append, List.length_take, List.length_cons, List.length_nil]
  have h4 : RAW_HDR_LEN = 4 := rfl
  have : rawHeader.length = 4 := rfl
  omega

theorem evB_writeTun (out : List Nat) (h : out.length ≤ 65536) : C06.TunEventOk (writeTun out) := by
  show (([0, 0, 8, 0] ++ out.drop 4).take out.length).length ≤ 65536
  rw [List.length_take]
  omega

theorem uncompress_le {d out : List Nat} {cap : Nat} (h : uncompress d cap = some out) : out.length ≤ cap := by
  unfold uncompress at h
  split at h
  · cases h
  · split at h
    · rename_i hc; cases h; exact hc.2
    · cases h

theorem enc_used_le (e : Enc) (space : Nat) (d : List Nat) : (Codec.enc e.codec space d).used ≤ d.length := by
  unfold Codec.enc
  simp only
  split
  · exact Nat.le_refl _
  · rename_i hm
    have hj : (if e.codec.k * (space - 1) / 8 < e.codec.k * space / 8 then space else space - 1) ≤ space := by
      split <;> omega
    show e.codec.k * (if e.codec.k * (space - 1) / 8 < e.codec.k * space / 8 then space else space - 1) / 8 ≤ d.length
    generalize (if e.codec.k * (space - 1) / 8 < e.codec.k * space / 8 then space else space - 1) = j at hj
    cases e <;> simp only [Enc.codec, Codec.b32, Codec.b64, Codec.b64u, Codec.b128, Codec.nchars] at hm ⊢ <;> omega

theorem buildHostname_used_le (e : Enc) (maxlen : Int) (buflen prev : Nat) (td d : List Nat) :
    (Client.buildHostname e.codec maxlen buflen prev td d).used ≤ d.length := by
  unfold Client.buildHostname
  split
  · rename_i b hb
    rw [Encoding.buildHostname_closeDot] at hb
    split at hb
    · cases hb
    · injection hb with hb
      subst hb
      exact enc_used_le e _ d
  · exact enc_used_le e _ d

theorem outRest_length (p : Packet) : (outRest p).length = min p.len p.data.length - p.offset := by
  simp only [outRest, List.length_drop, List.length_take]

/-- the postcondition of every function of the tunnel phase: the state it ends in fits the arrays, the events it emits respect
the buffers they come out of — read at a sender's (`BSent`), a handler's (`BGood`) and a step's result (`BOut`) -/
structure BPost (B : Nat) (c : Cli) (evs : List CEvent) : Prop where
  inv : BInv B c
  evs : EvsB evs

abbrev BSent (B : Nat) (s : Sent) : Prop := BPost B s.c s.evs

abbrev BGood (B : Nat) (r : Cli × List CEvent × Stop) : Prop := BPost B r.1 r.2.1

abbrev BOut (B : Nat) (o : CState × List CEvent × Next) : Prop := BPost B o.1.c o.2.1

variable {B : Nat} {c : Cli}

theorem sendQuery_b {h : List Nat} (hb : BInv B c) : BSent B (sendQuery c h) :=
  ⟨hb.frame (frame_sendQuery c h).q, (onlyQ_sendQuery c h).all fun _ _ _ => trivial⟩

theorem sendPing_b (hb : BInv B c) : BSent B (sendPing c) :=
  ite_both (sendQuery_b (hb.sameP ⟨rfl, rfl⟩)) ⟨hb.sameP ⟨rfl, rfl⟩, evsB_one (evB_sendRaw _ _ _ _)⟩

/-- `send_chunk` overwrites `sentlen`: what it needs is `BInv` without the condition on the old value -/
theorem sendChunk_b (hb : BInv B { c with outpkt := { c.outpkt with sentlen := 0 } }) : BSent B (sendChunk c) := by
  have hu := buildHostname_used_le c.dataenc c.hostnameMaxlen 4091 0 c.topdomain (outRest c.outpkt)
  have hl := outRest_length c.outpkt
  have ho : c.outpkt.offset + 0 ≤ c.outpkt.len := hb.outOff
  refine sendQuery_b ⟨hb.inData, hb.inLen, hb.outData, hb.outStored, hb.outMax, ?_⟩
  show c.outpkt.offset + (buildHostname c.dataenc.codec c.hostnameMaxlen 4091 0 c.topdomain (outRest c.outpkt)).used ≤ c.outpkt.len
  omega

theorem BInv.resend (h : BInv B c) : BInv B { c with outpkt := { c.outpkt with sentlen := 0 } } :=
  ⟨h.inData, h.inLen, h.outData, h.outStored, h.outMax, Nat.le_trans (Nat.le_add_right _ _) h.outOff⟩

/-- the packet in flight is dropped -/
theorem BInv.emptyOut (h : BInv B c) :
    BInv B { c with outpkt := { c.outpkt with offset := 0, len := 0, sentlen := 0 }, outchunkresent := 0 } :=
  ⟨h.inData, h.inLen, h.outData, Or.inl (Nat.zero_le _), Nat.zero_le _, Nat.le_refl _⟩

theorem afterSend_b {s : Sent} {pre : List CEvent} {k : Resume} (hs : BSent B s) (hp : EvsB pre) :
    BGood B (afterSend s pre k) :=
  ite_both ⟨hs.inv, evsB_append hp hs.evs⟩ ⟨hs.inv.sameP (keep_resume s.c k).sameP, evsB_append hp hs.evs⟩

theorem tunnelTun_b {frame : List Nat} (hb : BInv B c) (hf : min frame.length 65536 + 1 ≤ B) :
    BGood B (tunnelTun c frame) := by
  unfold tunnelTun
  refine ite_both ⟨hb, evsB_nil⟩ <| ite_both ⟨hb, evsB_nil⟩ ?_
  have hlen : (compress (frame.take 65536)).length = min 65536 frame.length + 1 := by
    simp [compress, List.length_take]
  have hb1 : BInv B { c with
      outpkt := { c.outpkt with data := (compress (frame.take 65536)).take 65536, sentlen := 0, offset := 0,
                                seqno := sChar (((c.outpkt.seqno + 1) % 8 : Int)),
                                len := (compress (frame.take 65536)).length, fragment := 0 },
      outchunkresent := 0 } := by
    refine ⟨hb.inData, hb.inLen, ?_, ?_, ?_, Nat.zero_le _⟩
    · show ((compress (frame.take 65536)).take 65536).length ≤ 65536
      rw [List.length_take]; omega
    · show (compress (frame.take 65536)).length ≤ ((compress (frame.take 65536)).take 65536).length ∨
        65536 ≤ ((compress (frame.take 65536)).take 65536).length
      rw [List.length_take]; omega
    · show (compress (frame.take 65536)).length ≤ B
      rw [hlen]; omega
  refine ite_both (afterSend_b (sendChunk_b hb1.resend) evsB_nil) ⟨?_, evsB_one (evB_sendRaw _ _ _ _)⟩
  exact ⟨hb.inData, hb.inLen, hb1.outData, Or.inl (Nat.zero_le _), Nat.zero_le _, Nat.le_refl _⟩

theorem readRaw_b {data : List Nat} (hb : BInv B c) : BPost B (readRaw c data).1 (readRaw c data).2 := by
  have both := @ite_both Res (fun r => BPost B r.1 r.2)
  unfold readRaw
  extract_lets d b3 cmd c'
  have hb' : BInv B c' := ite_both (hb.sameP ⟨rfl, rfl⟩) hb
  refine both ⟨hb, evsB_nil⟩ <| both ⟨hb, evsB_nil⟩ <| both ⟨hb, evsB_nil⟩ <| both ⟨hb', evsB_nil⟩ ?_
  cases hu : uncompress (d.drop RAW_HDR_LEN) 65536 with
  | none => exact ⟨hb', evsB_nil⟩
  | some out => exact ⟨hb', evsB_one (evB_writeTun out (uncompress_le hu))⟩

theorem datalessAdopt_b {h : Hdr} {read : Int} (hb : BInv B c) : BInv B (datalessAdopt c h read) :=
  ite_both ⟨hb.inData, Nat.zero_le _, hb.outData, hb.outStored, hb.outMax, hb.outOff⟩ hb

theorem acceptFragment_b {c' : Cli} {h : Hdr} (ha : acceptFragment c h = some c') (hb : BInv B c) : BInv B c' := by
  unfold acceptFragment at ha
  repeat' split at ha
  all_goals first
    | (injection ha with ha; subst ha
       first | exact hb | exact ⟨hb.inData, Nat.zero_le _, hb.outData, hb.outStored, hb.outMax, hb.outOff⟩)
    | cases ha

/-- the reassembly clamp `MIN(read - 2, sizeof(inpkt.data) - inpkt.len)` keeps `inpkt` inside `data[64K]` -/
theorem appendFragment_b {h : Hdr} {buf : List Nat} {read : Int} (hb : BInv B c) :
    BInv B (appendFragment c h buf read) := by
  have h1 := hb.inData
  have h2 := hb.inLen
  refine ⟨?_, ?_, hb.outData, hb.outStored, hb.outMax, hb.outOff⟩
  · show (c.inpkt.data.take c.inpkt.len ++ ((buf.take read.toNat).drop 2).take (PACKET_DATA_SIZE - c.inpkt.len)).length ≤ 65536
    have hp : PACKET_DATA_SIZE = 65536 := rfl
    simp only [List.length_append, List.length_take, List.length_drop]
    omega
  · show c.inpkt.len + (((buf.take read.toNat).drop 2).take (PACKET_DATA_SIZE - c.inpkt.len)).length ≤
      (c.inpkt.data.take c.inpkt.len ++ ((buf.take read.toNat).drop 2).take (PACKET_DATA_SIZE - c.inpkt.len)).length
    simp only [List.length_append, List.length_take, List.length_drop]
    omega

theorem deliver_b (hb : BInv B c) : BPost B (deliver c).1 (deliver c).2 := by
  refine ⟨⟨hb.inData, Nat.zero_le _, hb.outData, hb.outStored, hb.outMax, hb.outOff⟩, ?_⟩
  show EvsB (match uncompress (c.inpkt.data.take c.inpkt.len) 65536 with | some out => [writeTun out] | none => [])
  cases hu : uncompress (c.inpkt.data.take c.inpkt.len) 65536 with
  | none => exact evsB_nil
  | some out => exact evsB_one (evB_writeTun out (uncompress_le hu))

theorem downstream_b {h : Hdr} {buf : List Nat} {read : Int} {sn : Bool} (hb : BInv B c) :
    BPost B (downstream c h buf read sn).1 (downstream c h buf read sn).2.1 := by
  have both := @ite_both (Cli × List CEvent × Bool) (fun r => BPost B r.1 r.2.1)
  unfold downstream
  refine both ?_ ⟨hb, evsB_nil⟩
  cases ha : acceptFragment c h with
  | none => exact ⟨hb.sameP ⟨rfl, rfl⟩, evsB_nil⟩
  | some c' =>
    have h2 : BInv B (appendFragment c' h buf read) := appendFragment_b (acceptFragment_b ha hb)
    have hr : BPost B (if h.last then deliver (appendFragment c' h buf read) else (appendFragment c' h buf read, [])).1
        (if h.last then deliver (appendFragment c' h buf read) else (appendFragment c' h buf read, [])).2 :=
      ite_both (P := fun r : Res => BPost B r.1 r.2) (deliver_b h2) ⟨h2, evsB_nil⟩
    exact both ⟨hr.1.sameP ⟨rfl, rfl⟩, hr.2⟩ hr

theorem finalPing_b {evs : List CEvent} {sn : Bool} {read : Int} (hb : BInv B c) (he : EvsB evs) :
    BGood B (finalPing c evs sn read) :=
  ite_both (afterSend_b (sendPing_b hb) he) ⟨hb, he⟩

theorem upstream_b {h : Hdr} {evs : List CEvent} {sn : Bool} {read : Int} (hb : BInv B c) (he : EvsB evs) :
    BGood B (upstream c h evs sn read) := by
  unfold upstream
  refine ite_both ?_ (finalPing_b hb he)
  simp only
  split
  · exact finalPing_b (ite_both (hb.emptyOut.sameP ⟨rfl, rfl⟩) hb.emptyOut) he
  · rename_i hlt
    have : c.outpkt.offset + c.outpkt.sentlen ≤ c.outpkt.len := Nat.le_of_lt (Nat.lt_of_not_ge hlt)
    exact afterSend_b (sendChunk_b ⟨hb.inData, hb.inLen, hb.outData, hb.outStored, hb.outMax, this⟩) he

theorem tunnelDns_b {rq : Rq} (hb : BInv B c) : BGood B (tunnelDns c rq) := by
  have hc := frame_tdCount c (decodeHdr rq.buf) rq.rv
  rw [tunnelDns_eq]
  refine ite_both ⟨hb.sameP ⟨rfl, rfl⟩, evsB_nil⟩ <|
    ite_both ⟨hb.frame ((frame_servfailCount c rq).trans rfl).book, evsB_nil⟩ <| ite_both ⟨hb, evsB_nil⟩ <|
    ite_both ?_ ?_
  · extract_lets cOos
    have hbOos : BInv B cOos := hb.frame (hc.trans (frame_oosCount _)).book
    exact ite_both (afterSend_b (sendPing_b hbOos) evsB_nil) ⟨hbOos, evsB_nil⟩
  · unfold tdStages
    extract_lets h d b r
    have hbb : BInv B b := datalessAdopt_b
      (hb.frame (hc.book.trans (CFrame.trans (b := C02L.ackBook d.1) rfl (frame_lazyHint _ rq.id).book)))
    have hr := downstream_b (h := h) (buf := rq.buf) (read := d.2) (sn := c.sendPingSoon != 0) hbb
    exact upstream_b hr.1 hr.2

theorem tunnelDnsInput_b {inp : CInput} (hb : BInv B c) : BGood B (tunnelDnsInput c inp) := by
  unfold tunnelDnsInput
  cases inp <;> exact ite_both (tunnelDns_b hb) ⟨(readRaw_b hb).1, (readRaw_b hb).2⟩

theorem timeoutBranch_b (hb : BInv B c) : BGood B (timeoutBranch c) :=
  ite_both
    (ite_both (afterSend_b (sendChunk_b (hb.sameP (c' := { c with outchunkresent := c.outchunkresent + 1 }) ⟨rfl, rfl⟩).resend) evsB_nil)
      (afterSend_b (sendPing_b hb.emptyOut) evsB_nil))
    (afterSend_b (sendPing_b hb) evsB_nil)

theorem loopTop_b {evs : List CEvent} (hb : BInv B c) (he : EvsB evs) : BOut B (loopTop c evs) :=
  ite_both ⟨hb, he⟩ ⟨hb, he⟩

theorem settle_b {r : Cli × List CEvent × Stop} (h : BGood B r) : BOut B (settle r) := by
  unfold settle
  cases r.2.2 with
  | ret _ => exact loopTop_b h.inv h.evs
  | park _ => exact ⟨h.inv, h.evs⟩

theorem after_b {evs : List CEvent} {r : CState × List CEvent × Next} (he : EvsB evs) (h : BOut B r) :
    BOut B (after evs r) := ⟨h.inv, evsB_append he h.evs⟩

theorem startTunnel_b (hb : BInv B c) : BOut B (startTunnel c) :=
  loopTop_b (hb.sameP ⟨rfl, rfl⟩) evsB_nil

theorem rawKeepalive_b (hb : BInv B c) : BPost B (rawKeepalive c).1 (rawKeepalive c).2 :=
  ite_both (P := fun r : Res => BPost B r.1 r.2) ⟨hb.sameP ⟨rfl, rfl⟩, evsB_one (evB_sendRaw _ _ _ _)⟩ ⟨hb, evsB_nil⟩

/-- a tun frame offered to the step fits the bound `B` on `outpkt.len` (`B = 65537`: always; `B = 65536`: frames of at most
65535 bytes — the transparent test `compress` adds one byte, the real `compress2` never reports more than `sizeof(out)`) -/
def FrameOk (B : Nat) : CInput → Prop
  | .tun f => min f.length 65536 + 1 ≤ B
  | _ => True

theorem tunnelStep_b {inp : CInput} (hb : BInv B c) (hf : FrameOk B inp) : BOut B (tunnelStep c inp) := by
  have hb1 : BInv B (afterSelect (fire c (selectOf c) inp).1) :=
    hb.frame ((frame_fire c _ inp).trans (frame_afterSelect _).book)
  have hk := rawKeepalive_b hb1
  unfold tunnelStep
  refine ite_both ⟨hb1, evsB_nil⟩ ?_
  cases hfr : (fire c (selectOf c) inp).2 with
  | timeout => exact settle_b (timeoutBranch_b hb1)
  | tun frame => exact after_b hk.2 (settle_b (tunnelTun_b hk.1 (show FrameOk B (.tun frame) from fire_tun hfr ▸ hf)))
  | dns inp => exact after_b hk.2 (settle_b (tunnelDnsInput_b hk.1))

/-- the excursion into `handshake_lazyoff` writes no buffer and emits queries only -/
theorem lazyoffStep_b {i : Nat} {k : Resume} {inp : CInput} (hb : BInv B c) : BOut B (lazyoffStep c i k inp) :=
  ⟨hb.frame (frame_lazyoffStep c i k inp), (onlyQ_lazyoffStep c i k inp).all fun _ _ _ => trivial⟩

/-- **the step lemma**: `BInv` is invariant under `cstep` for every input, and the events respect the buffer sizes -/
theorem cstep_b (s : CState) (inp : CInput) (hb : BInv B s.c) (hf : FrameOk B inp) : BOut B (cstep s inp) := by
  unfold cstep
  cases s.ph with
  | idle => exact ⟨hb, evsB_nil⟩
  | tunnel => exact tunnelStep_b hb hf
  | lazyoff i k => exact lazyoffStep_b hb

end Iodine.C06L
