import IodineModel.Lemmas.C01a
/-
The client's reassembly machine `rxStep` (Lemmas/C01a) fed with the fragments of one image in order,
interleaved with duplicates and junk.
-/
namespace Iodine.C01L
open Iodine Iodine.Client

/-- the second header byte of a downstream data answer: `seq`, `frag`, last-fragment flag -/
def hdrByte (s i : Nat) (last : Bool) : Nat := s * 32 + i * 2 + (if last then 1 else 0)

theorem decodeHdr_hdrByte (s i : Nat) (last : Bool) (b0 : Nat) (f : List Nat) (hs : s < 8) (hi : i < 16) :
    (decodeHdr (b0 :: hdrByte s i last :: f)).dnSeq = (s : Int) ∧
    (decodeHdr (b0 :: hdrByte s i last :: f)).dnFrag = (i : Int) ∧
    (decodeHdr (b0 :: hdrByte s i last :: f)).last = last := by
  unfold decodeHdr hdrByte
  simp only [List.getD_cons_zero, List.getD_cons_succ]
  refine ⟨?_, ?_, ?_⟩
  · congr 1; cases last <;> simp <;> omega
  · congr 1; cases last <;> simp <;> omega
  · cases last <;> simp <;> omega

theorem sChar_small (x : Int) (h0 : 0 ≤ x) (h1 : x < 128) : sChar x = x := by
  unfold sChar; omega

def pre (fs : List (List Nat)) (k : Nat) : List Nat := (fs.take k).flatten

theorem pre_succ (fs : List (List Nat)) (k : Nat) (hk : k < fs.length) : pre fs (k + 1) = pre fs k ++ fs.getD k [] := by
  unfold pre
  rw [List.take_add_one, List.flatten_append]
  simp [List.getD_eq_getElem?_getD, List.getElem?_eq_getElem hk]

theorem pre_all (fs : List (List Nat)) : pre fs fs.length = fs.flatten := by
  unfold pre; rw [List.take_length]

theorem pre_length_le (fs : List (List Nat)) (k : Nat) : (pre fs k).length ≤ fs.flatten.length := by
  unfold pre
  have : fs.flatten = (fs.take k).flatten ++ (fs.drop k).flatten := by
    rw [← List.flatten_append, List.take_append_drop]
  rw [this, List.length_append]; omega

/-- one image cut into fragments: downstream seqno `s`, at most 16 non-empty fragments, at most 64 KiB -/
structure Cut (s : Nat) (fs : List (List Nat)) : Prop where
  seq : s < 8
  ne : fs ≠ []
  le16 : fs.length ≤ 16
  frag_ne : ∀ f ∈ fs, f ≠ []
  size : fs.flatten.length ≤ Gen.PACKET_DATA_SIZE

/-- the state of `inpkt` after `k` fragments of the image have been taken -/
def RxInv (s : Nat) (fs : List (List Nat)) (k : Nat) (p : Packet) : Prop :=
  if k = 0 then p.seqno ≠ (s : Int) ∧ recentSeqno p.seqno (s : Int) = false
  else p.seqno = (s : Int) ∧ p.fragment = ((k - 1 : Nat) : Int) ∧
    (if k < fs.length then p.len = (pre fs k).length ∧ p.data.take p.len = pre fs k ∧ 0 < p.len else p.len = 0)

/-- the answer carrying fragment `i` (raw content; ids and `q.name[0]` are judged by `accepted`) -/
def IsFragRq (s : Nat) (fs : List (List Nat)) (i : Nat) (rq : Rq) : Prop :=
  i < fs.length ∧ ∃ b0, rq.buf = b0 :: hdrByte s i (i + 1 = fs.length) :: fs.getD i [] ∧ rq.rv = (rq.buf.length : Int)

theorem getD_ne_nil {s : Nat} {fs : List (List Nat)} (hc : Cut s fs) {i : Nat} (hi : i < fs.length) : fs.getD i [] ≠ [] := by
  apply hc.frag_ne
  rw [List.getD_eq_getElem?_getD, List.getElem?_eq_getElem hi]
  exact List.getElem_mem hi

theorem pre_pos {s : Nat} {fs : List (List Nat)} (hc : Cut s fs) {k : Nat} (hk : k < fs.length) : 0 < (pre fs (k + 1)).length := by
  rw [pre_succ fs k hk, List.length_append]
  have := List.length_pos_iff.mpr (getD_ne_nil hc hk)
  omega

/-- what the header and payload of the answer carrying fragment `i` look like to the reassembly code -/
theorem fragRq_facts {s : Nat} {fs : List (List Nat)} (hc : Cut s fs) {i : Nat} {rq : Rq} (h : IsFragRq s fs i rq) :
    (decodeHdr rq.buf).dnSeq = (s : Int) ∧ (decodeHdr rq.buf).dnFrag = (i : Int) ∧
    (decodeHdr rq.buf).last = decide (i + 1 = fs.length) ∧ rq.rv > 2 ∧
    (rq.buf.take rq.rv.toNat).drop 2 = fs.getD i [] := by
  obtain ⟨hi, b0, hb, hrv⟩ := h
  have hne := List.length_pos_iff.mpr (getD_ne_nil hc hi)
  have hi16 : i < 16 := Nat.lt_of_lt_of_le hi hc.le16
  obtain ⟨a, b, c⟩ := decodeHdr_hdrByte s i (decide (i + 1 = fs.length)) b0 (fs.getD i []) hc.seq hi16
  rw [hb] at hrv ⊢
  refine ⟨a, b, c, ?_, ?_⟩
  · rw [hrv]; simp only [List.length_cons]; omega
  · rw [hrv, Int.toNat_natCast, List.take_of_length_le (Nat.le_refl _)]; rfl

/-- an answer with payload whose seqno is the current one, or not a recent one, goes straight to the fragment test -/
theorem rxStep_data {p : Packet} {rq : Rq} (hrv : rq.rv > 2)
    (h : (decodeHdr rq.buf).dnSeq = p.seqno ∨ recentSeqno p.seqno (decodeHdr rq.buf).dnSeq = false) :
    rxStep p true rq =
      match rxAccept p (decodeHdr rq.buf) with
      | none => (p, [])
      | some p' =>
        if (decodeHdr rq.buf).last then rxDeliver (rxAppend p' (decodeHdr rq.buf) rq.buf rq.rv)
        else (rxAppend p' (decodeHdr rq.buf) rq.buf rq.rv, []) := by
  have hread : rxRead p (decodeHdr rq.buf) rq.rv = rq.rv := by
    unfold rxRead
    rw [if_neg]
    rintro ⟨_, h1, h2⟩
    rcases h with h | h
    · exact h1 h
    · rw [h] at h2; cases h2
  have hadopt : rxAdopt p (decodeHdr rq.buf) rq.rv = p := by
    unfold rxAdopt; rw [if_neg]; omega
  rw [rxStep, if_pos rfl, hread, hadopt, rxDown, if_pos hrv]
  rfl

/-- fragment `frag` with payload `f` appended to what the fragment test hands on; the last one delivers the packet -/
def rxTaken (p' : Packet) (frag : Int) (f : List Nat) (last : Bool) : Packet × List CEvent :=
  let q : Packet := { p' with fragment := sChar frag, data := p'.data.take p'.len ++ f, len := p'.len + f.length }
  if last then rxDeliver q else (q, [])

theorem rxStep_take {p p' : Packet} {rq : Rq} {f : List Nat} (hrv : rq.rv > 2)
    (hseq : (decodeHdr rq.buf).dnSeq = p.seqno ∨ recentSeqno p.seqno (decodeHdr rq.buf).dnSeq = false)
    (hacc : rxAccept p (decodeHdr rq.buf) = some p') (hpay : (rq.buf.take rq.rv.toNat).drop 2 = f)
    (hfit : p'.len + f.length ≤ Gen.PACKET_DATA_SIZE) :
    rxStep p true rq = rxTaken p' (decodeHdr rq.buf).dnFrag f (decodeHdr rq.buf).last := by
  have happ : rxAppend p' (decodeHdr rq.buf) rq.buf rq.rv =
      { p' with fragment := sChar (decodeHdr rq.buf).dnFrag, data := p'.data.take p'.len ++ f, len := p'.len + f.length } := by
    unfold rxAppend
    rw [hpay, List.take_of_length_le (by omega)]
  rw [rxStep_data hrv hseq, hacc]
  dsimp only
  rw [happ]
  rfl

/-- with the first `k` fragments in the buffer, fragment `k` makes it the first `k + 1`; the last one delivers the image
and empties the buffer -/
theorem taken_inv {s : Nat} {fs : List (List Nat)} (hc : Cut s fs) {k : Nat} (hk : k < fs.length) {p' : Packet}
    (hs' : p'.seqno = (s : Int)) (hd' : p'.data.take p'.len = pre fs k) (hl' : p'.len = (pre fs k).length) (last : Bool)
    (hlast : last = decide (k + 1 = fs.length)) :
    (rxTaken p' k (fs.getD k []) last).2 = (if k + 1 = fs.length then frames fs.flatten else []) ∧
    RxInv s fs (k + 1) (rxTaken p' k (fs.getD k []) last).1 := by
  have hk16 : k < 16 := Nat.lt_of_lt_of_le hk hc.le16
  have hfr : sChar (k : Int) = ((k + 1 - 1 : Nat) : Int) := by rw [sChar_small _ (by omega) (by omega)]; simp
  have hdat : p'.data.take p'.len ++ fs.getD k [] = pre fs (k + 1) := by rw [hd', pre_succ fs k hk]
  have hlen : p'.len + (fs.getD k []).length = (pre fs (k + 1)).length := by rw [hl', pre_succ fs k hk, List.length_append]
  unfold rxTaken rxDeliver
  by_cases hl : k + 1 = fs.length
  · have : last = true := by rw [hlast]; simp [hl]
    simp only [this, if_true, hl]
    refine ⟨by rw [hdat, hlen, List.take_of_length_le (Nat.le_refl _), hl, pre_all], ?_⟩
    unfold RxInv
    rw [if_neg (by omega), if_neg (by omega)]
    exact ⟨hs', by rw [← hl]; exact hfr, rfl⟩
  · have : last = false := by rw [hlast]; simp [hl]
    simp only [this, Bool.false_eq_true, if_false, hl]
    refine ⟨trivial, ?_⟩
    unfold RxInv
    rw [if_neg (by omega), if_pos (by omega)]
    refine ⟨hs', hfr, hlen, ?_, ?_⟩
    · show (p'.data.take p'.len ++ fs.getD k []).take (p'.len + (fs.getD k []).length) = _
      rw [hdat, hlen, List.take_of_length_le (Nat.le_refl _)]
    · show 0 < p'.len + (fs.getD k []).length
      rw [hlen]; exact pre_pos hc hk

theorem rxStep_next {s : Nat} {fs : List (List Nat)} (hc : Cut s fs) {k : Nat} {p : Packet} {rq : Rq}
    (hk : k < fs.length) (hinv : RxInv s fs k p) (hrq : IsFragRq s fs k rq) :
    (rxStep p true rq).2 = (if k + 1 = fs.length then frames fs.flatten else []) ∧
    RxInv s fs (k + 1) (rxStep p true rq).1 := by
  obtain ⟨hS, hF, hL, hrv, hpay⟩ := fragRq_facts hc hrq
  have hsz := hc.size
  have hpl := pre_length_le fs (k + 1)
  rw [pre_succ fs k hk, List.length_append] at hpl
  have hs8 := hc.seq
  -- what the fragment test hands on: the first `k` fragments under seqno `s`
  obtain ⟨p', hseq, hacc, hs', hd', hl'⟩ : ∃ p', ((decodeHdr rq.buf).dnSeq = p.seqno ∨
      recentSeqno p.seqno (decodeHdr rq.buf).dnSeq = false) ∧ rxAccept p (decodeHdr rq.buf) = some p' ∧
      p'.seqno = (s : Int) ∧ p'.data.take p'.len = pre fs k ∧ p'.len = (pre fs k).length := by
    unfold RxInv at hinv
    by_cases hk0 : k = 0
    · -- first fragment: a new, not recent seqno
      subst hk0
      simp only [if_true] at hinv
      refine ⟨{ p with seqno := (s : Int), fragment := 0, len := 0 }, .inr (by rw [hS]; exact hinv.2), ?_, rfl, rfl, rfl⟩
      unfold rxAccept
      rw [hS, hF, if_pos (Ne.symm hinv.1), sChar_small _ (by omega) (by omega)]
      rfl
    · -- a later fragment: same seqno, fragment number one higher
      simp only [hk0, if_false, hk, if_true] at hinv
      obtain ⟨hseq, hfrag, hlen, hdata, hpos⟩ := hinv
      refine ⟨p, .inl (hS.trans hseq.symm), ?_, hseq, hdata, hlen⟩
      unfold rxAccept
      rw [hS, hF, hseq, hfrag, if_neg (by simp), if_neg (by omega), if_neg (by omega), if_neg (by omega)]
  rw [rxStep_take hrv hseq hacc hpay (by omega), hF]
  exact taken_inv hc hk hs' hd' hl' _ hL

theorem rxStep_false (p : Packet) (rq : Rq) : rxStep p false rq = (p, []) := rfl

/-- nothing read beyond the header and no new packet adopted: nothing happens to `inpkt` -/
theorem rxStep_short (p : Packet) (rq : Rq) (hread : rxRead p (decodeHdr rq.buf) rq.rv ≤ 2)
    (hadopt : rxAdopt p (decodeHdr rq.buf) (rxRead p (decodeHdr rq.buf) rq.rv) = p) : rxStep p true rq = (p, []) := by
  unfold rxStep
  rw [if_pos rfl, hadopt]
  unfold rxDown
  rw [if_neg (by omega)]

/-- an answer whose downstream seqno is a recent one (not the current): nothing happens to `inpkt` -/
theorem rxStep_stale (p : Packet) (rq : Rq) (h1 : (decodeHdr rq.buf).dnSeq ≠ p.seqno)
    (h2 : recentSeqno p.seqno (decodeHdr rq.buf).dnSeq = true) : rxStep p true rq = (p, []) := by
  refine rxStep_short p rq ?_ (by unfold rxAdopt; rw [if_neg]; simp [h2])
  unfold rxRead
  split
  · exact Int.le_refl 2
  · next h => simp only [h1, h2, ne_eq, not_false_eq_true, and_self, and_true] at h; omega

/-- a header-only answer for the current seqno: nothing happens to `inpkt` -/
theorem rxStep_dataless (p : Packet) (rq : Rq) (h1 : (decodeHdr rq.buf).dnSeq = p.seqno) (h2 : rq.rv ≤ 2) :
    rxStep p true rq = (p, []) := by
  have hread : rxRead p (decodeHdr rq.buf) rq.rv = rq.rv := by
    unfold rxRead; rw [if_neg]; omega
  refine rxStep_short p rq (by omega) ?_
  unfold rxAdopt; rw [if_neg]; simp [h1]

/-- a duplicate of a fragment that was already taken (while the packet is incomplete, or after completion of a packet of
at least two fragments): nothing happens to `inpkt` -/
theorem rxStep_dup {s : Nat} {fs : List (List Nat)} (hc : Cut s fs) {k j : Nat} {p : Packet} {rq : Rq}
    (hk : k ≤ fs.length) (hj : j < k) (h2 : k < fs.length ∨ 2 ≤ fs.length)
    (hinv : RxInv s fs k p) (hrq : IsFragRq s fs j rq) :
    rxStep p true rq = (p, []) := by
  obtain ⟨hS, hF, hL, hrv, hpay⟩ := fragRq_facts hc hrq
  unfold RxInv at hinv
  rw [if_neg (by omega)] at hinv
  obtain ⟨hseq, hfrag, hrest⟩ := hinv
  rw [rxStep_data hrv (.inl (hS.trans hseq.symm))]
  have hacc : rxAccept p (decodeHdr rq.buf) = none := by
    unfold rxAccept
    rw [hS, hF, hseq, hfrag, if_neg (by simp)]
    have hw : ¬ (((k - 1 : Nat) : Int) = 0 ∧ (j : Int) = 0 ∧ p.len = 0) := by
      rintro ⟨a, b, c⟩
      split at hrest
      · omega
      · omega
    rw [if_neg hw, if_pos (by omega)]
  rw [hacc]

/-- **Finding.**  A packet that fits into ONE fragment is delivered again by every duplicate of that fragment: after
the delivery `inpkt.fragment = 0` and `inpkt.len = 0`, which is the "weird situation" test of `tunnel_dns`. -/
theorem rxStep_single_again {s : Nat} {fs : List (List Nat)} (hc : Cut s fs) {p : Packet} {rq : Rq}
    (h1 : fs.length = 1) (hinv : RxInv s fs 1 p) (hrq : IsFragRq s fs 0 rq) :
    (rxStep p true rq).2 = frames fs.flatten ∧ RxInv s fs 1 (rxStep p true rq).1 := by
  obtain ⟨hS, hF, hL, hrv, hpay⟩ := fragRq_facts hc hrq
  have hpl := pre_length_le fs (0 + 1)
  rw [pre_succ fs 0 (by omega), List.length_append] at hpl
  have hsz := hc.size
  unfold RxInv at hinv
  rw [if_neg (by omega), if_neg (by omega)] at hinv
  obtain ⟨hseq, hfrag, hlen⟩ := hinv
  have hacc : rxAccept p (decodeHdr rq.buf) = some p := by
    unfold rxAccept
    rw [hS, hF, hseq, hfrag, if_neg (by simp), if_pos ⟨by simp, by simp, hlen⟩]
  have hp0 : (pre fs 0).length = 0 := rfl
  have hfit : p.len + (fs.getD 0 []).length ≤ Gen.PACKET_DATA_SIZE := by omega
  rw [rxStep_take hrv (.inl (hS.trans hseq.symm)) hacc hpay hfit, hF]
  have h := taken_inv hc (k := 0) (by omega) hseq (by rw [hlen]; rfl) hlen _ hL
  rwa [if_pos (show 0 + 1 = fs.length by omega)] at h

end Iodine.C01L
