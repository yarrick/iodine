import IodineModel.Gen.Tables
/-
The chain of fragments a reassembly buffer holds, for the client's and the server's reassembler alike: elements of one
sequence number whose fragment numbers follow each other (`next a b`: on the client `b = a + 1`, on the server `a < b`,
since it accepts gaps), each satisfying `ok`; and the buffer they fill (`join`).
-/
namespace Iodine

section
variable {α : Type} (sq fr : α → Nat) (pay : α → List Nat) (ok : α → Prop) (next : Nat → Nat → Prop)

def Chain : List α → Prop
  | [] => True
  | [r] => ok r
  | r :: r' :: rest => ok r ∧ sq r' = sq r ∧ next (fr r) (fr r') ∧ Chain (r' :: rest)

/-- the payloads in order, cut at the size of the packet buffer -/
def join (l : List α) : List Nat := ((l.map pay).flatten).take Gen.PACKET_DATA_SIZE

variable {sq fr pay ok next}

theorem Chain.snoc : ∀ (l : List α) (x : α), Chain sq fr ok next l → ok x →
    (∀ r, l.getLast? = some r → sq x = sq r ∧ next (fr r) (fr x)) → Chain sq fr ok next (l ++ [x])
  | [], _, _, h, _ => h
  | [r], _, h1, h, hl => ⟨h1, (hl r rfl).1, (hl r rfl).2, h⟩
  | r :: r' :: rest, x, ⟨a, b, c, d⟩, h, hl =>
    ⟨a, b, c, Chain.snoc (r' :: rest) x d h fun y hy => hl y (by rw [List.getLast?_cons_cons]; exact hy)⟩

theorem join_snoc (l : List α) (x : α) :
    join pay (l ++ [x]) = join pay l ++ (pay x).take (Gen.PACKET_DATA_SIZE - (join pay l).length) := by
  unfold join
  rw [List.map_append, List.flatten_append, List.take_append]
  simp only [List.map_cons, List.map_nil, List.flatten_cons, List.flatten_nil, List.append_nil, List.length_take]
  congr 2
  omega

/-- fragment numbers have four bits and rise along a chain -/
theorem Chain.length_le (hn : ∀ a b, next a b → a < b) (h16 : ∀ r, fr r < 16) :
    ∀ (l : List α), Chain sq fr ok next l → ∀ r, l.head? = some r → l.length + fr r ≤ 16
  | [], _, _, h => by cases h
  | [r], _, r0, h => by cases h; have := h16 r; simp only [List.length_cons, List.length_nil]; omega
  | r :: r' :: rest, ⟨_, _, hf, hrest⟩, r0, h => by
    cases h
    have := Chain.length_le hn h16 (r' :: rest) hrest r' rfl
    have := hn _ _ hf
    simp only [List.length_cons] at *
    omega

theorem Chain.le16 (hn : ∀ a b, next a b → a < b) (h16 : ∀ r, fr r < 16) (l : List α) (h : Chain sq fr ok next l) :
    l.length ≤ 16 := by
  cases l with
  | nil => exact Nat.zero_le _
  | cons r rest => have := Chain.length_le hn h16 (r :: rest) h r rfl; omega

/-- … and the buffer it fills has at most 16 payloads: an image that needs more fragments is never in it -/
theorem join_length_le (l : List α) (m : Nat) (h16 : l.length ≤ 16) (hm : ∀ x ∈ l, (pay x).length ≤ m) :
    (join pay l).length ≤ 16 * m := by
  have h : ∀ l : List α, (∀ x ∈ l, (pay x).length ≤ m) → ((l.map pay).flatten).length ≤ l.length * m := by
    intro l
    induction l with
    | nil => intro _; exact Nat.zero_le _
    | cons x xs ih =>
      intro hm
      have h1 := hm x List.mem_cons_self
      have h2 := ih fun y hy => hm y (List.mem_cons_of_mem _ hy)
      rw [List.map_cons, List.flatten_cons, List.length_append, List.length_cons, Nat.add_mul]
      omega
  have h1 := h l hm
  have h2 : l.length * m ≤ 16 * m := Nat.mul_le_mul_right m h16
  unfold join
  rw [List.length_take]
  omega

end

end Iodine
