import IodineModel.Lemmas.C11c
import IodineModel.Lemmas.Encoding
import IodineModel.Props.C08
/-
C11: lemmas about the handshake model of Lemmas/C11b.lean.  What the senders build is a fixed point of every map that fixes the
alphabet, the dot and the domain.  The fragment size search keeps `FragInv` (what its result was probed with) and is monotone
when no answer is fatal.  What `dns_namedec` makes of an answer whose characters went through a map is said once for every map,
codec letter, TXT and host-name answer (`namedec_nameenc_map`, `namedec_txtText_map`); Base32 answers are decoded to the same
bytes through every map of the family (`b32_survives`).
-/
namespace Iodine.C11L
open Iodine Iodine.Gen Iodine.Codec Iodine.Encoding

/-! ### what the senders build -/

/-- Alphabet purity (C07) turned into a fixed-point statement. -/
theorem enc_chars_fixed {c : Codec} (wf : WF c) {f : Nat → Nat} (hf : ∀ ch ∈ c.tbl, f ch = ch)
    (cap : Nat) (d : List Nat) : (enc c cap d).chars.map f = (enc c cap d).chars :=
  map_eq_self_iff.mpr fun ch h => hf ch (C07.chars_in_table wf cap d ch h)

theorem encFull_fixed {c : Codec} (wf : WF c) {f : Nat → Nat} (hf : ∀ ch ∈ c.tbl, f ch = ch)
    (d : List Nat) : (encFull c d).map f = encFull c d :=
  map_eq_self_iff.mpr fun ch h => hf ch (encFull_mem_tbl wf d ch h)

/-- `inline_dotify` commutes with every map that fixes the dot and maps no other character to it:
the dots are placed by position only. -/
theorem dotifyAux_map (f : Nat → Nat) (hdot : f DOT = DOT) (k : Nat) (s : List Nat) :
    (dotifyAux k s).map f = dotifyAux k (s.map f) := by
  induction s generalizing k with
  | nil => rfl
  | cons a s ih =>
    simp only [dotifyAux, List.map_cons]
    split
    · simp only [List.map_cons, hdot, ih]
    · simp only [List.map_cons, ih]

theorem dotify_map (f : Nat → Nat) (hdot : f DOT = DOT) (s : List Nat) :
    (dotify s).map f = dotify (s.map f) := dotifyAux_map f hdot 0 s

theorem dotify_fixed {f : Nat → Nat} (hdot : f DOT = DOT) {s : List Nat} (hs : s.map f = s) :
    (dotify s).map f = dotify s := by rw [dotify_map f hdot, hs]

theorem buildHostname_fixed {c : Codec} (wf : WF c) {f : Nat → Nat} (hf : ∀ ch ∈ c.tbl, f ch = ch)
    (hdot : f DOT = DOT) {td : List Nat} (htd : ∀ ch ∈ td, f ch = ch)
    {maxlen buflen prev : Nat} {d : List Nat} {b : Built}
    (hb : buildHostname c maxlen buflen prev td d = some b) : b.name.map f = b.name := by
  rw [buildHostname_closeDot] at hb
  split at hb
  · cases hb
  · simp only [Option.some.injEq] at hb
    subst hb
    have h1 := dotify_fixed hdot (enc_chars_fixed wf hf (hostSpace (min maxlen buflen) td.length) d)
    have h2 : td.map f = td := map_eq_self_iff.mpr htd
    refine map_append_fixed ?_ h2
    unfold closeDot
    split
    · exact h1
    · exact map_append_fixed h1 (by simp [hdot])

/-! ### fragment size search -/

structure FragRoom (st : FragSt) : Prop where
  nonneg : 0 ≤ st.max
  /-- everything that passed so far lies at least `range` below the next proposal -/
  room : st.max + st.range ≤ st.proposed

structure FragInv (probe : Nat → ProbeRes) (st : FragSt) : Prop extends FragRoom st where
  /-- `max_fragsize` is 0 or a size that was asked and passed -/
  hit : st.max = 0 ∨ (st.max.toNat ∈ st.asked ∧ probe st.max.toNat = .ok)
  /-- … and it is the largest of the sizes asked so far that passed -/
  top : ∀ n ∈ st.asked, probe n = .ok → (n : Int) ≤ st.max

theorem fragInv_init (probe : Nat → ProbeRes) : FragInv probe fragInit :=
  ⟨⟨by decide, by decide⟩, Or.inl rfl, fun n hn => by simp [fragInit] at hn⟩

theorem fragStep_inv {probe : Nat → ProbeRes} {st : FragSt} (h : FragInv probe st) :
    ((fragStep probe st).2 = true → FragInv probe (fragStep probe st).1) ∧
    ((fragStep probe st).2 = false → (fragStep probe st).1.max = -1) := by
  obtain ⟨⟨h0, hroom⟩, hhit, htop⟩ := h
  unfold fragStep probeMax
  cases hp : probe st.proposed
  · -- ok
    have hn : ¬ ((st.proposed : Int) < 0) := by omega
    simp only [hn, if_false, if_true]
    refine ⟨fun _ => ⟨⟨?_, ?_⟩, ?_, ?_⟩, fun hf => by cases hf⟩
    · exact Int.natCast_nonneg _
    · show (st.proposed : Int) + ((st.range / 2 : Nat) : Int) ≤ ((st.proposed + st.range / 2 : Nat) : Int)
      omega
    · right
      show (st.proposed : Int).toNat ∈ st.proposed :: st.asked ∧ probe (st.proposed : Int).toNat = .ok
      rw [Int.toNat_natCast]
      exact ⟨List.mem_cons_self, hp⟩
    · intro n hn' hok
      show (n : Int) ≤ (st.proposed : Int)
      rcases List.mem_cons.mp hn' with rfl | hn'
      · exact Int.le_refl _
      · have := htop n hn' hok
        omega
  · -- bad
    have hn : ¬ (st.max < 0) := by omega
    simp only [hn, if_false]
    -- the next proposal is `range / 2` above or below this one; either leaves room above `max_fragsize`
    have next : ∀ p' : Nat, st.max + ((st.range / 2 : Nat) : Int) ≤ (p' : Int) →
        FragInv probe ⟨p', st.range / 2, st.max, st.proposed :: st.asked⟩ := fun p' hp' => by
      refine ⟨⟨h0, hp'⟩, ?_, ?_⟩
      · rcases hhit with h | ⟨h1, h2⟩
        · exact Or.inl h
        · exact Or.inr ⟨List.mem_cons_of_mem _ h1, h2⟩
      · intro n hn' hok
        rcases List.mem_cons.mp hn' with rfl | hn'
        · rw [hp] at hok; cases hok
        · exact htop n hn' hok
    refine ⟨fun _ => ?_, fun hf => ?_⟩
    · split
      · exact next _ (by omega)
      · exact next _ (by omega)
    · split at hf <;> cases hf
  · -- fatal
    simp only [show ((-1 : Int) < 0) from by decide, if_true]
    exact ⟨fun hf => (by cases hf), fun _ => (by first | rfl | trivial)⟩

theorem fragLoop_inv {probe : Nat → ProbeRes} (fuel : Nat) {st : FragSt} (h : FragInv probe st) :
    (fragLoop probe fuel st).max = -1 ∨ FragInv probe (fragLoop probe fuel st) := by
  induction fuel generalizing st with
  | zero => exact Or.inr h
  | succ fuel ih =>
    unfold fragLoop
    split
    · have hs := fragStep_inv h
      dsimp only
      split
      · rename_i h2; exact ih (hs.1 h2)
      · rename_i h2
        exact Or.inl (hs.2 (by simpa using h2))
    · exact Or.inr h

/-- the result of the search, if positive, plus the two header bytes is a size that was asked and passed, and
no larger size that was asked passed -/
theorem autoprobe_hit {probe : Nat → ProbeRes} (hF : autoprobeFragsize probe ≠ 0) :
    (fragSearch probe).max = (autoprobeFragsize probe + 2 : Nat) ∧
    autoprobeFragsize probe + 2 ∈ (fragSearch probe).asked ∧
    probe (autoprobeFragsize probe + 2) = .ok ∧
    ∀ n ∈ (fragSearch probe).asked, probe n = .ok → n ≤ autoprobeFragsize probe + 2 := by
  unfold autoprobeFragsize at hF ⊢
  dsimp only at hF ⊢
  by_cases hm : (fragSearch probe).max ≤ 2
  · rw [if_pos hm] at hF; exact absurd rfl hF
  · rw [if_neg hm] at hF ⊢
    have hinv := fragLoop_inv 10 (fragInv_init probe)
    change (fragSearch probe).max = -1 ∨ FragInv probe (fragSearch probe) at hinv
    rcases hinv with h | h
    · omega
    · have hmax : (fragSearch probe).max = (((fragSearch probe).max - 2).toNat + 2 : Nat) := by omega
      have htn : (fragSearch probe).max.toNat = ((fragSearch probe).max - 2).toNat + 2 := by omega
      refine ⟨hmax, ?_, ?_, ?_⟩
      · rcases h.hit with h0 | ⟨h1, _⟩
        · omega
        · rw [← htn]; exact h1
      · rcases h.hit with h0 | ⟨_, h2⟩
        · omega
        · rw [← htn]; exact h2
      · intro n hn hok
        have := h.top n hn hok
        omega

theorem fragStep_nofatal {probe : Nat → ProbeRes} (nf : ∀ n, probe n ≠ .fatal) {st : FragSt} (h : FragRoom st) :
    (fragStep probe st).2 = true ∧ FragRoom (fragStep probe st).1 ∧ st.max ≤ (fragStep probe st).1.max := by
  obtain ⟨h0, hroom⟩ := h
  unfold fragStep probeMax
  cases hp : probe st.proposed
  · have hn : ¬ ((st.proposed : Int) < 0) := by omega
    simp only [hn, if_false, if_true]
    refine ⟨by first | rfl | trivial, ⟨Int.natCast_nonneg _, ?_⟩, ?_⟩
    · show (st.proposed : Int) + ((st.range / 2 : Nat) : Int) ≤ ((st.proposed + st.range / 2 : Nat) : Int)
      omega
    · show st.max ≤ (st.proposed : Int)
      omega
  · have hn : ¬ (st.max < 0) := by omega
    simp only [hn, if_false]
    have room : ∀ p' : Nat, st.max + ((st.range / 2 : Nat) : Int) ≤ (p' : Int) →
        FragRoom ⟨p', st.range / 2, st.max, st.proposed :: st.asked⟩ := fun _ hp' => ⟨h0, hp'⟩
    split
    · exact ⟨rfl, room _ (by omega), Int.le_refl _⟩
    · exact ⟨rfl, room _ (by omega), Int.le_refl _⟩
  · exact absurd hp (nf _)

theorem fragLoop_mono {probe : Nat → ProbeRes} (nf : ∀ n, probe n ≠ .fatal) (fuel : Nat) {st : FragSt}
    (h : FragRoom st) : st.max ≤ (fragLoop probe fuel st).max := by
  induction fuel generalizing st with
  | zero => exact Int.le_refl _
  | succ fuel ih =>
    unfold fragLoop
    split
    · obtain ⟨h1, h2, h3⟩ := fragStep_nofatal nf h
      dsimp only
      rw [if_pos h1]
      exact Int.le_trans h3 (ih h2)
    · exact Int.le_refl _

theorem fragLoop_ok_ge {probe : Nat → ProbeRes} (nf : ∀ n, probe n ≠ .fatal) (fuel p r : Nat) (a : List Nat)
    (hr : 0 < r) (hok : probe p = .ok) : (p : Int) ≤ (fragLoop probe (fuel + 1) ⟨p, r, 0, a⟩).max := by
  unfold fragLoop
  have hc : fragCond ⟨p, r, 0, a⟩ = true := by simp [fragCond, hr]
  rw [if_pos hc]
  have hs : fragStep probe ⟨p, r, 0, a⟩ = (⟨p + r / 2, r / 2, p, p :: a⟩, true) := by
    unfold fragStep probeMax
    simp only [hok]
    have hn : ¬ ((p : Int) < 0) := by omega
    simp only [hn, if_false, if_true]
  rw [hs]
  dsimp only
  rw [if_pos rfl]
  exact fragLoop_mono nf fuel (st := ⟨p + r / 2, r / 2, p, p :: a⟩) ⟨Int.natCast_nonneg _, by
    show (p : Int) + ((r / 2 : Nat) : Int) ≤ ((p + r / 2 : Nat) : Int)
    omega⟩

theorem fragLoop_bad_step {probe : Nat → ProbeRes} (fuel p r : Nat) (a : List Nat) (p' r' : Nat)
    (hr : 0 < r) (hp : p ≠ 0) (hp' : p' = p - r / 2) (hr' : r' = r / 2) (hbad : probe p = .bad) :
    fragLoop probe (fuel + 1) ⟨p, r, 0, a⟩ = fragLoop probe fuel ⟨p', r', 0, p :: a⟩ := by
  conv => lhs; unfold fragLoop
  have hc : fragCond ⟨p, r, 0, a⟩ = true := by simp [fragCond, hr]
  rw [if_pos hc]
  have hs : fragStep probe ⟨p, r, 0, a⟩ = (⟨p', r', 0, p :: a⟩, true) := by
    unfold fragStep probeMax
    simp only [hbad]
    have hn : ¬ ((0 : Int) < 0) := by omega
    have hne : ¬ ((0 : Int) = (p : Int)) := by omega
    simp only [hn, hne, if_false, hp', hr']
  rw [hs]
  dsimp only
  rw [if_pos rfl]

/-- If no answer is fatal and one of the sizes on the all-fail path 768, 384, …, 6, 3 passes, the search ends
with `max_fragsize ≥ 3`, i.e. succeeds. -/
theorem fragSearch_finds {probe : Nat → ProbeRes} (nf : ∀ n, probe n ≠ .fatal)
    (h : ∃ n ∈ [768, 384, 192, 96, 48, 24, 12, 6, 3], probe n = .ok) : 3 ≤ (fragSearch probe).max := by
  have key : ∀ (fuel p r : Nat) (a : List Nat), 0 < r → 3 ≤ p → probe p = .ok →
      (3 : Int) ≤ (fragLoop probe (fuel + 1) ⟨p, r, 0, a⟩).max := by
    intro fuel p r a hr hp hok
    have := fragLoop_ok_ge nf fuel p r a hr hok
    omega
  unfold fragSearch fragInit
  have hne : ∀ n, probe n = .ok ∨ probe n = .bad := fun n => by
    cases hn : probe n
    · exact Or.inl rfl
    · exact Or.inr rfl
    · exact absurd hn (nf n)
  rcases hne 768 with h1 | h1; · exact key _ _ _ _ (by decide) (by decide) h1
  rw [fragLoop_bad_step 9 768 768 [] 384 384 (by decide) (by decide) (by decide) (by decide) h1]
  rcases hne 384 with h2 | h2; · exact key _ _ _ _ (by decide) (by decide) h2
  rw [fragLoop_bad_step 8 384 384 _ 192 192 (by decide) (by decide) (by decide) (by decide) h2]
  rcases hne 192 with h3 | h3; · exact key _ _ _ _ (by decide) (by decide) h3
  rw [fragLoop_bad_step 7 192 192 _ 96 96 (by decide) (by decide) (by decide) (by decide) h3]
  rcases hne 96 with h4 | h4; · exact key _ _ _ _ (by decide) (by decide) h4
  rw [fragLoop_bad_step 6 96 96 _ 48 48 (by decide) (by decide) (by decide) (by decide) h4]
  rcases hne 48 with h5 | h5; · exact key _ _ _ _ (by decide) (by decide) h5
  rw [fragLoop_bad_step 5 48 48 _ 24 24 (by decide) (by decide) (by decide) (by decide) h5]
  rcases hne 24 with h6 | h6; · exact key _ _ _ _ (by decide) (by decide) h6
  rw [fragLoop_bad_step 4 24 24 _ 12 12 (by decide) (by decide) (by decide) (by decide) h6]
  rcases hne 12 with h7 | h7; · exact key _ _ _ _ (by decide) (by decide) h7
  rw [fragLoop_bad_step 3 12 12 _ 6 6 (by decide) (by decide) (by decide) (by decide) h7]
  rcases hne 6 with h8 | h8; · exact key _ _ _ _ (by decide) (by decide) h8
  rw [fragLoop_bad_step 2 6 6 _ 3 3 (by decide) (by decide) (by decide) (by decide) h8]
  rcases hne 3 with h9 | h9; · exact key _ _ _ _ (by decide) (by decide) h9
  exfalso
  obtain ⟨n, hn, hok⟩ := h
  simp only [List.mem_cons, List.mem_nil_iff, or_false] at hn
  rcases hn with rfl | rfl | rfl | rfl | rfl | rfl | rfl | rfl | rfl <;> simp_all

theorem autoprobe_pos_of_max {probe : Nat → ProbeRes} (h : 3 ≤ (fragSearch probe).max) :
    autoprobeFragsize probe ≠ 0 := by
  unfold autoprobeFragsize
  dsimp only
  split <;> omega

theorem fragStep_range {probe : Nat → ProbeRes} {st : FragSt} (h : (fragStep probe st).2 = true) :
    (fragStep probe st).1.range = st.range / 2 := by
  unfold fragStep at h ⊢
  dsimp only at h ⊢
  generalize probeMax probe st = m at h ⊢
  by_cases h1 : m < 0
  · simp [h1] at h
  · by_cases h2 : m = (st.proposed : Int)
    · rw [if_neg h1, if_pos h2]
    · rw [if_neg h1, if_neg h2]

/-- more fuel than `log2 range + 1` changes nothing: the loop has ended by then -/
theorem fragLoop_fuel (probe : Nat → ProbeRes) (fuel k : Nat) (st : FragSt) (h : st.range < 2 ^ fuel) :
    fragLoop probe (fuel + k) st = fragLoop probe fuel st := by
  induction fuel generalizing st with
  | zero =>
    have hr : st.range = 0 := by simpa using h
    have hc : fragCond st = false := by simp [fragCond, hr]
    cases k with
    | zero => rfl
    | succ k => simp [fragLoop, hc]
  | succ fuel ih =>
    rw [show fuel + 1 + k = (fuel + k) + 1 from by omega]
    unfold fragLoop
    split
    · dsimp only
      split
      · rename_i h2
        apply ih
        rw [fragStep_range h2]
        rw [Nat.pow_succ] at h; omega
      · rfl
    · rfl

/-! ### query type search -/

theorem qtypeAutodetect_finds (w : Nat → Bool) (k : Nat) (hk : k ≤ 6) (hw : w k = true)
    (hlt : ∀ j, j < k → w j = false) : qtypeAutodetect (fun _ => w) = some (qtypeNumcvt k) := by
  have h0 := hlt 0; have h1 := hlt 1; have h2 := hlt 2; have h3 := hlt 3; have h4 := hlt 4; have h5 := hlt 5
  have hk' : k = 0 ∨ k = 1 ∨ k = 2 ∨ k = 3 ∨ k = 4 ∨ k = 5 ∨ k = 6 := by omega
  rcases hk' with rfl | rfl | rfl | rfl | rfl | rfl | rfl <;>
    simp_all [qtypeAutodetect, qtypeOuter, qtypeInner, qtypeNumcvt, T_NULL, T_PRIVATE, T_TXT, T_SRV, T_MX,
      T_CNAME, T_A, T_UNSET]

theorem qtypeAutodetect_none (w : Nat → Nat → Bool) (h : ∀ t j, j ≤ 6 → w t j = false) :
    qtypeAutodetect w = none := by
  have := fun t => h t 0 (by omega)
  have := fun t => h t 1 (by omega)
  have := fun t => h t 2 (by omega)
  have := fun t => h t 3 (by omega)
  have := fun t => h t 4 (by omega)
  have := fun t => h t 5 (by omega)
  have := fun t => h t 6 (by omega)
  simp_all [qtypeAutodetect, qtypeOuter, qtypeInner, qtypeNumcvt, T_NULL, T_PRIVATE, T_TXT, T_SRV, T_MX,
      T_CNAME, T_A, T_UNSET]

/-! ### `dns_namedec` on a relayed answer

What `dns_namedec` makes of an answer whose characters went through a map `f`, said once for every map, codec letter, TXT
and host-name answers: if `f` keeps the codec letter (up to case) and keeps dots dots and other characters no dots, it is
the decoding of the relayed ENCODING — the letter, the dots, the closing dot and the two rotating letters play no part. -/

/-- whatever the letter, `dnCodec` names one of the four codecs -/
theorem dnCodec_ok (dn : Nat) :
    WF (dnCodec dn) ∧ (∀ ch ∈ (dnCodec dn).tbl, ch ≠ DOT) ∧ fast (dnCodec dn) = dnCodec dn ∧
      ∀ ch ∈ (dnCodec dn).tbl, ch ∈ cb32 ++ cb64 ++ cb64u ++ cb128 := by
  unfold dnCodec
  split; · exact ⟨C07.wf_b64, C08.tables_nodot.2.1, fast_b64,
    fun _ h => List.mem_append_left _ (List.mem_append_left _ (List.mem_append_right _ h))⟩
  split; · exact ⟨C07.wf_b64u, C08.tables_nodot.2.2.1, fast_b64u,
    fun _ h => List.mem_append_left _ (List.mem_append_right _ h)⟩
  split; · exact ⟨C07.wf_b128, C08.tables_nodot.2.2.2, fast_b128,
    fun _ h => List.mem_append_right _ h⟩
  exact ⟨C07.wf_b32, C08.tables_nodot.1, fast_b32,
    fun _ h => List.mem_append_left _ (List.mem_append_left _ (List.mem_append_left _ h))⟩

/-- the letter `write_dns` puts in front of a TXT answer that is not Raw -/
def txtLetter (dn : Nat) : Nat := if dn = 83 then 115 else if dn = 85 then 117 else if dn = 86 then 118 else 116

theorem txtText_eq {dn : Nat} (h : dn ≠ 82) (data : List Nat) :
    txtText dn data = txtLetter dn :: (enc (dnCodec dn) 65535 data).chars := by
  unfold txtText txtLetter dnCodec
  split; · rfl
  split; · rfl
  split; · rfl
  rfl

/-- a codec letter in either case -/
def IsLetter (l x : Nat) : Prop := x = l ∨ x + 32 = l

/-- `dns_namedec` dispatches on the first character, in either case, to the codec `dnCodec` names. -/
theorem namedec_cons (cap dn x : Nat) (rest : List Nat) :
    (IsLetter (txtLetter dn) x → namedec cap (x :: rest) = dec (dnCodec dn) cap rest.length rest) ∧
    (IsLetter (nameLetter dn) x → namedec cap (x :: rest) =
      if rest.length < 4 then [] else unpackData (dnCodec dn) cap (rest.take (rest.length - 3))) := by
  have htxt : ∀ c : Codec, (if rest.length + 1 < 2 then [] else dec c cap (rest.length + 1 - 1) rest) =
      dec c cap rest.length rest := fun c => by
    cases rest with
    | nil => simp [dec, cstr, decAll, decBits, chunksN]
    | cons a r => rw [if_neg (by simp), List.length_cons, Nat.add_sub_cancel]
  have hhost : ∀ c : Codec, (if rest.length + 1 < 5 then [] else unpackData c cap (rest.take (rest.length + 1 - 4))) =
      if rest.length < 4 then [] else unpackData c cap (rest.take (rest.length - 3)) := fun c => by
    by_cases h : rest.length < 4
    · rw [if_pos h, if_pos (by omega)]
    · rw [if_neg h, if_neg (by omega), show rest.length + 1 - 4 = rest.length - 3 by omega]
  unfold IsLetter txtLetter nameLetter dnCodec namedec namedecG
  simp only [List.length_cons, htxt, hhost]
  refine ⟨fun h => ?_, fun h => ?_⟩
  · split at h
    · have : x = 115 ∨ x = 83 := by omega
      rcases this with rfl | rfl <;> simp [*]
    split at h
    · have : x = 117 ∨ x = 85 := by omega
      rcases this with rfl | rfl <;> simp [*]
    split at h
    · have : x = 118 ∨ x = 86 := by omega
      rcases this with rfl | rfl <;> simp [*]
    · have : x = 116 ∨ x = 84 := by omega
      rcases this with rfl | rfl <;> simp [*]
  · split at h
    · have : x = 105 ∨ x = 73 := by omega
      rcases this with rfl | rfl <;> simp [*]
    split at h
    · have : x = 106 ∨ x = 74 := by omega
      rcases this with rfl | rfl <;> simp [*]
    split at h
    · have : x = 107 ∨ x = 75 := by omega
      rcases this with rfl | rfl <;> simp [*]
    · have : x = 104 ∨ x = 72 := by omega
      rcases this with rfl | rfl <;> simp [*]

/-- `space` in `write_dns_nameenc` for `buflen ≥ 255`: 255 - 4 - 2 characters, less one in 57 for the dots -/
def NAME_SPACE : Nat := 249 - 249 / 57

/-- the part of a host-name answer in front of the two rotating letters -/
def nameCore (dn : Nat) (data : List Nat) : List Nat :=
  let s := dotify (nameLetter dn :: (enc (dnCodec dn) NAME_SPACE data).chars)
  if s.getLast? = some DOT then s else s ++ [DOT]

theorem nameenc_fst (dn : Nat) (data : List Nat) (t1 t2 : Nat) :
    (nameenc dn data t1 t2).1 = nameCore dn data ++ [t1, t2] := rfl

theorem nameLetter_ne_dot (dn : Nat) : nameLetter dn ≠ DOT := by
  unfold nameLetter DOT
  split; · omega
  split; · omega
  split <;> omega

/-- A host-name answer is the letter, the encoding with dots put in (the dotted text of Lemmas/Encoding.lean), a closing dot. -/
theorem nameCore_shape (dn : Nat) (data : List Nat) :
    ∃ Y, nameCore dn data = nameLetter dn :: (Y ++ [DOT]) ∧
      undotify Y = (enc (dnCodec dn) NAME_SPACE data).chars ∧
      ∀ ch ∈ Y, ch ∈ DOT :: (enc (dnCodec dn) NAME_SPACE data).chars := by
  have hndc : NoDot (enc (dnCodec dn) NAME_SPACE data).chars := fun ch h =>
    (dnCodec_ok dn).2.1 ch (C07.chars_in_table (dnCodec_ok dn).1 _ _ ch h)
  have hnd : NoDot (nameLetter dn :: (enc (dnCodec dn) NAME_SPACE data).chars) := by
    intro ch h
    rcases List.mem_cons.mp h with rfl | h
    · exact nameLetter_ne_dot dn
    · exact hndc ch h
  have hcore : nameCore dn data =
      inner 0 (nameLetter dn :: (enc (dnCodec dn) NAME_SPACE data).chars) ++ [DOT] := by
    rw [← closeDot_dotifyAux 0 _ hnd 0 (Or.inl (List.cons_ne_nil _ _))]
    unfold nameCore closeDot dotify
    dsimp only
    cases (dotifyAux 0 (nameLetter dn :: (enc (dnCodec dn) NAME_SPACE data).chars)).getLast? with
    | none => simp [DOT]
    | some v => simp
  generalize (enc (dnCodec dn) NAME_SPACE data).chars = chars at hndc hcore
  rw [hcore, inner]
  by_cases he : chars = []
  · exact ⟨[], by rw [if_pos he]; rfl, by rw [he]; rfl, fun ch h => by cases h⟩
  · refine ⟨inner 1 chars, by rw [if_neg he, if_neg (by omega)]; rfl, undotify_inner chars hndc 1, fun ch h => ?_⟩
    rcases mem_inner chars 1 ch h with e | e
    · exact e ▸ List.mem_cons_self
    · exact List.mem_cons_of_mem _ e

theorem namedec_nameenc_map {f : Nat → Nat} (cap dn : Nat) (data : List Nat) (t1 t2 : Nat)
    (hl : IsLetter (nameLetter dn) (f (nameLetter dn)))
    (hd : DotPreserving f (DOT :: (enc (dnCodec dn) NAME_SPACE data).chars)) :
    namedec cap ((nameenc dn data t1 t2).1.map f) =
      dec (dnCodec dn) cap (enc (dnCodec dn) NAME_SPACE data).chars.length
        ((enc (dnCodec dn) NAME_SPACE data).chars.map f) := by
  obtain ⟨Y, hY, hu, hm⟩ := nameCore_shape dn data
  rw [nameenc_fst, hY]
  simp only [List.map_append, List.map_cons, List.map_nil, List.cons_append, List.append_assoc]
  rw [(namedec_cons cap dn _ _).2 hl]
  have hlen : (Y.map f ++ (f DOT :: ([] ++ [f t1, f t2]))).length = Y.length + 3 := by simp
  rw [hlen]
  by_cases hy : Y.length + 3 < 4
  · have : Y = [] := List.eq_nil_of_length_eq_zero (by omega)
    subst this
    rw [if_pos hy, ← hu]
    simp [undotify, dec, cstr, decAll, decBits, chunksN]
  · rw [if_neg hy, Nat.add_sub_cancel, List.take_left' (by simp)]
    unfold unpackData
    rw [undotify_map fun ch h => hd ch (hm ch h)]
    simp only [hu, List.length_map]

theorem namedec_txtText_map {f : Nat → Nat} (cap : Nat) {dn : Nat} (h : dn ≠ 82) (data : List Nat)
    (hl : IsLetter (txtLetter dn) (f (txtLetter dn))) :
    namedec cap ((txtText dn data).map f) =
      dec (dnCodec dn) cap (enc (dnCodec dn) 65535 data).chars.length ((enc (dnCodec dn) 65535 data).chars.map f) := by
  rw [txtText_eq h, List.map_cons, (namedec_cons cap dn _ _).1 hl, List.length_map]

/-- unrelayed: `dns_namedec` of what the server sends is the decoding of the encoding -/
theorem namedec_answer (cap dn : Nat) (data : List Nat) (t1 t2 : Nat) :
    (dn ≠ 82 → namedec cap (txtText dn data) =
      dec (dnCodec dn) cap (enc (dnCodec dn) 65535 data).chars.length (enc (dnCodec dn) 65535 data).chars) ∧
    namedec cap (nameenc dn data t1 t2).1 =
      dec (dnCodec dn) cap (enc (dnCodec dn) NAME_SPACE data).chars.length
        (enc (dnCodec dn) NAME_SPACE data).chars := by
  constructor
  · intro h
    have := namedec_txtText_map (f := id) cap h data (Or.inl rfl)
    rwa [List.map_id, List.map_id] at this
  · have := namedec_nameenc_map (f := id) cap dn data t1 t2 (Or.inl rfl) (fun _ _ => Iff.rfl)
    rwa [List.map_id, List.map_id] at this

/-- A map the decoder does not notice on the alphabet (and that keeps the codec letter and the dots) does not change
what `dns_namedec` returns. -/
theorem namedec_map_transparent {f : Nat → Nat} (cap dn : Nat) (data : List Nat) (t1 t2 : Nat)
    (htr : Transparent (dnCodec dn) f (dnCodec dn).tbl) :
    (dn ≠ 82 → IsLetter (txtLetter dn) (f (txtLetter dn)) →
      namedec cap ((txtText dn data).map f) = namedec cap (txtText dn data)) ∧
    (IsLetter (nameLetter dn) (f (nameLetter dn)) → DotPreserving f (DOT :: (dnCodec dn).tbl) →
      namedec cap ((nameenc dn data t1 t2).1.map f) = namedec cap (nameenc dn data t1 t2).1) := by
  have hsub : ∀ cap', ∀ ch ∈ (enc (dnCodec dn) cap' data).chars, ch ∈ (dnCodec dn).tbl :=
    fun cap' => C07.chars_in_table (dnCodec_ok dn).1 cap' data
  obtain ⟨h1, h2⟩ := namedec_answer cap dn data t1 t2
  constructor
  · intro h hl
    rw [namedec_txtText_map cap h data hl, h1 h]
    exact dec_transparent (htr.sub (hsub _)) _ _
  · intro hl hd
    rw [namedec_nameenc_map cap dn data t1 t2 hl fun ch hch => hd ch (List.cons_subset_cons DOT (hsub _) hch), h2]
    exact dec_transparent (htr.sub (hsub _)) _ _

/-! ### the family -/

theorem family_isLetter {f : Nat → Nat} (hf : f ∈ familyFns) (dn : Nat) :
    IsLetter (txtLetter dn) (f (txtLetter dn)) ∧ IsLetter (nameLetter dn) (f (nameLetter dn)) := by
  have h := family_letters f hf
  unfold IsLetter txtLetter nameLetter
  constructor
  · split; · exact h _ (by decide)
    split; · exact h _ (by decide)
    split <;> exact h _ (by decide)
  · split; · exact h _ (by decide)
    split; · exact h _ (by decide)
    split <;> exact h _ (by decide)

theorem family_dotPreserving {f : Nat → Nat} (hf : f ∈ familyFns) (dn : Nat) :
    DotPreserving f (DOT :: (dnCodec dn).tbl) :=
  fun ch hch => (family_dots f hf).2 ch (List.cons_subset_cons DOT (dnCodec_ok dn).2.2.2 hch)

/-- Through a map of the family `dns_namedec` decodes the relayed encoding, TXT or host name, with the codec the server
used. -/
theorem family_namedec {f : Nat → Nat} (hf : f ∈ familyFns) (cap dn : Nat) (data : List Nat) (t1 t2 : Nat) :
    (dn ≠ 82 → namedec cap ((txtText dn data).map f) =
      dec (dnCodec dn) cap (enc (dnCodec dn) 65535 data).chars.length ((enc (dnCodec dn) 65535 data).chars.map f)) ∧
    namedec cap ((nameenc dn data t1 t2).1.map f) =
      dec (dnCodec dn) cap (enc (dnCodec dn) NAME_SPACE data).chars.length
        ((enc (dnCodec dn) NAME_SPACE data).chars.map f) :=
  ⟨fun h => namedec_txtText_map cap h data (family_isLetter hf dn).1,
    namedec_nameenc_map cap dn data t1 t2 (family_isLetter hf dn).2 fun ch hch =>
      family_dotPreserving hf dn ch (List.cons_subset_cons DOT (C07.chars_in_table (dnCodec_ok dn).1 _ _) hch)⟩

/-- Base32 answers, TXT and host name (CNAME / MX / SRV / A), are decoded to the same bytes through every map of the
family. -/
theorem b32_survives {f : Nat → Nat} (hf : f ∈ familyFns) (cap : Nat) (data : List Nat) (t1 t2 : Nat) :
    namedec cap ((txtText 84 data).map f) = namedec cap (txtText 84 data) ∧
    namedec cap ((nameenc 84 data t1 t2).1.map f) = namedec cap (nameenc 84 data t1 t2).1 := by
  obtain ⟨h1, h2⟩ := namedec_map_transparent cap 84 data t1 t2 (family_b32_transparent f hf)
  exact ⟨h1 (by decide) (family_isLetter hf 84).1, h2 (family_isLetter hf 84).2 (family_dotPreserving hf 84)⟩

/-- Without a relay the client decodes a Base32 TXT answer to the payload (C07 round trip through `write_dns` and
`dns_namedec`). -/
theorem txt_b32_roundtrip (d : List Nat) (hd : Bytes d) (hlen : d.length ≤ 40000) :
    namedec NAMEDEC_CAP (txtText 84 d) = d := by
  rw [(namedec_answer NAMEDEC_CAP 84 d 0 0).1 (by decide),
    enc_chars_full (c := dnCodec 84) (by show nchars 5 d.length ≤ 65535; unfold nchars; omega)]
  exact C07.roundtrip C07.wf_b32 d hd NAMEDEC_CAP (by unfold NAMEDEC_CAP; omega)

end Iodine.C11L
