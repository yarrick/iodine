import IodineModel.Lemmas.C01h
import IodineModel.Lemmas.Ite
/-
What one `cstep` of the client thread does to `inpkt` and the tun device: nothing, one `tunnel_dns` (DNS mode, an `rq`
input, thread parked in `client_tunnel`), or one raw-mode datagram (`cstep_eff`); from it, where every tun write of every
run comes from (`corigins_run`).
-/
namespace Iodine.C01L
open Iodine Iodine.Client

theorem afterSend_ping_rx (c : Cli) (k : Resume) :
    (afterSend (sendPing c) [] k).1.inpkt = c.inpkt ∧ tunws (afterSend (sendPing c) [] k).2.1 = [] :=
  afterSend_quiet (sendPing_rx c) [] k

theorem afterSend_chunk_rx (c : Cli) (k : Resume) :
    (afterSend (sendChunk c) [] k).1.inpkt = c.inpkt ∧ tunws (afterSend (sendChunk c) [] k).2.1 = [] :=
  afterSend_quiet (sendChunk_rx c) [] k

theorem tunnelTun_rx (c : Cli) (frame : List Nat) :
    (tunnelTun c frame).1.inpkt = c.inpkt ∧ tunws (tunnelTun c frame).2.1 = [] := by
  unfold tunnelTun
  dsimp only
  split
  · exact ⟨rfl, rfl⟩
  · split
    · exact ⟨rfl, rfl⟩
    · split
      · generalize hc' : ({ c with outpkt := _, outchunkresent := 0 } : Cli) = c'
        have hi : c'.inpkt = c.inpkt := by rw [← hc']
        have a := afterSend_chunk_rx c' (.tunChunk ((frame.take 65536).length : Int))
        exact ⟨a.1.trans hi, a.2⟩
      · exact ⟨rfl, rfl⟩

theorem timeoutBranch_rx (c : Cli) : (timeoutBranch c).1.inpkt = c.inpkt ∧ tunws (timeoutBranch c).2.1 = [] := by
  unfold timeoutBranch
  split
  · split
    · exact afterSend_chunk_rx _ _
    · exact afterSend_ping_rx _ _
  · exact afterSend_ping_rx _ _

theorem fire_conn (c : Cli) (sel : Sel) (inp : CInput) : (fire c sel inp).1.conn = c.conn :=
  (frame_fire c sel inp).get (·.conn) fun _ => rfl

theorem afterSelect_conn (c : Cli) : (afterSelect c).conn = c.conn :=
  (frame_afterSelect c).get (·.conn) fun _ => rfl

theorem accepted_zero (c : Cli) : accepted c Rq.zero = false := by
  unfold accepted Rq.zero
  simp

/-- what a raw-mode datagram may do: `inpkt` stays, and nothing goes to tun, or the decompressed body -/
def RawEff (c : Cli) (d : List Nat) (r : Res) : Prop :=
  r.1.inpkt = c.inpkt ∧ (tunws r.2 = [] ∨ tunws r.2 = tunws (frames ((d.take 65536).drop Gen.RAW_HDR_LEN)))

theorem readRaw_rx (c : Cli) (d : List Nat) : RawEff c d (readRaw c d) := by
  rw [readRaw]
  have nil : RawEff c d (c, []) := ⟨rfl, .inl rfl⟩
  refine ite_both nil <| ite_both nil <| ite_both nil ?_
  extract_lets cmd c'
  have hc' : c'.inpkt = c.inpkt := ite_both (P := fun x : Cli => x.inpkt = c.inpkt) rfl rfl
  clear_value c'
  refine ite_both ⟨hc', .inl rfl⟩ ?_
  unfold RawEff frames
  cases uncompress ((d.take 65536).drop Gen.RAW_HDR_LEN) 65536 with
  | none => exact ⟨hc', .inl rfl⟩
  | some out => exact ⟨hc', .inr rfl⟩

theorem rawKeepalive_rx (c : Cli) :
    (rawKeepalive c).1.inpkt = c.inpkt ∧ (rawKeepalive c).1.conn = c.conn ∧ tunws (rawKeepalive c).2 = [] := by
  refine ⟨inpkt_of_frame (frame_rawKeepalive c), (frame_rawKeepalive c).get (·.conn) fun _ => rfl, ?_⟩
  unfold rawKeepalive
  exact ite_both (P := fun r : Cli × List CEvent => tunws r.2 = []) rfl rfl

theorem after_rx (evs : List CEvent) (r : CState × List CEvent × Next) (h : tunws evs = []) :
    (after evs r).1 = r.1 ∧ tunws (after evs r).2.1 = tunws r.2.1 := by
  unfold after; exact ⟨rfl, by dsimp only; rw [tunws_append, h]; rfl⟩

/-- what one step of the client thread is, as far as `inpkt` and the tun device are concerned -/
inductive CEff (st : CState) (inp : CInput) : Prop where
  /-- neither `inpkt` nor the tun device touched -/
  | quiet : (cstep st inp).1.c.inpkt = st.c.inpkt → tunws (cstep st inp).2.1 = [] → CEff st inp
  /-- one `tunnel_dns` in DNS mode on the answer `q`, from a state with the same `inpkt` -/
  | dns (c' : Cli) (q : Rq) : inp = .rq q → c'.inpkt = st.c.inpkt →
      (cstep st inp).1.c.inpkt = (tunnelDns c' q).1.inpkt →
      tunws (cstep st inp).2.1 = tunws (tunnelDns c' q).2.1 → CEff st inp
  /-- one raw-mode datagram `b` -/
  | raw (c' : Cli) (b : List Nat) : inp = .rawans b → (cstep st inp).1.c.inpkt = st.c.inpkt →
      tunws (cstep st inp).2.1 = tunws (readRaw c' b).2 → CEff st inp

theorem tunnelStep_eff (c : Cli) (ph : Phase) (inp : CInput) (hph : ph = .tunnel) : CEff ⟨c, ph⟩ inp := by
  subst hph
  have hcs : cstep ⟨c, .tunnel⟩ inp = tunnelStep c inp := rfl
  generalize hc' : afterSelect (fire c (selectOf c) inp).1 = c'
  have hi : c'.inpkt = c.inpkt :=
    hc' ▸ inpkt_of_frame ((frame_fire c (selectOf c) inp).trans (frame_afterSelect _).book)
  have hts : tunnelStep c inp =
      if !c'.running then (⟨c', .idle⟩, [], .finished 0)
      else match (fire c (selectOf c) inp).2 with
        | .timeout => settle (timeoutBranch c')
        | .tun frame => after (rawKeepalive c').2 (settle (tunnelTun (rawKeepalive c').1 frame))
        | .dns inp => after (rawKeepalive c').2 (settle (tunnelDnsInput (rawKeepalive c').1 inp)) := by
    rw [← hc']; rfl
  obtain ⟨hk1, hk2, hk3⟩ := rawKeepalive_rx c'
  generalize hc'' : (rawKeepalive c').1 = c'' at hts hk1 hk2
  generalize hkev : (rawKeepalive c').2 = kev at hts hk3
  have hi2 : c''.inpkt = c.inpkt := hk1.trans hi
  by_cases hr : (!c'.running) = true
  · refine CEff.quiet ?_ ?_ <;> rw [hcs, hts, if_pos hr]
    · exact hi
    · rfl
  rw [if_neg hr] at hts
  have quiet_of : ∀ (pre : List CEvent) (r : Cli × List CEvent × Stop), tunws pre = [] → r.1.inpkt = c.inpkt →
      tunws r.2.1 = [] → tunnelStep c inp = after pre (settle r) → CEff ⟨c, .tunnel⟩ inp := by
    intro pre r hp h1 h2 he
    refine CEff.quiet ?_ ?_ <;> rw [hcs, he]
    · rw [(after_rx pre _ hp).1, settle_c]; exact h1
    · rw [(after_rx pre _ hp).2, settle_evs]; exact h2
  cases inp with
  | tick =>
    have : (fire c (selectOf c) .tick).2 = .timeout := rfl
    rw [this] at hts
    exact quiet_of [] _ rfl ((timeoutBranch_rx c').1.trans hi) (timeoutBranch_rx c').2 hts
  | tun f =>
    by_cases hs : (selectOf c).tun = true
    · have : (fire c (selectOf c) (.tun f)).2 = .tun f := by unfold fire; dsimp only; rw [if_pos hs]
      rw [this] at hts
      exact quiet_of kev _ hk3 ((tunnelTun_rx c'' f).1.trans hi2) (tunnelTun_rx c'' f).2 hts
    · have : (fire c (selectOf c) (.tun f)).2 = .timeout := by unfold fire; dsimp only; rw [if_neg hs]
      rw [this] at hts
      exact quiet_of [] _ rfl ((timeoutBranch_rx c').1.trans hi) (timeoutBranch_rx c').2 hts
  | rq q =>
    have : (fire c (selectOf c) (.rq q)).2 = .dns (.rq q) := rfl
    rw [this] at hts
    dsimp only at hts
    unfold tunnelDnsInput at hts
    by_cases hconn : c''.conn = .dnsNull
    · rw [if_pos hconn] at hts
      dsimp only at hts
      refine CEff.dns c'' q rfl hi2 ?_ ?_ <;> rw [hcs, hts]
      · rw [(after_rx kev _ hk3).1, settle_c]
      · rw [(after_rx kev _ hk3).2, settle_evs]
    · rw [if_neg hconn] at hts
      dsimp only at hts
      exact quiet_of kev _ hk3 ((readRaw_rx c'' []).1.trans hi2) rfl hts
  | rawans b =>
    have : (fire c (selectOf c) (.rawans b)).2 = .dns (.rawans b) := rfl
    rw [this] at hts
    dsimp only at hts
    unfold tunnelDnsInput at hts
    by_cases hconn : c''.conn = .dnsNull
    · rw [if_pos hconn] at hts
      dsimp only at hts
      obtain ⟨z1, z2⟩ := tunnelDns_rx c'' Rq.zero
      rw [accepted_zero] at z1 z2
      exact quiet_of kev _ hk3 (z1.trans hi2) z2 hts
    · rw [if_neg hconn] at hts
      dsimp only at hts
      refine CEff.raw c'' b rfl ?_ ?_ <;> rw [hcs, hts]
      · rw [(after_rx kev _ hk3).1, settle_c]; exact (readRaw_rx c'' b).1.trans hi2
      · rw [(after_rx kev _ hk3).2, settle_evs]; rfl

/-- a step inside `handshake_lazyoff` touches neither `inpkt` nor tun: its frame and its events are in Lemmas/CliFrame -/
theorem lazyoffStep_rx (c : Cli) (i : Nat) (k : Resume) (inp : CInput) :
    (lazyoffStep c i k inp).1.c.inpkt = c.inpkt ∧ tunws (lazyoffStep c i k inp).2.1 = [] :=
  ⟨inpkt_of_frame (frame_lazyoffStep c i k inp), tunws_of_onlyQ (onlyQ_lazyoffStep c i k inp)⟩

/-- **every step of the client thread** is quiet, one `tunnel_dns` on an `rq` input, or one raw datagram -/
theorem cstep_eff (st : CState) (inp : CInput) : CEff st inp := by
  obtain ⟨c, ph⟩ := st
  cases ph with
  | idle => exact CEff.quiet rfl rfl
  | tunnel => exact tunnelStep_eff c _ inp rfl
  | lazyoff i k =>
    have := lazyoffStep_rx c i k inp
    exact CEff.quiet this.1 this.2

/-- the answer an input delivers to `tunnel_dns`, if any -/
def rqOf : CInput → List Rq
  | .rq q => [q]
  | _ => []

/-- where the tun writes of one step come from: nothing; the join of a chain of answers received so far that ends in
the answer of this step; or the body of the raw datagram of this step -/
def COrigin (seen : List Rq) (inp : CInput) (evs : List CEvent) : Prop :=
  tunws evs = [] ∨
  (∃ q l, inp = .rq q ∧ l.Sublist (seen ++ [q]) ∧ RChain l ∧ l.getLast? = some q ∧
      tunws evs = tunws (frames (rjoin l))) ∨
  (∃ b, inp = .rawans b ∧ tunws evs = tunws (frames ((b.take 65536).drop Gen.RAW_HDR_LEN)))

def COrigins : List Rq → CState → List CInput → Prop
  | _, _, [] => True
  | seen, st, inp :: rest =>
    COrigin seen inp (cstep st inp).2.1 ∧ COrigins (seen ++ rqOf inp) (cstep st inp).1 rest

/-- **every tun write of every run** of the client thread, from a state whose `inpkt` satisfies the invariant (e.g. is
empty), has its origin in received data -/
theorem corigins_run : ∀ (inputs : List CInput) (st : CState) (seen : List Rq),
    RInv st.c.inpkt seen → COrigins seen st inputs := by
  intro inputs
  induction inputs with
  | nil => intro _ _ _; trivial
  | cons inp rest ih =>
    intro st seen hinv
    unfold COrigins
    rcases cstep_eff st inp with ⟨h1, h2⟩ | ⟨c', q, hq, hi, h1, h2⟩ | ⟨c', b, hb, h1, h2⟩
    · refine ⟨Or.inl h2, ih _ _ ?_⟩
      rw [h1]; exact hinv.mono _
    · subst hq
      obtain ⟨r1, r2⟩ := tunnelDns_rx c' q
      obtain ⟨i1, i2⟩ := rxStep_inv st.c.inpkt (accepted c' q) q seen hinv
      rw [hi] at r1 r2
      refine ⟨?_, ih _ _ ?_⟩
      · unfold COrigin
        rw [h2, r2]
        rcases i2 with e | ⟨l, a, b, c, d⟩
        · left; rw [e]; rfl
        · right; left; exact ⟨q, l, rfl, a, b, c, by rw [d]⟩
      · rw [h1, r1]; exact i1
    · subst hb
      refine ⟨?_, ih _ _ ?_⟩
      · unfold COrigin
        rw [h2]
        rcases (readRaw_rx c' b).2 with e | e
        · exact Or.inl e
        · exact Or.inr (Or.inr ⟨b, rfl, e⟩)
      · rw [h1]; exact hinv.mono _

end Iodine.C01L
