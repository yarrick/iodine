import IodineModel.Lemmas.C02qO3
import IodineModel.Lemmas.C02qO1
import IodineModel.Lemmas.C02qO2
import IodineModel.Lemmas.C02qO5
import IodineModel.Lemmas.C02qB1
/-
Overlapping transfers in lazy mode: the case in which each packet is a single fragment (five scheduler steps).  The server
writes the upstream packet to its tun device and, holding no query it could answer, PARKS the data query in `q_sendrealsoon`
(`ParkedL`); the client takes the downstream packet and arms its 5 ms ping timer (`send_ping_soon = 5`), which fires before the
server's 20 ms and resends the still unacknowledged chunk (`ResentL`); the server takes the resent chunk for a duplicate, answers
the PARKED query with the acknowledgement and holds the new one (`srv_recv_dup_qs`, the server's side of that step).
-/
namespace Iodine.C02L
open Iodine Iodine.Gen Iodine.Server Iodine.World

theorem dataASess_dup (x : Session) (upSeq upFrag : Nat) (dnSeq dnFrag : Int) (payload : List Nat)
    (hout : x.outpacket.len = 0) (hup : dataUpstream x upSeq upFrag = (x, false)) :
    dataASess x upSeq upFrag dnSeq dnFrag payload = (x, false) := by
  unfold dataASess
  rw [ackSess_other x _ _ (Or.inl hout), hup]
  rfl

/-- the data handler on the slot: nothing to send downstream, no query held in `q`, a query parked in `qs`, and the
upstream fragment is a duplicate (`dataUpstream` refuses it) -/
theorem dataSess_dup_qs (x : Session) (u : Nat) (Q : Query) (h : UpHdr) (payload : List Nat) (now : Nat)
    (hout : x.outpacket.len = 0) (hq : x.q.id = 0) (hqs : x.qs.id ≠ 0) (hqs2 : x.qs.id2 = 0) (hlz : x.lazy = true)
    (hup : dataUpstream x h.upSeq h.upFrag = (x, false)) :
    dataSess x u Q h payload now =
      (saveQ { cacheUpd (qmemUpd x x.qs) x.qs (scPkt x 0) with qs := { x.qs with id := 0 } } Q now,
        [writeDns x.qs (scPkt x 0) x.downenc (.chunk u)]) := by
  have hA := dataASess_dup x h.upSeq h.upFrag h.dnSeq h.dnFrag payload hout hup
  unfold dataSess
  rw [hA]
  simp only [Bool.false_eq_true, false_and, if_false]
  have e1 : stepQsSess x u =
      (({ cacheUpd (qmemUpd x x.qs) x.qs (scPkt x 0) with qs := { x.qs with id := 0 } },
        [writeDns x.qs (scPkt x 0) x.downenc (.chunk u)]), true) := by
    unfold stepQsSess
    rw [if_pos hqs, scSess_dataless x u .qs hout (by exact hqs2)]
    simp only [QSel.get, QSel.set, Bool.not_false]
  rw [e1]
  simp only
  generalize hY : ({ cacheUpd (qmemUpd x x.qs) x.qs (scPkt x 0) with qs := { x.qs with id := 0 } } : Session) = Y
  have hYc : core Y = core { x with qs := { x.qs with id := 0 } } := by
    subst hY
    have := core_memo x x.qs (scPkt x 0)
    unfold core at this ⊢
    simp only [Session.mk.injEq] at this ⊢
    simp [this]
  have hYq : Y.q = x.q := by have h9 := core_q hYc; exact h9
  have hYl : Y.lazy = true := by
    have h9 := core_lazy hYc
    rw [h9]; exact hlz
  have hYo : Y.outpacket = x.outpacket := by have h9 := core_outpacket hYc; exact h9
  have e2 : stepQSess Y u false h.last true = ((Y, []), true) := by
    unfold stepQSess
    rw [if_neg (by rw [hYq]; intro hc; exact hc hq)]
  rw [e2]
  simp only
  have e3 : stepFinalSess (saveQ Y Q now) u false h.last true = (saveQ Y Q now, []) := by
    simp [stepFinalSess, saveQ, hYl]
  rw [e3]
  simp

/-- **a resent fragment finds a parked query**: the parked query `H` (counter value `k0`) is answered with a dataless packet
and remembered, the duplicate fragment carried by `Q` (counter value `k0 + 1`) is not stored, `Q` is held -/
theorem srv_recv_dup_qs {P : Par} (hP : P.Ok) {s : Srv} (hS : SStat P s) {H Q : Query} {k0 sd : Nat} (hk0 : k0 < 36)
    (hA : Aged P (getUser s P.u) k0 1) (hPA : PAged P (getUser s P.u) sd 1)
    (hB : HeldBase P H) (hHD : HeldData P H k0)
    (hq : (getUser s P.u).q.id = 0) (hqs : (getUser s P.u).qs = H) (hlz : (getUser s P.u).lazy = true)
    (hout : (getUser s P.u).outpacket.len = 0)
    {sq fr : Nat} {dsq dfr : Int} {lastf : Bool} {chunk : List Nat}
    (hQ : UpQ P Q ⟨sq, fr, dsq, dfr, lastf⟩ ((k0 + 1) % 36) chunk)
    (hseq : (getUser s P.u).inpacket.seqno = (sq : Int)) (hfr : (fr : Int) ≤ (getUser s P.u).inpacket.fragment) :
    ∃ s' evs t, iteration s (.q Q) s.now = (s', evs, t) ∧
      downOfEvents evs = [.ans H.id H.type H.name (scPkt (getUser s P.u) 0)] ∧ tunOfSEvents evs = [] ∧
      SStat P s' ∧ IdleLazy (getUser s' P.u) ∧ (getUser s' P.u).q = Q ∧
      HeldMem P (getUser s' P.u) Q ((k0 + 2) % 36) sd ∧
      (getUser s' P.u).inpacket = (getUser s P.u).inpacket ∧ (getUser s' P.u).outpacket = (getUser s P.u).outpacket ∧
      (getUser s' P.u).oqFilled = (getUser s P.u).oqFilled ∧ (getUser s' P.u).tunIp = (getUser s P.u).tunIp ∧
      s'.now = s.now ∧ (getUser s' P.u).fragsize = (getUser s P.u).fragsize := by
  have hk1 : (k0 + 1) % 36 < 36 := Nat.mod_lt _ (by omega)
  have hk2 : ((k0 + 1) % 36 + 1) % 36 = (k0 + 2) % 36 := by omega
  have hA1 : Aged P (getUser s P.u) ((k0 + 1) % 36) 2 := hA.step hk0 (by omega)
  have hne : H.name ≠ Q.name := by
    intro he
    have h1 := hHD.c4
    rw [he, hQ.c4] at h1
    have := cmcChar_inj _ _ hk1 hk0 h1
    omega
  obtain ⟨payload, hpl, hiter⟩ := iteration_upq hP hS hk1 (hA1.fresh hk1 (by omega)) hQ (Or.inl hq)
    (Or.inr (by rw [hqs]; exact hne))
  generalize hx0 : ({ getUser s P.u with qsNew := false } : Session) = x0 at hiter
  have hx0A : Aged P x0 ((k0 + 1) % 36) 2 := by subst hx0; exact hA1.congr rfl rfl rfl rfl
  have hx0P : PAged P x0 sd 1 := by subst hx0; exact hPA.congr rfl rfl rfl rfl
  have hx0q : x0.q.id = 0 := by subst hx0; exact hq
  have hx0qs : x0.qs = H := by subst hx0; exact hqs
  have hx0l : x0.lazy = true := by subst hx0; exact hlz
  have hx0out : x0.outpacket = (getUser s P.u).outpacket := by subst hx0; rfl
  have hx0in : x0.inpacket = (getUser s P.u).inpacket := by subst hx0; rfl
  have hup : dataUpstream x0 sq fr = (x0, false) := by
    unfold dataUpstream
    rw [if_pos ⟨by rw [hx0in]; exact hseq.symm, by rw [hx0in]; exact hfr⟩]
  have hds := dataSess_dup_qs x0 P.u Q ⟨sq, fr, dsq, dfr, lastf⟩ payload s.now (by rw [hx0out]; exact hout) hx0q
    (by rw [hx0qs]; exact hB.id) (by rw [hx0qs]; exact hB.id2) hx0l hup
  rw [hx0qs] at hds
  have hpk : scPkt x0 0 = scPkt (getUser s P.u) 0 := by subst hx0; rfl
  have hYA : Aged P (cacheUpd (qmemUpd x0 H) H (scPkt x0 0)) ((k0 + 2) % 36) 2 := by
    have h3 : Aged P x0 ((k0 + 2) % 36) (2 + 1) := hk2 ▸ hx0A.step hk1 (by omega)
    exact h3.memo H (scPkt x0 0) (scPkt0_len x0) k0 2 ⟨by omega, by omega⟩ (by unfold Behind; omega) hk0 hHD.c4 hHD.len5
      (by rw [hHD.c0]; exact hexLower_ne_p hP.hu)
  have hYP : PAged P (cacheUpd (qmemUpd x0 H) H (scPkt x0 0)) sd 1 :=
    hx0P.memo_data hP.hu H (scPkt x0 0) (scPkt0_len x0) hHD.len5 hHD.c0
  have hmemo : HeldMem P (cacheUpd (qmemUpd x0 H) H (scPkt x0 0)) Q ((k0 + 2) % 36) sd :=
    Or.inl ⟨(k0 + 1) % 36, hQ.heldData hk1, by unfold Behind; omega, hYA, hYP⟩
  have hzc := core_memo x0 H (scPkt x0 0)
  generalize cacheUpd (qmemUpd x0 H) H (scPkt x0 0) = z at hds hmemo hzc
  have hYM : HeldMem P (saveQ { z with qs := { H with id := 0 } } Q s.now) Q ((k0 + 2) % 36) sd :=
    hmemo.congr rfl rfl rfl rfl rfl rfl
  have hYc : core (saveQ { z with qs := { H with id := 0 } } Q s.now) =
      core { x0 with qs := { H with id := 0 }, q := Q, lastPkt := s.now } := by
    have := hzc
    unfold core at this ⊢
    unfold saveQ
    simp only [Session.mk.injEq] at this ⊢
    simp [this]
  generalize saveQ { z with qs := { H with id := 0 } } Q s.now = Y at hds hYM hYc
  -- the sweep does nothing: the parked query was answered
  have hit := hiter Y _ hds (Or.inl (by have h9 := core_qs hYc; rw [h9])) (by
    intro hc
    rw [dataASess_dup x0 _ _ _ _ _ (by rw [hx0out]; exact hout) hup] at hc
    cases hc)
  have hYin : Y.inpacket = (getUser s P.u).inpacket := by have h9 := core_inpacket hYc; exact h9.trans hx0in
  have hk : Kept Y (getUser s P.u) := (Kept.of_core hYc).trans (by subst hx0; exact ⟨rfl, rfl, rfl, rfl, rfl, rfl, rfl, rfl, rfl, rfl, rfl⟩)
  have hg := getUser_put hS Y s.now
  refine ⟨_, _, _, hit, ?_, ?_,
    hS.put hk (by rw [hYin]; exact hS.x.iseq) (by rw [hYin]; exact hS.x.ifrag)
      (by have h9 := core_lastPkt hYc; rw [h9]; show s.now < s.now + 60; omega),
    ⟨?_, ?_, ?_, ?_, ?_⟩, ?_, ?_, ?_, ?_, ?_, ?_, rfl, ?_⟩
  · simp only [List.append_nil, downOfEvents_append, downOfEvents_sweep, downOfEvents_writeDns _ _ _ _ hB.from_, hpk]
  · simp only [List.append_nil, tunOfSEvents_append, tunOfSEvents_writeDns, tunOfSEvents_sweep]
  · rw [hg, hk.outpacket]; exact hout
  · rw [hg]; have h9 := core_q hYc; rw [h9]; exact hQ.id
  · rw [hg]; have h9 := core_q hYc; rw [h9]; exact hQ.id2
  · rw [hg]; have h9 := core_qs hYc; rw [h9]
  · rw [hg]; exact hk.lazy.trans hlz
  · rw [hg]; have h9 := core_q hYc; rw [h9]
  · rw [hg]; exact hYM
  · rw [hg]; exact hYin
  · rw [hg]; exact hk.outpacket
  · rw [hg]; exact hk.oqFilled
  · rw [hg]; exact hk.tunIp
  · rw [hg]; exact hk.fragsize

#print axioms srv_recv_dup_qs

/-! ### the five scheduler steps -/

/-- the 5 ms of `send_ping_soon` are no whole second: the client's clock stands -/
theorem advanceClock_soon (c : Client.Cli) (hsps : c.sendPingSoon = 5) : Client.advanceClock c (Client.selectOf c) = c := by
  have hto : (Client.selectOf c).to = 5000 := by
    unfold Client.selectOf
    simp only [hsps]
    rw [if_pos (by decide)]
    rfl
  unfold Client.advanceClock
  rw [show ((Client.selectOf c).to / 1000000).toNat = 0 by rw [hto]; decide]
  exact cli_now_zero _

/-- the server has stored the one fragment of `c0`'s upstream packet and has its data query `Q` parked in `q_sendrealsoon`; it
holds no other query -/
structure ParkedSrv (P : Par) (s : Server.Srv) (c0 : Client.Cli) (Q : Server.Query) : Prop where
  srv : SStat P s
  q : (Server.getUser s P.u).q.id = 0
  qs : (Server.getUser s P.u).qs = Q
  lz : (Server.getUser s P.u).lazy = true
  oq : (Server.getUser s P.u).oqFilled = 0
  iseq : (Server.getUser s P.u).inpacket.seqno = c0.outpkt.seqno
  ifrag : (Server.getUser s P.u).inpacket.fragment = 0
  upq : ∃ dsq dfr lastf chunk, UpQ P Q ⟨c0.outpkt.seqno.toNat, 0, dsq, dfr, lastf⟩ c0.datacmc chunk
  qid : Q.id = (sentState c0).chunkid
  aged : Aged P (Server.getUser s P.u) c0.datacmc 1
  paged : PAged P (Server.getUser s P.u) c0.randSeed 1

/-- the joint state after the first scheduler step of the single × single case: the upstream packet is out, its data query
`Q` is parked in `q_sendrealsoon`; the downstream fragment is still on its way -/
structure ParkedL (P : Par) (outU outD : List Nat) (w : W) (c0 : Client.Cli) (Q : Server.Query) (sq : Int) (D : Nat) : Prop
    extends ParkedSrv P w.srv c0 Q where
  ph : w.cs.ph = .tunnel
  ready : CReadyL P c0 outU 0 0
  cli : w.cs.c = { sentStateL c0 with sendPingSoon := 0 }
  up : w.up = []
  down : ∃ name pkt, w.down = [.ans c0.chunkid P.ty name pkt] ∧ Client.notData c0 (name.headD 0) = false ∧
    FragPkt pkt outD sq 0 D 0 true ∧
    ¬ ((Client.decodeHdr pkt).upSeq = c0.outpkt.seqno ∧ (Client.decodeHdr pkt).upFrag = ((0 : Nat) : Int))
  exp : CExpect c0 outD sq 0 0
  dup : sq = c0.inpkt.seqno ∨ Client.recentSeqno c0.inpkt.seqno sq = false
  hsq : 0 ≤ sq ∧ sq < 8
  hD : 0 < D ∧ D = outD.length
  op : (Server.getUser w.srv P.u).outpacket = ⟨0, 0, 0, outD, sq, 0⟩

theorem single_step1 {P : Par} (hP : P.Ok) {fu : List Nat} {outD : List Nat} {w : W} {c0 : Client.Cli} {sq : Int} {D : Nat}
    (h : BothFlightL P (0x5a :: fu) outD w c0 0 0 sq 0 D 0) (h64 : (0x5a :: fu).length ≤ 65536)
    (hU1 : fragLen P (0x5a :: fu) = (0x5a :: fu).length) (hD1 : D = outD.length)
    (h24 : 24 ≤ fu.length) (hdst : Server.ipDst fu ≠ (Server.getUser w.srv P.u).tunIp) :
    ∃ w1 Q, promptSteps P.u 1 w = some w1 ∧ ParkedL P (0x5a :: fu) outD w1 c0 Q sq D ∧
      w1.tunS = w.tunS ++ [[0, 0, 8, 0] ++ fu.drop 4] ∧ w1.tunC = w.tunC ∧
      (Server.getUser w1.srv P.u).tunIp = (Server.getUser w.srv P.u).tunIp ∧
      (Server.getUser w1.srv P.u).fragsize = (Server.getUser w.srv P.u).fragsize := by
  obtain ⟨cs, srv, up, down, tC, tS⟩ := w
  obtain ⟨name, -, rfl, hsend, hm1, hm2, hQ⟩ := h.sent.query hP
  simp only [List.drop_zero] at hQ hm1 hm2
  rw [hU1, show ((0x5a :: fu).length == (0x5a :: fu).length - 0) = true by simp] at hQ
  have hsqn : c0.outpkt.seqno.toNat < 8 := by have := h.ready.stat.oseq; omega
  have hsqc : ((c0.outpkt.seqno.toNat : Nat) : Int) = c0.outpkt.seqno := by have := h.ready.stat.oseq; omega
  have hop : (Server.getUser srv P.u).outpacket = ⟨0, 0, 0, outD, sq, 0⟩ := by
    rcases h.op with h2 | h1
    · have := h2.2; omega
    · exact h1.1
  obtain ⟨s', evs, t, hit, hdown, htun, hS', hq', hqs', hlz', hout', hoq', htip', hfr', hiseq', hifrag', hnow', hmem⟩ :=
    srv_recv_last_noq_ack hP h.srv.noq h.ready.stat.cmc h.aged (o := 0) (m := (0x5a :: fu).length)
      (by simpa using hQ) (ackSess_top_idle h.srv.stat _ _ (by rw [hop])) (by rw [hop]) h.srv.stat.x.oseq h.srv.stat.x.ofrag
      h.expect hsqn (by omega) (by simp) h64 h24 hdst
  obtain ⟨dname, pkt, hdn, hnd, hfp, hst⟩ := h.down
  refine ⟨⟨cs, s', [], down, tC, tS ++ [[0, 0, 8, 0] ++ fu.drop 4]⟩, upQuery (sentState c0).chunkid P.ty name,
    by rw [ps_up (SrvDoes.mk hit hdown htun), List.append_nil]; rfl, ?_, rfl, rfl, htip', hfr'⟩
  refine ⟨⟨hS', by rw [hq'], hqs', hlz', by rw [hoq']; exact h.srv.oq, by rw [hiseq', hsqc], by rw [hifrag']; rfl,
      ⟨_, _, _, _, hQ⟩, upQuery_id _ _ _, h.aged.memEq hmem, h.paged.memEq hmem⟩,
    h.ph, h.ready, h.cli, rfl, ⟨dname, pkt, hdn, hnd, ?_, hst⟩, h.exp, h.dup, h.hsq, ⟨h.hD, hD1⟩,
    by show (Server.getUser s' P.u).outpacket = _; rw [hout', hop]⟩
  have : decide (outD.length > 0 ∧ outD.length = 0 + D) = true := by
    have := h.hD
    simp; omega
  rw [this] at hfp
  exact hfp

/-- the joint state after the third scheduler step of the single × single case: both packets are delivered; the client has
RESENT its chunk (the 5 ms ping timer fired while the chunk was unacknowledged: `c1` = the state `send_chunk` was called in,
`outchunkresent = 1`); the first data query `Q` is still parked at the server -/
structure ResentL (P : Par) (outU : List Nat) (w : W) (c0 c1 : Client.Cli) (Q : Server.Query) (sq : Int) : Prop
    extends UpSentL P outU w c1 0 0, ParkedSrv P w.srv c0 Q where
  down : w.down = []
  c1id : c1.chunkid = (sentState c0).chunkid
  c1cmc : c1.datacmc = (c0.datacmc + 1) % 36
  c1seed : c1.randSeed = c0.randSeed
  c1oseq : c1.outpkt.seqno = c0.outpkt.seqno
  c1iseq : c1.inpkt.seqno = sq
  c0cmc : c0.datacmc < 36
  op : (Server.getUser w.srv P.u).outpacket.len = 0
  oseq : (Server.getUser w.srv P.u).outpacket.seqno = sq

theorem single_step23 {P : Par} (hP : P.Ok) {outU fd : List Nat} {w : W} {c0 : Client.Cli} {Q : Server.Query} {sq : Int} {D : Nat}
    (h : ParkedL P outU (0x5a :: fd) w c0 Q sq D) (h64 : (0x5a :: fd).length ≤ 65536) (h4 : 4 ≤ fd.length)
    (hres : c0.outchunkresent = 0) :
    ∃ w3 c1, promptSteps P.u 2 w = some w3 ∧ ResentL P outU w3 c0 c1 Q sq ∧
      w3.tunS = w.tunS ∧ w3.tunC = w.tunC ++ [tunImage fd] ∧ w3.srv = w.srv := by
  obtain ⟨cs, srv, up, down, tC, tS⟩ := w
  obtain ⟨dname, pkt, hdn, hnd, hfp, hst⟩ := h.down
  obtain rfl : cs = ⟨{ sentStateL c0 with sendPingSoon := 0 }, .tunnel⟩ := (cstate_eta cs h.ph).trans (by rw [h.cli])
  obtain rfl : up = [] := h.up
  obtain rfl : down = [.ans c0.chunkid P.ty dname pkt] := hdn
  have hsf := sentFactsL c0
  have hsi := sentIdsL c0
  have hcst := cstat_sentL h.ready
  have hres' : ({ sentStateL c0 with sendPingSoon := 0 } : Client.Cli).outchunkresent = 0 := (sentStateL_resent c0).trans hres
  obtain ⟨c2, hcli2, hc2st, hc2cnt, hc2bf, hc2out, hc2in, -, hc2sps, hc2res⟩ :=
    cliDoes_last_prev h.ready (dname := dname) hnd hfp h.hD.1 h.dup h.exp h.hsq (by omega) (by have := h.hD.2; omega) h64 h4 hst
  generalize hc : ({ sentStateL c0 with sendPingSoon := 0 } : Client.Cli) = c at hsf hcst hsi hres' hcli2 hc2bf hc2out hc2res ⊢
  -- the client's 5 ms timer fires first (the server waits 20 ms for the parked query): the chunk is resent
  have hQid : Q.id ≠ 0 := by obtain ⟨_, _, _, _, hu⟩ := h.upq; exact hu.id
  have hts : (Server.topOfLoop srv).2.1 = 20000 := by
    rw [topOfLoop_timeout h.srv.solo]
    have : Server.live (Server.getUser srv P.u) srv.now = true := by
      simp [Server.live, h.srv.x.active, h.srv.x.enabled, h.srv.live]
    rw [if_pos ⟨this, by rw [h.qs]; exact hQid⟩]
  have hready2 : CReadyM P true c2 outU 0 0 :=
    ⟨hc2st.toM, Or.inr hc2cnt, by rw [hc2out, hsf.odata]; exact h.ready.data, by rw [hc2out, hsf.olen]; exact h.ready.len,
      by rw [hc2out, hsf.ooff]; exact h.ready.off, by rw [hc2out, hsf.ofrag]; exact h.ready.frag, h.ready.ho, h.ready.hf,
      h.ready.bytes⟩
  obtain ⟨c1, hc1, hready1, hcli3⟩ := cliDoes_resend hP hready2 (by rw [hc2res, hres']; omega)
    (by rw [advanceClock_soon c2 hc2sps]; exact hc2st.alive)
  rw [advanceClock_soon c2 hc2sps] at hc1
  have hbf1 : BookFacts c c1 := by rw [hc1]; exact ⟨hc2bf.cmc, hc2bf.seed, hc2bf.cid, hc2bf.now, hc2bf.oseq⟩
  refine ⟨⟨⟨{ sentStateL c1 with sendPingSoon := 0 }, .tunnel⟩, srv, upOfEvents (Client.sendChunk c1).evs, [],
      tC ++ [tunImage fd], tS⟩, c1, ?_,
    ⟨⟨rfl, hready1.lazy, rfl, rfl⟩, h.toParkedSrv, rfl, hbf1.cid.trans hsi.cid, hbf1.cmc.trans (hsf.cmc36 h.ready.stat.cmc),
      hbf1.seed.trans hsf.seed, hbf1.oseq.trans hsf.oseq, by rw [hc1]; exact hc2in, h.ready.stat.cmc,
      by show (Server.getUser srv P.u).outpacket.len = 0; rw [h.op],
      by show (Server.getUser srv P.u).outpacket.seqno = sq; rw [h.op]⟩,
    rfl, rfl, rfl⟩
  rw [ps_down0 hcli2 hc2bf.now,
    ps_tickC (t := 5000) (by simp [quiet, h.q, h.lz]) (by simp [timeoutC, Client.pending, Client.selectOf, hc2sps])
      (by rw [hts]; decide) hcli3,
    srvAt_same (by show ({ sentStateL c1 with sendPingSoon := 0 } : Client.Cli).now = c2.now
                   rw [(sentFactsL c1).now, hc1])]
  simp only [promptSteps, List.append_nil]

/-- steps 4 and 5 (`deliverUp`: the server recognises the resent chunk as a duplicate, answers the PARKED query with the
acknowledgement and holds the new one; `deliverDown`: the client's packet is complete) -/
theorem single_step45 {P : Par} (hP : P.Ok) {outU : List Nat} {w : W} {c0 c1 : Client.Cli} {Q : Server.Query} {sq : Int}
    (h : ResentL P outU w c0 c1 Q sq) (hU1 : fragLen P (outU.drop 0) = outU.length) :
    ∃ w5, promptSteps P.u 2 w = some w5 ∧ QuietLazy P w5 ∧ w5.tunS = w.tunS ∧ w5.tunC = w.tunC ∧
      (Server.getUser w5.srv P.u).tunIp = (Server.getUser w.srv P.u).tunIp ∧
      (Server.getUser w5.srv P.u).fragsize = (Server.getUser w.srv P.u).fragsize := by
  obtain ⟨cs, srv, up, down, tC, tS⟩ := w
  obtain ⟨name, rfl, rfl, hsend, hm1, hm2, hQ1⟩ := h.toUpSentL.query hP
  obtain ⟨dsq, dfr, lastf, chunk, hu⟩ := h.upq
  obtain rfl : down = [] := h.down
  have hsf := sentFactsL c1
  have hsi := sentIdsL c1
  have hcst := cstat_sentL h.ready
  have hsqc : ((c1.outpkt.seqno.toNat : Nat) : Int) = c1.outpkt.seqno := by have := h.ready.stat.oseq; omega
  rw [h.c1cmc] at hQ1
  obtain ⟨s', evs, t, hit, hdown, htun, hS', hidle', hqeq', hmem', hin', hout', hoq', htip', hnow', hfrag'⟩ :=
    srv_recv_dup_qs hP h.srv h.c0cmc h.aged h.paged hu.heldBase (hu.heldData h.c0cmc) h.q h.qs h.lz h.op hQ1
      (by rw [h.iseq, hsqc, h.c1oseq]) (by rw [h.ifrag]; omega)
  generalize hpkt : Server.scPkt (Server.getUser srv P.u) 0 = pkt at hdown
  obtain ⟨hlen2, hdn, hus, huf⟩ := ack_hdr (x := Server.getUser srv P.u) (y := Server.getUser srv P.u) hpkt.symm
    h.srv.x.iseq h.srv.x.ifrag rfl h.srv.x.oseq h.srv.x.ofrag
  have hcnt2 : CntOk { sentStateL c1 with sendPingSoon := 0 } 2 := hsi.cnt h.ready.cnt
  generalize hc : ({ sentStateL c1 with sendPingSoon := 0 } : Client.Cli) = c at hsf hcst hsi hcnt2 ⊢
  have hsending : Client.isSending c = true := by
    unfold Client.isSending
    rw [hsf.olen, h.ready.len]
    have hlen0 : outU.length ≠ 0 := by have := h.ready.ho; omega
    simpa using hlen0
  have hdl := tunnelDns_dataless c ⟨(pkt.length : Int), Q.id, answerType Q.type, 0, Q.name.headD 0, pkt⟩
    (by rw [headD_eq_getD]; exact notData_held (hsf.useridChar.trans h.ready.stat.uch) _ (Or.inl hu.c0))
    hlen2
    (by unfold Client.recentId; show (Q.id == c.chunkid || Q.id == c.chunkidPrev || Q.id == c.chunkidPrev2) = true
        rw [hsi.prev, h.qid, h.c1id]; simp)
    hsf.sps
    (Or.inr (by show Q.id ≠ c.chunkid; rw [h.qid, ← h.c1id]; exact fun e => hsi.ne h.ready.stat.cid e.symm))
    (by show (Client.decodeHdr pkt).dnSeq = c.inpkt.seqno; rw [hdn, h.oseq, hsf.inpkt, h.c1iseq])
  have hdone := upstream_ack_done_of (ackBook_outpkt c) (Client.decodeHdr pkt) [] false 2 hsending
    (by rw [hus, h.iseq, hsf.oseq, h.c1oseq])
    (by rw [huf, h.ifrag, hsf.ofrag, h.ready.frag]; rfl)
    (by rw [hsf.ooff, hsf.osent, hsf.olen, cFragLen_readyL h.ready, hU1, h.ready.off, h.ready.len]; omega)
  have hbf : BookFacts c (ackDone (ackBook c)) := (BookFacts.refl c).ackBook.ackDone
  have hcdstat : CStatL P (ackDone (ackBook c)) := cstatL_ackDone (cstat_ackBookL hcst)
  have hcdcnt : CntOk (ackDone (ackBook c)) 1 := ackBook_cnt c hcnt2
  have hcdidle : Client.isSending (ackDone (ackBook c)) = false := by unfold ackDone; rfl
  have hcdin : (ackDone (ackBook c)).inpkt = c.inpkt := (ackDone_inpkt _).trans (ackBook_inpkt c)
  have hcli : CliDoes ⟨c, .tunnel⟩ (cliInput (.ans Q.id Q.type Q.name pkt)) ⟨ackDone (ackBook c), .tunnel⟩ [] [] :=
    cliDoes_quiet hcst (show _ = (ackDone (ackBook c), [], .ret 2) from (hdl.trans hdone).trans (by simp [Client.finalPing]))
      hcdstat.running
  generalize ackDone (ackBook c) = cd at hbf hcdstat hcdcnt hcdidle hcdin hcli
  have hcmc' : cd.datacmc = (c0.datacmc + 2) % 36 := by
    rw [hbf.cmc, hsf.cmc36 h.ready.stat.cmc, h.c1cmc]
    have := h.c0cmc
    omega
  have hseed' : cd.randSeed = c0.randSeed := by rw [hbf.seed, hsf.seed, h.c1seed]
  refine ⟨⟨⟨cd, .tunnel⟩, s', [], [], tC, tS⟩, ?_,
    ⟨rfl, hcdstat, hcdcnt, hcdidle, rfl, rfl, hS', hidle', by rw [hoq']; exact h.oq, ?_, ?_, ?_, ?_, ?_⟩, rfl, rfl, htip', hfrag'⟩
  · rw [ps_up0 (SrvDoes.mk hit hdown htun), ps_down0 hcli hbf.now]
    simp only [promptSteps, List.append_nil]
  · show HeldBase P (Server.getUser s' P.u).q
    rw [hqeq']; exact hQ1.heldBase
  · show (Server.getUser s' P.u).q.id = cd.chunkid
    rw [hqeq', upQuery_id, hbf.cid]; exact hsi.cid.symm
  · show (Server.getUser s' P.u).inpacket.seqno = cd.outpkt.seqno
    rw [hin', h.iseq, hbf.oseq, hsf.oseq, h.c1oseq]
  · show (Server.getUser s' P.u).outpacket.seqno = cd.inpkt.seqno
    rw [hout', h.oseq, hcdin, hsf.inpkt, h.c1iseq]
  · show HeldMem P (Server.getUser s' P.u) (Server.getUser s' P.u).q cd.datacmc cd.randSeed
    rw [hqeq', hcmc', hseed']; exact hmem'

end Iodine.C02L
