import IodineModel.Getopt
import IodineModel.Props.C19
/-
Helper lemmas about the libc pieces of IodineModel/Getopt.lean: the 33-byte password buffer (`strncpy` / `snprintf`),
ranges of `atoi` and `inet_addr`; and the option loop both `main()`s run over what `getopt` returns: the last `-P`
(`lastPFrom`), where option arguments come from (`scan_args`), the invariant principle `optLoop_inv`.
-/
namespace Iodine.OptL
open Iodine Iodine.Getopt Iodine.Client.Shell
open Iodine.C19 (pad32 pad32_length)

theorem take32_replicate33 (a : List Nat) : (a ++ List.replicate 33 0).take 32 = pad32 a := by
  have h : List.replicate 33 (0 : Nat) = List.replicate 32 0 ++ [0] := by decide
  rw [h, ← List.append_assoc, pad32]
  exact List.take_append_of_le_length (by simp)

/-- `strncpy(password, optarg, 33); password[32] = 0;` leaves the argument cut at 32 bytes and ZERO PADDED, whatever the buffer
held before -/
theorem strncpy_set (buf a : List Nat) (h : buf.length = 33) :
    (strncpy buf a 33).set 32 0 = pad32 a ++ [0] := by
  have hd : buf.drop 33 = [] := List.drop_eq_nil_of_le (by omega)
  have hl : ((a ++ List.replicate 33 0).take 33).length = 33 := by
    simp only [List.length_take, List.length_append, List.length_replicate]; omega
  unfold strncpy
  rw [hd, List.append_nil]
  generalize hx : (a ++ List.replicate 33 0).take 33 = x at hl
  have h32 : x.take 32 = pad32 a := by
    rw [← hx, List.take_take]; exact take32_replicate33 a
  rw [← h32]
  apply List.ext_getElem
  · simp [hl]
  · intro i h1 h2
    simp only [List.length_set] at h1
    by_cases hi : i = 32
    · subst hi; simp [List.getElem_append_right, hl]
    · have : i < 32 := by omega
      rw [List.getElem_set_ne (by omega), List.getElem_append_left (by simp; omega), List.getElem_take]

theorem strncpy_set_length (buf a : List Nat) (h : buf.length = 33) : ((strncpy buf a 33).set 32 0).length = 33 := by
  rw [strncpy_set buf a h]; simp [pad32_length]

/-- on an all-zero buffer `snprintf(password, 33, "%s", e)` gives the same block -/
theorem snprintf_zeros (e : List Nat) : snprintfS (List.replicate 33 0) e 33 = pad32 e ++ [0] := by
  unfold snprintfS pad32
  apply List.ext_getElem?
  intro i
  simp only [Nat.add_one_sub_one, List.drop_replicate, List.getElem?_append, List.length_take, List.length_append,
    List.length_replicate, List.getElem?_take, List.getElem?_replicate, List.length_cons, List.length_nil]
  have hk : min e.length 32 ≤ 32 := by omega
  have hk2 : min e.length 32 ≤ e.length := by omega
  have hk3 : e.length ≤ 32 → min e.length 32 = e.length := by omega
  have hk4 : 32 ≤ e.length → min e.length 32 = 32 := by omega
  generalize min e.length 32 = k at *
  have hm : min k e.length = k := Nat.min_eq_left hk2
  simp only [hm]
  rcases Nat.lt_trichotomy i k with hi | hi | hi
  · have a1 : i < k + 1 := by omega
    have a2 : i < 32 := by omega
    have a3 : i < e.length := by omega
    simp [hi, a1, a2, a3]
  · subst hi
    by_cases h32 : i = 32
    · subst h32; simp
    · have a2 : i < 32 := by omega
      have a3 : ¬ i < e.length := by omega
      have a5 : i - e.length < 32 := by omega
      simp [a2, a3, a5]
  · have a1 : ¬ i < k := by omega
    have a0 : ¬ i < k + 1 := by omega
    by_cases h32 : i < 32
    · have a3 : ¬ i < e.length := by omega
      have a4 : i - (k + 1) < 32 - k := by omega
      have a5 : i - e.length < 32 := by omega
      simp [a0, h32, a3, a4, a5]
    · by_cases h33 : i = 32
      · subst h33
        simp [a0]
        omega
      · have a4 : ¬ i - (k + 1) < 32 - k := by omega
        have a7 : i - 32 ≠ 0 := by omega
        simp [a0, h32, a4, a7]

theorem toInt32_lt (x : Int) : toInt32 x < 2 ^ 31 := by unfold toInt32; omega
theorem toInt32_ge (x : Int) : -(2 ^ 31) ≤ toInt32 x := by unfold toInt32; omega

theorem atoi_lt (s : List Nat) : atoi s < 2 ^ 31 := toInt32_lt _
theorem atoi_ge (s : List Nat) : -(2 ^ 31) ≤ atoi s := toInt32_ge _

theorem fold_bytes_lt : ∀ (bytes : List Nat) (acc : Nat), (∀ b ∈ bytes, b ≤ 255) →
    bytes.foldl (fun acc b => acc * 256 + b) acc < (acc + 1) * 256 ^ bytes.length
  | [], acc, _ => by simp
  | b :: rest, acc, h => by
    have hb : b ≤ 255 := h b (by simp)
    have ih := fold_bytes_lt rest (acc * 256 + b) (fun x hx => h x (by simp [hx]))
    simp only [List.foldl_cons, List.length_cons]
    calc _ < (acc * 256 + b + 1) * 256 ^ rest.length := ih
      _ ≤ ((acc + 1) * 256) * 256 ^ rest.length := Nat.mul_le_mul_right _ (by omega)
      _ = (acc + 1) * 256 ^ (rest.length + 1) := by rw [Nat.pow_succ, Nat.mul_assoc, Nat.mul_comm 256]

/-- every address `inet_aton` accepts fits 32 bits -/
theorem atonGo_lt : ∀ (n : Nat) (bytes s : List Nat) (v : Nat), (∀ b ∈ bytes, b ≤ 255) → bytes.length ≤ 3 →
    atonGo n bytes s = some v → v < 2 ^ 32
  | 0, _, _, _, _, _, h => by simp [atonGo] at h
  | n + 1, bytes, s, v, hb, hlen, h => by
    unfold atonGo at h
    split at h
    · exact absurd h (by simp)
    · split at h
      · exact absurd h (by simp)
      · simp only at h
        split at h
        · exact absurd h (by simp)
        · split at h
          · split at h
            · exact absurd h (by simp)
            · rename_i hnot
              refine atonGo_lt n _ _ v ?_ ?_ h
              · intro b hb'
                rcases List.mem_append.1 hb' with hb' | hb'
                · exact hb b hb'
                · simp only [List.mem_singleton] at hb'; omega
              · simp only [List.length_append, List.length_cons, List.length_nil]; omega
          · have hf := fold_bytes_lt bytes 0 hb
            generalize List.foldl (fun acc b => acc * 256 + b) 0 bytes = f at *
            generalize (strtoul0 s).fst = r at *
            repeat' split at h
            all_goals try (simp at h; done)
            all_goals
              rename_i hmax
              simp only [Option.some.injEq] at h
              subst h
              obtain h0 | h1 | h2 | h3 : bytes.length = 0 ∨ bytes.length = 1 ∨ bytes.length = 2 ∨ bytes.length = 3 := by omega
              · rw [h0] at hmax hf ⊢; simp at hmax hf ⊢; omega
              · rw [h1] at hmax hf ⊢; simp at hmax hf ⊢; omega
              · rw [h2] at hmax hf ⊢; simp at hmax hf ⊢; omega
              · rw [h3] at hmax hf ⊢; simp at hmax hf ⊢; omega

theorem inetAddr_le (s : List Nat) : inetAddr s ≤ 0xffffffff := by
  unfold inetAddr
  cases h : atonGo 4 [] s with
  | none => simp
  | some v => have := atonGo_lt 4 [] s v (by simp) (by simp) h; simp only [Option.getD_some]; omega

/-- the 33-byte block for "the last `-P` argument so far" (`none`: no `-P` yet, the zero-initialised static) -/
def blk : Option (List Nat) → List Nat
  | none => List.replicate 33 0
  | some p => pad32 p ++ [0]

theorem blk_length (l : Option (List Nat)) : (blk l).length = 33 := by
  cases l <;> simp [blk, pad32_length]

/-- the password both programs end up with: the last `-P` argument if it is not empty, else the environment variable, else the
first line typed at the prompt (at most 79 characters) -/
def effective (last envPass : Option (List Nat)) (typed : List Nat) : List Nat :=
  match last with
  | some (c :: p) => c :: p
  | _ =>
    match envPass with
    | some e => e
    | none => (typed.takeWhile (· ≠ 10)).take 79

theorem strlen_zeros : strlen (List.replicate 33 0) = 0 := by decide

theorem blk_nil : blk (some []) = List.replicate 33 0 := by decide

/-- the password block after the `if (strlen(password) == 0)` block: the effective password cut at 32 bytes and zero padded -/
theorem passwordPhase_block (envPass : Option (List Nat)) (typed : List Nat) (last : Option (List Nat))
    (hnz : ∀ p, last = some p → 0 ∉ p) :
    (passwordPhase envPass typed (blk last)).1 = pad32 (effective last envPass typed) ++ [0] := by
  have zero_case : (passwordPhase envPass typed (List.replicate 33 0)).1 =
      pad32 (match envPass with | some e => e | none => (typed.takeWhile (· ≠ 10)).take 79) ++ [0] := by
    unfold passwordPhase
    rw [if_pos strlen_zeros]
    cases envPass with
    | some e => exact snprintf_zeros e
    | none => exact strncpy_set _ _ (by simp)
  match last, hnz with
  | none, _ => exact zero_case
  | some [], _ => rw [blk_nil]; exact zero_case
  | some (c :: p), hnz =>
    have hc : c ≠ 0 := fun h => hnz (c :: p) rfl (by simp [h])
    have hne : strlen (blk (some (c :: p))) ≠ 0 := by
      simp only [blk, pad32, strlen, List.cons_append, List.take_succ_cons]
      rw [List.takeWhile_cons_of_pos (by simpa using hc)]
      simp
    unfold passwordPhase
    rw [if_neg hne]
    rfl

/-! ### the option loop both `main()`s run over what `getopt` returns -/

/-- the argument, if what `getopt` returned is a `-P` (`'P'` = 80) -/
def pArg (x : Opt) : Option (List Nat) :=
  match x with
  | .arg 80 a => some a
  | _ => none

theorem pArg_eq_some {x : Opt} {p : List Nat} (h : pArg x = some p) : x = .arg 80 p := by
  unfold pArg at h
  split at h
  · injection h with h; rw [h]
  · cases h

/-- the argument of the last `-P` among the values `getopt` returned, `prev` if there is none -/
def lastPFrom (xs : List Opt) (prev : Option (List Nat)) : Option (List Nat) :=
  xs.foldl (fun p x => (pArg x).or p) prev

theorem lastPFrom_cons (x : Opt) (xs : List Opt) (prev : Option (List Nat)) :
    lastPFrom (x :: xs) prev = lastPFrom xs ((pArg x).or prev) := rfl

theorem lastPFrom_eq : ∀ (xs : List Opt) (prev : Option (List Nat)),
    lastPFrom xs prev = ((xs.filterMap pArg).getLast?).or prev
  | [], _ => rfl
  | x :: xs, prev => by
    rw [lastPFrom_cons, lastPFrom_eq xs, List.filterMap_cons]
    cases pArg x with
    | none => rfl
    | some a =>
      dsimp only
      rw [List.getLast?_cons]
      cases (xs.filterMap pArg).getLast? <;> rfl

theorem lastPFrom_mem (xs : List Opt) (prev : Option (List Nat)) (p : List Nat)
    (h : lastPFrom xs prev = some p) : prev = some p ∨ Opt.arg 80 p ∈ xs := by
  rw [lastPFrom_eq, Option.or_eq_some_iff] at h
  rcases h with h | ⟨_, h⟩
  · obtain ⟨x, hx, hp⟩ := List.mem_filterMap.mp (List.mem_of_getLast? h)
    exact Or.inr (pArg_eq_some hp ▸ hx)
  · exact Or.inl h

/-- an option argument found in one `-xyz` element is the rest of that element -/
theorem cluster_args (os cs : List Nat) (a : List Nat) (c : Nat) (h : Opt.arg c a ∈ (cluster os cs).1) :
    ∃ pre, cs = pre ++ a := by
  fun_induction cluster os cs with
  | case1 | case2 | case4 => cases h
  | case3 c' cs _ _ ih =>
    rcases List.mem_cons.mp h with h | h
    · cases h
    · obtain ⟨pre, hp⟩ := ih h
      exact ⟨c' :: pre, by rw [hp]; rfl⟩
  | case5 c' cs =>
    injection List.mem_singleton.mp h with _ h
    exact ⟨[c'], by rw [h]; rfl⟩

/-- every option argument `getopt` hands out is an element of `argv` or the rest of one -/
theorem scan_args (os : List Nat) (argv nonopts : List (List Nat)) (c : Nat) (a : List Nat)
    (h : Opt.arg c a ∈ (scan os argv nonopts).1) : ∃ x ∈ argv, ∃ pre, x = pre ++ a := by
  have first : ∀ (x : List Nat) (rest : List (List Nat)), Opt.arg c a ∈ (cluster os (x.drop 1)).1 →
      ∃ y ∈ x :: rest, ∃ pre, y = pre ++ a := fun x rest hm => by
    obtain ⟨pre, hp⟩ := cluster_args os _ a c hm
    exact ⟨x, List.mem_cons_self, x.take 1 ++ pre, by rw [List.append_assoc, ← hp, List.take_append_drop]⟩
  have later : ∀ {x : List Nat} {rest : List (List Nat)}, (∃ y ∈ rest, ∃ pre, y = pre ++ a) →
      ∃ y ∈ x :: rest, ∃ pre, y = pre ++ a := fun ⟨y, hy, hp⟩ => ⟨y, List.mem_cons_of_mem _ hy, hp⟩
  fun_induction scan os argv nonopts with
  | case1 | case2 => cases h
  | case3 x rest nonopts _ _ opts hcl _ ih =>
    rcases List.mem_append.mp h with h | h
    · exact first x rest (hcl ▸ h)
    · exact later (ih h)
  | case4 x rest nonopts _ _ opts hcl | case5 x nonopts _ _ opts _ hcl =>
    rcases List.mem_append.mp h with h | h
    · exact first x _ (hcl ▸ h)
    · cases List.mem_singleton.mp h
  | case6 x nonopts _ _ opts c' hcl y rest _ ih =>
    rcases List.mem_append.mp h with h | h
    · exact first x _ (hcl ▸ h)
    · rcases List.mem_cons.mp h with h | h
      · injection h with _ h
        exact later ⟨y, List.mem_cons_self, [], by rw [h]; rfl⟩
      · exact later (later (ih h))
  | case7 x rest nonopts _ _ ih => exact later (ih h)

theorem lastP_nz (os : List Nat) (argv : List (List Nat)) (hc : ∀ a ∈ argv, 0 ∉ a) (p : List Nat)
    (h : lastPFrom (getoptAll os argv).1 none = some p) : 0 ∉ p := by
  rcases lastPFrom_mem _ _ p h with h1 | h1
  · cases h1
  · obtain ⟨x, hx, pre, hp⟩ := scan_args os (argv.drop 1) [] 80 p h1
    exact fun h0 => hc x (List.mem_of_mem_drop hx) (by rw [hp]; exact List.mem_append_right _ h0)

/-- both `main()`s run the same loop over what `getopt` returns: a property that one `switch` pass carries from "the last `-P` so
far was `prev`" to "… is `(pArg x).or prev`" holds after the loop for the last `-P` of all -/
theorem optLoop_inv {σ : Type} {step : σ → Opt → Except Exit σ} {loop : σ → List Opt → Except Exit σ}
    (hnil : ∀ o, loop o [] = .ok o) (hcons : ∀ o x xs, loop o (x :: xs) = (step o x).bind fun o' => loop o' xs)
    {I : σ → Option (List Nat) → Prop}
    (hstep : ∀ o o' x prev, I o prev → step o x = .ok o' → I o' ((pArg x).or prev)) :
    ∀ (xs : List Opt) (o o' : σ) (prev : Option (List Nat)), I o prev → loop o xs = .ok o' → I o' (lastPFrom xs prev)
  | [], o, o', prev, hi, h => by
    rw [hnil] at h; injection h with h; exact h ▸ hi
  | x :: xs, o, o', prev, hi, h => by
    rw [hcons] at h
    cases h1 : step o x with
    | error e => rw [h1] at h; cases h
    | ok o1 =>
      rw [h1] at h
      exact optLoop_inv hnil hcons hstep xs o1 o' _ (hstep o o1 x prev hi h1) h

end Iodine.OptL
