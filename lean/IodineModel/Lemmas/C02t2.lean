import IodineModel.Lemmas.C02t
/-
TESTS, lazy mode: the concrete runs of `Lemmas/C02t.lean` (1, 2 and 5 fragments in both directions, sequences) from
`World.demoLazy`.
-/
namespace Iodine.C02L
open Iodine Iodine.World

/-- TEST lazy mode, upstream: 1 fragment, and a sequence of three packets that begins with it (decided together, as in
`test_imm_up_1_seq`) -/
theorem test_lazy_up_1_seq :
    deliversOnce (demoLazy .b32 .b32) true (demoFrame 9 4) 3 = true ∧
    deliversInOrder (demoLazy .b32 .b32) true [demoFrame 9 4, demoFrame 9 40, demoFrame 9 10] = true := by
  unfold deliversOnce deliversInOrder demoLazy
  rw [runPromptCount_fast, offerAllC_fast, run_fast, step_fast]
  decide +kernel

/-- TEST lazy mode, upstream -/
theorem test_lazy_up_1 : deliversOnce (demoLazy .b32 .b32) true (demoFrame 9 4) 3 = true := test_lazy_up_1_seq.1
theorem test_lazy_up_2 : deliversOnce (demoLazy .b32 .b32) true (demoFrame 9 30) 5 = true := by
  unfold deliversOnce demoLazy; rw [runPromptCount_fast, run_fast, step_fast]; decide +kernel
theorem test_lazy_up_5 : deliversOnce (demoLazy .b32 .b32) true (demoFrame 9 100) 11 = true := by
  unfold deliversOnce demoLazy; rw [runPromptCount_fast, run_fast, step_fast]; decide +kernel

/-- TEST lazy mode, downstream -/
theorem test_lazy_down_1 : deliversOnce (demoLazy .b32 .b32) false (demoFrame 2 4) 3 = true := by decide +kernel
theorem test_lazy_down_2 : deliversOnce (demoLazy .b32 .b32) false (demoFrame 2 30) 5 = true := by decide +kernel
theorem test_lazy_down_5 : deliversOnce (demoLazy .b32 .b32) false (demoFrame 2 100) 11 = true := by
  unfold deliversOnce demoLazy; rw [runPromptCount_fast, run_fast, step_fast]; decide +kernel

/-- TEST sequences in lazy mode -/
theorem test_seq_lazy_up : deliversInOrder (demoLazy .b32 .b32) true [demoFrame 9 4, demoFrame 9 40, demoFrame 9 10] = true :=
  test_lazy_up_1_seq.2
theorem test_seq_lazy_down : deliversInOrder (demoLazy .b32 .b32) false [demoFrame 2 4, demoFrame 2 40, demoFrame 2 10] = true := by
  unfold deliversInOrder demoLazy; rw [offerAllS_fast, run_fast]; decide +kernel

end Iodine.C02L
