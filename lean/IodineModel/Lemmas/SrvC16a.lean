import IodineModel.Lemmas.SrvC04a
/-
The ring buffers of a session (answer cache, ping memory, data memory): the slot written `i` saves ago (`ringPos`) and what
a save does to it, and the scan of `dnscacheFind` over the cache (`dnscacheFind_at`, `dnscacheFind_some`).  Shared: C16's
invariant, the cache lookup of `HandlerCases`, and the freshness lemmas of C02 rest on them.
-/
namespace Iodine.C16L
open Iodine Iodine.Server Iodine.Gen

@[simp] theorem setUser_cfg (s : Srv) (u : Nat) (f : Session → Session) : (setUser s u f).cfg = s.cfg := rfl
@[simp] theorem setUser_now (s : Srv) (u : Nat) (f : Session → Session) : (setUser s u f).now = s.now := rfl
@[simp] theorem setUser_fw (s : Srv) (u : Nat) (f : Session → Session) : (setUser s u f).fw = s.fw := rfl
@[simp] theorem setUser_rand (s : Srv) (u : Nat) (f : Session → Session) : (setUser s u f).rand = s.rand := rfl

/-- the slot that was filled `i` saves ago, when `last` is the slot filled most recently
(`answer_from_dnscache`: `use = lastfilled - i; if (use < 0) use += LEN`) -/
def ringPos (L last i : Nat) : Nat := if last < i then last + L - i else last - i

/-- the slot the next save goes to -/
def ringFill (L last : Nat) : Nat := if last + 1 ≥ L then 0 else last + 1

theorem ringFill_lt (L last : Nat) (hL : 0 < L) : ringFill L last < L := by
  unfold ringFill; split <;> omega

theorem ring_push_zero {α : Type} (mem : List α) (L last : Nat) (hL : mem.length = L) (h0 : 0 < L)
    (v d : α) : (mem.set (ringFill L last) v).getD (ringPos L (ringFill L last) 0) d = v := by
  have hf := ringFill_lt L last h0
  have : ringPos L (ringFill L last) 0 = ringFill L last := by simp [ringPos]
  rw [this, List.getD_eq_getElem?_getD, List.getElem?_set_self (by omega)]
  rfl

theorem ring_push_succ {α : Type} (mem : List α) (L last i : Nat) (hlast : last < L)
    (hi : i + 1 < L) (v d : α) :
    (mem.set (ringFill L last) v).getD (ringPos L (ringFill L last) (i + 1)) d
      = mem.getD (ringPos L last i) d := by
  have hne : ringFill L last ≠ ringPos L (ringFill L last) (i + 1) := by
    unfold ringFill ringPos; split <;> split <;> omega
  have heq : ringPos L (ringFill L last) (i + 1) = ringPos L last i := by
    unfold ringFill ringPos; split <;> split <;> split <;> omega
  rw [List.getD_eq_getElem?_getD, List.getElem?_set_ne hne, heq, List.getD_eq_getElem?_getD]

theorem ringPos_lt (L last i : Nat) (hlast : last < L) (hi : i < L) : ringPos L last i < L := by
  unfold ringPos; split <;> omega

theorem ringPos_surj (L last k : Nat) (hlast : last < L) (hk : k < L) :
    ∃ i, i < L ∧ ringPos L last i = k := by
  by_cases h : k ≤ last
  · exact ⟨last - k, by omega, by unfold ringPos; split <;> omega⟩
  · exact ⟨last + L - k, by omega, by unfold ringPos; split <;> omega⟩

/-- the cache entry written `i` saves ago -/
def cacheAt (x : Session) (i : Nat) : DnsCacheEntry :=
  x.dnscache.getD (ringPos DNSCACHE_LEN x.dcLast i) DnsCacheEntry.zero

/-- the entry is passed over by the loop of `answer_from_dnscache` -/
def Skips (e : DnsCacheEntry) (q : Query) : Prop :=
  e.q.id = 0 ∨ e.answerlen = 0 ∨ e.q.type ≠ q.type ∨ e.q.name ≠ q.name

/-- the entry is the one the loop returns -/
def Hits (e : DnsCacheEntry) (q : Query) : Prop :=
  e.q.id ≠ 0 ∧ e.answerlen ≠ 0 ∧ e.q.type = q.type ∧ e.q.name = q.name

theorem dnscacheFind_succ (x : Session) (q : Query) (n k : Nat) :
    dnscacheFind x q (n + 1) k =
      if (cacheAt x k).q.id = 0 then dnscacheFind x q n (k + 1)
      else if (cacheAt x k).answerlen = 0 then dnscacheFind x q n (k + 1)
      else if (cacheAt x k).q.type ≠ q.type ∨ (cacheAt x k).q.name ≠ q.name then dnscacheFind x q n (k + 1)
      else some (cacheAt x k) := rfl

theorem dnscacheFind_step_skip (x : Session) (q : Query) (n k : Nat) (h : Skips (cacheAt x k) q) :
    dnscacheFind x q (n + 1) k = dnscacheFind x q n (k + 1) := by
  rw [dnscacheFind_succ]
  generalize cacheAt x k = e at h ⊢
  unfold Skips at h
  split
  · rfl
  · split
    · rfl
    · split
      · rfl
      · exfalso
        rename_i h1 h2 h3
        rcases h with h | h | h | h
        · exact h1 h
        · exact h2 h
        · exact h3 (Or.inl h)
        · exact h3 (Or.inr h)

theorem dnscacheFind_step_hit (x : Session) (q : Query) (n k : Nat) (h : Hits (cacheAt x k) q) :
    dnscacheFind x q (n + 1) k = some (cacheAt x k) := by
  rw [dnscacheFind_succ]
  generalize cacheAt x k = e at h ⊢
  obtain ⟨h1, h2, h3, h4⟩ := h
  rw [if_neg h1, if_neg h2, if_neg (by rw [h3, h4]; simp)]

/-- the loop returns the most recent matching valid entry -/
theorem dnscacheFind_at (x : Session) (q : Query) (i : Nat)
    (hskip : ∀ j, j < i → Skips (cacheAt x j) q) (hit : Hits (cacheAt x i) q) :
    ∀ n k, k ≤ i → i < k + n → dnscacheFind x q n k = some (cacheAt x i) := by
  intro n
  induction n with
  | zero => intro k h1 h2; omega
  | succ n ih =>
    intro k h1 h2
    by_cases hk : k = i
    · subst hk; exact dnscacheFind_step_hit x q n k hit
    · rw [dnscacheFind_step_skip x q n k (hskip k (by omega))]
      exact ih (k + 1) (by omega) (by omega)

/-- whatever the loop returns is a valid entry with the name and type of the query -/
theorem dnscacheFind_some (x : Session) (q : Query) (e : DnsCacheEntry) :
    ∀ n k, dnscacheFind x q n k = some e → Hits e q ∧ ∃ i, k ≤ i ∧ i < k + n ∧ e = cacheAt x i := by
  intro n
  induction n with
  | zero => intro k h; simp [dnscacheFind] at h
  | succ n ih =>
    intro k h
    rw [dnscacheFind_succ] at h
    split at h
    · obtain ⟨a, i, h1, h2, h3⟩ := ih (k + 1) h; exact ⟨a, i, by omega, by omega, h3⟩
    · split at h
      · obtain ⟨a, i, h1, h2, h3⟩ := ih (k + 1) h; exact ⟨a, i, by omega, by omega, h3⟩
      · split at h
        · obtain ⟨a, i, h1, h2, h3⟩ := ih (k + 1) h; exact ⟨a, i, by omega, by omega, h3⟩
        · rename_i h1 h2 h3
          injection h with h
          subst h
          refine ⟨⟨h1, h2, ?_, ?_⟩, k, Nat.le_refl k, by omega, rfl⟩
          · exact Classical.byContradiction fun hc => h3 (Or.inl hc)
          · exact Classical.byContradiction fun hc => h3 (Or.inr hc)

/-- the lookup depends on the query's name and type only (not on id, source address, id2, …) -/
theorem dnscacheFind_congr (x : Session) (q q' : Query) (hn : q'.name = q.name) (ht : q'.type = q.type) :
    ∀ n k, dnscacheFind x q' n k = dnscacheFind x q n k := by
  intro n
  induction n with
  | zero => intro k; rfl
  | succ n ih =>
    intro k
    rw [dnscacheFind, dnscacheFind]
    simp only [hn, ht, ih]

end Iodine.C16L
