import IodineModel.Lemmas.SrvC04a
/-
Basics about `putUser` for the C02 lemma files: every write to a slot is an overwrite (`putUser`) with a value computed
from the old slot (`setUser_eq_putUser`).  The algebra of `getUser` / `setUser` itself stands in `SrvC04a.lean` (`C04L`).

Suffix letters on lemma and structure names in the `C02*` files (after the name proper, alone or combined, e.g. `QuietImmDS`):
`M` the DNS mode is a parameter (`CStatM P lz`, `CReadyM`, `MemM`, `QuietMD P m du dd`: the chain that is stated once for both
modes, C02mode, C02up*, C02down*; its instances carry `L` or nothing); `L` lazy mode (no letter, or `Imm`: immediate mode) —
but `L` on the client's state functions (`sentStateL`, `pingStateL`, …): the form that counts sends, which both modes run (`PutL`,
`putL`, C02L2, serve both modes as well);
`D` desynchronised — the sequence numbers of the two sides are `du`/`dd` apart; `S` with freshness slacks `sl`, `sp` as
parameters (the plain name is slack 1); `W` the fragment in flight may be taken through the client's "weird situation" clause;
`G` no bound on the server's resend counter is assumed; `T` (only `UpFlightT`) the server assembles bytes `T` that may differ
from the client's packet (clean path: `T = out`).
(`offerS`/`offerC`, `stepS`/`stepC`, `tunS`/`tunC` are the server's and the client's side of `World`, not suffixes.)
-/
namespace Iodine.C02L
open Iodine Iodine.Server

def putUser (s : Srv) (u : Nat) (x : Session) : Srv := setUser s u (fun _ => x)

theorem setUser_eq_putUser (s : Srv) (u : Nat) (f : Session → Session) : setUser s u f = putUser s u (f (getUser s u)) :=
  C04L.setUser_eq_const s u f

theorem putUser_putUser (s : Srv) (u : Nat) (x y : Session) : putUser (putUser s u x) u y = putUser s u y :=
  C04L.setUser_setUser s u _ _

theorem getUser_putUser_self (s : Srv) (u : Nat) (x : Session) (h : u < s.users.length) : getUser (putUser s u x) u = x :=
  C04L.getUser_setUser_self s u _ h

theorem getUser_putUser_ne (s : Srv) (u v : Nat) (x : Session) (h : v ≠ u) : getUser (putUser s u x) v = getUser s v :=
  C04L.getUser_setUser_ne s u _ v h

theorem putUser_getUser (s : Srv) (u : Nat) : putUser s u (getUser s u) = s :=
  C04L.setUser_id s u _ rfl

@[simp] theorem putUser_length (s : Srv) (u : Nat) (x : Session) : (putUser s u x).users.length = s.users.length := by
  simp [putUser, setUser]
@[simp] theorem putUser_cfg (s : Srv) (u : Nat) (x : Session) : (putUser s u x).cfg = s.cfg := rfl
@[simp] theorem putUser_now (s : Srv) (u : Nat) (x : Session) : (putUser s u x).now = s.now := rfl
@[simp] theorem putUser_fw (s : Srv) (u : Nat) (x : Session) : (putUser s u x).fw = s.fw := rfl
@[simp] theorem putUser_rand (s : Srv) (u : Nat) (x : Session) : (putUser s u x).rand = s.rand := rfl
@[simp] theorem setUser_cfg (s : Srv) (u : Nat) (f : Session → Session) : (setUser s u f).cfg = s.cfg := rfl
@[simp] theorem setUser_now (s : Srv) (u : Nat) (f : Session → Session) : (setUser s u f).now = s.now := rfl
@[simp] theorem usercount_putUser (s : Srv) (u : Nat) (x : Session) : usercount (putUser s u x) = usercount s := by
  simp [usercount]

theorem putUser_withNow (s : Srv) (u : Nat) (x : Session) (n : Nat) :
    putUser { s with now := n } u x = { putUser s u x with now := n } := rfl

theorem getUser_withNow (s : Srv) (u n : Nat) : getUser { s with now := n } u = getUser s u := rfl

theorem getUser_put_now (s : Srv) (u : Nat) (y : Session) (n : Nat) (h : u < s.users.length) :
    getUser { putUser s u y with now := n } u = y := by
  rw [getUser_withNow, getUser_putUser_self _ _ _ h]

theorem putUser_put_now (s : Srv) (u : Nat) (y z : Session) (n : Nat) :
    putUser { putUser s u y with now := n } u z = { putUser s u z with now := n } := by
  rw [putUser_withNow, putUser_putUser]

end Iodine.C02L
