import IodineModel.Lemmas.C02g
import IodineModel.Lemmas.C02u1
import IodineModel.Lemmas.C02v4
import IodineModel.Lemmas.C02d2
import IodineModel.Lemmas.C02v5
/-
Server side of a DOWNSTREAM transfer, on the slot.  A tun frame starts an outpacket (`tunnelTun_start`).  A ping that finds no
query waiting is acknowledged and stored (`pingSess_noq`) and answered at once — immediate mode, or lazy mode with something left
to send (`pingSess_answer`; on the server: `iteration_ping_noq`, `srv_ping_answered`, concluding `AfterPing`).  `pingZ` is the slot
such a ping leaves, described by what the acknowledgement does: the fragment goes out again or for the first time, the next
fragment, completion, a dataless answer or the drop.  `rest` is the slot without what an answered ping changes, `downLen` the
length of the next fragment.
-/
namespace Iodine.C02L
open Iodine Iodine.Gen Iodine.Server Iodine.World

/-! ### an iteration whose input is a tun frame, tun selected -/

theorem iteration_tun {u : Nat} {s : Srv} (hs : Solo u s) (f : List Nat) (now' : Nat) (y : Session) (evs : List Event)
    (hsel : (topOfLoop s).2.2 = true)
    (hd : tunnelTun { putUser s u (topSess (getUser s u) s.now) with now := now' } (f.take 65536) =
      ({ putUser s u y with now := now' }, evs)) :
    iteration s (.tun f) now' =
      ({ putUser s u (sweepSess y u now').1 with now := now' }, evs ++ [Event.sweep] ++ (sweepSess y u now').2,
       ((topOfLoop s).2.1, (topOfLoop s).2.2)) := by
  have hl := hs.lt
  unfold iteration body
  simp only [hsel, if_true]
  have hst := topOfLoop_state hs
  have hdisp : dispatch { (topOfLoop s).1 with now := now' } (.tun f) true =
      ({ putUser s u y with now := now' }, evs) := by
    rw [hst]
    exact hd
  rw [hdisp]
  have hsolo : Solo u { putUser s u y with now := now' } := (hs.putUser y).withNow now'
  simp only [andThen]
  rw [sweep_solo hsolo, sweepOne_eq _ _ (by simpa using hl)]
  rw [getUser_put_now _ _ _ _ hl, putUser_put_now]

theorem sweepSess_noqs {x : Session} (h : x.qs.id = 0) (u now : Nat) : sweepSess x u now = (x, []) := by
  unfold sweepSess
  rw [if_neg (fun hc => hc.2.1 h)]

/-- tun is in the read set of the server's `select` when its only session is live and either in raw mode or has room
in its queue of answers -/
theorem tunSelS_solo {u : Nat} {s : Srv} (h : Solo u s) (hl : live (getUser s u) s.now = true)
    (hc : (getUser s u).conn = .rawUdp ∨ ((getUser s u).conn = .dnsNull ∧ (getUser s u).oqFilled = 0)) :
    (topOfLoop s).2.2 = true := by
  have hst := topOfLoop_state h
  rw [topSess_of_live hl] at hst
  show (!allUsersWaitingToSend (topOfLoop s).1) = true
  rw [hst, allWaiting_solo (h.putUser _), getUser_putUser_self _ _ _ h.lt]
  have hlv : live ({ getUser s u with qsNew := false } : Session) (putUser s u { getUser s u with qsNew := false }).now = true := hl
  rw [hlv]
  rcases hc with hc | ⟨hc, ho⟩
  · simp [hc]
  · simp [hc, ho]

/-- `tunnel_tun` for a frame addressed to the (only) client, which has nothing in flight and no query waiting real soon: a new
outpacket is started; if a query is held (lazy mode between two queries) its first fragment goes out at once as the answer to that
query, else nothing is sent -/
theorem tunnelTun_start {u : Nat} {s : Srv} (hs : Solo u s) {x y : Session} (hg : getUser s u = x) (frame : List Nat)
    (h24 : 24 ≤ frame.length)
    (hx : x.active = true ∧ x.authenticated = true ∧ x.disabled = false ∧ x.lastPkt + 60 > s.now ∧ ipDst frame = x.tunIp)
    (hconn : x.conn = .dnsNull) (hout : x.outpacket.len = 0) (hqs : x.qs.id = 0)
    (hy : startOut x (compress frame) (compress frame).length = y) :
    tunnelTun s frame =
      if x.q.id = 0 then (putUser s u y, []) else (putUser s u (scSess y u .q).1.1, (scSess y u .q).1.2) := by
  subst hg
  unfold tunnelTun
  rw [if_neg (by omega), if_neg (by omega), findUserByIp_solo hs]
  simp only
  rw [if_pos ⟨hx.1, hx.2.1, by simp [hx.2.2.1], hx.2.2.2.1, hx.2.2.2.2⟩]
  simp only [hconn, if_true, hout, Nat.lt_irrefl, if_false]
  rw [startNewOutpacket_eq, hy]
  unfold sendWaiting
  simp only [getUser_putUser_self _ _ _ hs.lt]
  have h1 : y.qs.id = 0 := by rw [← hy]; exact hqs
  have h2 : y.q.id = (getUser s u).q.id := by rw [← hy]; rfl
  by_cases hq : (getUser s u).q.id = 0
  · rw [if_pos hq]
    simp [h1, h2, hq]
  · rw [if_neg hq, if_neg (by rw [h1]; simp), if_pos (by rw [h2]; exact hq), sendChunkOrDataless_eq _ _ _ (by simpa using hs.lt)]
    simp only [getUser_putUser_self _ _ _ hs.lt, putUser_putUser]

/-! ### the ping handler in immediate mode with no query waiting -/

theorem fromQueue_empty (z : Session) (hz : z.oqFilled = 0) : fromQueue z = (z, false) := by
  unfold fromQueue
  rw [if_pos hz]

theorem ackSess_cases (x : Session) (a b : Int) (h : x.oqFilled = 0) :
    ackSess x a b = x ∨ ∃ p, ackSess x a b = { x with outpacket := p, outfragresent := 0 } := by
  unfold ackSess
  by_cases h0 : x.outpacket.len = 0
  · rw [if_pos h0]; exact Or.inl rfl
  · rw [if_neg h0]
    by_cases h1 : x.outpacket.seqno ≠ a ∨ x.outpacket.fragment ≠ b
    · rw [if_pos h1]; exact Or.inl rfl
    · rw [if_neg h1]
      by_cases h2 : x.outpacket.sentlen = 0
      · rw [if_pos h2]; exact Or.inl rfl
      · rw [if_neg h2]
        simp only
        by_cases h3 : x.outpacket.offset + x.outpacket.sentlen ≥ x.outpacket.len
        · rw [if_pos h3, fromQueue_empty _ (by exact h)]; exact Or.inr ⟨_, rfl⟩
        · rw [if_neg h3]; exact Or.inr ⟨_, rfl⟩

theorem ackSess_core (x : Session) (a b : Int) (h : x.oqFilled = 0) :
    core (ackSess x a b) = core { x with outpacket := (ackSess x a b).outpacket, outfragresent := (ackSess x a b).outfragresent } := by
  rcases ackSess_cases x a b h with e | ⟨p, e⟩ <;> rw [e]

/-- with no query waiting the ping handler is: acknowledge, then its last stage (store the query; answer it at once or hold it) -/
theorem pingSess_noq (x : Session) (u : Nat) (Q : Query) (a b : Int) (now : Nat)
    (hq : x.q.id = 0) (hqs : x.qs.id = 0) (hoq : x.oqFilled = 0) :
    pingSess x u Q a b now = pingCSess (ackSess x a b) u Q false now := by
  have hc := ackSess_core x a b hoq
  have e1 : (ackSess x a b).qs = x.qs := by have := core_qs hc; exact this
  have e2 : (ackSess x a b).q = x.q := by have := core_q hc; exact this
  unfold pingSess pingASess pingBSess
  simp only [e1, hqs, ne_eq, not_true_eq_false, if_false, e2, hq]
  simp

/-- … in immediate mode, or when the acknowledgement leaves something to send: answered at once -/
theorem pingSess_answer (x : Session) (u : Nat) (Q : Query) (a b : Int) (now : Nat)
    (hq : x.q.id = 0) (hqs : x.qs.id = 0) (hoq : x.oqFilled = 0)
    (hmode : x.lazy = false ∨ 0 < (ackSess x a b).outpacket.len) :
    pingSess x u Q a b now = (scSess (saveQ (ackSess x a b) Q now) u .q).1 := by
  rw [pingSess_noq x u Q a b now hq hqs hoq]
  unfold pingCSess
  have e3 : (saveQ (ackSess x a b) Q now).lazy = x.lazy := by have := core_lazy (ackSess_core x a b hoq); exact this
  rcases hmode with hlz | hlen
  · exact if_pos (Or.inr (by rw [e3, hlz]; rfl))
  · exact if_pos (Or.inl ⟨rfl, hlen⟩)

/-- the slot with the fragment length noted and the send counted -/
def prepOut (y : Session) : Session :=
  { y with outpacket := { y.outpacket with sentlen := scDatalen y }, outfragresent := y.outfragresent + 1 }

/-- the slot after the fragment was answered to the query `w` points to -/
def answered (y : Session) (w : QSel) : Session :=
  w.set (cacheUpd (qmemUpd (prepOut y) (w.get y)) (w.get y) (scPkt (prepOut y) (scDatalen y))) { w.get y with id := 0 }

theorem memo_qset_out (y : Session) (q v : Query) (pkt : List Nat) :
    (QSel.q.set (cacheUpd (qmemUpd y q) q pkt) v).outpacket = y.outpacket ∧
    (QSel.q.set (cacheUpd (qmemUpd y q) q pkt) v).outfragresent = y.outfragresent := by
  have h1 := core_outpacket (core_memo y q pkt)
  have h2 := core_outfragresent (core_memo y q pkt)
  generalize cacheUpd (qmemUpd y q) q pkt = m at h1 h2 ⊢
  exact ⟨h1, h2⟩

theorem answered_outpacket (y : Session) (w : QSel) : (answered y w).outpacket = (prepOut y).outpacket := by
  have h := core_outpacket (core_memo (prepOut y) (w.get y) (scPkt (prepOut y) (scDatalen y)))
  unfold answered
  generalize cacheUpd (qmemUpd (prepOut y) (w.get y)) (w.get y) (scPkt (prepOut y) (scDatalen y)) = m at h ⊢
  cases w <;> exact h

theorem answered_outfragresent (y : Session) (w : QSel) : (answered y w).outfragresent = y.outfragresent + 1 := by
  have h := core_outfragresent (core_memo (prepOut y) (w.get y) (scPkt (prepOut y) (scDatalen y)))
  unfold answered
  generalize cacheUpd (qmemUpd (prepOut y) (w.get y)) (w.get y) (scPkt (prepOut y) (scDatalen y)) = m at h ⊢
  cases w <;> exact h

/-- `send_chunk_or_dataless` with a packet in flight that was not resent too often: the next fragment goes out -/
theorem scSess_data (y : Session) (u : Nat) (w : QSel) (hlen : y.outpacket.len > 0) (hres : y.outfragresent ≤ 5)
    (hid2 : (w.get y).id2 = 0) (hoq : y.oqFilled = 0) :
    scSess y u w =
      ((if scDatalen y > 0 ∧ scDatalen y = y.outpacket.len then dropOut (answered y w) else answered y w,
        [writeDns (w.get y) (scPkt (prepOut y) (scDatalen y)) y.downenc (.chunk u)]), false) := by
  have hd : dropResent y = y := by
    unfold dropResent
    rw [if_neg (by omega)]
  have hp : prepare y = prepOut y := by
    unfold prepare prepOut
    rw [if_pos hlen]
  have hdl : scDatalen (prepOut y) = scDatalen y := rfl
  have hget : w.get (prepOut y) = w.get y := by cases w <;> rfl
  have hdn : (prepOut y).downenc = y.downenc := rfl
  have hol : (prepOut y).outpacket.len = y.outpacket.len := rfl
  have hans : scAnswer (w.get y) (scPkt (prepOut y) (scDatalen y)) y.downenc u =
      (w.get y, [writeDns (w.get y) (scPkt (prepOut y) (scDatalen y)) y.downenc (.chunk u)]) := by
    unfold scAnswer
    rw [if_neg (by rw [hid2]; simp)]
  have hoqY : (answered y w).oqFilled = 0 := by
    have h1 := core_oqFilled (core_memo (prepOut y) (w.get y) (scPkt (prepOut y) (scDatalen y)))
    unfold answered
    generalize cacheUpd (qmemUpd (prepOut y) (w.get y)) (w.get y) (scPkt (prepOut y) (scDatalen y)) = m at h1 ⊢
    cases w <;> exact h1.trans hoq
  have hfq : fromQueue (dropOut (answered y w)) = (dropOut (answered y w), false) := by
    unfold fromQueue
    rw [if_pos (show (dropOut (answered y w)).oqFilled = 0 from hoqY)]
  unfold scSess
  simp only [hd, hp, hdl, hget, hdn, hol, hans]
  show (if scDatalen y > 0 ∧ scDatalen y = y.outpacket.len then
      (((fromQueue (dropOut (answered y w))).1, _), (fromQueue (dropOut (answered y w))).2) else ((answered y w, _), false)) = _
  rw [hfq]
  by_cases hw : scDatalen y > 0 ∧ scDatalen y = y.outpacket.len
  · rw [if_pos hw, if_pos hw]
  · rw [if_neg hw, if_neg hw]

/-- with nothing queued, a packet that was resent too often is dropped and `send_chunk_or_dataless` goes on as if the slot
had been idle -/
theorem scSess_drop (y : Session) (u : Nat) (w : QSel) (hlen : y.outpacket.len > 0) (hres : y.outfragresent > 5)
    (hoq : y.oqFilled = 0) : scSess y u w = scSess (dropOut y) u w := by
  have h1 : dropResent y = dropOut y := by
    unfold dropResent
    rw [if_pos ⟨hlen, hres⟩, fromQueue_empty _ (by exact hoq)]
  have h2 : dropResent (dropOut y) = dropOut y := by
    unfold dropResent
    rw [if_neg (by intro h; exact absurd h.1 (by show ¬ (0 > 0); omega))]
  unfold scSess
  rw [h1, h2]

/-! ### what the ping handler never touches -/

/-- the slot without its memories, outpacket, resend counter, stored query, `last_pkt` and the `qsNew` flag -/
def rest (x : Session) : Session :=
  { core x with outpacket := Packet.zero, outfragresent := 0, q := Query.zero, lastPkt := 0, qsNew := false }

theorem rest_of_core {a b : Session} (h : core a = core b) : rest a = rest b :=
  congrArg (fun y : Session => ({ y with outpacket := Packet.zero, outfragresent := 0, q := Query.zero, lastPkt := 0, qsNew := false } : Session)) h

theorem rest_active {a b : Session} (h : rest a = rest b) : a.active = b.active := show (rest a).active = (rest b).active from congrArg Session.active h
theorem rest_authenticated {a b : Session} (h : rest a = rest b) : a.authenticated = b.authenticated := show (rest a).authenticated = (rest b).authenticated from congrArg Session.authenticated h
theorem rest_authenticatedRaw {a b : Session} (h : rest a = rest b) : a.authenticatedRaw = b.authenticatedRaw := show (rest a).authenticatedRaw = (rest b).authenticatedRaw from congrArg Session.authenticatedRaw h
theorem rest_disabled {a b : Session} (h : rest a = rest b) : a.disabled = b.disabled := show (rest a).disabled = (rest b).disabled from congrArg Session.disabled h
theorem rest_conn {a b : Session} (h : rest a = rest b) : a.conn = b.conn := show (rest a).conn = (rest b).conn from congrArg Session.conn h
theorem rest_encoder {a b : Session} (h : rest a = rest b) : a.encoder = b.encoder := show (rest a).encoder = (rest b).encoder from congrArg Session.encoder h
theorem rest_inpacket {a b : Session} (h : rest a = rest b) : a.inpacket = b.inpacket := show (rest a).inpacket = (rest b).inpacket from congrArg Session.inpacket h
theorem rest_qs {a b : Session} (h : rest a = rest b) : a.qs = b.qs := show (rest a).qs = (rest b).qs from congrArg Session.qs h
theorem rest_lazy {a b : Session} (h : rest a = rest b) : a.lazy = b.lazy := show (rest a).lazy = (rest b).lazy from congrArg Session.lazy h
theorem rest_host {a b : Session} (h : rest a = rest b) : a.host = b.host := show (rest a).host = (rest b).host from congrArg Session.host h
theorem rest_tunIp {a b : Session} (h : rest a = rest b) : a.tunIp = b.tunIp := show (rest a).tunIp = (rest b).tunIp from congrArg Session.tunIp h
theorem rest_oqFilled {a b : Session} (h : rest a = rest b) : a.oqFilled = b.oqFilled := show (rest a).oqFilled = (rest b).oqFilled from congrArg Session.oqFilled h
theorem rest_oqNext {a b : Session} (h : rest a = rest b) : a.oqNext = b.oqNext := show (rest a).oqNext = (rest b).oqNext from congrArg Session.oqNext h
theorem rest_fragsize {a b : Session} (h : rest a = rest b) : a.fragsize = b.fragsize := show (rest a).fragsize = (rest b).fragsize from congrArg Session.fragsize h
theorem rest_seed {a b : Session} (h : rest a = rest b) : a.seed = b.seed := show (rest a).seed = (rest b).seed from congrArg Session.seed h
theorem rest_optionsLocked {a b : Session} (h : rest a = rest b) : a.optionsLocked = b.optionsLocked := show (rest a).optionsLocked = (rest b).optionsLocked from congrArg Session.optionsLocked h

theorem rest_saveQ (z : Session) (q : Query) (n : Nat) : rest (saveQ z q n) = rest z := rfl

theorem XStat.of_rest {P : Par} {x y : Session} (hx : XStat P x) (h : rest y = rest x)
    (hs : 0 ≤ y.outpacket.seqno ∧ y.outpacket.seqno < 8) (hf : 0 ≤ y.outpacket.fragment ∧ y.outpacket.fragment < 16) : XStat P y :=
  ⟨(rest_active h).trans hx.active, (rest_authenticated h).trans hx.auth, (rest_disabled h).trans hx.enabled,
    (rest_conn h).trans hx.conn, (rest_encoder h).trans hx.enc, hs, hf, by rw [rest_inpacket h]; exact hx.iseq,
    by rw [rest_inpacket h]; exact hx.ifrag⟩

theorem SStat.put_rest {P : Par} {s : Srv} (hS : SStat P s) {Y : Session} (h : rest Y = rest (getUser s P.u))
    (hs : 0 ≤ Y.outpacket.seqno ∧ Y.outpacket.seqno < 8) (hf : 0 ≤ Y.outpacket.fragment ∧ Y.outpacket.fragment < 16)
    (hl : s.now < Y.lastPkt + 60) : SStat P { putUser s P.u Y with now := s.now } := by
  have hg : getUser { putUser s P.u Y with now := s.now } P.u = Y := getUser_put_now _ _ _ _ hS.solo.lt
  refine ⟨(hS.solo.putUser Y).withNow _, hS.td, ?_, ?_, ?_⟩
  · rw [hg]; exact hS.x.of_rest h hs hf
  · rw [hg, rest_host h]; exact hS.host
  · rw [hg]; exact hl

theorem ackSess_rest (x : Session) (a b : Int) (h : x.oqFilled = 0) : rest (ackSess x a b) = rest x := by
  have := rest_of_core (ackSess_core x a b h)
  exact this

/-! ### the iteration that answers a ping at once -/

/-- what the server can read out of a ping of the client: acknowledged downstream position `(a, b)`, ping counter `sd` -/
structure PingQ (P : Par) (Q : Query) (a b : Int) (sd : Nat) : Prop where
  from_ : Q.from_ = clientAddr
  id2 : Q.id2 = 0
  id : Q.id ≠ 0
  ty : Q.type = P.ty
  c0 : Q.name.getD 0 0 = 112
  sdlt : sd < 65536
  parse : ∃ dlen, Common.queryDatalen Q.name P.td = some dlen ∧ 2 ≤ dlen ∧ 4 ≤ (pingUnpacked Q dlen).length ∧
    charVal ((pingUnpacked Q dlen).getD 0 0) = (P.u : Int) ∧
    charVal ((pingUnpacked Q dlen).getD 1 0) / 16 = a ∧ charVal ((pingUnpacked Q dlen).getD 1 0) % 16 = b ∧
    ((pingUnpacked Q dlen).take 4).getD 2 0 = sd / 256 ∧ ((pingUnpacked Q dlen).take 4).getD 3 0 = sd % 256
  seed : seedOfName P.td Q.name = sd
  fp : ∃ cp, Q.name.idxOf? 46 = some cp ∧ 4 ≤ (Codec.dec Codec.b32 8 (cp - 1) (Q.name.drop 1)).length ∧
    ((Codec.dec Codec.b32 8 (cp - 1) (Q.name.drop 1)).take 4).getD 2 0 = sd / 256 ∧
    ((Codec.dec Codec.b32 8 (cp - 1) (Q.name.drop 1)).take 4).getD 3 0 = sd % 256

theorem scPkt_len_le (y : Session) : (scPkt y (scDatalen y)).length ≤ DNSCACHE_ANSWER_SIZE := by
  have : scDatalen y ≤ 4094 := by
    unfold scDatalen; split <;> omega
  simp only [scPkt, List.length_append, List.length_cons, List.length_nil, List.length_take, DNSCACHE_ANSWER_SIZE]
  omega

theorem ackSess_memEq (x : Session) (a b : Int) (h : x.oqFilled = 0) : MemEq (ackSess x a b) x := by
  rcases ackSess_cases x a b h with e | ⟨p, e⟩ <;> rw [e] <;> exact ⟨rfl, rfl, rfl, rfl, rfl, rfl⟩

theorem ackSess_oq (x : Session) (a b : Int) (h : x.oqFilled = 0) : (ackSess x a b).oqFilled = 0 := by
  have := core_oqFilled (ackSess_core x a b h)
  rw [this]; exact h

/-- The slot `z` after `pkt` was answered to the query in `q` of `y1` and remembered, the outpacket perhaps forgotten: the
memories are those that remember the query; `q` is marked answered; everything else but the outpacket is that of `y1`. -/
theorem answered_frame (y1 z : Session) (pkt : List Nat)
    (hz : z = QSel.q.set (cacheUpd (qmemUpd y1 y1.q) y1.q pkt) { y1.q with id := 0 } ∨
      z = dropOut (QSel.q.set (cacheUpd (qmemUpd y1 y1.q) y1.q pkt) { y1.q with id := 0 })) :
    MemEq z (cacheUpd (qmemUpd y1 y1.q) y1.q pkt) ∧ rest z = rest y1 ∧ z.q = { y1.q with id := 0 } ∧
      z.lastPkt = y1.lastPkt := by
  have hr : rest (cacheUpd (qmemUpd y1 y1.q) y1.q pkt) = rest y1 := rest_of_core (core_memo y1 y1.q pkt)
  have hl : (cacheUpd (qmemUpd y1 y1.q) y1.q pkt).lastPkt = y1.lastPkt := core_lastPkt (core_memo y1 y1.q pkt)
  generalize cacheUpd (qmemUpd y1 y1.q) y1.q pkt = m at hz hr hl ⊢
  rcases hz with rfl | rfl
  · exact ⟨⟨rfl, rfl, rfl, rfl, rfl, rfl⟩, hr, rfl, hl⟩
  · exact ⟨⟨rfl, rfl, rfl, rfl, rfl, rfl⟩, hr, rfl, hl⟩

/-- `send_chunk_or_dataless` answering the query in `q` (no duplicate remembered, nothing queued), whatever is in flight:
one answer `pkt`, built from a slot `y1` with the memories of `y`; the new slot `z` has the memories of `y1` remembering the
query, `q` marked answered, and otherwise differs from `y` in the outpacket and the resend counter only.  `y1` is `y`
(nothing in flight), `prepOut y` (the next fragment goes out) or `dropOut y` (resent too often: dropped first). -/
theorem scSess_q_frame (y : Session) (u : Nat) (hid2 : y.q.id2 = 0) (hoq : y.oqFilled = 0) :
    ∃ y1 pkt z, scSess y u .q = ((z, [writeDns y.q pkt y.downenc (.chunk u)]), false) ∧ MemEq y1 y ∧
      pkt.length ≤ DNSCACHE_ANSWER_SIZE ∧ MemEq z (cacheUpd (qmemUpd y1 y.q) y.q pkt) ∧
      rest z = rest y ∧ z.q = { y.q with id := 0 } ∧ z.lastPkt = y.lastPkt := by
  by_cases hlen : y.outpacket.len = 0
  · obtain ⟨a, b, c, d⟩ := answered_frame y _ (scPkt y 0) (Or.inl rfl)
    exact ⟨y, scPkt y 0, _, scSess_dataless y u .q hlen hid2, MemEq.refl y, scPkt0_len y, a, b, c, d⟩
  · have hpos : y.outpacket.len > 0 := by omega
    by_cases hres : y.outfragresent ≤ 5
    · have hz : (if scDatalen y > 0 ∧ scDatalen y = y.outpacket.len then dropOut (answered y .q) else answered y .q) =
            answered y .q ∨
          (if scDatalen y > 0 ∧ scDatalen y = y.outpacket.len then dropOut (answered y .q) else answered y .q) =
            dropOut (answered y .q) := by
        split
        · exact Or.inr rfl
        · exact Or.inl rfl
      obtain ⟨a, b, c, d⟩ := answered_frame (prepOut y) _ (scPkt (prepOut y) (scDatalen y)) hz
      exact ⟨prepOut y, scPkt (prepOut y) (scDatalen y), _, scSess_data y u .q hpos hres hid2 hoq, ⟨rfl, rfl, rfl, rfl, rfl, rfl⟩,
        scPkt_len_le (prepOut y), a, b, c, d⟩
    · obtain ⟨a, b, c, d⟩ := answered_frame (dropOut y) _ (scPkt (dropOut y) 0) (Or.inl rfl)
      refine ⟨dropOut y, scPkt (dropOut y) 0, _, ?_, ⟨rfl, rfl, rfl, rfl, rfl, rfl⟩, scPkt0_len _, a, b, c, d⟩
      rw [scSess_drop y u .q hpos (by omega) hoq]
      exact scSess_dataless (dropOut y) u .q rfl hid2

theorem scSess_q_shape (y : Session) (u : Nat) (hid2 : y.q.id2 = 0) (hoq : y.oqFilled = 0) :
    ∃ y1 pkt, MemEq y1 y ∧ pkt.length ≤ DNSCACHE_ANSWER_SIZE ∧
      (scSess y u .q).1.2 = [writeDns y.q pkt y.downenc (.chunk u)] ∧ (scSess y u .q).2 = false ∧
      MemEq (scSess y u .q).1.1 (cacheUpd (qmemUpd y1 y.q) y.q pkt) ∧ (scSess y u .q).1.1.qs = y.qs := by
  obtain ⟨y1, pkt, z, h, hm1, hpl, hm2, hr, _, _⟩ := scSess_q_frame y u hid2 hoq
  rw [h]
  exact ⟨y1, pkt, hm1, hpl, rfl, rfl, hm2, rest_qs hr⟩

/-- the server after it answered a ping at once, nothing queued: described through the session-level functions -/
structure AfterPing (P : Par) (s s' : Srv) (Q : Query) (a b : Int) (pkt : List Nat) : Prop where
  solo : Solo P.u s'
  td : s'.cfg.topdomain = P.td
  cfg : s'.cfg = s.cfg
  now : s'.now = s.now
  /-- the slot: everything but the memories is that of `scSess` applied to the acked slot with the query stored -/
  slot : getUser s' P.u = (scSess (saveQ (ackSess { getUser s P.u with qsNew := false } a b) Q s.now) P.u .q).1.1
  pkt : (scSess (saveQ (ackSess { getUser s P.u with qsNew := false } a b) Q s.now) P.u .q).1.2 =
    [writeDns Q pkt (getUser s P.u).downenc (.chunk P.u)]

/-- the iteration that receives the client's ping `Q` while no query is held: the ping handler runs on the slot -/
theorem iteration_ping_noq {P : Par} (hP : P.Ok) {s : Srv} (hS : SStat P s)
    (hq : (getUser s P.u).q.id = 0) (hqs : (getUser s P.u).qs.id = 0)
    {Q : Query} {a b : Int} {sd sp : Nat} (hQ : PingQ P Q a b sd) (hsp : sp ≤ 1000) (hPA : PAged P (getUser s P.u) sd sp) :
    iteration s (.q Q) s.now =
      (let r := pingSess { getUser s P.u with qsNew := false } P.u Q a b s.now
       ({ putUser s P.u (sweepSess r.1 P.u s.now).1 with now := s.now }, r.2 ++ [Server.Event.sweep] ++ (sweepSess r.1 P.u s.now).2,
        ((Server.topOfLoop s).2.1, (Server.topOfLoop s).2.2))) := by
  obtain ⟨dlen, hdl, h2, h4, huid, ha, hb, hc2, hc3⟩ := hQ.parse
  have htop := topSess_live hS
  have hx0P : PAged P { getUser s P.u with qsNew := false } sd sp := hPA.congr rfl rfl rfl rfl
  have hit := iteration_ping hS.solo Q s.now dlen (by rw [hS.td]; exact hdl) h2 hQ.c0 (hQ.ty ▸ hP.tty) hQ.id h4 huid
    (admitted_entry hS Q hQ.from_)
    (by rw [htop]; exact hx0P.cacheMiss hQ.sdlt hsp Q hQ.ty hQ.c0 hQ.seed)
    (by rw [htop]; exact hx0P.qmemMiss hQ.sdlt hsp Q hQ.ty _ hc2 hc3)
    (by rw [htop]; exact Or.inl hq) (by rw [htop]; exact Or.inl hqs)
  rw [htop, ha, hb] at hit
  exact hit

/-- The iteration that receives a ping with no query waiting and nothing queued, in immediate mode or when the acknowledged
outpacket still has something to send (`hmode`): the ping is answered at once and REMEMBERED — the ping memory keeps its
freshness slack `sp`, the data memory (slack `sl`) is not touched. -/
theorem srv_ping_answered {P : Par} (hP : P.Ok) {s : Srv} (hS : SStat P s) {a b : Int}
    (hq : (getUser s P.u).q.id = 0) (hqs : (getUser s P.u).qs.id = 0)
    (hmode : (getUser s P.u).lazy = false ∨ 0 < (ackSess { getUser s P.u with qsNew := false } a b).outpacket.len)
    (hoq : (getUser s P.u).oqFilled = 0)
    {Q : Query} {sd : Nat} (hQ : PingQ P Q a b sd)
    {k sl sp : Nat} (hsp1 : 1 ≤ sp) (hsp : sp ≤ 1000)
    (hA : Aged P (getUser s P.u) k sl) (hPA : PAged P (getUser s P.u) sd sp) :
    ∃ s' evs t pkt, iteration s (.q Q) s.now = (s', evs, t) ∧ downOfEvents evs = [.ans Q.id Q.type Q.name pkt] ∧
      tunOfSEvents evs = [] ∧ AfterPing P s s' Q a b pkt ∧
      Aged P (getUser s' P.u) k sl ∧ PAged P (getUser s' P.u) ((sd + 1) % 65536) sp := by
  obtain ⟨cp, hcp, hfl, hf2, hf3⟩ := hQ.fp
  have hu := hS.solo.lt
  have hit := iteration_ping_noq hP hS hq hqs hQ hsp hPA
  generalize hx0 : ({ getUser s P.u with qsNew := false } : Session) = x0 at hit hmode
  have hx0q : x0.q.id = 0 := by subst hx0; exact hq
  have hx0qs : x0.qs.id = 0 := by subst hx0; exact hqs
  have hx0oq : x0.oqFilled = 0 := by subst hx0; exact hoq
  have hx0A : Aged P x0 k sl := by subst hx0; exact hA.congr rfl rfl rfl rfl
  have hx0P : PAged P x0 sd sp := by subst hx0; exact hPA.congr rfl rfl rfl rfl
  rw [pingSess_answer x0 P.u Q a b s.now hx0q hx0qs hx0oq (hmode.imp_left fun h => by subst hx0; exact h)] at hit
  have hac := ackSess_core x0 a b hx0oq
  generalize hy : saveQ (ackSess x0 a b) Q s.now = y at hit
  have hyq : y.q = Q := by subst hy; rfl
  have hsm := ackSess_memEq x0 a b hx0oq
  have hyA : Aged P y k sl := by
    subst hy
    exact hx0A.congr hsm.q hsm.ql hsm.c hsm.cl
  have hyP : PAged P y sd sp := by
    subst hy
    exact hx0P.congr hsm.p hsm.pl hsm.c hsm.cl
  have hyid2 : y.q.id2 = 0 := by rw [hyq]; exact hQ.id2
  have hyoq : y.oqFilled = 0 := by subst hy; exact ackSess_oq x0 a b hx0oq
  obtain ⟨y1, pkt, hm1, hpl, hev, _, hm2, hqs2⟩ := scSess_q_shape y P.u hyid2 hyoq
  rw [hyq] at hev hm2
  have hyqs : y.qs.id = 0 := by
    subst hy
    show (ackSess x0 a b).qs.id = 0
    have := core_qs hac
    rw [this]; exact hx0qs
  simp only at hit
  rw [sweepSess_noqs (by rw [hqs2]; exact hyqs), hev] at hit
  have hdn : y.downenc = (getUser s P.u).downenc := by
    subst hy
    show (ackSess x0 a b).downenc = _
    have := core_downenc hac
    rw [this]; subst hx0; rfl
  have hg : getUser { putUser s P.u (scSess y P.u .q).1.1 with now := s.now } P.u = (scSess y P.u .q).1.1 := by
    rw [getUser_withNow, getUser_putUser_self _ _ _ hu]
  refine ⟨_, _, _, pkt, hit, ?_, ?_, ?_, ?_, ?_⟩
  · simp only [List.append_nil, downOfEvents_append, downOfEvents_sweep, downOfEvents_writeDns _ _ _ _ hQ.from_]
  · simp only [List.append_nil, tunOfSEvents_append, tunOfSEvents_writeDns, tunOfSEvents_sweep]
  · refine ⟨(hS.solo.putUser _).withNow _, hS.td, rfl, rfl, ?_, ?_⟩
    · rw [hg, hx0, hy]
    · rw [hx0, hy, hev, hdn]
  · rw [hg]
    have hy1A : Aged P y1 k sl := hyA.congr hm1.q hm1.ql hm1.c hm1.cl
    have := hy1A.memo_ping hP.hu Q pkt hpl hQ.c0 cp hcp hfl
    exact this.congr hm2.q hm2.ql hm2.c hm2.cl
  · rw [hg]
    have hy1P : PAged P y1 sd sp := hyP.congr hm1.p hm1.pl hm1.c hm1.cl
    have := (hy1P.step hQ.sdlt hsp).memo Q pkt hpl sd 1 ⟨by omega, hsp1⟩ (behind_succ_mod hQ.sdlt) hQ.c0 cp hcp hfl hf2 hf3 hQ.seed
    exact this.congr hm2.p hm2.pl hm2.c hm2.cl

/-! ### the slot such a ping leaves, by what the acknowledgement does -/

/-- the slot after the ping handler answered at once: acknowledge, store the query, `send_chunk_or_dataless` -/
def pingZ (x0 : Session) (u : Nat) (Q : Query) (a b : Int) (now : Nat) : Session :=
  (scSess (saveQ (ackSess x0 a b) Q now) u .q).1.1

theorem ackSess_stale (x : Session) (a b : Int) (h : x.outpacket.sentlen = 0) : ackSess x a b = x := by
  unfold ackSess
  split
  · rfl
  · split
    · rfl
    · simp [h]

theorem ackSess_advance (x : Session) (a b : Int) (h1 : x.outpacket.len ≠ 0) (h2 : x.outpacket.seqno = a)
    (h3 : x.outpacket.fragment = b) (h4 : x.outpacket.sentlen ≠ 0) (h5 : x.outpacket.offset + x.outpacket.sentlen < x.outpacket.len) :
    ackSess x a b =
      { x with outpacket := { x.outpacket with offset := x.outpacket.offset + x.outpacket.sentlen, sentlen := 0,
                                               fragment := sChar (x.outpacket.fragment + 1) },
               outfragresent := 0 } := by
  unfold ackSess
  rw [if_neg h1, if_neg (by intro h; rcases h with h | h; exact h h2; exact h h3), if_neg h4]
  simp only
  rw [if_neg (by omega)]

theorem ackSess_complete (x : Session) (a b : Int) (h1 : x.outpacket.len ≠ 0) (h2 : x.outpacket.seqno = a)
    (h3 : x.outpacket.fragment = b) (h4 : x.outpacket.sentlen ≠ 0) (h5 : x.outpacket.len ≤ x.outpacket.offset + x.outpacket.sentlen)
    (hoq : x.oqFilled = 0) :
    ackSess x a b =
      { x with outpacket := { x.outpacket with len := 0, offset := 0, sentlen := 0,
                                               fragment := sChar (sChar (x.outpacket.fragment + 1) - 1) },
               outfragresent := 0 } := by
  unfold ackSess
  rw [if_neg h1, if_neg (by intro h; rcases h with h | h; exact h h2; exact h h3), if_neg h4]
  simp only
  rw [if_pos (by omega), fromQueue_empty _ (by exact hoq)]

theorem ackSess_mismatch (x : Session) (a b : Int) (h : x.outpacket.seqno ≠ a ∨ x.outpacket.fragment ≠ b) :
    ackSess x a b = x := by
  unfold ackSess
  by_cases h0 : x.outpacket.len = 0
  · rw [if_pos h0]
  · rw [if_neg h0, if_pos h]

theorem ackSess_idle (x : Session) (a b : Int) (h : x.outpacket.len = 0) : ackSess x a b = x := by
  unfold ackSess
  rw [if_pos h]

theorem pingZ_rest (x0 : Session) (u : Nat) (Q : Query) (a b : Int) (now : Nat) (hid2 : Q.id2 = 0) (hoq : x0.oqFilled = 0) :
    rest (pingZ x0 u Q a b now) = rest x0 ∧ (pingZ x0 u Q a b now).q = { Q with id := 0 } ∧ (pingZ x0 u Q a b now).lastPkt = now := by
  have h1 : rest (saveQ (ackSess x0 a b) Q now) = rest x0 := (rest_saveQ _ Q now).trans (ackSess_rest x0 a b hoq)
  obtain ⟨_, _, z, h, _, _, _, hr, hq, hl⟩ := scSess_q_frame (saveQ (ackSess x0 a b) Q now) u hid2 (ackSess_oq x0 a b hoq)
  unfold pingZ
  rw [h]
  exact ⟨hr.trans h1, hq, hl⟩

/-- the fragment length the server chooses: `MIN(fragsize, rest)`, at most 4094 -/
def downLen (F rest : Nat) : Nat := min (min F rest) 4094

theorem downLen_le (F r : Nat) : downLen F r ≤ r := by unfold downLen; omega

theorem downLen_ne_zero {F r : Nat} (hF : 0 < F) (hr : r ≠ 0) : downLen F r ≠ 0 := by unfold downLen; omega

/-- RESEND (or first send) of the fragment at offset `o`: the ping's acknowledgement changes nothing (`hack`), the resend counter
is at most 5 — the fragment goes out (again) and is counted; a packet of ONE fragment is forgotten as it is sent -/
theorem pingZ_resend (x0 : Session) (u : Nat) (Q : Query) (a b : Int) (now : Nat) (out : List Nat) (sq fr : Int) (m o : Nat)
    (hid2 : Q.id2 = 0) (hoq : x0.oqFilled = 0) (hres : x0.outfragresent ≤ 5)
    (hop : x0.outpacket = ⟨out.length, m, o, out, sq, fr⟩) (hack : ackSess x0 a b = x0) (hL : o < out.length)
    (hF : 0 < x0.fragsize) :
    ∃ D, D = downLen x0.fragsize (out.length - o) ∧
    (pingZ x0 u Q a b now).outpacket =
      (if D = out.length then ⟨0, 0, 0, out, sq, fr⟩ else ⟨out.length, D, o, out, sq, fr⟩) ∧
    (pingZ x0 u Q a b now).outfragresent = (if D = out.length then 0 else x0.outfragresent + 1) ∧ 0 < D ∧
    o + D ≤ out.length ∧
    ∃ yy : Session, (scSess (saveQ (ackSess x0 a b) Q now) u .q).1.2 = [writeDns Q (scPkt yy D) x0.downenc (.chunk u)] ∧
      yy.outpacket = ⟨out.length, D, o, out, sq, fr⟩ ∧ yy.inpacket = x0.inpacket := by
  refine ⟨downLen x0.fragsize (out.length - o), rfl, ?_⟩
  generalize hDdef : downLen x0.fragsize (out.length - o) = D
  have hD : scDatalen (saveQ x0 Q now) = D := by
    rw [← hDdef]
    unfold scDatalen saveQ downLen
    simp only [hop]
    rw [if_pos (by omega)]
  have hDpos : 0 < D := by rw [← hDdef]; exact Nat.pos_of_ne_zero (downLen_ne_zero hF (by omega))
  have hDle : o + D ≤ out.length := by rw [← hDdef]; unfold downLen; omega
  have hsd := scSess_data (saveQ x0 Q now) u .q (by show x0.outpacket.len > 0; rw [hop]; show 0 < out.length; omega)
    (by exact hres) (by exact hid2) (by exact hoq)
  rw [hD] at hsd
  have hlen : (saveQ x0 Q now).outpacket.len = out.length := by show x0.outpacket.len = _; rw [hop]
  rw [hlen] at hsd
  unfold pingZ
  rw [hack, hsd]
  have hpo : (prepOut (saveQ x0 Q now)).outpacket = ⟨out.length, D, o, out, sq, fr⟩ := by
    unfold prepOut
    simp only [hD]
    show ({ x0.outpacket with sentlen := D } : Packet) = _
    rw [hop]
  have hao : (answered (saveQ x0 Q now) .q).outpacket = ⟨out.length, D, o, out, sq, fr⟩ :=
    (answered_outpacket _ _).trans hpo
  have har : (answered (saveQ x0 Q now) .q).outfragresent = x0.outfragresent + 1 := answered_outfragresent _ _
  refine ⟨?_, ?_, hDpos, hDle, prepOut (saveQ x0 Q now), rfl, hpo, rfl⟩
  · by_cases hw : D = out.length
    · rw [if_pos hw, if_pos ⟨hDpos, hw⟩]
      show ({ (answered (saveQ x0 Q now) .q).outpacket with len := 0, offset := 0, sentlen := 0 } : Packet) = _
      rw [hao]
    · rw [if_neg hw, if_neg (fun h => hw h.2)]
      exact hao
  · by_cases hw : D = out.length
    · rw [if_pos hw, if_pos ⟨hDpos, hw⟩]; rfl
    · rw [if_neg hw, if_neg (fun h => hw h.2)]
      exact har

/-- FIRST fragment: nothing of the new outpacket was sent yet, so whatever the ping acknowledges is stale -/
theorem pingZ_first (x0 : Session) (u : Nat) (Q : Query) (a b : Int) (now : Nat) (out : List Nat) (sq : Int)
    (hid2 : Q.id2 = 0) (hoq : x0.oqFilled = 0) (hres : x0.outfragresent = 0)
    (hop : x0.outpacket = ⟨out.length, 0, 0, out, sq, 0⟩) (hL : 0 < out.length) (hF : 0 < x0.fragsize) :
    ∃ D, D = downLen x0.fragsize out.length ∧
    (pingZ x0 u Q a b now).outpacket = (if D = out.length then ⟨0, 0, 0, out, sq, 0⟩ else ⟨out.length, D, 0, out, sq, 0⟩) ∧
    (pingZ x0 u Q a b now).outfragresent = (if D = out.length then 0 else 1) ∧ 0 < D ∧ D ≤ out.length ∧
    ∃ yy : Session, (scSess (saveQ (ackSess x0 a b) Q now) u .q).1.2 = [writeDns Q (scPkt yy D) x0.downenc (.chunk u)] ∧
      yy.outpacket = ⟨out.length, D, 0, out, sq, 0⟩ ∧ yy.inpacket = x0.inpacket := by
  have h := pingZ_resend x0 u Q a b now out sq 0 0 0 hid2 hoq (by omega) hop (ackSess_stale x0 a b (by rw [hop])) hL hF
  simp only [hres, Nat.sub_zero, Nat.zero_add] at h
  exact h

/-- NEXT fragment: the ping acknowledges the fragment in flight and more is left -/
theorem pingZ_next (x0 : Session) (u : Nat) (Q : Query) (now : Nat) (out : List Nat) (sq : Int) (o m f : Nat)
    (hid2 : Q.id2 = 0) (hoq : x0.oqFilled = 0) (hres : x0.outfragresent ≤ 5)
    (hop : x0.outpacket = ⟨out.length, m, o, out, sq, (f : Int)⟩) (hm : 0 < m) (hlt : o + m < out.length) (hF : 0 < x0.fragsize)
    (hf : f + 1 < 128) :
    ∃ D, D = downLen x0.fragsize (out.length - (o + m)) ∧
    (pingZ x0 u Q sq f now).outpacket = ⟨out.length, D, o + m, out, sq, ((f + 1 : Nat) : Int)⟩ ∧
    (pingZ x0 u Q sq f now).outfragresent = 1 ∧ 0 < D ∧ o + m + D ≤ out.length ∧
    ∃ yy : Session, (scSess (saveQ (ackSess x0 sq f) Q now) u .q).1.2 = [writeDns Q (scPkt yy D) x0.downenc (.chunk u)] ∧
      yy.outpacket = ⟨out.length, D, o + m, out, sq, ((f + 1 : Nat) : Int)⟩ ∧ yy.inpacket = x0.inpacket := by
  refine ⟨downLen x0.fragsize (out.length - (o + m)), rfl, ?_⟩
  generalize hDdef : downLen x0.fragsize (out.length - (o + m)) = D
  have hsf : sChar ((f : Int) + 1) = ((f + 1 : Nat) : Int) := by unfold sChar; omega
  have hack : ackSess x0 sq f =
      { x0 with outpacket := ⟨out.length, 0, o + m, out, sq, ((f + 1 : Nat) : Int)⟩, outfragresent := 0 } := by
    rw [ackSess_advance x0 sq f (by rw [hop]; show out.length ≠ 0; omega) (by rw [hop]) (by rw [hop]) (by rw [hop]; show m ≠ 0; omega)
      (by rw [hop]; exact hlt)]
    rw [hop]
    simp only [hsf]
  generalize hy : saveQ (ackSess x0 sq f) Q now = y
  have hyo : y.outpacket = ⟨out.length, 0, o + m, out, sq, ((f + 1 : Nat) : Int)⟩ := by subst hy; rw [hack]; rfl
  have hD : scDatalen y = D := by
    rw [← hDdef]
    unfold scDatalen downLen
    rw [hyo]
    simp only
    have : y.fragsize = x0.fragsize := by subst hy; rw [hack]; rfl
    rw [if_pos (by omega), this]
  have hDpos : 0 < D := by rw [← hDdef]; exact Nat.pos_of_ne_zero (downLen_ne_zero hF (by omega))
  have hDle : o + m + D ≤ out.length := by rw [← hDdef]; unfold downLen; omega
  have hsd := scSess_data y u .q (by rw [hyo]; show 0 < out.length; omega)
    (by subst hy; rw [hack]; show 0 ≤ 5; omega) (by subst hy; exact hid2) (by subst hy; rw [hack]; exact hoq)
  rw [hD] at hsd
  have hnw : ¬ (D > 0 ∧ D = y.outpacket.len) := by rw [hyo]; intro h; have := h.2; simp at this; omega
  rw [if_neg hnw] at hsd
  have hpo : (prepOut y).outpacket = ⟨out.length, D, o + m, out, sq, ((f + 1 : Nat) : Int)⟩ := by
    unfold prepOut
    simp only [hD]
    show ({ y.outpacket with sentlen := D } : Packet) = _
    rw [hyo]
  have hao : (answered y .q).outpacket = ⟨out.length, D, o + m, out, sq, ((f + 1 : Nat) : Int)⟩ :=
    (answered_outpacket y _).trans hpo
  have har : (answered y .q).outfragresent = 1 := by
    rw [answered_outfragresent]
    subst hy; rw [hack]; rfl
  unfold pingZ
  rw [hy, hsd]
  refine ⟨hao, har, hDpos, hDle, prepOut y, ?_, hpo, ?_⟩
  · show [writeDns y.q _ y.downenc _] = _
    subst hy; rw [hack]; rfl
  · subst hy; rw [hack]; rfl

/-- COMPLETION: the ping acknowledges the last fragment -/
theorem pingZ_done (x0 : Session) (u : Nat) (Q : Query) (now : Nat) (out : List Nat) (sq : Int) (o m f : Nat)
    (hid2 : Q.id2 = 0) (hoq : x0.oqFilled = 0)
    (hop : x0.outpacket = ⟨out.length, m, o, out, sq, (f : Int)⟩) (hm : 0 < m) (hge : o + m = out.length) (hf : f + 1 < 128) :
    (pingZ x0 u Q sq f now).outpacket = ⟨0, 0, 0, out, sq, (f : Int)⟩ ∧
    (pingZ x0 u Q sq f now).outfragresent = 0 ∧
    ∃ yy : Session, (scSess (saveQ (ackSess x0 sq f) Q now) u .q).1.2 = [writeDns Q (scPkt yy 0) x0.downenc (.chunk u)] ∧
      yy.outpacket = ⟨0, 0, 0, out, sq, (f : Int)⟩ ∧ yy.inpacket = x0.inpacket := by
  have hsf : sChar (sChar ((f : Int) + 1) - 1) = (f : Int) := by unfold sChar; omega
  have hack : ackSess x0 sq f = { x0 with outpacket := ⟨0, 0, 0, out, sq, (f : Int)⟩, outfragresent := 0 } := by
    rw [ackSess_complete x0 sq f (by rw [hop]; show out.length ≠ 0; omega) (by rw [hop]) (by rw [hop]) (by rw [hop]; show m ≠ 0; omega)
      (by rw [hop]; show out.length ≤ o + m; omega) hoq]
    rw [hop]
    simp only [hsf]
  generalize hy : saveQ (ackSess x0 sq f) Q now = y
  have hyo : y.outpacket = ⟨0, 0, 0, out, sq, (f : Int)⟩ := by subst hy; rw [hack]; rfl
  have hsd := scSess_dataless y u .q (by rw [hyo]) (by subst hy; exact hid2)
  have hao : (QSel.q.set (cacheUpd (qmemUpd y y.q) y.q (scPkt y 0)) { y.q with id := 0 }).outpacket = ⟨0, 0, 0, out, sq, (f : Int)⟩ :=
    (memo_qset_out y y.q _ _).1.trans hyo
  have har : (QSel.q.set (cacheUpd (qmemUpd y y.q) y.q (scPkt y 0)) { y.q with id := 0 }).outfragresent = 0 := by
    rw [(memo_qset_out y y.q _ _).2]
    subst hy; rw [hack]; rfl
  unfold pingZ
  rw [hy, hsd]
  refine ⟨hao, har, y, ?_, hyo, ?_⟩
  · show [writeDns y.q _ y.downenc _] = _
    subst hy; rw [hack]; rfl
  · subst hy; rw [hack]; rfl

/-- DATALESS: the ping's acknowledgement does not match and either nothing is in flight or the fragment in flight was sent
more than five times — then the packet is DROPPED; the answer carries no data -/
theorem pingZ_dataless (x0 : Session) (u : Nat) (Q : Query) (a b : Int) (now : Nat)
    (hid2 : Q.id2 = 0) (hoq : x0.oqFilled = 0) (hack : ackSess x0 a b = x0)
    (hd : x0.outpacket.len = 0 ∨ x0.outfragresent > 5) :
    ∃ yy : Session, (pingZ x0 u Q a b now).outpacket = yy.outpacket ∧ yy.outpacket.len = 0 ∧
      yy.outpacket.seqno = x0.outpacket.seqno ∧ yy.outpacket.fragment = x0.outpacket.fragment ∧
      ((pingZ x0 u Q a b now).outfragresent = 0 ∨ (pingZ x0 u Q a b now).outfragresent = x0.outfragresent) ∧
      (scSess (saveQ (ackSess x0 a b) Q now) u .q).1.2 = [writeDns Q (scPkt yy 0) x0.downenc (.chunk u)] ∧
      yy.inpacket = x0.inpacket := by
  unfold pingZ
  rw [hack]
  by_cases hlen : x0.outpacket.len = 0
  · have hsd := scSess_dataless (saveQ x0 Q now) u .q (by exact hlen) (by exact hid2)
    rw [hsd]
    refine ⟨saveQ x0 Q now, ?_, hlen, rfl, rfl, Or.inr ?_, rfl, rfl⟩
    · exact (memo_qset_out (saveQ x0 Q now) _ _ _).1
    · exact (memo_qset_out (saveQ x0 Q now) _ _ _).2
  · have hr : x0.outfragresent > 5 := by rcases hd with h | h; exact absurd h hlen; exact h
    rw [scSess_drop (saveQ x0 Q now) u .q (by show x0.outpacket.len > 0; omega) (by exact hr) (by exact hoq),
      scSess_dataless (dropOut (saveQ x0 Q now)) u .q rfl (by exact hid2)]
    refine ⟨dropOut (saveQ x0 Q now), ?_, rfl, rfl, rfl, Or.inl ?_, rfl, rfl⟩
    · exact (memo_qset_out (dropOut (saveQ x0 Q now)) _ _ _).1
    · exact (memo_qset_out (dropOut (saveQ x0 Q now)) _ _ _).2

end Iodine.C02L
