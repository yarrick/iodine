import IodineModel.Lemmas.SrvC04a
import IodineModel.Lemmas.HandlerCases
import IodineModel.Lemmas.Common
import IodineModel.Lemmas.SrvC04b
import IodineModel.Lemmas.Users
/-
What the request handlers have in common.  The access checks as conditions on the slot; the eight commands that name
a session (`Cmd`, read off the command table of `HandlerCases`: `cmdOf_eq`), each with the place of its user id (`uidOf`,
`uidClass_cmdOf`), its check (`rejected`) and its refusal (`refusalOf`): a rejected request changes nothing because
every such handler tests before it writes (`refused_shape`).  `find_user_by_ip` and `find_available_user` as "the
first slot such that"; the frames of `V` and of the control handlers, each with the exact slot it may write.
-/
namespace Iodine.C04L
open Iodine Iodine.Server Iodine.Gen

theorem checkUserAndIp_eq_false_iff (s : Srv) (u : Int) (q : Query) :
    checkUserAndIp s u q = false ↔
      0 ≤ u ∧ u < (s.cfg.createdUsers : Int) ∧ (getUser s u.toNat).active = true ∧
      (getUser s u.toNat).disabled = false ∧ ¬ (getUser s u.toNat).lastPkt + 60 < s.now ∧
      (s.cfg.checkIp = true → q.from_.fam = (getUser s u.toNat).host.fam ∧
        q.from_.ip = (getUser s u.toNat).host.ip ∧ (q.from_.fam = 4 ∨ q.from_.fam = 6)) := by
  rw [checkUserAndIp]
  dsimp only
  generalize getUser s u.toNat = x
  by_cases h0 : u < 0 ∨ u ≥ (s.cfg.createdUsers : Int)
  · rw [if_pos h0]; exact ⟨(fun h => nomatch h), fun h => by omega⟩
  rw [if_neg h0]
  have hr : 0 ≤ u ∧ u < (s.cfg.createdUsers : Int) := by omega
  by_cases h1 : (!x.active || x.disabled) = true
  · rw [if_pos h1]
    refine ⟨(fun h => nomatch h), fun h => ?_⟩
    rw [h.2.2.1, h.2.2.2.1] at h1; cases h1
  rw [if_neg h1]
  have h1' : x.active = true ∧ x.disabled = false := by
    cases ha : x.active <;> cases hb : x.disabled <;> simp [ha, hb] at h1 ⊢
  by_cases h2 : x.lastPkt + 60 < s.now
  · rw [if_pos h2]; exact ⟨(fun h => nomatch h), fun h => absurd h2 h.2.2.2.2.1⟩
  rw [if_neg h2]
  cases hck : s.cfg.checkIp
  · rw [if_pos (show (!false) = true from rfl)]; exact ⟨fun _ => ⟨hr.1, hr.2, h1'.1, h1'.2, h2, (fun h => nomatch h)⟩, fun _ => rfl⟩
  rw [if_neg (show ¬ (!true) = true from Bool.false_ne_true)]
  by_cases h3 : q.from_.fam ≠ x.host.fam
  · rw [if_pos h3]; exact ⟨(fun h => nomatch h), fun h => absurd (h.2.2.2.2.2 rfl).1 h3⟩
  rw [if_neg h3]
  have h3 := Decidable.not_not.1 h3
  have key : decide (x.host.ip ≠ q.from_.ip) = false ↔ q.from_.ip = x.host.ip := by
    rw [decide_eq_false_iff_not, Decidable.not_not]; exact eq_comm
  by_cases h4 : q.from_.fam = 4
  · rw [if_pos h4, key]
    exact ⟨fun h => ⟨hr.1, hr.2, h1'.1, h1'.2, h2, fun _ => ⟨h3, h, Or.inl h4⟩⟩, fun h => (h.2.2.2.2.2 rfl).2.1⟩
  rw [if_neg h4]
  by_cases h6 : q.from_.fam = 6
  · rw [if_pos h6, key]
    exact ⟨fun h => ⟨hr.1, hr.2, h1'.1, h1'.2, h2, fun _ => ⟨h3, h, Or.inr h6⟩⟩, fun h => (h.2.2.2.2.2 rfl).2.1⟩
  rw [if_neg h6]
  exact ⟨(fun h => nomatch h), fun h => (h.2.2.2.2.2 rfl).2.2.elim (absurd · h4) (absurd · h6)⟩

theorem checkUserAndIp_false (s : Srv) (u : Int) (q : Query) (h : checkUserAndIp s u q = false) :
    0 ≤ u ∧ u < (s.cfg.createdUsers : Int) ∧ (getUser s u.toNat).active = true ∧ (getUser s u.toNat).disabled = false ∧
    ¬ (getUser s u.toNat).lastPkt + 60 < s.now ∧
    (s.cfg.checkIp = true → q.from_.fam = (getUser s u.toNat).host.fam ∧ q.from_.ip = (getUser s u.toNat).host.ip) :=
  have ⟨h1, h2, h3, h4, h5, h6⟩ := (checkUserAndIp_eq_false_iff s u q).1 h
  ⟨h1, h2, h3, h4, h5, fun hc => ⟨(h6 hc).1, (h6 hc).2.1⟩⟩

theorem checkAuth_of_check (s : Srv) (u : Int) (q : Query) (h : checkUserAndIp s u q = true) :
    checkAuthenticatedUserAndIp s u q = true := by
  unfold checkAuthenticatedUserAndIp; rw [if_pos h]

theorem checkAuth_unauth (s : Srv) (u : Int) (q : Query) (h : (getUser s u.toNat).authenticated = false) :
    checkAuthenticatedUserAndIp s u q = true := by
  unfold checkAuthenticatedUserAndIp
  split
  · rfl
  · rw [if_pos (by simp [h])]

theorem checkAuth_false (s : Srv) (u : Int) (q : Query) (h : checkAuthenticatedUserAndIp s u q = false) :
    checkUserAndIp s u q = false ∧ (getUser s u.toNat).authenticated = true := by
  unfold checkAuthenticatedUserAndIp at h
  split at h
  · cases h
  · next h1 =>
    split at h
    · cases h
    · next h2 =>
      refine ⟨by simpa using h1, by simpa using h2⟩

theorem lt_of_checkAuth {s : Srv} {uid : Int} {q : Query} (h : checkAuthenticatedUserAndIp s uid q = false) :
    uid.toNat < s.users.length :=
  C16L.lt_length_of_active s _ (checkUserAndIp_false s uid q (checkAuth_false s uid q h).1).2.2.1

theorem checkAuthOpt_of_checkAuth (s : Srv) (u : Int) (q : Query) (h : checkAuthenticatedUserAndIp s u q = true) :
    checkAuthenticatedUserAndIpAndOptions s u q = true := by
  unfold checkAuthenticatedUserAndIpAndOptions
  dsimp only
  rw [h]; simp

theorem checkAuthOpt_false (s : Srv) (u : Int) (q : Query) (h : checkAuthenticatedUserAndIpAndOptions s u q = false) :
    checkAuthenticatedUserAndIp s u q = false := by
  cases h' : checkAuthenticatedUserAndIp s u q
  · rfl
  · rw [checkAuthOpt_of_checkAuth s u q h'] at h; cases h

/-- when `handle_raw_login` accepts -/
def rawLoginOk (s : Srv) (packet : List Nat) (u : Nat) : Prop :=
  16 ≤ packet.length ∧ u < s.cfg.createdUsers ∧ (getUser s u).active = true ∧ (getUser s u).disabled = false ∧
  (getUser s u).authenticated = true ∧ ¬ (getUser s u).lastPkt + 60 < s.now ∧
  packet.take 16 = Login.loginCalcC s.cfg.password ((getUser s u).seed + 1)

theorem handleRawLogin_rejected (s : Srv) (packet : List Nat) (q : Query) (u : Nat) (h : ¬ rawLoginOk s packet u) :
    handleRawLogin s packet q u = (s, []) := by
  have st {c : Prop} [Decidable c] {a b : Res} := @ite_both' Res (fun r => r = (s, [])) c _ a b
  rw [handleRawLogin]
  refine st (fun _ => rfl) fun h1 => st (fun _ => rfl) fun h2 => ?_
  dsimp only
  refine st (fun _ => rfl) fun h3 => st (fun _ => rfl) fun h4 => st (fun _ => rfl) fun h5 =>
    st (fun h6 => absurd ?_ h) fun _ => rfl
  have h3' : (getUser s u).active = true ∧ (getUser s u).disabled = false := by
    cases ha : (getUser s u).active <;> cases hb : (getUser s u).disabled <;> simp [ha, hb] at h3 ⊢
  exact ⟨by omega, by omega, h3'.1, h3'.2, by simpa using h4, h5, h6⟩

theorem handleRawLogin_accepted (s : Srv) (packet : List Nat) (q : Query) (u : Nat) (h : rawLoginOk s packet u) :
    handleRawLogin s packet q u =
      (setUser (setUser (setUser s u fun x => { x with lastPkt := s.now, q := q, host := q.from_ }) u
          fun x => { x with conn := .rawUdp }) u fun x => { x with authenticatedRaw := true },
       [sendRaw (Login.loginCalcC s.cfg.password ((getUser s u).seed + 2 ^ 32 - 1)) 16 u RAW_HDR_CMD_LOGIN q]) := by
  obtain ⟨h1, h2, h3, h4, h5, h6, h7⟩ := h
  rw [handleRawLogin, if_neg (by omega), if_neg (by omega)]
  dsimp only
  rw [if_neg (by simp [h3, h4]), if_neg (by simp [h5]), if_neg h6, if_pos h7, userSetConnType_eq]

/-- the commands of `handle_null_request` that carry a userid -/
inductive Cmd where
  | login | ip | switch | options | probe | setfrag | ping | data
deriving DecidableEq, Repr

/-- the command selected by the first character, in the order of the C `if` cascade; `none` for V, Z, Y and
unknown characters -/
def cmdOf (c : Nat) : Option Cmd :=
  if c = 86 ∨ c = 118 then none
  else if c = 76 ∨ c = 108 then some .login
  else if c = 73 ∨ c = 105 then some .ip
  else if c = 90 ∨ c = 122 then none
  else if c = 83 ∨ c = 115 then some .switch
  else if c = 79 ∨ c = 111 then some .options
  else if c = 89 ∨ c = 121 then none
  else if c = 82 ∨ c = 114 then some .probe
  else if c = 78 ∨ c = 110 then some .setfrag
  else if c = 80 ∨ c = 112 then some .ping
  else if isHexDigit c then some .data
  else none

def cmdOfLetter : Letter → Option Cmd
  | .L => some .login | .I => some .ip | .S => some .switch | .O => some .options | .R => some .probe
  | .N => some .setfrag | .P => some .ping | .D => some .data | _ => none

theorem cmdOf_eq (c : Nat) : cmdOf c = (letterOf c).bind cmdOfLetter := by
  have st {p : Prop} [Decidable p] {a a' : Option Cmd} {b b' : Option Letter} :=
    @ite_both₂ (Option Cmd) (Option Letter) (fun a b => a = b.bind cmdOfLetter) p _ a a' b b'
  exact st rfl <| st rfl <| st rfl <| st rfl <| st rfl <| st rfl <| st rfl <| st rfl <| st rfl <| st rfl <| st rfl rfl

theorem cmdOf_some {c : Nat} {cmd : Cmd} (h : cmdOf c = some cmd) : ∃ l, letterOf c = some l ∧ cmdOfLetter l = some cmd := by
  rw [cmdOf_eq] at h
  cases hl : letterOf c with
  | none => rw [hl] at h; cases h
  | some l => rw [hl] at h; exact ⟨l, rfl, h⟩

/-- Where a request carries its user id depends on the command only through four classes: `L N P` (first decoded byte),
`I S O` (the Base32 digit in second position), `R` (bits of that digit), a hexadecimal digit (the digit itself).  A
cascade of tests for these classes, in this order and however each test is spelt, is a case distinction on `cmdOf`. -/
theorem uidClass_cmdOf {α : Sort _} (c : Nat) {A B C : Prop} [Decidable A] [Decidable B] [Decidable C]
    (hA : A ↔ c = 76 ∨ c = 108 ∨ c = 78 ∨ c = 110 ∨ c = 80 ∨ c = 112)
    (hB : B ↔ c = 73 ∨ c = 105 ∨ c = 83 ∨ c = 115 ∨ c = 79 ∨ c = 111) (hC : C ↔ c = 82 ∨ c = 114) (x y z w n : α) :
    (if A then x else if B then y else if C then z else if isHexDigit c then w else n) =
      match cmdOf c with
      | some .login | some .setfrag | some .ping => x
      | some .ip | some .switch | some .options => y
      | some .probe => z
      | some .data => w
      | none => n := by
  have at_ : ∀ l : Letter, l.codes c → cmdOf c = cmdOfLetter l := fun l h => by rw [cmdOf_eq, letterOf_of_codes h]; rfl
  by_cases h1 : c = 76 ∨ c = 108 ∨ c = 78 ∨ c = 110 ∨ c = 80 ∨ c = 112
  · rw [if_pos (hA.2 h1)]
    rcases h1 with h | h | h | h | h | h
    · rw [at_ .L (.inl h)]; rfl
    · rw [at_ .L (.inr h)]; rfl
    · rw [at_ .N (.inl h)]; rfl
    · rw [at_ .N (.inr h)]; rfl
    · rw [at_ .P (.inl h)]; rfl
    · rw [at_ .P (.inr h)]; rfl
  rw [if_neg (mt hA.1 h1)]
  by_cases h2 : c = 73 ∨ c = 105 ∨ c = 83 ∨ c = 115 ∨ c = 79 ∨ c = 111
  · rw [if_pos (hB.2 h2)]
    rcases h2 with h | h | h | h | h | h
    · rw [at_ .I (.inl h)]; rfl
    · rw [at_ .I (.inr h)]; rfl
    · rw [at_ .S (.inl h)]; rfl
    · rw [at_ .S (.inr h)]; rfl
    · rw [at_ .O (.inl h)]; rfl
    · rw [at_ .O (.inr h)]; rfl
  rw [if_neg (mt hB.1 h2)]
  by_cases h3 : c = 82 ∨ c = 114
  · rw [if_pos (hC.2 h3), at_ .R h3]; rfl
  rw [if_neg (mt hC.1 h3)]
  by_cases h4 : isHexDigit c = true
  · rw [if_pos h4, at_ .D h4]; rfl
  · rw [if_neg h4, cmdOf_eq]
    cases hl : letterOf c with
    | none => rfl
    | some l =>
      have hc := letterOf_some hl
      cases l
      case V | Z | Y => rfl
      case L | N | P => exact absurd (by rcases (hc : _ ∨ _) with rfl | rfl <;> decide) h1
      case I | S | O => exact absurd (by rcases (hc : _ ∨ _) with rfl | rfl <;> decide) h2
      case R => exact absurd hc h3
      case D => exact absurd hc h4

theorem cmdOf_login (c : Nat) (h : cmdOf c = some .login) : c = 76 ∨ c = 108 := by
  obtain ⟨l, hl, hc⟩ := cmdOf_some h
  cases l <;> cases hc
  exact letterOf_some hl

/-- `unpacked[]` of the L, N, P handlers -/
def unpOf (q : Query) (dlen : Nat) : List Nat := Encoding.unpackData Codec.b32 65536 ((inbOf q dlen).drop 1)

/-- the userid the handler of `cmd` extracts -/
def uidOf (q : Query) (dlen : Nat) : Cmd → Int
  | .login | .setfrag | .ping => charVal ((unpOf q dlen).getD 0 0)
  | .ip | .switch | .options => (b32_8to5 ((inbOf q dlen).getD 1 0) : Nat)
  | .probe => (((b32_8to5 ((inbOf q dlen).getD 1 0)) >>> 1) &&& 15 : Nat)
  | .data => hexCode ((inbOf q dlen).getD 0 0)

/-- the access check the handler of `cmd` applies -/
def rejected (s : Srv) (q : Query) (u : Int) : Cmd → Bool
  | .login => checkUserAndIp s u q
  | .ip | .probe | .ping | .data => checkAuthenticatedUserAndIp s u q
  | .switch | .options | .setfrag => checkAuthenticatedUserAndIpAndOptions s u q

def badip (q : Query) : Event := writeDns q (ascii "BADIP") chT
def badlen (q : Query) : Event := writeDns q (ascii "BADLEN") chT

/-- what a rejected request is answered with -/
def refusalOf (q : Query) (dlen : Nat) : Cmd → List Event
  | .login => if (unpOf q dlen).length < 17 then [badlen q] else [badip q]
  | .ip => [badip q]
  | .switch | .options => if dlen < 3 then [badlen q] else [badip q]
  | .probe => if dlen < 16 then [badlen q] else [badip q]
  | .setfrag => if (unpOf q dlen).length < 3 then [badlen q] else [badip q]
  | .ping => if q.id = 0 ∨ (unpOf q dlen).length < 4 then [] else [badip q]
  | .data => if dlen < 6 ∨ q.id = 0 then [] else [badip q]

theorem rejected_of_check (s : Srv) (q : Query) (u : Int) (cmd : Cmd) (h : checkUserAndIp s u q = true) :
    rejected s q u cmd = true := by
  cases cmd
  case login => exact h
  case switch | options | setfrag => exact checkAuthOpt_of_checkAuth s u q (checkAuth_of_check s u q h)
  all_goals exact checkAuth_of_check s u q h

theorem rejected_of_unauth (s : Srv) (q : Query) (u : Int) (cmd : Cmd) (hc : cmd ≠ .login)
    (h : (getUser s u.toNat).authenticated = false) : rejected s q u cmd = true := by
  cases cmd
  case login => exact absurd rfl hc
  case switch | options | setfrag => exact checkAuthOpt_of_checkAuth s u q (checkAuth_unauth s u q h)
  all_goals exact checkAuth_unauth s u q h

theorem rejected_false (s : Srv) (q : Query) (u : Int) (cmd : Cmd) (h : rejected s q u cmd = false) :
    checkUserAndIp s u q = false ∧ (cmd ≠ .login → (getUser s u.toNat).authenticated = true) := by
  cases cmd
  case login => exact ⟨h, fun hc => absurd rfl hc⟩
  case switch | options | setfrag =>
    exact ⟨(checkAuth_false s u q (checkAuthOpt_false s u q h)).1, fun _ => (checkAuth_false s u q (checkAuthOpt_false s u q h)).2⟩
  all_goals exact ⟨(checkAuth_false s u q h).1, fun _ => (checkAuth_false s u q h).2⟩

theorem checkAuth_of_accepted (s : Srv) (q : Query) (u : Int) (cmd : Cmd) (hc : cmd ≠ .login) (h : rejected s q u cmd = false) :
    checkAuthenticatedUserAndIp s u q = false := by
  cases cmd
  case login => exact absurd rfl hc
  case switch | options | setfrag => exact checkAuthOpt_false s u q h
  all_goals exact h

/-- the common shape of the handlers of these commands: too short a request gets one answer (or none), then the access
check; so a request the check rejects changes nothing, whatever the rest of the handler is -/
theorem refused_shape {s : Srv} {short : Prop} [Decidable short] {chk : Bool} {a b : List Event} {rest : Res}
    (h : chk = true) : (if short then (s, a) else if chk = true then (s, b) else rest) = (s, if short then a else b) := by
  by_cases hs : short
  · rw [if_pos hs, if_pos hs]
  · rw [if_neg hs, if_neg hs, if_pos h]

/-- the same with two tests in front of the check (ping and data: the DNS id, the length) -/
theorem refused_shape₂ {s : Srv} {p p' : Prop} [Decidable p] [Decidable p'] {chk : Bool} {a b : List Event} {rest : Res}
    (h : chk = true) :
    (if p then (s, a) else if p' then (s, a) else if chk = true then (s, b) else rest) = (s, if p ∨ p' then a else b) := by
  by_cases hp : p
  · rw [if_pos hp, if_pos (.inl hp)]
  · rw [if_neg hp, refused_shape h]
    by_cases hp' : p'
    · rw [if_pos hp', if_pos (.inr hp')]
    · rw [if_neg hp', if_neg (fun h => h.elim hp hp')]

theorem handleLogin_refused (s : Srv) (q : Query) (dlen : Nat)
    (h : rejected s q (uidOf q dlen .login) .login = true) :
    handleLogin s q (inbOf q dlen) = (s, refusalOf q dlen .login) := by
  rw [handleLogin]; exact refused_shape h

theorem handleIp_refused (s : Srv) (q : Query) (dlen : Nat)
    (h : rejected s q (uidOf q dlen .ip) .ip = true) :
    handleIp s q (inbOf q dlen) = (s, refusalOf q dlen .ip) := by
  rw [handleIp]; exact if_pos h

theorem handleSwitchCodec_refused (s : Srv) (q : Query) (dlen : Nat)
    (h : rejected s q (uidOf q dlen .switch) .switch = true) :
    handleSwitchCodec s q dlen (inbOf q dlen) = (s, refusalOf q dlen .switch) := by
  rw [handleSwitchCodec]; exact refused_shape h

theorem handleOptions_refused (s : Srv) (q : Query) (dlen : Nat)
    (h : rejected s q (uidOf q dlen .options) .options = true) :
    handleOptions s q dlen (inbOf q dlen) = (s, refusalOf q dlen .options) := by
  rw [handleOptions]; exact refused_shape h

theorem handleFragsizeProbe_refused (s : Srv) (q : Query) (dlen : Nat)
    (h : rejected s q (uidOf q dlen .probe) .probe = true) :
    handleFragsizeProbe s q dlen (inbOf q dlen) = (s, refusalOf q dlen .probe) := by
  rw [handleFragsizeProbe]; exact refused_shape h

theorem handleSetFragsize_refused (s : Srv) (q : Query) (dlen : Nat)
    (h : rejected s q (uidOf q dlen .setfrag) .setfrag = true) :
    handleSetFragsize s q (inbOf q dlen) = (s, refusalOf q dlen .setfrag) := by
  rw [handleSetFragsize]; exact refused_shape h

theorem handlePing_refused (s : Srv) (q : Query) (dlen : Nat)
    (h : rejected s q (uidOf q dlen .ping) .ping = true) :
    handlePing s q (inbOf q dlen) = (s, refusalOf q dlen .ping) := by
  rw [handlePing]; exact refused_shape₂ h

theorem handleData_refused (s : Srv) (q : Query) (dlen : Nat)
    (h : rejected s q (uidOf q dlen .data) .data = true) :
    handleData s q dlen (inbOf q dlen) = (s, refusalOf q dlen .data) := by
  rw [handleData]; exact refused_shape₂ h

/-- which handler `handle_null_request` runs for a command that names a session -/
def runCmd (s : Srv) (q : Query) (dlen : Nat) : Cmd → Res
  | .login => handleLogin s q (inbOf q dlen)
  | .ip => handleIp s q (inbOf q dlen)
  | .switch => handleSwitchCodec s q dlen (inbOf q dlen)
  | .options => handleOptions s q dlen (inbOf q dlen)
  | .probe => handleFragsizeProbe s q dlen (inbOf q dlen)
  | .setfrag => handleSetFragsize s q (inbOf q dlen)
  | .ping => handlePing s q (inbOf q dlen)
  | .data => handleData s q dlen (inbOf q dlen)

theorem handleNullRequest_cmd (s : Srv) (q : Query) (dlen : Nat) (cmd : Cmd) (h2 : 2 ≤ dlen)
    (hc : cmdOf ((inbOf q dlen).getD 0 0) = some cmd) :
    handleNullRequest s q dlen = runCmd s q dlen cmd := by
  obtain ⟨l, hl, hc⟩ := cmdOf_some hc
  rw [handleNullRequest_eq, if_neg (by omega), hl]
  cases l <;> cases hc <;> rfl

theorem runCmd_refused (s : Srv) (q : Query) (dlen : Nat) (cmd : Cmd)
    (h : rejected s q (uidOf q dlen cmd) cmd = true) : runCmd s q dlen cmd = (s, refusalOf q dlen cmd) := by
  cases cmd <;> unfold runCmd <;> dsimp only
  · exact handleLogin_refused s q dlen h
  · exact handleIp_refused s q dlen h
  · exact handleSwitchCodec_refused s q dlen h
  · exact handleOptions_refused s q dlen h
  · exact handleFragsizeProbe_refused s q dlen h
  · exact handleSetFragsize_refused s q dlen h
  · exact handlePing_refused s q dlen h
  · exact handleData_refused s q dlen h

/-- the test for the `ns.<topdomain>` A query -/
def isNsA (q : Query) (dlen : Nat) : Prop :=
  dlen = 3 ∧ q.type = T_A ∧ (q.name.getD 0 0 = 110 ∨ q.name.getD 0 0 = 78) ∧
    (q.name.getD 1 0 = 115 ∨ q.name.getD 1 0 = 83) ∧ q.name.getD 2 0 = 46

/-- the test for the `www.<topdomain>` A query -/
def isWwwA (q : Query) (dlen : Nat) : Prop :=
  dlen = 4 ∧ q.type = T_A ∧ (q.name.getD 0 0 = 119 ∨ q.name.getD 0 0 = 87) ∧
    (q.name.getD 1 0 = 119 ∨ q.name.getD 1 0 = 87) ∧ (q.name.getD 2 0 = 119 ∨ q.name.getD 2 0 = 87) ∧
    q.name.getD 3 0 = 46

theorem tunnelDns_null (s : Srv) (q : Query) (dlen : Nat)
    (hd : Common.queryDatalen q.name s.cfg.topdomain = some dlen)
    (hns : ¬ isNsA q dlen) (hwww : ¬ isWwwA q dlen) (hty : C16L.TunnelType q.type) :
    tunnelDns s q = handleNullRequest s q dlen := by
  unfold tunnelDns
  have hl := Common.queryDatalen_some_le hd
  rw [if_neg (by omega), hd]
  dsimp only
  unfold isNsA at hns
  unfold isWwwA at hwww
  unfold C16L.TunnelType at hty
  rw [if_neg hns, if_neg hwww, if_pos hty]

theorem toSlot_getElem (s : Srv) (k : Nat) (hk : k < (s.users.map toSlot).length) :
    (s.users.map toSlot)[k] = toSlot (getUser s k) := by
  simp only [List.length_map] at hk
  unfold getUser
  simp [hk]

/-- slot `x` is a live logged-in session with tunnel address `ip` -/
def OwnsM (x : Session) (now ip : Nat) : Prop :=
  x.active = true ∧ x.authenticated = true ∧ x.disabled = false ∧ now < x.lastPkt + 60 ∧ x.tunIp = ip

/-- slot `x` may be handed out -/
def ReusableM (x : Session) (now : Nat) : Prop :=
  (x.active = false ∨ x.lastPkt + 60 < now) ∧ x.disabled = false

theorem exists_first {P : Nat → Prop} {n j : Nat} (hj : j < n) (h : P j) : ∃ u, u < n ∧ P u ∧ ∀ i, i < u → ¬ P i := by
  induction j using Nat.strongRecOn with
  | _ j ih =>
    by_cases hex : ∃ i, i < j ∧ P i
    · obtain ⟨i, hi, hio⟩ := hex
      exact ih i hi (by omega) hio
    · exact ⟨j, hj, h, fun i hi hio => hex ⟨i, hi, hio⟩⟩

theorem findUserByIp_some_iff (s : Srv) (ip u : Nat) :
    findUserByIp s ip = some u ↔
      u < s.users.length ∧ OwnsM (getUser s u) s.now ip ∧ ∀ j, j < u → ¬ OwnsM (getUser s j) s.now ip := by
  unfold findUserByIp Users.findUserByIp
  rw [Users.findUserByIpFrom_some]
  constructor
  · rintro ⟨k, hk, hlt, hp, hmin⟩
    obtain rfl : u = k := by omega
    refine ⟨by simpa using hlt, ?_, ?_⟩
    · rw [toSlot_getElem s u hlt] at hp; exact hp
    · intro j hj
      have := hmin j hj
      rw [toSlot_getElem s j (by omega)] at this; exact this
  · rintro ⟨hlt, hp, hmin⟩
    have hlt' : u < (s.users.map toSlot).length := by simpa using hlt
    refine ⟨u, by omega, hlt', ?_, ?_⟩
    · rw [toSlot_getElem s u hlt']; exact hp
    · intro j hj
      rw [toSlot_getElem s j (by omega)]; exact hmin j hj

theorem findUserByIp_active {s : Srv} {ip u : Nat} (h : findUserByIp s ip = some u) : (getUser s u).active = true :=
  ((findUserByIp_some_iff s ip u).mp h).2.1.1

theorem findUserByIp_none_iff (s : Srv) (ip : Nat) :
    findUserByIp s ip = none ↔ ∀ j, j < s.users.length → ¬ OwnsM (getUser s j) s.now ip := by
  constructor
  · intro h j hj hown
    obtain ⟨u, hu⟩ := exists_first (P := fun j => OwnsM (getUser s j) s.now ip) hj hown
    rw [(findUserByIp_some_iff s ip u).2 hu] at h
    cases h
  · intro h
    cases hf : findUserByIp s ip with
    | none => rfl
    | some u =>
      obtain ⟨hlt, hp, _⟩ := (findUserByIp_some_iff s ip u).1 hf
      exact absurd hp (h u hlt)

theorem findAvailableFrom_fst_eq (now : Nat) : ∀ (slots : List Users.Slot) (i : Nat),
    (Users.findAvailableFrom now slots i).1 =
      (slots.findIdx? fun x => decide ((x.active = false ∨ x.lastPkt + 60 < now) ∧ x.disabled = false)).map (· + i)
  | [], _ => rfl
  | x :: rest, i => by
    rw [Users.findAvailableFrom, List.findIdx?_cons]
    by_cases hc : (x.active = false ∨ x.lastPkt + 60 < now) ∧ x.disabled = false
    · rw [if_pos (by simpa using hc), decide_eq_true hc]; simp
    · rw [if_neg (by simpa using hc), decide_eq_false hc]
      dsimp only
      rw [findAvailableFrom_fst_eq now rest]
      simp [Option.map_map, Function.comp_def, Nat.add_assoc, Nat.add_comm 1]

theorem findAvailableFrom_fst (now : Nat) (slots : List Users.Slot) (i u : Nat) :
    (Users.findAvailableFrom now slots i).1 = some u ↔
      ∃ k, u = i + k ∧ ∃ hk : k < slots.length,
        ((slots[k].active = false ∨ slots[k].lastPkt + 60 < now) ∧ slots[k].disabled = false) ∧
        ∀ j (hj : j < k), ¬ ((slots[j].active = false ∨ slots[j].lastPkt + 60 < now) ∧ slots[j].disabled = false) := by
  rw [findAvailableFrom_fst_eq]
  exact Users.first_from_iff (fun x : Users.Slot => (x.active = false ∨ x.lastPkt + 60 < now) ∧ x.disabled = false)
    slots i u

theorem findAvailableUser_some_iff (s : Srv) (u : Nat) :
    (findAvailableUser s).1 = some u ↔
      u < s.users.length ∧ ReusableM (getUser s u) s.now ∧ ∀ j, j < u → ¬ ReusableM (getUser s j) s.now := by
  rw [findAvailableUser_fst]
  unfold Users.findAvailableUser
  rw [findAvailableFrom_fst]
  constructor
  · rintro ⟨k, hk, hlt, hp, hmin⟩
    obtain rfl : u = k := by omega
    refine ⟨by simpa using hlt, ?_, ?_⟩
    · rw [toSlot_getElem s u hlt] at hp; exact hp
    · intro j hj
      have := hmin j hj
      rw [toSlot_getElem s j (by omega)] at this; exact this
  · rintro ⟨hlt, hp, hmin⟩
    have hlt' : u < (s.users.map toSlot).length := by simpa using hlt
    refine ⟨u, by omega, hlt', ?_, ?_⟩
    · rw [toSlot_getElem s u hlt']; exact hp
    · intro j hj
      rw [toSlot_getElem s j (by omega)]; exact hmin j hj

theorem findAvailableUser_none_iff (s : Srv) :
    (findAvailableUser s).1 = none ↔ ∀ j, j < s.users.length → ¬ ReusableM (getUser s j) s.now := by
  constructor
  · intro h j hj hown
    obtain ⟨u, hu⟩ := exists_first (P := fun j => ReusableM (getUser s j) s.now) hj hown
    rw [(findAvailableUser_some_iff s u).2 hu] at h
    cases h
  · intro h
    cases hf : (findAvailableUser s).1 with
    | none => rfl
    | some u =>
      obtain ⟨hlt, hp, _⟩ := (findAvailableUser_some_iff s u).1 hf
      exact absurd hp (h u hlt)

theorem frame_handleVersion (s : Srv) (q : Query) (inb : List Nat) :
    Frame erTun (fun v => (findAvailableUser s).1 = some v) s (handleVersion s q inb).1 := by
  rcases handleVersion_cases s q inb with ⟨u, _, hu, hs, _⟩ | ⟨hs, _⟩
  · rw [hs]
    have : Frame erTun (· = u) s (setUser (setUser (popRand (setUser s u (claim s.now))).2 u fun x =>
          { x with seed := (popRand (setUser s u (claim s.now))).1, host := q.from_, q := q, encoder := .b32,
                   downenc := chT }) u resetSession) := by
      refine Frame.trans ?_ (Frame.set erTun _ u _ (fun _ => rfl))
      refine Frame.trans ?_ (Frame.set erTun _ u _ (fun _ => rfl))
      refine Frame.trans ?_ (Frame.popRand erTun _ _)
      exact Frame.set erTun _ u _ (fun _ => rfl)
    exact this.mono (fun v hv => by rw [hv]; exact hu)
  · rw [hs]; exact Frame.refl _ _ _

theorem frame_handleLogin (s : Srv) (q : Query) (dlen : Nat) :
    Frame erLogin (fun v => rejected s q (uidOf q dlen .login) .login = false ∧ v = (uidOf q dlen .login).toNat) s
      (handleLogin s q (inbOf q dlen)).1 := by
  have touch : Frame erLogin (· = (uidOf q dlen .login).toNat) s
      (setUser s (uidOf q dlen .login).toNat fun x => { x with lastPkt := s.now }) := Frame.set erLogin _ _ _ fun _ => rfl
  refine handleLogin_ind (P := fun r => Frame erLogin _ s r.1) s q _ (fun _ => Frame.refl _ _ _)
    (fun hr => touch.mono fun v hv => ⟨hr, hv⟩) fun hr _ _ _ _ => ?_
  refine Frame.mono (U := (· = (uidOf q dlen .login).toNat)) ?_ fun v hv => ⟨hr, hv⟩
  exact touch.trans (Frame.set erLogin _ _ _ fun _ => rfl)

theorem frame_handleSwitchCodec (s : Srv) (q : Query) (dlen : Nat) :
    Frame erId (fun v => rejected s q (uidOf q dlen .switch) .switch = false ∧ v = (uidOf q dlen .switch).toNat) s
      (handleSwitchCodec s q dlen (inbOf q dlen)).1 := by
  rcases handleSwitchCodec_cases s q dlen (inbOf q dlen) with ⟨_, h⟩ | ⟨hr, h | ⟨_, h⟩⟩ <;> rw [h]
  · exact Frame.refl _ _ _
  · exact Frame.refl _ _ _
  · exact Frame.mono (Frame.set erId _ _ _ fun _ => rfl) fun v hv => ⟨hr, hv⟩

theorem frame_handleOptions (s : Srv) (q : Query) (dlen : Nat) :
    Frame erId (fun v => rejected s q (uidOf q dlen .options) .options = false ∧ v = (uidOf q dlen .options).toNat) s
      (handleOptions s q dlen (inbOf q dlen)).1 := by
  rcases handleOptions_cases s q dlen (inbOf q dlen) with ⟨_, h⟩ | ⟨hr, h | ⟨_, _, h⟩ | ⟨_, _, h⟩⟩ <;> rw [h]
  · exact Frame.refl _ _ _
  · exact Frame.refl _ _ _
  · refine Frame.mono ?_ (fun v hv => ⟨hr, hv⟩)
    exact Frame.set erId _ _ _ (fun _ => rfl)
  · refine Frame.mono ?_ (fun v hv => ⟨hr, hv⟩)
    exact Frame.set erId _ _ _ (fun _ => rfl)

theorem frame_handleFragsizeProbe (s : Srv) (q : Query) (dlen : Nat) (U : Nat → Prop) :
    Frame erOut U s (handleFragsizeProbe s q dlen (inbOf q dlen)).1 := by
  obtain ⟨_, _, h | h⟩ := handleFragsizeProbe_cases s q dlen (inbOf q dlen) <;> rw [h]
  · exact Frame.refl _ _ _
  · exact Frame.popRand _ _ _

theorem frame_handleSetFragsize (s : Srv) (q : Query) (dlen : Nat) :
    Frame erId (fun v => rejected s q (uidOf q dlen .setfrag) .setfrag = false ∧ v = (uidOf q dlen .setfrag).toNat) s
      (handleSetFragsize s q (inbOf q dlen)).1 := by
  refine handleSetFragsize_ind (P := fun r => Frame erId _ s r.1) s q _ (fun _ _ => Frame.refl _ _ _) fun _ hr _ _ => ?_
  refine Frame.mono (U := (· = (uidOf q dlen .setfrag).toNat)) ?_ fun v hv => ⟨hr, hv⟩
  exact Frame.set erId _ _ _ fun _ => rfl

end Iodine.C04L
