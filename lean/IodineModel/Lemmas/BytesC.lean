import IodineModel.Lemmas.BytesB
import IodineModel.Lemmas.Common
import IodineModel.Props.C12
/-
The byte-level server: `read_dns` (never faults, residue independent, what it hands on),
`encodeEvents` (every `tx` is `write_dns` of an `ans`, every `nsa` is built from the arriving query), and the invariant of the
process on the keys of held queries (`BInv P`, `binv_step`).
-/
namespace Iodine.BytesL
open Iodine Iodine.Server Iodine.C14L Iodine.Gen Iodine.C10 Iodine.Downstream

/-! ### receive side -/

theorem decodeInput_eq (res : Array Nat) (s : Srv) (src : Addr) (bytes : List Nat) :
    decodeInputR res s src bytes = .ok (decodeInput s src bytes) := C12.read_dns_eq res s src bytes

/-- the question name `read_dns` extracts from the datagram, when it hands a query on, is a legal host name -/
def QuestionLegal (bytes : List Nat) : Prop :=
  match Wire.dnsDecodeQuery (rxBuf #[] (bytes.take 65536)) with
  | .ok d => d.rv ≤ 0 ∨ LegalName d.name
  | .error _ => True

instance (bytes : List Nat) : Decidable (QuestionLegal bytes) := by
  unfold QuestionLegal; split <;> infer_instance

/-- `read_dns` on a datagram that is not empty and that `raw_decode` does not take: dropped or handed on, as the return value
of `dns_decode` says -/
theorem decodeInput_of_decoded {s : Srv} {src : Addr} {bytes : List Nat} {d : Wire.Decoded}
    (hne : (bytes.take 65536).length ≠ 0) (hraw : (rawDecode s (bytes.take 65536) src).isSome = false)
    (hd : Wire.dnsDecodeQuery (rxBuf #[] (bytes.take 65536)) = .ok d) :
    decodeInput s src bytes = if d.rv ≤ 0 then .tick else .q (queryOfDecoded s.cfg src d) := by
  unfold decodeInput decodeInputR
  simp only [if_neg hne, hraw, Bool.false_eq_true, if_false, hd, Wire.bind_ok]
  by_cases hrv : d.rv ≤ 0
  · simp only [if_pos hrv]
  · simp only [if_neg hrv]

/-- what `read_dns` hands on: nothing, the (cut) datagram as a raw frame, or the query `dns_decode` extracted with `rv > 0` -/
theorem decodeInput_cases (s : Srv) (src : Addr) (bytes : List Nat) :
    decodeInput s src bytes = .tick ∨ decodeInput s src bytes = .rawf src (bytes.take 65536) ∨
    ∃ d, Wire.dnsDecodeQuery (rxBuf #[] (bytes.take 65536)) = .ok d ∧ ¬ d.rv ≤ 0 ∧
      decodeInput s src bytes = .q (queryOfDecoded s.cfg src d) := by
  by_cases hne : (bytes.take 65536).length = 0
  · left; unfold decodeInput decodeInputR; simp only [if_pos hne]
  cases hraw : (rawDecode s (bytes.take 65536) src).isSome
  · cases hd : Wire.dnsDecodeQuery (rxBuf #[] (bytes.take 65536)) with
    | error e => left; unfold decodeInput decodeInputR; simp only [if_neg hne, hraw, Bool.false_eq_true, if_false, hd]; rfl
    | ok d =>
      rw [decodeInput_of_decoded hne hraw hd]
      by_cases hrv : d.rv ≤ 0
      · left; rw [if_pos hrv]
      · right; right; exact ⟨d, rfl, hrv, by rw [if_neg hrv]⟩
  · right; left; unfold decodeInput decodeInputR; simp only [if_neg hne, hraw, if_true]

theorem decodeInput_q {s : Srv} {src : Addr} {bytes : List Nat} {q : Query} (h : decodeInput s src bytes = .q q) :
    q.id2 = 0 ∧ q.id < 65536 ∧ q.type < 65536 ∧ q.from_ = src ∧ (QuestionLegal bytes → LegalName q.name) := by
  rcases decodeInput_cases s src bytes with h' | h' | ⟨d, hd, hrv, h'⟩ <;> rw [h'] at h <;> cases h
  have hf := dnsDecodeQuery_facts hd
  refine ⟨rfl, hf.1, hf.2, rfl, fun hl => ?_⟩
  unfold QuestionLegal at hl
  rw [hd] at hl
  exact hl.resolve_left hrv

/-! ### send side -/

/-- what a datagram in the encoding of one event is: a `tx` is `write_dns` of an `ans` event, an `nsa` / a `fwd` is built from
the arriving query -/
theorem mem_encodeEvent {cfg : Config} {q? : Option Query} {td : WriteDns.Td} {e : Event} {bev : BEvent}
    (h : bev ∈ (encodeEvent cfg q? td e).2) :
    match bev with
    | .tx dst bytes => ∃ id ty dn name data tag, e = Event.ans dst id ty dn name data tag ∧
        (WriteDns.writeDns td (id, ty, name) data dn).2 = some bytes
    | .nsa dst bytes => ∃ q, q? = some q ∧ e = Event.nsa dst ∧ nsaBytes cfg q = some bytes
    | .fwd dst bytes => ∃ q, q? = some q ∧ e = Event.fwd dst ∧ fwdBytes q = some bytes
    | _ => True := by
  cases e with
  | ans dst id ty dn name data tag =>
    simp only [encodeEvent] at h
    cases hw : (WriteDns.writeDns td (id, ty, name) data dn).2 with
    | none => rw [hw] at h; cases h
    | some pkt => rw [hw] at h; cases List.mem_singleton.1 h; exact ⟨id, ty, dn, name, data, tag, rfl, hw⟩
  | nsa d =>
    simp only [encodeEvent] at h
    cases hb : q?.bind (nsaBytes cfg) with
    | none => rw [hb] at h; cases h
    | some b =>
      rw [hb] at h
      cases List.mem_singleton.1 h
      cases q? with
      | none => cases hb
      | some q => exact ⟨q, rfl, rfl, hb⟩
  | fwd d =>
    simp only [encodeEvent] at h
    cases hb : q?.bind fwdBytes with
    | none => rw [hb] at h; cases h
    | some b =>
      rw [hb] at h
      cases List.mem_singleton.1 h
      cases q? with
      | none => cases hb
      | some q => exact ⟨q, rfl, rfl, hb⟩
  | raw d b => cases List.mem_singleton.1 h; trivial
  | tunw f => cases List.mem_singleton.1 h; trivial
  | rly d b => cases List.mem_singleton.1 h; trivial
  | sweep => cases h
  | tunskip => cases h

theorem encodeEvent_tdOk (cfg : Config) (q? : Option Query) {td : WriteDns.Td} (h : TdOk td) (e : Event) :
    TdOk (encodeEvent cfg q? td e).1 := by
  cases e <;> simp only [encodeEvent] <;> first | exact h | exact writeDns_tdOk td h _ _ _

/-- every event paired with what it sends: the event is one of the iteration's, and the datagrams are its encoding at some value
of the static counters (in range if they were at the start) -/
theorem mem_encodeEventsL (cfg : Config) (q? : Option Query) : ∀ (evs : List Event) (td : WriteDns.Td),
    ∀ pr ∈ (encodeEventsL cfg q? td evs).2, pr.1 ∈ evs ∧ ∃ td0, (TdOk td → TdOk td0) ∧ pr.2 = (encodeEvent cfg q? td0 pr.1).2
  | [], td, pr, hpr => by simp [encodeEventsL] at hpr
  | e :: rest, td, pr, hpr => by
    simp only [encodeEventsL, List.mem_cons] at hpr
    rcases hpr with rfl | hpr
    · exact ⟨List.mem_cons_self, td, id, rfl⟩
    · obtain ⟨hm, td0, htd0, h0⟩ := mem_encodeEventsL cfg q? rest _ pr hpr
      exact ⟨List.mem_cons_of_mem _ hm, td0, fun h => htd0 (encodeEvent_tdOk cfg q? h e), h0⟩

theorem encodeEventsL_tdOk (cfg : Config) (q? : Option Query) : ∀ (evs : List Event) (td : WriteDns.Td), TdOk td →
    TdOk (encodeEventsL cfg q? td evs).1
  | [], _, h => h
  | e :: rest, _, h => encodeEventsL_tdOk cfg q? rest _ (encodeEvent_tdOk cfg q? h e)

theorem mem_encodeEvents {cfg : Config} {td : WriteDns.Td} {inp : Input} {evs : List Event} {b : BEvent}
    (h : b ∈ (encodeEvents cfg td inp evs).2) : ∃ pr ∈ (encodeEventsL cfg (queryOf inp) td evs).2, b ∈ pr.2 := by
  unfold encodeEvents at h
  simp only [List.mem_flatMap] at h
  exact h

theorem queryOf_eq_some {i : Input} {q : Query} (h : queryOf i = some q) : i = .q q := by
  cases i with
  | q q' => rw [Option.some.inj h]
  | _ => cases h

/-- every datagram an iteration sends is in the encoding of one of its events, at some value of the static counters (in range
if they were before) -/
theorem biteration_mem {b : BSrv} {inp : BInput} {now' : Nat} {bev : BEvent} (h : bev ∈ (biteration b inp now').2.1) :
    ∃ e ∈ out b.srv ⟨toInput b.srv inp, now'⟩, ∃ td0, (TdOk b.td → TdOk td0) ∧
      bev ∈ (encodeEvent b.srv.cfg (queryOf (toInput b.srv inp)) td0 e).2 := by
  obtain ⟨pr, hpr, hb⟩ := mem_encodeEvents h
  obtain ⟨hmem, td0, htd0, h0⟩ := mem_encodeEventsL _ _ _ _ pr hpr
  exact ⟨pr.1, hmem, td0, htd0, h0 ▸ hb⟩

/-- a `tx` of an iteration is `write_dns` of one of its `ans` events, at counters that are in range if they were -/
theorem biteration_tx {b : BSrv} {inp : BInput} {now' : Nat} {dst : Addr} {bytes : List Nat}
    (h : BEvent.tx dst bytes ∈ (biteration b inp now').2.1) :
    ∃ id ty dn name data tag td0, Event.ans dst id ty dn name data tag ∈ out b.srv ⟨toInput b.srv inp, now'⟩ ∧
      (TdOk b.td → TdOk td0) ∧ (WriteDns.writeDns td0 (id, ty, name) data dn).2 = some bytes := by
  obtain ⟨e, hmem, td0, htd0, hb⟩ := biteration_mem h
  obtain ⟨id, ty, dn, name, data, tag, rfl, hw⟩ := mem_encodeEvent hb
  exact ⟨id, ty, dn, name, data, tag, td0, hmem, htd0, hw⟩

/-- an `nsa` of an iteration answers the query `read_dns` decoded in this iteration -/
theorem biteration_nsa {b : BSrv} {inp : BInput} {now' : Nat} {dst : Addr} {bytes : List Nat}
    (h : BEvent.nsa dst bytes ∈ (biteration b inp now').2.1) :
    ∃ q, toInput b.srv inp = .q q ∧ Event.nsa dst ∈ out b.srv ⟨toInput b.srv inp, now'⟩ ∧
      nsaBytes b.srv.cfg q = some bytes := by
  obtain ⟨e, hmem, _, _, hb⟩ := biteration_mem h
  obtain ⟨q, hq, rfl, hbytes⟩ := mem_encodeEvent hb
  exact ⟨q, queryOf_eq_some hq, hmem, hbytes⟩

/-- a `fwd` of an iteration re-encodes the query `read_dns` decoded in this iteration -/
theorem biteration_fwd {b : BSrv} {inp : BInput} {now' : Nat} {dst : Addr} {bytes : List Nat}
    (h : BEvent.fwd dst bytes ∈ (biteration b inp now').2.1) :
    ∃ q, toInput b.srv inp = .q q ∧ Event.fwd dst ∈ out b.srv ⟨toInput b.srv inp, now'⟩ ∧ fwdBytes q = some bytes := by
  obtain ⟨e, hmem, _, _, hb⟩ := biteration_mem h
  obtain ⟨q, hq, rfl, hbytes⟩ := mem_encodeEvent hb
  exact ⟨q, queryOf_eq_some hq, hmem, hbytes⟩

/-! ### the invariant of the process -/

/-- id and type are 16-bit, the name is legal, the type is one `handle_null_request` serves -/
def GoodKey (k : Key) : Prop := k.2.1 < 65536 ∧ LegalName k.2.2.1 ∧ TunnelType k.2.2.2

/-- static counters in range; every query held back satisfies `P` -/
structure BInv (P : Key → Prop) (b : BSrv) : Prop where
  td : TdOk b.td
  keys : KeyInv P b.srv

/-- the datagram's question (if `read_dns` hands one on) has a legal name -/
def LegalInput : BInput → Prop
  | .dgram _ bytes => QuestionLegal bytes
  | _ => True

instance : DecidablePred LegalInput := fun i => by cases i <;> unfold LegalInput <;> infer_instance

theorem toInput_q {s : Srv} {inp : BInput} {q : Query} (h : toInput s inp = .q q) :
    q.id2 = 0 ∧ q.id < 65536 ∧ q.type < 65536 ∧ (LegalInput inp → LegalName q.name) := by
  cases inp with
  | dgram src bytes =>
    obtain ⟨h1, h2, h3, _, h5⟩ := decodeInput_q (s := s) h
    exact ⟨h1, h2, h3, h5⟩
  | tun f => cases h
  | bind b => cases h
  | tick => cases h

theorem binv_start (P : Key → Prop) (cfg : Config) (rnd : List Nat) : BInv P (bstart cfg rnd) :=
  ⟨by unfold TdOk bstart; simp, keyInv_start _ cfg rnd⟩

/-- one byte-level iteration in which the key of a decoded tunnel-type question inside the tunnel domain satisfies `P`: the
invariant is kept and every `write_dns` goes to a key that satisfies `P` -/
theorem binv_step {P : Key → Prop} {b : BSrv} (hb : BInv P b) (inp : BInput) (now' : Nat)
    (hP : ∀ q, toInput b.srv inp = .q q → TunnelType q.type → Common.queryDatalen q.name b.srv.cfg.topdomain ≠ none →
      P (keyOf q)) :
    BInv P (biteration b inp now').1 ∧ AnsInv P (out b.srv ⟨toInput b.srv inp, now'⟩) := by
  have hk := iteration_keys_plain P b.srv (toInput b.srv inp) now' (fun q hq => (toInput_q hq).1) hP hb.keys
  exact ⟨⟨encodeEventsL_tdOk _ _ _ _ hb.td, hk.2⟩, hk.1⟩

theorem goodKey_of_legal {s : Srv} {inp : BInput} {q : Query} (hq : toInput s inp = .q q) (hty : TunnelType q.type)
    (hl : LegalName q.name) : GoodKey (keyOf q) := ⟨(toInput_q hq).2.1, hl, hty⟩

end Iodine.BytesL
