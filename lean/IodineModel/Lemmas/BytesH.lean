import IodineModel.Lemmas.BytesG
import IodineModel.Lemmas.BytesC
import IodineModel.Server.Run
/-
The invariant of the slots (Lemmas/BytesF: bytes and sizes) through every primitive step of an iteration
(`closed_slots`, over `Prim` of Lemmas/Steps; `ctrl_ok`: every control answer is a byte string of 2..4096 bytes), hence through one
whole iteration of `tunnel()` (`iteration_slots`).
-/
namespace Iodine.BytesL
open Iodine Iodine.Server Iodine.Gen Iodine.C10 Iodine.C05L

theorem good_forwardQuery {s : Srv} (h : SlotInv s) (q : Query) : Good (forwardQuery s q) := by
  unfold forwardQuery
  exact ⟨slotInv_users h rfl, ansOK_noans (by intros; simp), evOK_one trivial⟩

/-! ### inputs made of bytes, the top of the loop -/

/-- what the session machine is given (an `Input`: the question already decoded), as byte strings: a decoded question name (at
most 255 characters), a raw frame, a tun frame; replies on the forward socket are relayed but never answered with `write_dns` -/
def InputBytes : Input → Prop
  | .q q => IsBytes q.name ∧ q.name.length ≤ 255
  | .rawf _ b => IsBytes b
  | .tun f => IsBytes f
  | .bind _ => True
  | .tick => True

/-- the same one level down, of what the byte-level server is given (a `BInput`: the datagram as received); `toInput` takes it
to `InputBytes` (`C05L.inputBytes_toInput_any`).  `C10.ByteDgram` and `C05.ByteInput` of the Props are this predicate
(`C10.byteDgram_iff`). -/
def ByteInput : BInput → Prop
  | .dgram _ bytes => IsBytes bytes
  | .tun f => IsBytes f
  | .bind _ => True
  | .tick => True

theorem slotInv_topOfLoop {s : Srv} (h : SlotInv s) (now' : Nat) : SlotInv { (topOfLoop s).1 with now := now' } :=
  slots_topOfLoop h (fun _ hx => ⟨hx.1.congr, hx.2.congr⟩) now'

theorem slotInv_start (cfg : Config) (rnd : List Nat) : SlotInv (start cfg rnd) := slots_start slotOK_zero cfg rnd

/-! ### one iteration -/

theorem ctrl_ok {cfg : Config} (hc : CfgBound cfg) {q : Query} (hq : IsBytes q.name) {d : List Nat} (h : Ctrl cfg q d) :
    IsBytes d ∧ 2 ≤ d.length ∧ d.length ≤ 4096 := by
  cases h with
  | text t => cases t <;> decide
  | codec e => exact cname_ok e
  | vers k p u => exact vers_ok k p u
  | login t => exact loginReply_ok cfg hc t
  | ip n v hn =>
    refine ⟨isBytes_cons.2 ⟨by decide, beBytes_bytes n v⟩, ?_, ?_⟩ <;>
      (simp only [List.length_cons, beBytes_length]; omega)
  | echo dlen h2 h3 =>
    refine ⟨isBytes_take _ hq, ?_, ?_⟩ <;> (simp only [List.length_take]; omega)
  | check => decide
  | probe req v h2 h => exact probeBytes_ok req v h2 h

/-- a packet handed to a session consists of bytes: it is the compressed tun frame or comes out of a slot -/
theorem isBytes_src {inp : Input} (hi : InputBytes inp) {s : Srv} (h : SlotInv s) {d : List Nat} {n : Nat}
    (hs : Src inp s d n) : IsBytes d := by
  cases hs with
  | tun f hf => subst hf; exact isBytes_cons.2 ⟨by decide, isBytes_take _ hi⟩
  | up v => exact (slotOK_getUser h v).1.inp

/-- **the invariant of the slots, step by step**: what every primitive step of an iteration does to it (the configuration is
carried along for the login reply) -/
theorem closed_slots {inp : Input} (hi : InputBytes inp) :
    Closed inp every fun s r => CfgBound s.cfg → SlotInv s → Good r where
  nil := fun _ _ h => good_nil h
  seq := fun hr h1 h2 hc h =>
    have g1 := h1 hc h
    have g2 := h2 (hr.cfg ▸ hc) g1.1
    ⟨g2.1, ansOK_append g1.2.1 g2.2.1, evOK_append g1.2.2 g2.2.2⟩
  prim := by
    intro s r hp hc h
    have keep : ∀ u (f : Session → Session), (∀ x, SlotOK x → SlotOK (f x)) → Good (setUser s u f, []) :=
      fun u f hf => good_nil (slotInv_setUser h u f hf)
    have ans : ∀ (q : Query) (d : List Nat) (dn : Nat), IsBytes d ∧ 2 ≤ d.length ∧ d.length ≤ 4096 →
        AnsOK [writeDns q d dn] ∧ EvOK [writeDns q d dn] :=
      fun q d dn hd => ⟨ansOK_writeDns q d dn _ hd.1 (Or.inl hd.2.1) hd.2.2, evOK_writeDns _ _ _ _⟩
    cases hp with
    | ctrl q d dn hq hd => exact ⟨h, ans q d dn (ctrl_ok hc (by subst hq; exact hi.1) hd)⟩
    | cached u q e _ he =>
      refine ⟨h, ansOK_cached h u q e he, ?_⟩
      obtain ⟨_, _, _, rfl⟩ := answerFromDnscache_some he
      exact evOK_one trivial
    | seen u q => exact ⟨h, ansOK_const q "x" chT _, evOK_writeDns _ _ _ _⟩
    -- neither a `write_dns` nor sent from a buffer of its own
    | sweep | tunskip | nsa q => exact ⟨h, ansOK_noans (by intros; simp), evOK_one trivial⟩
    | raw b n u c q => exact ⟨h, ansOK_sendRaw _ _ _ _ _, evOK_sendRaw _ _ _ _ _⟩
    | rly a b => exact ⟨h, ansOK_noans (by intros; simp), evOK_one (List.length_take_le _ _)⟩
    | tunw u out _ ho h24 => exact ⟨h, ansOK_writeTun _, evOK_writeTun out (by omega) (uncompress_le ho)⟩
    | send u w => exact good_sc h u w
    | ctl u f hc =>
      cases hc with
      | park => exact keep u _ fun _ hx => ⟨hx.1.congr, { hx.2.congr (h2 := rfl) with qsn := hx.2.qn }⟩
      | _ => exact good_nil (slotInv_setUser h u _)
    | dup u w q => exact keep u _ fun x hx => slotOK_qset hx w _ (qsel_name hx.2 w)
    | save u q _ hq => exact good_nil (slotInv_saveQuery h u q (by subst hq; exact hi.2))
    | rawLogin u src | rawPing u src =>
      exact keep u _ fun x hx => ⟨hx.1.congr, { hx.2.congr (h1 := rfl) with qn := rawQuery_name src }⟩
    | outpkt u s' ho =>
      cases ho with
      | start d n hs => exact good_nil (slotInv_startNewOutpacket h u d n (isBytes_src hi h hs))
      | queue d n hs => exact good_nil (slotInv_saveToOutpacketq h u d n (isBytes_src hi h hs))
      | ack a b => exact good_nil (slotInv_processDownstreamAck h u a b)
    | rand => exact good_nil (slotInv_popRand h)
    | fwd q => exact good_forwardQuery h q
    | version q u _ hq =>
      have hn : q.name.length ≤ 255 := by subst hq; exact hi.2
      have h1 : SlotInv (versionPre s q u) :=
        slotInv_setUser (slotInv_popRand (slotInv_setUser h u (claim s.now))) u _ fun _ hx =>
          ⟨hx.1.congr, { hx.2.congr (h1 := rfl) with qn := hn }⟩
      exact ⟨slotInv_setUser h1 u _ fun _ hx => slotOK_resetSession hx, ansOK_version _ _ _ _ _, evOK_version _ _ _ _ _⟩
    | fragsize q dlen n _ _ ha =>
      have h3 := ha.len
      refine ⟨slotInv_setUser h _ _ fun y hy => ⟨⟨hy.1.out, hy.1.inp, hy.1.oq, clearDnscache_answer hy.1.dc⟩,
        { hy.2.congr (h3 := rfl) with dcn := clearDnscache_name hy.2.dcn, dcl := ?_ }⟩, ans _ _ _ ⟨?_, ?_, ?_⟩⟩
      · show (clearDnscache y.dnscache).length = 4
        rw [clearDnscache_length]; exact hy.2.dcl
      · exact isBytes_take _ (isBytes_drop _ (Encoding.unpackData_bytes _ _ _))
      · simp only [List.length_take, List.length_drop]; omega
      · simp only [List.length_take, List.length_drop]; omega
    | upIn u a b pl =>
      have hup := slotOK_dataUpstream (slotOK_getUser h u) a b
      exact good_nil (slotInv_setUser h u _ fun _ _ => ite_both (slotOK_dataStore hup _) hup)
    | resetIn u => exact keep u _ fun _ hy => ⟨hy.1.congr, { hy.2.congr (h6 := rfl) with inoff := Nat.zero_le _ }⟩
    | rawIn u src bytes _ hb =>
      refine keep u _ fun _ hy => ⟨⟨hy.1.out, ?_, hy.1.oq, hy.1.dc⟩, { hy.2.congr (h1 := rfl) (h5 := rfl) (h6 := rfl) with
        qn := rawQuery_name src, inp := ?_, inoff := Nat.zero_le _ }⟩
      · subst hb
        exact isBytes_drop _ (isBytes_take _ hi)
      · show ((bytes.take 65536).drop RAW_HDR_LEN).length ≤ 65536
        rw [List.length_drop, List.length_take]; omega

/-- **The invariant of the slots through one iteration** of the session machine, for every input made of bytes: the byte lists
kept for later answers stay bytes, the lists kept for the C arrays stay within the arrays, every `write_dns` carries a byte
string of 2..4096 bytes or the one byte "x", every other event fits the buffer it is sent from. -/
theorem iteration_slots {s : Srv} (h : SlotInv s) (hc : CfgBound s.cfg) (inp : Input) (hi : InputBytes inp) (now' : Nat) :
    SlotInv (next s ⟨inp, now'⟩) ∧ AnsOK (out s ⟨inp, now'⟩) ∧ EvOK (out s ⟨inp, now'⟩) :=
  (run_body _ inp _).closed (closed_slots hi) hc (slotInv_topOfLoop h now')

end Iodine.BytesL
