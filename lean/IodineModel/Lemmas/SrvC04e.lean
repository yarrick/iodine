import IodineModel.Lemmas.SrvC04c
/-
The frames of the ping and data handlers, of `handle_null_request` and of `tunnel_dns`, with the slots each may write
(`cmdWrites`, `nullWrites`, `dnsWrites`); which DNS queries change the address a slot is bound to.
-/
namespace Iodine.C04L
open Iodine Iodine.Server Iodine.Gen

theorem Frame.ite_res {er : Session → Session} {U : Nat → Prop} {s : Srv} {c : Prop} [Decidable c] {a b : Res}
    (ha : Frame er U s a.1) (hb : Frame er U s b.1) : Frame er U s (if c then a else b).1 := by
  split <;> assumption

theorem Frame.ite_resb {er : Session → Session} {U : Nat → Prop} {s : Srv} {c : Prop} [Decidable c] {a b : Res × Bool}
    (ha : Frame er U s a.1.1) (hb : Frame er U s b.1.1) : Frame er U s (if c then a else b).1.1 := by
  split <;> assumption

seal sendChunkOrDataless processDownstreamAck saveQuery rememberDuplicate answerFromDnscache answerFromQmem

theorem frame_pingFresh (s : Srv) (u : Nat) (q : Query) (unp : List Nat) :
    Frame erData (· = u) s (pingFresh s u q unp).1 := by
  rw [pingFresh_eq]
  refine ((frame_processDownstreamAck s u (charVal (unp.getD 1 0) / 16) (charVal (unp.getD 1 0) % 16)).coarsen
    erData_erOut).trans ?_
  rw [pingRest]; dsimp only
  exact (((frame_step (pingQs_cases _ u)).trans (frame_step (pingQ_cases _ u))).trans (frame_saveQuery _ u q)).trans
    (frame_step (pingNew_cases _ u _))

theorem frame_filter {s : Srv} {q : Query} {uid : Int} {U : Nat → Prop} {fresh r : Res}
    (h : FilterRes s q uid fresh r) (hU : checkAuthenticatedUserAndIp s uid q = false → ∀ v, v = uid.toNat → U v)
    (hf : checkAuthenticatedUserAndIp s uid q = false → Frame erData U s fresh.1) : Frame erData U s r.1 := by
  rcases h with h | h | ⟨_, hr, ⟨e, he, h⟩ | h | ⟨s', hd, h⟩ | h⟩ <;> rw [h]
  · exact Frame.refl _ _ _
  · exact Frame.refl _ _ _
  · exact Frame.refl _ _ _
  · exact Frame.refl _ _ _
  · exact (frame_rememberDuplicate _ _ _ _ hd).mono (hU hr)
  · exact hf hr

theorem frame_handlePing (s : Srv) (q : Query) (dlen : Nat) :
    Frame erData (fun v => rejected s q (uidOf q dlen .ping) .ping = false ∧ v = (uidOf q dlen .ping).toNat) s
      (handlePing s q (inbOf q dlen)).1 :=
  frame_filter (handlePing_cases s q (inbOf q dlen)) (fun hr _ hv => ⟨hr, hv⟩) fun hr =>
    (frame_pingFresh _ _ _ _).mono fun _ hv => ⟨hr, hv⟩

theorem frame_dataStepQs (s : Srv) (u : Nat) : Frame erData (· = u) s (dataStepQs s u).1.1 :=
  frame_step (dataStepQs_cases s u)

theorem frame_dataStepQ (s : Srv) (u : Nat) (a b c : Bool) : Frame erData (· = u) s (dataStepQ s u a b c).1.1 :=
  frame_step (dataStepQ_cases s u a b c)

theorem frame_dataStepFinal (s : Srv) (u : Nat) (a b c : Bool) : Frame erData (· = u) s (dataStepFinal s u a b c).1 :=
  frame_step (dataStepFinal_cases s u a b c)

seal dataStepQs dataStepQ dataStepFinal handleFullPacket dataUpstream dataStore

/-- the upstream data handler after the duplicate filters: writes `u` and possibly the owner (in `s`) of the destination
address of the reassembled packet -/
theorem frame_dataFresh (s : Srv) (u : Nat) (q : Query) (inb : List Nat) :
    Frame erData (fun v => v = u ∨ ∃ A, findUserByIp s A = some v) s (dataFresh s u q inb).1 := by
  unfold dataFresh
  extract_lets b1 b2 b3 upSeq upFrag dnSeq dnFrag lastfrag s1 up upstreamOk s2 r3 r4 r5 s6 r7
  have hm : ∀ v, v = u → v = u ∨ ∃ A, findUserByIp s A = some v := fun v hv => Or.inl hv
  have f1 : Frame erIn (· = u) s s2 := frame_dataPre s u inb
  have f2 : Frame erData (fun v => v = u ∨ ∃ A, findUserByIp s A = some v) s s2 :=
    (f1.coarsen erData_erIn).mono hm
  have f3 : Frame erData (fun v => v = u ∨ ∃ A, findUserByIp s A = some v) s r3.1 := by
    unfold r3; split
    · refine f2.trans ((frame_handleFullPacket s2 u).mono ?_)
      intro v hv
      rcases hv with hv | ⟨out, _, hv⟩
      · exact Or.inl hv
      · exact Or.inr ⟨ipDst out, by rw [← f1.findUserByIp_eq]; exact hv⟩
    · exact f2
  have f4 := f3.trans ((frame_dataStepQs r3.1 u).mono hm)
  have f5 := f4.trans ((frame_dataStepQ r4.1.1 u upstreamOk lastfrag r4.2).mono hm)
  have f6 := f5.trans ((frame_saveQuery r5.1.1 u q).mono hm)
  exact f6.trans ((frame_dataStepFinal s6 u upstreamOk lastfrag r5.2).mono hm)

seal dataFresh pingFresh answerFromQmemData

theorem frame_handleData (s : Srv) (q : Query) (dlen : Nat) :
    Frame erData (fun v => rejected s q (uidOf q dlen .data) .data = false ∧
        (v = (uidOf q dlen .data).toNat ∨ ∃ A, findUserByIp s A = some v)) s
      (handleData s q dlen (inbOf q dlen)).1 :=
  frame_filter (handleData_cases s q dlen (inbOf q dlen)) (fun hr _ hv => ⟨hr, .inl hv⟩) fun hr =>
    (frame_dataFresh _ _ _ _).mono fun _ hv => ⟨hr, hv⟩

/-- the slots a command that names a session may write: the named slot if the request is accepted, and for upstream
data the owner of the destination of a completed packet -/
def cmdWrites (s : Srv) (q : Query) (dlen : Nat) (cmd : Cmd) (v : Nat) : Prop :=
  rejected s q (uidOf q dlen cmd) cmd = false ∧
    (v = (uidOf q dlen cmd).toNat ∨ (cmd = .data ∧ ∃ A, findUserByIp s A = some v))

theorem frame_runCmd (s : Srv) (q : Query) (dlen : Nat) (cmd : Cmd) :
    Frame erHost (cmdWrites s q dlen cmd) s (runCmd s q dlen cmd).1 := by
  cases cmd <;> unfold runCmd <;> dsimp only
  · exact ((frame_handleLogin s q dlen).coarsen erHost_erLogin).mono (fun v hv => ⟨hv.1, Or.inl hv.2⟩)
  · obtain ⟨msg, h⟩ := handleIp_cases s q (inbOf q dlen)
    rw [h]; exact Frame.refl _ _ _
  · exact ((frame_handleSwitchCodec s q dlen).coarsen erHost_erId).mono (fun v hv => ⟨hv.1, Or.inl hv.2⟩)
  · exact ((frame_handleOptions s q dlen).coarsen erHost_erId).mono (fun v hv => ⟨hv.1, Or.inl hv.2⟩)
  · exact (frame_handleFragsizeProbe s q dlen _).coarsen (fun _ => rfl)
  · exact ((frame_handleSetFragsize s q dlen).coarsen erHost_erId).mono (fun v hv => ⟨hv.1, Or.inl hv.2⟩)
  · exact ((frame_handlePing s q dlen).coarsen erHost_erData).mono (fun v hv => ⟨hv.1, Or.inl hv.2⟩)
  · refine ((frame_handleData s q dlen).coarsen erHost_erData).mono (fun v hv => ⟨hv.1, ?_⟩)
    rcases hv.2 with h | h
    · exact Or.inl h
    · exact Or.inr ⟨rfl, h⟩

def isV (q : Query) (dlen : Nat) : Prop := (inbOf q dlen).getD 0 0 = 86 ∨ (inbOf q dlen).getD 0 0 = 118

/-- the slots `handle_null_request` may write, by the first character of the request (which it looks at only when there
are at least two data characters) -/
def nullWrites (s : Srv) (q : Query) (dlen : Nat) (v : Nat) : Prop :=
  (isV q dlen ∧ (findAvailableUser s).1 = some v) ∨
  (∃ cmd, cmdOf ((inbOf q dlen).getD 0 0) = some cmd ∧ cmdWrites s q dlen cmd v)

theorem handleNullRequest_V (s : Srv) (q : Query) (dlen : Nat) (h2 : 2 ≤ dlen) (hv : isV q dlen) :
    handleNullRequest s q dlen = handleVersion s q (inbOf q dlen) := by
  rw [handleNullRequest_eq, if_neg (by omega), letterOf_of_codes (c := (inbOf q dlen).getD 0 0) (l := .V) hv]; rfl

theorem handleNullRequest_other (s : Srv) (q : Query) (dlen : Nat) (hv : ¬ isV q dlen)
    (hc : cmdOf ((inbOf q dlen).getD 0 0) = none) : (handleNullRequest s q dlen).1 = s := by
  refine handleNullRequest_letter (P := fun r => r.1 = s) s q dlen rfl fun _ l hl => ?_
  have hl' := letterOf_of_codes hl
  rw [cmdOf_eq, hl'] at hc
  cases l <;> cases hc
  · exact absurd hl hv
  · rfl
  · obtain ⟨msg, d, hy⟩ := handleDownCodecCheck_cases s q dlen (inbOf q dlen)
    exact congrArg Prod.fst hy

theorem handleNullRequest_cases (s : Srv) (q : Query) (dlen : Nat) :
    (handleNullRequest s q dlen).1 = s ∨
    (2 ≤ dlen ∧ isV q dlen ∧ handleNullRequest s q dlen = handleVersion s q (inbOf q dlen)) ∨
    (2 ≤ dlen ∧ ∃ cmd, cmdOf ((inbOf q dlen).getD 0 0) = some cmd ∧
      handleNullRequest s q dlen = runCmd s q dlen cmd) := by
  by_cases h2 : 2 ≤ dlen
  · by_cases hv : isV q dlen
    · exact Or.inr (Or.inl ⟨h2, hv, handleNullRequest_V s q dlen h2 hv⟩)
    · cases hc : cmdOf ((inbOf q dlen).getD 0 0) with
      | none => exact Or.inl (handleNullRequest_other s q dlen hv hc)
      | some cmd => exact Or.inr (Or.inr ⟨h2, cmd, rfl, handleNullRequest_cmd s q dlen cmd h2 hc⟩)
  · left
    rw [handleNullRequest_eq, if_pos (by omega)]

theorem frame_handleNullRequest (s : Srv) (q : Query) (dlen : Nat) :
    Frame erTun (fun v => 2 ≤ dlen ∧ nullWrites s q dlen v) s (handleNullRequest s q dlen).1 := by
  rcases handleNullRequest_cases s q dlen with h | ⟨h2, hv, h⟩ | ⟨h2, cmd, hc, h⟩
  · rw [h]; exact Frame.refl _ _ _
  · rw [h]
    exact (frame_handleVersion s q _).mono (fun v h => ⟨h2, Or.inl ⟨hv, h⟩⟩)
  · rw [h]
    exact ((frame_runCmd s q dlen cmd).coarsen erTun_erHost).mono (fun v h => ⟨h2, Or.inr ⟨cmd, hc, h⟩⟩)

theorem frame_forwardQuery (s : Srv) (q : Query) (er : Session → Session) (U : Nat → Prop) :
    Frame er U s (forwardQuery s q).1 :=
  ⟨rfl, rfl, rfl, fun _ _ => rfl, fun _ => rfl⟩

theorem handleARequest_fst (s : Srv) (q : Query) (b : Bool) : (handleARequest s q b).1 = s :=
  handleARequest_ind (P := fun r => r.1 = s) s q b rfl rfl

theorem tunnelDns_cases (s : Srv) (q : Query) :
    (∀ er U, Frame er U s (tunnelDns s q).1) ∨
    ∃ dlen, Common.queryDatalen q.name s.cfg.topdomain = some dlen ∧ ¬ isNsA q dlen ∧ ¬ isWwwA q dlen ∧
      C16L.TunnelType q.type ∧ tunnelDns s q = handleNullRequest s q dlen := by
  by_cases hall : ∃ dlen, Common.queryDatalen q.name s.cfg.topdomain = some dlen ∧ ¬ isNsA q dlen ∧ ¬ isWwwA q dlen ∧
      C16L.TunnelType q.type
  · obtain ⟨dlen, hd, hns, hwww, hty⟩ := hall
    exact .inr ⟨dlen, hd, hns, hwww, hty, tunnelDns_null s q dlen hd hns hwww hty⟩
  · suffices key : ∀ P : Res → Prop, (∀ r : Res, (∀ er U, Frame er U s r.1) → P r) → P (tunnelDns s q) from
      .inl (key _ fun _ h => h)
    intro P fr
    have same : ∀ r : Res, r.1 = s → P r := fun r h => fr r fun er U => h ▸ Frame.refl er U s
    rw [tunnelDns]
    refine ite_both (same _ rfl) ?_
    cases hd : Common.queryDatalen q.name s.cfg.topdomain with
    | none => exact ite_both (fr _ (frame_forwardQuery s q)) (same _ rfl)
    | some dlen =>
      exact ite_both' (fun _ => same _ (handleARequest_fst s q _)) fun hns =>
        ite_both' (fun _ => same _ (handleARequest_fst s q _)) fun hwww =>
        ite_both' (fun hty => absurd ⟨dlen, hd, hns, hwww, hty⟩ hall) fun _ =>
        ite_both (same _ (handleNsRequest_ind (P := fun r => r.1 = s) s q dlen rfl rfl)) (same _ rfl)

/-- the slots a DNS query may write -/
def dnsWrites (s : Srv) (q : Query) (v : Nat) : Prop :=
  ∃ dlen, Common.queryDatalen q.name s.cfg.topdomain = some dlen ∧ ¬ isNsA q dlen ∧ ¬ isWwwA q dlen ∧
    C16L.TunnelType q.type ∧ 2 ≤ dlen ∧ nullWrites s q dlen v

theorem frame_tunnelDns (s : Srv) (q : Query) : Frame erTun (dnsWrites s q) s (tunnelDns s q).1 := by
  rcases tunnelDns_cases s q with h | ⟨dlen, hd, hns, hwww, hty, h⟩
  · exact h _ _
  · rw [h]
    exact (frame_handleNullRequest s q dlen).mono (fun v hv => ⟨dlen, hd, hns, hwww, hty, hv⟩)

/-- a DNS query changes the address a slot is bound to only by allocating the slot in the `V` handler -/
theorem tunnelDns_host (s : Srv) (q : Query) (v : Nat)
    (hne : (getUser (tunnelDns s q).1 v).host ≠ (getUser s v).host) :
    ∃ dlen, Common.queryDatalen q.name s.cfg.topdomain = some dlen ∧ ¬ isNsA q dlen ∧ ¬ isWwwA q dlen ∧
      C16L.TunnelType q.type ∧ 2 ≤ dlen ∧ isV q dlen ∧ versionOf (inbOf q dlen) = PROTOCOL_VERSION ∧
      (findAvailableUser s).1 = some v := by
  have hostOf : ∀ {U : Nat → Prop} {s' : Srv}, Frame erHost U s s' → (getUser s' v).host = (getUser s v).host := by
    intro U s' f
    exact erHost_host (f.rel v)
  rcases tunnelDns_cases s q with h | ⟨dlen, hd, hns, hwww, hty, h⟩
  · exact absurd (hostOf (h erHost (fun _ => True))) hne
  · rw [h] at hne
    rcases handleNullRequest_cases s q dlen with h' | ⟨h2, hv, h'⟩ | ⟨h2, cmd, hc, h'⟩
    · rw [h'] at hne; exact absurd rfl hne
    · rw [h'] at hne
      rcases handleVersion_cases s q (inbOf q dlen) with ⟨u, hver, hu, hs, _⟩ | ⟨hs, _⟩
      · by_cases e : v = u
        · subst e; exact ⟨dlen, hd, hns, hwww, hty, h2, hv, hver, hu⟩
        · have f := frame_handleVersion s q (inbOf q dlen)
          have := f.other v (by intro hv'; rw [hu] at hv'; cases hv'; exact e rfl)
          rw [this] at hne; exact absurd rfl hne
      · rw [hs] at hne; exact absurd rfl hne
    · rw [h'] at hne
      exact absurd (hostOf (frame_runCmd s q dlen cmd)) hne

end Iodine.C04L
