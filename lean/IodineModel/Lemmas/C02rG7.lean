import IodineModel.Lemmas.C02rG2
import IodineModel.Lemmas.C02qD5
import IodineModel.Lemmas.WorldFastRun
/-
Downstream blackout: the hypothesis `hne` of `giveup_run_down_imm` is NEEDED (kernel-evaluated run).

`exD 7`: the demo session with the server's downstream number 7 ahead, the client's `inpkt.fragment = 0`.  The next packet gets
the client's OWN number.  Under the downstream blackout the client's pings acknowledge `(seqno, 0)`: the first poll finds
`sentlen = 0` (nothing to acknowledge), but the SECOND poll acknowledges fragment 0, which the client never saw — the server
moves on to fragment 1, sends it six times, and drops the packet on the EIGHTH poll: 24 steps, 8 s, and the server's
`outpacket.fragment` is left at 1.  So the conclusion of `giveup_run_down_imm` (quiescent after 21 steps) FAILS without `hne`;
the run is the other case of `giveup_run_down_imm_any`.
-/
namespace Iodine.C02L
open Iodine Iodine.Gen Iodine.Server Iodine.World Iodine.C02

/-- the run, evaluated once: after the 21 steps of the theorem the pair is NOT quiescent; three steps later it is, 8 s after the
offer, nothing delivered, the server's fragment number left at 1, the downstream numbers equal again -/
theorem rG_hne_run :
    quiet 0 (runSched blackoutEvDown 21 (step (exD 7) (.offerS (demoFrame 2 30)))) = false ∧
    (let w := runSched blackoutEvDown 3 (runSched blackoutEvDown 21 (step (exD 7) (.offerS (demoFrame 2 30))))
     quiet 0 w && w.tunC == [] && w.cs.c.now == (exD 7).cs.c.now + 8 &&
     (getUser w.srv 0).outpacket.len == 0 && (getUser w.srv 0).outpacket.fragment == 1 &&
     (getUser w.srv 0).outpacket.seqno == w.cs.c.inpkt.seqno && w.cs.c.inpkt == (exD 7).cs.c.inpkt) = true := by
  rw [runSched_fast, step_fast]; decide +kernel

theorem rG_hne_needed_21 : quiet 0 (runSched blackoutEvDown 21 (step (exD 7) (.offerS (demoFrame 2 30)))) = false :=
  rG_hne_run.1

/-- the counterexample proper: `exD 7` satisfies every hypothesis of `giveup_run_down_imm` except `hne`
(`(7 + 1) % 8 = 0`, `inpkt.fragment = 0`, two fragments), and the conclusion fails -/
theorem giveup_run_down_imm_hne_needed :
    QuietImmDS exP 0 7 1 1 (exD 7) ∧ (exD 7).cs.c.inpkt.fragment = 0 ∧
    downFrags (getUser (exD 7).srv exP.u).fragsize ((demoFrame 2 30).length + 1) ((demoFrame 2 30).length + 1) = 2 ∧
    ¬ ∃ sl sp, QuietImmDS exP 0 0 sl sp (runSched blackoutEvDown 21 (step (exD 7) (.offerS (demoFrame 2 30)))) := by
  refine ⟨quietImmDS_one.2 (exD_quiet 7), by decide +kernel, by decide +kernel, ?_⟩
  rintro ⟨sl, sp, h⟩
  have := h.quiet
  rw [show exP.u = 0 from rfl, rG_hne_needed_21] at this
  exact absurd this (by decide)

/-- what happens instead: 24 steps, 8 s; nothing delivered; the server's fragment number is left at 1; the downstream numbers
are EQUAL again (7 + 1 = 8) -/
theorem rG_hne_needed_24 :
    (let w := runSched blackoutEvDown 24 (step (exD 7) (.offerS (demoFrame 2 30)))
     quiet 0 w && w.tunC == [] && w.cs.c.now == (exD 7).cs.c.now + 8 &&
     (getUser w.srv 0).outpacket.len == 0 && (getUser w.srv 0).outpacket.fragment == 1 &&
     (getUser w.srv 0).outpacket.seqno == w.cs.c.inpkt.seqno && w.cs.c.inpkt == (exD 7).cs.c.inpkt) = true := by
  rw [show (24 : Nat) = 21 + 3 from rfl, runSched_add]
  exact rG_hne_run.2

end Iodine.C02L
