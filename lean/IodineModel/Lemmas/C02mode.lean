import IodineModel.Lemmas.C02v7
import IodineModel.Lemmas.C02d2
/-
The DNS mode of the session as a parameter.  Both modes run the same handlers; `lz` is the session's `lazymode`.  `CStatM P lz`
is what stays true of the client during a run (`CStat` is `lz = false`, `CStatL` is `lz = true`), `CntM lz` the balance of the
answer counting, which only runs in lazy mode.  Lemmas that do not look at the mode are stated once, over these.  `Mode` is the
mode of the joint invariants: `.imm sl sp` with the slacks of the server's memories, or `.lazy`; `Mode.lz` is its `lz`.
-/
namespace Iodine.C02L
open Iodine

/-! ### the two modes, with the freshness slacks of immediate mode -/

inductive Mode where
  | imm (sl sp : Nat)     -- immediate; freshness slacks of the data-CMC counter and of the ping seed
  | lazy

def Mode.lz : Mode → Bool
  | .imm _ _ => false
  | .lazy => true

/-- the data-CMC slack leaves the longer ring inside the period of the counter: 15 entries + 21 = 36 (`Aged.fresh`, `Aged.step`);
needed where a data query reaches the server -/
def Mode.Ok : Mode → Prop
  | .imm sl _ => 1 ≤ sl ∧ sl ≤ 21
  | .lazy => True

/-- … and the ping slack stays one step below the 1000 `PAged.step` asks for — any bound that leaves the ring of 30 inside the period
65536 would do; needed where a ping reaches the server -/
def Mode.OkP : Mode → Prop
  | .imm _ sp => 1 ≤ sp ∧ sp ≤ 999
  | .lazy => True

/-! ### the client's standing conditions -/

structure CStatM (P : Par) (lz : Bool) (c : Client.Cli) : Prop where
  running : c.running = true
  conn : c.conn = .dnsNull
  mode : c.lazymode = lz
  uid : c.userid = (P.u : Int)
  uch : c.useridChar = hexLower P.u
  td : c.topdomain = P.td
  L : c.hostnameMaxlen = (P.L : Int)
  enc : c.dataenc = P.ec
  ty : c.doQtype = P.ty
  cid : c.chunkid < 65536
  cmc : c.datacmc < 36
  alive : ¬ c.lastdownstreamtime + 60 < c.now
  oseq : 0 ≤ c.outpkt.seqno ∧ c.outpkt.seqno < 8
  iseq : 0 ≤ c.inpkt.seqno ∧ c.inpkt.seqno < 8
  ifrag : 0 ≤ c.inpkt.fragment ∧ c.inpkt.fragment < 16
  seed : c.randSeed < 65536

theorem CStat.toM {P : Par} {c : Client.Cli} (h : CStat P c) : CStatM P false c :=
  ⟨h.running, h.conn, h.imm, h.uid, h.uch, h.td, h.L, h.enc, h.ty, h.cid, h.cmc, h.alive, h.oseq, h.iseq, h.ifrag, h.seed⟩
theorem CStatM.imm {P : Par} {c : Client.Cli} (h : CStatM P false c) : CStat P c :=
  ⟨h.running, h.conn, h.mode, h.uid, h.uch, h.td, h.L, h.enc, h.ty, h.cid, h.cmc, h.alive, h.oseq, h.iseq, h.ifrag, h.seed⟩
theorem CStatL.toM {P : Par} {c : Client.Cli} (h : CStatL P c) : CStatM P true c :=
  ⟨h.running, h.conn, h.lz, h.uid, h.uch, h.td, h.L, h.enc, h.ty, h.cid, h.cmc, h.alive, h.oseq, h.iseq, h.ifrag, h.seed⟩
theorem CStatM.lazy {P : Par} {c : Client.Cli} (h : CStatM P true c) : CStatL P c :=
  ⟨h.running, h.conn, h.mode, h.uid, h.uch, h.td, h.L, h.enc, h.ty, h.cid, h.cmc, h.alive, h.oseq, h.iseq, h.ifrag, h.seed⟩

/-- the standing conditions move along with a state that differs in the packet offsets, counters, ids and times only -/
theorem CStatM.move_eqs {P : Par} {lz : Bool} {c c' : Client.Cli} (h : CStatM P lz c) (e1 : c'.running = c.running)
    (e2 : c'.conn = c.conn) (e3 : c'.lazymode = c.lazymode) (e4 : c'.userid = c.userid) (e5 : c'.useridChar = c.useridChar)
    (e6 : c'.topdomain = c.topdomain) (e7 : c'.hostnameMaxlen = c.hostnameMaxlen) (e8 : c'.dataenc = c.dataenc)
    (e9 : c'.doQtype = c.doQtype) (hcid : c'.chunkid < 65536) (hcmc : c'.datacmc < 36)
    (halive : ¬ c'.lastdownstreamtime + 60 < c'.now) (e10 : c'.outpkt.seqno = c.outpkt.seqno) (e11 : c'.inpkt = c.inpkt)
    (e12 : c'.randSeed = c.randSeed) : CStatM P lz c' :=
  ⟨e1.trans h.running, e2.trans h.conn, e3.trans h.mode, e4.trans h.uid, e5.trans h.uch, e6.trans h.td, e7.trans h.L,
    e8.trans h.enc, e9.trans h.ty, hcid, hcmc, halive, e10 ▸ h.oseq, e11 ▸ h.iseq, e11 ▸ h.ifrag, e12 ▸ h.seed⟩

/-- the client with everything blanked of which the standing conditions say nothing, or only a bound -/
def erStat (c : Client.Cli) : Client.Cli :=
  { c with outpkt := { Client.Packet.zero with seqno := c.outpkt.seqno }, outchunkresent := 0, useridChar2 := 0, chunkid := 0,
           chunkidPrev := 0, chunkidPrev2 := 0, downenc := 0, selecttimeout := 0, sendPingSoon := 0, lastdownstreamtime := 0,
           lastrawping := 0, sendcnt := 0, recvcnt := 0, packrecv := 0, packrecvOos := 0, packrecvServfail := 0, datacmc := 0,
           edns0 := false, now := 0 }

/-- the standing conditions move along with a state that differs only in what `erStat` blanks, given the three bounds -/
theorem CStatM.move {P : Par} {lz : Bool} {c c' : Client.Cli} (h : CStatM P lz c) (e : erStat c' = erStat c)
    (hcid : c'.chunkid < 65536) (hcmc : c'.datacmc < 36) (halive : ¬ c'.lastdownstreamtime + 60 < c'.now) : CStatM P lz c' :=
  have f : ∀ {β : Type} (g : Client.Cli → β), g (erStat c') = g (erStat c) := fun g => congrArg g e
  h.move_eqs (f Client.Cli.running) (f Client.Cli.conn) (f Client.Cli.lazymode) (f Client.Cli.userid) (f Client.Cli.useridChar)
    (f Client.Cli.topdomain) (f Client.Cli.hostnameMaxlen) (f Client.Cli.dataenc) (f Client.Cli.doQtype) hcid hcmc halive
    (f fun z => z.outpkt.seqno) (f Client.Cli.inpkt) (f Client.Cli.randSeed)

theorem CStatM.ackBook {P : Par} {lz : Bool} {c : Client.Cli} (hc : CStatM P lz c) : CStatM P lz (ackBook c) :=
  hc.move rfl hc.cid hc.cmc (by show ¬ c.now + 60 < c.now; omega)

/-- … with a state after a ping (`PingFacts`: the ping seed moved on) -/
theorem CStatM.after_ping {P : Par} {lz : Bool} {c c' : Client.Cli} (h : CStatM P lz c) (hp : PingFacts c c')
    (hseed : c'.randSeed < 65536) : CStatM P lz c' :=
  ⟨hp.running.trans h.running, hp.conn.trans h.conn, hp.lazymode.trans h.mode, hp.userid.trans h.uid,
    hp.useridChar.trans h.uch, hp.topdomain.trans h.td, hp.hostnameMaxlen.trans h.L, hp.dataenc.trans h.enc,
    hp.doQtype.trans h.ty, hp.cid, by rw [hp.datacmc]; exact h.cmc, by rw [hp.ldt, hp.now]; exact h.alive,
    by rw [hp.outpkt]; exact h.oseq, by rw [hp.inpkt]; exact h.iseq, by rw [hp.inpkt]; exact h.ifrag, hseed⟩

theorem CntOk.mono {c : Client.Cli} {d d' : Nat} (h : CntOk c d) (hd : d ≤ d') : CntOk c d' := by
  unfold CntOk at *
  omega

/-- an accepted answer is counted: any state with `send_query_sendcnt` unchanged and `send_query_recvcnt` one up -/
theorem cntOk_answered {c c' : Client.Cli} {d : Nat} (h : CntOk c (d + 1)) (hs : c'.sendcnt = c.sendcnt)
    (hr : c'.recvcnt = c.recvcnt + 1) : CntOk c' d := by
  unfold CntOk at *
  rw [hs, hr]
  omega

/-- the answer counting is in balance up to `d` -/
def CntM (lz : Bool) (c : Client.Cli) (d : Nat) : Prop := lz = false ∨ CntOk c d

theorem CntM.mono {lz : Bool} {c : Client.Cli} {d d' : Nat} (h : CntM lz c d) (hd : d ≤ d') : CntM lz c d' :=
  h.imp id fun h => h.mono hd

theorem cntM_answered {lz : Bool} {c c' : Client.Cli} {d : Nat} (h : CntM lz c (d + 1)) (hs : c'.sendcnt = c.sendcnt)
    (hr : c'.recvcnt = c.recvcnt + 1) : CntM lz c' d :=
  h.imp id fun h => cntOk_answered h hs hr

/-- the form `send_query`'s lemmas ask for -/
theorem CntM.send {P : Par} {lz : Bool} {c : Client.Cli} (hc : CStatM P lz c) (h : CntM lz c 1) :
    c.lazymode = false ∨ CntOk c 1 :=
  h.imp (fun h => by rw [hc.mode, h]) id

end Iodine.C02L
