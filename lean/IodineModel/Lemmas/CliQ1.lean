import IodineModel.Lemmas.C02h
import IodineModel.Lemmas.Encoding
import IodineModel.Props.C17
import IodineModel.Lemmas.Hs
/-
C08 lifted to client sessions: every query the senders of client.c build, and so every query of the HANDSHAKE machine
(`Client/Handshake.lean`), is legal.

`Env L td` is what `main()` of iodine.c guarantees about `hostname_maxlen` and `topdomain` in the range C08 is stated for;
`NameOk L td name` is the per-query guarantee (legal host name, ends in `.topdomain`, within the limit — except `send_upenctest`,
which ignores `hostname_maxlen`: the `z` disjunct of `NameOk.within`), `EvOk`/`EvsOk` lift it to events, and one lemma per
sender says that its events are `EvsOk` (`evsOk_*`; `_ok` where the users need the query itself).  The invariant grows with the
handshake: `CBase` (the statics the names depend on), `Mid` (the query type is one of the seven tunnel types; in flux inside the
type autodetection), `Late` (the user-id character is a hex digit; true after the version reply).  `Good o`, the postcondition of
every continuation function (events `EvOk`, a parked state satisfies `Parked`, a return of 0 leaves `Late`, what the tunnel phase
starts from), is proved once for `Leaf` of Lemmas/HsPos.lean from the login on (`good_of_leaf`) and per function before it;
`good_hstep` is the step lemma.
-/
namespace Iodine.CliQ
open Iodine Iodine.Client Iodine.Gen

variable {L : Nat} {td : List Nat}

/-! ### bytes and characters -/

theorem enc_nil (e : Enc) (space : Nat) : Codec.enc e.codec space [] = ⟨[], 0, 1⟩ := by
  have h : ∀ e : Enc, Codec.nchars e.codec.k 0 = 0 ∧ Codec.encFull e.codec [] = [] := by
    intro e; cases e <;> decide
  unfold Codec.enc
  simp only [List.length_nil, (h e).1, Nat.zero_le, if_true, (h e).2]

theorem md5_bytes (m : List Nat) : Codec.Bytes (Login.md5 m) := by
  intro b hb
  simp only [Login.md5, Login.storeLE, List.mem_append, List.mem_cons, List.not_mem_nil, or_false] at hb
  rcases hb with ((h | h) | h) | h <;> (rcases h with rfl | rfl | rfl | rfl <;> exact Nat.mod_lt _ (by omega))

theorem seedBytes_bytes (c : Cli) : Codec.Bytes (seedBytes c) := by
  intro b hb
  simp only [seedBytes, List.mem_cons, List.not_mem_nil, or_false] at hb
  rcases hb with rfl | rfl <;> exact Nat.mod_lt _ (by omega)

theorem maskI_lt (x : Int) (m : Nat) (hm : 0 < m) : maskI x m < m := by
  unfold maskI
  have h1 := Int.emod_nonneg x (show (m : Int) ≠ 0 by omega)
  have h2 := Int.emod_lt_of_pos x (show (0 : Int) < m by omega)
  omega

theorem forall_mem_three {P : Nat → Prop} {a b c : Nat} (ha : P a) (hb : P b) (hc : P c) : ∀ ch ∈ [a, b, c], P ch :=
  List.forall_mem_cons.mpr ⟨ha, List.forall_mem_cons.mpr ⟨hb, List.forall_mem_singleton.mpr hc⟩⟩

theorem bytes_append {a b : List Nat} (ha : Codec.Bytes a) (hb : Codec.Bytes b) : Codec.Bytes (a ++ b) :=
  List.forall_mem_append.mpr ⟨ha, hb⟩

theorem hexLower_getD : ∀ u, u < 16 → Client.hexLower.getD u 0 = C02L.hexLower u := by decide

theorem toLower_dn {codec : Nat} (h : DownencOk codec) : toLower codec ≠ 46 ∧ toLower codec ≠ 0 ∧ toLower codec < 256 := by
  unfold DownencOk at h
  unfold toLower
  split <;> omega

/-- `hostname_maxlen` and `topdomain` as C08 needs them -/
structure Env (L : Nat) (td : List Nat) : Prop where
  hL : 100 ≤ L ∧ L ≤ 255
  td_len : 3 ≤ td.length ∧ td.length ≤ 128 ∧ td.length + 24 ≤ L
  td_legal : Encoding.legalAux 0 td = true
  td_plain : 42 ∉ td
  td_bytes : ∀ c ∈ td, c ≠ 0 ∧ c < 256

theorem Env.up (E : Env L td) (e : Enc) : C02L.UpSetting e.codec L td :=
  C02L.upSetting_of_enc e L td E.hL E.td_len E.td_legal E.td_plain E.td_bytes

theorem splitOn_eq_labels (s : List Nat) : C17.splitOn 46 s = C10.labels s := by
  induction s with
  | nil => rfl
  | cons c r ih =>
    simp only [C17.splitOn, C10.labels, ih]
    by_cases hc : c = 46
    · simp only [hc, if_true]
    · simp only [hc, if_false]
      cases C10.labels r <;> rfl

/-- a domain `check_topdomain(…, 0, …)` accepts, with 24 characters left below a limit of 100..255 -/
theorem env_of_valid (L : Nat) (td : List Nat) (hL : 100 ≤ L ∧ L ≤ 255) (hv : C17.ValidDomain false td)
    (h24 : td.length + 24 ≤ L) : Env L td := by
  obtain ⟨h3, h128, hch, _, hlab⟩ := hv
  have hdom : ∀ c ∈ td, C17.DomChar c := by
    rcases hch with h | ⟨h, _⟩
    · exact h
    · cases h
  refine ⟨hL, ⟨h3, h128, h24⟩, ?_, ?_, ?_⟩
  · rw [splitOn_eq_labels] at hlab
    exact (C10.legalAux_iff_labelsOK td).mpr hlab
  · intro h
    have := hdom 42 h
    unfold C17.DomChar C17.Letter C17.Digit at this
    omega
  · intro c hc
    have := hdom c hc
    unfold C17.DomChar C17.Letter C17.Digit at this
    omega

/-- the seven record types of the tunnel: NULL, PRIVATE, TXT, SRV, MX, CNAME, A -/
def TType (ty : Nat) : Prop := ty = 10 ∨ ty = 65399 ∨ ty = 16 ∨ ty = 33 ∨ ty = 15 ∨ ty = 5 ∨ ty = 1

theorem TType.lt {ty : Nat} (h : TType ty) : ty < 65536 := by unfold TType at h; omega

structure NameOk (L : Nat) (td name : List Nat) : Prop where
  legal : C10.LegalName name
  suffix : ∃ pre, name = pre ++ [46] ++ td
  within : name.length + 2 ≤ L ∨ (name.head? = some 122 ∧ name.length ≤ td.length + 63)

def EvOk (L : Nat) (td : List Nat) : CEvent → Prop
  | .query id ty name => id < 65536 ∧ TType ty ∧ NameOk L td name
  | _ => True

def EvsOk (L : Nat) (td : List Nat) (l : List CEvent) : Prop := ∀ e ∈ l, EvOk L td e

theorem evsOk_nil : EvsOk L td [] := fun _ h => nomatch h

theorem evsOk_append {a b : List CEvent} (ha : EvsOk L td a) (hb : EvsOk L td b) :
    EvsOk L td (a ++ b) :=
  List.forall_mem_append.mpr ⟨ha, hb⟩

theorem evsOk_one {e : CEvent} (h : EvOk L td e) : EvsOk L td [e] :=
  List.forall_mem_singleton.mpr h

structure CBase (L : Nat) (td : List Nat) (c : Cli) : Prop where
  td : c.topdomain = td
  maxlen : c.hostnameMaxlen = (L : Int)
  downenc : DownencOk c.downenc
  cmc : c.datacmc < 36
  pkt : Codec.Bytes c.outpkt.data
  pktlen : c.outpkt.len = 0 ∨ c.outpkt.data.length = min c.outpkt.len 65536

def UidOk (c : Cli) : Prop := ∃ u, u < 16 ∧ c.useridChar = C02L.hexLower u

def Mid (L : Nat) (td : List Nat) (c : Cli) : Prop := CBase L td c ∧ TType c.doQtype

def Late (L : Nat) (td : List Nat) (c : Cli) : Prop := Mid L td c ∧ UidOk c

/-- The invariants read none of the fields the senders and the bookkeeping write: ids, counters, timers, clocks
(`erTime`, Lemmas/CliFrame.lean). -/
theorem Mid.frame {c c' : Cli} (h : Mid L td c) (e : CFrame erTime c c') : Mid L td c' := by
  have dn : c'.downenc = c.downenc := congrArg (·.downenc) e
  have cmc : c'.datacmc = c.datacmc := congrArg (·.datacmc) e
  have pkt : c'.outpkt = c.outpkt := congrArg (·.outpkt) e
  have ty : c'.doQtype = c.doQtype := congrArg (·.doQtype) e
  exact ⟨⟨(congrArg (·.topdomain) e).trans h.1.td, (congrArg (·.hostnameMaxlen) e).trans h.1.maxlen, dn ▸ h.1.downenc,
    cmc ▸ h.1.cmc, pkt ▸ h.1.pkt, pkt ▸ h.1.pktlen⟩, ty ▸ h.2⟩

theorem UidOk.frame {c c' : Cli} (h : UidOk c) (e : CFrame erTime c c') : UidOk c' :=
  Exists.imp (fun _ hu => ⟨hu.1, (congrArg (·.useridChar) e).trans hu.2⟩) h

theorem Late.frame {c c' : Cli} (h : Late L td c) (e : CFrame erTime c c') : Late L td c' :=
  ⟨h.1.frame e, h.2.frame e⟩

/-- positions whose parameters end up in a query name -/
def PosOk : HPos → Prop
  | .downenc codec _ _ => DnCodec codec
  | _ => True

def Early : HPos → Prop
  | .qtype _ _ _ => True
  | .version _ => True
  | _ => False

/-- the invariant of a state parked at `p` -/
def Parked (L : Nat) (td : List Nat) (c : Cli) (p : HPos) : Prop := Mid L td c ∧ PosOk p ∧ (UidOk c ∨ Early p)

structure Good (L : Nat) (td : List Nat) (o : HOut) : Prop where
  evs : EvsOk L td o.2.1
  parked : ∀ p, o.1.pos = some p → Parked L td o.1.c p
  fin : o.2.2 = .finished 0 → Late L td o.1.c

theorem good_done_nz (s : HState) (evs : List CEvent) (rv : Int) (he : EvsOk L td evs) (hrv : rv ≠ 0) :
    Good L td (s.done evs rv) := by
  refine ⟨he, ?_, ?_⟩
  · intro p h; cases h
  · intro h
    simp only [HState.done, Next.finished.injEq] at h
    exact absurd h hrv

theorem good_park (s : HState) (r : Res) (evs : List CEvent) (p : HPos) (he : EvsOk L td evs) (hr : EvsOk L td r.2)
    (hp : Parked L td r.1 p) : Good L td (s.park r evs p) := by
  refine ⟨evsOk_append he hr, ?_, ?_⟩
  · intro p' h
    simp only [HState.park, Option.some.injEq] at h
    subst h; exact hp
  · intro h; cases h

/-! ### the senders of the handshake: their queries are legal (what they write: `frame_*`, Lemmas/CliFrame.lean) -/

theorem rotateChunkid_doQtype (c : Cli) : (rotateChunkid c).doQtype = c.doQtype := by
  rw [rotateChunkid]

/-- `send_query` (without its answer counting) of a name that is `NameOk`: one query with the next id -/
theorem sendQueryPlain_ok (c : Cli) (host : List Nat) (hty : TType c.doQtype) (hn : NameOk L td host) :
    sendQueryPlain c host = ((rotateChunkid c, [.query (rotateChunkid c).chunkid c.doQtype host]), true) ∧
      EvsOk L td (sendQueryPlain c host).1.2 := by
  have hw : wireQuery (rotateChunkid c).chunkid (rotateChunkid c).doQtype (rotateChunkid c).edns0 host =
      some (.query (rotateChunkid c).chunkid c.doQtype host) := by
    rw [rotateChunkid_doQtype]
    exact C02L.wireQuery_legal _ _ _ _ (rotateChunkid_lt c) hty.lt hn.legal
  have h : sendQueryPlain c host = ((rotateChunkid c, [.query (rotateChunkid c).chunkid c.doQtype host]), true) := by
    unfold sendQueryPlain
    simp only [hw]
  refine ⟨h, ?_⟩
  rw [h]
  exact evsOk_one ⟨rotateChunkid_lt c, hty, hn⟩

/-- `label.topdomain` -/
theorem label_name (E : Env L td) (lab : List Nat) (h1 : 1 ≤ lab.length) (h2 : lab.length ≤ 63)
    (hch : ∀ ch ∈ lab, ch ≠ 46 ∧ ch ≠ 0 ∧ ch < 256) :
    C10.LegalName (lab ++ 46 :: td) ∧ ∃ pre, lab ++ 46 :: td = pre ++ [46] ++ td := by
  refine ⟨?_, lab, by simp⟩
  have hlen := E.td_len
  apply C10.legalName_of_legalAux
  · rw [Encoding.legalAux_append, Encoding.scan_nodot 0 lab (fun c hc => (hch c hc).1)]
    simp only [Nat.zero_add, Encoding.legalAux, Encoding.DOT, if_true, Bool.and_eq_true, decide_eq_true_eq]
    exact ⟨⟨h1, h2⟩, E.td_legal⟩
  · simp only [List.length_append, List.length_cons]; omega
  · intro ch h
    rcases List.mem_append.mp h with h | h
    · exact ⟨(hch ch h).2.1, (hch ch h).2.2⟩
    · rcases List.mem_cons.mp h with rfl | h
      · omega
      · exact E.td_bytes ch h

theorem label_nameOk (E : Env L td) (lab : List Nat) (h1 : 1 ≤ lab.length) (h2 : lab.length ≤ 21)
    (hch : ∀ ch ∈ lab, ch ≠ 46 ∧ ch ≠ 0 ∧ ch < 256) : NameOk L td (lab ++ 46 :: td) := by
  obtain ⟨hl, hs⟩ := label_name E lab h1 (by omega) hch
  refine ⟨hl, hs, Or.inl ?_⟩
  have := E.td_len
  simp only [List.length_append, List.length_cons]; omega

/-- the three CMC characters of the hand-written handshake queries -/
def cmc3 (seed : Nat) : List Nat :=
  [b32_5to8 ((seed / 1024 % 32 : Nat) : Int), b32_5to8 ((seed / 32 % 32 : Nat) : Int), b32_5to8 ((seed % 32 : Nat) : Int)]

theorem cmc3_chars (seed : Nat) : ∀ ch ∈ cmc3 seed, ch ≠ 46 ∧ ch ≠ 0 ∧ ch < 256 := by
  intro ch h
  simp only [cmc3, List.mem_cons, List.not_mem_nil, or_false] at h
  rcases h with rfl | rfl | rfl <;> exact C02L.b32_5to8_char _

/-- `send_handshake_query(fd, prefix)` for a prefix of 1..14 ordinary characters: the query `prefix CMC . topdomain` -/
theorem sendHandshakeQuery_ok (E : Env L td) (c : Cli) (p : List Nat) (hm : Mid L td c)
    (h1 : 1 ≤ p.length) (h2 : p.length ≤ 14) (hch : ∀ ch ∈ p, ch ≠ 46 ∧ ch ≠ 0 ∧ ch < 256) :
    sendHandshakeQuery c p =
      (rotateChunkid { c with randSeed := (c.randSeed + 1) % 65536 },
       [.query (rotateChunkid { c with randSeed := (c.randSeed + 1) % 65536 }).chunkid c.doQtype
          ((p ++ cmc3 c.randSeed) ++ 46 :: td)]) ∧
    EvsOk L td (sendHandshakeQuery c p).2 := by
  have hlen := E.td_len
  have htd := hm.1.td
  have hty := hm.2
  have hname : NameOk L td ((p ++ cmc3 c.randSeed) ++ 46 :: td) := by
    apply label_nameOk E
    · simp only [List.length_append]; omega
    · simp only [List.length_append, cmc3, List.length_cons, List.length_nil]; omega
    · intro ch h
      rcases List.mem_append.mp h with h | h
      · exact hch ch h
      · exact cmc3_chars _ ch h
  have hhost : (p.take 60 ++ [b32_5to8 ((c.randSeed / 1024 % 32 : Nat) : Int), b32_5to8 ((c.randSeed / 32 % 32 : Nat) : Int),
        b32_5to8 ((c.randSeed % 32 : Nat) : Int), 46]) ++
      c.topdomain.take (300 - (p.take 60 ++ [b32_5to8 ((c.randSeed / 1024 % 32 : Nat) : Int),
        b32_5to8 ((c.randSeed / 32 % 32 : Nat) : Int), b32_5to8 ((c.randSeed % 32 : Nat) : Int), 46]).length - 1)
      = (p ++ cmc3 c.randSeed) ++ 46 :: td := by
    rw [List.take_of_length_le (show p.length ≤ 60 by omega), htd]
    rw [List.take_of_length_le (by simp only [List.length_append, List.length_cons, List.length_nil]; omega)]
    simp [cmc3]
  have hq := sendQueryPlain_ok (L := L) (td := td) { c with randSeed := (c.randSeed + 1) % 65536 } _ hty hname
  have hsend : sendHandshakeQuery c p =
      (sendQueryPlain { c with randSeed := (c.randSeed + 1) % 65536 } ((p ++ cmc3 c.randSeed) ++ 46 :: td)).1 := by
    unfold sendHandshakeQuery
    simp only [hhost]
  rw [hsend]
  exact ⟨by rw [hq.1], hq.2⟩

theorem evsOk_sendHandshakeQuery (E : Env L td) (c : Cli) (hm : Mid L td c) (p : List Nat) (h1 : 1 ≤ p.length)
    (h2 : p.length ≤ 14) (hch : ∀ ch ∈ p, ch ≠ 46 ∧ ch ≠ 0 ∧ ch < 256) : EvsOk L td (sendHandshakeQuery c p).2 :=
  (sendHandshakeQuery_ok E c p hm h1 h2 hch).2

theorem ednsCodec_dn (c : Cli) : DnCodec (ednsCodec c) := by
  unfold ednsCodec DnCodec; split <;> omega

theorem evsOk_sendDownenctest (E : Env L td) (c : Cli) (hm : Mid L td c) (codec : Nat) (hc : DnCodec codec) :
    EvsOk L td (sendDownenctest c codec).2 := by
  unfold sendDownenctest
  exact evsOk_sendHandshakeQuery E c hm _ (by simp) (by simp)
    (forall_mem_three (by omega) (toLower_dn ((dnCodec_iff codec).mp hc).1) (C02L.b32_5to8_char _))

theorem evsOk_sendLazySwitch (E : Env L td) (c : Cli) (hm : Mid L td c) : EvsOk L td (sendLazySwitch c).2 := by
  unfold sendLazySwitch
  exact evsOk_sendHandshakeQuery E c hm _ (by simp) (by simp)
    (forall_mem_three (by omega) (C02L.b32_5to8_char _) (by split <;> omega))

theorem evsOk_sendSwitchDown (E : Env L td) (c : Cli) (hm : Mid L td c) :
    EvsOk L td (sendHandshakeQuery c (switchDownPrefix c)).2 :=
  evsOk_sendHandshakeQuery E c hm _ (by simp [switchDownPrefix]) (by simp [switchDownPrefix])
    (forall_mem_three (by omega) (C02L.b32_5to8_char _) (toLower_dn hm.1.downenc))

theorem evsOk_sendSwitchCodec (E : Env L td) (c : Cli) (hm : Mid L td c) (bits : Nat) :
    EvsOk L td (sendHandshakeQuery c [115, b32_5to8 c.userid, b32_5to8 (bits : Int)]).2 :=
  evsOk_sendHandshakeQuery E c hm _ (by simp) (by simp) (forall_mem_three (by omega) (C02L.b32_5to8_char _) (C02L.b32_5to8_char _))

theorem evsOk_sendIpRequest (E : Env L td) (c : Cli) (hm : Mid L td c) :
    EvsOk L td (sendHandshakeQuery c [105, b32_5to8 c.userid]).2 :=
  evsOk_sendHandshakeQuery E c hm _ (by simp) (by simp)
    (List.forall_mem_cons.mpr ⟨by omega, List.forall_mem_singleton.mpr (C02L.b32_5to8_char _)⟩)

theorem upPattern_cases (p : Nat) : upPattern p = pat128a ∨ upPattern p = pat128b ∨ upPattern p = pat128c ∨
    upPattern p = pat128d ∨ upPattern p = pat128e ∨ upPattern p = pat64 ∨ upPattern p = pat64u := by
  unfold upPattern
  split <;> simp

theorem upPattern_chars (p : Nat) : (upPattern p).length ≤ 58 ∧ ∀ ch ∈ upPattern p, ch ≠ 46 ∧ ch ≠ 0 ∧ ch < 256 := by
  have h : ∀ s ∈ [pat128a, pat128b, pat128c, pat128d, pat128e, pat64, pat64u],
      s.length ≤ 58 ∧ ∀ ch ∈ s, ch ≠ 46 ∧ ch ≠ 0 ∧ ch < 256 := by decide +kernel
  apply h
  have := upPattern_cases p
  simp only [List.mem_cons, List.not_mem_nil, or_false]
  exact this

/-- `send_upenctest(fd, pattern)`: the query `z CMC pattern . topdomain` — a legal name, but NOT bounded by
`hostname_maxlen` (up to 63 characters in front of the domain, whatever `-M` says) -/
theorem evsOk_sendUpenctest (E : Env L td) (c : Cli) (hm : Mid L td c) (p : Nat) :
    EvsOk L td (sendUpenctest c (upPattern p)).2 := by
  have hlen := E.td_len
  have htd := hm.1.td
  obtain ⟨hp58, hpch⟩ := upPattern_chars p
  have hlab : ((122 :: cmc3 c.randSeed) ++ upPattern p).length = 4 + (upPattern p).length := by
    simp only [List.length_append, List.length_cons, cmc3, List.length_nil]
  obtain ⟨hl, hs⟩ := label_name E ((122 :: cmc3 c.randSeed) ++ upPattern p) (by omega) (by omega) (by
    intro ch h
    rcases List.mem_append.mp h with h | h
    · rcases List.mem_cons.mp h with rfl | h
      · omega
      · exact cmc3_chars _ ch h
    · exact hpch ch h)
  have hname : NameOk L td (((122 :: cmc3 c.randSeed) ++ upPattern p) ++ 46 :: td) := by
    refine ⟨hl, hs, Or.inr ⟨rfl, ?_⟩⟩
    simp only [List.length_append, List.length_cons] at hlab ⊢
    omega
  have hhost : ([122, b32_5to8 ((c.randSeed / 1024 % 32 : Nat) : Int), b32_5to8 ((c.randSeed / 32 % 32 : Nat) : Int),
        b32_5to8 ((c.randSeed % 32 : Nat) : Int)] ++ (upPattern p).take 128 ++ [46]) ++
      c.topdomain.take (512 - ([122, b32_5to8 ((c.randSeed / 1024 % 32 : Nat) : Int),
        b32_5to8 ((c.randSeed / 32 % 32 : Nat) : Int), b32_5to8 ((c.randSeed % 32 : Nat) : Int)] ++
        (upPattern p).take 128 ++ [46]).length)
      = ((122 :: cmc3 c.randSeed) ++ upPattern p) ++ 46 :: td := by
    rw [List.take_of_length_le (show (upPattern p).length ≤ 128 by omega), htd]
    rw [List.take_of_length_le (by simp only [List.length_append, List.length_cons, List.length_nil]; omega)]
    simp [cmc3]
  have hq := sendQueryPlain_ok (L := L) (td := td) (bumpSeed c) _ hm.2 hname
  have hsend : sendUpenctest c (upPattern p) =
      (sendQueryPlain (bumpSeed c) (((122 :: cmc3 c.randSeed) ++ upPattern p) ++ 46 :: td)).1 := by
    unfold sendUpenctest
    simp only [hhost]
  rw [hsend]
  exact hq.2

/-- C08 for the client's `build_hostname`: header of 1 or 5 ordinary characters, non-empty payload of bytes -/
theorem built_nameOk {cd : Codec.Codec} (S : C02L.UpSetting cd L td) (h : Nat) (hh : h = 1 ∨ h = 5)
    (hdr d : List Nat) (prev : Nat) (hlen : hdr.length = h) (hhd : ∀ ch ∈ hdr, ch ≠ 46 ∧ ch ≠ 0 ∧ ch < 256)
    (hd : d ≠ []) (hb : Codec.Bytes d) :
    NameOk L td (hdr ++ (Client.buildHostname cd (L : Int) (4096 - h) prev td d).name) ∧
      1 ≤ (Client.buildHostname cd (L : Int) (4096 - h) prev td d).used ∧
      (Client.buildHostname cd (L : Int) (4096 - h) prev td d).used ≤ d.length := by
  have hS : C08.Setting cd L h hdr td d :=
    ⟨S.wf, S.nodot, S.hL, ⟨hlen, hh⟩, fun ch hch => (hhd ch hch).1, S.td_len, S.td_legal, hd, hb⟩
  obtain ⟨b, hb', G⟩ := C08.hostname_ok hS prev
  have hb'' : Encoding.buildHostname cd L (4096 - h) prev td d = some b := hb'
  rw [Client.buildHostname_of_some cd L _ prev td d b S.hL.2 hb'']
  refine ⟨⟨?_, G.suffix, Or.inl G.within_L⟩, G.used.1, G.used.2⟩
  refine C10.legalName_of_legalAux _ G.legal (by have := G.wire; omega) ?_
  intro ch hch
  rcases List.mem_append.mp hch with hch | hch
  · exact ⟨(hhd ch hch).2.1, (hhd ch hch).2.2⟩
  · exact C02L.built_chars S _ prev d b hb'' ch hch

/-- `build_hostname` of NO data behind a header whose last byte is not a dot: just `.topdomain` -/
theorem build_nil (e : Enc) (L : Nat) (td : List Nat) (hL : td.length + 8 ≤ L ∧ L ≤ 255) (buflen : Nat) (hbl : 255 ≤ buflen) :
    Client.buildHostname e.codec (L : Int) buflen 0 td [] = ⟨46 :: td, 0⟩ := by
  have hb : Encoding.buildHostname e.codec L buflen 0 td [] = some ⟨46 :: td, 0⟩ := by
    rw [Encoding.buildHostname_closeDot, if_neg (by omega), enc_nil]
    rfl
  exact Client.buildHostname_of_some _ L buflen 0 td [] _ hL.2 hb

/-- the name of a data query or fragment-size probe: 5 header characters, any byte payload -/
theorem chunkName_ok (E : Env L td) (e : Enc) (hdr d : List Nat) (hlen : hdr.length = 5)
    (hhd : ∀ ch ∈ hdr, ch ≠ 46 ∧ ch ≠ 0 ∧ ch < 256) (hb : Codec.Bytes d) :
    NameOk L td (hdr ++ (Client.buildHostname e.codec (L : Int) 4091 0 td d).name) := by
  by_cases hd : d = []
  · subst hd
    have hlen' := E.td_len
    rw [build_nil e L td ⟨by omega, E.hL.2⟩ 4091 (by omega)]
    exact label_nameOk E hdr (by omega) (by omega) hhd
  · exact (built_nameOk (E.up e) 5 (Or.inr rfl) hdr d 0 hlen hhd hd hb).1

/-- `send_packet(fd, cmd, data, datalen)` (handshake flavour: no answer counting) -/
theorem hsSendPacket_ok (E : Env L td) (c : Cli) (cmd : Nat) (d : List Nat) (hm : Mid L td c)
    (hc : cmd ≠ 46 ∧ cmd ≠ 0 ∧ cmd < 256) (hd : d ≠ [])
    (hb : Codec.Bytes d) :
    hsSendPacket c cmd d =
      (rotateChunkid c, [.query (rotateChunkid c).chunkid c.doQtype
          (cmd :: (Client.buildHostname Codec.b32 (L : Int) 4095 cmd td d).name)]) ∧
    NameOk L td (cmd :: (Client.buildHostname Codec.b32 (L : Int) 4095 cmd td d).name) ∧
    EvsOk L td (hsSendPacket c cmd d).2 := by
  have hn := (built_nameOk (E.up .b32) 1 (Or.inl rfl) [cmd] d cmd rfl
    (by intro ch h; simp only [List.mem_singleton] at h; subst h; exact hc) hd hb).1
  have hn' : NameOk L td (cmd :: (Client.buildHostname Codec.b32 (L : Int) 4095 cmd td d).name) := hn
  have hq := sendQueryPlain_ok (L := L) (td := td) c _ hm.2 hn'
  unfold hsSendPacket
  rw [hm.1.td, hm.1.maxlen]
  exact ⟨by rw [hq.1], hn', hq.2⟩

theorem evsOk_hsSendPacket (E : Env L td) (c : Cli) (hm : Mid L td c) (cmd : Nat) (d : List Nat)
    (hc : cmd ≠ 46 ∧ cmd ≠ 0 ∧ cmd < 256) (hd : d ≠ []) (hb : Codec.Bytes d) : EvsOk L td (hsSendPacket c cmd d).2 :=
  (hsSendPacket_ok E c cmd d hm hc hd hb).2.2

theorem evsOk_sendVersion (E : Env L td) (c : Cli) (hm : Mid L td c) : EvsOk L td (sendVersion c).2 := by
  unfold sendVersion
  exact evsOk_hsSendPacket E (bumpSeed c) (hm.frame (frame_bumpSeed c).ids) 118
    ([PROTOCOL_VERSION / 2 ^ 24 % 256, PROTOCOL_VERSION / 2 ^ 16 % 256, PROTOCOL_VERSION / 2 ^ 8 % 256,
      PROTOCOL_VERSION % 256] ++ seedBytes c) (by omega) (by simp)
    (bytes_append (by intro b hb; simp only [List.mem_cons, List.not_mem_nil, or_false] at hb
                      rcases hb with rfl | rfl | rfl | rfl <;> exact Nat.mod_lt _ (by omega)) (seedBytes_bytes c))

theorem evsOk_sendLogin (E : Env L td) (c : Cli) (hm : Mid L td c) (pw : List Nat) (seed : Nat) :
    EvsOk L td (sendLogin c (Login.loginCalcC pw seed)).2 := by
  unfold sendLogin
  have hb : Codec.Bytes (maskI c.userid 256 :: (((Login.loginCalcC pw seed).take 16 ++ List.replicate 16 0).take 16) ++
      seedBytes c) := by
    apply bytes_append _ (seedBytes_bytes c)
    intro b hb
    rcases List.mem_cons.mp hb with rfl | hb
    · exact maskI_lt _ _ (by omega)
    · have hb := List.mem_of_mem_take hb
      rcases List.mem_append.mp hb with hb | hb
      · exact md5_bytes _ b (List.mem_of_mem_take hb)
      · rw [List.mem_replicate] at hb; omega
  exact evsOk_hsSendPacket E (bumpSeed c) (hm.frame (frame_bumpSeed c).ids) 108 _ (by omega) (by simp) hb

theorem evsOk_sendSetFragsize (E : Env L td) (c : Cli) (hm : Mid L td c) (f : Int) : EvsOk L td (sendSetFragsize c f).2 := by
  unfold sendSetFragsize
  have hb : Codec.Bytes ([maskI c.userid 256, maskI f 65536 / 256, maskI f 256] ++ seedBytes c) := by
    have := maskI_lt f 65536 (by omega)
    exact bytes_append (forall_mem_three (maskI_lt _ _ (by omega)) (by omega) (maskI_lt _ _ (by omega))) (seedBytes_bytes c)
  exact evsOk_hsSendPacket E (bumpSeed c) (hm.frame (frame_bumpSeed c).ids) 110 _ (by omega) (by simp) hb

theorem evsOk_sendFragsizeProbe (E : Env L td) (c : Cli) (hm : Mid L td c) (f : Nat) :
    EvsOk L td (sendFragsizeProbe c f).2 := by
  unfold sendFragsizeProbe
  simp only
  rw [hm.1.td, hm.1.maxlen]
  have hn := chunkName_ok E c.dataenc
    [114, b32_5to8 ((maskI c.userid 16 * 2 + f % 2048 / 1024 % 2 : Nat) : Int), b32_5to8 ((f % 2048 / 32 % 32 : Nat) : Int),
      b32_5to8 ((f % 2048 % 32 : Nat) : Int), 100]
    (max 1 (c.randSeed % 256) :: max 1 (c.randSeed / 256 % 256) :: List.replicate 254 (max 1 (c.randSeed % 256))) rfl
    (by
      intro ch h
      simp only [List.mem_cons, List.not_mem_nil, or_false] at h
      rcases h with rfl | rfl | rfl | rfl | rfl
      · omega
      · exact C02L.b32_5to8_char _
      · exact C02L.b32_5to8_char _
      · exact C02L.b32_5to8_char _
      · omega)
    (by
      intro x hx
      simp only [List.mem_cons, List.mem_replicate] at hx
      rcases hx with rfl | rfl | ⟨_, rfl⟩ <;> omega)
  have hq := sendQueryPlain_ok (L := L) (td := td) (bumpSeed c) _ hm.2 hn
  exact hq.2

theorem evsOk_sendRawUdpLogin (s : HState) (seed : Nat) : EvsOk L td (sendRawUdpLogin s seed).2 := by
  intro e he
  simp only [sendRawUdpLogin, List.mem_singleton] at he
  subst he
  trivial

theorem late_upd {s s' : HState} (h : Upd true s s') (hl : Late L td s.c) : Late L td s'.c := by
  obtain ⟨⟨hb, ht⟩, u, hu, huc⟩ := hl
  refine ⟨⟨⟨h.td.trans hb.td, h.ml.trans hb.maxlen, ?_, h.cmc ▸ hb.cmc, h.outpkt ▸ hb.pkt, h.outpkt ▸ hb.pktlen⟩,
    h.ty rfl ▸ ht⟩, u, hu, (h.uc rfl).trans huc⟩
  rcases h.dn with e | e
  · rw [e]; exact hb.downenc
  · exact e

/-- every sender the thread parks behind builds a legal query, at a position whose parameters are legal too -/
theorem parks_legal (E : Env L td) {s : HState} {r : Res} {p : HPos} (h : Parks true s r p) (hm : Mid L td s.c) :
    EvsOk L td r.2 ∧ PosOk p := by
  cases h with
  | setFrag f i => exact ⟨evsOk_sendSetFragsize E _ hm f, trivial⟩
  | frag pr rg m i => exact ⟨evsOk_sendFragsizeProbe E _ hm pr, trivial⟩
  | lazy i => exact ⟨evsOk_sendLazySwitch E _ hm, trivial⟩
  | switchDown i => exact ⟨evsOk_sendSwitchDown E _ hm, trivial⟩
  | downenc codec b64 i hc => exact ⟨evsOk_sendDownenctest E _ hm codec (hc rfl), hc rfl⟩
  | switchCodec bits i => exact ⟨evsOk_sendSwitchCodec E _ hm bits, trivial⟩
  | upenc q i => exact ⟨evsOk_sendUpenctest E _ hm q, trivial⟩
  | edns i => exact ⟨evsOk_sendDownenctest E _ hm _ (ednsCodec_dn _), trivial⟩
  | rawLogin seed i => exact ⟨evsOk_sendRawUdpLogin _ _, trivial⟩
  | rawIp seed i => exact ⟨evsOk_sendIpRequest E _ hm, trivial⟩
  | login seed i => exact ⟨evsOk_sendLogin E _ hm _ _, trivial⟩
  | version i => exact ⟨evsOk_sendVersion E _ hm, trivial⟩
  | qtype codec t q h hl => cases hl

/-- every way out of a continuation function entered in a `Late` state is `Good` -/
theorem good_of_leaf (E : Env L td) {B : Nat} {s : HState} {evs : List CEvent} {o : HOut} (h : Leaf true B s evs o) (hl : Late L td s.c)
    (he : EvsOk L td evs) : Good L td o := by
  cases h with
  | stop s' nx hu => exact ⟨he, fun p h => (by cases h), fun _ => (late_upd hu hl : Late L td s'.c)⟩
  | park s' r p hu hs _ =>
    have hl' : Late L td s'.c := late_upd hu hl
    have hf := (parks_frame hs).ids
    obtain ⟨h1, h2⟩ := parks_legal E hs hl'.1
    exact good_park s' r evs p he h1 ⟨hl'.1.frame hf, h2, .inl (hl'.2.frame hf)⟩

theorem evsOk_sys (cmds : List (List Nat)) : EvsOk L td (cmds.map CEvent.sys) := by
  intro e he
  obtain ⟨x, _, rfl⟩ := List.mem_map.mp he
  trivial

theorem good_versionHead (E : Env L td) (s : HState) (evs : List CEvent) (i : Nat) (hm : Mid L td s.c)
    (he : EvsOk L td evs) : Good L td (versionHead s evs i) := by
  rw [versionHead]
  exact ite_both (good_park _ _ _ _ he (evsOk_sendVersion E s.c hm) ⟨hm.frame (frame_sendVersion s.c).ids, trivial, Or.inr trivial⟩)
    (good_done_nz _ _ _ he (by omega))

theorem good_versionGot (E : Env L td) (s : HState) (i : Nat) (read : Int) (hm : Mid L td s.c) :
    Good L td (versionGot s i read) := by
  rcases versionGot_cases s i read with ⟨u, seed, h⟩ | h | h <;> rw [h]
  · refine good_of_leaf E (leaf_loginHead _ [] seed 0) ?_ evsOk_nil
    exact ⟨⟨⟨hm.1.td, hm.1.maxlen, hm.1.downenc, hm.1.cmc, hm.1.pkt, hm.1.pktlen⟩, hm.2⟩,
      maskI u 16, maskI_lt _ _ (by omega), hexLower_getD _ (maskI_lt _ _ (by omega))⟩
  · exact good_done_nz _ _ _ evsOk_nil (by omega)
  · exact good_versionHead E _ _ _ hm evsOk_nil

theorem good_afterQtype (E : Env L td) (s : HState) (evs : List CEvent) (hm : Mid L td s.c) (he : EvsOk L td evs) :
    Good L td (afterQtype s evs) :=
  good_versionHead E _ _ _ hm he

theorem numcvt_ttype (n : Nat) (h : qtypeNumcvt n ≠ T_UNSET) : TType (qtypeNumcvt n) := by
  unfold qtypeNumcvt at h ⊢
  unfold TType
  split <;> simp_all [T_NULL, T_PRIVATE, T_TXT, T_SRV, T_MX, T_CNAME, T_A]

theorem cbase_setQtype (c : Cli) (q : Nat) (hb : CBase L td c) : CBase L td { c with doQtype := q } :=
  ⟨hb.td, hb.maxlen, hb.downenc, hb.cmc, hb.pkt, hb.pktlen⟩

theorem good_qtypeFinish (E : Env L td) (s : HState) (evs : List CEvent) (h : Nat) (hb : CBase L td s.c)
    (he : EvsOk L td evs) : Good L td (qtypeFinish s evs h) := by
  rw [qtypeFinish]
  refine ite_both (good_done_nz _ _ _ he (by omega)) ?_
  by_cases hq : qtypeNumcvt h = T_UNSET
  · rw [if_pos hq]; exact good_done_nz _ _ _ he (by omega)
  · rw [if_neg hq]; exact good_afterQtype E _ _ ⟨cbase_setQtype _ _ hb, numcvt_ttype _ hq⟩ he

theorem good_qtypeTest (E : Env L td) (s : HState) (evs : List CEvent) (t q h : Nat) (hm : Mid L td s.c)
    (he : EvsOk L td evs) : Good L td (qtypeTest s evs t q h) := by
  have hs := evsOk_sendDownenctest E s.c hm (if s.c.doQtype = T_NULL ∨ s.c.doQtype = T_PRIVATE then 82 else 84)
    (by unfold DnCodec; split <;> omega)
  exact good_park { s with inb := [] } _ _ _ he hs ⟨hm.frame (frame_sendDownenctest s.c _).ids, trivial, Or.inr trivial⟩

theorem good_qtypeOuterHead (E : Env L td) (s : HState) (evs : List CEvent) (t h : Nat) (hb : CBase L td s.c)
    (he : EvsOk L td evs) : Good L td (qtypeOuterHead s evs t h) := by
  have fin := good_qtypeFinish E s evs h hb he
  rw [qtypeOuterHead]
  exact ite_both (ite_both (good_qtypeTest E _ _ _ _ _ ⟨cbase_setQtype _ _ hb, numcvt_ttype 0 (by decide)⟩ he) fin) fin

theorem good_qtypeAfterInner (E : Env L td) (s : HState) (evs : List CEvent) (t h : Nat) (hb : CBase L td s.c)
    (he : EvsOk L td evs) : Good L td (qtypeAfterInner s evs t h) := by
  rw [qtypeAfterInner]
  exact ite_both (good_qtypeFinish E _ _ _ hb he) (good_qtypeOuterHead E _ _ _ _ hb he)

theorem good_qtypeInnerHead (E : Env L td) (s : HState) (evs : List CEvent) (t q h : Nat) (hb : CBase L td s.c)
    (he : EvsOk L td evs) : Good L td (qtypeInnerHead s evs t q h) := by
  rw [qtypeInnerHead]
  refine ite_both ?_ (good_qtypeAfterInner E _ _ _ _ hb he)
  by_cases hq : qtypeNumcvt q = T_UNSET
  · rw [if_pos hq]; exact good_qtypeAfterInner E _ _ _ _ (cbase_setQtype _ _ hb) he
  · rw [if_neg hq]; exact good_qtypeTest E _ _ _ _ _ ⟨cbase_setQtype _ _ hb, numcvt_ttype _ hq⟩ he

theorem good_qtypeGot (E : Env L td) (s : HState) (t q h : Nat) (read : Int) (hb : CBase L td s.c) :
    Good L td (qtypeGot s t q h read) := by
  rw [qtypeGot]
  exact ite_both (good_qtypeAfterInner E _ _ _ _ hb evsOk_nil) (good_qtypeInnerHead E _ _ _ _ _ hb evsOk_nil)

/-- what iodine.c's `main()` and `client_init()` have established when `client_handshake()` is called -/
structure StartOk (L : Nat) (td : List Nat) (c : Cli) : Prop where
  base : CBase L td c
  ty : TType c.doQtype ∨ c.doQtype = T_UNSET

theorem good_hsStart (E : Env L td) (c : Cli) (args : HsArgs) (pw dev : List Nat) (h : StartOk L td c) :
    Good L td (hsStart c args pw dev) := by
  have hb : CBase L td { c with edns0 := false } :=
    ⟨h.base.td, h.base.maxlen, h.base.downenc, h.base.cmc, h.base.pkt, h.base.pktlen⟩
  unfold hsStart
  simp only
  split
  · exact good_qtypeOuterHead E _ _ _ _ hb evsOk_nil
  · rename_i hne
    rcases h.ty with ht | ht
    · exact good_afterQtype E _ _ ⟨hb, ht⟩ evsOk_nil
    · exact absurd ht hne

/-- the two predicates on places `Parked` is stated with are `HPos.late` (Lemmas/HsPos.lean) taken apart: the places from the
login on are those that are not `Early`, and there a codec letter is one the code tests -/
theorem late_iff (p : HPos) : p.late ↔ PosOk p ∧ ¬ Early p := by
  cases p <;> simp [HPos.late, PosOk, Early]

/-- parked at a `late` place the user id is known -/
theorem late_of_parked {c : Cli} {p : HPos} (h : Parked L td c p) (hp : p.late) : Late L td c :=
  ⟨h.1, h.2.2.resolve_right ((late_iff p).mp hp).2⟩

theorem good_hsGot (E : Env L td) (s : HState) (p : HPos) (read : Int) (hp : Parked L td s.c p) :
    Good L td (hsGot s p read) := by
  by_cases hl : p.late
  · exact good_of_leaf E (leaf_hsGot s p read fun _ => hl) (late_of_parked hp hl) (evsOk_sys _)
  · cases p with
    | qtype t q h => exact good_qtypeGot E _ _ _ _ _ hp.1.1
    | version i => exact good_versionGot E _ _ _ hp.1
    | downenc cd b i => exact absurd hp.2.1 hl
    | _ => exact absurd trivial hl

theorem Parked.frame {c c' : Cli} {p : HPos} (h : Parked L td c p) (e : CFrame erTime c c') : Parked L td c' p :=
  ⟨h.1.frame e, h.2.1, h.2.2.imp_left (·.frame e)⟩

theorem good_hstep (E : Env L td) (s : HState) (inp : CInput) (h : ∀ p, s.pos = some p → Parked L td s.c p) :
    Good L td (hstep s inp) := by
  cases hp : s.pos with
  | none =>
    rw [hstep_idle s inp hp]
    exact ⟨evsOk_nil, fun p' h' => (by cases hp.symm.trans h'), nofun⟩
  | some p =>
    have hk : ∀ n x, Parked L td (s.woken n x).c p := fun n x => (h p hp).frame rfl
    obtain ⟨n, x, _, ⟨_, e⟩ | ⟨read, _, e⟩ | ⟨seed, i, d, rfl, e⟩⟩ := hstep_cases s inp p hp <;> rw [e]
    · exact ⟨evsOk_nil, fun p' h' => Option.some.inj (hp.symm.trans h') ▸ h p hp, nofun⟩
    · exact good_hsGot E _ p read (hk n x)
    · exact good_of_leaf E (leaf_rawLoginGot _ seed i d) (late_of_parked (hk n s.inb) trivial) evsOk_nil

end Iodine.CliQ
