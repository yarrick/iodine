import IodineModel.Lemmas.C02v2
/-
The duplicate memories of a slot and the rest of it: the memory updates do not touch the rest (`core`), they depend on the
memories only (`MemEq`), and they keep the memories fresh for the data-CMC characters to come (`Fresh.memo`).  The joint invariants
carry freshness in the form `Aged` (C02f) and take from `Fresh` only the next character (`Aged.fresh`, `Fresh.cacheMiss`,
`Fresh.qmemMiss`).
-/
namespace Iodine.C02L
open Iodine Iodine.Gen Iodine.Server Iodine.World

/-! ### the memories do not touch the rest of the slot -/

/-- the slot without its duplicate memories -/
def core (x : Session) : Session :=
  { x with dnscache := [], dcLast := 0, qmemping := [], qmempingLast := 0, qmemdata := [], qmemdataLast := 0 }

theorem core_cacheUpd (x : Session) (q : Query) (a : List Nat) : core (cacheUpd x q a) = core x := by
  unfold cacheUpd; split <;> rfl

theorem core_qmemUpd (x : Session) (q : Query) : core (qmemUpd x q) = core x := by
  unfold qmemUpd
  simp only
  split
  · cases List.idxOf? 46 q.name with
    | none => rfl
    | some cp => simp only; split <;> rfl
  · split <;> rfl

theorem core_memo (x : Session) (q : Query) (a : List Nat) : core (cacheUpd (qmemUpd x q) q a) = core x := by
  rw [core_cacheUpd, core_qmemUpd]

theorem core_setQ {a b : Session} (h : core a = core b) (q : Query) : core { a with q := q } = core { b with q := q } := by
  cases a; cases b
  simp only [core, Session.mk.injEq] at h ⊢
  simp [h]

theorem core_setQs {a b : Session} (h : core a = core b) (q : Query) : core { a with qs := q } = core { b with qs := q } := by
  cases a; cases b
  simp only [core, Session.mk.injEq] at h ⊢
  simp [h]

theorem core_active {a b : Session} (h : core a = core b) : a.active = b.active := show (core a).active = (core b).active from congrArg Session.active h
theorem core_authenticated {a b : Session} (h : core a = core b) : a.authenticated = b.authenticated := show (core a).authenticated = (core b).authenticated from congrArg Session.authenticated h
theorem core_authenticatedRaw {a b : Session} (h : core a = core b) : a.authenticatedRaw = b.authenticatedRaw := show (core a).authenticatedRaw = (core b).authenticatedRaw from congrArg Session.authenticatedRaw h
theorem core_disabled {a b : Session} (h : core a = core b) : a.disabled = b.disabled := show (core a).disabled = (core b).disabled from congrArg Session.disabled h
theorem core_conn {a b : Session} (h : core a = core b) : a.conn = b.conn := show (core a).conn = (core b).conn from congrArg Session.conn h
theorem core_encoder {a b : Session} (h : core a = core b) : a.encoder = b.encoder := show (core a).encoder = (core b).encoder from congrArg Session.encoder h
theorem core_outpacket {a b : Session} (h : core a = core b) : a.outpacket = b.outpacket := show (core a).outpacket = (core b).outpacket from congrArg Session.outpacket h
theorem core_inpacket {a b : Session} (h : core a = core b) : a.inpacket = b.inpacket := show (core a).inpacket = (core b).inpacket from congrArg Session.inpacket h
theorem core_q {a b : Session} (h : core a = core b) : a.q = b.q := show (core a).q = (core b).q from congrArg Session.q h
theorem core_qs {a b : Session} (h : core a = core b) : a.qs = b.qs := show (core a).qs = (core b).qs from congrArg Session.qs h
theorem core_lazy {a b : Session} (h : core a = core b) : a.lazy = b.lazy := show (core a).lazy = (core b).lazy from congrArg Session.lazy h
theorem core_host {a b : Session} (h : core a = core b) : a.host = b.host := show (core a).host = (core b).host from congrArg Session.host h
theorem core_lastPkt {a b : Session} (h : core a = core b) : a.lastPkt = b.lastPkt := show (core a).lastPkt = (core b).lastPkt from congrArg Session.lastPkt h
theorem core_downenc {a b : Session} (h : core a = core b) : a.downenc = b.downenc := show (core a).downenc = (core b).downenc from congrArg Session.downenc h
theorem core_tunIp {a b : Session} (h : core a = core b) : a.tunIp = b.tunIp := show (core a).tunIp = (core b).tunIp from congrArg Session.tunIp h
theorem core_oqFilled {a b : Session} (h : core a = core b) : a.oqFilled = b.oqFilled := show (core a).oqFilled = (core b).oqFilled from congrArg Session.oqFilled h
theorem core_oqNext {a b : Session} (h : core a = core b) : a.oqNext = b.oqNext := show (core a).oqNext = (core b).oqNext from congrArg Session.oqNext h
theorem core_outpacketq {a b : Session} (h : core a = core b) : a.outpacketq = b.outpacketq := show (core a).outpacketq = (core b).outpacketq from congrArg Session.outpacketq h
theorem core_fragsize {a b : Session} (h : core a = core b) : a.fragsize = b.fragsize := show (core a).fragsize = (core b).fragsize from congrArg Session.fragsize h
theorem core_outfragresent {a b : Session} (h : core a = core b) : a.outfragresent = b.outfragresent := show (core a).outfragresent = (core b).outfragresent from congrArg Session.outfragresent h
theorem core_optionsLocked {a b : Session} (h : core a = core b) : a.optionsLocked = b.optionsLocked := show (core a).optionsLocked = (core b).optionsLocked from congrArg Session.optionsLocked h
theorem core_seed {a b : Session} (h : core a = core b) : a.seed = b.seed := show (core a).seed = (core b).seed from congrArg Session.seed h

/-- what no iteration of an upstream exchange in immediate mode changes in the slot -/
structure Kept (y x : Session) : Prop where
  active : y.active = x.active
  authenticated : y.authenticated = x.authenticated
  disabled : y.disabled = x.disabled
  conn : y.conn = x.conn
  encoder : y.encoder = x.encoder
  outpacket : y.outpacket = x.outpacket
  lazy : y.lazy = x.lazy
  host : y.host = x.host
  oqFilled : y.oqFilled = x.oqFilled
  tunIp : y.tunIp = x.tunIp
  fragsize : y.fragsize = x.fragsize

theorem Kept.refl (x : Session) : Kept x x := ⟨rfl, rfl, rfl, rfl, rfl, rfl, rfl, rfl, rfl, rfl, rfl⟩

theorem Kept.trans {x y z : Session} (h : Kept z y) (h' : Kept y x) : Kept z x :=
  ⟨h.active.trans h'.active, h.authenticated.trans h'.authenticated, h.disabled.trans h'.disabled, h.conn.trans h'.conn,
    h.encoder.trans h'.encoder, h.outpacket.trans h'.outpacket, h.lazy.trans h'.lazy, h.host.trans h'.host,
    h.oqFilled.trans h'.oqFilled, h.tunIp.trans h'.tunIp, h.fragsize.trans h'.fragsize⟩

/-- the slots the iterations of an upstream exchange write back differ from the slot `x` they found in these fields only -/
theorem kept_slot (x : Session) (J : Packet) (q qs : Query) (b : Bool) (t : Nat) :
    Kept { x with inpacket := J, q := q, qs := qs, qsNew := b, lastPkt := t } x :=
  ⟨rfl, rfl, rfl, rfl, rfl, rfl, rfl, rfl, rfl, rfl, rfl⟩

theorem Kept.of_core {x y : Session} (h : core y = core x) : Kept y x :=
  ⟨core_active h, core_authenticated h, core_disabled h, core_conn h, core_encoder h, core_outpacket h, core_lazy h, core_host h,
    core_oqFilled h, core_tunIp h, core_fragsize h⟩

theorem Kept.xstat {P : Par} {x y : Session} (h : Kept y x) (hx : XStat P x)
    (hs : 0 ≤ y.inpacket.seqno ∧ y.inpacket.seqno < 8) (hf : 0 ≤ y.inpacket.fragment ∧ y.inpacket.fragment < 16) : XStat P y :=
  ⟨h.active ▸ hx.active, h.authenticated ▸ hx.auth, h.disabled ▸ hx.enabled, h.conn ▸ hx.conn, h.encoder ▸ hx.enc,
    h.outpacket ▸ hx.oseq, h.outpacket ▸ hx.ofrag, hs, hf⟩

/-- transfer of the static facts along `core` -/
theorem XStat.of_core {P : Par} {x y : Session} (h : core y = core x) (hx : XStat P x) : XStat P y :=
  (Kept.of_core h).xstat hx (core_inpacket h ▸ hx.iseq) (core_inpacket h ▸ hx.ifrag)

/-! ### slots with the same duplicate memories -/

structure MemEq (y x : Session) : Prop where
  q : y.qmemdata = x.qmemdata
  ql : y.qmemdataLast = x.qmemdataLast
  p : y.qmemping = x.qmemping
  pl : y.qmempingLast = x.qmempingLast
  c : y.dnscache = x.dnscache
  cl : y.dcLast = x.dcLast

theorem MemEq.refl (x : Session) : MemEq x x := ⟨rfl, rfl, rfl, rfl, rfl, rfl⟩
theorem MemEq.symm {x y : Session} (h : MemEq y x) : MemEq x y := ⟨h.q.symm, h.ql.symm, h.p.symm, h.pl.symm, h.c.symm, h.cl.symm⟩
theorem MemEq.trans {x y z : Session} (h : MemEq z y) (h' : MemEq y x) : MemEq z x :=
  ⟨h.q.trans h'.q, h.ql.trans h'.ql, h.p.trans h'.p, h.pl.trans h'.pl, h.c.trans h'.c, h.cl.trans h'.cl⟩

/-- `memo` is a function of the memories only -/
theorem MemEq.memo {x y : Session} (e : MemEq y x) (q : Query) (a : List Nat) :
    MemEq (cacheUpd (qmemUpd y q) q a) (cacheUpd (qmemUpd x q) q a) := by
  have h1 : MemEq (qmemUpd y q) (qmemUpd x q) := by
    unfold qmemUpd
    simp only
    split
    · cases List.idxOf? 46 q.name with
      | none => exact e
      | some cp =>
        simp only
        split
        · exact e
        · exact ⟨e.q, e.ql, by simp only [e.p, e.pl], by simp only [e.p, e.pl], e.c, e.cl⟩
    · split
      · exact e
      · exact ⟨by simp only [e.q, e.ql], by simp only [e.q, e.ql], e.p, e.pl, e.c, e.cl⟩
  unfold cacheUpd
  split
  · exact h1
  · exact ⟨h1.q, h1.ql, h1.p, h1.pl, by simp only [h1.c, h1.cl], by simp only [h1.cl]⟩

theorem Fresh.memEq {P : Par} {x y : Session} {k n : Nat} (h : Fresh P x k n) (e : MemEq y x) : Fresh P y k n :=
  ⟨by rw [e.c]; exact h.cache, by rw [e.q]; exact h.qmem⟩

/-! ### the memories stay fresh -/

/-- the fingerprint of a data query carries its data-CMC character -/
theorem dataCmc_getD3 {name : List Nat} {k : Nat} (h4 : name.getD 4 0 = cmcChar k) (hk : k < 36) :
    (dataCmc name).getD 3 0 = cmcChar k := by
  unfold dataCmc
  simp only [List.range, List.range.loop, List.map, List.getD_cons_succ, List.getD_cons_zero]
  rw [h4, if_neg (cmcChar_nofold k hk)]

theorem not_inWin_self {k n : Nat} (hk : k < 36) (hn : n ≤ 35) : ¬ InWin ((k + 1) % 36) n (cmcChar k) := by
  intro ⟨i, hi, he⟩
  have := cmcChar_inj (((k + 1) % 36 + i) % 36) k (Nat.mod_lt _ (by omega)) hk he.symm
  omega

/-- after the answer to a data query with data-CMC character `cmcChar k` was remembered, the memories are fresh for the
following characters -/
theorem Fresh.memo {P : Par} {x : Session} {k n : Nat} (h : Fresh P x k (n + 1)) (hk : k < 36) (hn : n ≤ 35)
    (q : Query) (a : List Nat) (h4 : q.name.getD 4 0 = cmcChar k) (h5 : 5 ≤ q.name.length)
    (h0 : q.name.getD 0 0 ≠ 80 ∧ q.name.getD 0 0 ≠ 112) :
    Fresh P (cacheUpd (qmemUpd x q) q a) ((k + 1) % 36) n := by
  have hq : (qmemUpd x q).dnscache = x.dnscache := by
    have := congrArg Session.dnscache (show qmemUpd x q = { qmemUpd x q with dnscache := x.dnscache } from by
      unfold qmemUpd; simp only; split
      · cases List.idxOf? 46 q.name with
        | none => rfl
        | some cp => simp only; split <;> rfl
      · split <;> rfl)
    exact this
  have hqm : ∀ e ∈ (qmemUpd x q).qmemdata, e ∈ x.qmemdata ∨ e = ⟨dataCmc q.name, q.type⟩ := by
    intro e he
    unfold qmemUpd at he
    simp only at he
    rw [if_neg (by intro hc; rcases hc with hc | hc; exact h0.1 hc; exact h0.2 hc), if_neg (by omega)] at he
    simp only [saveToQmem] at he
    rcases List.mem_or_eq_of_mem_set he with h1 | h1
    · exact Or.inl h1
    · exact Or.inr h1
  have hcm : (cacheUpd (qmemUpd x q) q a).qmemdata = (qmemUpd x q).qmemdata := by
    unfold cacheUpd; split <;> rfl
  have hdc : ∀ e ∈ (cacheUpd (qmemUpd x q) q a).dnscache, e ∈ x.dnscache ∨ e = ⟨q, a, a.length⟩ := by
    intro e he
    unfold cacheUpd at he
    split at he
    · exact Or.inl (hq ▸ he)
    · simp only at he
      rcases List.mem_or_eq_of_mem_set he with h1 | h1
      · exact Or.inl (hq ▸ h1)
      · exact Or.inr h1
  have h' := h.next
  constructor
  · intro e he h1 h2
    rcases hdc e he with h3 | h3
    · exact h'.cache e h3 h1 h2
    · subst h3
      simp only
      rw [h4]
      exact not_inWin_self hk hn
  · intro e he h1
    rw [hcm] at he
    rcases hqm e he with h3 | h3
    · exact h'.qmem e h3 h1
    · subst h3
      simp only
      rw [dataCmc_getD3 h4 hk]
      exact not_inWin_self hk hn

theorem Fresh.qmemMiss {P : Par} {x : Session} {k n : Nat} (h : Fresh P x k (n + 1)) (q : Query)
    (hty : q.type = P.ty) (h4 : q.name.getD 4 0 = cmcChar k) (hk : k < 36) : QmemMiss x q := by
  intro e he ⟨_, h2, h3⟩
  apply h.qmem e he (h2.trans hty)
  refine ⟨0, by omega, ?_⟩
  rw [h3]
  rw [dataCmc_getD3 h4 hk]
  congr 1
  omega

end Iodine.C02L
