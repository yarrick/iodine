import IodineModel.Lemmas.SrvC04e
/-
The frames of the raw-mode handlers, of `dispatch`, the sweep and the whole iteration (`next_base`: configuration and
table size stay, the clock is set); the tunnel addresses of the slots never change (so in reachable states they are the
pool `init_users` set up).
-/
namespace Iodine.C04L
open Iodine Iodine.Server Iodine.Gen

theorem frame_handleRawLogin (s : Srv) (packet : List Nat) (q : Query) (u : Nat) :
    Frame erTun (fun v => v = u ∧ rawLoginOk s packet u) s (handleRawLogin s packet q u).1 := by
  by_cases h : rawLoginOk s packet u
  · rw [handleRawLogin_accepted s packet q u h]
    refine Frame.mono ?_ (fun v hv => ⟨hv, h⟩)
    refine Frame.trans ?_ (Frame.set erTun _ u _ (fun _ => rfl))
    refine Frame.trans ?_ (Frame.set erTun _ u _ (fun _ => rfl))
    exact Frame.set erTun _ u _ (fun _ => rfl)
  · rw [handleRawLogin_rejected s packet q u h]; exact Frame.refl _ _ _

theorem frame_rawStored (s : Srv) (u : Nat) (src : Addr) (body : List Nat) :
    Frame erData (· = u) s (rawStored s u src body) :=
  Frame.set erData s u _ fun _ => rfl

theorem frame_handleRawData (s : Srv) (packet : List Nat) (src : Addr) (u : Nat) :
    Frame erData (fun _ => True) s (handleRawData s packet (rawQuery src) u).1 :=
  handleRawData_ind (P := fun r => Frame erData (fun _ => True) s r.1) s packet src u (Frame.refl _ _ _) fun _ _ =>
    ((frame_rawStored s u src packet).mono fun _ _ => trivial).trans
      ((frame_handleFullPacket _ u).mono fun _ _ => trivial)

theorem frame_handleRawPing (s : Srv) (q : Query) (u : Nat) :
    Frame erData (· = u) s (handleRawPing s q u).1 :=
  handleRawPing_ind (P := fun r => Frame erData (· = u) s r.1) s q u (Frame.refl _ _ _)
    (Frame.set erData _ u _ fun _ => rfl)

theorem frame_rawDecode (s : Srv) (packet : List Nat) (src : Addr) (r : Res) (h : rawDecode s packet src = some r) :
    Frame erTun (fun _ => True) s r.1 := by
  obtain ⟨_, _, ⟨_, rfl⟩ | ⟨_, rfl⟩ | ⟨_, rfl⟩ | rfl⟩ := rawDecode_cases h
  · exact (frame_handleRawLogin _ _ _ _).mono (fun _ _ => trivial)
  · exact (frame_handleRawData _ _ _ _).coarsen erTun_erData
  · exact ((frame_handleRawPing _ _ _).coarsen erTun_erData).mono (fun _ _ => trivial)
  · exact Frame.refl _ _ _

/-- a raw-mode datagram changes the address a slot is bound to only if it is a login frame for that slot that
`handle_raw_login` accepts -/
theorem rawDecode_host (s : Srv) (packet : List Nat) (src : Addr) (r : Res) (v : Nat)
    (h : rawDecode s packet src = some r) (hne : (getUser r.1 v).host ≠ (getUser s v).host) :
    RAW_HDR_LEN ≤ packet.length ∧ packet.take 3 = rawHeader.take 3 ∧
    (packet.getD 3 0 &&& RAW_HDR_CMD_MASK) = RAW_HDR_CMD_LOGIN ∧ v = (packet.getD 3 0 &&& RAW_HDR_USR_MASK) ∧
    rawLoginOk s (packet.drop RAW_HDR_LEN) v := by
  have hostOf : ∀ {U : Nat → Prop} {s' : Srv}, Frame erHost U s s' → (getUser s' v).host = (getUser s v).host :=
    fun f => erHost_host (f.rel v)
  obtain ⟨h1, h2, ⟨h3, rfl⟩ | ⟨_, rfl⟩ | ⟨_, rfl⟩ | rfl⟩ := rawDecode_cases h
  · have hU : v = (packet.getD 3 0 &&& RAW_HDR_USR_MASK) ∧
        rawLoginOk s (packet.drop RAW_HDR_LEN) (packet.getD 3 0 &&& RAW_HDR_USR_MASK) := by
      by_cases hh : v = (packet.getD 3 0 &&& RAW_HDR_USR_MASK) ∧
          rawLoginOk s (packet.drop RAW_HDR_LEN) (packet.getD 3 0 &&& RAW_HDR_USR_MASK)
      · exact hh
      · have := (frame_handleRawLogin s (packet.drop RAW_HDR_LEN) (rawQuery src)
          (packet.getD 3 0 &&& RAW_HDR_USR_MASK)).other v hh
        rw [this] at hne; exact absurd rfl hne
    refine ⟨h1, h2, h3, hU.1, ?_⟩
    rw [hU.1]; exact hU.2
  · exact absurd (hostOf ((frame_handleRawData s _ _ _).coarsen erHost_erData)) hne
  · exact absurd (hostOf ((frame_handleRawPing s _ _).coarsen erHost_erData)) hne
  · exact absurd rfl hne

theorem frame_tunnelTun (s : Srv) (frame : List Nat) :
    Frame erData (fun v => findUserByIp s (ipDst frame) = some v) s (tunnelTun s frame).1 := by
  cases h : findUserByIp s (ipDst frame) with
  | none => rw [tunnelTun_none s frame h]; exact Frame.refl _ _ _
  | some t =>
    exact (tunnelTun_some_frame s frame t h).mono (fun v hv => by rw [hv])

theorem tunnelBind_fst (s : Srv) (d : List Nat) : (tunnelBind s d).1 = s := by
  rw [tunnelBind]
  refine ite_both (P := fun r : Res => r.1 = s) rfl ?_
  cases FwQuery.get s.fw (dnsGetId d) <;> rfl

theorem frame_dispatch (s : Srv) (inp : Input) (tunsel : Bool) :
    Frame erTun (fun _ => True) s (dispatch s inp tunsel).1 :=
  dispatch_ind (P := fun r => Frame erTun (fun _ => True) s r.1) s inp tunsel (Frame.refl _ _ _)
    (fun _ _ => ((frame_tunnelTun s _).coarsen erTun_erData).mono fun _ _ => trivial)
    (fun q _ => (frame_tunnelDns s q).mono fun _ _ => trivial) (fun src _ r _ h => frame_rawDecode s _ src r h)
    fun _ _ => (tunnelBind_fst s _).symm ▸ Frame.refl _ _ _

theorem dispatch_host (s : Srv) (inp : Input) (tunsel : Bool) (v : Nat)
    (hne : (getUser (dispatch s inp tunsel).1 v).host ≠ (getUser s v).host) :
    (∃ q, inp = .q q ∧ (getUser (tunnelDns s q).1 v).host ≠ (getUser s v).host) ∨
    (∃ src bytes r, inp = .rawf src bytes ∧ rawDecode s (bytes.take 65536) src = some r ∧
      (getUser r.1 v).host ≠ (getUser s v).host) := by
  refine dispatch_ind (P := fun r => (getUser r.1 v).host ≠ (getUser s v).host → _) s inp tunsel (fun h => absurd rfl h)
    (fun _ _ h => absurd (erHost_host (((frame_tunnelTun s _).coarsen erHost_erData).rel v)) h)
    (fun q hi h => .inl ⟨q, hi, h⟩) (fun src bytes r hi hr h => .inr ⟨src, bytes, r, hi, hr, h⟩)
    (fun _ _ h => absurd (congrArg (fun t => (getUser t v).host) (tunnelBind_fst s _)) h) hne

theorem frame_sweepFrom : ∀ (n i : Nat) (s : Srv), Frame erData (fun _ => True) s (sweepFrom n i s).1
  | 0, _, s => Frame.refl _ _ _
  | n + 1, i, s => by
    unfold sweepFrom
    dsimp only
    rw [andThen_fst]
    exact Frame.trans
      (ite_both (P := fun r : Res => Frame erData (fun _ => True) s r.1)
        ((frame_sendChunkOrDataless s i .qs).mono fun _ _ => trivial) (Frame.refl _ _ _))
      (frame_sweepFrom n (i + 1) _)

/-- every event of the sweep answers the query a live DNS-mode session has been holding for "real soon" -/
theorem sweepFrom_events : ∀ (n i : Nat) (s : Srv), ∀ e ∈ (sweepFrom n i s).2,
    ∃ j, i ≤ j ∧ j < i + n ∧ live (getUser s j) s.now = true ∧ (getUser s j).qs.id ≠ 0 ∧
      (getUser s j).conn = .dnsNull ∧ ToSess (getUser s j) j e
  | 0, _, _, _, he => nomatch he
  | n + 1, i, s, e, he => by
    unfold sweepFrom at he
    dsimp only at he
    rw [andThen_snd] at he
    generalize hr : (if live (getUser s i) s.now = true ∧ (getUser s i).qs.id ≠ 0 ∧ (getUser s i).conn = Conn.dnsNull ∧
        (!(getUser s i).qsNew) = true then (sendChunkOrDataless s i QSel.qs).1 else (s, [])) = r at he
    -- the step for slot `i`: its events are `i`'s, and it leaves the later slots and the clock alone
    let Q : Res → Prop := fun r => (∀ e ∈ r.2, live (getUser s i) s.now = true ∧ (getUser s i).qs.id ≠ 0 ∧
      (getUser s i).conn = .dnsNull ∧ ToSess (getUser s i) i e) ∧ Frame erData (· = i) s r.1
    have hstep : Q r := by
      rw [← hr]
      exact ite_both' (P := Q)
        (fun hc => ⟨fun e he => ⟨hc.1, hc.2.1, hc.2.2.1, sendChunkOrDataless_toSess s i .qs e he⟩,
          frame_sendChunkOrDataless s i .qs⟩) fun _ => ⟨fun _ h => (nomatch h), Frame.refl _ _ _⟩
    rcases List.mem_append.1 he with he | he
    · obtain ⟨a, b, c, d⟩ := hstep.1 e he
      exact ⟨i, Nat.le_refl _, by omega, a, b, c, d⟩
    · obtain ⟨j, h1, h2, h3, h4, h5, h6⟩ := sweepFrom_events n (i + 1) _ e he
      have hj : ¬ j = i := by omega
      rw [hstep.2.other j hj, hstep.2.now] at h3
      rw [hstep.2.other j hj] at h4 h5 h6
      exact ⟨j, by omega, by omega, h3, h4, h5, h6⟩

theorem frame_sweep (s : Srv) : Frame erData (fun _ => True) s (sweep s).1 := frame_sweepFrom _ _ _

theorem body_fst (s : Srv) (inp : Input) (tunsel : Bool) :
    (body s inp tunsel).1 = (sweep (dispatch s inp tunsel).1).1 :=
  have ⟨_, _, h⟩ := body_eq s inp tunsel
  h ▸ rfl

theorem frame_body (s : Srv) (inp : Input) (tunsel : Bool) :
    Frame erTun (fun _ => True) s (body s inp tunsel).1 := by
  rw [body_fst]
  exact (frame_dispatch s inp tunsel).trans ((frame_sweep _).coarsen erTun_erData)

def tunIps (s : Srv) : List Nat := s.users.map (·.tunIp)

theorem Frame.tunIps_eq {U : Nat → Prop} {s s' : Srv} (h : Frame erTun U s s') : tunIps s' = tunIps s :=
  h.map_eq _ erTun_tunIp

theorem iteration_tunIps (s : Srv) (inp : Input) (now' : Nat) : tunIps (iteration s inp now').1 = tunIps s := by
  unfold iteration
  dsimp only
  rw [(frame_body _ inp _).tunIps_eq]
  exact map_users_eq _ (length_clearNewFrom _ _ _ _) fun v => by
    obtain ⟨b, hb⟩ := getUser_handlerPhase s now' v
    rw [hb]

theorem next_base (s : Srv) (st : Step) :
    (next s st).cfg = s.cfg ∧ (next s st).now = st.now ∧ (next s st).users.length = s.users.length :=
  have h := frame_body { (topOfLoop s).1 with now := st.now } st.inp (topOfLoop s).2.2
  ⟨h.cfg, h.now, h.len.trans (length_clearNewFrom _ _ _ _)⟩

theorem iteration_cfg (s : Srv) (inp : Input) (now' : Nat) : (iteration s inp now').1.cfg = s.cfg :=
  (next_base s ⟨inp, now'⟩).1

theorem reachable_tunIps (cfg : Config) (s : Srv) (h : Reachable cfg s) :
    tunIps s = Users.initUsers cfg.myIp cfg.netmask := by
  induction h with
  | init rnd =>
    unfold tunIps start Srv.init
    simp only [List.map_map]
    have : ((fun x : Session => x.tunIp) ∘ Session.zero) = id := by funext a; rfl
    rw [this, List.map_id]
  | step st hr hle ih =>
    unfold next
    rw [iteration_tunIps]; exact ih

end Iodine.C04L
