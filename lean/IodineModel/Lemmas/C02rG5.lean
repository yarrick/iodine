import IodineModel.Lemmas.C02rG2
import IodineModel.Lemmas.C02rD4
/-
Downstream blackout, then clean path, immediate mode.  From a synchronised quiescent state `k` frames are offered to the server while
every downstream datagram is lost (`giveupRunDown`); the run ends with freshness slack 1 (`giveup_runs_down_imm`: the pings arrive
and are remembered), so the theorems about a desynchronised start apply as they stand.  On the clean path again the client's next
poll RESYNCHRONISES when `k ≤ 4` (it adopts the number of the dataless answer) and changes nothing when `5 ≤ k ≤ 7` (the number is
in the window); of the frames offered afterwards the first `8 − k` are then LOST, all others arrive exactly once and in order
(`blackout_then_clean_downstream_imm`; `…_nopoll`: a frame reaches the server before that poll).
-/
namespace Iodine.C02L
open Iodine Iodine.Gen Iodine.Server Iodine.World

/-- the number of frames lost on the clean path after `k` downstream give-ups and one idle poll -/
def rGlostAfter (k : Nat) : Nat := if k ≤ 4 then 0 else 8 - k

/-- the state after the blackout: desynchronised by `k` downstream, slack 1, with timer room for the next poll -/
theorem blackout_leaves_desync {P : Par} (hP : P.Ok) (F : Nat) (hF : 0 < F) (bl : List (List Nat)) {w : W} (hq : QuietImm P w)
    (hFw : (getUser w.srv P.u).fragsize = F)
    (hbl : ∀ f ∈ bl, 24 ≤ f.length ∧ f.length < 65536 ∧ ipDst f = (getUser w.srv P.u).tunIp)
    (hsps : w.cs.c.sendPingSoon = 0) (hsel : w.cs.c.selecttimeout ≤ 9) (hk : 1 ≤ bl.length ∧ bl.length ≤ 7)
    (hc : ¬ w.cs.c.lastdownstreamtime + 60 < w.cs.c.now + (rGpollsAll F bl + 1) * w.cs.c.selecttimeout.toNat)
    (hs : w.srv.now + w.cs.c.selecttimeout.toNat < (getUser w.srv P.u).lastPkt + 60) :
    DownGaveUpN P w.cs.c.selecttimeout.toNat w (giveupRunDown F bl w) (rGpollsAll F bl) bl.length ∧
    QuietImmD P 0 bl.length (giveupRunDown F bl w) ∧ Roomy P (giveupRunDown F bl w) := by
  obtain ⟨g, hq1⟩ := giveup_runs_down_imm hP F hF bl (quietImmDS_of_quietImm hq) hFw hbl hsps hsel (Nat.le_refl 1) (by omega)
    (Or.inr (Or.inl (by omega))) (by intro hx; apply hc; rw [Nat.add_mul]; omega) hs
  have hk8 : (0 + bl.length) % 8 = bl.length := by omega
  rw [hk8] at hq1
  have hq1D := quietImmDS_one.1 hq1
  refine ⟨g, hq1D, ?_⟩
  generalize giveupRunDown F bl w = w1 at g hq1 hq1D
  have hsecs := poll_secs w1.cs.c hq1D.idleC g.sps
  have hto : (Client.selectOf w1.cs.c).to < 10000000 := by
    rw [selectOf_idle0 _ hq1D.idleC g.sps, g.fr.selto]; omega
  refine ⟨hto, ?_, ?_⟩
  · rw [hsecs, g.fr.selto, g.fr.ldt, g.fr.cnow]
    intro hx; apply hc; rw [Nat.add_mul]; omega
  · rw [hsecs, g.fr.selto]
    rw [g.lp (by omega)]; omega

/-- From `QuietImm`: `k = bl.length ∈ 1..7` frames under the downstream blackout
(`N = rGpollsAll F bl` polls), then ONE idle poll on the clean path (`tickC deliverUp deliverDown`: these are the prompt
scheduler's own choices, `C02qD7.idle_poll`), then the frames `lost ++ rest` offered to the server one after the other on the
prompt schedule, where `lost.length = rGlostAfter k` (`0` for `k ≤ 4`: the idle poll resynchronised; `8 − k` for `5 ≤ k ≤ 7`):
exactly the frames of `rest` arrive at the client's tun device, once each and in order; nothing reaches the server's tun
device; the final state is `QuietImm`.  Hypotheses: for `k ≥ 5` the client's last fragment number is not 0 (`hfr`, the hypothesis
of `recovery_after_giveups_down_imm_partial`; with `inpkt.fragment = 0` one packet fewer is lost, `C02qD9.desync7_both_outcomes`);
time: `N + 1` polls fit into the client's 60 s (`hc`). -/
theorem blackout_then_clean_downstream_imm {P : Par} (hP : P.Ok) (fuel : Nat) (hfuel : 36 ≤ fuel) (F : Nat) (hF : 0 < F)
    (bl lost rest : List (List Nat)) (w : W) (hq : QuietImm P w) (hFw : (getUser w.srv P.u).fragsize = F)
    (hbl : ∀ f ∈ bl, 24 ≤ f.length ∧ f.length < 65536 ∧ ipDst f = (getUser w.srv P.u).tunIp)
    (hok : ∀ f ∈ lost ++ rest, DownFrameOk (getUser w.srv P.u).tunIp F f)
    (hsps : w.cs.c.sendPingSoon = 0) (hsel : w.cs.c.selecttimeout ≤ 9) (hk : 1 ≤ bl.length ∧ bl.length ≤ 7)
    (hlost : lost.length = rGlostAfter bl.length) (hfr : 5 ≤ bl.length → w.cs.c.inpkt.fragment ≠ 0)
    (hc : ¬ w.cs.c.lastdownstreamtime + 60 < w.cs.c.now + (rGpollsAll F bl + 1) * w.cs.c.selecttimeout.toNat)
    (hs : w.srv.now + w.cs.c.selecttimeout.toNat < (getUser w.srv P.u).lastPkt + 60) :
    QuietImm P (offerAllS P.u fuel (run (giveupRunDown F bl w) [.tickC, .deliverUp, .deliverDown]) (lost ++ rest)) ∧
    (offerAllS P.u fuel (run (giveupRunDown F bl w) [.tickC, .deliverUp, .deliverDown]) (lost ++ rest)).tunC =
      w.tunC ++ rest.map tunImage ∧
    (offerAllS P.u fuel (run (giveupRunDown F bl w) [.tickC, .deliverUp, .deliverDown]) (lost ++ rest)).tunS = w.tunS := by
  obtain ⟨g, hq1, hr1⟩ := blackout_leaves_desync hP F hF bl hq hFw hbl hsps hsel hk hc hs
  generalize giveupRunDown F bl w = w1 at g hq1 hr1 ⊢
  obtain ⟨w2, hrun, _, _, _, a1, a2, a3, a4, a5, a6, a7, _, hadopt, hstale⟩ := idle_poll hP hq1 (by omega) hr1
  rw [hrun]
  have hsel2 : w2.cs.c.selecttimeout ≤ 9 := by rw [a7, g.fr.selto]; exact hsel
  have hF2 : (getUser w2.srv P.u).fragsize = F := by rw [a3, g.fr.fragsize, hFw]
  have hT2 : (getUser w2.srv P.u).tunIp = (getUser w.srv P.u).tunIp := by rw [a4, g.fr.tunIp]
  have hok2 : ∀ f ∈ lost ++ rest, DownFrameOk (getUser w2.srv P.u).tunIp (getUser w2.srv P.u).fragsize f := by
    intro f hf; rw [hT2, hF2]; exact hok f hf
  by_cases h4 : bl.length ≤ 4
  · -- resynchronised by the idle poll
    obtain ⟨hq2, hsps2, _, _⟩ := hadopt ⟨hk.1, h4⟩
    have hl0 : lost = [] := List.eq_nil_of_length_eq_zero (by rw [hlost]; unfold rGlostAfter; rw [if_pos h4])
    subst hl0
    have := down_sequence_imm hP fuel hfuel rest w2 hq2 (roomy_of_timer hq2.cst hq2.srv hsps2 (by decide) (by decide)) hsel2 (by rw [hF2]; exact hF) hok2
    rw [List.nil_append]
    exact ⟨this.1, by rw [this.2.1, a1, g.fr.tunC], by rw [this.2.2, a2, g.fr.tunS]⟩
  · -- the poll changes nothing; the next `8 − k` packets are lost
    obtain ⟨hq2, hsps2, hinp2⟩ := hstale (Or.inr (by omega))
    have hr2 : Roomy P w2 := roomy_afterD hq2 a5 a6 hsel2 (by omega)
    have := recovery_after_giveups_down_imm_partial hP fuel hfuel lost rest w2 bl.length ⟨by omega, hk.2⟩
      (by rw [hlost]; unfold rGlostAfter; rw [if_neg h4]) hq2 (by rw [hinp2, g.fr.inpkt]; exact hfr (by omega)) hr2 hsel2
      (by rw [hF2]; exact hF) hok2
    exact ⟨this.1, by rw [this.2.1, a1, g.fr.tunC], by rw [this.2.2, a2, g.fr.tunS]⟩

/-- … WITHOUT the idle poll (a frame reaches the server before the client's next poll): `k ≤ 3` give-ups are harmless — the
first packet on the clean path carries a number the client takes for new (`down_packet_imm_desync_ok`), everything arrives;
`4 ≤ k ≤ 7`: the next `8 − k` packets are lost (`recovery_after_giveups_down_imm_partial`). -/
theorem blackout_then_clean_downstream_imm_nopoll {P : Par} (hP : P.Ok) (fuel : Nat) (hfuel : 36 ≤ fuel) (F : Nat) (hF : 0 < F)
    (bl lost rest : List (List Nat)) (w : W) (hq : QuietImm P w) (hFw : (getUser w.srv P.u).fragsize = F)
    (hbl : ∀ f ∈ bl, 24 ≤ f.length ∧ f.length < 65536 ∧ ipDst f = (getUser w.srv P.u).tunIp)
    (hok : ∀ f ∈ lost ++ rest, DownFrameOk (getUser w.srv P.u).tunIp F f)
    (hsps : w.cs.c.sendPingSoon = 0) (hsel : w.cs.c.selecttimeout ≤ 9) (hk : 1 ≤ bl.length ∧ bl.length ≤ 7)
    (hlost : lost.length = if bl.length ≤ 3 then 0 else 8 - bl.length) (hne : lost ++ rest ≠ [])
    (hfr : 4 ≤ bl.length → w.cs.c.inpkt.fragment ≠ 0)
    (hc : ¬ w.cs.c.lastdownstreamtime + 60 < w.cs.c.now + (rGpollsAll F bl + 1) * w.cs.c.selecttimeout.toNat)
    (hs : w.srv.now + w.cs.c.selecttimeout.toNat < (getUser w.srv P.u).lastPkt + 60) :
    QuietImm P (offerAllS P.u fuel (giveupRunDown F bl w) (lost ++ rest)) ∧
    (offerAllS P.u fuel (giveupRunDown F bl w) (lost ++ rest)).tunC = w.tunC ++ rest.map tunImage ∧
    (offerAllS P.u fuel (giveupRunDown F bl w) (lost ++ rest)).tunS = w.tunS := by
  obtain ⟨g, hq1, hr1⟩ := blackout_leaves_desync hP F hF bl hq hFw hbl hsps hsel hk hc hs
  generalize giveupRunDown F bl w = w1 at g hq1 hr1 ⊢
  have hsel1 : w1.cs.c.selecttimeout ≤ 9 := by rw [g.fr.selto]; exact hsel
  have hF1 : (getUser w1.srv P.u).fragsize = F := by rw [g.fr.fragsize, hFw]
  have hok1 : ∀ f ∈ lost ++ rest, DownFrameOk (getUser w1.srv P.u).tunIp (getUser w1.srv P.u).fragsize f := by
    intro f hf; rw [g.fr.tunIp, hF1]; exact hok f hf
  by_cases h3 : bl.length ≤ 3
  · have hl0 : lost = [] := List.eq_nil_of_length_eq_zero (by rw [hlost, if_pos h3])
    subst hl0
    rw [List.nil_append] at hne hok1 ⊢
    cases rest with
    | nil => exact absurd rfl hne
    | cons f fs =>
      have hf := hok1 f List.mem_cons_self
      obtain ⟨w', b1, b2, b3, b4, b5, b6, b7, b8, b9, b10⟩ :=
        down_packet_imm_desync_ok hP hq1 h3 f (by rw [hF1]; exact hF) hf hr1.to hr1.cli hr1.srv
      rw [offerAllS_first fs b1 b2.quiet (by have := hf.frags; unfold downSteps; split <;> omega)]
      have := down_sequence_imm hP fuel hfuel fs w' b2 (roomy_after b2 b7 b8 (by rw [b9]; exact hsel1) b10)
        (by rw [b9]; exact hsel1) (by rw [b5, hF1]; exact hF)
        (fun f' hf' => by rw [b5, b6]; exact hok1 f' (List.mem_cons_of_mem _ hf'))
      refine ⟨this.1, ?_, by rw [this.2.2, b4, g.fr.tunS]⟩
      rw [this.2.1, b3, g.fr.tunC]
      simp
  · have := recovery_after_giveups_down_imm_partial hP fuel hfuel lost rest w1 bl.length ⟨by omega, hk.2⟩
      (by rw [hlost, if_neg h3]) hq1 (by rw [g.fr.inpkt]; exact hfr (by omega)) hr1 hsel1 (by rw [hF1]; exact hF) hok1
    exact ⟨this.1, by rw [this.2.1, g.fr.tunC], by rw [this.2.2, g.fr.tunS]⟩

end Iodine.C02L
