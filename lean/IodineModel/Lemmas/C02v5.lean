import IodineModel.Lemmas.C02v4
import IodineModel.Lemmas.C02f
/-
Server side of an upstream transfer: what the server reads out of a data query (`UpQ`), the fragment it expects (`Expect`),
`handle_data_upstream`'s decision as a function of the reassembly buffer (`recvPkt`, `Dup`: the duplicate window in terms of how far
the sender is ahead), the slot as the top of the loop leaves it (`topSlot`) and writing it back, the duplicate memories across a
remembered data query (`aged_memo_data`, `Remembered`), the iteration on a fresh data query reduced to the slot function
(`iteration_upq`), and what `handle_full_packet` writes for the assembled bytes (`junkUp`).
-/
namespace Iodine.C02L
open Iodine Iodine.Gen Iodine.Server Iodine.World

/-- what the server can read out of an upstream data query (supplied by the hop lemmas from the client's side) -/
structure UpQ (P : Par) (Q : Query) (h : UpHdr) (k : Nat) (chunk : List Nat) : Prop where
  from_ : Q.from_ = clientAddr
  id2 : Q.id2 = 0
  id : Q.id ≠ 0
  ty : Q.type = P.ty
  c0 : Q.name.getD 0 0 = hexLower P.u
  c4 : Q.name.getD 4 0 = cmcChar k
  len5 : 5 ≤ Q.name.length
  parse : ∃ dlen, Common.queryDatalen Q.name P.td = some dlen ∧ 6 ≤ dlen ∧
      parseUpHdr (Q.name.take (min dlen 512)) = h ∧
      Encoding.unpackData P.ec.codec 65536 ((Q.name.take (min dlen 512)).drop 5) = chunk

/-- the slot expects fragment `f` of the upstream packet `out` with seqno `sq`: its first `o` bytes are there -/
def Expect (x : Session) (out : List Nat) (sq o f : Nat) : Prop :=
  (f = 0 ∧ o = 0 ∧ ∃ j : Nat, 1 ≤ j ∧ j ≤ 4 ∧ (sq : Int) = (x.inpacket.seqno + j) % 8) ∨
  (f ≠ 0 ∧ x.inpacket.seqno = (sq : Int) ∧ x.inpacket.fragment = (f : Int) - 1 ∧ x.inpacket.offset = o ∧ x.inpacket.len = o ∧
    x.inpacket.data.take o = out.take o)

/-- server: the first fragment of a packet whose sequence number is 1..4 AHEAD of the slot's is taken as a new packet
(the window of "recent duplicates" is the current number and the three before it) -/
theorem dataUpstream_far (x : Server.Session) (a : Int) (ha : 0 ≤ a ∧ a < 8) (hx : x.inpacket.seqno = a) (j : Nat)
    (hj : 1 ≤ j ∧ j ≤ 4) (frag : Nat) :
    (Server.dataUpstream x ((a + j) % 8).toNat frag).2 = true ∧
    (Server.dataUpstream x ((a + j) % 8).toNat frag).1 =
      { x with inpacket := { x.inpacket with seqno := (a + j) % 8, fragment := frag, len := 0, offset := 0 } } := by
  have hcast : (((a + j) % 8).toNat : Int) = (a + j) % 8 := by omega
  have hne : ¬ (a + j) % 8 = a := by omega
  have hfar : Server.recentSeqno a ((a + j) % 8) = false := by
    rw [← recentSeqno_eq]; exact recentSeqno_far a ha j hj
  unfold Server.dataUpstream
  simp only [hcast, hx, hne, false_and, if_false, hfar, Bool.false_eq_true, and_false,
    ne_eq, not_false_eq_true, if_true, and_self]

theorem accept_of_expect {x : Session} {out : List Nat} {sq o f : Nat} (h : Expect x out sq o f)
    (hs : 0 ≤ x.inpacket.seqno ∧ x.inpacket.seqno < 8) :
    ∃ I : Packet, dataUpstream x sq f = ({ x with inpacket := I }, true) ∧ I.seqno = (sq : Int) ∧ I.fragment = (f : Int) ∧
      I.offset = o ∧ I.len = o ∧ I.data.take o = out.take o := by
  rcases h with ⟨h1, h2, j, hj1, hj4, h3⟩ | ⟨h1, h2, h3, h4, h5, h6⟩
  · subst h1; subst h2
    have hsq : sq = ((x.inpacket.seqno + j) % 8).toNat := by omega
    have := dataUpstream_far x x.inpacket.seqno hs rfl j ⟨hj1, hj4⟩ 0
    rw [← hsq] at this
    refine ⟨_, Prod.ext this.2 this.1, ?_, rfl, rfl, rfl, by simp⟩
    simp only
    omega
  · refine ⟨{ x.inpacket with fragment := (f : Int) }, ?_, h2, rfl, h4, h5, h6⟩
    unfold dataUpstream
    rw [if_neg (by rw [h3]; intro hc; omega), if_neg (by intro hc; exact hc.1 h2.symm), if_neg (by intro hc; exact hc h2.symm)]

/-- after the chunk `(out.drop o).take m` was stored, the slot expects the next fragment -/
theorem expect_stored {P : Par} (hP : P.Ok) {x : Session} {out : List Nat} {sq o f m : Nat} {I : Packet}
    (henc : x.encoder = P.es) (payload : List Nat)
    (hpl : Encoding.unpackData P.ec.codec 65536 payload = (out.drop o).take m)
    (hI : I.seqno = (sq : Int) ∧ I.fragment = (f : Int) ∧ I.offset = o ∧ I.len = o ∧ I.data.take o = out.take o)
    (hm : o + m ≤ out.length) (h64 : out.length ≤ 65536) :
    (stored x I payload).inpacket.seqno = (sq : Int) ∧ (stored x I payload).inpacket.fragment = (f : Int) ∧
    (stored x I payload).inpacket.offset = o + m ∧ (stored x I payload).inpacket.len = o + m ∧
    (stored x I payload).inpacket.data = out.take (o + m) ∧ core (stored x I payload) = core { x with inpacket := (stored x I payload).inpacket } := by
  obtain ⟨h1, h2, h3, h4, h5⟩ := hI
  have hc : x.encoder.codec = P.ec.codec := by rw [henc]; exact codec_of_encMatch hP.enc
  have hlen : ((out.drop o).take m).length = m := by
    rw [List.length_take, List.length_drop]; omega
  unfold stored dataStore
  simp only [hc, hpl, h3, h4, h1, h2, PACKET_DATA_SIZE]
  have ht : ((out.drop o).take m).take (65536 - o) = (out.drop o).take m := by
    apply List.take_of_length_le
    rw [hlen]; omega
  rw [ht, hlen, h5]
  refine ⟨trivial, trivial, rfl, rfl, ?_, trivial⟩
  rw [List.take_add]

/-! ### `handle_data_upstream`'s decision, on the reassembly buffer alone -/

/-- what `dataUpstream` makes of the reassembly buffer `I` when fragment `(sq, fr)` arrives, and `upstream_ok` -/
def recvPkt (I : Packet) (sq fr : Nat) : Packet × Bool :=
  if (sq : Int) = I.seqno ∧ (fr : Int) ≤ I.fragment then (I, false)
  else if (sq : Int) ≠ I.seqno ∧ recentSeqno I.seqno sq then (I, false)
  else if (sq : Int) ≠ I.seqno then ({ I with seqno := sq, fragment := fr, len := 0, offset := 0 }, true)
  else ({ I with fragment := fr }, true)

theorem dataUpstream_eq (x : Session) (sq fr : Nat) :
    dataUpstream x sq fr = ({ x with inpacket := (recvPkt x.inpacket sq fr).1 }, (recvPkt x.inpacket sq fr).2) := by
  unfold dataUpstream recvPkt
  by_cases h1 : (sq : Int) = x.inpacket.seqno ∧ (fr : Int) ≤ x.inpacket.fragment
  · rw [if_pos h1, if_pos h1]
  rw [if_neg h1, if_neg h1]
  by_cases h2 : (sq : Int) ≠ x.inpacket.seqno ∧ recentSeqno x.inpacket.seqno sq = true
  · rw [if_pos h2, if_pos h2]
  rw [if_neg h2, if_neg h2]
  by_cases h3 : (sq : Int) ≠ x.inpacket.seqno
  · rw [if_pos h3, if_pos h3]
  · rw [if_neg h3, if_neg h3]

/-- the fragment `(sq, fr)` falls into the duplicate window of the buffer `I`: the buffer's own sequence number with a fragment
number not above the stored one, or one of the three sequence numbers before it -/
def Dup (I : Packet) (sq fr : Nat) : Prop :=
  ((sq : Int) = I.seqno ∧ (fr : Int) ≤ I.fragment) ∨ ((sq : Int) ≠ I.seqno ∧ recentSeqno I.seqno sq = true)

/-- a sequence number `d + 1` ahead of the buffer's, `4 ≤ d ≤ 6`, is one of the three before it -/
theorem dup_of_ahead {I : Packet} (hs : 0 ≤ I.seqno ∧ I.seqno < 8) {d sq : Nat} (fr : Nat)
    (hd : 4 ≤ d ∧ d ≤ 6) (hsq : (sq : Int) = (I.seqno + d + 1) % 8) : Dup I sq fr := by
  right
  refine ⟨by omega, ?_⟩
  rw [← recentSeqno_eq]
  exact (recentSeqno_iff _ _ hs).2 ⟨7 - d, by omega, by omega⟩

/-- … and 8 ahead is the buffer's own number: fragment 0 is a "repeated old fragment" -/
theorem dup_of_same {I : Packet} (hf : 0 ≤ I.fragment) {sq : Nat} (hsq : (sq : Int) = I.seqno) : Dup I sq 0 := by
  left
  exact ⟨hsq, by simpa using hf⟩

theorem recvPkt_dup {I : Packet} {sq fr : Nat} (h : Dup I sq fr) : recvPkt I sq fr = (I, false) := by
  unfold recvPkt
  rcases h with h | h
  · rw [if_pos h]
  · rw [if_neg (fun hc => h.1 hc.1), if_pos h]

theorem recvPkt_expect {x : Session} {out : List Nat} {sq o f : Nat} (h : Expect x out sq o f)
    (hs : 0 ≤ x.inpacket.seqno ∧ x.inpacket.seqno < 8) :
    ∃ I : Packet, recvPkt x.inpacket sq f = (I, true) ∧ I.seqno = (sq : Int) ∧ I.fragment = (f : Int) ∧
      I.offset = o ∧ I.len = o ∧ I.data.take o = out.take o := by
  obtain ⟨I, h1, h2⟩ := accept_of_expect h hs
  rw [dataUpstream_eq] at h1
  exact ⟨I, Prod.ext (congrArg (fun r => r.1.inpacket) h1) (congrArg (fun r => r.2) h1), h2⟩

/-! ### the slot at the top of the loop -/

theorem topSess_live {P : Par} {s : Srv} (hS : SStat P s) :
    topSess (getUser s P.u) s.now = { getUser s P.u with qsNew := false } :=
  topSess_of_live (by simp [live, hS.x.active, hS.x.enabled, hS.live])

/-- the slot of the session as the top of the loop leaves it -/
abbrev topSlot (P : Par) (s : Srv) : Session := { getUser s P.u with qsNew := false }

/-- `x0` is that slot: what it has in common with the slot of `s` -/
structure TopSlotFacts (P : Par) (s : Srv) (x0 : Session) : Prop where
  mem : MemEq x0 (getUser s P.u)
  q : x0.q = (getUser s P.u).q
  qs : x0.qs = (getUser s P.u).qs
  outpacket : x0.outpacket = (getUser s P.u).outpacket
  outfragresent : x0.outfragresent = (getUser s P.u).outfragresent
  inpacket : x0.inpacket = (getUser s P.u).inpacket
  lastPkt : x0.lastPkt = (getUser s P.u).lastPkt
  lazy : x0.lazy = (getUser s P.u).lazy
  oqFilled : x0.oqFilled = (getUser s P.u).oqFilled
  fragsize : x0.fragsize = (getUser s P.u).fragsize

theorem topSlot_facts {P : Par} {s : Srv} {x0 : Session} (h : topSlot P s = x0) : TopSlotFacts P s x0 := by
  subst h
  exact ⟨⟨rfl, rfl, rfl, rfl, rfl, rfl⟩, rfl, rfl, rfl, rfl, rfl, rfl, rfl, rfl, rfl⟩

theorem admitted_entry {P : Par} {s : Srv} (hS : SStat P s) (Q : Query) (hfrom : Q.from_ = clientAddr) :
    Admitted (entryS s P.u s.now) P.u Q := by
  have hg := getUser_entryS hS.solo s.now
  rw [topSess_live hS] at hg
  refine ⟨?_, ?_, ?_, ?_, ?_, ?_⟩
  · show P.u < s.cfg.createdUsers
    rw [hS.solo.created]; exact hS.solo.lt
  · rw [hg]; exact hS.x.active
  · rw [hg]; exact hS.x.enabled
  · rw [hg]; show ¬ (getUser s P.u).lastPkt + 60 < s.now; have := hS.live; omega
  · rw [hg]
    rcases hS.host with h | ⟨h1, h2⟩
    · exact Or.inl h
    · right
      rw [hfrom]
      exact ⟨h1.symm, Or.inl rfl, h2⟩
  · rw [hg]; exact hS.x.auth

/-! ### writing the slot back -/

theorem getUser_put {P : Par} {s : Srv} (hS : SStat P s) (Y : Session) (n : Nat) :
    getUser { putUser s P.u Y with now := n } P.u = Y := by
  rw [getUser_withNow, getUser_putUser_self _ _ _ hS.solo.lt]

theorem SStat.put {P : Par} {s : Srv} (hS : SStat P s) {Y : Session} (hk : Kept Y (getUser s P.u))
    (hs : 0 ≤ Y.inpacket.seqno ∧ Y.inpacket.seqno < 8) (hf : 0 ≤ Y.inpacket.fragment ∧ Y.inpacket.fragment < 16)
    (hl : s.now < Y.lastPkt + 60) : SStat P { putUser s P.u Y with now := s.now } := by
  refine ⟨(hS.solo.putUser Y).withNow _, hS.td, ?_, ?_, ?_⟩
  · rw [getUser_put hS]; exact hk.xstat hS.x hs hf
  · rw [getUser_put hS, hk.host]; exact hS.host
  · rw [getUser_put hS]; exact hl

/-! ### the memories across a remembered query -/

theorem Aged.memEq {P : Par} {x y : Session} {k sl : Nat} (h : Aged P x k sl) (e : MemEq y x) : Aged P y k sl :=
  h.congr e.q e.ql e.c e.cl

theorem PAged.memEq {P : Par} {x y : Session} {k sl : Nat} (h : PAged P x k sl) (e : MemEq y x) : PAged P y k sl :=
  h.congr e.p e.pl e.c e.cl

theorem scPkt0_len (y : Session) : (scPkt y 0).length ≤ DNSCACHE_ANSWER_SIZE := by
  simp [scPkt, DNSCACHE_ANSWER_SIZE]

/-- the data query that carries the client's counter value `k` is remembered with its answer: both invariants hold for the
next counter value -/
theorem aged_memo_data {P : Par} (hP : P.Ok) {x : Session} {k sl sd sp : Nat} (hA : Aged P x k sl) (hPA : PAged P x sd sp)
    (hk : k < 36) (hsl : 1 ≤ sl ∧ sl ≤ 21) (Q : Query) (ans : List Nat) (hans : ans.length ≤ DNSCACHE_ANSWER_SIZE)
    (h0 : Q.name.getD 0 0 = hexLower P.u) (h4 : Q.name.getD 4 0 = cmcChar k) (h5 : 5 ≤ Q.name.length) :
    Aged P (cacheUpd (qmemUpd x Q) Q ans) ((k + 1) % 36) sl ∧ PAged P (cacheUpd (qmemUpd x Q) Q ans) sd sp :=
  ⟨(hA.step hk hsl.2).memo Q ans hans k 1 ⟨Nat.le_refl 1, hsl.1⟩ (behind_succ_mod hk) hk h4 h5 (by rw [h0]; exact hexLower_ne_p hP.hu),
   hPA.memo_data hP.hu Q ans hans h5 h0⟩

/-- the memories of `x'` are those of `x` after one more data query that carries the counter value `k` was remembered with its
answer (`save_to_qmem_pingordata`, `save_to_dnscache`) -/
def Remembered (P : Par) (x x' : Session) (k : Nat) : Prop :=
  ∃ (x0 : Session) (Q : Query) (ans : List Nat), MemEq x0 x ∧ MemEq x' (cacheUpd (qmemUpd x0 Q) Q ans) ∧
    ans.length ≤ DNSCACHE_ANSWER_SIZE ∧ Q.name.getD 0 0 = hexLower P.u ∧ Q.name.getD 4 0 = cmcChar k ∧ 5 ≤ Q.name.length

/-! ### a fresh data query reaches the idle server -/

/-- The plumbing common to the iterations on an upstream data query `Q` whose data-CMC character is not remembered and that
repeats neither stored query: it passes the filters and the iteration is the slot function `dataSess`, applied to the slot at
the top of the loop, followed by a sweep that finds nothing to do (`Y` holds no parked query, or a new one). -/
theorem iteration_upq {P : Par} (hP : P.Ok) {s : Srv} (hS : SStat P s) {k : Nat} (hk : k < 36)
    (hf : Fresh P (getUser s P.u) k 1) {Q : Query} {hdr : UpHdr} {chunk : List Nat} (hQ : UpQ P Q hdr k chunk)
    (hq : (getUser s P.u).q.id = 0 ∨ (getUser s P.u).q.name ≠ Q.name)
    (hqs : (getUser s P.u).qs.id = 0 ∨ (getUser s P.u).qs.name ≠ Q.name) :
    ∃ payload, Encoding.unpackData P.ec.codec 65536 payload = chunk ∧
      ∀ (Y : Session) (evs : List Event),
        dataSess { getUser s P.u with qsNew := false } P.u Q hdr payload s.now = (Y, evs) →
        (Y.qs.id = 0 ∨ Y.qsNew = true) →
        ((dataASess { getUser s P.u with qsNew := false } hdr.upSeq hdr.upFrag hdr.dnSeq hdr.dnFrag payload).2 = true →
          hdr.last = true →
          ¬ selfAddressed (dataASess { getUser s P.u with qsNew := false } hdr.upSeq hdr.upFrag hdr.dnSeq hdr.dnFrag payload).1 s.now) →
        iteration s (.q Q) s.now =
          ({ putUser s P.u Y with now := s.now }, evs ++ [Event.sweep], ((topOfLoop s).2.1, (topOfLoop s).2.2)) := by
  obtain ⟨dlen, hdl, h6, hparse, hpl⟩ := hQ.parse
  refine ⟨(Q.name.take (min dlen 512)).drop 5, hpl, fun Y evs hds hsw hns => ?_⟩
  have htop := topSess_live hS
  have hx0f : Fresh P { getUser s P.u with qsNew := false } k (0 + 1) := ⟨hf.cache, hf.qmem⟩
  have hit := iteration_data hS.solo Q s.now dlen hP.hu (by rw [hS.td]; exact hdl) h6 hQ.c0 (hQ.ty ▸ hP.tty) hQ.id
    (admitted_entry hS Q hQ.from_)
    (by rw [htop]; exact hx0f.cacheMiss Q hQ.ty hQ.c0 hQ.c4 hk)
    (by rw [htop]; exact hx0f.qmemMiss Q hQ.ty hQ.c4 hk)
    (by rw [htop]; exact hq) (by rw [htop]; exact hqs)
    (by rw [htop, hparse]; exact hns)
  have hsweep : sweepSess Y P.u s.now = (Y, []) := by
    unfold sweepSess
    rw [if_neg]
    rintro ⟨_, h1, _, h2⟩
    rcases hsw with h | h
    · exact h1 h
    · rw [h] at h2; exact absurd h2 (by decide)
  rw [htop, hparse, hds] at hit
  dsimp only at hit
  rw [hsweep, List.append_nil] at hit
  exact hit

/-- what `handle_full_packet` writes to the tun device for the assembled bytes `T` (not addressed to the session itself):
nothing unless `T` starts with the marker byte 0x5a of the transparent compression and has at least 24 more bytes -/
def junkUp (T : List Nat) : List (List Nat) :=
  match uncompress T 65536 with
  | some out => if 24 ≤ out.length then [tunImage out] else []
  | none => []

theorem uncompress_compress (frame : List Nat) (h : frame.length ≤ 65536) : uncompress (0x5a :: frame) 65536 = some frame := by
  simp [uncompress, h]

theorem junkUp_marker (r : List Nat) (h24 : 24 ≤ r.length) (h64 : r.length ≤ 65536) : junkUp (0x5a :: r) = [tunImage r] := by
  simp [junkUp, uncompress, h24, h64]

theorem junkUp_nil_of_head {T : List Nat} (h : T.headD 0 ≠ 0x5a) : junkUp T = [] := by
  unfold junkUp uncompress
  cases T with
  | nil => rfl
  | cons b r =>
    have : b ≠ 0x5a := h
    simp [this]

theorem junkUp_short {T : List Nat} (h : T.length < 25) : junkUp T = [] := by
  unfold junkUp uncompress
  cases T with
  | nil => rfl
  | cons b r =>
    simp only [List.length_cons] at h
    by_cases hc : b = 0x5a ∧ r.length ≤ 65536
    · simp only [if_pos hc]
      rw [if_neg (by omega)]
    · simp only [if_neg hc]

theorem notSelf_compress {frame : List Nat} {t : Nat} (hdst : ipDst frame ≠ t) (h : frame.length ≤ 65536) :
    ∀ fr, uncompress (0x5a :: frame) 65536 = some fr → 24 ≤ fr.length → ipDst fr ≠ t := by
  intro fr hfr _
  rw [uncompress_compress frame h] at hfr
  cases hfr
  exact hdst

/-- `handle_full_packet` on a slot whose reassembled bytes are `T` (and that is not addressed by them): the events -/
theorem fullEvs_junkUp {st : Session} {T : List Nat} (hun : st.inpacket.data.take st.inpacket.len = T) :
    downOfEvents (fullEvs st) = [] ∧ tunOfSEvents (fullEvs st) = junkUp T := by
  unfold fullEvs junkUp
  rw [hun]
  cases uncompress T 65536 with
  | none => exact ⟨rfl, rfl⟩
  | some out =>
    by_cases h24 : out.length ≥ 4 + 20
    · simp only [if_pos h24]; exact ⟨rfl, rfl⟩
    · simp only [if_neg h24]; exact ⟨rfl, rfl⟩

theorem iteration_tick {u : Nat} {s : Srv} (hs : Solo u s) (now' : Nat) :
    iteration s .tick now' =
      ({ putUser s u (sweepSess (topSess (getUser s u) s.now) u now').1 with now := now' },
       [Event.sweep] ++ (sweepSess (topSess (getUser s u) s.now) u now').2, ((topOfLoop s).2.1, (topOfLoop s).2.2)) := by
  have := iteration_solo hs .tick now' (topSess (getUser s u) s.now) [] (by intro f hf; cases hf) rfl
  simpa using this

end Iodine.C02L
