import IodineModel.Server.Options
import IodineModel.Server.Run
import IodineModel.Server.Bytes
import IodineModel.Lemmas.OptSrv
import IodineModel.Props.Top
/-
From `main()` to the session machine: the state `tunnel()` is entered with is `Server.start` / `bstart` of the configuration the
options model yields; the clock value stored in that state is irrelevant.
-/
namespace Iodine.OptL
open Iodine Iodine.Getopt Iodine.Server Iodine.Server.Options

theorem clearNewFrom_inactive (now c : Nat) : ∀ (xs : List Session) (i : Nat), (∀ x ∈ xs, x.active = false) →
    clearNewFrom now c xs i = xs
  | [], _, _ => rfl
  | x :: xs, i, h => by
    have hx : live x now = false := by simp [live, h x (by simp)]
    simp only [clearNewFrom, hx, Bool.false_eq_true, and_false, if_false]
    rw [clearNewFrom_inactive now c xs (i + 1) (fun y hy => h y (by simp [hy]))]

theorem timeoutFrom_inactive (now c : Nat) : ∀ (xs : List Session) (i : Nat), (∀ x ∈ xs, x.active = false) →
    timeoutFrom now c xs i = 10000000
  | [], _, _ => rfl
  | x :: xs, i, h => by
    have hx : live x now = false := by simp [live, h x (by simp)]
    simp only [timeoutFrom, hx, Bool.false_eq_true, false_and, and_false, if_false]
    exact timeoutFrom_inactive now c xs (i + 1) (fun y hy => h y (by simp [hy]))

theorem waiting_inactive (s : Srv) (h : ∀ x ∈ s.users, x.active = false) : allUsersWaitingToSend s = true := by
  unfold allUsersWaitingToSend
  rw [Bool.not_eq_true', List.any_eq_false]
  intro x hx
  simp [live, h x hx]

theorem iteration_clock_irrelevant (s : Srv) (h : ∀ x ∈ s.users, x.active = false) (t : Nat) (inp : Input) (now' : Nat) :
    iteration { s with now := t } inp now' = iteration s inp now' := by
  unfold iteration topOfLoop
  simp only [clearNewFrom_inactive _ _ _ _ h, timeoutFrom_inactive _ _ _ _ h]
  have h1 : allUsersWaitingToSend { s with now := t, users := s.users } = true := waiting_inactive _ h
  have h2 : allUsersWaitingToSend { s with users := s.users } = true := waiting_inactive _ h
  simp only [h1, h2]

theorem start_inactive (cfg : Config) (rnd : List Nat) : ∀ x ∈ (start cfg rnd).users, x.active = false := by
  intro x hx
  simp only [start, Srv.init, List.mem_map] at hx
  obtain ⟨ip, _, rfl⟩ := hx
  rfl

/-- the state after `main()` is the start state of the session model -/
theorem entry_eq_start {env : Env} {argv : List (List Nat)} {f : Final} (h : Top.Starts env argv f)
    (rnd : List Nat) (d4 d6 : Nat) : Top.entry f rnd d4 d6 = start (f.cfg d4 d6) rnd := by
  obtain ⟨o, v, evs, v4, v6, _, _, hf⟩ := serverMain_final env argv f h
  subst hf
  show Final.srv _ rnd d4 d6 1000 = _
  simp only [Final.srv, start, Srv.init, Final.cfg, Final.toConfig, finalOf, List.length_map]

theorem bentry_eq_bstart {env : Env} {argv : List (List Nat)} {f : Final} (h : Top.Starts env argv f)
    (rnd : List Nat) (d4 d6 : Nat) : Top.bentry f rnd d4 d6 = bstart (f.cfg d4 d6) rnd := by
  unfold Top.bentry bstart; rw [entry_eq_start h]

/-- what `validate` established about the address of the running process (the rest of its checks: `C10.configOk_from_main`) -/
theorem cfg_ranges {env : Env} {argv : List (List Nat)} {f : Final} (h : Top.Starts env argv f) (d4 d6 : Nat) :
    8 ≤ (f.cfg d4 d6).netmask ∧ (f.cfg d4 d6).netmask ≤ 30 ∧ (f.cfg d4 d6).myIp < 2 ^ 32 := by
  obtain ⟨o, v, evs, v4, v6, _, hv, hf⟩ := serverMain_final env argv f h
  have hval := validate_ok env o _ v evs hv
  subst hf
  have hnm := hval.nm
  have hip := hval.ip_le
  refine ⟨?_, ?_, ?_⟩
  · show 8 ≤ v.netmask.toNat; omega
  · show v.netmask.toNat ≤ 30; omega
  · show v.myIp < 2 ^ 32; omega

end Iodine.OptL
