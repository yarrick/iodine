import IodineModel.Lemmas.C01e
import IodineModel.Lemmas.Chain
import IodineModel.Lemmas.SrvC04f
/-
C01: the SERVER's reassembly under ARBITRARY input.  Invariant (for every slot): the buffer
`inpacket.data[0..offset)` is the concatenation (cut at 64 KiB) of the payloads of a chain of data queries received so
far — same upstream seqno, fragment numbers strictly rising (the server accepts gaps), each decoded with the codec the
session had when the query arrived.
-/
namespace Iodine.C01L
open Iodine Iodine.Server Iodine.Gen

/-- a data query as the data handler took it: the query and the upstream codec of the session at that moment -/
structure UFrag where
  q : Query
  enc : Enc

/-- `in[]` of the data handler for the query, topdomain `td` -/
def UFrag.inb (td : List Nat) (f : UFrag) : List Nat :=
  f.q.name.take (min ((Common.queryDatalen f.q.name td).getD 0) 512)

def UFrag.seq (td : List Nat) (f : UFrag) : Nat := (upHdr (f.inb td)).1
def UFrag.frag (td : List Nat) (f : UFrag) : Nat := (upHdr (f.inb td)).2.1
def UFrag.payload (td : List Nat) (f : UFrag) : List Nat :=
  Encoding.unpackData f.enc.codec 65536 ((f.inb td).drop 5)

abbrev SChain (td : List Nat) : List UFrag → Prop :=
  Chain (UFrag.seq td) (UFrag.frag td) (fun _ => True) (fun a b => a < b)

def sjoin (td : List Nat) (l : List UFrag) : List Nat := ((l.map (UFrag.payload td)).flatten).take PACKET_DATA_SIZE

theorem sjoin_snoc (td : List Nat) (l : List UFrag) (f : UFrag) :
    sjoin td (l ++ [f]) = sjoin td l ++ (f.payload td).take (PACKET_DATA_SIZE - (sjoin td l).length) :=
  join_snoc (pay := UFrag.payload td) l f

/-- the invariant of one slot's buffer: a chain of data queries naming slot `u`, a subsequence of the queries `seen` -/
def SInv (td : List Nat) (u : Nat) (p : Packet) (seen : List Query) : Prop :=
  ∃ l : List UFrag, (l.map (·.q)).Sublist seen ∧ SChain td l ∧ (∀ f ∈ l, hexCode ((f.inb td).getD 0 0) = (u : Int)) ∧
    p.data.take p.offset = sjoin td l ∧ p.offset = (sjoin td l).length ∧ p.len = p.offset ∧
    ∀ r, l.getLast? = some r → (r.seq td : Int) = p.seqno ∧ (r.frag td : Int) = p.fragment

theorem SInv.mono {td : List Nat} {u : Nat} {p : Packet} {seen : List Query} (h : SInv td u p seen) (more : List Query) :
    SInv td u p (seen ++ more) := by
  obtain ⟨l, a, b⟩ := h
  exact ⟨l, a.trans (List.sublist_append_left _ _), b⟩

theorem SInv.empty {td : List Nat} {u : Nat} {p : Packet} (h1 : p.len = 0) (h2 : p.offset = 0) (seen : List Query) :
    SInv td u p seen :=
  ⟨[], List.nil_sublist _, trivial, (fun _ h => nomatch h), by rw [h2]; rfl, by rw [h2]; rfl, by rw [h1, h2],
    (fun _ h => nomatch h)⟩

/-- where a completed buffer comes from -/
def SOriginB (td : List Nat) (u : Nat) (seen : List Query) (q : Query) (b : Option (List Nat)) : Prop :=
  b = none ∨ ∃ l : List UFrag, (l.map (·.q)).Sublist (seen ++ [q]) ∧ SChain td l ∧
    (∀ f ∈ l, hexCode ((f.inb td).getD 0 0) = (u : Int)) ∧ (l.getLast?.map (·.q)) = some q ∧ b = some (sjoin td l)

/-- **one data query under arbitrary input**: `f` is the query with the session's codec, `(f.seq, f.frag, last)` its
header -/
theorem sxStep_inv (td : List Nat) (u : Nat) (p : Packet) (f : UFrag) (last : Bool) (seen : List Query)
    (hu : hexCode ((f.inb td).getD 0 0) = (u : Int)) (h : SInv td u p seen) :
    SInv td u (sxStep p (f.seq td) (f.frag td) last (f.payload td)).1 (seen ++ [f.q]) ∧
    SOriginB td u seen f.q (sxStep p (f.seq td) (f.frag td) last (f.payload td)).2 := by
  -- the bookkeeping: refused, or a state holding a chain whose last element is below this fragment
  have hup : (sxUp p (f.seq td) (f.frag td)).2 = false ∧ (sxUp p (f.seq td) (f.frag td)).1 = p ∨
      (sxUp p (f.seq td) (f.frag td)).2 = true ∧
      (sxUp p (f.seq td) (f.frag td)).1.seqno = (f.seq td : Int) ∧
      (sxUp p (f.seq td) (f.frag td)).1.fragment = (f.frag td : Int) ∧
      ∃ l : List UFrag, (l.map (·.q)).Sublist seen ∧ SChain td l ∧
        (∀ g ∈ l, hexCode ((g.inb td).getD 0 0) = (u : Int)) ∧
        (sxUp p (f.seq td) (f.frag td)).1.data.take (sxUp p (f.seq td) (f.frag td)).1.offset = sjoin td l ∧
        (sxUp p (f.seq td) (f.frag td)).1.offset = (sjoin td l).length ∧
        (sxUp p (f.seq td) (f.frag td)).1.len = (sxUp p (f.seq td) (f.frag td)).1.offset ∧
        ∀ r, l.getLast? = some r → f.seq td = r.seq td ∧ r.frag td < f.frag td := by
    unfold sxUp
    split
    · exact Or.inl ⟨rfl, rfl⟩
    · next h1 =>
      split
      · exact Or.inl ⟨rfl, rfl⟩
      · split
        · right
          exact ⟨rfl, rfl, rfl, [], List.nil_sublist _, trivial, (fun _ h => nomatch h), rfl, rfl, rfl,
            (fun _ h => nomatch h)⟩
        · next h3 =>
          right
          have hs : (f.seq td : Int) = p.seqno := by
            apply Classical.byContradiction; intro hn; exact h3 hn
          obtain ⟨l, a, b, c, d, e, g, k⟩ := h
          refine ⟨rfl, hs.symm, rfl, l, a, b, c, d, e, g, ?_⟩
          intro r hr
          obtain ⟨k1, k2⟩ := k r hr
          constructor
          · have : (f.seq td : Int) = (r.seq td : Int) := by rw [k1, hs]
            exact Int.ofNat_inj.mp this
          · have : ¬ ((f.frag td : Int) ≤ p.fragment) := fun hle => h1 ⟨hs, hle⟩
            omega
  unfold sxStep sxTake
  rcases hup with ⟨h2, h1⟩ | ⟨h2, hseq, hfrag, l, a, b, c, d, e, g, k⟩
  · rw [h2, h1]
    simp only [Bool.false_eq_true, false_and, if_false]
    exact ⟨h.mono _, Or.inl rfl⟩
  · rw [h2]
    simp only [true_and, if_true]
    generalize sxUp p (f.seq td) (f.frag td) = up at hseq hfrag d e g
    have hsub : ((l ++ [f]).map (·.q)).Sublist (seen ++ [f.q]) := by
      rw [List.map_append]; exact List.Sublist.append a (List.Sublist.refl _)
    have hchain : SChain td (l ++ [f]) := Chain.snoc l f b trivial k
    have hall : ∀ x ∈ l ++ [f], hexCode ((x.inb td).getD 0 0) = (u : Int) := by
      intro x hx
      rcases List.mem_append.mp hx with hx | hx
      · exact c x hx
      · simp only [List.mem_singleton] at hx; rw [hx]; exact hu
    have hlast : (l ++ [f]).getLast? = some f := by simp
    have hdata : (sxStore up.1 (f.payload td)).data.take (sxStore up.1 (f.payload td)).offset = sjoin td (l ++ [f]) ∧
        (sxStore up.1 (f.payload td)).offset = (sjoin td (l ++ [f])).length ∧
        (sxStore up.1 (f.payload td)).len = (sxStore up.1 (f.payload td)).offset := by
      unfold sxStore
      dsimp only
      rw [sjoin_snoc, d, ← e]
      have hlen : (sjoin td l ++ List.take (PACKET_DATA_SIZE - up.1.offset) (f.payload td)).length
          = up.1.offset + (List.take (PACKET_DATA_SIZE - up.1.offset) (f.payload td)).length := by
        rw [List.length_append, ← e]
      refine ⟨?_, hlen.symm, by rw [g]⟩
      rw [← hlen]
      exact List.take_of_length_le (Nat.le_refl _)
    cases last with
    | true =>
      simp only [if_true]
      refine ⟨SInv.empty rfl rfl _, Or.inr ⟨l ++ [f], hsub, hchain, hall, by rw [hlast]; rfl, ?_⟩⟩
      rw [hdata.2.2, hdata.1]
    | false =>
      simp only [Bool.false_eq_true, if_false]
      refine ⟨⟨l ++ [f], hsub, hchain, hall, hdata.1, hdata.2.1, hdata.2.2, ?_⟩, Or.inl rfl⟩
      intro r hr
      rw [hlast] at hr
      cases hr
      exact ⟨hseq.symm, hfrag.symm⟩

/-- the frame written for a buffer that decompresses -/
def sframes (b : List Nat) : List (List Nat) :=
  match uncompress b 65536 with
  | some out => [[0, 0, 8, 0] ++ out.drop 4]
  | none => []

theorem fullTun_cases (s : Srv) (b : List Nat) : fullTun s b = [] ∨ fullTun s b = sframes b := by
  unfold fullTun sframes
  cases uncompress b 65536 with
  | none => exact Or.inl rfl
  | some out =>
    dsimp only
    split
    · cases findUserByIp s (ipDst out) with
      | none => exact Or.inr rfl
      | some t => exact Or.inl rfl
    · exact Or.inl rfl

/-- the query an input delivers, if any -/
def qOf : Input → List Query
  | .q q => [q]
  | _ => []

def GInv (td : List Nat) (s : Srv) (seen : List Query) : Prop :=
  s.cfg.topdomain = td ∧ ∀ u, SInv td u (getUser s u).inpacket seen

/-- where the tun writes of one iteration come from -/
def SOrigin (td : List Nat) (seen : List Query) (inp : Input) (evs : List Event) : Prop :=
  stunws evs = [] ∨
  (∃ (q : Query) (u : Nat) (l : List UFrag), inp = .q q ∧ (l.map (·.q)).Sublist (seen ++ [q]) ∧ SChain td l ∧
      (∀ f ∈ l, hexCode ((f.inb td).getD 0 0) = (u : Int)) ∧ l.getLast?.map (·.q) = some q ∧
      stunws evs = sframes (sjoin td l)) ∨
  (∃ src bytes, inp = .rawf src bytes ∧ stunws evs = sframes ((bytes.take 65536).drop RAW_HDR_LEN))

theorem versionState_in2 (s : Srv) (q : Query) (u v : Nat) :
    (getUser (versionState s q u) v).inpacket = (getUser s v).inpacket ∨
    ((getUser (versionState s q u) v).inpacket.len = 0 ∧ (getUser (versionState s q u) v).inpacket.offset = 0) := by
  by_cases hv : v = u
  · subst hv
    by_cases hlt : v < s.users.length
    · right
      rw [versionState, C04L.getUser_setUser_self _ _ _ (by simp [versionPre, C04L.popRand_users]; exact hlt)]
      exact ⟨rfl, rfl⟩
    · left
      rw [versionState, versionPre, C16L.setUser_oob _ _ _ (by simp [C04L.popRand_users]; omega),
        C16L.setUser_oob _ _ _ (by simp [C04L.popRand_users]; omega), C04L.getUser_popRand,
        C16L.setUser_oob _ _ _ (Nat.le_of_not_lt hlt)]
  · exact .inl (versionState_in s q u v hv)

theorem sinv_all_mono {td : List Nat} {s s' : Srv} {seen : List Query} (h : GInv td s seen) (more : List Query)
    (hc : s'.cfg = s.cfg) (hs : ∀ v, (getUser s' v).inpacket = (getUser s v).inpacket) : GInv td s' (seen ++ more) :=
  ⟨by rw [hc]; exact h.1, fun u => by rw [hs u]; exact (h.2 u).mono more⟩

/-- **one handler phase under arbitrary input** -/
theorem dispatch_inv (td : List Nat) (e : Srv) (inp : Input) (ts : Bool) (seen : List Query) (h : GInv td e seen) :
    GInv td (dispatch e inp ts).1 (seen ++ qOf inp) ∧ SOrigin td seen inp (dispatch e inp ts).2 := by
  have hcfg := (C04L.frame_dispatch e inp ts).cfg
  rcases dispatch_inert_or_data e inp ts with hi | ⟨q, a, dlen, hq, hd, hv, _, he⟩ |
      ⟨q, u, dlen, hq, hd, _, hid, hu, hlt, _, he⟩ | ⟨src, bytes, hq, hchk, he⟩
  · exact ⟨sinv_all_mono h _ hcfg hi.same.eq, Or.inl hi.quiet⟩
  · subst hq
    refine ⟨⟨by rw [hcfg]; exact h.1, fun v => ?_⟩, Or.inl (by rw [he]; rfl)⟩
    rw [he]
    rcases versionState_in2 e q a v with hs | ⟨h1, h2⟩
    · rw [hs]; exact (h.2 v).mono _
    · exact SInv.empty h1 h2 _
  · subst hq
    -- the data handler for slot `u`
    let f : UFrag := ⟨q, (getUser e u).encoder⟩
    have hinb : f.inb td = q.name.take (min dlen 512) := by
      show q.name.take (min ((Common.queryDatalen q.name td).getD 0) 512) = _
      rw [← h.1, hd]; rfl
    obtain ⟨a, b, c⟩ := dataFresh_sx e u q (q.name.take (min dlen 512)) hlt hid
    rw [← hinb] at a b c hu he
    obtain ⟨i1, i2⟩ := sxStep_inv td u (getUser e u).inpacket f (upHdr (f.inb td)).2.2 seen hu (h.2 u)
    refine ⟨⟨by rw [hcfg]; exact h.1, fun v => ?_⟩, ?_⟩
    · rw [he]
      by_cases hvu : v = u
      · subst hvu; rw [a]; exact i1
      · rw [b v hvu]; exact (h.2 v).mono _
    · unfold SOrigin
      rw [he, c]
      rcases i2 with hn | ⟨l, l1, l2, l3, l4, l5⟩
      · left
        show (match (sxStep (getUser e u).inpacket (f.seq td) (f.frag td) (upHdr (f.inb td)).2.2 (f.payload td)).2 with
          | some b => fullTun e b | none => []) = []
        rw [hn]
      · have hb : (match (sxStep (getUser e u).inpacket (f.seq td) (f.frag td) (upHdr (f.inb td)).2.2
            (f.payload td)).2 with | some b => fullTun e b | none => []) = fullTun e (sjoin td l) := by rw [l5]
        rcases fullTun_cases e (sjoin td l) with h0 | h1
        · left; exact hb.trans h0
        · right; left; exact ⟨q, u, l, rfl, l1, l2, l3, l4, hb.trans h1⟩
  · subst hq
    generalize hu' : (bytes.take 65536).getD 3 0 &&& RAW_HDR_USR_MASK = u' at he hchk
    have hlt : u' < e.users.length := by
      have := C04L.lt_of_checkAuth hchk
      rwa [Int.toNat_natCast] at this
    have hst : (getUser (rawStored e u' src ((bytes.take 65536).drop RAW_HDR_LEN)) u').inpacket =
        { (getUser e u').inpacket with offset := 0, data := (bytes.take 65536).drop RAW_HDR_LEN,
                                       len := ((bytes.take 65536).drop RAW_HDR_LEN).length } := by
      unfold rawStored
      rw [C04L.getUser_setUser_self _ _ _ hlt]
    refine ⟨⟨by rw [hcfg]; exact h.1, fun v => ?_⟩, ?_⟩
    · rw [he, handleFullPacket_in]
      split
      · exact SInv.empty rfl rfl _
      · next hn =>
        have hvu : v ≠ u' := fun hv => hn ⟨hv, by unfold rawStored; rw [C04L.setUser_len]; exact hlt⟩
        unfold rawStored
        rw [C04L.getUser_setUser_ne _ _ _ _ hvu]
        exact (h.2 v).mono _
    · unfold SOrigin
      rw [he, handleFullPacket_tun, hst]
      dsimp only
      rw [List.take_of_length_le (Nat.le_refl _)]
      rcases fullTun_cases (rawStored e u' src ((bytes.take 65536).drop RAW_HDR_LEN))
          ((bytes.take 65536).drop RAW_HDR_LEN) with h0 | h1
      · exact Or.inl h0
      · exact Or.inr (Or.inr ⟨src, bytes, rfl, h1⟩)

def SOrigins (td : List Nat) : List Query → Srv → List Step → Prop
  | _, _, [] => True
  | seen, s, st :: rest => SOrigin td seen st.inp (out s st) ∧ SOrigins td (seen ++ qOf st.inp) (next s st) rest

theorem SOrigin.congr {td : List Nat} {seen : List Query} {inp : Input} {evs evs' : List Event}
    (h : SOrigin td seen inp evs) (e : stunws evs' = stunws evs) : SOrigin td seen inp evs' := by
  unfold SOrigin at h ⊢
  rw [e]; exact h

theorem iteration_inv (td : List Nat) (s : Srv) (st : Step) (seen : List Query) (h : GInv td s seen) :
    GInv td (next s st) (seen ++ qOf st.inp) ∧ SOrigin td seen st.inp (out s st) := by
  have he : GInv td (C03L.entry s st.now) seen :=
    ⟨h.1, fun u => by rw [entry_in]; exact h.2 u⟩
  obtain ⟨g, o⟩ := dispatch_inv td (C03L.entry s st.now) st.inp (topOfLoop s).2.2 seen he
  refine ⟨⟨?_, fun u => ?_⟩, o.congr (out_tunws s st)⟩
  · have : (next s st).cfg = s.cfg := C04L.iteration_cfg s st.inp st.now
    rw [this]; exact h.1
  · rw [next_in]; exact g.2 u

theorem sorigins_run (td : List Nat) : ∀ (steps : List Step) (s : Srv) (seen : List Query),
    GInv td s seen → SOrigins td seen s steps := by
  intro steps
  induction steps with
  | nil => intro _ _ _; trivial
  | cons st rest ih =>
    intro s seen h
    obtain ⟨g, o⟩ := iteration_inv td s st seen h
    exact ⟨o, ih _ _ g⟩

theorem ginv_of_empty (s : Srv) (h : ∀ u, (getUser s u).inpacket.len = 0 ∧ (getUser s u).inpacket.offset = 0) :
    GInv s.cfg.topdomain s [] :=
  ⟨rfl, fun u => SInv.empty (h u).1 (h u).2 _⟩

theorem start_empty (cfg : Config) (rnd : List Nat) (u : Nat) :
    (getUser (start cfg rnd) u).inpacket.len = 0 ∧ (getUser (start cfg rnd) u).inpacket.offset = 0 := by
  unfold getUser start Srv.init
  simp only [List.getD_eq_getElem?_getD, List.getElem?_map]
  cases (Users.initUsers cfg.myIp cfg.netmask)[u]? <;> exact ⟨rfl, rfl⟩

end Iodine.C01L
