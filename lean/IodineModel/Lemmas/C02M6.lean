import IodineModel.Lemmas.C02M1
/-
Lazy mode, downstream: the end of the cycle of `C02down1`, and the whole packet.  A ping that reaches a server with nothing (more)
to send is HELD (`hold_step`).  The LAST fragment takes three scheduler steps (`down_last_lazy`: the client writes the packet to
its tun device and arms its 5 ms timer, the acknowledging ping goes out, the server completes the packet and holds the ping), two
when a ping was already due at the client.  `down_packet_lazy_taken`: one packet whenever the client takes its first fragment, in
`downStepsL` steps and without a clock advancing; then sequences (`down_sequence_lazy`).
-/
namespace Iodine.C02L
open Iodine Iodine.Gen Iodine.World

/-- the acknowledgement of the last fragment: the outpacket is complete (or had been dropped when its only fragment was
sent) -/
theorem ackSess_fin (x : Server.Session) (out : List Nat) (sq : Int) (o D f : Nat) (hoq : x.oqFilled = 0) (hD : 0 < D)
    (heq : o + D = out.length) (hf : f + 1 < 128)
    (hop : x.outpacket = ⟨out.length, D, o, out, sq, (f : Int)⟩ ∨ (x.outpacket = ⟨0, 0, 0, out, sq, 0⟩ ∧ o = 0 ∧ f = 0 ∧ D = out.length)) :
    (ackSess x sq f).outpacket = ⟨0, 0, 0, out, sq, (f : Int)⟩ := by
  rcases hop with hop | ⟨hop, _, hf0, _⟩
  · have hsf : Server.sChar (Server.sChar ((f : Int) + 1) - 1) = (f : Int) := by unfold Server.sChar; omega
    rw [ackSess_complete x sq f (by rw [hop]; show out.length ≠ 0; omega) (by rw [hop]) (by rw [hop]) (by rw [hop]; show D ≠ 0; omega)
      (by rw [hop]; show out.length ≤ o + D; omega) hoq]
    rw [hop]
    simp only [hsf]
  · rw [ackSess_idle x sq f (by rw [hop]), hop, hf0]
    rfl

/-- A ping of the client (state `pingStateL c2`) reaches a server that holds no query and, after the acknowledgement `(a, b)`
(slot `x1`), has nothing to send: the ping is HELD; the joint state is quiescent, the server's downstream sequence number
`dd` ahead of the client's; the client's side is untouched. -/
theorem hold_step {P : Par} (hP : P.Ok) {w3 : W} {c2 : Client.Cli} {name' : List Nat} {a b : Int} {x1 : Server.Session} {dd : Nat}
    (hcs : w3.cs = ⟨pingStateL c2, .tunnel⟩) (hc2st : CStatL P c2) (hc2cnt : CntOk c2 0) (hc2idle : Client.isSending c2 = false)
    (hup : w3.up = [.query (pingStateL c2).chunkid P.ty name']) (hdown : w3.down = [])
    (hpq : PingQ P (upQuery (pingStateL c2).chunkid P.ty name') a b c2.randSeed) (hsrv : NoQSrv P true w3.srv)
    (hsyncu : (Server.getUser w3.srv P.u).inpacket.seqno = c2.outpkt.seqno)
    (haged : Aged P (Server.getUser w3.srv P.u) c2.datacmc 1) (hpaged : PAged P (Server.getUser w3.srv P.u) c2.randSeed 1)
    (hx1 : ackSess { Server.getUser w3.srv P.u with qsNew := false } a b = x1) (hlen0 : x1.outpacket.len = 0)
    (hos : 0 ≤ x1.outpacket.seqno ∧ x1.outpacket.seqno < 8) (hof : 0 ≤ x1.outpacket.fragment ∧ x1.outpacket.fragment < 16)
    (hsync : x1.outpacket.seqno = (c2.inpkt.seqno + dd) % 8) :
    ∃ w', (∀ k, promptSteps P.u (k + 1) w3 = promptSteps P.u k w') ∧ QuietLazyD P 0 dd w' ∧ w'.cs.c.sendPingSoon = 0 ∧
      w'.tunC = w3.tunC ∧ w'.tunS = w3.tunS ∧
      (Server.getUser w'.srv P.u).fragsize = (Server.getUser w3.srv P.u).fragsize ∧
      (Server.getUser w'.srv P.u).tunIp = (Server.getUser w3.srv P.u).tunIp ∧ w'.cs.c.inpkt = c2.inpkt ∧ w'.cs = w3.cs := by
  have hpf := pingFactsL c2
  obtain ⟨s', evs, t, hit, hdown3, htun3, hah, hsame⟩ :=
    srv_ping_lazy_hold hP hsrv.stat hsrv.q hsrv.qs hsrv.lz hsrv.oq hpq hpaged (by rw [hx1]; exact hlen0)
  generalize hQ : upQuery (pingStateL c2).chunkid P.ty name' = Q at hit hah hpq
  obtain ⟨hS', hq', hqs', hlz', hoq', hfs', hin', htun', hop'⟩ := afterHold_stat hsrv.stat hsrv.oq hah
    (by rw [hx1]; exact hos) (by rw [hx1]; exact hof)
  rw [hx1] at hop'
  have hs3 : ∀ k, promptSteps P.u (k + 1) w3 = promptSteps P.u k { w3 with up := [], srv := s' } := by
    intro k
    rw [ps_up_of hup hdown (SrvDoes.mk (by rw [srvInput_query, hQ]; exact hit) hdown3 htun3), List.append_nil, ← hdown]
  have hQid : Q.id = (pingStateL c2).chunkid := by rw [← hQ]; rfl
  refine ⟨_, hs3, ?_, ?_, rfl, rfl, hfs', htun', ?_⟩
  · refine ⟨by show w3.cs.ph = _; rw [hcs], ?_, ?_, ?_, rfl, hdown, hS', ?_, hoq', ?_, ?_, ?_, ?_, ?_⟩
    · show CStatL P w3.cs.c
      rw [hcs]; exact (cstatM_pingStateL hc2st.toM).lazy
    · show CntOk w3.cs.c 1
      rw [hcs]; exact (pingStateL_ids c2).2.2 0 hc2cnt
    · show Client.isSending w3.cs.c = false
      rw [hcs]
      unfold Client.isSending
      rw [hpf.outpkt]
      exact hc2idle
    · exact ⟨by rw [hop']; exact hlen0, by rw [hq']; exact hpq.id, by rw [hq']; exact hpq.id2, by rw [hqs']; exact hsrv.qs,
        by rw [hlz']; exact hsrv.lz⟩
    · show HeldBase P (Server.getUser s' P.u).q
      rw [hq']; exact ⟨hpq.from_, hpq.id2, hpq.id, hpq.ty⟩
    · show (Server.getUser s' P.u).q.id = w3.cs.c.chunkid
      rw [hq', hQid, hcs]
    · show w3.cs.c.outpkt.seqno = ((Server.getUser s' P.u).inpacket.seqno + ((0 : Nat) : Int)) % 8
      rw [hin', hsyncu, hcs, hpf.outpkt]
      have := hc2st.oseq
      omega
    · show (Server.getUser s' P.u).outpacket.seqno = (w3.cs.c.inpkt.seqno + (dd : Int)) % 8
      rw [hop', hcs, hpf.inpkt]; exact hsync
    · show HeldMem P (Server.getUser s' P.u) (Server.getUser s' P.u).q w3.cs.c.datacmc w3.cs.c.randSeed
      rw [hq', hcs, hpf.datacmc, hpf.seed]
      right
      refine ⟨c2.randSeed, ⟨hpq.sdlt, hpq.c0, hpq.fp, hpq.seed⟩, behind_succ_mod hpq.sdlt, ?_, ?_⟩
      · exact haged.congr hsame.q hsame.ql hsame.c hsame.cl
      · exact (hpaged.step hpq.sdlt (by omega)).congr hsame.p hsame.pl hsame.c hsame.cl
  · show w3.cs.c.sendPingSoon = 0
    rw [hcs]; exact hpf.sps
  · exact ⟨by show w3.cs.c.inpkt = c2.inpkt; rw [hcs]; exact hpf.inpkt, rfl⟩

/-- scheduler steps of the last fragment: 3 (`deliverDown`, `tickC`, `deliverUp`), but 2 when it is the fragment that meets a
client at which a ping was due (`sps ≠ 0`; `R` = bytes left after the fragment in flight) -/
def lastStepsL (sps R : Nat) : Nat := if sps ≠ 0 ∧ R = 0 then 2 else 3

/-- The LAST fragment: `deliverDown` — the client writes the packet to its tun device and arms its 5 ms timer —, `tickC` — the
ping that acknowledges the last fragment goes out —, `deliverUp` — the server completes the packet and HOLDS the ping:
quiescent again.  When a ping was already due at the client (`send_ping_soon ≠ 0`: the first fragment of a one-fragment
packet that follows an upstream packet) the acknowledging ping goes out with the first step and there is no timer step. -/
theorem down_last_lazy {P : Par} (hP : P.Ok) {frame : List Nat} {w : W} {sq : Int} {o D f : Nat}
    (h : DownFlight P true (0x5a :: frame) w sq o D f) (h64 : (0x5a :: frame).length ≤ 65536)
    (h4 : 4 ≤ frame.length) (heq : o + D = (0x5a :: frame).length) (hf : f < 16) :
    ∃ w', promptSteps P.u (lastStepsL w.cs.c.sendPingSoon 0) w = some w' ∧ QuietLazy P w' ∧ w'.cs.c.sendPingSoon = 0 ∧
      w'.tunC = w.tunC ++ [tunImage frame] ∧ w'.tunS = w.tunS ∧
      (Server.getUser w'.srv P.u).fragsize = (Server.getUser w.srv P.u).fragsize ∧
      (Server.getUser w'.srv P.u).tunIp = (Server.getUser w.srv P.u).tunIp := by
  obtain ⟨name, pkt, hdown, hnd, hfp⟩ := h.down
  have hsqr := h.sq8
  have hfl : FragPkt pkt (0x5a :: frame) sq o D f true := by
    have : decide ((0x5a :: frame).length > 0 ∧ (0x5a :: frame).length = o + D) = true := by
      rw [decide_eq_true_iff]; simp only [List.length_cons] at heq ⊢; omega
    rw [this] at hfp; exact hfp
  -- the client receives the last fragment, writes the packet to its tun device, and pings (at once or after 5 ms)
  obtain ⟨name', w3, hs1, hpu, hw3srv, hw3tc, hw3ts⟩ := recv_then_ping hP (lz := true)
    (c3 := lastState w.cs.c (0x5a :: frame) sq o D f) (pre := [Client.writeTun frame]) (sn := w.cs.c.sendPingSoon != 0)
    h.toDownBase hdown hnd
    (fun rq hrok => ⟨_, recv_last hrok hfl h.pos h.dup h.exp hsqr hf heq h64⟩) rfl
    (booked_last h.cst h.cnt _ sq o D f hsqr hf)
    (fun _ => ⟨show 0 < 5 by decide, show 5 < 1000 by decide⟩) (fun _ h => absurd h (by decide))
  rw [tunOfC_writeTun frame h4] at hw3tc
  -- the server completes the packet and holds the ping
  have hfin := ackSess_fin { Server.getUser w3.srv P.u with qsNew := false } (0x5a :: frame) sq o D f
    (by rw [hw3srv]; exact h.srv.oq) h.pos heq (by omega) (by rw [hw3srv]; exact h.op)
  obtain ⟨w', hs3, hQD, hsps', htc, hts, hfs, htip, _⟩ := hold_step hP (dd := 0)
    (x1 := ackSess { Server.getUser w3.srv P.u with qsNew := false } sq f) hpu.cs hpu.st.lazy (hpu.cnt.resolve_left (by decide)) hpu.idle hpu.up hpu.down hpu.pq
    hpu.srv hpu.syncu hpu.aged hpu.paged rfl (by rw [hfin]) (by rw [hfin]; exact hsqr)
    (by rw [hfin]; show (0 : Int) ≤ (f : Int) ∧ (f : Int) < 16; omega)
    (by rw [hfin]; show sq = (sq + ((0 : Nat) : Int)) % 8; omega)
  have hQL := quietLazyD_zero.1 hQD
  refine ⟨w', ?_, hQL, hsps', by rw [htc, hw3tc], by rw [hts, hw3ts], by rw [hfs, hw3srv], by rw [htip, hw3srv]⟩
  have h3 : promptSteps P.u 1 w3 = some w' := by rw [hs3 0]; rfl
  have := promptSteps_add P.u _ 1 w w3 hs1
  rw [h3] at this
  rw [← this]
  unfold lastStepsL
  by_cases h0 : w.cs.c.sendPingSoon = 0
  · rw [if_neg (fun hc => hc.1 h0), h0]; rfl
  · rw [if_pos ⟨h0, rfl⟩, if_pos (by simpa using h0)]

/-- scheduler steps of a downstream packet of `g` fragments in lazy mode (after `offerS`), `sps` = the client's
`send_ping_soon` in the quiescent state -/
def downStepsL (sps g : Nat) : Nat := if sps ≠ 0 ∧ g = 1 then 2 else 2 * g + 1

/-- the last fragment's steps, counted at the state the run over the fragments in between ends in (`sps1`: the client's timer
there — the start's when nothing was in between, else 0) -/
theorem lastStepsL_after (sps sps1 R : Nat) (h0 : R = 0 → sps1 = sps) (h1 : R ≠ 0 → sps1 = 0) :
    lastStepsL sps1 0 = lastStepsL sps R := by
  unfold lastStepsL
  by_cases hR : R = 0
  · rw [h0 hR, hR]
  · rw [h1 hR, if_neg (fun hc => hc.1 rfl), if_neg (fun hc => hR hc.2)]

/-- From fragment `f` in flight to the end of the packet, lazy mode: the rounds of `down_run` over the fragments in between, then
`down_last_lazy`; `lastStepsL` is counted with the client's timer at the start. -/
theorem down_flight_run_lazy {P : Par} (hP : P.Ok) {frame : List Nat} (h64 : (0x5a :: frame).length ≤ 65536) (h4 : 4 ≤ frame.length)
    {sq : Int} (F : Nat) :
    ∀ (fuel : Nat) (w : W) (o D f : Nat), DownFlight P true (0x5a :: frame) w sq o D f →
      (Server.getUser w.srv P.u).fragsize = F → (0x5a :: frame).length - (o + D) ≤ fuel →
      f + downFrags F fuel ((0x5a :: frame).length - (o + D)) < 16 →
      ∃ w', promptSteps P.u (2 * downFrags F fuel ((0x5a :: frame).length - (o + D)) +
            lastStepsL w.cs.c.sendPingSoon ((0x5a :: frame).length - (o + D))) w = some w' ∧ QuietLazy P w' ∧
        w'.cs.c.sendPingSoon = 0 ∧ w'.tunC = w.tunC ++ [tunImage frame] ∧ w'.tunS = w.tunS ∧
        (Server.getUser w'.srv P.u).fragsize = F ∧ (Server.getUser w'.srv P.u).tunIp = (Server.getUser w.srv P.u).tunIp := by
  intro fuel w o D f h hF hl hf
  obtain ⟨w1, o', D', hr, h3, h4', h5⟩ := down_run hP h64 F fuel w o D f h hF hl hf
  have h1 := hr.steps
  have h2 := hr.flight
  obtain ⟨w', g1, g2, g3, g4, g5, g6, g7⟩ := down_last_lazy hP h2 h64 h4 h3 (Nat.lt_of_le_of_lt (Nat.le_refl _) hf)
  refine ⟨w', ?_, g2, g3, by rw [g4, hr.tunC], by rw [g5, hr.tunS], by rw [g6, hr.fragsize, hF], by rw [g7, hr.tunIp]⟩
  have := promptSteps_add P.u _ (lastStepsL w1.cs.c.sendPingSoon 0) w w1 h1
  rw [g1] at this
  rw [← this, lastStepsL_after w.cs.c.sendPingSoon w1.cs.c.sendPingSoon ((0x5a :: frame).length - (o + D))
    (fun hR => by rw [h4' (Nat.le_antisymm h.fits (Nat.le_of_sub_eq_zero hR))])
    (fun hR => (h5 (fun he => hR (by rw [he, Nat.sub_self]))).1)]

/-- the two ways of counting the steps of a packet agree: two per fragment that is not the last, and the last one's -/
theorem downStepsL_sum (F n D sps : Nat) (hpos : 0 < D) (hle : D ≤ n + 1) :
    2 * downFrags F n (n + 1 - D) + lastStepsL sps (n + 1 - D) = downStepsL sps (1 + downFrags F n (n + 1 - D)) := by
  have hrest := downFrags_rest F n D hpos hle
  unfold downStepsL lastStepsL
  by_cases he : D = n + 1
  · rw [hrest.1 he, he, Nat.sub_self]
    by_cases hs0 : sps = 0
    · rw [if_neg (fun hc => hc.1 hs0), if_neg (fun hc => hc.1 hs0)]
    · rw [if_pos ⟨hs0, rfl⟩, if_pos ⟨hs0, rfl⟩]
  · have hx := hrest.2 he
    have hR : n + 1 - D ≠ 0 := by omega
    rw [if_neg (fun hc => hR hc.2), if_neg (by intro hc; omega)]
    omega

/-- the whole packet of `g` fragments (fragment size `F`) once its first fragment is in flight: `downStepsL sps g` scheduler
steps -/
theorem down_packet_of_flight {P : Par} (hP : P.Ok) {frame : List Nat} {w1 : W} {sq : Int} {F : Nat}
    (h24 : 24 ≤ frame.length) (hl : frame.length < 65536) (hfr : downFrags F (frame.length + 1) (frame.length + 1) ≤ 16)
    (hfl : DownFlight P true (0x5a :: frame) w1 sq 0 (downLen F (0x5a :: frame).length) 0)
    (hfs1 : (Server.getUser w1.srv P.u).fragsize = F) :
    ∃ w', promptSteps P.u (downStepsL w1.cs.c.sendPingSoon (downFrags F (frame.length + 1) (frame.length + 1))) w1 = some w' ∧
      QuietLazy P w' ∧ w'.cs.c.sendPingSoon = 0 ∧ w'.tunC = w1.tunC ++ [tunImage frame] ∧ w'.tunS = w1.tunS ∧
      (Server.getUser w'.srv P.u).fragsize = F ∧ (Server.getUser w'.srv P.u).tunIp = (Server.getUser w1.srv P.u).tunIp := by
  have hlen : (0x5a :: frame).length = frame.length + 1 := by simp
  rw [hlen] at hfl
  generalize hD : downLen F (frame.length + 1) = D at hfl
  have hDpos := hfl.pos
  have hDle : D ≤ frame.length + 1 := by have := hfl.fits; rw [hlen, Nat.zero_add] at this; exact this
  have hu : downFrags F (frame.length + 1) (frame.length + 1) = 1 + downFrags F frame.length (frame.length + 1 - D) := by
    rw [← hD]; exact downFrags_first F _
  rw [hu] at hfr ⊢
  obtain ⟨w', h1, h2⟩ := down_flight_run_lazy hP (frame := frame) (by rw [hlen]; exact Nat.succ_le_of_lt hl)
    (Nat.le_trans (by decide) h24) F frame.length w1 0 D 0 hfl hfs1
    (by rw [hlen]; omega)
    (by rw [hlen]; simp only [Nat.zero_add]; exact Nat.lt_of_lt_of_le (Nat.lt_add_of_pos_left (by decide : 0 < 1)) hfr)
  rw [hlen] at h1
  simp only [Nat.zero_add] at h1
  refine ⟨w', ?_, h2⟩
  rw [← h1, downStepsL_sum F frame.length D _ hDpos hDle]

/-- One packet downstream, lazy mode, from a quiescent state in which the server's downstream sequence number is `d` ahead of the
client's, whenever the client TAKES the first fragment (`hE`, `hdup`: the new number, `d + 1` ahead, is new to the client, or it
is the client's own in the "weird situation"): the first fragment goes out at once as the answer to the held query, and after
`downStepsL sps g` scheduler steps the joint state is quiescent and SYNCHRONISED, the client has written exactly the offered
frame to its tun device, the server nothing.  No clock advances: no timing hypotheses. -/
theorem down_packet_lazy_taken {P : Par} (hP : P.Ok) {w : W} {d : Nat} (hq : QuietLazyD P 0 d w) (frame : List Nat)
    (hE : CExpectW w.cs.c (0x5a :: frame) ((w.cs.c.inpkt.seqno + d + 1) % 8) 0 0)
    (hdup : (w.cs.c.inpkt.seqno + d + 1) % 8 = w.cs.c.inpkt.seqno ∨
      Client.recentSeqno w.cs.c.inpkt.seqno ((w.cs.c.inpkt.seqno + d + 1) % 8) = false)
    (hF : 0 < (Server.getUser w.srv P.u).fragsize)
    (hok : DownFrameOk (Server.getUser w.srv P.u).tunIp (Server.getUser w.srv P.u).fragsize frame) :
    ∃ w', promptSteps P.u (downStepsL w.cs.c.sendPingSoon
          (downFrags (Server.getUser w.srv P.u).fragsize (frame.length + 1) (frame.length + 1)))
        (step w (.offerS frame)) = some w' ∧
      QuietLazy P w' ∧ w'.cs.c.sendPingSoon = 0 ∧ w'.tunC = w.tunC ++ [tunImage frame] ∧ w'.tunS = w.tunS ∧
      (Server.getUser w'.srv P.u).fragsize = (Server.getUser w.srv P.u).fragsize ∧
      (Server.getUser w'.srv P.u).tunIp = (Server.getUser w.srv P.u).tunIp := by
  obtain ⟨D, hD, w1, hw1, hsent, _, _, ht1, ht2, htip1, hfs1, hcs1, _⟩ := down_offer_lazyD hP hq frame hok.h24 hok.hl hok.dst hF
  subst hD
  obtain ⟨w', h1, h2, h3, h4, h5, h6, h7⟩ := down_packet_of_flight hP hok.h24 hok.hl hok.frags
    ⟨hsent, hE.congrW (by rw [hcs1]), by rw [hcs1]; exact hdup⟩ hfs1
  rw [hcs1] at h1
  rw [hw1]
  exact ⟨w', h1, h2, h3, by rw [h4, ht2], by rw [h5, ht1], h6, by rw [h7, htip1]⟩

/-- **One packet downstream, lazy mode** (`down_packet_lazy_taken` at `d = 0`).  From ANY quiescent joint state in lazy mode (the
server holds the client's most recent query), a frame offered to the server is cut into `g` fragments; the first one goes out at
once as the answer to the held query, and after `downStepsL sps g` steps of the prompt schedule — `2·g + 1`, except that a
one-fragment packet that meets a client at which a ping was due (`sps ≠ 0`) needs only 2 — the joint state is quiescent again (the
server now holds the ping that acknowledged the last fragment, and no ping is due at the client), the client has written exactly
that frame (with the tun header rewritten) to its tun device and the server nothing.  No clock advances: no timing hypotheses. -/
theorem down_packet_lazy {P : Par} (hP : P.Ok) {w : W} (hq : QuietLazy P w) (frame : List Nat)
    (hF : 0 < (Server.getUser w.srv P.u).fragsize)
    (hok : DownFrameOk (Server.getUser w.srv P.u).tunIp (Server.getUser w.srv P.u).fragsize frame) :
    ∃ w', promptSteps P.u (downStepsL w.cs.c.sendPingSoon
          (downFrags (Server.getUser w.srv P.u).fragsize (frame.length + 1) (frame.length + 1)))
        (step w (.offerS frame)) = some w' ∧
      QuietLazy P w' ∧ w'.cs.c.sendPingSoon = 0 ∧ w'.tunC = w.tunC ++ [tunImage frame] ∧ w'.tunS = w.tunS ∧
      (Server.getUser w'.srv P.u).fragsize = (Server.getUser w.srv P.u).fragsize ∧
      (Server.getUser w'.srv P.u).tunIp = (Server.getUser w.srv P.u).tunIp := by
  obtain ⟨hE, hdup⟩ := cexpectW_ahead hq.cst.iseq (0x5a :: frame) (j := 0 + 1) (Nat.le_refl 1) (by decide) (seq_ahead _ 0)
  exact down_packet_lazy_taken hP (quietLazyD_zero.2 hq) frame hE hdup hF hok

theorem downStepsL_le (sps g : Nat) : downStepsL sps g ≤ 2 * g + 1 := by
  unfold downStepsL
  split <;> omega

theorem downStepsL_fuel {sps g fuel : Nat} (hg : g ≤ 16) (hf : 33 ≤ fuel) : downStepsL sps g ≤ fuel := by
  have := downStepsL_le sps g
  omega

/-- **A sequence of packets downstream, lazy mode**: each frame is offered to the server after the previous one was
delivered; all of them arrive at the client's tun device exactly once, in order; quiescent again.  (From ANY quiescent
state.) -/
theorem down_sequence_lazy {P : Par} (hP : P.Ok) (fuel : Nat) (hfuel : 33 ≤ fuel) :
    ∀ (frames : List (List Nat)) (w : W), QuietLazy P w →
      0 < (Server.getUser w.srv P.u).fragsize →
      (∀ f ∈ frames, DownFrameOk (Server.getUser w.srv P.u).tunIp (Server.getUser w.srv P.u).fragsize f) →
      QuietLazy P (offerAllS P.u fuel w frames) ∧
      (offerAllS P.u fuel w frames).tunC = w.tunC ++ frames.map tunImage ∧
      (offerAllS P.u fuel w frames).tunS = w.tunS := by
  intro frames w hq hF hok
  have h := offerAllS_induct (u := P.u) (fuel := fuel)
    (Q := fun w => QuietLazy P w ∧ 0 < (Server.getUser w.srv P.u).fragsize)
    (ok := fun w f => DownFrameOk (Server.getUser w.srv P.u).tunIp (Server.getUser w.srv P.u).fragsize f)
    (fun w f hQ hf => by
      obtain ⟨hq, hF⟩ := hQ
      obtain ⟨w', h1, h2, _, h4, h5, h6, h7⟩ := down_packet_lazy hP hq f hF hf
      rw [runPrompt_of_steps P.u _ _ _ h1 h2.quiet fuel (downStepsL_fuel hf.frags hfuel)]
      exact ⟨⟨h2, by rw [h6]; exact hF⟩, h4, h5, fun g hg => by rw [h6, h7]; exact hg⟩)
    frames w ⟨hq, hF⟩ hok
  exact ⟨h.1.1, h.2⟩

end Iodine.C02L
