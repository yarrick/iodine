import IodineModel.Lemmas.C02qM1
/-
Downstream, desynchronised: SEQUENCES of packets offered to the server from a quiescent state in which the server's downstream
sequence number is `d < 8` ahead.  `recovery_down` (either mode; `offerAllS_lossy` of `C02v1` over the one-packet dichotomy): the
first `lostDown' d frag0` packets are lost, all the others are delivered exactly once and in order, and the two sides are in step
again.  `lostDown' d frag0` is 0 for `d ≤ 3`, else `8 − d` — or `7 − d` when the client's fragment number is 0: the packet that
carries the client's own number (`d = 7`) is then taken through the "weird situation" clause, for which its reassembly buffer has
to be empty (true after every delivered packet, after a dataless adoption and in a fresh session).
`recovery_after_giveups_down_lazy` is the lazy instance, `…_partial` the case "fragment number not 0 whenever `d ≥ 4`".
-/
namespace Iodine.C02L
open Iodine Iodine.Gen Iodine.World

/-- Recovery over a sequence of frames in either mode, from the one-packet dichotomy `hany` (`down_packet_imm_any`,
`down_packet_lazy_any`).  `Q d`: quiescent with the server `d` ahead; `E`: what else the mode needs and every packet restores (the
timer room of immediate mode).  Of the frames offered one after the other exactly the first `n = lostDown' d (fragment = 0)` are
LOST, all the others arrive once and in order, and the joint state is in step — provided something is delivered
(`n < frames.length`), or else the lost packets themselves bring the numbers back in step (`hall`: `d = 0`, or `d ≥ 4` with the
client's fragment number not 0, so that the last of them is dropped as a duplicate fragment at `d = 7`; this is kept by every lost
packet).  The proof is `offerAllS_lossy` (`C02v1`); a lost packet leaves the client's `inpkt` untouched, so the case of `lostDown'`
does not change along the run. -/
theorem recovery_down {P : Par} {fuel : Nat} {Q : Nat → W → Prop} {E : W → Prop}
    (hany : ∀ {w : W} {d : Nat}, Q d w → d < 8 → (4 ≤ d → w.cs.c.inpkt.fragment = 0 → w.cs.c.inpkt.len = 0) → E w →
      ∀ f, 0 < (Server.getUser w.srv P.u).fragsize →
      DownFrameOk (Server.getUser w.srv P.u).tunIp (Server.getUser w.srv P.u).fragsize f →
      ∃ w', runPrompt P.u fuel (step w (.offerS f)) = w' ∧ w'.tunS = w.tunS ∧
        (Server.getUser w'.srv P.u).fragsize = (Server.getUser w.srv P.u).fragsize ∧
        (Server.getUser w'.srv P.u).tunIp = (Server.getUser w.srv P.u).tunIp ∧ E w' ∧
        ((lostDown' d (decide (w.cs.c.inpkt.fragment = 0)) = 0 ∧ Q 0 w' ∧ w'.tunC = w.tunC ++ [tunImage f]) ∨
          (lostDown' d (decide (w.cs.c.inpkt.fragment = 0)) = lostDown' ((d + 1) % 8) (decide (w.cs.c.inpkt.fragment = 0)) + 1 ∧
            4 ≤ d ∧ Q ((d + 1) % 8) w' ∧ w'.tunC = w.tunC ∧ w'.cs.c.inpkt = w.cs.c.inpkt))) :
    ∀ (frames : List (List Nat)) (d : Nat) (w : W), Q d w → d < 8 →
      (4 ≤ d → w.cs.c.inpkt.fragment = 0 → w.cs.c.inpkt.len = 0) → E w → 0 < (Server.getUser w.srv P.u).fragsize →
      (∀ f ∈ frames, DownFrameOk (Server.getUser w.srv P.u).tunIp (Server.getUser w.srv P.u).fragsize f) →
      lostDown' d (decide (w.cs.c.inpkt.fragment = 0)) ≤ frames.length →
      (frames.length = lostDown' d (decide (w.cs.c.inpkt.fragment = 0)) → d = 0 ∨ (4 ≤ d ∧ w.cs.c.inpkt.fragment ≠ 0)) →
      Q 0 (offerAllS P.u fuel w frames) ∧
      (offerAllS P.u fuel w frames).tunC = w.tunC ++ (frames.drop (lostDown' d (decide (w.cs.c.inpkt.fragment = 0)))).map tunImage ∧
      (offerAllS P.u fuel w frames).tunS = w.tunS := by
  intro frames d w hq hd8 hlen0 hE hF hok hl hall
  generalize hA : (frames.length = lostDown' d (decide (w.cs.c.inpkt.fragment = 0))) = A at hall
  obtain ⟨d', a1, a2, a3, a4, a5⟩ := offerAllS_lossy (u := P.u) (fuel := fuel)
    (Q := fun d w => Q d w ∧ d < 8 ∧ (4 ≤ d → w.cs.c.inpkt.fragment = 0 → w.cs.c.inpkt.len = 0) ∧ E w ∧
      0 < (Server.getUser w.srv P.u).fragsize ∧ (A → d = 0 ∨ (4 ≤ d ∧ w.cs.c.inpkt.fragment ≠ 0)))
    (ok := fun w f => DownFrameOk (Server.getUser w.srv P.u).tunIp (Server.getUser w.srv P.u).fragsize f)
    (lost := fun d w => lostDown' d (decide (w.cs.c.inpkt.fragment = 0)))
    (fun w _ => lostDown'_small 0 _ (Nat.zero_le 3))
    (fun d w f hQ hf => by
      obtain ⟨hq, hd8, hlen0, hE, hF, hJ⟩ := hQ
      obtain ⟨w', e, b1, b2, b3, bE, hcase⟩ := hany hq hd8 hlen0 hE f hF hf
      refine ⟨w', e, b1, fun g hg => by rw [b2, b3]; exact hg, ?_⟩
      rcases hcase with ⟨hz, h2, h4⟩ | ⟨hs, hd4, h2, h4, h8⟩
      · exact Or.inl ⟨hz, ⟨h2, by decide, fun h => absurd h (by decide), bE, by rw [b2]; exact hF, fun _ => Or.inl rfl⟩, h4⟩
      · refine Or.inr ⟨(d + 1) % 8, by rw [h8]; exact hs, ⟨h2, Nat.mod_lt _ (by decide), fun _ => by rw [h8]; exact hlen0 hd4, bE,
          by rw [b2]; exact hF, fun hA => ?_⟩, h4⟩
        rw [h8]
        rcases hJ hA with h0 | ⟨_, hfr⟩
        · omega
        · by_cases h7 : d = 7
          · exact Or.inl (by rw [h7])
          · exact Or.inr ⟨by omega, hfr⟩)
    frames d w ⟨hq, hd8, hlen0, hE, hF, hall⟩ hok
  have hd0 : d' = 0 := by
    rcases Nat.lt_or_ge (lostDown' d (decide (w.cs.c.inpkt.fragment = 0))) frames.length with hlt | hge
    · exact a2 (Or.inl hlt)
    · rcases a1.2.2.2.2.2 (by rw [← hA]; exact Nat.le_antisymm hge hl) with h0 | ⟨h4, hfr⟩
      · exact h0
      · exfalso
        rw [Nat.sub_eq_zero_of_le hl, decide_eq_false hfr, lostDown'_false] at a5
        have := a1.2.1
        unfold lostDown at a5
        rw [if_neg (by omega)] at a5
        omega
  subst hd0
  exact ⟨a1.1, a3, a4⟩

/-- Lazy mode, the server's downstream sequence number `d < 8` ahead of the client's
(what `d` downstream packets given up in a row leave behind); if the client's fragment number is 0 its reassembly buffer is
empty.  Of the frames offered to the server one after the other exactly the first `lostDown' d (fragment = 0)` are LOST; all
the others arrive at the client's tun device exactly once and in order; the joint state is synchronised and quiescent. -/
theorem recovery_after_giveups_down_lazy {P : Par} (hP : P.Ok) (fuel : Nat) (hfuel : 33 ≤ fuel) :
    ∀ (frames : List (List Nat)) (d : Nat) (w : W), QuietLazyD P 0 d w → d < 8 →
      (4 ≤ d → w.cs.c.inpkt.fragment = 0 → w.cs.c.inpkt.len = 0) →
      0 < (Server.getUser w.srv P.u).fragsize →
      (∀ f ∈ frames, DownFrameOk (Server.getUser w.srv P.u).tunIp (Server.getUser w.srv P.u).fragsize f) →
      lostDown' d (decide (w.cs.c.inpkt.fragment = 0)) < frames.length →
      QuietLazy P (offerAllS P.u fuel w frames) ∧
      (offerAllS P.u fuel w frames).tunC = w.tunC ++ (frames.drop (lostDown' d (decide (w.cs.c.inpkt.fragment = 0)))).map tunImage ∧
      (offerAllS P.u fuel w frames).tunS = w.tunS := by
  intro frames d w hq hd8 hlen0 hF hok hl
  have h := recovery_down (P := P) (fuel := fuel) (Q := QuietLazyD P 0) (E := fun _ => True)
    (fun hq hd8 hlen0 _ f hF hf => by
      obtain ⟨w', e, b1, b2, b3, hcase⟩ := down_packet_lazy_any hP fuel hfuel hq hd8 hlen0 f hF hf
      exact ⟨w', e, b1, b2, b3, trivial, hcase.imp_left fun ⟨hz, h2, h4⟩ => ⟨hz, quietLazyD_zero.2 h2, h4⟩⟩)
    frames d w hq hd8 hlen0 trivial hF hok (Nat.le_of_lt hl) (fun he => absurd he (Nat.ne_of_gt hl))
  exact ⟨quietLazyD_zero.1 h.1, h.2⟩

/-- the case in which the client's current fragment number is not 0 whenever `d ≥ 4` -/
theorem recovery_after_giveups_down_lazy_partial {P : Par} (hP : P.Ok) (fuel : Nat) (hfuel : 33 ≤ fuel) :
    ∀ (frames : List (List Nat)) (d : Nat) (w : W), QuietLazyD P 0 d w → d < 8 → (4 ≤ d → w.cs.c.inpkt.fragment ≠ 0) →
      0 < (Server.getUser w.srv P.u).fragsize →
      (∀ f ∈ frames, DownFrameOk (Server.getUser w.srv P.u).tunIp (Server.getUser w.srv P.u).fragsize f) →
      lostDown d < frames.length →
      QuietLazy P (offerAllS P.u fuel w frames) ∧
      (offerAllS P.u fuel w frames).tunC = w.tunC ++ (frames.drop (lostDown d)).map tunImage ∧
      (offerAllS P.u fuel w frames).tunS = w.tunS := by
  intro frames d w hq hd8 hfr hF hok hl
  have hb : lostDown' d (decide (w.cs.c.inpkt.fragment = 0)) = lostDown d := by
    by_cases hd : d ≤ 3
    · rw [lostDown'_small d _ hd]; unfold lostDown; rw [if_pos hd]
    · have : decide (w.cs.c.inpkt.fragment = 0) = false := by simpa using hfr (by omega)
      rw [this, lostDown'_false]
  have := recovery_after_giveups_down_lazy hP fuel hfuel frames d w hq hd8 (fun h4 h0 => absurd h0 (hfr h4)) hF hok
    (by rw [hb]; exact hl)
  rw [hb] at this
  exact this

/-! ### non-vacuity -/

/-- `exWL` after one downstream packet of two fragments: quiescent, the client's fragment number is 1 -/
def exWD : W := runPrompt 0 40 (step exWL (.offerS (demoFrame 2 30)))

theorem ex_quiescent_after_down : QuietLazy exPL exWD := by
  obtain ⟨w', h1, _, h3, _⟩ := clean_path_downstream_lazy_nodue exPL_ok ex_quiescent_lazy exWL_sps (demoFrame 2 30)
    (by rw [exWL_fragsize]; decide) ex_acceptable_down_lazy.1
  have := h1 40 (by rw [exWL_fragsize, ex_acceptable_down_lazy.2]; omega)
  have e : exWD = w' := this
  rw [e]; exact h3

theorem exWD_facts : exWD.cs.c.inpkt.fragment = 1 ∧ exWD.tunC = [demoFrame 2 30] ∧ exWD.tunS = [] ∧
    (Server.getUser exWD.srv exPL.u).fragsize = 30 ∧ (Server.getUser exWD.srv exPL.u).tunIp = 0x0a000002 := by decide +kernel

/-- the theorem applied: with the server 5 ahead of a client whose fragment number is 1, the first THREE of five offered frames
(of one, two and five fragments) are lost (`d = 5, 6, 7`), the last two arrive, in order; synchronised afterwards -/
example :
    let fs := [demoFrame 2 4, demoFrame 2 30, demoFrame 2 100, demoFrame 2 5, demoFrame 2 31]
    lostDown 5 = 3 ∧ QuietLazy exPL (offerAllS 0 40 (desyncD exPL exWD 5) fs) ∧
    (offerAllS 0 40 (desyncD exPL exWD 5) fs).tunC = [demoFrame 2 30, demoFrame 2 5, demoFrame 2 31] := by
  intro fs
  have hq := ex_quiescent_after_down.desync 5
  have hsl := desyncD_slot ex_quiescent_after_down 5
  have hok : ∀ f ∈ fs, DownFrameOk (Server.getUser (desyncD exPL exWD 5).srv exPL.u).tunIp
      (Server.getUser (desyncD exPL exWD 5).srv exPL.u).fragsize f := by
    intro f hf
    simp only [fs, List.mem_cons, List.not_mem_nil, or_false] at hf
    rw [hsl.1, hsl.2, exWD_facts.2.2.2.1, exWD_facts.2.2.2.2]
    rcases hf with rfl | rfl | rfl | rfl | rfl
    · exact ⟨by decide, by decide, by decide +kernel, by decide +kernel⟩
    · exact ⟨by decide, by decide, by decide +kernel, by decide +kernel⟩
    · exact ⟨by decide +kernel, by decide +kernel, by decide +kernel, by decide +kernel⟩
    · exact ⟨by decide, by decide, by decide +kernel, by decide +kernel⟩
    · exact ⟨by decide, by decide, by decide +kernel, by decide +kernel⟩
  have := recovery_after_giveups_down_lazy_partial exPL_ok 40 (by omega) fs 5 (desyncD exPL exWD 5) hq (by omega)
    (fun _ => by rw [desyncD_client, exWD_facts.1]; decide) (by rw [hsl.1, exWD_facts.2.2.2.1]; decide) hok (by decide)
  refine ⟨by decide, this.1, ?_⟩
  show (offerAllS exPL.u 40 _ fs).tunC = _
  rw [this.2.1, (desyncD_tun _ _ _).1, exWD_facts.2.1]
  decide

end Iodine.C02L
