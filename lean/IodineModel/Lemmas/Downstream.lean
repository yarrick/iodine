import IodineModel.Server.WriteDns
import IodineModel.Client.ReadDns
import IodineModel.Lemmas.Encoding
import IodineModel.Lemmas.WireRt2
import IodineModel.Props.C07
import IodineModel.Props.C08
import IodineModel.Props.C10
/-
Payload-level lemmas for C09: the closed form of `write_dns_nameenc` (`nameenc_eq`) and the shape of the host names
it builds (legal, ≤ 253 characters, `letter · dotted text · "." · xy`), what `dns_namedec` makes of such a name (and of
any cut of it), and the TXT text.  The closed forms of `write_dns` per answer format are in Lemmas/DownstreamE2E.lean
and Lemmas/DownstreamMx.lean.
-/
namespace Iodine.Downstream
open Iodine Iodine.Codec Iodine.Encoding Iodine.Wire Iodine.Wire.Strict Iodine.Wire.Put Iodine.Wire.DnsEncode
open Iodine.Server.WriteDns Iodine.Client.ReadDns Iodine.C10

/-! ### the pseudo top-level domain state -/

/-- the invariant of the static variables `td1`, `td2` -/
def TdOk (td : Td) : Prop := td.1 < 26 ∧ td.2 < 25

theorem tdStep_ok {td : Td} (h : TdOk td) : TdOk (tdStep td) := by
  unfold TdOk tdStep at *
  constructor <;> (simp only []; split <;> omega)

/-! ### codecs -/

theorem nameCodec_cases (dn : Nat) : nameCodec dn = (104, b32) ∨ nameCodec dn = (105, b64) ∨
    nameCodec dn = (106, b64u) ∨ nameCodec dn = (107, b128) := by
  unfold nameCodec
  split
  · exact Or.inr (Or.inl rfl)
  · split
    · exact Or.inr (Or.inr (Or.inl rfl))
    · split
      · exact Or.inr (Or.inr (Or.inr rfl))
      · exact Or.inl rfl

/-- what the proofs need to know about the pair (letter, codec) -/
structure HostCodec (letter : Nat) (c : Codec) : Prop where
  wf : WF c
  nodot : ∀ ch ∈ c.tbl, ch ≠ DOT
  lt256 : ∀ ch ∈ c.tbl, ch < 256
  nonzero : ∀ ch ∈ c.tbl, ch ≠ 0
  letter_ok : letter ≠ DOT ∧ letter ≠ 0 ∧ letter < 256
  /-- `dns_namedec` dispatches on the letter to `unpack_data` with this codec -/
  namedec : ∀ (N : Nat) (m : List Nat) (t : Nat), dnsNamedec N (letter :: m) t =
    if t < 5 then [] else unpackData c N (m.take (t - 4))

/-- `dns_namedec` with `buflen = t` looks at the first `t - 4` characters behind the letter only -/
theorem HostCodec.namedec_congr {letter : Nat} {c : Codec} (hc : HostCodec letter c) (N : Nat) {m m' : List Nat} {t : Nat}
    (h : m.take (t - 4) = m'.take (t - 4)) : dnsNamedec N (letter :: m) t = dnsNamedec N (letter :: m') t := by
  rw [hc.namedec, hc.namedec, h]

theorem hostCodec (dn : Nat) : HostCodec (nameCodec dn).1 (nameCodec dn).2 := by
  rcases nameCodec_cases dn with h | h | h | h <;> rw [h]
  · exact ⟨C07.wf_b32, C08.tables_nodot.1, C07.tables_byte.1, tbl_nonzero C07.wf_b32, by decide, fun N m t => by simp [dnsNamedec]⟩
  · exact ⟨C07.wf_b64, C08.tables_nodot.2.1, C07.tables_byte.2.1, tbl_nonzero C07.wf_b64, by decide, fun N m t => by simp [dnsNamedec]⟩
  · exact ⟨C07.wf_b64u, C08.tables_nodot.2.2.1, C07.tables_byte.2.2.1, tbl_nonzero C07.wf_b64u, by decide, fun N m t => by simp [dnsNamedec]⟩
  · exact ⟨C07.wf_b128, C08.tables_nodot.2.2.2, C07.tables_byte.2.2.2, tbl_nonzero C07.wf_b128, by decide, fun N m t => by simp [dnsNamedec]⟩

/-! ### the host names of `write_dns_nameenc` -/

/-- what a name built by `write_dns_nameenc` looks like -/
structure NameShape (letter : Nat) (chars : List Nat) (x y : Nat) (name : List Nat) : Prop where
  /-- letter, the dotted text (`Dt`: dots may sit anywhere but no other character is added), ".xy" -/
  shape : ∃ Dt, name = letter :: (Dt ++ [DOT, x, y]) ∧ undotify Dt = chars
  legal : LegalName name
  /-- the dotted text ends in an encoded character, not in a dot -/
  text_last : ∀ Dt, name = letter :: (Dt ++ [DOT, x, y]) → chars ≠ [] → ∃ X c, Dt = X ++ [c] ∧ c ≠ DOT

/-- closed form of `write_dns_nameenc`: the dotted text of letter and encoding, ".", the pseudo-TLD -/
theorem nameenc_eq (td : Td) (buflen : Nat) (hb : 255 ≤ buflen) (d : List Nat) (dn : Nat) :
    nameenc td buflen d dn = ⟨tdStep td, inner 0 ((nameCodec dn).1 :: (enc (nameCodec dn).2 245 d).chars) ++
      [DOT, 97 + (tdStep td).1, 97 + (tdStep td).2], (enc (nameCodec dn).2 245 d).used⟩ := by
  have hmin : min 255 buflen = 255 := by omega
  have hc := hostCodec dn
  have := closeDot_dotifyAux 0 _ (NoDot.cons hc.letter_ok.1 fun c h => hc.nodot c (C07.chars_in_table hc.wf 245 d c h)) 0
    (Or.inl (List.cons_ne_nil _ _))
  unfold closeDot at this
  simp only [nameenc, hmin, dotify, this]
  simp

theorem nameenc_td (td : Td) (buflen : Nat) (d : List Nat) (dn : Nat) : (nameenc td buflen d dn).td = tdStep td := rfl

theorem nameenc_used (td : Td) (buflen : Nat) (hb : 255 ≤ buflen) (d : List Nat) (dn : Nat) :
    (nameenc td buflen d dn).used = (enc (nameCodec dn).2 245 d).used := by
  rw [nameenc_eq td buflen hb]

/-- a buffer of more than 255 bytes makes no difference -/
theorem nameenc_buflen (td : Td) (b : Nat) (hb : 255 ≤ b) (d : List Nat) (dn : Nat) :
    nameenc td b d dn = nameenc td 255 d dn := by
  rw [nameenc_eq td b hb, nameenc_eq td 255 (Nat.le_refl _)]

theorem nameShape_core (letter x y : Nat) (chars : List Nat) (hl : letter ≠ DOT ∧ letter ≠ 0 ∧ letter < 256)
    (hx : 97 ≤ x ∧ x ≤ 122) (hy : 97 ≤ y ∧ y ≤ 122) (hch : ∀ ch ∈ chars, ch ≠ DOT ∧ ch ≠ 0 ∧ ch < 256)
    (hlen : chars.length ≤ 245) :
    NameShape letter chars x y (inner 0 (letter :: chars) ++ [DOT, x, y]) := by
  have hndc : NoDot chars := fun c hc => (hch c hc).1
  have hnd : NoDot (letter :: chars) := NoDot.cons hl.1 hndc
  -- the text behind the letter
  obtain ⟨T, hT, hTe⟩ : ∃ T, inner 0 (letter :: chars) = letter :: T ∧ (chars ≠ [] → T = inner 1 chars) := by
    rw [inner]
    by_cases he : chars = []
    · exact ⟨[], by rw [if_pos he], fun h => absurd he h⟩
    · exact ⟨inner 1 chars, by rw [if_neg he, if_neg (by omega)], fun _ => rfl⟩
  have hund : undotify T = chars := by
    have := undotify_inner _ hnd 0
    rw [hT] at this
    simpa [undotify, hl.1] using this
  have hil := inner_length (letter :: chars) 0 (by omega) (List.cons_ne_nil _ _)
  have hxy0 : x ≠ 0 ∧ x < 256 ∧ y ≠ 0 ∧ y < 256 ∧ x ≠ DOT ∧ y ≠ DOT := by simp only [DOT]; omega
  refine ⟨⟨T, by rw [hT]; simp, hund⟩, ⟨?_, ?_, ?_⟩, ?_⟩
  · simp only [List.length_append, hil, List.length_cons, List.length_nil]; omega
  · intro c hc
    simp only [List.mem_append, List.mem_cons, List.not_mem_nil, or_false] at hc
    rcases hc with hc | rfl | rfl | rfl
    · rcases mem_inner _ 0 c hc with rfl | hc
      · decide
      · rcases List.mem_cons.mp hc with rfl | hc
        · exact hl.2
        · exact (hch c hc).2
    · decide
    · exact ⟨hxy0.1, hxy0.2.1⟩
    · exact ⟨hxy0.2.2.1, hxy0.2.2.2.1⟩
  · apply (C10.legalAux_iff_labelsOK _).mp
    rw [show inner 0 (letter :: chars) ++ [DOT, x, y] = (inner 0 (letter :: chars) ++ [DOT]) ++ [x, y] by simp,
      legalAux_append, scan_inner _ hnd 0 0 (by omega) (by omega) (List.cons_ne_nil _ _)]
    simp [legalAux, hxy0.2.2.2.2.1, hxy0.2.2.2.2.2]
  · intro Dt2 hname2 hcne
    rw [hT] at hname2
    simp only [List.cons_append, List.cons.injEq, true_and] at hname2
    obtain ⟨X, c, hc, hX⟩ := inner_end chars 1 hcne
    refine ⟨X, c, ?_, hndc c hc⟩
    rw [← hX, ← hTe hcne]
    exact (List.append_inj_left' hname2 rfl).symm

theorem nameenc_shape (td : Td) (htd : TdOk td) (buflen : Nat) (hb : 255 ≤ buflen) (d : List Nat) (hd : Codec.Bytes d) (dn : Nat) :
    NameShape (nameCodec dn).1 (enc (nameCodec dn).2 245 d).chars (97 + (tdStep td).1) (97 + (tdStep td).2)
      (nameenc td buflen d dn).name := by
  obtain ⟨wf, nodot, lt256, nonzero, hl, _⟩ := hostCodec dn
  have htd' := tdStep_ok htd
  have hC := C07.capacity_contract wf 245 d hd
  have hch : ∀ ch ∈ (enc (nameCodec dn).2 245 d).chars, ch ≠ DOT ∧ ch ≠ 0 ∧ ch < 256 := by
    intro ch hch
    have := C07.chars_in_table wf 245 d ch hch
    exact ⟨nodot ch this, nonzero ch this, lt256 ch this⟩
  rw [nameenc_eq td buflen hb d dn]
  exact nameShape_core _ _ _ _ hl (by unfold TdOk at htd'; omega) (by unfold TdOk at htd'; omega) hch hC.len_le

/-! ### `dns_namedec` on such a name, and on every cut of it -/

theorem enc_used_eq {c : Codec} (wf : WF c) (cap : Nat) (d : List Nat) (hd : Codec.Bytes d) :
    (enc c cap d).used = c.k * (enc c cap d).chars.length / 8 := by
  have hC := C07.capacity_contract wf cap d hd
  rw [hC.ratio, full_div wf.k_ok]

theorem undotify_take_prefix (l : List Nat) (n : Nat) : undotify (l.take n) <+: undotify l := by
  unfold undotify
  exact List.IsPrefix.filter _ (List.take_prefix n l)

/-- decoding the first `t ≥ 5` bytes of the memory that holds the name (and its NUL): the payload bytes carried by
the encoded characters among them -/
theorem namedec_region {letter : Nat} {c : Codec} (hc : HostCodec letter c) (cap : Nat) (d : List Nat)
    (hd : Codec.Bytes d) {x y : Nat} {name Dt : List Nat} (hname : name = letter :: (Dt ++ [DOT, x, y]))
    (hund : undotify Dt = (enc c cap d).chars)
    (N t : Nat) (rest : List Nat) (h5 : 5 ≤ t) (ht : t ≤ name.length + 1) :
    dnsNamedec N (name ++ 0 :: rest) t =
      d.take (min N (c.k * (undotify ((Dt ++ [DOT]).take (t - 4))).length / 8)) ∧
      (undotify ((Dt ++ [DOT]).take (t - 4))).length ≤ (enc c cap d).chars.length := by
  have hC := C07.capacity_contract hc.wf cap d hd
  have hpref := hC.pref
  clear hC
  generalize (enc c cap d).chars = chars at *
  rw [hname]
  simp only [List.cons_append]
  rw [hc.namedec, if_neg (by omega)]
  have hlen : name.length = Dt.length + 4 := by rw [hname]; simp
  have hreg : (Dt ++ [DOT, x, y] ++ 0 :: rest).take (t - 4) = (Dt ++ [DOT]).take (t - 4) := by
    have : Dt ++ [DOT, x, y] ++ 0 :: rest = (Dt ++ [DOT]) ++ (x :: y :: 0 :: rest) := by simp
    rw [this, List.take_append_of_le_length (by simp; omega)]
  rw [hreg]
  have hund' : undotify (Dt ++ [DOT]) = chars := by
    rw [undotify_append_dot, hund]
  have hpre := undotify_take_prefix (Dt ++ [DOT]) (t - 4)
  rw [hund'] at hpre
  unfold unpackData
  simp only []
  generalize undotify ((Dt ++ [DOT]).take (t - 4)) = u at hpre ⊢
  have hu : u = chars.take u.length := List.prefix_iff_eq_take.mp hpre
  have hul : u.length ≤ chars.length := hpre.length_le
  have hcl : chars.length ≤ nchars c.k d.length := by
    have h2 : chars.length ≤ (encFull c d).length := by
      rw [hpref]; simp only [List.length_take]; omega
    rwa [encFull_length] at h2
  have hu2 : u = (encFull c d).take u.length := by
    have : u = ((encFull c d).take chars.length).take u.length := by rw [← hpref]; exact hu
    rw [List.take_take] at this
    rw [Nat.min_eq_left hul] at this
    exact this
  refine ⟨?_, hul⟩
  unfold dec
  have hnz : ∀ ch ∈ u, ch ≠ 0 := by
    intro ch hch'
    rw [hu2] at hch'
    exact encFull_nonzero hc.wf d ch (List.mem_of_mem_take hch')
  rw [cstr_of_nonzero u hnz]
  conv => lhs; rw [hu2]
  rw [decAll_encFull_take hc.wf d hd u.length (by omega), List.take_take]

/-- … hence, for every `t`, a prefix of what the name carries -/
theorem namedec_cut {letter : Nat} {c : Codec} (hc : HostCodec letter c) (cap : Nat) (d : List Nat)
    (hd : Codec.Bytes d) {x y : Nat} {name : List Nat} (hs : NameShape letter (enc c cap d).chars x y name)
    (N t : Nat) (rest : List Nat) (ht : t ≤ name.length + 1) :
    ∃ a, dnsNamedec N (name ++ 0 :: rest) t = d.take a ∧ a ≤ (enc c cap d).used := by
  obtain ⟨Dt, hname, hund⟩ := hs.shape
  by_cases h5 : t < 5
  · rw [hname]
    simp only [List.cons_append]
    rw [hc.namedec, if_pos h5]
    exact ⟨0, by simp, Nat.zero_le _⟩
  · obtain ⟨hreg, hul⟩ := namedec_region hc cap d hd hname hund N t rest (by omega) ht
    refine ⟨_, hreg, ?_⟩
    rw [enc_used_eq hc.wf cap d hd]
    have := Nat.div_le_div_right (c := 8) (Nat.mul_le_mul_left c.k hul)
    omega

theorem used_pos_of_chars {c : Codec} (wf : WF c) (cap : Nat) (d : List Nat) (hd : Codec.Bytes d)
    (h : (enc c cap d).chars ≠ []) : 1 ≤ (enc c cap d).used := by
  have hC := C07.capacity_contract wf cap d hd
  have hr := hC.ratio
  have hp : 0 < (enc c cap d).chars.length := List.length_pos_iff.mpr h
  rw [hr] at hp
  unfold nchars at hp
  rcases wf.k_ok with hk | hk | hk <;> rw [hk] at hp <;> omega

/-- a name that has lost two or more of its characters decodes to strictly less than it carries -/
theorem namedec_strict {letter : Nat} {c : Codec} (hc : HostCodec letter c) (cap : Nat) (d : List Nat)
    (hd : Codec.Bytes d) (hne : (enc c cap d).chars ≠ []) {x y : Nat} {name : List Nat}
    (hs : NameShape letter (enc c cap d).chars x y name)
    (N t : Nat) (rest : List Nat) (ht : t + 1 ≤ name.length) :
    (dnsNamedec N (name ++ 0 :: rest) t).length < (enc c cap d).used := by
  obtain ⟨Dt, hname, hund⟩ := hs.shape
  obtain ⟨X, c0, hX, hc0⟩ := hs.text_last Dt hname hne
  have hup := used_pos_of_chars hc.wf cap d hd hne
  by_cases h5 : t < 5
  · rw [hname]
    simp only [List.cons_append]
    rw [hc.namedec, if_pos h5]
    simp only [List.length_nil]
    omega
  have hlen : name.length = Dt.length + 4 := by rw [hname]; simp
  obtain ⟨hreg, _⟩ := namedec_region hc cap d hd hname hund N t rest (by omega) (by omega)
  rw [hreg]
  have hC := C07.capacity_contract hc.wf cap d hd
  have hratio := hC.ratio
  -- the region lies inside `X`: at least the last encoded character is missing
  have hDl : Dt.length = X.length + 1 := by rw [hX]; simp
  have htake : (Dt ++ [DOT]).take (t - 4) = X.take (t - 4) := by
    rw [hX, List.append_assoc, List.take_append_of_le_length (by omega)]
  rw [htake]
  have hpre := undotify_take_prefix X (t - 4)
  have hXc : (undotify X).length + 1 = (enc c cap d).chars.length := by
    rw [← hund, hX, undotify_append]
    have : undotify [c0] = [c0] := by simp [undotify, hc0]
    rw [this]; simp
  have hul := hpre.length_le
  generalize (undotify (X.take (t - 4))).length = j at hul ⊢
  generalize (undotify X).length = m1 at hul hXc
  generalize (enc c cap d).chars.length = m at hXc hratio
  generalize (enc c cap d).used = used at hratio hup ⊢
  simp only [List.length_take]
  have hkey : c.k * j / 8 < used := by
    have hjm : c.k * j ≤ c.k * (m - 1) := Nat.mul_le_mul_left _ (by omega)
    unfold nchars at hratio
    rcases hc.wf.k_ok with hk | hk | hk <;> rw [hk] at hratio hjm ⊢ <;> omega
  omega

/-- decoding the whole name (with or without the NUL behind it counted in): exactly what the name carries -/
theorem namedec_exact {letter : Nat} {c : Codec} (hc : HostCodec letter c) (cap : Nat) (d : List Nat)
    (hd : Codec.Bytes d) {x y : Nat} {name : List Nat} (hs : NameShape letter (enc c cap d).chars x y name)
    (N t : Nat) (rest : List Nat) (ht : t = name.length ∨ t = name.length + 1) (hN : (enc c cap d).used ≤ N) :
    dnsNamedec N (name ++ 0 :: rest) t = d.take (enc c cap d).used := by
  obtain ⟨Dt, hname, hund⟩ := hs.shape
  have hC := C07.capacity_contract hc.wf cap d hd
  have hdec := hC.decodes N hN
  have hused := enc_used_eq hc.wf cap d hd
  clear hC
  generalize (enc c cap d).chars = chars at *
  generalize (enc c cap d).used = used at *
  have hlen : name.length = Dt.length + 4 := by rw [hname]; simp
  rw [hname]
  simp only [List.cons_append]
  rw [hc.namedec]
  by_cases h5 : t < 5
  · rw [if_pos h5]
    have hD : Dt = [] := List.eq_nil_of_length_eq_zero (by omega)
    rw [hD] at hund
    have : chars = [] := by rw [← hund]; rfl
    rw [this] at hused
    simp at hused
    rw [hused]; simp
  rw [if_neg h5]
  have hreg : undotify ((Dt ++ [DOT, x, y] ++ 0 :: rest).take (t - 4)) = chars := by
    rcases ht with ht | ht
    · have : t - 4 = Dt.length := by omega
      rw [this, List.append_assoc, List.take_left' rfl, hund]
    · have : t - 4 = (Dt ++ [DOT]).length := by simp; omega
      have h2 : Dt ++ [DOT, x, y] ++ 0 :: rest = (Dt ++ [DOT]) ++ (x :: y :: 0 :: rest) := by simp
      rw [this, h2, List.take_left' rfl, undotify_append_dot, hund]
  unfold unpackData
  simp only []
  rw [hreg]
  exact hdec

/-! ### TXT -/

/-- bits per character of the TXT flavour chosen by `downenc` -/
def txtK (dn : Nat) : Nat := if dn = 83 ∨ dn = 85 then 6 else if dn = 86 then 7 else 5

/-- characters of the TXT text after the codec letter (`C09.txtLen` counts the letter too: it is `1 + txtLen`) -/
def txtLen (dn n : Nat) : Nat := if dn = 82 then n else nchars (txtK dn) n

theorem nchars_le_65535 (k n : Nat) (hk : K567 k) (hn : n ≤ 4096) : nchars k n ≤ 65535 := by
  unfold nchars
  rcases hk with rfl | rfl | rfl <;> omega

theorem nchars_pos (k n : Nat) (hk : K567 k) (hn : 1 ≤ n) : 1 ≤ nchars k n := by
  unfold nchars
  rcases hk with rfl | rfl | rfl <;> omega

/-- unless the flavour is raw ('R'), the TXT text is a letter and the whole encoding in the codec the client selects
by that letter -/
theorem txtText_enc (d : List Nat) (dn : Nat) (hn : d.length ≤ 4096) (hr : dn ≠ 82) :
    ∃ letter c, WF c ∧ c.k = txtK dn ∧ txtText d dn = letter :: encFull c d ∧
      ∀ (m : List Nat) (t : Nat), dnsNamedec 65536 (letter :: m) t = if t < 2 then [] else dec c 65536 (t - 1) m := by
  unfold txtText txtK
  by_cases h1 : dn = 83
  · refine ⟨115, b64, C07.wf_b64, by simp [h1, b64], ?_, fun m t => by simp [dnsNamedec]⟩
    simp only [h1, if_true]
    rw [enc_chars_full (c := b64) (nchars_le_65535 _ _ (Or.inr (Or.inl rfl)) hn)]
  by_cases h2 : dn = 85
  · refine ⟨117, b64u, C07.wf_b64u, by simp [h2, b64u], ?_, fun m t => by simp [dnsNamedec]⟩
    simp only [h2, if_true]
    rw [enc_chars_full (c := b64u) (nchars_le_65535 _ _ (Or.inr (Or.inl rfl)) hn)]
    rfl
  by_cases h3 : dn = 86
  · refine ⟨118, b128, C07.wf_b128, by simp [h3, b128], ?_, fun m t => by simp [dnsNamedec]⟩
    simp only [h3, if_true]
    rw [enc_chars_full (c := b128) (nchars_le_65535 _ _ (Or.inr (Or.inr rfl)) hn)]
    rfl
  · refine ⟨116, b32, C07.wf_b32, by simp [h1, h2, h3, b32], ?_, fun m t => by simp [dnsNamedec]⟩
    simp only [h1, h2, h3, hr, if_false]
    rw [enc_chars_full (c := b32) (nchars_le_65535 _ _ (Or.inl rfl) hn)]

theorem txtText_length (d : List Nat) (dn : Nat) (hn : d.length ≤ 4096) :
    (txtText d dn).length = 1 + txtLen dn d.length := by
  by_cases hr : dn = 82
  · subst hr
    simp [txtText, txtLen]; omega
  · obtain ⟨letter, c, _, hk, ht, _⟩ := txtText_enc d dn hn hr
    rw [ht, txtLen, if_neg hr, ← hk, List.length_cons, encFull_length]
    omega

theorem txt_roundtrip (d : List Nat) (dn : Nat) (hd : Codec.Bytes d) (h1 : 1 ≤ d.length) (hn : d.length ≤ 4096) :
    dnsNamedec 65536 (txtText d dn) (txtText d dn).length = d := by
  by_cases hr : dn = 82
  · subst hr
    have hm : min d.length (65536 - 1) = d.length := by omega
    have hm2 : min d.length 65536 = d.length := by omega
    simp [txtText, dnsNamedec, hm, hm2]
  · obtain ⟨letter, c, wf, _, ht, hdec⟩ := txtText_enc d dn hn hr
    have hp := nchars_pos c.k d.length wf.k_ok h1
    rw [ht, hdec, if_neg (by simp [encFull_length]; omega)]
    simp only [List.length_cons, Nat.add_sub_cancel]
    exact C07.roundtrip wf d hd 65536 (by omega)

end Iodine.Downstream
