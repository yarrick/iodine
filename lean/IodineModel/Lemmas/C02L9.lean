import IodineModel.Lemmas.C02v10
/-
Lazy mode, upstream — the whole packet (`up_packet_lazy`) and sequences of packets (`up_sequence_lazy`), the cases `.lazy`
of `QuietMD.up_packet` and `QuietMD.up_sequence`.
-/
namespace Iodine.C02L
open Iodine Iodine.Gen Iodine.World

/-- **One packet upstream, lazy mode.**  From a quiescent joint state (the server holds the client's most recent query), a
frame offered to the client is cut into `g` fragments; after `2·g + 1` steps of the prompt schedule the joint state is
quiescent again (the server now holds the data query of the last fragment), the server has written exactly that frame
(with the tun header rewritten) to its tun device and the client nothing. -/
theorem up_packet_lazy {P : Par} (hP : P.Ok) {w : W} (hq : QuietLazy P w) (frame : List Nat)
    (h24 : 24 ≤ frame.length) (hl : frame.length < 65536) (hb : Codec.Bytes frame)
    (hdst : Server.ipDst frame ≠ (Server.getUser w.srv P.u).tunIp)
    (hg16 : upFrags P (frame.length + 1) (0x5a :: frame) ≤ 16) :
    ∃ w', promptSteps P.u (2 * upFrags P (frame.length + 1) (0x5a :: frame) + 1) (step w (.offerC frame)) = some w' ∧
      QuietLazy P w' ∧
      w'.tunS = w.tunS ++ [[0, 0, 8, 0] ++ frame.drop 4] ∧ w'.tunC = w.tunC ∧
      (Server.getUser w'.srv P.u).tunIp = (Server.getUser w.srv P.u).tunIp ∧
      (Server.getUser w'.srv P.u).fragsize = (Server.getUser w.srv P.u).fragsize := by
  obtain ⟨w', h1, h2, h3, _, h⟩ := (quietMD_lazy_zero.2 hq).up_packet hP (show Mode.Ok .lazy from trivial)
    (Nat.zero_le 3) frame h24 hl hb hdst hg16
  exact ⟨w', h1, quietMD_lazy_zero.1 h2, h3, h.tunC, h.kept.tunIp, h.kept.fragsize⟩

/-- **A sequence of packets upstream, lazy mode**: each frame is offered after the previous one was delivered; all of them
arrive exactly once, in order, and the joint state is quiescent again. -/
theorem up_sequence_lazy {P : Par} (hP : P.Ok) (fuel : Nat) (hfuel : 33 ≤ fuel) :
    ∀ (frames : List (List Nat)) (w : W), QuietLazy P w →
      (∀ f ∈ frames, UpFrameOk P (Server.getUser w.srv P.u).tunIp f) →
      QuietLazy P (offerAllC P.u fuel w frames) ∧
      (offerAllC P.u fuel w frames).tunS = w.tunS ++ frames.map tunImage ∧
      (offerAllC P.u fuel w frames).tunC = w.tunC := by
  intro frames w hq hok
  have := (quietMD_lazy_zero.2 hq).up_sequence hP (show Mode.Ok .lazy from trivial) fuel hfuel frames hok
  exact ⟨quietMD_lazy_zero.1 this.1, this.2⟩

end Iodine.C02L
