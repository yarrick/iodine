import IodineModel.Lemmas.C06Sa
import IodineModel.Lemmas.HsSys
/-
C06 for whole client sessions: the buffers of the HANDSHAKE machine (`Client/Handshake.lean`).

Through `Leaf` (Lemmas/HsPos.lean: the ways out of a continuation function) and `hstep_cases` (Lemmas/Hs.lean: what one step
is): whatever the replies are,
* the two packet buffers `inpkt`, `outpkt` of the statics are never touched (`HQ`: they are what they were at the entry of
  `client_handshake`), so the tunnel phase starts with the buffers `client_init` left;
* `HState.inb` — the bytes of `in[4096]` of the running `handshake_*` function that the reply at hand filled — never has more than
  4096 elements (`handshake_waitdns` passes `sizeof(in)` or `sizeof(in) - 1`, the raw login `recv`s at most `sizeof(in)`);
* no event is a tun write, and a raw frame (`send_raw_udp_login`) fits `packet[4096]` of `send_raw` (`HEv`).
-/
namespace Iodine.C06L
open Iodine Iodine.Client Iodine.Gen

/-- the handshake leaves the packet buffers alone and `in[]` is never over-filled -/
def HQ (ip op : Packet) (dv : List Nat) (s : HState) : Prop :=
  s.c.inpkt = ip ∧ s.c.outpkt = op ∧ s.inb.length ≤ 4096 ∧ s.dev = dv

def HEv (l : List CEvent) : Prop := ∀ e ∈ l, C06.HsEventOk e

theorem hev_nil : HEv [] := fun _ h => nomatch h

/-- postcondition of a continuation function: `HQ` for the state it ends in, and it only APPENDS harmless events -/
def HP (ip op : Packet) (dv : List Nat) (evs : List CEvent) (o : HOut) : Prop := HQ ip op dv o.1 ∧ ∃ l, o.2.1 = evs ++ l ∧ HEv l

variable {ip op : Packet} {dv : List Nat} {s : HState} {evs : List CEvent}

theorem HQ.setC (hs : HQ ip op dv s) {c : Cli} (h : SameP s.c c) : HQ ip op dv { s with c := c } :=
  ⟨h.1.trans hs.1, h.2.trans hs.2.1, hs.2.2.1, hs.2.2.2⟩

theorem HQ.setInb (hs : HQ ip op dv s) {b : List Nat} (h : b.length ≤ 4096) : HQ ip op dv { s with inb := b } :=
  ⟨hs.1, hs.2.1, h, hs.2.2.2⟩

theorem HP.park {r : Res} {p : HPos} (hs : HQ ip op dv s) (h : SameP s.c r.1) (he : HEv r.2) :
    HP ip op dv evs (s.park r evs p) :=
  ⟨hs.setC h, r.2, rfl, he⟩

/-- what the thread parks behind is harmless: queries, or the raw login frame in `packet[4096]` of `send_raw` -/
theorem hev_parks {l : Bool} {r : Res} {p : HPos} (h : Parks l s r p) : HEv r.2 := by
  rcases parks_events h with hq | ⟨seed, rfl⟩
  · exact hq.all fun _ _ _ => trivial
  · intro e he
    rw [sendRawUdpLogin, List.mem_singleton] at he
    subst he
    exact evB_sendRaw _ _ _ _

theorem HQ.upd {l : Bool} {s' : HState} (hs : HQ ip op dv s) (h : Upd l s s') : HQ ip op dv s' :=
  ⟨h.inpkt.trans hs.1, h.outpkt.trans hs.2.1, h.inb.elim (fun e => e ▸ hs.2.2.1) id, h.dev.trans hs.2.2.2⟩

/-- every way out of a continuation function keeps `HQ` and appends harmless events -/
theorem hp_of_leaf {l : Bool} {B : Nat} {o : HOut} (h : Leaf l B s evs o) (hs : HQ ip op dv s) : HP ip op dv evs o := by
  cases h with
  | stop s' nx hu => exact ⟨(hs.upd hu : HQ ip op dv s'), [], (List.append_nil evs).symm, hev_nil⟩
  | park s' r p hu hp _ => exact HP.park (hs.upd hu) (.of_frame (parks_frame hp).ids) (hev_parks hp)

theorem hev_sys_map (cmds : List (List Nat)) : HEv (cmds.map CEvent.sys) := by
  intro e he
  obtain ⟨c, _, rfl⟩ := List.mem_map.mp he
  trivial

theorem HP.out {evs : List CEvent} {o : HOut} (h : HP ip op dv evs o) (he : HEv evs) : HQ ip op dv o.1 ∧ HEv o.2.1 := by
  obtain ⟨hq, l, h1, h2⟩ := h
  exact ⟨hq, h1 ▸ List.forall_mem_append.mpr ⟨he, h2⟩⟩

/-- **the step lemma of the handshake machine**: for EVERY input, `HQ` is kept and the events are harmless -/
theorem hstep_hq (s : HState) (inp : CInput) (hs : HQ ip op dv s) : HQ ip op dv (hstep s inp).1 ∧ HEv (hstep s inp).2.1 := by
  cases hp : s.pos with
  | none => rw [hstep_idle s inp hp]; exact ⟨hs, hev_nil⟩
  | some p =>
    obtain ⟨n, x, hx, ⟨_, h⟩ | ⟨read, _, h⟩ | ⟨seed, i, d, rfl, h⟩⟩ := hstep_cases s inp p hp <;> rw [h]
    · exact ⟨hs.setInb hx, hev_nil⟩
    · exact (hp_of_leaf (leaf_hsGot (l := false) _ p read nofun) (hs.upd (.woken (l := false) s n hx))).out (hev_sys_map _)
    · exact (hp_of_leaf (leaf_rawLoginGot (l := false) _ seed i d) (hs.upd (.woken (l := false) s n hs.2.2.1))).out hev_nil

theorem hsStart_hq (c : Cli) (args : HsArgs) (pw dev : List Nat) :
    HQ c.inpkt c.outpkt dev (hsStart c args pw dev).1 ∧ HEv (hsStart c args pw dev).2.1 :=
  (hp_of_leaf (leaf_hsStart c args pw dev) ⟨rfl, rfl, Nat.zero_le _, rfl⟩).out hev_nil

/-- **unfitting replies are ignored by `handshake_waitdns`**: a reply whose id is not the id of the latest query, or whose question
does not start with the expected character (either case), only fills `in[]`; nothing else changes, nothing is sent, the thread
waits in the same `select` again -/
theorem hstep_unmatched (s : HState) (p : HPos) (hp : s.pos = some p) (hr : p.rawLogin? = none) (q : Rq)
    (h : q.id ≠ s.c.chunkid ∨ (q.name0 ≠ p.wait.1 ∧ q.name0 ≠ p.wait.1 - 32)) :
    hstep s (.rq q) = ({ s with inb := q.buf.take (min q.rv.toNat p.wait.2.2) }, [], .sel p.sel) := by
  unfold hstep
  rw [hp]
  simp only [fire]
  unfold hstepAt
  rw [hr]
  simp only [hsWaitIn, hsWaitRound]
  rw [if_pos h]

end Iodine.C06L
