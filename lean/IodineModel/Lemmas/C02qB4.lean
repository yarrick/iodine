import IodineModel.Lemmas.C02qB1
import IodineModel.Props.C02
import IodineModel.Lemmas.WorldFastRun
/-
Upstream blackout: non-vacuity of the give-up theorems on the demo world `Iodine.C02.exW`
(user 0, "t.ab", Base32, NULL queries, immediate mode) and the first half of the COMPOSITION WITNESS: the states after
`k = 0 … 8` give-up runs written down (`bkW k`: only the client and the clocks differ from `exW`), the first four
kernel-evaluated links `bkW k → bkW (k+1)` (one frame offered, 9 steps of the blackout schedule; the others are in
`C02qB5.lean`), and the chains they compose to.  The witness proper — what becomes of the frames offered on the clean path
after `k` give-ups (`cleanAfter`) — is in C02qB7 (`k = 4`), C02qB8 (5) and C02qB9 (7, 8, 3): modules of their own, so that
the kernel's runs go side by side.  There `compose_k` is the test on the written-down state `bkW k`, and `compose_k'` says
the same of the state the give-up runs reach from `exW` (`bk_chain k` joins the two).

At the end of the file, apart from all this: the kernel-run tests of the DOWNSTREAM give-up run in immediate mode
(`downGaveUp`, `test_giveup_down_*`).
-/
namespace Iodine.C02L
open Iodine Iodine.Gen Iodine.World Iodine.C02

/-- the frames given up (28 … 35 bytes: one fragment each) -/
def fA (i : Nat) : List Nat := demoFrame 9 (4 + i)

/-- the frames offered afterwards on the clean path -/
def fB (i : Nat) : List Nat := demoFrame 9 (20 + i)

/-- the client of `exW` after `k` give-up runs with the frames `fA 0 … fA (k-1)`: the packet buffer still holds the last
frame (length 0: nothing in flight), sequence number `k mod 8`, `5·k` queries sent (ids), data-CMC counter `4·k`,
ping counter `k`, clock `4·k` s on -/
def bkC (k : Nat) : Client.Cli :=
  { exW.cs.c with
      randSeed := k,
      outpkt := { len := 0, sentlen := 0, offset := 0, data := if k = 0 then [] else 0x5a :: fA (k - 1), seqno := ((k % 8 : Nat) : Int),
                  fragment := 0 },
      chunkid := (1000 + 5 * k * 7727) % 65536,
      chunkidPrev := if k = 0 then 0 else (1000 + (5 * k - 1) * 7727) % 65536,
      chunkidPrev2 := if k = 0 then 0 else (1000 + (5 * k - 2) * 7727) % 65536,
      datacmc := (4 * k) % 36,
      now := 1000 + 4 * k }

/-- the joint state after `k` give-up runs: the SERVER of `exW` with its clock `4·k` s on -/
def bkW (k : Nat) : W := ⟨⟨bkC k, .tunnel⟩, { exW.srv with now := 1000 + 4 * k }, [], [], [], []⟩

theorem bkW_zero : bkW 0 = exW := by decide +kernel

/-- offer the frames one after the other on the clean prompt path (80 steps of fuel each); the run ends quiescent (as it
started) and the server's tun device received exactly `expect`, the client's nothing -/
def cleanAfter (w : W) (frames expect : List (List Nat)) : Bool :=
  let w' := offerAllC 0 80 w frames
  quiet 0 w && quiet 0 w' && w'.tunS == expect && w'.tunC == []

theorem cleanAfter_tunS {w : W} {frames expect : List (List Nat)} (h : cleanAfter w frames expect = true) :
    (offerAllC 0 80 w frames).tunS = expect := by
  unfold cleanAfter at h
  simp only [Bool.and_eq_true, beq_iff_eq] at h
  exact h.1.2

/-- TEST (kernel-evaluated): the links of the chain -/
theorem bk_link0 : runSched blackoutEvUp 9 (step (bkW 0) (.offerC (fA 0))) = bkW 1 := by
  rw [runSched_fast, step_fast]; decide +kernel
theorem bk_link1 : runSched blackoutEvUp 9 (step (bkW 1) (.offerC (fA 1))) = bkW 2 := by
  rw [runSched_fast, step_fast]; decide +kernel
theorem bk_link2 : runSched blackoutEvUp 9 (step (bkW 2) (.offerC (fA 2))) = bkW 3 := by
  rw [runSched_fast, step_fast]; decide +kernel
theorem bk_link3 : runSched blackoutEvUp 9 (step (bkW 3) (.offerC (fA 3))) = bkW 4 := by
  rw [runSched_fast, step_fast]; decide +kernel

/-! `k` give-up runs from `exW` (no further evaluation: the links composed) -/

theorem bk_chain3 : giveupRunUp [fA 0, fA 1, fA 2] exW = bkW 3 := by
  rw [← bkW_zero]
  simp only [giveupRunUp, bk_link0, bk_link1, bk_link2]

theorem bk_chain4 : giveupRunUp [fA 0, fA 1, fA 2, fA 3] exW = bkW 4 := by
  rw [← bkW_zero]
  simp only [giveupRunUp, bk_link0, bk_link1, bk_link2, bk_link3]

theorem fA_ok (i : Nat) (hi : i < 8) : fA i ≠ [] ∧ (fA i).length < 65536 ∧ Codec.Bytes (fA i) := by
  have h : ∀ i, i < 8 → fA i ≠ [] ∧ (fA i).length < 65536 ∧ (∀ b ∈ fA i, b < 256) := by decide +kernel
  exact h i hi

theorem fA_ok4 : ∀ f ∈ [fA 0, fA 1, fA 2, fA 3], f ≠ [] ∧ f.length < 65536 ∧ Codec.Bytes f := by
  intro f hf
  simp only [List.mem_cons, List.not_mem_nil, or_false] at hf
  rcases hf with rfl | rfl | rfl | rfl
  · exact fA_ok 0 (by omega)
  · exact fA_ok 1 (by omega)
  · exact fA_ok 2 (by omega)
  · exact fA_ok 3 (by omega)

theorem exW_quietDS : QuietImmDS exP 0 0 1 1 exW := quietImmDS_of_quietImm ex_quiescent

/-- `giveup_run_up_imm` applies to `exW` and the frame `fA 0`; the state it describes is `bkW 1`, which therefore is
quiescent, desynchronised by one, with slack 5 resp. 2 -/
example : GaveUp exP exW (bkW 1) ∧ QuietImmDS exP 1 0 5 2 (bkW 1) := by
  obtain ⟨h1, h2, h3⟩ := fA_ok 0 (by omega)
  have := giveup_run_up_imm exP_ok exW_quietDS (fA 0) h1 h2 h3 (by omega) (by omega) (by decide +kernel) (by decide +kernel)
  rw [← bkW_zero, bk_link0] at this
  rw [← bkW_zero]
  exact this

/-- `giveup_runs_up_imm` applies to `exW` and four frames: `bkW 4` is quiescent, the client FOUR sequence numbers ahead of the
server (the first value for which the next new packet falls into the server's window of "recent duplicates"), slack 17
resp. 5 -/
theorem bkW4_quiet : GaveUpN exW (bkW 4) 4 ∧ QuietImmDS exP 4 0 17 5 (bkW 4) := by
  have := giveup_runs_up_imm exP_ok [fA 0, fA 1, fA 2, fA 3] fA_ok4 exW_quietDS (by decide) (by decide) (by decide +kernel)
    (by decide +kernel)
  rw [bk_chain4] at this
  exact this

/-- a desynchronised state is not a `QuietImm` state: the clean-path theorems do not apply to it as they stand -/
example : ¬ QuietImm exP (bkW 4) := by
  intro h
  have := h.syncu
  revert this
  decide +kernel

/-!
### the DOWNSTREAM give-up run in immediate mode, TESTS (kernel-evaluated runs
on `exW`; the general theorem is `giveup_run_down_imm`, `Lemmas/C02rG2.lean`).

A frame offered to the server while every downstream datagram is lost (`blackoutEvDown`).  The client polls every
`selecttimeout` seconds (`tickC`: a ping), the ping arrives (`deliverUp`: `lastPkt` refreshed), the answer — the fragment —
is lost (`dropDown`).
* A packet that fits ONE fragment is sent exactly once: `send_chunk_or_dataless` forgets it at once ("whole packet was sent
  in one chunk, don't wait for ack").  3 steps, `selecttimeout` seconds.
* A longer packet: the first fragment is sent on each of 6 polls (`outfragresent` 1 … 6), the 7th poll finds
  `outfragresent > 5`, drops the packet (`scDropResent`) and is answered without data.  21 steps, `7·selecttimeout` seconds.
Either way: nothing reaches the client's tun device, the client's `inpkt` has not moved, the server's `outpacket.seqno` is
ONE ahead of the client's `inpkt.seqno`, and the pair is quiescent (`World.quiet`).
-/

/-- what the tests check of the state `w` reached from `w0` after `secs` seconds -/
def downGaveUp (w0 w : W) (secs : Nat) : Bool :=
  quiet 0 w0 && quiet 0 w && w.tunC == w0.tunC && w.tunS == w0.tunS &&
  w.cs.c.inpkt == w0.cs.c.inpkt && w.cs.c.outpkt.seqno == w0.cs.c.outpkt.seqno &&
  (Server.getUser w.srv 0).outpacket.seqno == ((Server.getUser w0.srv 0).outpacket.seqno + 1) % 8 &&
  (Server.getUser w.srv 0).outpacket.len == 0 && (Server.getUser w.srv 0).outfragresent == 0 &&
  (Server.getUser w.srv 0).inpacket == (Server.getUser w0.srv 0).inpacket &&
  w.cs.c.now == w0.cs.c.now + secs && w.srv.now == w0.srv.now + secs &&
  (Server.getUser w.srv 0).lastPkt == w0.srv.now + secs &&            -- refreshed by the last poll
  w.cs.c.lastdownstreamtime == w0.cs.c.lastdownstreamtime            -- NOT refreshed

/-- TEST one fragment (28 bytes): 3 steps, 1 s (`selecttimeout = 1`) -/
theorem test_giveup_down_1 : downGaveUp exW (runSched blackoutEvDown 3 (step exW (.offerS (demoFrame 2 4)))) 1 = true := by
  decide +kernel

/-- … and not quiescent before -/
theorem test_giveup_down_1_exact :
    quiet 0 (runSched blackoutEvDown 2 (step exW (.offerS (demoFrame 2 4)))) = false := by decide +kernel

/-- TEST two fragments (54 bytes, fragment size 30): 21 steps, 7 s; the server's resend counter after the 6th poll is 6 -/
theorem test_giveup_down_2 : downGaveUp exW (runSched blackoutEvDown 21 (step exW (.offerS (demoFrame 2 30)))) 7 = true := by
  rw [runSched_fast]; decide +kernel

end Iodine.C02L
