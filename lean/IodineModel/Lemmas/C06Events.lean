import IodineModel.Client.State
/-
The three predicates on the events of the client machines that the statements of Props/C06Session.lean read: what an event of the
tunnel phase may be (`C06.TunEventOk`, established by Lemmas/C06Sa.lean), what an event of the handshake may be (`C06.HsEventOk`,
Lemmas/C06Sb.lean), and what counts as sending (`C06.IsTx`, Lemmas/C06Sc.lean).  They are specification vocabulary; they stand
here, below the lemma files, because those files are stated with them and Props/C06Session.lean imports those files.
-/
namespace Iodine.C06
open Iodine.Client

/-- what an event of the tunnel phase may be: a frame that came out of `out[64*1024]` (handed to `write_tun`), a datagram built in
`send_raw`'s `packet[4096]`, a query; never a shell command -/
def TunEventOk : CEvent → Prop
  | .tunw f => f.length ≤ 65536
  | .rawtx b => b.length ≤ 4096
  | .query _ _ _ => True
  | .sys _ => False

/-- what an event of the handshake may be (shell commands: see `handshake_commands_validated`): never a tun write; the raw login
frame fits `packet[4096]` -/
def HsEventOk : CEvent → Prop
  | .tunw _ => False
  | .rawtx b => b.length ≤ 4096
  | _ => True

/-- a datagram leaves the process: a DNS query or a raw frame -/
def IsTx : CEvent → Prop
  | .query _ _ _ => True
  | .rawtx _ => True
  | _ => False

end Iodine.C06
