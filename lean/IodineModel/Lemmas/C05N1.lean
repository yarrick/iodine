import IodineModel.Lemmas.SrvC04f
import IodineModel.Lemmas.C02b
import IodineModel.Lemmas.HandlerCases
/-
For C05 "established sessions continue" (non-interference over runs).  `Agree u s t`: two server states coincide on slot `u`, clock
and configuration; `dataOf u`: the tunnel-data answers of session `u` among the events.  The downstream machinery is slot-local
(read off its Session-level forms in Lemmas/C02s1), the top of the loop and the sweep depend on slot `u`, the clock and
`created_users` only: so agreement and equal `dataOf u` after the two handler phases carry over to the whole iteration, whatever
the two inputs (`agree_iteration`).  `Tg U evs` says WHICH sessions the tunnel-data answers among `evs` belong to; the two handlers
that hand a completed upstream packet to another client write, besides the named slot, only the `find_user_by_ip` owner of its
destination (`DataFwd`, `RawFwd`).  Hence the handler phase of a FOREIGN input leaves a live slot `u` bound to another address
alone (`foreign_dispatch`), one foreign iteration is like a time-out for `u` (`foreign_iteration`), and so is a run (`foreign_run`).
-/
namespace Iodine.C05N
open Iodine Iodine.Server Iodine.Gen Iodine.C04L

structure Agree (u : Nat) (s t : Srv) : Prop where
  user : getUser s u = getUser t u
  now : s.now = t.now
  cfg : s.cfg = t.cfg
  l1 : u < s.users.length
  l2 : u < t.users.length

theorem Agree.refl {u : Nat} {s : Srv} (h : u < s.users.length) : Agree u s s := ⟨rfl, rfl, rfl, h, h⟩

theorem Agree.symm {u : Nat} {s t : Srv} (h : Agree u s t) : Agree u t s :=
  ⟨h.user.symm, h.now.symm, h.cfg.symm, h.l2, h.l1⟩

theorem Agree.trans {u : Nat} {s t r : Srv} (h : Agree u s t) (k : Agree u t r) : Agree u s r :=
  ⟨h.user.trans k.user, h.now.trans k.now, h.cfg.trans k.cfg, h.l1, k.l2⟩

theorem Agree.set {u : Nat} {s t : Srv} (h : Agree u s t) (f g : Session → Session)
    (e : f (getUser s u) = g (getUser t u)) : Agree u (setUser s u f) (setUser t u g) := by
  refine ⟨?_, h.now, h.cfg, by rw [setUser_len]; exact h.l1, by rw [setUser_len]; exact h.l2⟩
  rw [getUser_setUser_self _ _ _ h.l1, getUser_setUser_self _ _ _ h.l2, e]

theorem Agree.setf {u : Nat} {s t : Srv} (h : Agree u s t) (f : Session → Session) :
    Agree u (setUser s u f) (setUser t u f) := h.set f f (by rw [h.user])

theorem Agree.frames {u : Nat} {s t s' t' : Srv} {er er' : Session → Session} {U U' : Nat → Prop}
    (h : Agree u s t) (fs : Frame er U s s') (ft : Frame er' U' t t') (hu : ¬ U u) (hu' : ¬ U' u) :
    Agree u s' t' :=
  ⟨by rw [fs.other u hu, ft.other u hu', h.user], by rw [fs.now, ft.now, h.now], by rw [fs.cfg, ft.cfg, h.cfg],
   by rw [fs.len]; exact h.l1, by rw [ft.len]; exact h.l2⟩

theorem Agree.frameL {u : Nat} {s t s' : Srv} {er : Session → Session} {U : Nat → Prop}
    (h : Agree u s t) (fs : Frame er U s s') (hu : ¬ U u) : Agree u s' t :=
  h.frames fs (Frame.refl er (fun _ => False) t) hu (fun x => x)

theorem Agree.frameR {u : Nat} {s t t' : Srv} {er : Session → Session} {U : Nat → Prop}
    (h : Agree u s t) (ft : Frame er U t t') (hu : ¬ U u) : Agree u s t' :=
  h.frames (Frame.refl er (fun _ => False) s) ft (fun x => x) hu

/-! ### the tunnel-data answers of session `u` -/

/-- is `e` an answer produced by one of the four data-path call sites of `write_dns` for session `u`? -/
def isFor (u : Nat) : Event → Bool
  | .ans _ _ _ _ _ _ (.chunk v) => v == u
  | .ans _ _ _ _ _ _ (.dupe v) => v == u
  | .ans _ _ _ _ _ _ (.cached v) => v == u
  | .ans _ _ _ _ _ _ (.qmem v) => v == u
  | _ => false

def dataOf (u : Nat) (evs : List Event) : List Event := evs.filter (isFor u)

@[simp] theorem dataOf_nil (u : Nat) : dataOf u [] = [] := rfl
@[simp] theorem dataOf_append (u : Nat) (a b : List Event) : dataOf u (a ++ b) = dataOf u a ++ dataOf u b :=
  List.filter_append ..

def Tg (U : Nat → Prop) (evs : List Event) : Prop := ∀ e ∈ evs, ∀ v, isFor v e = true → U v

theorem Tg.nil (U : Nat → Prop) : Tg U [] := fun _ h => by cases h
theorem Tg.append {U : Nat → Prop} {a b : List Event} (ha : Tg U a) (hb : Tg U b) : Tg U (a ++ b) :=
  List.forall_mem_append.2 ⟨ha, hb⟩
theorem Tg.mono {U V : Nat → Prop} {a : List Event} (ha : Tg U a) (h : ∀ v, U v → V v) : Tg V a :=
  fun e he v hv => h v (ha e he v hv)
theorem Tg.one {U : Nat → Prop} {e : Event} (h : ∀ v, isFor v e = true → U v) : Tg U [e] := List.forall_mem_singleton.2 h
theorem Tg.single {U : Nat → Prop} {e : Event} (h : ∀ v, isFor v e = false) : Tg U [e] :=
  .one fun v hv => by rw [h v] at hv; cases hv

theorem Tg.dataOf_nil {U : Nat → Prop} {a : List Event} (ha : Tg U a) (u : Nat) (hu : ¬ U u) : dataOf u a = [] := by
  unfold dataOf
  rw [List.filter_eq_nil_iff]
  intro e he h
  exact hu (ha e he u h)

theorem tg_scAnswer (q : Query) (pkt : List Nat) (dn u : Nat) : Tg (· = u) (scAnswer q pkt dn u).2 := by
  intro e he v hv
  rcases scAnswer_events q pkt dn u e he with rfl | ⟨_, rfl⟩
  · simp only [isFor, beq_iff_eq] at hv; exact hv.symm
  · simp only [isFor, beq_iff_eq] at hv; exact hv.symm

theorem tg_sendChunkOrDataless (s : Srv) (u : Nat) (w : QSel) : Tg (· = u) (sendChunkOrDataless s u w).1.2 := by
  obtain ⟨pkt, dn, h⟩ := sendChunkOrDataless_events s u w
  rw [h]; exact tg_scAnswer _ _ _ _

/-! ### slot-locality of the downstream machinery -/

section Local
variable {u : Nat} {s t : Srv}

theorem Agree.put (h : Agree u s t) (x : Session) : Agree u (C02L.putUser s u x) (C02L.putUser t u x) :=
  h.set _ _ rfl

theorem agree_saveToOutpacketq (h : Agree u s t) (d : List Nat) (n : Nat) :
    Agree u (saveToOutpacketq s u d n).1 (saveToOutpacketq t u d n).1 := by
  unfold saveToOutpacketq
  dsimp only
  rw [h.user]
  exact ite_both₂ (R := fun a b : Srv × Bool => Agree u a.1 b.1) h (h.setf _)

/- The functions of the data path act on slot `u` alone: `F s u = putUser s u (FSess (getUser s u) …)` (Lemmas/C02s1).
Two states that agree on the slot therefore run the same slot function on the same slot. -/

theorem agree_sendChunkOrDataless (h : Agree u s t) (w : QSel) :
    Agree u (sendChunkOrDataless s u w).1.1 (sendChunkOrDataless t u w).1.1 ∧
      (sendChunkOrDataless s u w).1.2 = (sendChunkOrDataless t u w).1.2 ∧
      (sendChunkOrDataless s u w).2 = (sendChunkOrDataless t u w).2 := by
  rw [C02L.sendChunkOrDataless_eq s u w h.l1, C02L.sendChunkOrDataless_eq t u w h.l2, h.user]
  exact ⟨h.put _, rfl, rfl⟩

end Local

/-- the state the handlers of an iteration run in: top of loop done, clock advanced to `n` -/
def pre (s : Srv) (n : Nat) : Srv := { (topOfLoop s).1 with now := n }

/-- `tun_fd` is in the read set of the iteration that starts in `s` -/
def tunsel (s : Srv) : Bool := (topOfLoop s).2.2

theorem next_eq (s : Srv) (st : Step) : next s st = (body (pre s st.now) st.inp (tunsel s)).1 := rfl
theorem out_eq (s : Srv) (st : Step) : out s st = (body (pre s st.now) st.inp (tunsel s)).2 := rfl

@[simp] theorem pre_now (s : Srv) (n : Nat) : (pre s n).now = n := rfl
@[simp] theorem pre_cfg (s : Srv) (n : Nat) : (pre s n).cfg = s.cfg := rfl
theorem pre_len (s : Srv) (n : Nat) : (pre s n).users.length = s.users.length :=
  length_clearNewFrom _ _ _ _

theorem getUser_pre (s : Srv) (n k : Nat) :
    getUser (pre s n) k =
      if k < s.cfg.createdUsers ∧ live (getUser s k) s.now ∧ k < s.users.length then { getUser s k with qsNew := false }
      else getUser s k := Server.getUser_topOfLoop s k

theorem agree_pre {u : Nat} {s t : Srv} (h : Agree u s t) (n : Nat) : Agree u (pre s n) (pre t n) := by
  refine ⟨?_, rfl, h.cfg, by rw [pre_len]; exact h.l1, by rw [pre_len]; exact h.l2⟩
  rw [getUser_pre, getUser_pre, h.user, h.now, h.cfg]
  simp only [h.l1, h.l2, and_true]

/-! ### the sweep -/

def sweepStep (s : Srv) (i : Nat) : Res :=
  if live (getUser s i) s.now ∧ (getUser s i).qs.id ≠ 0 ∧ (getUser s i).conn = .dnsNull ∧ !(getUser s i).qsNew then
    (sendChunkOrDataless s i .qs).1
  else (s, [])

theorem sweepFrom_succ (n i : Nat) (s : Srv) :
    sweepFrom (n + 1) i s = andThen (sweepStep s i) (sweepFrom n (i + 1)) := rfl

theorem frame_sweepStep (s : Srv) (i : Nat) : Frame erData (· = i) s (sweepStep s i).1 := by
  unfold sweepStep
  split
  · exact frame_sendChunkOrDataless s i .qs
  · exact Frame.refl _ _ _

theorem tg_sweepStep (s : Srv) (i : Nat) : Tg (· = i) (sweepStep s i).2 := by
  unfold sweepStep
  split
  · exact tg_sendChunkOrDataless s i .qs
  · exact Tg.nil _

theorem agree_sweepStep {u : Nat} {s t : Srv} (h : Agree u s t) (i : Nat) :
    Agree u (sweepStep s i).1 (sweepStep t i).1 ∧ dataOf u (sweepStep s i).2 = dataOf u (sweepStep t i).2 := by
  by_cases hi : i = u
  · subst hi
    unfold sweepStep
    rw [h.user, h.now]
    by_cases hc : live (getUser t i) t.now = true ∧ (getUser t i).qs.id ≠ 0 ∧ (getUser t i).conn = Conn.dnsNull ∧
        (!(getUser t i).qsNew) = true
    · rw [if_pos hc, if_pos hc]
      have k := agree_sendChunkOrDataless h .qs
      exact ⟨k.1, by rw [k.2.1]⟩
    · rw [if_neg hc, if_neg hc]
      exact ⟨h, rfl⟩
  · have hu : ¬ (u = i) := fun e => hi e.symm
    refine ⟨h.frames (frame_sweepStep s i) (frame_sweepStep t i) hu hu, ?_⟩
    rw [(tg_sweepStep s i).dataOf_nil u hu, (tg_sweepStep t i).dataOf_nil u hu]

theorem agree_sweepFrom {u : Nat} : ∀ (n i : Nat) (s t : Srv), Agree u s t →
    Agree u (sweepFrom n i s).1 (sweepFrom n i t).1 ∧ dataOf u (sweepFrom n i s).2 = dataOf u (sweepFrom n i t).2 := by
  intro n
  induction n with
  | zero => intro i s t h; exact ⟨h, rfl⟩
  | succ n ih =>
    intro i s t h
    rw [sweepFrom_succ, sweepFrom_succ, andThen_fst, andThen_fst, andThen_snd, andThen_snd, dataOf_append, dataOf_append]
    have k := agree_sweepStep h i
    have k2 := ih (i + 1) _ _ k.1
    exact ⟨k2.1, by rw [k.2, k2.2]⟩

theorem agree_sweep {u : Nat} {s t : Srv} (h : Agree u s t) :
    Agree u (sweep s).1 (sweep t).1 ∧ dataOf u (sweep s).2 = dataOf u (sweep t).2 := by
  unfold sweep
  rw [h.cfg]
  exact agree_sweepFrom _ _ _ _ h

/-! ### body, iteration -/

theorem dataOf_body (u : Nat) (s : Srv) (inp : Input) (ts : Bool) :
    dataOf u (body s inp ts).2 = dataOf u (dispatch s inp ts).2 ++ dataOf u (sweep (dispatch s inp ts).1).2 := by
  unfold body
  cases inp <;> dsimp only
  case tun f =>
    cases ts
    · simp only [andThen_snd, andThen_fst, dataOf_append, Bool.false_eq_true, if_false]
      simp [dataOf, isFor]
    · simp only [andThen_snd, andThen_fst, dataOf_append, if_true]
      simp [dataOf, isFor]
  all_goals
    simp only [andThen_snd, andThen_fst, dataOf_append]
    simp [dataOf, isFor]

/-- **one iteration, any two inputs**: handler phases that end in states agreeing on slot `u` and produce the
same tunnel-data answers for `u`, give agreement after the iteration and the same tunnel-data answers for `u` -/
theorem agree_iteration {u : Nat} {s t : Srv} (inp inp' : Input) (n : Nat)
    (hd : Agree u (dispatch (pre s n) inp (tunsel s)).1 (dispatch (pre t n) inp' (tunsel t)).1 ∧
      dataOf u (dispatch (pre s n) inp (tunsel s)).2 = dataOf u (dispatch (pre t n) inp' (tunsel t)).2) :
    Agree u (next s ⟨inp, n⟩) (next t ⟨inp', n⟩) ∧ dataOf u (out s ⟨inp, n⟩) = dataOf u (out t ⟨inp', n⟩) := by
  rw [next_eq, next_eq, out_eq, out_eq, body_fst, body_fst, dataOf_body, dataOf_body]
  have k := agree_sweep hd.1
  exact ⟨k.1, by rw [hd.2, k.2]⟩

theorem tg_of_toSess {x : Session} {t : Nat} {evs : List Event} (h : ∀ e ∈ evs, ToSess x t e) : Tg (· = t) evs := by
  intro e he v hv
  rcases h e he with ⟨_, _, _, _, _, rfl⟩ | ⟨_, _, _, _, _, rfl⟩ | ⟨_, _, _, _, _, rfl⟩ | ⟨_, _, _, _, _, rfl⟩ | ⟨_, rfl⟩
  all_goals first
    | (simp only [isFor, beq_iff_eq] at hv; exact hv.symm)
    | cases hv

/-! ### handle_full_packet -/

/-- `handle_full_packet(w)` in state `s` hands the packet to session `v` -/
def FwdTo (s : Srv) (w v : Nat) : Prop :=
  ∃ out, fullPacketOut s w = some out ∧ findUserByIp s (ipDst out) = some v

theorem tg_handleFullPacket (s : Srv) (w : Nat) : Tg (FwdTo s w) (handleFullPacket s w).2 := by
  cases h : fullPacketOut s w with
  | none => rw [handleFullPacket_dropped s w h]; exact Tg.nil _
  | some out =>
    cases hn : findUserByIp s (ipDst out) with
    | none => rw [handleFullPacket_toTun s w out h hn]; exact Tg.single (fun _ => rfl)
    | some t =>
      rw [handleFullPacket_forward s w out t h hn]
      exact (tg_of_toSess (deliverToUser_toSess s t _ _)).mono (fun v hv => ⟨out, h, hv ▸ hn⟩)

/-! ### the DNS data handler -/

/-- the DNS data request with payload `inb`, handled for session `u`, completes an upstream packet that is handed to
session `v` -/
def DataFwd (s : Srv) (u : Nat) (inb : List Nat) (v : Nat) : Prop :=
  ((dataPre s u inb).2.1 = true ∧ (dataPre s u inb).2.2 = true) ∧ FwdTo (dataPre s u inb).1 u v

theorem tg_stepRes {s : Srv} {u : Nat} {r : Res} (h : StepRes s u r) : Tg (· = u) r.2 :=
  h.elim (P := fun r => Tg (· = u) r.2) (Tg.nil _) (tg_sendChunkOrDataless s u) (Tg.nil _)

/-- the data handler after the duplicate filters writes `u` and the slot the completed packet is handed to, and answers
these two sessions only -/
theorem dataFresh_sharp (s : Srv) (u : Nat) (q : Query) (inb : List Nat) :
    Frame erData (fun v => v = u ∨ DataFwd s u inb v) s (dataFresh s u q inb).1 ∧
      Tg (fun v => v = u ∨ DataFwd s u inb v) (dataFresh s u q inb).2 := by
  rw [dataFresh_eq]
  generalize hp : dataPre s u inb = p
  have hfp : Frame erIn (· = u) s p.1 := hp ▸ frame_dataPre s u inb
  have hfw : ∀ v, (p.2.1 = true ∧ p.2.2 = true) ∧ FwdTo p.1 u v → DataFwd s u inb v := by
    intro v hv; unfold DataFwd; rw [hp]; exact hv
  unfold dataRest
  extract_lets r3 r4 r5 s6 r7
  have hm : ∀ v, v = u → v = u ∨ DataFwd s u inb v := fun v hv => Or.inl hv
  have f2 : Frame erData (fun v => v = u ∨ DataFwd s u inb v) s p.1 :=
    (hfp.coarsen erData_erIn).mono hm
  have f3 : Frame erData (fun v => v = u ∨ DataFwd s u inb v) s r3.1 ∧
      Tg (fun v => v = u ∨ DataFwd s u inb v) r3.2 := by
    unfold r3
    by_cases hq : p.2.1 = true ∧ p.2.2 = true
    · rw [if_pos hq]
      refine ⟨f2.trans ((frame_handleFullPacket p.1 u).mono ?_), (tg_handleFullPacket p.1 u).mono ?_⟩
      · intro v hv
        rcases hv with hv | hv
        · exact Or.inl hv
        · exact Or.inr (hfw v ⟨hq, hv⟩)
      · intro v hv; exact Or.inr (hfw v ⟨hq, hv⟩)
    · rw [if_neg hq]; exact ⟨f2, Tg.nil _⟩
  have f4 := f3.1.trans ((frame_dataStepQs r3.1 u).mono hm)
  have f5 := f4.trans ((frame_dataStepQ r4.1.1 u p.2.1 p.2.2 r4.2).mono hm)
  have f6 := f5.trans ((frame_saveQuery r5.1.1 u q).mono hm)
  refine ⟨f6.trans ((frame_dataStepFinal s6 u p.2.1 p.2.2 r5.2).mono hm), ?_⟩
  exact ((f3.2.append ((tg_stepRes (dataStepQs_cases r3.1 u)).mono hm)).append
    ((tg_stepRes (dataStepQ_cases _ u _ _ _)).mono hm)).append ((tg_stepRes (dataStepFinal_cases s6 u _ _ _)).mono hm)

theorem tg_answerFromDnscache (s : Srv) (u : Nat) (q : Query) (e : Event) (h : answerFromDnscache s u q = some e) :
    Tg (· = u) [e] := by
  obtain ⟨_, _, _, rfl⟩ := answerFromDnscache_some h
  exact .one fun _ hv => (beq_iff_eq.1 hv).symm

theorem tg_qmem (q : Query) (u : Nat) : Tg (· = u) [writeDns q (ascii "x") chT (.qmem u)] :=
  .one fun _ hv => (beq_iff_eq.1 hv).symm

/-- the slots the handler of command `cmd` writes and the sessions it answers: the named one if the request is
accepted, and for upstream data the session a completed packet is handed to -/
def cmdTouches (s : Srv) (q : Query) (dlen : Nat) (cmd : Cmd) (v : Nat) : Prop :=
  rejected s q (uidOf q dlen cmd) cmd = false ∧
    (v = (uidOf q dlen cmd).toNat ∨ (cmd = .data ∧ DataFwd s (uidOf q dlen .data).toNat (inbOf q dlen) v))

theorem handleData_sharp (s : Srv) (q : Query) (dlen : Nat) :
    Frame erData (cmdTouches s q dlen .data) s (handleData s q dlen (inbOf q dlen)).1 ∧
      Tg (cmdTouches s q dlen .data) (handleData s q dlen (inbOf q dlen)).2 := by
  have hm : checkAuthenticatedUserAndIp s (uidOf q dlen .data) q = false →
      ∀ v, v = (uidOf q dlen .data).toNat → cmdTouches s q dlen .data v := fun hr v hv => ⟨hr, Or.inl hv⟩
  rcases handleData_cases s q dlen (inbOf q dlen) with h | h | ⟨_, hr, ⟨e, he, h⟩ | h | ⟨s', hd, h⟩ | h⟩ <;> rw [h]
  · exact ⟨Frame.refl _ _ _, Tg.nil _⟩
  · exact ⟨Frame.refl _ _ _, Tg.single fun _ => rfl⟩
  · exact ⟨Frame.refl _ _ _, (tg_answerFromDnscache _ _ _ _ he).mono (hm hr)⟩
  · exact ⟨Frame.refl _ _ _, (tg_qmem q _).mono (hm hr)⟩
  · exact ⟨(frame_rememberDuplicate _ _ _ _ hd).mono (hm hr), Tg.nil _⟩
  · have k := dataFresh_sharp s (uidOf q dlen .data).toNat q (inbOf q dlen)
    have hm2 : ∀ v, v = (uidOf q dlen .data).toNat ∨ DataFwd s (uidOf q dlen .data).toNat (inbOf q dlen) v →
        cmdTouches s q dlen .data v := fun v hv => hv.elim (hm hr v) fun hv => ⟨hr, Or.inr ⟨rfl, hv⟩⟩
    exact ⟨k.1.mono hm2, k.2.mono hm2⟩

theorem tg_pingFresh (s : Srv) (u : Nat) (q : Query) (unp : List Nat) : Tg (· = u) (pingFresh s u q unp).2 := by
  rw [pingFresh_eq]
  exact ((tg_stepRes (pingQs_cases _ u)).append (tg_stepRes (pingQ_cases _ u))).append (tg_stepRes (pingNew_cases _ u _))

theorem tg_handlePing (s : Srv) (q : Query) (dlen : Nat) :
    Tg (cmdTouches s q dlen .ping) (handlePing s q (inbOf q dlen)).2 := by
  have hm : checkAuthenticatedUserAndIp s (uidOf q dlen .ping) q = false →
      ∀ v, v = (uidOf q dlen .ping).toNat → cmdTouches s q dlen .ping v := fun hr v hv => ⟨hr, Or.inl hv⟩
  rcases handlePing_cases s q (inbOf q dlen) with h | h | ⟨_, hr, ⟨e, he, h⟩ | h | ⟨s', _, h⟩ | h⟩ <;> rw [h]
  · exact Tg.nil _
  · exact Tg.single fun _ => rfl
  · exact (tg_answerFromDnscache _ _ _ _ he).mono (hm hr)
  · exact (tg_qmem q _).mono (hm hr)
  · exact Tg.nil _
  · exact (tg_pingFresh _ _ _ _).mono (hm hr)

/-! ### the handlers that only send control answers -/

theorem Tg.oneAns {U : Nat → Prop} {q : Query} {evs : List Event} (h : OneAns q evs) : Tg U evs := by
  obtain ⟨_, _, rfl⟩ := h; exact Tg.single fun _ => rfl

theorem Tg.rawAns {U : Nat → Prop} {q : Query} {u : Nat} {evs : List Event} (h : RawAns q u evs) : Tg U evs := by
  rcases h with rfl | ⟨_, _, _, rfl⟩
  · exact Tg.nil _
  · exact Tg.single fun _ => rfl

theorem tg_runCmd (s : Srv) (q : Query) (dlen : Nat) (cmd : Cmd) :
    Tg (cmdTouches s q dlen cmd) (runCmd s q dlen cmd).2 := by
  cases cmd <;> unfold runCmd <;> dsimp only
  · exact .oneAns (handleLogin_ans _ _ _)
  · exact .oneAns (handleIp_ans _ _ _)
  · exact .oneAns (handleSwitchCodec_ans _ _ _ _)
  · exact .oneAns (handleOptions_ans _ _ _ _)
  · exact .oneAns (handleFragsizeProbe_ans _ _ _ _)
  · exact .oneAns (handleSetFragsize_ans _ _ _)
  · exact tg_handlePing s q dlen
  · exact (handleData_sharp s q dlen).2

/-- the sessions a DNS query is answered for on the data path -/
def dnsTouches (s : Srv) (q : Query) (v : Nat) : Prop :=
  ∃ dlen cmd, Common.queryDatalen q.name s.cfg.topdomain = some dlen ∧ ¬ isNsA q dlen ∧ ¬ isWwwA q dlen ∧
    C16L.TunnelType q.type ∧ 2 ≤ dlen ∧ cmdOf ((inbOf q dlen).getD 0 0) = some cmd ∧ cmdTouches s q dlen cmd v

theorem tg_handleNullRequest_other (U : Nat → Prop) (s : Srv) (q : Query) (dlen : Nat) (hv : ¬ isV q dlen)
    (hc : cmdOf ((inbOf q dlen).getD 0 0) = none) : Tg U (handleNullRequest s q dlen).2 := by
  refine handleNullRequest_letter (P := fun r => Tg U r.2) s q dlen (Tg.nil _) fun _ l hl => ?_
  rw [cmdOf_eq, letterOf_of_codes hl] at hc
  cases l <;> cases hc
  · exact absurd hl hv
  · exact .oneAns (handleZ_ans _ _ _)
  · exact .oneAns (handleDownCodecCheck_ans _ _ _ _)

theorem tg_tunnelDns (s : Srv) (q : Query) : Tg (dnsTouches s q) (tunnelDns s q).2 := by
  have hA : ∀ b, Tg (dnsTouches s q) (handleARequest s q b).2 := fun b =>
    ite_both (P := fun r : Res => Tg _ r.2) (Tg.nil _) (Tg.single fun _ => rfl)
  rw [tunnelDns]
  refine ite_both (P := fun r : Res => Tg _ r.2) (Tg.nil _) ?_
  cases hd : Common.queryDatalen q.name s.cfg.topdomain with
  | none => exact ite_both (P := fun r : Res => Tg _ r.2) (Tg.single fun _ => rfl) (Tg.nil _)
  | some dlen =>
    -- only `handle_null_request` sends data-path answers
    refine ite_both' (P := fun r : Res => Tg _ r.2) (fun _ => hA _) fun hns => ite_both' (P := fun r : Res => Tg _ r.2)
      (fun _ => hA _) fun hwww => ite_both' (P := fun r : Res => Tg _ r.2) (fun hty => ?_) fun _ =>
      ite_both (P := fun r : Res => Tg _ r.2)
        (ite_both (P := fun r : Res => Tg _ r.2) (Tg.nil _) (Tg.single fun _ => rfl)) (Tg.nil _)
    by_cases h2 : 2 ≤ dlen
    · by_cases hv : isV q dlen
      · rw [handleNullRequest_V s q dlen h2 hv]; exact .oneAns (handleVersion_ans _ _ _)
      · cases hc : cmdOf ((inbOf q dlen).getD 0 0) with
        | none => exact tg_handleNullRequest_other _ s q dlen hv hc
        | some cmd =>
          rw [handleNullRequest_cmd s q dlen cmd h2 hc]
          exact (tg_runCmd s q dlen cmd).mono (fun v hv => ⟨dlen, cmd, hd, hns, hwww, hty, h2, hc, hv⟩)
    · rw [handleNullRequest, if_pos (by omega)]; exact Tg.nil _

/-- the slots a DNS query writes: as `C04L.dnsWrites`, with the forwarding case made exact -/
theorem tunnelDns_spares (s : Srv) (q : Query) (v : Nat)
    (hV : (findAvailableUser s).1 ≠ some v) (hT : ¬ dnsTouches s q v) :
    getUser (tunnelDns s q).1 v = getUser s v := by
  rcases tunnelDns_cases s q with h | ⟨dlen, hd, hns, hwww, hty, h⟩
  · exact (h erTun (fun _ => False)).other v (fun x => x)
  · rw [h]
    rcases handleNullRequest_cases s q dlen with h' | ⟨h2, hv, h'⟩ | ⟨h2, cmd, hc, h'⟩
    · rw [h']
    · rw [h']; exact (frame_handleVersion s q _).other v hV
    · rw [h']
      have hT' : ¬ cmdTouches s q dlen cmd v := fun k => hT ⟨dlen, cmd, hd, hns, hwww, hty, h2, hc, k⟩
      by_cases hcd : cmd = .data
      · subst hcd
        exact (handleData_sharp s q dlen).1.other v hT'
      · apply (frame_runCmd s q dlen cmd).other v
        intro k
        apply hT'
        refine ⟨k.1, ?_⟩
        rcases k.2 with k2 | k2
        · exact Or.inl k2
        · exact absurd k2.1 hcd

/-! ### raw mode -/

/-- what `handle_raw_data` stores in the slot before it calls `handle_full_packet` -/
def rawStore (s : Srv) (q : Query) (body : List Nat) (x : Session) : Session :=
  { x with lastPkt := s.now, q := q, inpacket := { x.inpacket with offset := 0, data := body, len := body.length } }

/-- the raw-mode data frame `body` for session `w` carries a packet that is handed to session `v` -/
def RawFwd (s : Srv) (body : List Nat) (q : Query) (w v : Nat) : Prop :=
  FwdTo (setUser s w (rawStore s q body)) w v

theorem handleRawData_sharp (s : Srv) (body : List Nat) (q : Query) (w : Nat) :
    Frame erData (fun v => checkAuthenticatedUserAndIp s w q = false ∧ (v = w ∨ RawFwd s body q w v)) s
        (handleRawData s body q w).1 ∧
      Tg (fun v => checkAuthenticatedUserAndIp s w q = false ∧ RawFwd s body q w v) (handleRawData s body q w).2 := by
  unfold handleRawData
  cases hr : checkAuthenticatedUserAndIp s w q with
  | true => rw [if_pos rfl]; exact ⟨Frame.refl _ _ _, Tg.nil _⟩
  | false =>
    rw [if_neg (by simp)]
    split
    · exact ⟨Frame.refl _ _ _, Tg.nil _⟩
    · have f1 : Frame erData (· = w) s (setUser s w (rawStore s q body)) := Frame.set erData s w _ (fun _ => rfl)
      have k1 : ∀ v, v = w → false = false ∧ (v = w ∨ RawFwd s body q w v) := fun v hv => ⟨rfl, Or.inl hv⟩
      have k2 : ∀ v, (v = w ∨ FwdTo (setUser s w (rawStore s q body)) w v) →
          false = false ∧ (v = w ∨ RawFwd s body q w v) := by
        intro v hv
        rcases hv with hv | hv
        · exact ⟨rfl, Or.inl hv⟩
        · exact ⟨rfl, Or.inr hv⟩
      exact ⟨(f1.mono k1).trans ((frame_handleFullPacket (setUser s w (rawStore s q body)) w).mono k2),
        (tg_handleFullPacket (setUser s w (rawStore s q body)) w).mono (fun v hv => ⟨rfl, hv⟩)⟩

/-- slot `u` is allocated and bound to (the family and address of) `a`, and source checking is on -/
structure Bound (s : Srv) (u : Nat) (a : Addr) : Prop where
  ck : s.cfg.checkIp = true
  act : (getUser s u).active = true
  fam : (getUser s u).host.fam = a.fam
  ip : (getUser s u).host.ip = a.ip

/-- the input does not come from `a` (tun frames are nobody's: not foreign) -/
def foreign (a : Addr) : Input → Prop
  | .q q => ¬ (q.from_.fam = a.fam ∧ q.from_.ip = a.ip)
  | .rawf src _ => ¬ (src.fam = a.fam ∧ src.ip = a.ip)
  | .bind _ => True
  | .tick => True
  | .tun _ => False

/-- the input is a raw-mode login frame for `u` that `handle_raw_login` accepts -/
def rawLoginFor (s : Srv) (inp : Input) (u : Nat) : Prop :=
  match inp with
  | .rawf _ bytes =>
    RAW_HDR_LEN ≤ (bytes.take 65536).length ∧ (bytes.take 65536).take 3 = rawHeader.take 3 ∧
    ((bytes.take 65536).getD 3 0 &&& RAW_HDR_CMD_MASK) = RAW_HDR_CMD_LOGIN ∧
    ((bytes.take 65536).getD 3 0 &&& RAW_HDR_USR_MASK) = u ∧ rawLoginOk s ((bytes.take 65536).drop RAW_HDR_LEN) u
  | _ => False

/-- the handler phase for `inp` hands a completed tunnelled packet of another session to session `u` -/
def fwdTo (s : Srv) (inp : Input) (u : Nat) : Prop :=
  match inp with
  | .q q => ∃ dlen, Common.queryDatalen q.name s.cfg.topdomain = some dlen ∧ 2 ≤ dlen ∧
      cmdOf ((inbOf q dlen).getD 0 0) = some .data ∧ rejected s q (uidOf q dlen .data) .data = false ∧
      DataFwd s (uidOf q dlen .data).toNat (inbOf q dlen) u
  | .rawf src bytes =>
    RAW_HDR_LEN ≤ (bytes.take 65536).length ∧ (bytes.take 65536).take 3 = rawHeader.take 3 ∧
    ((bytes.take 65536).getD 3 0 &&& RAW_HDR_CMD_MASK) = RAW_HDR_CMD_DATA ∧
    checkAuthenticatedUserAndIp s (((bytes.take 65536).getD 3 0 &&& RAW_HDR_USR_MASK : Nat) : Int) (rawQuery src) = false ∧
    RawFwd s ((bytes.take 65536).drop RAW_HDR_LEN) (rawQuery src) ((bytes.take 65536).getD 3 0 &&& RAW_HDR_USR_MASK) u
  | _ => False

theorem foreign_checkUserAndIp {s : Srv} {u : Nat} {a : Addr} (hb : Bound s u a) (q : Query)
    (hf : ¬ (q.from_.fam = a.fam ∧ q.from_.ip = a.ip)) (uid : Int) (hu : uid.toNat = u) :
    checkUserAndIp s uid q = true := by
  cases h : checkUserAndIp s uid q with
  | true => rfl
  | false =>
    exfalso
    obtain ⟨_, _, _, _, _, c5⟩ := checkUserAndIp_false s uid q h
    rw [hu] at c5
    have := c5 hb.ck
    exact hf ⟨this.1.trans hb.fam, this.2.trans hb.ip⟩

theorem foreign_rejected {s : Srv} {u : Nat} {a : Addr} (hb : Bound s u a) (q : Query)
    (hf : ¬ (q.from_.fam = a.fam ∧ q.from_.ip = a.ip)) (uid : Int) (hu : uid.toNat = u) (cmd : Cmd) :
    rejected s q uid cmd = true :=
  rejected_of_check s q uid cmd (foreign_checkUserAndIp hb q hf uid hu)

theorem live_not_allocated {s : Srv} {u : Nat} (hact : (getUser s u).active = true)
    (hl : ¬ (getUser s u).lastPkt + 60 < s.now) : (findAvailableUser s).1 ≠ some u := by
  intro h
  have := ((findAvailableUser_some_iff s u).1 h).2.1.1
  rcases this with h1 | h1
  · rw [hact] at h1; cases h1
  · exact hl h1

/-- **a foreign DNS query** leaves slot `u` alone and is not answered with tunnel data of `u` -/
theorem foreign_tunnelDns {s : Srv} {u : Nat} {a : Addr} (hb : Bound s u a)
    (hl : ¬ (getUser s u).lastPkt + 60 < s.now) (q : Query)
    (hf : ¬ (q.from_.fam = a.fam ∧ q.from_.ip = a.ip)) (hw : ¬ fwdTo s (.q q) u) :
    getUser (tunnelDns s q).1 u = getUser s u ∧ dataOf u (tunnelDns s q).2 = [] := by
  have hT : ¬ dnsTouches s q u := by
    rintro ⟨dlen, cmd, hd, _, _, _, h2, hc, hrej, ht⟩
    rcases ht with ht | ⟨hcd, ht⟩
    · have := foreign_rejected hb q hf (uidOf q dlen cmd) ht.symm cmd
      rw [this] at hrej; cases hrej
    · subst hcd
      exact hw ⟨dlen, hd, h2, hc, hrej, ht⟩
  exact ⟨tunnelDns_spares s q u (live_not_allocated hb.act hl) hT, (tg_tunnelDns s q).dataOf_nil u hT⟩

theorem handleRawPing_refused (s : Srv) (q : Query) (w : Nat) (h : checkAuthenticatedUserAndIp s w q = true) :
    handleRawPing s q w = (s, []) := by
  unfold handleRawPing; rw [if_pos h]

/-- **a foreign raw-mode datagram** leaves slot `u` alone and is not answered with tunnel data of `u` -/
theorem foreign_rawDecode {s : Srv} {u : Nat} {a : Addr} (hb : Bound s u a) (src : Addr) (bytes : List Nat)
    (hf : ¬ (src.fam = a.fam ∧ src.ip = a.ip)) (hlog : ¬ rawLoginFor s (.rawf src bytes) u)
    (hw : ¬ fwdTo s (.rawf src bytes) u) (r : Res) (h : rawDecode s (bytes.take 65536) src = some r) :
    getUser r.1 u = getUser s u ∧ dataOf u r.2 = [] := by
  have hck : ∀ w : Nat, w = u → checkAuthenticatedUserAndIp s (w : Int) (rawQuery src) = true := by
    intro w hwu
    exact checkAuth_of_check s _ _ (foreign_checkUserAndIp hb (rawQuery src) hf (w : Int) (by simpa using hwu))
  obtain ⟨h1, h2, hc⟩ := rawDecode_cases h
  rcases hc with ⟨h3, rfl⟩ | ⟨h4, rfl⟩ | ⟨_, rfl⟩ | rfl
  · refine ⟨(frame_handleRawLogin s _ _ _).other u ?_,
      (Tg.rawAns (U := fun _ => False) (handleRawLogin_ans s _ _ _)).dataOf_nil u (fun x => x)⟩
    rintro ⟨hu, hok⟩
    exact hlog ⟨h1, h2, h3, hu.symm, hu ▸ hok⟩
  · have k := handleRawData_sharp s (List.drop RAW_HDR_LEN (List.take 65536 bytes)) (rawQuery src)
      ((List.take 65536 bytes).getD 3 0 &&& RAW_HDR_USR_MASK)
    have hno : ¬ (checkAuthenticatedUserAndIp s ((List.take 65536 bytes).getD 3 0 &&& RAW_HDR_USR_MASK : Nat) (rawQuery src) = false ∧
        (u = ((List.take 65536 bytes).getD 3 0 &&& RAW_HDR_USR_MASK) ∨
          RawFwd s (List.drop RAW_HDR_LEN (List.take 65536 bytes)) (rawQuery src)
            ((List.take 65536 bytes).getD 3 0 &&& RAW_HDR_USR_MASK) u)) := by
      rintro ⟨hc, hu | hu⟩
      · rw [hck _ hu.symm] at hc; cases hc
      · exact hw ⟨h1, h2, h4, hc, hu⟩
    exact ⟨k.1.other u hno, k.2.dataOf_nil u (fun x => hno ⟨x.1, Or.inr x.2⟩)⟩
  · refine ⟨?_, (Tg.rawAns (U := fun _ => False) (handleRawPing_ans s _ _)).dataOf_nil u (fun x => x)⟩
    by_cases hu : ((List.take 65536 bytes).getD 3 0 &&& RAW_HDR_USR_MASK) = u
    · rw [handleRawPing_refused s _ _ (hck _ hu)]
    · exact (frame_handleRawPing s _ _).other u (fun e => hu e.symm)
  · exact ⟨rfl, rfl⟩

/-- **the handler phase of a foreign input** leaves slot `u` alone and sends no tunnel data of `u` -/
theorem foreign_dispatch {s : Srv} {u : Nat} {a : Addr} (hb : Bound s u a)
    (hl : ¬ (getUser s u).lastPkt + 60 < s.now) (inp : Input) (ts : Bool) (hf : foreign a inp)
    (hlog : ¬ rawLoginFor s inp u) (hw : ¬ fwdTo s inp u) :
    getUser (dispatch s inp ts).1 u = getUser s u ∧ dataOf u (dispatch s inp ts).2 = [] := by
  unfold dispatch
  cases inp with
  | tick => exact ⟨rfl, rfl⟩
  | tun f => exact absurd hf (fun x => x)
  | q q => exact foreign_tunnelDns hb hl q hf hw
  | rawf src bytes =>
    dsimp only
    split
    · next r h => exact foreign_rawDecode hb src bytes hf hlog hw r h
    · exact ⟨rfl, rfl⟩
  | bind bytes =>
    dsimp only
    split
    · rw [tunnelBind_fst]
      refine ⟨rfl, ?_⟩
      unfold tunnelBind
      split
      · rfl
      split <;> rfl
    · exact ⟨rfl, rfl⟩

/-! ### one iteration -/

theorem bound_pre {s : Srv} {u : Nat} {a : Addr} (hb : Bound s u a) (n : Nat) : Bound (pre s n) u a := by
  have : (getUser (pre s n) u).active = (getUser s u).active ∧ (getUser (pre s n) u).host = (getUser s u).host := by
    rw [getUser_pre]; split <;> exact ⟨rfl, rfl⟩
  exact ⟨hb.ck, by rw [this.1]; exact hb.act, by rw [this.2]; exact hb.fam, by rw [this.2]; exact hb.ip⟩

theorem lastPkt_pre (s : Srv) (u n : Nat) : (getUser (pre s n) u).lastPkt = (getUser s u).lastPkt := by
  rw [getUser_pre]; split <;> rfl

/-- **one foreign iteration is like a time-out for slot `u`**: if the two states agree on slot `u` before, they do
after, and the same tunnel-data answers of `u` are sent (all of them by the sweep) -/
theorem foreign_iteration {s t : Srv} {u : Nat} {a : Addr} (h : Agree u s t) (hb : Bound s u a) (inp : Input) (n : Nat)
    (hl : ¬ (getUser s u).lastPkt + 60 < n) (hf : foreign a inp)
    (hlog : ¬ rawLoginFor (pre s n) inp u) (hw : ¬ fwdTo (pre s n) inp u) :
    Agree u (next s ⟨inp, n⟩) (next t ⟨.tick, n⟩) ∧ dataOf u (out s ⟨inp, n⟩) = dataOf u (out t ⟨.tick, n⟩) := by
  apply agree_iteration
  have hp := agree_pre h n
  have k := foreign_dispatch (bound_pre hb n) (by rw [lastPkt_pre]; exact hl) inp (tunsel s) hf hlog hw
  have fd := frame_dispatch (pre s n) inp (tunsel s)
  refine ⟨⟨?_, ?_, ?_, ?_, ?_⟩, ?_⟩
  · rw [k.1]; exact hp.user
  · rw [fd.now]; exact hp.now
  · rw [fd.cfg]; exact hp.cfg
  · rw [fd.len]; exact hp.l1
  · exact hp.l2
  · rw [k.2]; rfl

theorem erData_active {x y : Session} (h : erData x = erData y) : x.active = y.active := by
  have := congrArg Session.active h; exact this
theorem erData_host {x y : Session} (h : erData x = erData y) : x.host = y.host := by
  have := congrArg Session.host h; exact this

theorem erData_disabled {x y : Session} (h : erData x = erData y) : x.disabled = y.disabled := by
  have := congrArg Session.disabled h; exact this
theorem erData_authenticated {x y : Session} (h : erData x = erData y) : x.authenticated = y.authenticated := by
  have := congrArg Session.authenticated h; exact this

theorem bound_next {s : Srv} {u : Nat} {a : Addr} (hb : Bound s u a) (inp : Input) (n : Nat)
    (hk : getUser (dispatch (pre s n) inp (tunsel s)).1 u = getUser (pre s n) u) : Bound (next s ⟨inp, n⟩) u a := by
  have hp := bound_pre hb n
  have hs := (frame_sweep (dispatch (pre s n) inp (tunsel s)).1).rel u
  rw [hk] at hs
  have e1 : (getUser (next s ⟨inp, n⟩) u).active = (getUser (pre s n) u).active := by
    rw [next_eq, body_fst]; exact erData_active hs
  have e2 : (getUser (next s ⟨inp, n⟩) u).host = (getUser (pre s n) u).host := by
    rw [next_eq, body_fst]; exact erData_host hs
  exact ⟨by rw [(C04L.next_base s ⟨inp, n⟩).1]; exact hb.ck, by rw [e1]; exact hp.act, by rw [e2]; exact hp.fam, by rw [e2]; exact hp.ip⟩

/-! ### runs -/

/-- the per-iteration lists of tunnel-data answers of session `u` along a run -/
def dataTrace (u : Nat) : Srv → List Step → List (List Event)
  | _, [] => []
  | s, st :: rest => dataOf u (out s st) :: dataTrace u (next s st) rest

/-- the run hypotheses, stated on the run itself: every step is foreign, `u` is not expired when its handler runs, it is
not an accepted raw login for `u` and does not forward a packet to `u` -/
def ForeignRun (u : Nat) (a : Addr) : Srv → List Step → Prop
  | _, [] => True
  | s, st :: rest =>
    (foreign a st.inp ∧ ¬ (getUser s u).lastPkt + 60 < st.now ∧ ¬ rawLoginFor (pre s st.now) st.inp u ∧
      ¬ fwdTo (pre s st.now) st.inp u) ∧ ForeignRun u a (next s st) rest

/-- the all-time-out run with the same clock values -/
def ticks (l : List Step) : List Step := l.map fun st => ⟨.tick, st.now⟩

/-- **a run of foreign steps is like a run of time-outs for slot `u`** -/
theorem foreign_run {u : Nat} {a : Addr} : ∀ (l : List Step) (s t : Srv), Agree u s t → Bound s u a →
    ForeignRun u a s l →
    Agree u (runFrom s l) (runFrom t (ticks l)) ∧ Bound (runFrom s l) u a ∧
      dataTrace u s l = dataTrace u t (ticks l) := by
  intro l
  induction l with
  | nil => intro s t h hb _; exact ⟨h, hb, rfl⟩
  | cons st rest ih =>
    intro s t h hb hr
    obtain ⟨⟨hf, hl, hlog, hw⟩, hrest⟩ := hr
    have k := foreign_iteration h hb st.inp st.now hl hf hlog hw
    have hk := (foreign_dispatch (bound_pre hb st.now) (by rw [lastPkt_pre]; exact hl) st.inp (tunsel s) hf hlog hw).1
    have hb' := bound_next hb st.inp st.now hk
    have r := ih (next s st) (next t ⟨.tick, st.now⟩) k.1 hb' hrest
    refine ⟨r.1, r.2.1, ?_⟩
    show dataOf u (out s st) :: dataTrace u (next s st) rest =
      dataOf u (out t ⟨.tick, st.now⟩) :: dataTrace u (next t ⟨.tick, st.now⟩) (ticks rest)
    rw [k.2, r.2.2]

end Iodine.C05N
