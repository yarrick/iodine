import IodineModel.Lemmas.C02down1
import IodineModel.Lemmas.C02d9
/-
Downstream transfer in immediate mode: the two ends of the cycle of `C02down1`, and the whole packet.  The client's poll puts the
first fragment into flight (`down_first_imm`, two scheduler steps); the last fragment in flight leads back to a quiescent state
(`down_last_imm`: one step if the packet had one fragment, else four — the client's delayed ping acknowledges it, the server
completes the packet and answers dataless).  `down_packet_taken`: one packet whenever the client takes its first fragment; then
sequences (`down_sequence_imm`).
-/
namespace Iodine.C02L
open Iodine Iodine.Gen Iodine.World

/-- The client books the answer in flight without sending anything (`hrecv`: it ends `tunnel_dns` in state `c3` after the
events `pre`, no ping goes out) while the server has no packet to send, immediate mode: quiescent, the server `dd` ahead. -/
theorem recv_end_imm {P : Par} {w : W} {c3 : Client.Cli} {pre : List Client.CEvent} {pkt name : List Nat} {sq : Int} {dd : Nat}
    (h : DownBase P false w) (hdown : w.down = [.ans w.cs.c.chunkid P.ty name pkt])
    (hnd : Client.notData w.cs.c (name.headD 0) = false)
    (hrecv : ∀ rq, RecvOk P false w.cs.c rq pkt → ∃ rd, Client.cstep ⟨w.cs.c, .tunnel⟩ (.rq rq) =
      Client.settle (Client.finalPing c3 pre false rd))
    (hpre : upOfEvents pre = [])
    (hb : Booked P false w.cs.c c3) (hlen0 : (Server.getUser w.srv P.u).outpacket.len = 0)
    (hoseq : (Server.getUser w.srv P.u).outpacket.seqno = sq) (hdd : sq = (c3.inpkt.seqno + dd) % 8) :
    promptSteps P.u 1 w = some ⟨⟨c3, .tunnel⟩, w.srv, [], [], w.tunC ++ tunOfCEvents pre, w.tunS⟩ ∧
      QuietImmD P 0 dd ⟨⟨c3, .tunnel⟩, w.srv, [], [], w.tunC ++ tunOfCEvents pre, w.tunS⟩ := by
  obtain ⟨hph, hcst, _, hidle, hup, hsrv, _, hsyncu, haged, hpaged⟩ := h
  generalize hc : w.cs.c = c at hdown hnd hcst hidle hrecv hsyncu haged hpaged hb
  obtain ⟨hst3, _, hnow, hout, hcmc, hseed⟩ := hb
  have hwc : w.cs = ⟨c, .tunnel⟩ := by rw [cstate_eta w.cs hph, hc]
  obtain ⟨rd, hst⟩ := hrecv ⟨(pkt.length : Int), c.chunkid, answerType P.ty, 0, name.headD 0, pkt⟩ ⟨hcst, hidle, hnd, rfl, rfl, rfl⟩
  have hcli : CliDoes ⟨c, .tunnel⟩ (cliInput (.ans c.chunkid P.ty name pkt)) ⟨c3, .tunnel⟩ [] (tunOfCEvents pre) :=
    CliDoes.mk (evs := pre) (nx := .sel (Client.selectOf c3))
      (by show Client.cstep ⟨c, .tunnel⟩ (.rq _) = _
          rw [hst]; simp [Client.finalPing, Client.settle, Client.loopTop, hst3.running]) hpre rfl
  refine ⟨?_, rfl, hst3.imm, by unfold Client.isSending; rw [hout]; exact hidle, rfl, rfl, hsrv.stat,
    ⟨hlen0, hsrv.q, hsrv.qs, hsrv.lz⟩, hsrv.oq, ?_, ?_, by rw [hcmc]; exact haged, by rw [hseed]; exact hpaged⟩
  · show promptSteps P.u (0 + 1) w = _
    rw [ps_down_of hwc hup hdown hcli hnow]
    rfl
  · show c3.outpkt.seqno = ((Server.getUser w.srv P.u).inpacket.seqno + (0 : Nat)) % 8
    rw [hout, hsyncu]
    have := hcst.oseq
    omega
  · show (Server.getUser w.srv P.u).outpacket.seqno = (c3.inpkt.seqno + dd) % 8
    rw [hoseq]; exact hdd

/-- a sequence number 1..4 ahead of the client's is new to it -/
theorem cexpectW_ahead {c : Client.Cli} (hi : 0 ≤ c.inpkt.seqno ∧ c.inpkt.seqno < 8) (out : List Nat) {sq : Int} {j : Nat}
    (h1 : 1 ≤ j) (h4 : j ≤ 4) (hs : sq = (c.inpkt.seqno + j) % 8) :
    CExpectW c out sq 0 0 ∧ (sq = c.inpkt.seqno ∨ Client.recentSeqno c.inpkt.seqno sq = false) :=
  ⟨Or.inl (Or.inl ⟨rfl, rfl, j, h1, h4, hs⟩), Or.inr (by rw [hs]; exact recentSeqno_far _ hi j ⟨h1, h4⟩)⟩

/-- The first fragment of the next packet of a server `d` ahead is what the client expects when `d ≤ 3` (a new number) or when
`d = 7` and the client's fragment number is 0 (its own number, the "weird situation", for which its reassembly buffer has to be
empty) — the case of `lost_class` (`C02qM1`) in which the packet is taken. -/
theorem cexpectW_taken {c : Client.Cli} (hi : 0 ≤ c.inpkt.seqno ∧ c.inpkt.seqno < 8) (out : List Nat) {d : Nat}
    (h : d ≤ 3 ∨ (d = 7 ∧ c.inpkt.fragment = 0)) (hlen0 : 4 ≤ d → c.inpkt.fragment = 0 → c.inpkt.len = 0) :
    CExpectW c out ((c.inpkt.seqno + d + 1) % 8) 0 0 ∧
      ((c.inpkt.seqno + d + 1) % 8 = c.inpkt.seqno ∨ Client.recentSeqno c.inpkt.seqno ((c.inpkt.seqno + d + 1) % 8) = false) := by
  rcases h with hd3 | ⟨rfl, hfr0⟩
  · exact cexpectW_ahead hi out (j := d + 1) (Nat.succ_le_succ (Nat.zero_le d)) (Nat.succ_le_succ hd3) (seq_ahead _ d)
  · have hsq : (c.inpkt.seqno + ((7 : Nat) : Int) + 1) % 8 = c.inpkt.seqno := by omega
    exact ⟨CWeird.toW ⟨hsq.symm, hfr0, hlen0 (by decide) hfr0⟩ _, Or.inl hsq⟩

/-- the timers of a quiescent joint state leave room for one poll of the client: its `select` timeout is below the
server's 10 s, and neither side's 60 s limit is reached within it -/
structure Roomy (P : Par) (w : W) : Prop where
  to : (Client.selectOf w.cs.c).to < 10000000
  cli : ¬ w.cs.c.lastdownstreamtime + 60 < w.cs.c.now + ((Client.selectOf w.cs.c).to / 1000000).toNat
  srv : w.srv.now + ((Client.selectOf w.cs.c).to / 1000000).toNat < (Server.getUser w.srv P.u).lastPkt + 60

/-- `tickC`, `deliverUp` from a state in which the server has a new outpacket nothing of which was sent: the poll fetches the
first fragment -/
theorem down_first_imm {P : Par} (hP : P.Ok) {out : List Nat} {w : W} {sq : Int}
    (h : DownIdleG P out w sq) (hL : 0 < out.length) (hr : Roomy P w) :
    ∃ D, D = downLen (Server.getUser w.srv P.u).fragsize out.length ∧
      ∃ w', promptSteps P.u 2 w = some w' ∧ DownSent P false out w' sq 0 D 0 ∧ w'.cs.c.sendPingSoon = 0 ∧
        (Server.getUser w'.srv P.u).outpacket =
          (if D = out.length then ⟨0, 0, 0, out, sq, 0⟩ else ⟨out.length, D, 0, out, sq, 0⟩) ∧
        (Server.getUser w'.srv P.u).outfragresent = (if D = out.length then 0 else 1) ∧
        (Server.getUser w'.srv P.u).lastPkt = w'.srv.now ∧ w'.cs.c.lastdownstreamtime = w.cs.c.lastdownstreamtime ∧
        Keeps P w w' := by
  have hsqr : 0 ≤ sq ∧ sq < 8 := by have := h.srv.stat.x.oseq; rw [h.srv.op] at this; exact this
  have hq0 : quiet P.u w = false := quiet_false_of_out (by rw [h.srv.op]; exact Nat.ne_of_gt hL)
  obtain ⟨w2, c, s1, s', name, pkt, hsteps, hpl⟩ := poll_answered_prompt hP h.ph h.cst h.idleC h.up h.down
    ⟨h.srv.stat, h.srv.q, h.srv.qs, h.srv.lz, h.srv.oq⟩ hq0 hr.to hr.cli hr.srv h.aged h.paged
  have hs1u := hpl.s1u
  obtain ⟨D, hDdef, hDpos, hDle, hfp, hzo, hzr, hps, hk, _⟩ := afterPing_resend (f := 0) (m := 0) (o := 0) hpl.ps1.noq rfl hpl.ap
    (by rw [hs1u]; exact h.srv.op) (by rw [hs1u, h.res0]; exact Nat.zero_le _) (Or.inl rfl) hL (by rw [hs1u]; exact h.srv.frag) (by decide) hsqr
  rw [hs1u] at hDdef hzr
  rw [h.res0] at hzr
  simp only [Nat.sub_zero, Nat.zero_add] at hDdef hDle
  have hw2 := hpl.hw2
  refine ⟨D, hDdef, w2, hsteps, ?_, ?_, ?_, ?_, ?_, ?_, ⟨?_, ?_, ?_, ?_, ?_, ?_⟩⟩
  · rw [hw2]
    refine ⟨⟨rfl, hpl.cst.toM, Or.inl rfl, hpl.idle, rfl, hps, ?_, ?_, hpl.aged, hpl.paged⟩,
      ⟨name, pkt, rfl, by rw [hpl.name0]; simp [Client.notData], hfp⟩, hsqr, hDpos, by rw [Nat.zero_add]; exact hDle, ?_, ?_⟩
    · show 0 < (Server.getUser s' P.u).fragsize
      rw [hk.fragsize, hs1u]; exact h.srv.frag
    · show (Server.getUser s' P.u).inpacket.seqno = c.outpkt.seqno
      rw [hk.inpacket, hs1u, hpl.outpkt]; exact h.syncu
    · show (Server.getUser s' P.u).outfragresent ≤ 1
      rw [hzr]; split
      · exact Nat.zero_le _
      · exact Nat.le_refl _
    · show (Server.getUser s' P.u).outpacket = _ ∨ _
      rw [hzo]
      by_cases hw : D = out.length
      · rw [if_pos hw]; exact Or.inr ⟨rfl, rfl, rfl, hw⟩
      · rw [if_neg hw]; exact Or.inl rfl
  · rw [hw2]; exact hpl.sps
  · rw [hw2]; exact hzo
  · rw [hw2]; exact hzr
  · rw [hw2]; exact hk.lastPkt
  · rw [hw2]; exact hpl.ldt
  · rw [hw2]
  · rw [hw2]
  · rw [hw2]
    show (Server.getUser s' P.u).fragsize = _
    rw [hk.fragsize, hs1u]
  · rw [hw2]
    show (Server.getUser s' P.u).tunIp = _
    rw [hk.tunIp, hs1u]
  · rw [hw2]; exact hpl.inpkt
  · rw [hw2]; exact hpl.selto

/-- The LAST fragment in flight, immediate mode, no ping due at the client.  `deliverDown`: the client writes the packet to its
tun device and arms its 5 ms timer.  If the packet had ONE fragment the server forgot it as it sent it: quiescent.  Otherwise
`tickC` — the ping that acknowledges the last fragment —, `deliverUp` — the server completes the packet and answers dataless —,
`deliverDown` — the client books the answer. -/
theorem down_last_imm {P : Par} (hP : P.Ok) {frame : List Nat} {w : W} {sq : Int} {o D f : Nat}
    (h : DownFlight P false (0x5a :: frame) w sq o D f) (h64 : (0x5a :: frame).length ≤ 65536)
    (h4 : 4 ≤ frame.length) (heq : o + D = (0x5a :: frame).length) (hf : f < 16) (hsps : w.cs.c.sendPingSoon = 0)
    (hlp : (Server.getUser w.srv P.u).outpacket.len = 0 → (Server.getUser w.srv P.u).lastPkt = w.srv.now) :
    ∃ w', promptSteps P.u (if (Server.getUser w.srv P.u).outpacket.len = 0 then 1 else 4) w = some w' ∧ QuietImm P w' ∧
      w'.tunC = w.tunC ++ [tunImage frame] ∧ w'.tunS = w.tunS ∧
      (Server.getUser w'.srv P.u).fragsize = (Server.getUser w.srv P.u).fragsize ∧
      (Server.getUser w'.srv P.u).tunIp = (Server.getUser w.srv P.u).tunIp ∧
      (Server.getUser w'.srv P.u).lastPkt = w'.srv.now ∧ w'.cs.c.lastdownstreamtime = w'.cs.c.now ∧
      w'.cs.c.selecttimeout = w.cs.c.selecttimeout ∧ w'.cs.c.sendPingSoon ≤ 5 := by
  obtain ⟨name, pkt, hdown, hnd, hfp⟩ := h.down
  have hsqr := h.sq8
  have hfl : FragPkt pkt (0x5a :: frame) sq o D f true := by
    have : decide ((0x5a :: frame).length > 0 ∧ (0x5a :: frame).length = o + D) = true := by
      rw [decide_eq_true_iff]; exact ⟨Nat.succ_pos _, heq.symm⟩
    rw [this] at hfp; exact hfp
  have hsn : (w.cs.c.sendPingSoon != 0) = false := by rw [hsps]; rfl
  rcases h.op with hop | ⟨hop, _, _, _⟩
  · -- the server waits for the acknowledgement
    have hlen : (Server.getUser w.srv P.u).outpacket.len ≠ 0 := by rw [hop]; simp
    rw [if_neg hlen]
    -- the client takes the fragment; its 5 ms timer sends the acknowledging ping
    obtain ⟨name', w2, hs1, hpu, hw2srv, hw2tc, hw2ts⟩ := recv_then_ping hP (c3 := lastState w.cs.c (0x5a :: frame) sq o D f)
      (pre := [Client.writeTun frame]) (sn := false) h.toDownBase hdown hnd
      (fun rq hrok => ⟨_, by rw [recv_last hrok hfl h.pos h.dup h.exp hsqr hf heq h64, hsn]⟩) rfl
      (booked_last h.cst (Or.inl rfl) _ sq o D f hsqr hf) (fun _ => ⟨show 0 < 5 by decide, show 5 < 1000 by decide⟩)
      (fun _ _ => hlen)
    rw [tunOfC_writeTun frame h4] at hw2tc
    have hcl := hpu.client
    generalize hc3 : lastState w.cs.c (0x5a :: frame) sq o D f = c3 at hpu hcl
    have e3s : c3.inpkt.seqno = sq := by rw [← hc3]; rfl
    have e3f : c3.inpkt.fragment = (f : Int) := by rw [← hc3]; rfl
    have e3t : c3.selecttimeout = w.cs.c.selecttimeout := by rw [← hc3]; rfl
    -- the server completes the packet and answers dataless
    obtain ⟨s', pkt2, hsrv3, hap, hA', hPA'⟩ := srvDoes_ping hP hpu.srv.stat hpu.srv.q hpu.srv.qs (Or.inl hpu.srv.lz) hpu.srv.oq
      hpu.pq (Nat.le_refl 1) (by decide) hpu.aged hpu.paged
    rw [hw2srv, e3s, e3f] at hap
    obtain ⟨hack, hzo, hzr, hps, hk⟩ := afterPing_done h.srv rfl hap hop h.pos heq hf hsqr
    have h3 : promptSteps P.u 1 w2 =
        some ⟨w2.cs, s', [], [.ans (pingStateL c3).chunkid P.ty name' pkt2], w2.tunC, w2.tunS⟩ := by
      show promptSteps P.u (0 + 1) w2 = _
      rw [ps_up_of hpu.up hpu.down hsrv3, List.append_nil]
      rfl
    -- the dataless answer carries the client's own number: only the bookkeeping
    have hsn4 : (w2.cs.c.sendPingSoon != 0) = false := by rw [hcl.2.sps]; rfl
    obtain ⟨hbase, hdn, hnd2⟩ := hpu.answered pkt2 hps (by rw [hw2srv]; exact hk) (by rw [hw2srv]; exact h.frag) hA' hPA'
    obtain ⟨h4', hQ⟩ := recv_end_imm (dd := 0) (c3 := recvBook w2.cs.c) (pre := [])
      (w := ⟨w2.cs, s', [], [.ans (pingStateL c3).chunkid P.ty name' pkt2], w2.tunC, w2.tunS⟩) hbase hdn hnd2
      (fun _ hrok => ⟨2, by rw [recv_dataless_common hrok (len_two hack.len)
        (Or.inl (by rw [hack.dnSeq, hcl.2.inpkt, e3s])), hsn4]⟩) rfl
      (booked_recvBook hcl.2.st (Or.inl rfl)) (by rw [hzo]) (by rw [hzo])
      (by show sq = (w2.cs.c.inpkt.seqno + ((0 : Nat) : Int)) % 8; rw [hcl.2.inpkt, e3s]; exact (mod8_zero hsqr).symm)
    refine ⟨_, ?_, quietImmD_zero.1 hQ, ?_, hw2ts, hk.fragsize, hk.tunIp, hk.lastPkt, rfl, ?_, ?_⟩
    · have h34 := promptSteps_add P.u 1 1 w2 _ h3
      rw [h4'] at h34
      have := promptSteps_add P.u 2 2 w w2 hs1
      rw [h34] at this
      exact this
    · show w2.tunC ++ [] = _
      rw [List.append_nil, hw2tc]
    · exact hcl.2.selto.trans e3t
    · show (if w2.cs.c.lazymode = true then 900 else 0) ≤ 5
      rw [if_neg (by rw [hcl.2.st.mode]; decide)]
      exact Nat.zero_le _
  · -- a one-fragment packet: the server forgot it as it sent it
    have hlen : (Server.getUser w.srv P.u).outpacket.len = 0 := by rw [hop]
    rw [if_pos hlen]
    obtain ⟨h1, hQ⟩ := recv_end_imm (dd := 0) (c3 := lastState w.cs.c (0x5a :: frame) sq o D f) (pre := [Client.writeTun frame])
      h.toDownBase hdown hnd
      (fun rq hrok => ⟨_, by rw [recv_last hrok hfl h.pos h.dup h.exp hsqr hf heq h64, hsn]⟩) rfl
      (booked_last h.cst (Or.inl rfl) _ sq o D f hsqr hf) hlen (by rw [hop])
      (mod8_zero hsqr).symm
    rw [tunOfC_writeTun frame h4] at h1 hQ
    exact ⟨_, h1, quietImmD_zero.1 hQ, rfl, rfl, rfl, rfl, hlp hlen, rfl, rfl, Nat.le_refl 5⟩

/-- what a frame must satisfy to be carried downstream as one packet of at most 16 fragments and be written to the
client's tun device: an IP packet addressed to the client's tunnel address, shorter than 64 KiB -/
structure DownFrameOk (tunIp F : Nat) (frame : List Nat) : Prop where
  h24 : 24 ≤ frame.length
  hl : frame.length < 65536
  dst : Server.ipDst frame = tunIp
  frags : downFrags F (frame.length + 1) (frame.length + 1) ≤ 16

/-- the number of scheduler steps of a downstream packet of `g` fragments (after `offerS`) -/
def downSteps (g : Nat) : Nat := if g = 1 then 3 else 2 * g + 4

/-- the steps of the three stages add up: the poll's two, two per fragment in between, and the last fragment's one (the packet
had one fragment and the server has forgotten it: `L = 0`) or four -/
theorem downSteps_sum (k L : Nat) (h : (k = 0 ∧ L = 0) ∨ (1 ≤ k ∧ L ≠ 0)) :
    2 + 2 * k + (if L = 0 then 1 else 4) = downSteps (1 + k) := by
  unfold downSteps
  rcases h with ⟨rfl, rfl⟩ | ⟨hk, hL⟩
  · rfl
  · rw [if_neg hL, if_neg (by omega)]
    omega

/-- the case distinction of `downSteps_sum` from the first fragment's length `D` and the outpacket length `L` the server keeps -/
theorem downSteps_case (F n D L : Nat) (hpos : 0 < D) (hle : D ≤ n + 1) (h1 : D = n + 1 → L = 0) (h2 : D ≠ n + 1 → L = n + 1) :
    (downFrags F n (n + 1 - D) = 0 ∧ L = 0) ∨ (1 ≤ downFrags F n (n + 1 - D) ∧ L ≠ 0) := by
  by_cases he : D = n + 1
  · exact Or.inl ⟨(downFrags_rest F n D hpos hle).1 he, h1 he⟩
  · exact Or.inr ⟨(downFrags_rest F n D hpos hle).2 he, by rw [h2 he]; exact Nat.succ_ne_zero n⟩

/-- One packet downstream, immediate mode, from a quiescent state desynchronised by `d`, whenever the client TAKES the first
fragment (`hE`, `hdup`: the new number, `d + 1` ahead, is new to the client, or it is the client's own in the "weird
situation"), with timer room for one poll (`Roomy`): after `downSteps g` steps (`g` = number of fragments) the joint state is quiescent and SYNCHRONISED, the
client has written exactly the offered frame to its tun device, the server nothing. -/
theorem down_packet_taken {P : Par} (hP : P.Ok) {w : W} {d : Nat} (hq : QuietImmD P 0 d w) (frame : List Nat)
    (hE : CExpectW w.cs.c (0x5a :: frame) ((w.cs.c.inpkt.seqno + d + 1) % 8) 0 0)
    (hdup : (w.cs.c.inpkt.seqno + d + 1) % 8 = w.cs.c.inpkt.seqno ∨
      Client.recentSeqno w.cs.c.inpkt.seqno ((w.cs.c.inpkt.seqno + d + 1) % 8) = false)
    (hF : 0 < (Server.getUser w.srv P.u).fragsize)
    (hok : DownFrameOk (Server.getUser w.srv P.u).tunIp (Server.getUser w.srv P.u).fragsize frame) (hr : Roomy P w) :
    ∃ w', promptSteps P.u (downSteps (downFrags (Server.getUser w.srv P.u).fragsize (frame.length + 1) (frame.length + 1)))
        (step w (.offerS frame)) = some w' ∧
      QuietImm P w' ∧ w'.tunC = w.tunC ++ [tunImage frame] ∧ w'.tunS = w.tunS ∧
      (Server.getUser w'.srv P.u).fragsize = (Server.getUser w.srv P.u).fragsize ∧
      (Server.getUser w'.srv P.u).tunIp = (Server.getUser w.srv P.u).tunIp ∧
      (Server.getUser w'.srv P.u).lastPkt = w'.srv.now ∧ w'.cs.c.lastdownstreamtime = w'.cs.c.now ∧
      w'.cs.c.selecttimeout = w.cs.c.selecttimeout ∧ w'.cs.c.sendPingSoon ≤ 5 := by
  generalize hFdef : (Server.getUser w.srv P.u).fragsize = F at hok hF ⊢
  obtain ⟨w1, hw1, hidle, ht1, ht2, htip1, hfs1, hnow1, hlp1, hcs1⟩ := down_offerD hq frame hok.h24 hok.hl hok.dst (by rw [hFdef]; exact hF)
  rw [hw1]
  have hlen : (0x5a :: frame).length = frame.length + 1 := by simp
  have h64 : (0x5a :: frame).length ≤ 65536 := by rw [hlen]; exact Nat.succ_le_of_lt hok.hl
  have h4 : 4 ≤ frame.length := Nat.le_trans (by decide) hok.h24
  obtain ⟨D, hD, w2, hs2, hsent2, hsps2, hop2, _, hlp2, _, hk2⟩ := down_first_imm hP hidle (by simp)
    ⟨by rw [hcs1]; exact hr.to, by rw [hcs1]; exact hr.cli, by rw [hcs1, hnow1, hlp1]; exact hr.srv⟩
  have hin2 := hk2.inpkt
  have hts2 := hk2.tunS
  have htc2 := hk2.tunC
  have hfs2 := hk2.fs
  have htip2 := hk2.tip
  have hsel2 := hk2.selto
  have hfl2 : DownFlight P false _ w2 _ 0 D 0 := ⟨hsent2, hE.congrW (by rw [hin2, hcs1]), by rw [hin2, hcs1]; exact hdup⟩
  have hol2 : (Server.getUser w2.srv P.u).outpacket.len = (if D = (0x5a :: frame).length then 0 else (0x5a :: frame).length) := by
    rw [hop2]; split <;> rfl
  rw [hfs1, hFdef, hlen] at hD
  have hDpos := hfl2.pos
  have hDle := hfl2.fits
  rw [hlen, Nat.zero_add] at hDle
  rw [hlen] at hol2
  have hu : downFrags F (frame.length + 1) (frame.length + 1) = 1 + downFrags F frame.length (frame.length + 1 - D) := by
    rw [hD]; exact downFrags_first F _
  have hfr := hok.frags
  rw [hu] at hfr ⊢
  have hx := Nat.lt_of_lt_of_le (Nat.lt_add_of_pos_left (by decide : 0 < 1)) hfr
  obtain ⟨w3, o', D', hr3, heq3, hsame, hmore⟩ := down_run hP h64 F frame.length w2 0 D 0 hfl2
    (by rw [hfs2, hfs1, hFdef]) (by rw [hlen]; omega) (by rw [hlen]; simp only [Nat.zero_add]; exact hx)
  have hs3 := hr3.steps
  have hfl3 := hr3.flight
  rw [hlen] at hs3 hfl3 hsame hmore
  simp only [Nat.zero_add] at hs3 hfl3 hsame hmore
  have hsps3 : w3.cs.c.sendPingSoon = 0 := by
    by_cases he : D = frame.length + 1
    · rw [hsame he]; exact hsps2
    · exact (hmore he).1
  obtain ⟨w', h1, h2, h3, h4', h5, h6, h7, h8, h9, h10⟩ := down_last_imm hP hfl3 h64 h4 heq3 hx hsps3
    (by
      intro h0
      by_cases he : D = frame.length + 1
      · rw [hsame he]; exact hlp2
      · rw [(hmore he).2] at h0; simp at h0)
  refine ⟨w', ?_, h2, by rw [h3, hr3.tunC, htc2, ht2], by rw [h4', hr3.tunS, hts2, ht1], by rw [h5, hr3.fragsize, hfs2, hfs1, hFdef],
    by rw [h6, hr3.tunIp, htip2, htip1], h7, h8, by rw [h9, hr3.selto, hsel2, hcs1], h10⟩
  have h12 := promptSteps_add P.u 2 (2 * downFrags F frame.length (frame.length + 1 - D)) w1 w2 hs2
  rw [hs3] at h12
  have h123 := promptSteps_add P.u _ (if (Server.getUser w3.srv P.u).outpacket.len = 0 then 1 else 4) w1 w3 h12
  rw [h1] at h123
  rw [← downSteps_sum _ (Server.getUser w3.srv P.u).outpacket.len
    (downSteps_case F frame.length D _ hDpos hDle (fun he => by rw [hsame he, hol2, if_pos he]) (fun he => (hmore he).2))]
  exact h123

/-- Every payload of at most 16 fragments, every fragment size: `down_packet_taken` from a state
at most 3 ahead — the new number is 1..4 ahead of the client's, which adopts it with the first fragment. -/
theorem down_packet_imm_desync_ok {P : Par} (hP : P.Ok) {w : W} {d : Nat} (hq : QuietImmD P 0 d w) (hd : d ≤ 3) (frame : List Nat)
    (hF : 0 < (Server.getUser w.srv P.u).fragsize)
    (hok : DownFrameOk (Server.getUser w.srv P.u).tunIp (Server.getUser w.srv P.u).fragsize frame)
    (hto : (Client.selectOf w.cs.c).to < 10000000)
    (hexp : ¬ w.cs.c.lastdownstreamtime + 60 < w.cs.c.now + ((Client.selectOf w.cs.c).to / 1000000).toNat)
    (hlive : w.srv.now + ((Client.selectOf w.cs.c).to / 1000000).toNat < (Server.getUser w.srv P.u).lastPkt + 60) :
    ∃ w', promptSteps P.u (downSteps (downFrags (Server.getUser w.srv P.u).fragsize (frame.length + 1) (frame.length + 1)))
        (step w (.offerS frame)) = some w' ∧
      QuietImm P w' ∧ w'.tunC = w.tunC ++ [tunImage frame] ∧ w'.tunS = w.tunS ∧
      (Server.getUser w'.srv P.u).fragsize = (Server.getUser w.srv P.u).fragsize ∧
      (Server.getUser w'.srv P.u).tunIp = (Server.getUser w.srv P.u).tunIp ∧
      (Server.getUser w'.srv P.u).lastPkt = w'.srv.now ∧ w'.cs.c.lastdownstreamtime = w'.cs.c.now ∧
      w'.cs.c.selecttimeout = w.cs.c.selecttimeout ∧ w'.cs.c.sendPingSoon ≤ 5 := by
  obtain ⟨hE, hdup⟩ := cexpectW_taken hq.cst.iseq (0x5a :: frame) (Or.inl hd) (fun h4 => absurd h4 (by omega))
  exact down_packet_taken hP hq frame hE hdup hF hok ⟨hto, hexp, hlive⟩

/-- `d = 7`, the "weird situation".  From a quiescent joint state in which the server's
downstream sequence number is 7 ahead of the client's — so that the NEW packet carries the client's CURRENT number —, the
client's last fragment number being 0 and its reassembly buffer empty (`inpkt.len = 0`), with timer room for one poll: the
client takes the first fragment through the "weird situation" clause, so `down_packet_taken` applies — after `downSteps g` steps
the joint state is quiescent AND SYNCHRONISED, the client has written exactly the offered frame to its tun device, the server
nothing. -/
theorem down_packet_imm_desync7_ok {P : Par} (hP : P.Ok) {w : W} (hq : QuietImmD P 0 7 w)
    (hfr : w.cs.c.inpkt.fragment = 0) (hlen0 : w.cs.c.inpkt.len = 0) (frame : List Nat)
    (hF : 0 < (Server.getUser w.srv P.u).fragsize)
    (hok : DownFrameOk (Server.getUser w.srv P.u).tunIp (Server.getUser w.srv P.u).fragsize frame)
    (hto : (Client.selectOf w.cs.c).to < 10000000)
    (hexp : ¬ w.cs.c.lastdownstreamtime + 60 < w.cs.c.now + ((Client.selectOf w.cs.c).to / 1000000).toNat)
    (hlive : w.srv.now + ((Client.selectOf w.cs.c).to / 1000000).toNat < (Server.getUser w.srv P.u).lastPkt + 60) :
    ∃ w', promptSteps P.u (downSteps (downFrags (Server.getUser w.srv P.u).fragsize (frame.length + 1) (frame.length + 1)))
        (step w (.offerS frame)) = some w' ∧
      QuietImm P w' ∧ w'.tunC = w.tunC ++ [tunImage frame] ∧ w'.tunS = w.tunS ∧
      (Server.getUser w'.srv P.u).fragsize = (Server.getUser w.srv P.u).fragsize ∧
      (Server.getUser w'.srv P.u).tunIp = (Server.getUser w.srv P.u).tunIp ∧
      (Server.getUser w'.srv P.u).lastPkt = w'.srv.now ∧ w'.cs.c.lastdownstreamtime = w'.cs.c.now ∧
      w'.cs.c.selecttimeout = w.cs.c.selecttimeout ∧ w'.cs.c.sendPingSoon ≤ 5 := by
  obtain ⟨hE, hdup⟩ := cexpectW_taken hq.cst.iseq (0x5a :: frame) (Or.inr ⟨rfl, hfr⟩) (fun _ _ => hlen0)
  exact down_packet_taken hP hq frame hE hdup hF hok ⟨hto, hexp, hlive⟩

/-- **One packet downstream, immediate mode**, from a synchronised quiescent state (`down_packet_imm_desync_ok` at `d = 0`): after
`downSteps g` steps the joint state is quiescent again and the client has written exactly the offered frame to its tun device. -/
theorem down_packet_imm {P : Par} (hP : P.Ok) {w : W} (hq : QuietImm P w) (frame : List Nat)
    (hF : 0 < (Server.getUser w.srv P.u).fragsize)
    (hok : DownFrameOk (Server.getUser w.srv P.u).tunIp (Server.getUser w.srv P.u).fragsize frame)
    (hto : (Client.selectOf w.cs.c).to < 10000000)
    (hexp : ¬ w.cs.c.lastdownstreamtime + 60 < w.cs.c.now + ((Client.selectOf w.cs.c).to / 1000000).toNat)
    (hlive : w.srv.now + ((Client.selectOf w.cs.c).to / 1000000).toNat < (Server.getUser w.srv P.u).lastPkt + 60) :
    ∃ w', promptSteps P.u (downSteps (downFrags (Server.getUser w.srv P.u).fragsize (frame.length + 1) (frame.length + 1)))
        (step w (.offerS frame)) = some w' ∧
      QuietImm P w' ∧ w'.tunC = w.tunC ++ [tunImage frame] ∧ w'.tunS = w.tunS ∧
      (Server.getUser w'.srv P.u).fragsize = (Server.getUser w.srv P.u).fragsize ∧
      (Server.getUser w'.srv P.u).tunIp = (Server.getUser w.srv P.u).tunIp ∧
      (Server.getUser w'.srv P.u).lastPkt = w'.srv.now ∧ w'.cs.c.lastdownstreamtime = w'.cs.c.now ∧
      w'.cs.c.selecttimeout = w.cs.c.selecttimeout ∧ w'.cs.c.sendPingSoon ≤ 5 :=
  down_packet_imm_desync_ok hP (quietImmD_zero.2 hq) (by omega) frame hF hok hto hexp hlive

/-! ### sequences of packets -/

/-- after a packet, taken or lost, both sides have just heard from each other: there is timer room again (for the next packet, or
the next poll) -/
theorem roomy_afterD {P : Par} {w : W} {d : Nat} (hq : QuietImmD P 0 d w) (h1 : (Server.getUser w.srv P.u).lastPkt = w.srv.now)
    (h2 : w.cs.c.lastdownstreamtime = w.cs.c.now) (h3 : w.cs.c.selecttimeout ≤ 9) (h4 : w.cs.c.sendPingSoon ≤ 500) : Roomy P w := by
  have hto : (Client.selectOf w.cs.c).to ≤ 9000000 := by
    unfold Client.selectOf
    simp only [hq.idleC, Bool.false_eq_true, if_false]
    split <;> omega
  refine ⟨by omega, ?_, ?_⟩
  · rw [h2]; omega
  · rw [h1]; omega

theorem roomy_after {P : Par} {w : W} (hq : QuietImm P w) (h1 : (Server.getUser w.srv P.u).lastPkt = w.srv.now)
    (h2 : w.cs.c.lastdownstreamtime = w.cs.c.now) (h3 : w.cs.c.selecttimeout ≤ 9) (h4 : w.cs.c.sendPingSoon ≤ 5) : Roomy P w :=
  roomy_afterD (quietImmD_zero.2 hq) h1 h2 h3 (Nat.le_trans h4 (by decide))

theorem downSteps_le {g fuel : Nat} (h : g ≤ 16) (hf : 36 ≤ fuel) : downSteps g ≤ fuel := by
  unfold downSteps
  split <;> omega

/-- **A sequence of packets downstream, immediate mode**: each frame is offered to the server after the previous one
was delivered; all of them arrive at the client's tun device exactly once, in order; quiescent again. -/
theorem down_sequence_imm {P : Par} (hP : P.Ok) (fuel : Nat) (hfuel : 36 ≤ fuel) :
    ∀ (frames : List (List Nat)) (w : W), QuietImm P w → Roomy P w → w.cs.c.selecttimeout ≤ 9 →
      0 < (Server.getUser w.srv P.u).fragsize →
      (∀ f ∈ frames, DownFrameOk (Server.getUser w.srv P.u).tunIp (Server.getUser w.srv P.u).fragsize f) →
      QuietImm P (offerAllS P.u fuel w frames) ∧
      (offerAllS P.u fuel w frames).tunC = w.tunC ++ frames.map tunImage ∧
      (offerAllS P.u fuel w frames).tunS = w.tunS := by
  intro frames w hq hr hsel hF hok
  have h := offerAllS_induct (u := P.u) (fuel := fuel)
    (Q := fun w => QuietImm P w ∧ Roomy P w ∧ w.cs.c.selecttimeout ≤ 9 ∧ 0 < (Server.getUser w.srv P.u).fragsize)
    (ok := fun w f => DownFrameOk (Server.getUser w.srv P.u).tunIp (Server.getUser w.srv P.u).fragsize f)
    (fun w f hQ hf => by
      obtain ⟨hq, hr, hsel, hF⟩ := hQ
      obtain ⟨w', h1, h2, h3, h4, h5, h6, h7, h8, h9, h10⟩ := down_packet_imm hP hq f hF hf hr.to hr.cli hr.srv
      rw [runPrompt_of_steps P.u _ _ _ h1 h2.quiet fuel (downSteps_le hf.frags hfuel)]
      exact ⟨⟨h2, roomy_after h2 h7 h8 (by rw [h9]; exact hsel) h10, by rw [h9]; exact hsel, by rw [h5]; exact hF⟩, h3, h4,
        fun g hg => by rw [h5, h6]; exact hg⟩)
    frames w ⟨hq, hr, hsel, hF⟩ hok
  exact ⟨h.1.1, h.2⟩

/-! ### both directions, one packet after the other -/

/-- while a ping timer of the client runs (`send_ping_soon = n`, below a second) the next poll costs no whole second: there is room -/
theorem roomy_of_timer {P : Par} {w : W} (hc : CStat P w.cs.c) (hS : SStat P w.srv) {n : Nat} (h : w.cs.c.sendPingSoon = n)
    (h0 : n ≠ 0) (h1 : n < 1000) : Roomy P w := by
  have hto : (Client.selectOf w.cs.c).to = (n : Int) * 1000 := by rw [selectOf_pingSoon _ (by rw [h]; exact h0), h]
  have hT : ((Client.selectOf w.cs.c).to / 1000000).toNat = 0 := by omega
  exact ⟨by omega, by rw [hT]; exact hc.alive, by rw [hT]; exact hS.live⟩

/-- after an upstream packet the client's 20 ms timer is armed -/
theorem roomy_of_sps {P : Par} {w : W} (hq : QuietImm P w) (h : w.cs.c.sendPingSoon = 20) : Roomy P w :=
  roomy_of_timer hq.cst hq.srv h (by decide) (by decide)

/-- the frame of an offer is acceptable for its direction -/
def OfferOk (P : Par) (tunIp F : Nat) : Offer → Prop
  | .toServer f => UpFrameOk P tunIp f
  | .toClient f => DownFrameOk tunIp F f

end Iodine.C02L
