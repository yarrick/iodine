import IodineModel.Lemmas.SrvC03a
import IodineModel.Lemmas.SrvC04c
/-
`Outcome`: what one call of `dispatch` can do to the protected view: nothing privileged (`QuietH`), a tun frame, an
allocation by `V`, a good login (DNS or raw), or a request of a slot that passed `check_authenticated_user_and_ip`,
the slot being the one the request names (`reqSlot`: the user id field as the handlers read it).  `V`, `L` and the raw
handlers are classified from their case lists and rules, the commands that name a session from their C04 frames and
refusals (`outcome_runCmd`).
-/
namespace Iodine.C03L
open Iodine Iodine.Server Iodine.Gen

/-- what a passed `check_user_and_ip` establishes -/
structure UserOk (s : Srv) (i : Int) (q : Query) : Prop where
  nonneg : 0 ≤ i
  lt : i < (s.cfg.createdUsers : Int)
  active : (getUser s i.toNat).active = true
  enabled : (getUser s i.toNat).disabled = false
  fresh : ¬ (getUser s i.toNat).lastPkt + 60 < s.now
  src : s.cfg.checkIp = true →
    q.from_.fam = (getUser s i.toNat).host.fam ∧ q.from_.ip = (getUser s i.toNat).host.ip ∧
    (q.from_.fam = 4 ∨ q.from_.fam = 6)

theorem userOk_of_check {s : Srv} {i : Int} {q : Query} (h : checkUserAndIp s i q = false) : UserOk s i q :=
  have ⟨h1, h2, h3, h4, h5, h6⟩ := (C04L.checkUserAndIp_eq_false_iff s i q).1 h
  ⟨h1, h2, h3, h4, h5, h6⟩

theorem auth_of_check {s : Srv} {i : Int} {q : Query} (h : checkAuthenticatedUserAndIp s i q = false) :
    UserOk s i q ∧ (getUser s i.toNat).authenticated = true :=
  ⟨userOk_of_check (C04L.checkAuth_false s i q h).1, (C04L.checkAuth_false s i q h).2⟩

/-- the user id field of a request, as the handlers read it (`none` for requests without one) -/
def reqSlot (cfg : Config) : Input → Option Int
  | .q q =>
    match Common.queryDatalen q.name cfg.topdomain with
    | none => none
    | some dlen =>
      if dlen < 2 then none
      else
        let inb := q.name.take (min dlen 512)
        let c := q.name.getD 0 0
        if c = 76 ∨ c = 108 ∨ c = 78 ∨ c = 110 ∨ c = 80 ∨ c = 112 then
          some (charVal ((Encoding.unpackData Codec.b32 65536 (inb.drop 1)).getD 0 0))
        else if c = 73 ∨ c = 105 ∨ c = 83 ∨ c = 115 ∨ c = 79 ∨ c = 111 then
          some ((b32_8to5 (inb.getD 1 0) : Nat) : Int)
        else if c = 82 ∨ c = 114 then some ((((b32_8to5 (inb.getD 1 0)) >>> 1) &&& 15 : Nat) : Int)
        else if isHexDigit c then some (hexCode c)
        else none
  | .rawf _ bytes => some ((bytes.getD 3 0 &&& RAW_HDR_USR_MASK : Nat) : Int)
  | _ => none

/-- the fields no request of an authenticated session changes either (raw login apart) -/
structure Core where
  active : Bool
  authenticated : Bool
  authenticatedRaw : Bool
  disabled : Bool
  seed : Nat
  tunIp : Nat
  conn : Conn
deriving DecidableEq

def core (x : Session) : Core :=
  ⟨x.active, x.authenticated, x.authenticatedRaw, x.disabled, x.seed, x.tunIp, x.conn⟩

theorem core_of_prot {x y : Session} (h : prot x = prot y) : core x = core y := by
  unfold prot at h
  simp only [Prot.mk.injEq] at h
  simp only [core, Core.mk.injEq]
  simp [h]

def Base (s : Srv) (r : Res) : Prop := r.1.cfg = s.cfg ∧ r.1.now = s.now ∧ r.1.users.length = s.users.length

def CmdChar (cfg : Config) (q : Query) (c : Nat) : Prop :=
  ∃ dlen, Common.queryDatalen q.name cfg.topdomain = some dlen ∧ 2 ≤ dlen ∧ q.name.getD 0 0 = c

/-- `V` allocated slot `u` with seed `sd` -/
structure Alloc (s : Srv) (q : Query) (u sd : Nat) (r : Res) : Prop where
  cmd : CmdChar s.cfg q 86 ∨ CmdChar s.cfg q 118
  base : Base s r
  lt : u < s.users.length
  free : ((getUser s u).active = false ∨ (getUser s u).lastPkt + 60 < s.now) ∧ (getUser s u).disabled = false
  others : ∀ v, v ≠ u → getUser r.1 v = getUser s v
  auth : (getUser r.1 u).authenticated = false
  authRaw : (getUser r.1 u).authenticatedRaw = false
  seed : (getUser r.1 u).seed = sd
  active : (getUser r.1 u).active = true
  backlog : backlog (getUser r.1 u) = 0
  conn : (getUser r.1 u).conn = .dnsNull
  evs : ∃ dn, r.2 = [Event.ans q.from_ q.id q.type dn q.name (ascii "VACK" ++ beBytes 4 sd ++ [u % 256]) .ctrl]

structure QuietH (s : Srv) (r : Res) : Prop extends Quiet s r where
  nochunk : ∀ e ∈ r.2, NoChunk e

theorem QuietH.refl_nil (s : Srv) : QuietH s (s, []) := ⟨Quiet.refl_nil s, by intro e he; cases he⟩

/-- `L` with the right hash for slot `u` -/
structure LoginOk (s : Srv) (q : Query) (dlen u : Nat) (r : Res) : Prop where
  hd : Common.queryDatalen q.name s.cfg.topdomain = some dlen
  h2 : 2 ≤ dlen
  cmd : q.name.getD 0 0 = 76 ∨ q.name.getD 0 0 = 108
  len : 18 ≤ (Encoding.unpackData Codec.b32 65536 ((q.name.take (min dlen 512)).drop 1)).length
  uid : charVal ((Encoding.unpackData Codec.b32 65536 ((q.name.take (min dlen 512)).drop 1)).getD 0 0) = (u : Int)
  hash : ((Encoding.unpackData Codec.b32 65536 ((q.name.take (min dlen 512)).drop 1)).drop 1).take 16
          = Login.loginCalcC s.cfg.password (getUser s u).seed
  ok : UserOk s u q
  base : Base s r
  others : ∀ v, v ≠ u → getUser r.1 v = getUser s v
  self : getUser r.1 u = { getUser s u with lastPkt := s.now, authenticated := true }
  evs : ∀ e ∈ r.2, Harmless e
  nochunk : ∀ e ∈ r.2, NoChunk e

/-- raw login with the right hash for slot `u` -/
structure RawLoginOk (s : Srv) (src : Addr) (bytes : List Nat) (u : Nat) (r : Res) : Prop where
  uid : u = bytes.getD 3 0 &&& RAW_HDR_USR_MASK
  hash : (((bytes.take 65536).drop RAW_HDR_LEN).take 16) = Login.loginCalcC s.cfg.password ((getUser s u).seed + 1)
  lt : u < s.cfg.createdUsers
  active : (getUser s u).active = true
  enabled : (getUser s u).disabled = false
  auth : (getUser s u).authenticated = true
  fresh : ¬ (getUser s u).lastPkt + 60 < s.now
  base : Base s r
  others : ∀ v, v ≠ u → getUser r.1 v = getUser s v
  self : getUser r.1 u = { getUser s u with lastPkt := s.now, q := rawQuery src, host := src, conn := .rawUdp,
                                            authenticatedRaw := true }
  evs : ∀ e ∈ r.2, Harmless e
  nochunk : ∀ e ∈ r.2, NoChunk e

/-- what one call of `dispatch` can be -/
inductive Outcome (s : Srv) (inp : Input) (r : Res) : Prop where
  /-- nothing privileged -/
  | quiet (h : QuietH s r)
  /-- a frame from the tun device (may fill backlogs and emit raw DATA frames) -/
  | tunIn (f : List Nat) (hi : inp = .tun f) (hv : view r.1 = view s)
      (he : ∀ e ∈ r.2, Harmless e ∨ ∃ d b, e = .raw d b)
  | alloc (q : Query) (u sd : Nat) (hi : inp = .q q) (h : Alloc s q u sd r)
  | login (q : Query) (dlen u : Nat) (hi : inp = .q q) (h : LoginOk s q dlen u r)
  /-- a DNS request of a session that passed `check_authenticated_user_and_ip` -/
  | authedQ (q : Query) (i : Int) (hi : inp = .q q) (hreq : reqSlot s.cfg inp = some i)
      (hchk : checkAuthenticatedUserAndIp s i q = false)
      (hcore : ∀ v, core (getUser r.1 v) = core (getUser s v))
      (hoth : ∀ v, v ≠ i.toNat → prot (getUser r.1 v) = prot (getUser s v))
  | rawLogin (src : Addr) (bytes : List Nat) (u : Nat) (hi : inp = .rawf src bytes) (h : RawLoginOk s src bytes u r)
  /-- raw DATA of a session that passed the check and is `authenticated_raw` -/
  | authedRaw (src : Addr) (bytes : List Nat) (u : Nat) (hi : inp = .rawf src bytes)
      (hreq : reqSlot s.cfg inp = some (u : Int))
      (hchk : checkAuthenticatedUserAndIp s u (rawQuery src) = false)
      (hraw : (getUser s u).authenticatedRaw = true) (hv : view r.1 = view s)

theorem harmless_writeDns (q : Query) (data : List Nat) (dn : Nat)
    (h : ¬ ((q.name.getD 0 0 = 73 ∨ q.name.getD 0 0 = 105) ∧ data.head? = some 73) ∧
         ¬ ((q.name.getD 0 0 = 86 ∨ q.name.getD 0 0 = 118) ∧ data.take 4 = ascii "VACK")) :
    Harmless (writeDns q data dn) := by
  unfold writeDns Harmless
  intro _; exact h

theorem quiet_of_harmless_same (s : Srv) (evs : List Event) (h : ∀ e ∈ evs, Harmless e) : Quiet s (s, evs) :=
  ⟨rfl, MLe.refl s, h⟩

theorem quietH_answer (s : Srv) (e : Event) (h : Harmless e) (hn : NoChunk e) : QuietH s (s, [e]) :=
  ⟨quiet_of_harmless_same s [e] fun _ he => List.mem_singleton.1 he ▸ h, fun _ he => List.mem_singleton.1 he ▸ hn⟩

theorem noChunk_writeDns (q : Query) (data : List Nat) (dn : Nat) : NoChunk (writeDns q data dn) := rfl

theorem Outcome.authedQ_of_view {s : Srv} {q : Query} {r : Res} (i : Int)
    (hreq : reqSlot s.cfg (.q q) = some i) (hchk : checkAuthenticatedUserAndIp s i q = false)
    (hv : view r.1 = view s) : Outcome s (.q q) r :=
  Outcome.authedQ q i rfl hreq hchk
    (fun v => core_of_prot (prot_getUser_of_view hv v)) (fun v _ => prot_getUser_of_view hv v)

theorem getD_take_one (l : List Nat) (n : Nat) (h : 1 < n) : (l.take n).getD 1 0 = l.getD 1 0 :=
  getD_take_lt l n 1 h

theorem backlog_resetSession (x : Session) : backlog (resetSession x) = 0 := by
  simp [backlog, resetSession]

theorem outcome_handleVersion (s : Srv) (q : Query) (inb : List Nat)
    (hcmd : CmdChar s.cfg q 86 ∨ CmdChar s.cfg q 118) :
    Outcome s (.q q) (handleVersion s q inb) := by
  have hnotI : ¬ (q.name.getD 0 0 = 73 ∨ q.name.getD 0 0 = 105) := by
    rcases hcmd with ⟨_, _, _, h⟩ | ⟨_, _, _, h⟩ <;> omega
  -- the two refusals: their text is not "VACK"
  have refused : ∀ (k : VersionAck) (p : Nat), k ≠ .ack → Outcome s (.q q) (s, [sendVersionResponse s k p 0 q]) :=
    fun k p hk => .quiet <| quietH_answer _ _ (harmless_writeDns _ _ _ ⟨fun h => hnotI h.1, fun h => by
      have := h.2
      cases k <;> first | exact hk rfl | simp [ascii] at this⟩) (noChunk_writeDns _ _ _)
  rcases C04L.handleVersion_cases s q inb with ⟨u, _, hu, hs, he⟩ | ⟨hs, he | he⟩
  · obtain ⟨hlt, hfree, _⟩ := (C04L.findAvailableUser_some_iff s u).1 hu
    rw [show handleVersion s q inb = (setUser (setUser (popRand (setUser s u (claim s.now))).2 u _) u resetSession, _) from
      Prod.ext hs he]
    have hg := C04L.getUser_popRand
    have hl2 : u < (popRand (setUser s u (claim s.now))).2.users.length := by simpa using hlt
    have h3 : u < (setUser (popRand (setUser s u (claim s.now))).2 u fun x =>
        { x with seed := (popRand (setUser s u (claim s.now))).1, host := q.from_, q := q, encoder := .b32,
                 downenc := chT }).users.length := by simpa using hl2
    refine .alloc q u (popRand (setUser s u (claim s.now))).1 rfl
      ⟨hcmd, ⟨by simp, by simp, by simp⟩, hlt, hfree, fun v hv => ?_, ?_, ?_, ?_, ?_, ?_, ?_, ⟨_, rfl⟩⟩ <;> simp only []
    · rw [C04L.getUser_setUser_ne _ _ _ _ hv, C04L.getUser_setUser_ne _ _ _ _ hv, hg, C04L.getUser_setUser_ne _ _ _ _ hv]
    · rw [C04L.getUser_setUser_self _ _ _ h3, C04L.getUser_setUser_self _ _ _ hl2, hg, C04L.getUser_setUser_self _ _ _ hlt]
      rfl
    · rw [C04L.getUser_setUser_self _ _ _ h3, C04L.getUser_setUser_self _ _ _ hl2, hg, C04L.getUser_setUser_self _ _ _ hlt]
      rfl
    · rw [C04L.getUser_setUser_self _ _ _ h3, C04L.getUser_setUser_self _ _ _ hl2]; rfl
    · rw [C04L.getUser_setUser_self _ _ _ h3, C04L.getUser_setUser_self _ _ _ hl2, hg, C04L.getUser_setUser_self _ _ _ hlt]
      rfl
    · rw [C04L.getUser_setUser_self _ _ _ h3]; exact backlog_resetSession _
    · rw [C04L.getUser_setUser_self _ _ _ h3]; rfl
  · rw [show handleVersion s q inb = (_, _) from Prod.ext hs he]; exact refused _ _ nofun
  · rw [show handleVersion s q inb = (_, _) from Prod.ext hs he]; exact refused _ _ nofun

theorem harmless_of_notIV (q : Query) (data : List Nat) (dn : Nat)
    (h : q.name.getD 0 0 ≠ 73 ∧ q.name.getD 0 0 ≠ 105 ∧ q.name.getD 0 0 ≠ 86 ∧ q.name.getD 0 0 ≠ 118) :
    Harmless (writeDns q data dn) := by
  apply harmless_writeDns
  refine ⟨fun hh => ?_, fun hh => ?_⟩
  · rcases hh.1 with h' | h'
    · exact h.1 h'
    · exact h.2.1 h'
  · rcases hh.1 with h' | h'
    · exact h.2.2.1 h'
    · exact h.2.2.2 h'

theorem quietH_notIV (s : Srv) (q : Query) (data : List Nat) (dn : Nat)
    (h : q.name.getD 0 0 ≠ 73 ∧ q.name.getD 0 0 ≠ 105 ∧ q.name.getD 0 0 ≠ 86 ∧ q.name.getD 0 0 ≠ 118) :
    QuietH s (s, [writeDns q data dn]) :=
  quietH_answer s _ (harmless_of_notIV q data dn h) (noChunk_writeDns q data dn)

theorem outcome_handleLogin (s : Srv) (q : Query) (dlen : Nat)
    (hd : Common.queryDatalen q.name s.cfg.topdomain = some dlen) (h2 : 2 ≤ dlen)
    (hc : q.name.getD 0 0 = 76 ∨ q.name.getD 0 0 = 108) :
    Outcome s (.q q) (handleLogin s q (q.name.take (min dlen 512))) := by
  have hn : q.name.getD 0 0 ≠ 73 ∧ q.name.getD 0 0 ≠ 105 ∧ q.name.getD 0 0 ≠ 86 ∧ q.name.getD 0 0 ≠ 118 := by omega
  have one : ∀ msg dn, (∀ e ∈ [writeDns q msg dn], Harmless e) ∧ ∀ e ∈ [writeDns q msg dn], NoChunk e := fun msg dn =>
    ⟨fun e he => List.mem_singleton.1 he ▸ harmless_of_notIV q msg dn hn,
      fun e he => List.mem_singleton.1 he ▸ noChunk_writeDns q msg dn⟩
  refine handleLogin_ind s q _ (fun _ => .quiet (quietH_notIV _ q _ _ hn)) (fun _ => ?_) fun hchk hlen hhash out dn => ?_
  · exact .quiet ⟨⟨view_setUser _ _ _ fun _ => rfl, MLe.set _ _ _ (Nat.le_refl _), (one _ _).1⟩, (one _ _).2⟩
  · have hok := userOk_of_check hchk
    generalize hi : pingUid (q.name.take (min dlen 512)) = i at *
    have hi' : ((i.toNat : Nat) : Int) = i := Int.toNat_of_nonneg hok.nonneg
    have hlt : i.toNat < s.users.length := C16L.lt_length_of_active _ _ hok.active
    rw [C04L.getUser_setUser_self _ _ _ hlt] at hhash
    refine .login q dlen i.toNat rfl
      ⟨hd, h2, hc, hlen, hi.trans hi'.symm, hhash.symm, by rw [hi']; exact hok, ⟨rfl, rfl, by simp⟩, fun v hv => ?_, ?_, (one _ _).1,
        (one _ _).2⟩
    · dsimp only
      rw [C04L.getUser_setUser_ne _ _ _ _ hv, C04L.getUser_setUser_ne _ _ _ _ hv]
    · dsimp only
      rw [C04L.getUser_setUser_self _ _ _ (by simpa using hlt), C04L.getUser_setUser_self _ _ _ hlt]

section
variable (s : Srv) (q : Query) (dlen : Nat)
  (hd : Common.queryDatalen q.name s.cfg.topdomain = some dlen) (h2 : 2 ≤ dlen)
include hd h2

theorem reqSlot_cmd {cmd : C04L.Cmd} (hc : C04L.cmdOf ((C04L.inbOf q dlen).getD 0 0) = some cmd) :
    reqSlot s.cfg (.q q) = some (C04L.uidOf q dlen cmd) := by
  have h0 : (C04L.inbOf q dlen).getD 0 0 = q.name.getD 0 0 := C04L.inbOf_getD _ _ 0 (by omega)
  rw [h0] at hc
  unfold reqSlot
  simp only [hd]
  rw [if_neg (by omega), C04L.uidClass_cmdOf _ Iff.rfl Iff.rfl Iff.rfl, hc]
  cases cmd <;> first | rfl | exact congrArg (fun c => some (hexCode c)) h0.symm

theorem reqSlot_LNP (hc : q.name.getD 0 0 = 76 ∨ q.name.getD 0 0 = 108 ∨ q.name.getD 0 0 = 78 ∨
      q.name.getD 0 0 = 110 ∨ q.name.getD 0 0 = 80 ∨ q.name.getD 0 0 = 112) :
    reqSlot s.cfg (.q q) =
      some (charVal ((Encoding.unpackData Codec.b32 65536 ((q.name.take (min dlen 512)).drop 1)).getD 0 0)) := by
  unfold reqSlot
  simp only [hd]
  rw [if_neg (by omega), if_pos hc]

omit hd h2 in
theorem quietH_refusal (cmd : C04L.Cmd) : QuietH s (s, C04L.refusalOf q dlen cmd) := by
  have nil : QuietH s (s, []) := QuietH.refl_nil s
  have one : ∀ msg, (msg = ascii "BADLEN" ∨ msg = ascii "BADIP") → QuietH s (s, [writeDns q msg chT]) := fun msg hm => by
    refine quietH_answer _ _ (harmless_writeDns _ _ _ ⟨fun h => ?_, fun h => ?_⟩) (noChunk_writeDns _ _ _) <;>
      (have := h.2; rcases hm with rfl | rfl <;> simp [ascii] at this)
  have bl := one _ (.inl rfl); have bi := one _ (.inr rfl)
  cases cmd <;> simp only [C04L.refusalOf] <;>
    first | exact bi | exact ite_both (P := fun evs => QuietH s (s, evs)) bl bi
          | exact ite_both (P := fun evs => QuietH s (s, evs)) nil bi

omit hd h2 in
theorem Outcome.authedQ_of_frame {i : Int} {U : Prop} {r : Res} (hreq : reqSlot s.cfg (.q q) = some i)
    (hchk : checkAuthenticatedUserAndIp s i q = false)
    (hf : C04L.Frame C04L.erId (fun v => U ∧ v = i.toNat) s r.1) : Outcome s (.q q) r :=
  .authedQ q i rfl hreq hchk
    (fun v => by
      have e : ∀ z : Session, core (C04L.erId z) = core z := fun z => by cases z; rfl
      rw [← e, hf.rel v, e])
    fun v hv => by rw [hf.other v fun h => hv h.2]

/-- a command that names a session (the login apart): refused, or handled for a slot that passed
`check_authenticated_user_and_ip`; the options handlers write option fields of the named slot, the others data-path
fields only -/
theorem outcome_runCmd {cmd : C04L.Cmd} (hc : C04L.cmdOf ((C04L.inbOf q dlen).getD 0 0) = some cmd) (hne : cmd ≠ .login) :
    Outcome s (.q q) (C04L.runCmd s q dlen cmd) := by
  cases hr : C04L.rejected s q (C04L.uidOf q dlen cmd) cmd
  · have hreq := reqSlot_cmd s q dlen hd h2 hc
    have hchk := (C04L.checkAuth_of_accepted s q _ cmd hne hr)
    cases cmd
    case login => exact absurd rfl hne
    case switch => exact .authedQ_of_frame s q hreq hchk (C04L.frame_handleSwitchCodec s q dlen)
    case options => exact .authedQ_of_frame s q hreq hchk (C04L.frame_handleOptions s q dlen)
    case setfrag => exact .authedQ_of_frame s q hreq hchk (C04L.frame_handleSetFragsize s q dlen)
    case ip =>
      obtain ⟨msg, h⟩ := handleIp_cases s q (C04L.inbOf q dlen)
      exact .authedQ_of_view _ hreq hchk (congrArg (fun r : Res => view r.1) h :)
    case probe =>
      exact .authedQ_of_view _ hreq hchk
        (view_of_frame ((C04L.frame_handleFragsizeProbe s q dlen fun _ => True).coarsen C04L.erData_erOut))
    case ping => exact .authedQ_of_view _ hreq hchk (view_of_frame (C04L.frame_handlePing s q dlen))
    case data => exact .authedQ_of_view _ hreq hchk (view_of_frame (C04L.frame_handleData s q dlen))
  · rw [C04L.runCmd_refused s q dlen cmd hr]
    exact .quiet (quietH_refusal s q dlen cmd)

omit hd h2 in
theorem outcome_handleZ (hc : q.name.getD 0 0 = 90 ∨ q.name.getD 0 0 = 122) :
    Outcome s (.q q) (handleZ s q (q.name.take (min dlen 512))) := by
  have hn : q.name.getD 0 0 ≠ 73 ∧ q.name.getD 0 0 ≠ 105 ∧ q.name.getD 0 0 ≠ 86 ∧ q.name.getD 0 0 ≠ 118 := by omega
  exact Outcome.quiet (quietH_notIV _ q _ _ hn)

omit hd h2 in
theorem outcome_handleDownCodecCheck (hc : q.name.getD 0 0 = 89 ∨ q.name.getD 0 0 = 121) :
    Outcome s (.q q) (handleDownCodecCheck s q dlen (q.name.take (min dlen 512))) := by
  have hn : q.name.getD 0 0 ≠ 73 ∧ q.name.getD 0 0 ≠ 105 ∧ q.name.getD 0 0 ≠ 86 ∧ q.name.getD 0 0 ≠ 118 := by omega
  obtain ⟨msg, d, h⟩ := handleDownCodecCheck_cases s q dlen (q.name.take (min dlen 512))
  rw [h]
  exact .quiet (quietH_notIV _ q _ _ hn)

end
theorem outcome_handleNullRequest (s : Srv) (q : Query) (dlen : Nat)
    (hd : Common.queryDatalen q.name s.cfg.topdomain = some dlen) :
    Outcome s (.q q) (handleNullRequest s q dlen) :=
  handleNullRequest_letter s q dlen (.quiet (QuietH.refl_nil s)) fun h2 l hl => by
    have hc := (C04L.cmdOf_eq _).trans (congrArg (·.bind C04L.cmdOfLetter) (letterOf_of_codes hl))
    have run : ∀ cmd, C04L.cmdOfLetter l = some cmd → cmd ≠ .login → runLetter s q dlen l = C04L.runCmd s q dlen cmd →
        Outcome s (.q q) (runLetter s q dlen l) := fun cmd h hne e => e ▸ outcome_runCmd s q dlen hd h2 (hc.trans h) hne
    rw [C04L.inbOf_getD _ _ 0 (by omega)] at hl
    cases l
    case V => exact outcome_handleVersion s q _ (hl.imp (⟨dlen, hd, h2, ·⟩) (⟨dlen, hd, h2, ·⟩))
    case L => exact outcome_handleLogin s q dlen hd h2 hl
    case Z => exact outcome_handleZ s q dlen hl
    case Y => exact outcome_handleDownCodecCheck s q dlen hl
    all_goals exact run _ rfl nofun rfl

theorem quietH_nsa (s : Srv) (a : Addr) : QuietH s (s, [Event.nsa a]) := quietH_answer s _ trivial trivial

theorem quiet_handleARequest (s : Srv) (q : Query) (b : Bool) : QuietH s (handleARequest s q b) :=
  handleARequest_ind s q b (QuietH.refl_nil s) (quietH_nsa s _)

theorem quiet_handleNsRequest (s : Srv) (q : Query) (n : Nat) : QuietH s (handleNsRequest s q n) :=
  handleNsRequest_ind s q n (QuietH.refl_nil s) (quietH_nsa s _)

theorem quiet_forwardQuery (s : Srv) (q : Query) : QuietH s (forwardQuery s q) :=
  ⟨⟨rfl, fun _ => Nat.le_refl _, fun _ he => List.mem_singleton.1 he ▸ trivial⟩,
    fun _ he => List.mem_singleton.1 he ▸ trivial⟩

theorem outcome_tunnelDns (s : Srv) (q : Query) : Outcome s (.q q) (tunnelDns s q) :=
  tunnelDns_ind (P := Outcome s (.q q)) s q (.quiet (QuietH.refl_nil s)) (fun _ => .quiet (quiet_handleARequest _ _ _))
    (fun dlen hd _ => outcome_handleNullRequest s q dlen hd) (fun _ => .quiet (quiet_handleNsRequest _ _ _))
    (.quiet (quiet_forwardQuery _ _))

theorem quiet_tunnelBind (s : Srv) (d : List Nat) : QuietH s (tunnelBind s d) := by
  rw [tunnelBind]
  refine ite_both (QuietH.refl_nil s) ?_
  cases FwQuery.get s.fw (dnsGetId d) with
  | none => exact QuietH.refl_nil s
  | some j => exact quietH_answer s _ trivial trivial

theorem rawcmd_bits : ∀ x, x < 16 → (16 ||| x) &&& 240 = 16 ∧ (32 ||| x) &&& 240 = 32 ∧ (48 ||| x) &&& 240 = 48 := by
  decide

theorem harmless_sendRaw (buf : List Nat) (n u cmd : Nat) (q : Query) (hcmd : cmd = 16 ∨ cmd = 48) :
    Harmless (sendRaw buf n u cmd q) := by
  unfold sendRaw Harmless
  simp only []
  have hx : u &&& 15 < 16 := Nat.lt_succ_of_le Nat.and_le_right
  have hb := rawcmd_bits (u &&& 15) hx
  have : (List.take 3 rawHeader ++ [cmd ||| u &&& 15] ++ List.take (min (4096 - RAW_HDR_LEN) n) buf).getD 3 0
      = cmd ||| u &&& 15 := by
    simp [rawHeader, List.getD_eq_getElem?_getD]
  rw [this]
  rcases hcmd with rfl | rfl
  · rw [hb.1]; decide
  · rw [hb.2.2]; decide

theorem outcome_handleRawLogin (s : Srv) (src : Addr) (bytes : List Nat) :
    Outcome s (.rawf src bytes) (handleRawLogin s ((bytes.take 65536).drop RAW_HDR_LEN) (rawQuery src)
      (bytes.getD 3 0 &&& RAW_HDR_USR_MASK)) := by
  generalize hu : bytes.getD 3 0 &&& RAW_HDR_USR_MASK = u
  by_cases hok : C04L.rawLoginOk s ((bytes.take 65536).drop RAW_HDR_LEN) u
  · rw [C04L.handleRawLogin_accepted _ _ _ _ hok]
    obtain ⟨_, hlt, hact, hen, hauth, hfresh, hhash⟩ := hok
    have hl : u < s.users.length := C16L.lt_length_of_active _ _ hact
    refine Outcome.rawLogin src bytes u rfl
      ⟨hu.symm, hhash, hlt, hact, hen, hauth, hfresh, ⟨rfl, rfl, by simp⟩, fun v hv => ?_, ?_,
        fun _ he => List.mem_singleton.1 he ▸ harmless_sendRaw _ _ _ _ _ (.inl rfl),
        fun _ he => List.mem_singleton.1 he ▸ trivial⟩
    · dsimp only
      rw [C04L.getUser_setUser_ne _ _ _ _ hv, C04L.getUser_setUser_ne _ _ _ _ hv, C04L.getUser_setUser_ne _ _ _ _ hv]
    · dsimp only
      rw [C04L.getUser_setUser_self _ _ _ (by simpa using hl), C04L.getUser_setUser_self _ _ _ (by simpa using hl),
        C04L.getUser_setUser_self _ _ _ hl]
      rfl
  · rw [C04L.handleRawLogin_rejected _ _ _ _ hok]; exact Outcome.quiet (QuietH.refl_nil s)

theorem outcome_handleRawData (s : Srv) (src : Addr) (bytes : List Nat) :
    Outcome s (.rawf src bytes) (handleRawData s ((bytes.take 65536).drop RAW_HDR_LEN) (rawQuery src)
      (bytes.getD 3 0 &&& RAW_HDR_USR_MASK)) := by
  refine handleRawData_ind s _ src _ (.quiet (QuietH.refl_nil s)) fun hchk hraw => ?_
  refine .authedRaw src bytes _ rfl rfl hchk hraw ?_
  exact (view_of_frame (C04L.frame_handleFullPacket _ _)).trans (view_of_frame (C04L.frame_rawStored s _ src _))

theorem quiet_sendRaw {s s' : Srv} (hv : view s' = view s) (hm : MLe s s') (buf : List Nat) (n u cmd : Nat) (q : Query)
    (hcmd : cmd = 16 ∨ cmd = 48) : QuietH s (s', [sendRaw buf n u cmd q]) :=
  ⟨⟨hv, hm, fun _ he => List.mem_singleton.1 he ▸ harmless_sendRaw _ _ _ _ _ hcmd⟩,
    fun _ he => List.mem_singleton.1 he ▸ trivial⟩

theorem outcome_handleRawPing (s : Srv) (src : Addr) (bytes : List Nat) :
    Outcome s (.rawf src bytes) (handleRawPing s (rawQuery src) (bytes.getD 3 0 &&& RAW_HDR_USR_MASK)) :=
  handleRawPing_ind s _ _ (.quiet (QuietH.refl_nil s)) <| .quiet <| by
    refine quiet_sendRaw ?_ ?_ _ _ _ _ _ (.inr rfl)
    · exact view_setUser _ _ _ fun _ => rfl
    · exact MLe.set _ _ _ (Nat.le_refl _)

theorem events_deliverToUser (s : Srv) (t : Nat) (d : List Nat) (n : Nat) :
    ∀ e ∈ (deliverToUser s t d n).2, Harmless e ∨ ∃ a b, e = .raw a b := by
  have step : ∀ {s' : Srv} {r : Res}, StepRes s' t r → ∀ e ∈ r.2, Harmless e ∨ ∃ a b, e = .raw a b := fun h =>
    h.elim (P := fun r => ∀ e ∈ r.2, Harmless e ∨ ∃ a b, e = .raw a b) nofun
      (fun w e he => .inl (Harmless.of_chunkEv (chunkEv_sendChunkOrDataless _ _ w e he))) nofun
  rw [deliverToUser]
  exact ite_both (P := fun r : Res => ∀ e ∈ r.2, Harmless e ∨ ∃ a b, e = .raw a b)
    (ite_both (P := fun r : Res => ∀ e ∈ r.2, Harmless e ∨ ∃ a b, e = .raw a b) (step (sendWaiting_cases _ t)) nofun)
    fun _ he => .inr ⟨_, _, List.mem_singleton.1 he⟩

theorem events_tunnelTun (s : Srv) (f : List Nat) :
    ∀ e ∈ (tunnelTun s f).2, Harmless e ∨ ∃ d b, e = .raw d b := by
  rcases tunnelTun_cases s f with h | ⟨u, h⟩ <;> rw [h]
  · nofun
  · exact events_deliverToUser s u _ _

theorem outcome_rawDecode (s : Srv) (src : Addr) (bytes : List Nat) (r : Res)
    (h : rawDecode s (bytes.take 65536) src = some r) : Outcome s (.rawf src bytes) r := by
  obtain ⟨_, _, hr⟩ := rawDecode_cases h
  rw [getD_take_lt _ _ 3 (by decide)] at hr
  obtain ⟨_, rfl⟩ | ⟨_, rfl⟩ | ⟨_, rfl⟩ | rfl := hr
  · exact outcome_handleRawLogin s src bytes
  · exact outcome_handleRawData s src bytes
  · exact outcome_handleRawPing s src bytes
  · exact Outcome.quiet (QuietH.refl_nil s)

theorem outcome_dispatch (s : Srv) (inp : Input) (tunsel : Bool) : Outcome s inp (dispatch s inp tunsel) :=
  dispatch_ind (P := Outcome s inp) s inp tunsel (.quiet (QuietH.refl_nil s))
    (fun frame hi => .tunIn frame hi (view_of_frame (C04L.frame_tunnelTun _ _)) (events_tunnelTun _ _))
    (fun q hi => hi ▸ outcome_tunnelDns s q) (fun src bytes r hi h => hi ▸ outcome_rawDecode s src bytes r h)
    fun _ _ => .quiet (quiet_tunnelBind _ _)

end Iodine.C03L
