import IodineModel.Lemmas.C01a
import IodineModel.Lemmas.Chain
/-
C01: the CLIENT's reassembly machine under ARBITRARY input (the hostile network).
Invariant: `inpkt.data[0..len)` is the concatenation (cut at 64 KiB) of the payloads of a CHAIN of answers received so
far — same downstream seqno, fragment numbers rising by exactly one.
-/
namespace Iodine.C01L
open Iodine Iodine.Client

/-- header fields and payload of an answer as `tunnel_dns` reads them -/
def rqSeq (rq : Rq) : Nat := rq.buf.getD 1 0 / 32 % 8
def rqFrag (rq : Rq) : Nat := rq.buf.getD 1 0 / 2 % 16
def rqPayload (rq : Rq) : List Nat := (rq.buf.take rq.rv.toNat).drop 2

/-- data answers (more than the two header bytes) of one downstream seqno with consecutive fragment numbers -/
abbrev RChain : List Rq → Prop := Chain rqSeq rqFrag (fun r => r.rv > 2) (fun a b => b = a + 1)

/-- the buffer a chain fills: the payloads in order, cut at the size of `inpkt.data` -/
abbrev rjoin : List Rq → List Nat := join rqPayload

theorem rjoin_snoc (l : List Rq) (rq : Rq) :
    rjoin (l ++ [rq]) = rjoin l ++ (rqPayload rq).take (Gen.PACKET_DATA_SIZE - (rjoin l).length) :=
  join_snoc l rq

/-- the invariant: `p` holds the join of a chain that is a subsequence of the answers `seen` so far, and the chain's
last answer is the one whose seqno/fragment `p` remembers -/
def RInv (p : Packet) (seen : List Rq) : Prop :=
  ∃ l, l.Sublist seen ∧ RChain l ∧ p.data.take p.len = rjoin l ∧ p.len = (rjoin l).length ∧
    ∀ r, l.getLast? = some r → (rqSeq r : Int) = p.seqno ∧ (rqFrag r : Int) = p.fragment

theorem RInv.mono {p : Packet} {seen : List Rq} (h : RInv p seen) (more : List Rq) : RInv p (seen ++ more) := by
  obtain ⟨l, a, b⟩ := h
  exact ⟨l, a.trans (List.sublist_append_left _ _), b⟩

theorem RInv.empty {p : Packet} (h : p.len = 0) (seen : List Rq) : RInv p seen :=
  ⟨[], List.nil_sublist _, trivial, by rw [h]; rfl, by rw [h]; rfl, fun _ h => by cases h⟩

theorem decodeHdr_seq (rq : Rq) : (decodeHdr rq.buf).dnSeq = (rqSeq rq : Int) := rfl
theorem decodeHdr_frag (rq : Rq) : (decodeHdr rq.buf).dnFrag = (rqFrag rq : Int) := rfl

theorem sChar_nat_small (n : Nat) (h : n < 128) : sChar (n : Int) = (n : Int) := by
  unfold sChar; omega

theorem rqSeq_lt (rq : Rq) : rqSeq rq < 8 := by unfold rqSeq; omega
theorem rqFrag_lt (rq : Rq) : rqFrag rq < 16 := by unfold rqFrag; omega

/-- the accepting branches of the `if … else if …` chain: the state with which the fragment is taken holds a chain whose
last element (if any) is the fragment just before this one -/
theorem rxAccept_inv {p p1 : Packet} {seen : List Rq} (rq : Rq) (h : RInv p seen)
    (ha : rxAccept p (decodeHdr rq.buf) = some p1) :
    p1.seqno = (rqSeq rq : Int) ∧
    ∃ l, l.Sublist seen ∧ RChain l ∧ p1.data.take p1.len = rjoin l ∧ p1.len = (rjoin l).length ∧
      ∀ r, l.getLast? = some r → rqSeq rq = rqSeq r ∧ rqFrag rq = rqFrag r + 1 := by
  have empty : ∀ q : Packet, q.len = 0 → ∃ l, l.Sublist seen ∧ RChain l ∧ q.data.take q.len = rjoin l ∧
      q.len = (rjoin l).length ∧ ∀ r, l.getLast? = some r → rqSeq rq = rqSeq r ∧ rqFrag rq = rqFrag r + 1 :=
    fun q hq => ⟨[], List.nil_sublist _, trivial, by rw [hq]; rfl, by rw [hq]; rfl, fun _ h => by cases h⟩
  unfold rxAccept at ha
  rw [decodeHdr_seq, decodeHdr_frag] at ha
  split at ha
  · cases ha
    exact ⟨sChar_nat_small _ (by have := rqSeq_lt rq; omega), empty _ rfl⟩
  · next hs =>
    have hseq : p.seqno = (rqSeq rq : Int) := by
      apply Classical.byContradiction; intro hn; exact hs (fun e => hn e.symm)
    split at ha
    · next hw => cases ha; exact ⟨hseq, empty _ hw.2.2⟩
    · split at ha
      · cases ha
      · next hle =>
        split at ha
        · cases ha
        · next hgt =>
          cases ha
          refine ⟨hseq, ?_⟩
          obtain ⟨l, a, b, c, d, e⟩ := h
          refine ⟨l, a, b, c, d, ?_⟩
          intro r hr
          obtain ⟨e1, e2⟩ := e r hr
          constructor
          · have : (rqSeq rq : Int) = (rqSeq r : Int) := by rw [e1, hseq]
            exact Int.ofNat_inj.mp this
          · have : (rqFrag rq : Int) = (rqFrag r : Int) + 1 := by rw [e2]; omega
            omega

theorem frames_tunws_cases (b : List Nat) : frames b = [] ∨ ∃ out, uncompress b 65536 = some out ∧ frames b = [writeTun out] := by
  unfold frames
  cases uncompress b 65536 with
  | none => exact Or.inl rfl
  | some out => exact Or.inr ⟨out, rfl, rfl⟩

/-- where the tun writes of one answer come from: nothing, or the join of a chain of received answers ending in this
one, handed to `uncompress` -/
def ROrigin (seen : List Rq) (rq : Rq) (evs : List CEvent) : Prop :=
  evs = [] ∨ ∃ l, l.Sublist (seen ++ [rq]) ∧ RChain l ∧ l.getLast? = some rq ∧ evs = frames (rjoin l)

/-- **one step of the reassembly machine under arbitrary input** -/
theorem rxStep_inv (p : Packet) (acc : Bool) (rq : Rq) (seen : List Rq) (h : RInv p seen) :
    RInv (rxStep p acc rq).1 (seen ++ [rq]) ∧ ROrigin seen rq (rxStep p acc rq).2 := by
  unfold rxStep
  cases acc with
  | false => exact ⟨h.mono [rq], Or.inl rfl⟩
  | true =>
    simp only [if_true]
    -- the header-only adoption of a new seqno empties the buffer
    have h0 : RInv (rxAdopt p (decodeHdr rq.buf) (rxRead p (decodeHdr rq.buf) rq.rv)) seen := by
      unfold rxAdopt
      split
      · exact RInv.empty rfl seen
      · exact h
    generalize rxAdopt p (decodeHdr rq.buf) (rxRead p (decodeHdr rq.buf) rq.rv) = p0 at h0
    have hread : rxRead p (decodeHdr rq.buf) rq.rv > 2 → rxRead p (decodeHdr rq.buf) rq.rv = rq.rv ∧ rq.rv > 2 := by
      unfold rxRead
      split
      · intro h2; omega
      · intro h2; exact ⟨rfl, h2⟩
    generalize rxRead p (decodeHdr rq.buf) rq.rv = read at hread
    unfold rxDown
    split
    · next hgt =>
      obtain ⟨hrd, hrv⟩ := hread hgt
      subst hrd
      cases ha : rxAccept p0 (decodeHdr rq.buf) with
      | none => exact ⟨h0.mono [rq], Or.inl rfl⟩
      | some p1 =>
        obtain ⟨hseq, l, a, b, c, d, e⟩ := rxAccept_inv rq h0 ha
        dsimp only
        have hsub : (l ++ [rq]).Sublist (seen ++ [rq]) := List.Sublist.append a (List.Sublist.refl _)
        have hchain : RChain (l ++ [rq]) := Chain.snoc l rq b hrv e
        have hlast : (l ++ [rq]).getLast? = some rq := by simp
        have hdata : (rxAppend p1 (decodeHdr rq.buf) rq.buf rq.rv).data.take
            (rxAppend p1 (decodeHdr rq.buf) rq.buf rq.rv).len = rjoin (l ++ [rq]) ∧
            (rxAppend p1 (decodeHdr rq.buf) rq.buf rq.rv).len = (rjoin (l ++ [rq])).length := by
          unfold rxAppend
          dsimp only
          rw [rjoin_snoc, c, ← d]
          have hlen : (rjoin l ++ List.take (Gen.PACKET_DATA_SIZE - p1.len) (rqPayload rq)).length
              = p1.len + (List.take (Gen.PACKET_DATA_SIZE - p1.len) (List.drop 2 (List.take rq.rv.toNat rq.buf))).length := by
            rw [List.length_append, ← d]; rfl
          refine ⟨?_, hlen.symm⟩
          rw [← hlen]
          exact List.take_of_length_le (Nat.le_refl _)
        by_cases hl : (decodeHdr rq.buf).last = true
        · rw [if_pos hl]
          unfold rxDeliver
          dsimp only
          refine ⟨RInv.empty rfl _, Or.inr ⟨l ++ [rq], hsub, hchain, hlast, ?_⟩⟩
          rw [hdata.1]
        · rw [if_neg hl]
          refine ⟨⟨l ++ [rq], hsub, hchain, hdata.1, hdata.2, ?_⟩, Or.inl rfl⟩
          intro r hr
          rw [hlast] at hr
          cases hr
          refine ⟨?_, ?_⟩
          · show _ = p1.seqno; exact hseq.symm
          · show _ = sChar (decodeHdr rq.buf).dnFrag
            rw [decodeHdr_frag, sChar_nat_small _ (by have := rqFrag_lt rq; omega)]
    · exact ⟨h0.mono [rq], Or.inl rfl⟩

end Iodine.C01L
