import IodineModel.Lemmas.C02f
/-
The RENEWAL of the freshness of the duplicate memories after loss, at the level of one ring memory.

`RingAged L … sl` (C02f) constrains EVERY position of the ring, and its slack is only ever consumed by `push` and produced by
`step`: a lost query (a `step` without `push`) leaves one unit of slack behind for good, as far as the lemmas of C02f go.
`RingAgedTo n` (C02f) speaks about the `n` most recently written positions only (`n = 0`: nothing is claimed, `n ≥ L`:
`RingAged`).  A push makes one more position known, whatever was overwritten.  Hence RENEWAL: after `L` pushes of entries
that are at most `s` sends old the ring is aged with slack `s`, no matter what it held before — in particular after `L`
clean query/answer cycles `RingAged … 1` holds again.

What can be asked of a ring meanwhile, its past being unknown, looks forward instead: `RingFreshTo n` — no entry is relevant
for one of the next `n` counter values while it is still in the ring.  Remembering the query that carries the current value
uses one of the `n` up (`RingFreshTo.push`), and no entry passes for it (`RingFreshTo.miss`).
-/
namespace Iodine.C02L
open Iodine Iodine.Gen Iodine.Server
open Iodine.C16L (ringPos ringFill ringFill_lt ring_push_zero ring_push_succ ringPos_lt ringPos_surj)

/-- `n` operations on a ring memory `(mem, last)` with the client's counter `k`, each of them either
* `data`: the client sends the query that carries the counter value `k` (its counter advances) and the server remembers it
  — one query/answer cycle of the clean path —, or
* `other`: the server remembers something irrelevant (for `dnscache`: a query of the other kind). -/
inductive CleanRun {α : Type} (L M : Nat) (Rel : α → Nat → Prop) : Nat → List α × Nat × Nat → List α × Nat × Nat → Prop
  | nil (s : List α × Nat × Nat) : CleanRun L M Rel 0 s s
  | data {n : Nat} {s : List α × Nat × Nat} {mem : List α} {last k : Nat} (v : α) (h : CleanRun L M Rel n s (mem, last, k))
      (hv : ∀ c, Rel v c → c = k) :
      CleanRun L M Rel (n + 1) s (mem.set (ringFill L last) v, ringFill L last, nxt M k)
  | other {n : Nat} {s : List α × Nat × Nat} {mem : List α} {last k : Nat} (v : α) (h : CleanRun L M Rel n s (mem, last, k))
      (hv : ∀ c, ¬ Rel v c) :
      CleanRun L M Rel (n + 1) s (mem.set (ringFill L last) v, ringFill L last, k)

theorem nxt_lt {M k : Nat} (hM : 0 < M) : nxt M k < M := by
  unfold nxt; split <;> omega

/-- **RENEWAL, ring level.**  Start from ANY ring memory (only well-formed: `length = L`, `last < L`) and any counter value.
After `n` clean operations the `n` newest positions are aged with slack 1, -/
theorem CleanRun.renew {α : Type} {L M : Nat} {Rel : α → Nat → Prop} {n : Nat} {mem0 mem : List α} {last0 last k0 k : Nat}
    (d : α) (h : CleanRun L M Rel n (mem0, last0, k0) (mem, last, k)) (hlen : mem0.length = L) (hlast : last0 < L) (hk : k0 < M)
    (hM : L + 1 ≤ M) :
    mem.length = L ∧ last < L ∧ k < M ∧ RingAgedTo n L mem last d Rel k M 1 := by
  generalize hs : (mem0, last0, k0) = s at h
  generalize ht : (mem, last, k) = t at h
  induction h generalizing mem last k with
  | nil s =>
    subst hs
    cases ht
    exact ⟨hlen, hlast, hk, RingAgedTo.zero _ _ _ _ _ _ _ _⟩
  | data v h hv ih =>
    cases ht
    obtain ⟨h1, h2, h3, h4⟩ := ih hs rfl
    refine ⟨by simp [h1], ringFill_lt _ _ (by omega), nxt_lt (by omega), ?_⟩
    apply (h4.step h3 hM).push h1 h2
    intro c hc
    rw [hv c hc]
    exact ⟨1, Nat.le_refl 1, Nat.le_refl 1, behind_nxt h3⟩
  | other v h hv ih =>
    cases ht
    obtain ⟨h1, h2, h3, h4⟩ := ih hs rfl
    exact ⟨by simp [h1], ringFill_lt _ _ (by omega), h3, h4.push_irrel h1 h2 v hv⟩

/-- … hence after `L` or more of them the whole ring is: `RingAged … 1`, whatever it held before. -/
theorem CleanRun.renewed {α : Type} {L M : Nat} {Rel : α → Nat → Prop} {n : Nat} {mem0 mem : List α} {last0 last k0 k : Nat}
    (d : α) (h : CleanRun L M Rel n (mem0, last0, k0) (mem, last, k)) (hlen : mem0.length = L) (hlast : last0 < L) (hk : k0 < M)
    (hM : L + 1 ≤ M) (hn : L ≤ n) : RingAged L mem last d Rel k M 1 :=
  (h.renew d hlen hlast hk hM).2.2.2.full hn

/-- the old slack is not lost meanwhile (needed as long as fewer than `L` cycles have passed): a ring that is aged with slack
`sl` stays so under clean operations -/
theorem CleanRun.keeps {α : Type} {L M : Nat} {Rel : α → Nat → Prop} {n : Nat} {mem0 mem : List α} {last0 last k0 k sl : Nat}
    (d : α) (h : CleanRun L M Rel n (mem0, last0, k0) (mem, last, k)) (hlen : mem0.length = L) (hlast : last0 < L) (hk : k0 < M)
    (hsl : 1 ≤ sl) (hM : L + sl ≤ M) (h0 : RingAged L mem0 last0 d Rel k0 M sl) : RingAged L mem last d Rel k M sl := by
  generalize hs : (mem0, last0, k0) = s at h
  generalize ht : (mem, last, k) = t at h
  induction h generalizing mem last k with
  | nil s =>
    subst hs
    cases ht
    exact h0
  | data v h hv ih =>
    cases ht
    subst hs
    obtain ⟨h1, h2, h3, _⟩ := h.renew d hlen hlast hk (by omega)
    apply ((ih rfl rfl).step h3 hM).push h1 h2
    intro c hc
    rw [hv c hc]
    exact ⟨1, Nat.le_refl 1, hsl, behind_nxt h3⟩
  | other v h hv ih =>
    cases ht
    subst hs
    obtain ⟨h1, h2, h3, _⟩ := h.renew d hlen hlast hk (by omega)
    exact (ih rfl rfl).push_irrel h1 h2 v hv

/-- non-vacuity of the renewal theorem: a ring of three numbers (relevant: the non-zero ones; counter value = the number), period
10; three clean cycles from a ring full of garbage (9 is even the counter value the client reaches later) -/
example : RingAged 3 [7, 5, 6] 0 0 (fun e c => e ≠ 0 ∧ e = c) 8 10 1 := by
  have h0 := CleanRun.nil (L := 3) (M := 10) (Rel := fun (e c : Nat) => e ≠ 0 ∧ e = c) ([9, 9, 9], 0, 5)
  have h1 := CleanRun.data 5 h0 (fun c hc => hc.2.symm)
  have h2 := CleanRun.data 6 h1 (fun c hc => hc.2.symm)
  have h3 := CleanRun.data 7 h2 (fun c hc => hc.2.symm)
  exact h3.renewed 0 rfl (by decide) (by decide) (by decide) (by decide)

/-- a LOST query: the counter advances and nothing is remembered: `sl ↦ sl + 1` (that is `RingAged.step`); `m` of them in a
row: `sl ↦ sl + m`, as long as the period is not exhausted (`L + sl + m ≤ M + 1`: the last of them may use the period up) -/
theorem RingAged.steps {α : Type} {L : Nat} {mem : List α} {last : Nat} {d : α} {Rel : α → Nat → Prop} {M sl k : Nat} (m : Nat)
    (h : RingAged L mem last d Rel k M sl) (hk : k < M) (hM : L + sl + m ≤ M + 1) :
    RingAged L mem last d Rel ((k + m) % M) M (sl + m) := by
  induction m with
  | zero => rw [Nat.add_zero, Nat.mod_eq_of_lt hk]; exact h
  | succ m ih =>
    have h1 := (ih (by omega)).step (Nat.mod_lt _ (by omega)) (by omega)
    rw [nxt_eq_mod (Nat.mod_lt _ (by omega)), Nat.mod_add_mod] at h1
    exact h1

/-! ### a ring whose past is unknown: fresh for the values to come -/

/-- the entry `i` saves old is not relevant for the counter values `k + j`, `j < n`, that are used while it is still in the
ring (`i + j < L`) -/
def RingFreshTo {α : Type} (n L : Nat) (mem : List α) (last : Nat) (d : α) (Rel : α → Nat → Prop) (k M : Nat) : Prop :=
  ∀ i, i < L → ∀ j, j < n → i + j < L → ¬ Rel (mem.getD (ringPos L last i) d) ((k + j) % M)

theorem RingFreshTo.mono {α : Type} {n n' L : Nat} {mem : List α} {last : Nat} {d : α} {Rel : α → Nat → Prop} {k M : Nat}
    (h : RingFreshTo n L mem last d Rel k M) (hn : n' ≤ n) : RingFreshTo n' L mem last d Rel k M :=
  fun i hi j hj hij => h i hi j (by omega) hij

theorem RingFreshTo.miss {α : Type} {n L : Nat} {mem : List α} {last : Nat} {d : α} {Rel : α → Nat → Prop} {k M : Nat}
    (h : RingFreshTo (n + 1) L mem last d Rel k M) (hlen : mem.length = L) (hlast : last < L) (hk : k < M)
    (e : α) (he : e ∈ mem) : ¬ Rel e k := by
  intro hr
  obtain ⟨p, hp, hep⟩ := List.getElem_of_mem he
  obtain ⟨i, hi, hpos⟩ := ringPos_surj L last p hlast (by omega)
  have hg : mem.getD (ringPos L last i) d = e := by
    rw [hpos, List.getD_eq_getElem?_getD, List.getElem?_eq_getElem hp, hep]; rfl
  have := h i hi 0 (by omega) (by omega)
  rw [hg, Nat.add_zero, Nat.mod_eq_of_lt hk] at this
  exact this hr

/-- the query that carries `k` is remembered (entry `v`, not relevant for the following values as long as it stays): the
ring is fresh for the next `n` values -/
theorem RingFreshTo.push {α : Type} {n L : Nat} {mem : List α} {last : Nat} {d : α} {Rel : α → Nat → Prop} {k M : Nat}
    (h : RingFreshTo (n + 1) L mem last d Rel k M) (hlen : mem.length = L) (hlast : last < L) (v : α)
    (hv : ∀ j, j < n → j < L → ¬ Rel v ((k + 1 + j) % M)) :
    RingFreshTo n L (mem.set (ringFill L last) v) (ringFill L last) d Rel ((k + 1) % M) M := by
  have hL : 0 < L := by omega
  intro i hi j hj hij
  rw [Nat.mod_add_mod]
  cases i with
  | zero =>
    rw [ring_push_zero mem L last hlen hL]
    exact hv j hj (by omega)
  | succ i' =>
    rw [ring_push_succ mem L last i' hlast hi]
    have := h i' (by omega) (j + 1) (by omega) (by omega)
    rwa [show k + (j + 1) = k + 1 + j from by omega] at this

/-- an irrelevant entry is pushed (a ping into `dnscache`): nothing is consumed -/
theorem RingFreshTo.push_irrel {α : Type} {n L : Nat} {mem : List α} {last : Nat} {d : α} {Rel : α → Nat → Prop} {k M : Nat}
    (h : RingFreshTo n L mem last d Rel k M) (hlen : mem.length = L) (hlast : last < L) (v : α) (hv : ∀ c, ¬ Rel v c) :
    RingFreshTo n L (mem.set (ringFill L last) v) (ringFill L last) d Rel k M := by
  have hL : 0 < L := by omega
  intro i hi j hj hij
  cases i with
  | zero =>
    rw [ring_push_zero mem L last hlen hL]
    exact hv _
  | succ i' =>
    rw [ring_push_succ mem L last i' hlast hi]
    exact h i' (by omega) j hj (by omega)

end Iodine.C02L
