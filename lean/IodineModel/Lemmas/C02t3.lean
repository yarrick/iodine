import IodineModel.Lemmas.C02t
/-
TESTS: a packet offered on each side before anything is delivered (lazy and immediate mode), and the other upstream
codecs.
-/
namespace Iodine.C02L
open Iodine Iodine.World

/-- TEST both directions at once in lazy mode: a packet is offered on each side before anything is delivered -/
theorem test_lazy_both :
    (let w := runPrompt 0 60 (step (step (demoLazy .b32 .b32) (.offerC (demoFrame 9 30))) (.offerS (demoFrame 2 30)))
     quiet 0 w && w.tunS == [demoFrame 9 30] && w.tunC == [demoFrame 2 30]) = true := by
  unfold demoLazy; rw [runPrompt_fast, run_fast, step_fast]; decide +kernel

/-- TEST the other upstream codecs (lazy mode, 2 fragments up) -/
theorem test_lazy_up_b64 : deliversOnce (demoLazy .b64 .b64) true (demoFrame 9 30) 5 = true := by
  unfold deliversOnce demoLazy; rw [runPromptCount_fast, run_fast, step_fast]; decide +kernel
theorem test_lazy_up_b64u : deliversOnce (demoLazy .b64u .b64u) true (demoFrame 9 30) 5 = true := by
  unfold deliversOnce demoLazy; rw [runPromptCount_fast, run_fast, step_fast]; decide +kernel
theorem test_lazy_up_b128 : deliversOnce (demoLazy .b128 .b128) true (demoFrame 9 30) 5 = true := by
  unfold deliversOnce demoLazy; rw [runPromptCount_fast, run_fast, step_fast]; decide +kernel

/-- TEST both directions at once in immediate mode: a packet is offered on each side before anything is delivered (the case the
theorems of `Props/C02.lean` do not cover) -/
theorem test_imm_both :
    (let w := runPrompt 0 60 (step (step (demoImmediate .b32 .b32) (.offerC (demoFrame 9 30))) (.offerS (demoFrame 2 30)))
     quiet 0 w && w.tunS == [demoFrame 9 30] && w.tunC == [demoFrame 2 30]) = true := by
  rw [runPrompt_fast, step_fast]; decide +kernel

/-- … the server's packet offered first -/
theorem test_imm_both' :
    (let w := runPrompt 0 60 (step (step (demoImmediate .b32 .b32) (.offerS (demoFrame 2 30))) (.offerC (demoFrame 9 30)))
     quiet 0 w && w.tunS == [demoFrame 9 30] && w.tunC == [demoFrame 2 30]) = true := by
  rw [runPrompt_fast, step_fast]; decide +kernel

end Iodine.C02L
