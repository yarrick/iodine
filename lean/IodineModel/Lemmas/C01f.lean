import IodineModel.Lemmas.C01e
import IodineModel.Props.C16
/-
C01: a NEW data query of an established session gets to `dataFresh` (bridge to the vocabulary
of C16: `Accepted`, cache hit, query-memory hit, pending duplicate), and the step of the run that feeds the next fragment.
-/
namespace Iodine.C01L
open Iodine Iodine.Server Iodine.Gen

theorem rememberDuplicate_none {e : Srv} {q : Query} {u : Nat} (hp : ¬ C16.PendingInQ e q u)
    (hps : ¬ C16.PendingInQs e q u) : rememberDuplicate e u q = none := by
  unfold rememberDuplicate
  dsimp only
  rw [if_neg, if_neg]
  · rintro ⟨a, b, c⟩; exact hps ⟨a, b.symm, c.symm⟩
  · rintro ⟨a, b, c, d⟩; exact hp ⟨a, b.symm, c.symm, d⟩

/-- a data query of the established session `u` that is in neither the answer cache nor the query memory and is not a
repeat of a held query is processed by `dataFresh` -/
theorem dispatch_newData {e : Srv} {q : Query} {u : Nat} (ts : Bool) (ha : C16.Accepted e q u)
    (hd : C16.IsData q.name) (hc : dnscacheFind (getUser e u) q DNSCACHE_LEN 0 = none)
    (hq : ¬ C16.QmemHit e q u) (hp : ¬ C16.PendingInQ e q u) (hps : ¬ C16.PendingInQs e q u) :
    dispatch e (.q q) ts = dataFresh e u q (inbOfQ e q) ∧ u < e.users.length := by
  have hlt : u < e.users.length := C16L.lt_length_of_active _ _ ha.2.2.2.1.2.1
  refine ⟨?_, hlt⟩
  rcases C16.dispatch_accepted ts ha with ⟨hpi, _⟩ | ⟨_, h⟩
  · exfalso; unfold C16.IsPing at hpi; unfold C16.IsData at hd; omega
  · rw [h]
    unfold C16L.dataFilters answerFromDnscache
    simp only [hc]
    have hqm : answerFromQmemData e u q = none := by
      unfold answerFromQmemData answerFromQmem
      rw [if_neg]
      intro hany
      apply hq
      right
      refine ⟨hd, ?_⟩
      rw [C16.dataPrint_eq]
      exact (C16.remembered_iff _ _ _).mpr hany
    rw [hqm, rememberDuplicate_none hp hps]
    rfl


/-- the step of the last fragment: `handle_full_packet` is called (once, by the data handler) in a state `s2` that
differs from the handler state only in slot `u`, with `u`'s buffer holding exactly the image; the events of the handler
phase are those of `handOn s2 img` followed by events that write nothing to tun -/
theorem final_handoff {s : Nat} {fs : List (List Nat)} (hc : Cut s fs) {e : Srv} {u k : Nat} {q : Query} {inb : List Nat}
    (ts : Bool) (hk : k + 1 = fs.length) (hinv : SxInv s fs k (getUser e u).inpacket)
    (hdisp : dispatch e (.q q) ts = dataFresh e u q inb) (hu : u < e.users.length) (hid : q.id ≠ 0)
    (hhdr : upHdr inb = (s, k, true))
    (hpay : Encoding.unpackData (getUser e u).encoder.codec 65536 (inb.drop 5) = fs.getD k []) :
    ∃ (s2 : Srv) (tail : Res), (∀ v, v ≠ u → getUser s2 v = getUser e v) ∧
      (∀ ip, findUserByIp s2 ip = findUserByIp e ip) ∧
      (getUser s2 u).inpacket.data.take (getUser s2 u).inpacket.len = fs.flatten ∧
      dispatch e (.q q) ts = (tail.1, (handOn s2 fs.flatten).2 ++ tail.2) ∧ stunws tail.2 = [] := by
  have hklt : k < fs.length := by omega
  obtain ⟨s2, tail, f1, h2, hrest⟩ := dataFresh_parts e u q inb hu hid
  rw [hhdr, hpay] at h2
  dsimp only at h2 hrest
  obtain ⟨hok, htk⟩ := sxTake_next hc hklt hinv
  rw [htk] at h2
  rw [hhdr] at hrest
  dsimp only at hrest
  rw [if_pos ⟨hok, rfl⟩] at hrest
  obtain ⟨it, he⟩ := hrest
  have hdata : (getUser s2 u).inpacket.data.take (getUser s2 u).inpacket.len = fs.flatten := by
    rw [h2]
    show List.take (pre fs (k + 1)).length (pre fs (k + 1)) = _
    rw [List.take_of_length_le (Nat.le_refl _), hk, pre_all]
  have hlen : (getUser s2 u).inpacket.len = fs.flatten.length := by
    rw [h2]
    show (pre fs (k + 1)).length = _
    rw [hk, pre_all]
  refine ⟨s2, tail, fun v hv => f1.other v hv, fun ip => f1.findUserByIp_eq ip, hdata, ?_, it.quiet⟩
  rw [hdisp, he, handleFullPacket_handOn s2 u fs.flatten hdata hlen hc.size]

end Iodine.C01L
