import IodineModel.Lemmas.SrvC16a
import IodineModel.Lemmas.C02v4
/-
Freshness of the server's duplicate memories as an INVARIANT.  Every remembered data query of the session carries a data-CMC counter
value the client used at most `ring distance + slack` sends ago (`Aged`); the rings are shorter than the period of the counter (15
resp. 4 entries, period 36), so the query the client sends next is never found in them.  The same for pings, which carry a 16-bit
counter (`rand_seed`, incremented per ping): `PAged` (fingerprint memory of 30 entries, answer cache of 4); remembering a data query
does not disturb the ping invariant and vice versa.  The ring lemmas are proved for the `n` newest positions of a ring (`RingAgedTo`).
-/
namespace Iodine.C02L
open Iodine Iodine.Gen Iodine.Server
open Iodine.C16L (ringPos ringFill ringFill_lt ring_push_zero ring_push_succ ringPos_lt ringPos_surj)

/-- the counter value `c` is `a` steps behind `k` (counter modulo `M`, all values `< M`) -/
def Behind (M k c a : Nat) : Prop := c < M ∧ (c + a = k ∨ c + a = k + M)

/-- the successor of a counter value -/
def nxt (M k : Nat) : Nat := if k + 1 ≥ M then 0 else k + 1

/-- every relevant entry of a ring memory (relevance and counter value given by `Rel`) was written with a counter value
that is between 1 and `distance + sl` steps behind `k` -/
def RingAged {α : Type} (L : Nat) (mem : List α) (last : Nat) (d : α) (Rel : α → Nat → Prop) (k M sl : Nat) : Prop :=
  ∀ i, i < L → ∀ c, Rel (mem.getD (ringPos L last i) d) c → ∃ a, 1 ≤ a ∧ a ≤ i + sl ∧ Behind M k c a

/-- as `RingAged`, for the `n` most recently written positions only -/
def RingAgedTo {α : Type} (n L : Nat) (mem : List α) (last : Nat) (d : α) (Rel : α → Nat → Prop) (k M sl : Nat) : Prop :=
  ∀ i, i < n → i < L → ∀ c, Rel (mem.getD (ringPos L last i) d) c → ∃ a, 1 ≤ a ∧ a ≤ i + sl ∧ Behind M k c a

theorem RingAgedTo.zero {α : Type} (L : Nat) (mem : List α) (last : Nat) (d : α) (Rel : α → Nat → Prop) (k M sl : Nat) :
    RingAgedTo 0 L mem last d Rel k M sl := fun i hi => absurd hi (Nat.not_lt_zero i)

theorem ringAged_iff_to {α : Type} {L : Nat} {mem : List α} {last : Nat} {d : α} {Rel : α → Nat → Prop} {k M sl : Nat} :
    RingAged L mem last d Rel k M sl ↔ RingAgedTo L L mem last d Rel k M sl :=
  ⟨fun h i _ hi => h i hi, fun h i hi => h i hi hi⟩

theorem RingAgedTo.full {α : Type} {n L : Nat} {mem : List α} {last : Nat} {d : α} {Rel : α → Nat → Prop} {k M sl : Nat}
    (h : RingAgedTo n L mem last d Rel k M sl) (hn : L ≤ n) : RingAged L mem last d Rel k M sl :=
  fun i hi => h i (by omega) hi

theorem RingAged.to {α : Type} {L : Nat} {mem : List α} {last : Nat} {d : α} {Rel : α → Nat → Prop} {k M sl : Nat}
    (h : RingAged L mem last d Rel k M sl) (n : Nat) : RingAgedTo n L mem last d Rel k M sl :=
  fun i _ hi => h i hi

theorem RingAgedTo.mono {α : Type} {n n' L : Nat} {mem : List α} {last : Nat} {d : α} {Rel : α → Nat → Prop} {k M sl sl' : Nat}
    (h : RingAgedTo n L mem last d Rel k M sl) (hn : n' ≤ n) (hs : sl ≤ sl') : RingAgedTo n' L mem last d Rel k M sl' := by
  intro i hi hiL c hc
  obtain ⟨a, h1, h2, h3⟩ := h i (by omega) hiL c hc
  exact ⟨a, h1, by omega, h3⟩

/-- the counter advances: one more step of slack -/
theorem RingAgedTo.step {α : Type} {n L : Nat} {mem : List α} {last : Nat} {d : α} {Rel : α → Nat → Prop} {k M sl : Nat}
    (h : RingAgedTo n L mem last d Rel k M sl) (hk : k < M) (hM : L + sl ≤ M) :
    RingAgedTo n L mem last d Rel (nxt M k) M (sl + 1) := by
  intro i hi hiL c hc
  obtain ⟨a, h1, h2, h3, h4⟩ := h i hi hiL c hc
  refine ⟨a + 1, by omega, by omega, h3, ?_⟩
  unfold nxt
  split <;> omega

/-- an entry that is within the slack is pushed: one more position is known, one step of slack is gained.  NOTHING is
required of the entry that is overwritten. -/
theorem RingAgedTo.push {α : Type} {n L : Nat} {mem : List α} {last : Nat} {d : α} {Rel : α → Nat → Prop} {k M sl : Nat}
    (h : RingAgedTo n L mem last d Rel k M (sl + 1)) (hlen : mem.length = L) (hlast : last < L) (v : α)
    (hv : ∀ c, Rel v c → ∃ a, 1 ≤ a ∧ a ≤ sl ∧ Behind M k c a) :
    RingAgedTo (n + 1) L (mem.set (ringFill L last) v) (ringFill L last) d Rel k M sl := by
  have hL : 0 < L := by omega
  intro i hi hiL c hc
  cases i with
  | zero =>
    rw [ring_push_zero mem L last hlen hL] at hc
    obtain ⟨a, h1, h2, h3⟩ := hv c hc
    exact ⟨a, h1, by omega, h3⟩
  | succ j =>
    rw [ring_push_succ mem L last j hlast hiL] at hc
    obtain ⟨a, h1, h2, h3⟩ := h j (by omega) (by omega) c hc
    exact ⟨a, h1, by omega, h3⟩

theorem RingAgedTo.push_irrel {α : Type} {n L : Nat} {mem : List α} {last : Nat} {d : α} {Rel : α → Nat → Prop} {k M sl : Nat}
    (h : RingAgedTo n L mem last d Rel k M sl) (hlen : mem.length = L) (hlast : last < L) (v : α) (hv : ∀ c, ¬ Rel v c) :
    RingAgedTo (n + 1) L (mem.set (ringFill L last) v) (ringFill L last) d Rel k M sl :=
  (h.mono (Nat.le_refl n) (Nat.le_succ sl)).push hlen hlast v (fun c hc => absurd hc (hv c))

/-- an entry of ANY age `≤ s` is pushed (a late, duplicated or reordered query is remembered): the slack rises to `s`, it is
never destroyed — as long as `s` stays below the period -/
theorem RingAgedTo.push_old {α : Type} {n L : Nat} {mem : List α} {last : Nat} {d : α} {Rel : α → Nat → Prop} {k M sl s : Nat}
    (h : RingAgedTo n L mem last d Rel k M sl) (hlen : mem.length = L) (hlast : last < L) (v : α)
    (hv : ∀ c, Rel v c → ∃ a, 1 ≤ a ∧ a ≤ s ∧ Behind M k c a) :
    RingAgedTo (n + 1) L (mem.set (ringFill L last) v) (ringFill L last) d Rel k M (max sl s) :=
  RingAgedTo.push (sl := max sl s) (h.mono (Nat.le_refl n) (by omega)) hlen hlast v
    (fun c hc => by obtain ⟨a, h1, h2, h3⟩ := hv c hc; exact ⟨a, h1, by omega, h3⟩)

theorem nxt_eq_mod {M k : Nat} (hk : k < M) : nxt M k = (k + 1) % M := by
  unfold nxt
  split
  · have : k + 1 = M := by omega
    rw [this, Nat.mod_self]
  · rw [Nat.mod_eq_of_lt (by omega)]

theorem behind_nxt {M k : Nat} (hk : k < M) : Behind M (nxt M k) k 1 := by
  unfold Behind nxt; split <;> omega

theorem behind_succ_mod {M k : Nat} (hk : k < M) : Behind M ((k + 1) % M) k 1 := by
  rw [← nxt_eq_mod hk]; exact behind_nxt hk

/-- an entry whose counter value is `k` itself is not in an aged ring -/
theorem RingAged.miss {α : Type} {L : Nat} {mem : List α} {last : Nat} {d : α} {Rel : α → Nat → Prop} {k M sl : Nat}
    (h : RingAged L mem last d Rel k M sl) (hlen : mem.length = L) (hlast : last < L) (hM : L + sl ≤ M)
    (e : α) (he : e ∈ mem) : ¬ Rel e k := by
  intro hr
  obtain ⟨j, hj, hej⟩ := List.getElem_of_mem he
  obtain ⟨i, hi, hp⟩ := ringPos_surj L last j hlast (by omega)
  have hg : mem.getD (ringPos L last i) d = e := by
    rw [hp, List.getD_eq_getElem?_getD, List.getElem?_eq_getElem hj, hej]; rfl
  obtain ⟨a, h1, h2, h3, h4⟩ := h i hi k (hg ▸ hr)
  omega

theorem RingAged.step {α : Type} {L : Nat} {mem : List α} {last : Nat} {d : α} {Rel : α → Nat → Prop} {k M sl : Nat}
    (h : RingAged L mem last d Rel k M sl) (hk : k < M) (hM : L + sl ≤ M) : RingAged L mem last d Rel (nxt M k) M (sl + 1) :=
  ((h.to L).step hk hM).full (Nat.le_refl L)

theorem RingAged.mono {α : Type} {L : Nat} {mem : List α} {last : Nat} {d : α} {Rel : α → Nat → Prop} {k M sl sl' : Nat}
    (h : RingAged L mem last d Rel k M sl) (hs : sl ≤ sl') : RingAged L mem last d Rel k M sl' :=
  ((h.to L).mono (Nat.le_refl L) hs).full (Nat.le_refl L)

theorem RingAged.push {α : Type} {L : Nat} {mem : List α} {last : Nat} {d : α} {Rel : α → Nat → Prop} {k M sl : Nat}
    (h : RingAged L mem last d Rel k M (sl + 1)) (hlen : mem.length = L) (hlast : last < L) (v : α)
    (hv : ∀ c, Rel v c → ∃ a, 1 ≤ a ∧ a ≤ sl ∧ Behind M k c a) :
    RingAged L (mem.set (ringFill L last) v) (ringFill L last) d Rel k M sl :=
  ((h.to L).push hlen hlast v hv).full (Nat.le_succ L)

/-! ### the two memories that remember data queries -/

/-- relevance of a `qmemdata` entry: right type, data-CMC character number `c` -/
def QRel (P : Par) (e : QmemEntry) (c : Nat) : Prop := e.type = P.ty ∧ c < 36 ∧ e.cmc.getD 3 0 = cmcChar c

/-- relevance of a `dnscache` entry: right type, a data query of this user, data-CMC character number `c` -/
def CRel (P : Par) (e : DnsCacheEntry) (c : Nat) : Prop :=
  e.q.type = P.ty ∧ e.q.name.getD 0 0 = hexLower P.u ∧ c < 36 ∧ e.q.name.getD 4 0 = cmcChar c

/-- the memories of the slot are aged with respect to the data-CMC counter value `k`, with slack `sl` -/
structure Aged (P : Par) (x : Session) (k sl : Nat) : Prop where
  qlen : x.qmemdata.length = QMEMDATA_LEN
  qlast : x.qmemdataLast < QMEMDATA_LEN
  clen : x.dnscache.length = DNSCACHE_LEN
  clast : x.dcLast < DNSCACHE_LEN
  qmem : RingAged QMEMDATA_LEN x.qmemdata x.qmemdataLast QmemEntry.zero (QRel P) k 36 sl
  cache : RingAged DNSCACHE_LEN x.dnscache x.dcLast DnsCacheEntry.zero (CRel P) k 36 sl

theorem Aged.fresh {P : Par} {x : Session} {k sl : Nat} (h : Aged P x k sl) (hk : k < 36) (hsl : sl ≤ 21) : Fresh P x k 1 := by
  constructor
  · intro e he h1 h2 ⟨i, hi, hc⟩
    have hi0 : i = 0 := by omega
    subst hi0
    rw [Nat.add_zero, Nat.mod_eq_of_lt hk] at hc
    exact h.cache.miss h.clen h.clast (by simp [DNSCACHE_LEN]; omega) e he ⟨h1, h2, hk, hc⟩
  · intro e he h1 ⟨i, hi, hc⟩
    have hi0 : i = 0 := by omega
    subst hi0
    rw [Nat.add_zero, Nat.mod_eq_of_lt hk] at hc
    exact h.qmem.miss h.qlen h.qlast (by simp [QMEMDATA_LEN]; omega) e he ⟨h1, hk, hc⟩

theorem qmemUpd_data (x : Session) (q : Query) (h5 : 5 ≤ q.name.length) (h0 : q.name.getD 0 0 ≠ 80 ∧ q.name.getD 0 0 ≠ 112) :
    qmemUpd x q = { x with
      qmemdata := x.qmemdata.set (ringFill QMEMDATA_LEN x.qmemdataLast) ⟨dataCmc q.name, q.type⟩,
      qmemdataLast := ringFill QMEMDATA_LEN x.qmemdataLast } := by
  unfold qmemUpd
  simp only
  rw [if_neg (by intro hc; rcases hc with hc | hc; exact h0.1 hc; exact h0.2 hc), if_neg (by omega)]
  rfl

theorem qmemUpd_ping (x : Session) (q : Query) (h0 : q.name.getD 0 0 = 112) (cp : Nat) (hcp : q.name.idxOf? 46 = some cp)
    (hl : 4 ≤ (Codec.dec Codec.b32 8 (cp - 1) (q.name.drop 1)).length) :
    qmemUpd x q = { x with
      qmemping := x.qmemping.set (ringFill QMEMPING_LEN x.qmempingLast) ⟨(Codec.dec Codec.b32 8 (cp - 1) (q.name.drop 1)).take 4, q.type⟩,
      qmempingLast := ringFill QMEMPING_LEN x.qmempingLast } := by
  unfold qmemUpd
  simp only
  rw [if_pos (Or.inr h0), hcp]
  simp only
  rw [if_neg (by omega)]
  rfl

theorem cacheUpd_eq (y : Session) (q : Query) (ans : List Nat) (hans : ans.length ≤ DNSCACHE_ANSWER_SIZE) :
    cacheUpd y q ans = { y with
      dnscache := y.dnscache.set (ringFill DNSCACHE_LEN y.dcLast) ⟨q, ans, ans.length⟩,
      dcLast := ringFill DNSCACHE_LEN y.dcLast } := by
  unfold cacheUpd
  rw [if_neg (by omega)]
  rfl

/-- the fingerprint written for a data query that carries a counter value `a0` steps behind `k` is within slack `sl ≥ a0` … -/
theorem qrel_data {P : Par} (q : Query) {k k0 a0 sl : Nat} (ha : 1 ≤ a0 ∧ a0 ≤ sl) (hb : Behind 36 k k0 a0) (hk0 : k0 < 36)
    (h4 : q.name.getD 4 0 = cmcChar k0) :
    ∀ c, QRel P ⟨dataCmc q.name, q.type⟩ c → ∃ a, 1 ≤ a ∧ a ≤ sl ∧ Behind 36 k c a := by
  intro c ⟨_, hc36, hc⟩
  simp only at hc
  rw [dataCmc_getD3 h4 hk0] at hc
  have : c = k0 := cmcChar_inj c k0 hc36 hk0 hc.symm
  subst this
  exact ⟨a0, ha.1, ha.2, hb⟩

/-- … and so is the cache entry -/
theorem crel_data {P : Par} (q : Query) (ans : List Nat) {k k0 a0 sl : Nat} (ha : 1 ≤ a0 ∧ a0 ≤ sl) (hb : Behind 36 k k0 a0)
    (hk0 : k0 < 36) (h4 : q.name.getD 4 0 = cmcChar k0) :
    ∀ c, CRel P ⟨q, ans, ans.length⟩ c → ∃ a, 1 ≤ a ∧ a ≤ sl ∧ Behind 36 k c a := by
  intro c ⟨_, _, hc36, hc⟩
  simp only at hc
  rw [h4] at hc
  have : c = k0 := cmcChar_inj c k0 hc36 hk0 hc.symm
  subst this
  exact ⟨a0, ha.1, ha.2, hb⟩

/-- The answer to a data query with counter value `k0`, which is `a0` steps behind the client's current value `k`, is
remembered. -/
theorem Aged.memo {P : Par} {x : Session} {k sl : Nat} (h : Aged P x k (sl + 1)) (q : Query) (ans : List Nat)
    (hans : ans.length ≤ DNSCACHE_ANSWER_SIZE) (k0 a0 : Nat) (ha : 1 ≤ a0 ∧ a0 ≤ sl) (hb : Behind 36 k k0 a0) (hk0 : k0 < 36)
    (h4 : q.name.getD 4 0 = cmcChar k0) (h5 : 5 ≤ q.name.length)
    (h0 : q.name.getD 0 0 ≠ 80 ∧ q.name.getD 0 0 ≠ 112) :
    Aged P (cacheUpd (qmemUpd x q) q ans) k sl := by
  rw [cacheUpd_eq _ _ _ hans, qmemUpd_data x q h5 h0]
  exact ⟨by simp [h.qlen], ringFill_lt _ _ (by decide), by simp [h.clen], ringFill_lt _ _ (by decide),
    h.qmem.push h.qlen h.qlast _ (qrel_data q ha hb hk0 h4), h.cache.push h.clen h.clast _ (crel_data q ans ha hb hk0 h4)⟩

/-- the client sent a data query (its counter advanced) -/
theorem Aged.step {P : Par} {x : Session} {k sl : Nat} (h : Aged P x k sl) (hk : k < 36) (hsl : sl ≤ 21) :
    Aged P x ((k + 1) % 36) (sl + 1) := by
  rw [← nxt_eq_mod hk]
  exact ⟨h.qlen, h.qlast, h.clen, h.clast, h.qmem.step hk (by simp [QMEMDATA_LEN]; omega), h.cache.step hk (by simp [DNSCACHE_LEN]; omega)⟩

theorem Aged.mono {P : Par} {x : Session} {k sl sl' : Nat} (h : Aged P x k sl) (hs : sl ≤ sl') : Aged P x k sl' :=
  ⟨h.qlen, h.qlast, h.clen, h.clast, h.qmem.mono hs, h.cache.mono hs⟩

theorem Aged.congr {P : Par} {x y : Session} {k sl : Nat} (h : Aged P x k sl) (h1 : y.qmemdata = x.qmemdata)
    (h2 : y.qmemdataLast = x.qmemdataLast) (h3 : y.dnscache = x.dnscache) (h4 : y.dcLast = x.dcLast) : Aged P y k sl := by
  refine ⟨h1 ▸ h.qlen, h2 ▸ h.qlast, h3 ▸ h.clen, h4 ▸ h.clast, ?_, ?_⟩
  · rw [h1, h2]; exact h.qmem
  · rw [h3, h4]; exact h.cache

/-! ### pings -/

theorem RingAged.push_irrel {α : Type} {L : Nat} {mem : List α} {last : Nat} {d : α} {Rel : α → Nat → Prop} {k M sl : Nat}
    (h : RingAged L mem last d Rel k M sl) (hlen : mem.length = L) (hlast : last < L) (v : α) (hv : ∀ c, ¬ Rel v c) :
    RingAged L (mem.set (ringFill L last) v) (ringFill L last) d Rel k M sl :=
  ((h.to L).push_irrel hlen hlast v hv).full (Nat.le_succ L)

/-- the ping counter a ping name carries (as the server's `handlePing` unpacks it); 65536 for a name outside the domain -/
def seedOfName (td name : List Nat) : Nat :=
  match Common.queryDatalen name td with
  | some dlen =>
    let p := Encoding.unpackData Codec.b32 65536 ((name.take (min dlen 512)).drop 1)
    p.getD 2 0 * 256 + p.getD 3 0
  | none => 65536

/-- relevance of a `qmemping` entry: right type, ping counter `c` -/
def PQRel (P : Par) (e : QmemEntry) (c : Nat) : Prop :=
  e.type = P.ty ∧ c < 65536 ∧ e.cmc.getD 2 0 = c / 256 ∧ e.cmc.getD 3 0 = c % 256

/-- relevance of a `dnscache` entry: right type, a ping, ping counter `c` -/
def PCRel (P : Par) (e : DnsCacheEntry) (c : Nat) : Prop :=
  e.q.type = P.ty ∧ e.q.name.getD 0 0 = 112 ∧ c < 65536 ∧ seedOfName P.td e.q.name = c

/-- the memories of the slot are aged with respect to the ping counter value `k`, with slack `sl` -/
structure PAged (P : Par) (x : Session) (k sl : Nat) : Prop where
  plen : x.qmemping.length = QMEMPING_LEN
  plast : x.qmempingLast < QMEMPING_LEN
  clen : x.dnscache.length = DNSCACHE_LEN
  clast : x.dcLast < DNSCACHE_LEN
  pq : RingAged QMEMPING_LEN x.qmemping x.qmempingLast QmemEntry.zero (PQRel P) k 65536 sl
  pc : RingAged DNSCACHE_LEN x.dnscache x.dcLast DnsCacheEntry.zero (PCRel P) k 65536 sl

theorem PAged.congr {P : Par} {x y : Session} {k sl : Nat} (h : PAged P x k sl) (h1 : y.qmemping = x.qmemping)
    (h2 : y.qmempingLast = x.qmempingLast) (h3 : y.dnscache = x.dnscache) (h4 : y.dcLast = x.dcLast) : PAged P y k sl := by
  refine ⟨h1 ▸ h.plen, h2 ▸ h.plast, h3 ▸ h.clen, h4 ▸ h.clast, ?_, ?_⟩
  · rw [h1, h2]; exact h.pq
  · rw [h3, h4]; exact h.pc

theorem PAged.mono {P : Par} {x : Session} {k sl sl' : Nat} (h : PAged P x k sl) (hs : sl ≤ sl') : PAged P x k sl' :=
  ⟨h.plen, h.plast, h.clen, h.clast, h.pq.mono hs, h.pc.mono hs⟩

/-- the client sent a ping (its counter advanced) -/
theorem PAged.step {P : Par} {x : Session} {k sl : Nat} (h : PAged P x k sl) (hk : k < 65536) (hsl : sl ≤ 1000) :
    PAged P x ((k + 1) % 65536) (sl + 1) := by
  rw [← nxt_eq_mod hk]
  exact ⟨h.plen, h.plast, h.clen, h.clast, h.pq.step hk (by simp [QMEMPING_LEN]; omega), h.pc.step hk (by simp [DNSCACHE_LEN]; omega)⟩

/-- the ping with counter `k` is in neither memory -/
theorem PAged.cacheMiss {P : Par} {x : Session} {k sl : Nat} (h : PAged P x k sl) (hk : k < 65536) (hsl : sl ≤ 1000) (q : Query)
    (hty : q.type = P.ty) (h0 : q.name.getD 0 0 = 112) (hs : seedOfName P.td q.name = k) : CacheMiss x q := by
  intro e he ⟨_, _, h3, h4⟩
  exact h.pc.miss h.clen h.clast (by simp [DNSCACHE_LEN]; omega) e he ⟨h3.trans hty, by rw [h4]; exact h0, hk, by rw [h4]; exact hs⟩

theorem PAged.qmemMiss {P : Par} {x : Session} {k sl : Nat} (h : PAged P x k sl) (hk : k < 65536) (hsl : sl ≤ 1000) (q : Query)
    (hty : q.type = P.ty) (cmc : List Nat) (h2 : cmc.getD 2 0 = k / 256) (h3 : cmc.getD 3 0 = k % 256) :
    ∀ e ∈ x.qmemping, ¬ (e.type ≠ T_UNSET ∧ e.type = q.type ∧ e.cmc = cmc) := by
  intro e he ⟨_, h5, h6⟩
  exact h.pq.miss h.plen h.plast (by simp [QMEMPING_LEN]; omega) e he ⟨h5.trans hty, hk, by rw [h6]; exact h2, by rw [h6]; exact h3⟩

/-- the cache entry of a data query is no ping, that of a ping no data query of the session -/
theorem pcrel_data {P : Par} (hu : P.u < 16) (q : Query) (ans : List Nat) (h0 : q.name.getD 0 0 = hexLower P.u) :
    ∀ c, ¬ PCRel P ⟨q, ans, ans.length⟩ c := by
  intro c ⟨_, hc, _⟩
  simp only at hc
  rw [h0] at hc
  exact (hexLower_ne_p hu).2 hc

theorem crel_ping {P : Par} (hu : P.u < 16) (q : Query) (ans : List Nat) (h0 : q.name.getD 0 0 = 112) :
    ∀ c, ¬ CRel P ⟨q, ans, ans.length⟩ c := by
  intro c ⟨_, hc, _⟩
  simp only at hc
  rw [h0] at hc
  exact (hexLower_ne_p hu).2 hc.symm

/-- the fingerprint and the cache entry written for a ping that carries a counter value `a0` steps behind `k` are within slack
`sl ≥ a0` -/
theorem pqrel_ping {P : Par} (cmc : List Nat) (ty : Nat) {k k0 a0 sl : Nat} (ha : 1 ≤ a0 ∧ a0 ≤ sl) (hb : Behind 65536 k k0 a0)
    (hq2 : cmc.getD 2 0 = k0 / 256) (hq3 : cmc.getD 3 0 = k0 % 256) :
    ∀ c, PQRel P ⟨cmc, ty⟩ c → ∃ a, 1 ≤ a ∧ a ≤ sl ∧ Behind 65536 k c a := by
  intro c ⟨_, hc, h2, h3⟩
  simp only at h2 h3
  rw [hq2] at h2
  rw [hq3] at h3
  have hk0 : k0 < 65536 := hb.1
  have : c = k0 := by omega
  subst this
  exact ⟨a0, ha.1, ha.2, hb⟩

theorem pcrel_ping {P : Par} (q : Query) (ans : List Nat) {k k0 a0 sl : Nat} (ha : 1 ≤ a0 ∧ a0 ≤ sl) (hb : Behind 65536 k k0 a0)
    (hs : seedOfName P.td q.name = k0) :
    ∀ c, PCRel P ⟨q, ans, ans.length⟩ c → ∃ a, 1 ≤ a ∧ a ≤ sl ∧ Behind 65536 k c a := by
  intro c ⟨_, _, _, hc⟩
  simp only at hc
  rw [hs] at hc
  subst hc
  exact ⟨a0, ha.1, ha.2, hb⟩

theorem PAged.memo_data {P : Par} (hu : P.u < 16) {x : Session} {k sl : Nat} (h : PAged P x k sl) (q : Query) (ans : List Nat)
    (hans : ans.length ≤ DNSCACHE_ANSWER_SIZE) (h5 : 5 ≤ q.name.length) (h0 : q.name.getD 0 0 = hexLower P.u) :
    PAged P (cacheUpd (qmemUpd x q) q ans) k sl := by
  rw [cacheUpd_eq _ _ _ hans, qmemUpd_data x q h5 (by rw [h0]; exact hexLower_ne_p hu)]
  exact ⟨h.plen, h.plast, by simp [h.clen], ringFill_lt _ _ (by decide), h.pq,
    h.pc.push_irrel h.clen h.clast _ (pcrel_data hu q ans h0)⟩

theorem Aged.memo_ping {P : Par} (hu : P.u < 16) {x : Session} {k sl : Nat} (h : Aged P x k sl) (q : Query) (ans : List Nat)
    (hans : ans.length ≤ DNSCACHE_ANSWER_SIZE) (h0 : q.name.getD 0 0 = 112) (cp : Nat) (hcp : q.name.idxOf? 46 = some cp)
    (hl : 4 ≤ (Codec.dec Codec.b32 8 (cp - 1) (q.name.drop 1)).length) :
    Aged P (cacheUpd (qmemUpd x q) q ans) k sl := by
  rw [cacheUpd_eq _ _ _ hans, qmemUpd_ping x q h0 cp hcp hl]
  exact ⟨h.qlen, h.qlast, by simp [h.clen], ringFill_lt _ _ (by decide), h.qmem,
    h.cache.push_irrel h.clen h.clast _ (crel_ping hu q ans h0)⟩

/-- The answer to a ping with counter value `k0`, which is `a0` steps behind the client's current value `k`, is remembered. -/
theorem PAged.memo {P : Par} {x : Session} {k sl : Nat} (h : PAged P x k (sl + 1)) (q : Query) (ans : List Nat)
    (hans : ans.length ≤ DNSCACHE_ANSWER_SIZE) (k0 a0 : Nat) (ha : 1 ≤ a0 ∧ a0 ≤ sl) (hb : Behind 65536 k k0 a0)
    (h0 : q.name.getD 0 0 = 112) (cp : Nat) (hcp : q.name.idxOf? 46 = some cp)
    (hl : 4 ≤ (Codec.dec Codec.b32 8 (cp - 1) (q.name.drop 1)).length)
    (hq2 : ((Codec.dec Codec.b32 8 (cp - 1) (q.name.drop 1)).take 4).getD 2 0 = k0 / 256)
    (hq3 : ((Codec.dec Codec.b32 8 (cp - 1) (q.name.drop 1)).take 4).getD 3 0 = k0 % 256)
    (hs : seedOfName P.td q.name = k0) :
    PAged P (cacheUpd (qmemUpd x q) q ans) k sl := by
  rw [cacheUpd_eq _ _ _ hans, qmemUpd_ping x q h0 cp hcp hl]
  exact ⟨by simp [h.plen], ringFill_lt _ _ (by decide), by simp [h.clen], ringFill_lt _ _ (by decide),
    h.pq.push h.plen h.plast _ (pqrel_ping _ _ ha hb hq2 hq3), h.pc.push h.clen h.clast _ (pcrel_ping q ans ha hb hs)⟩

end Iodine.C02L
