import IodineModel.Lemmas.C02M6
import IodineModel.Lemmas.C02R5
import IodineModel.Lemmas.C02qO2
/-
OVERLAPPING transfers in lazy mode: a packet is offered on each side before anything is delivered.
The two offers commute (each is a per-side fact — `cliDoes_tun`, C02up2; `SrvDoes` of `down_offer_lazyD`, C02M1 — put into the
joint state by `step_offerC_mk` / `step_offerS_of`, so either side does to the other's result what it does to the quiescent
state), and the state they lead to is the PRODUCT invariant `BothFlightL`: upstream fragment `fu` in flight in a data query AND downstream fragment
`fd` in flight in the answer to the query the server held.
-/
namespace Iodine.C02L
open Iodine Iodine.Gen Iodine.World

/-- **BOTH directions in flight (lazy mode).**  Upstream fragment `fu` (offset `ou`) of the packet `outU` is on its way to the
server in a data query (`c0` = the client state `send_chunk` was called in, as in `InFlight`, C02up2), AND downstream fragment
`fd` (`D` bytes at offset `od`) of the packet `outD` (seqno `sq`) is on its way to the client (as in `DownFlightL`) — as the
answer to the query the client sent BEFORE that data query (`c0.chunkid`; a ping, or the query the server held when the
packet was offered), whose header acknowledges an OLDER upstream fragment than the one in flight (`stale`).  The client has
the `od` bytes before the downstream fragment; the server has the `ou` bytes before the upstream fragment, holds NO query
(every one was answered with a downstream fragment) and has the downstream fragment unacknowledged (or, if the whole packet
fitted that one fragment, has dropped the packet already); `D` is the length the server would choose again on a resend.  The duplicate memories are aged with slack 1 with respect to
the counters of `c0` (the data query in flight carries `c0.datacmc`; the next ping will carry `c0.randSeed`). -/
structure BothFlightL (P : Par) (outU outD : List Nat) (w : W) (c0 : Client.Cli) (ou fu : Nat) (sq : Int) (od D fd : Nat) :
    Prop where
  ph : w.cs.ph = .tunnel
  ready : CReadyL P c0 outU ou fu
  cli : w.cs.c = { sentStateL c0 with sendPingSoon := 0 }
  up : w.up = upOfEvents (Client.sendChunk c0).evs
  down : ∃ name pkt, w.down = [.ans c0.chunkid P.ty name pkt] ∧ Client.notData c0 (name.headD 0) = false ∧
    FragPkt pkt outD sq od D fd (decide (outD.length > 0 ∧ outD.length = od + D)) ∧
    ¬ ((Client.decodeHdr pkt).upSeq = c0.outpkt.seqno ∧ (Client.decodeHdr pkt).upFrag = (fu : Int))
  exp : CExpect c0 outD sq od fd
  dup : sq = c0.inpkt.seqno ∨ Client.recentSeqno c0.inpkt.seqno sq = false
  hsq : 0 ≤ sq ∧ sq < 8
  hD : 0 < D
  hle : od + D ≤ outD.length
  srv : PingSrvL P w.srv
  frag : 0 < (Server.getUser w.srv P.u).fragsize
  hDdef : D = downLen (Server.getUser w.srv P.u).fragsize (outD.length - od)
  op : ((Server.getUser w.srv P.u).outpacket = ⟨outD.length, D, od, outD, sq, (fd : Int)⟩ ∧ D < outD.length) ∨
    ((Server.getUser w.srv P.u).outpacket = ⟨0, 0, 0, outD, sq, 0⟩ ∧ od = 0 ∧ fd = 0 ∧ D = outD.length)
  expect : Expect (Server.getUser w.srv P.u) outU c0.outpkt.seqno.toNat ou fu
  aged : Aged P (Server.getUser w.srv P.u) c0.datacmc 1
  paged : PAged P (Server.getUser w.srv P.u) c0.randSeed 1

theorem BothFlightL.not_quiet {P : Par} {outU outD : List Nat} {w : W} {c0 : Client.Cli} {ou fu : Nat} {sq : Int} {od D fd : Nat}
    (h : BothFlightL P outU outD w c0 ou fu sq od D fd) : quiet P.u w = false :=
  quiet_false_noq h.srv.noq

theorem BothFlightL.sent {P : Par} {outU outD : List Nat} {w : W} {c0 : Client.Cli} {ou fu : Nat} {sq : Int} {od D fd : Nat}
    (h : BothFlightL P outU outD w c0 ou fu sq od D fd) : UpSentL P outU w c0 ou fu :=
  ⟨h.ph, h.ready, h.cli, h.up⟩

/-- the data query in flight does not acknowledge the downstream fragment in flight -/
theorem BothFlightL.stale {P : Par} {outU outD : List Nat} {w : W} {c0 : Client.Cli} {ou fu : Nat} {sq : Int} {od D fd : Nat}
    (h : BothFlightL P outU outD w c0 ou fu sq od D fd) : c0.inpkt.seqno ≠ sq ∨ c0.inpkt.fragment ≠ (fd : Int) := by
  have hi := h.ready.stat.iseq
  rcases h.exp with ⟨_, _, j, hj1, hj2, hj⟩ | ⟨_, _, hfr, _⟩
  · left; omega
  · right; omega

/-- a downstream fragment that is not the whole packet is still unacknowledged at the server -/
theorem BothFlightL.op_part {P : Par} {outU outD : List Nat} {w : W} {c0 : Client.Cli} {ou fu : Nat} {sq : Int} {od D fd : Nat}
    (h : BothFlightL P outU outD w c0 ou fu sq od D fd) (hne : od ≠ 0 ∨ fd ≠ 0 ∨ D ≠ outD.length) :
    (Server.getUser w.srv P.u).outpacket = ⟨outD.length, D, od, outD, sq, (fd : Int)⟩ ∧ D < outD.length := by
  rcases h.op with h1 | ⟨_, h2, h3, h4⟩
  · exact h1
  · omega

/-- From a quiescent joint state in lazy mode, a frame offered to the client and a frame offered to
the server — in EITHER order, before anything is delivered — lead to the same joint state, and that state is the product
invariant with both first fragments in flight; nothing was written to either tun device. -/
theorem both_offer_lazy {P : Par} (hP : P.Ok) {w : W} (hq : QuietLazy P w) (fu fd : List Nat)
    (hu : UpFrameOk P (Server.getUser w.srv P.u).tunIp fu)
    (hd : DownFrameOk (Server.getUser w.srv P.u).tunIp (Server.getUser w.srv P.u).fragsize fd)
    (hF : 0 < (Server.getUser w.srv P.u).fragsize) :
    ∃ w2, step (step w (.offerC fu)) (.offerS fd) = w2 ∧ step (step w (.offerS fd)) (.offerC fu) = w2 ∧
      BothFlightL P (0x5a :: fu) (0x5a :: fd) w2 (newPacket w.cs.c fu) 0 0 ((w.cs.c.inpkt.seqno + 1) % 8) 0
        (downLen (Server.getUser w.srv P.u).fragsize (0x5a :: fd).length) 0 ∧
      w2.tunS = w.tunS ∧ w2.tunC = w.tunC ∧ (Server.getUser w2.srv P.u).tunIp = (Server.getUser w.srv P.u).tunIp ∧
      (Server.getUser w2.srv P.u).fragsize = (Server.getUser w.srv P.u).fragsize := by
  have hne : fu ≠ [] := by intro h; have := hu.h24; rw [h] at this; simp at this
  obtain ⟨wC, hC, hUF, hCtS, hCtC, hCsrv, -⟩ := (quietMD_lazy.2 (quietLazyD_zero.2 hq)).offer hP fu hne hu.hl hu.bytes
  obtain ⟨wS, hS, hDF, hStS, hStC, hStun, hSfr, hScs, hSin, hSlen, hShdr, hsel, hdo⟩ :=
    down_offer_lazy hP hq fd hd.h24 hd.hl hd.dst hF
  -- the two composite steps: each side does to the other's result what it does to `w`
  have h1 : step wC (.offerS fd) = { wC with srv := wS.srv, down := wS.down, tunS := wS.tunS } := by
    rw [step_offerS_of (w := wC) (by rw [hCsrv]; exact hsel) (by rw [hCsrv]; exact hdo), hUF.down, hCtS, hStS]
    simp only [List.nil_append, List.append_nil]
  have h2 : step wS (.offerC fu) = { wS with cs := wC.cs, up := wC.up, tunC := wC.tunC } := by
    have hcli : CliDoes wS.cs (.tun fu) wC.cs wC.up [] := by
      rw [hScs, cstate_eta w.cs hq.ph, cstate_eta wC.cs hUF.ph, hUF.cli, hUF.up]
      exact cliDoes_tun hP hq.cst.toM (Or.inr hq.cnt) hq.idleC fu hne hu.hl hu.bytes
    have hnow : wC.cs.c.now = wS.cs.c.now := by rw [hUF.cli, hScs]; exact (sentFactsL (newPacket w.cs.c fu)).now
    obtain ⟨csS, srvS, upS, downS, tCS, tSS⟩ := wS
    obtain rfl : csS = ⟨w.cs.c, .tunnel⟩ := (show csS = w.cs from hScs).trans (cstate_eta w.cs hq.ph)
    obtain rfl : upS = [] := hDF.up
    obtain rfl : tCS = wC.tunC := (show tCS = w.tunC from hStC).trans hCtC.symm
    rw [step_offerC_mk (tunSelC_idle hq.idleC) hcli, srvAt_same hnow, List.nil_append, List.append_nil]
  have h12 : ({ wS with cs := wC.cs, up := wC.up, tunC := wC.tunC } : W) = { wC with srv := wS.srv, down := wS.down, tunS := wS.tunS } := rfl
  obtain ⟨name, pkt, hdn, hnd, hfp⟩ := hDF.down
  have hc0id : (newPacket w.cs.c fu).chunkid = w.cs.c.chunkid := rfl
  have hc0in : (newPacket w.cs.c fu).inpkt = w.cs.c.inpkt := rfl
  have hc0sq : (newPacket w.cs.c fu).outpkt.seqno = (w.cs.c.outpkt.seqno + 1) % 8 := sChar_small _ (by omega)
  refine ⟨{ wC with srv := wS.srv, down := wS.down, tunS := wS.tunS }, by rw [hC, h1], by rw [hS, h2, h12], ?_, hStS, hCtC, hStun, hSfr⟩
  refine ⟨hUF.ph, hUF.ready.lazy, hUF.cli, hUF.up, ⟨name, pkt, ?_, ?_, hfp, ?_⟩, ?_, ?_, hDF.hsq, hDF.hD, hDF.hle, hDF.srv, hDF.frag,
    ?_, ?_, ?_, ?_, ?_⟩
  · show wS.down = _
    rw [hdn, hScs, hc0id]
  · rw [hScs] at hnd
    exact hnd
  · have := hShdr (.ans wS.cs.c.chunkid P.ty name pkt) (by rw [hdn]; simp) _ _ _ _ rfl
    intro hc
    rw [this.1, hc0sq, hq.syncu] at hc
    have := hq.cst.oseq
    omega
  · have := hDF.exp
    rw [hScs] at this
    exact this
  · have := hDF.dup
    rw [hScs] at this
    rw [hc0in]
    exact this
  · show _ = downLen (Server.getUser wS.srv P.u).fragsize _
    rw [hSfr]; rfl
  · rcases hDF.op with h | h
    · exact Or.inl ⟨h, hSlen (by
        show (Server.getUser wS.srv P.u).outpacket.len ≠ 0
        rw [h]; simp)⟩
    · exact Or.inr h
  · left
    refine ⟨rfl, rfl, 1, Nat.le_refl _, by omega, ?_⟩
    show (((newPacket w.cs.c fu).outpkt.seqno).toNat : Int) = ((Server.getUser wS.srv P.u).inpacket.seqno + ((1 : Nat) : Int)) % 8
    rw [hc0sq, hSin, hq.syncu]
    have := hq.cst.oseq
    omega
  · have := hDF.aged
    rw [hScs] at this
    exact this
  · have := hDF.paged
    rw [hScs] at this
    exact this

end Iodine.C02L
