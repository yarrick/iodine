import IodineModel.Lemmas.C02qB5
/-
Upstream blackout: COMPOSITION WITNESS (kernel-evaluated), `k = 5`: five frames given up (the state is `bkW 5`), then the
clean prompt path.  `compose_k5` is the test on `bkW 5`; `compose_k5'` says the same of the state the five give-up runs reach
from `exW` (`bk_chain5`).
-/
namespace Iodine.C02L
open Iodine Iodine.Gen Iodine.World Iodine.C02

/-- TEST `k = 5`: the next 3 frames are lost, the 4th is delivered -/
theorem compose_k5 : cleanAfter (bkW 5) [fB 0, fB 1, fB 2, fB 3] [fB 3] = true := by
  unfold cleanAfter; rw [offerAllC_fast]; decide +kernel

theorem compose_k5' :
    (offerAllC 0 80 (giveupRunUp [fA 0, fA 1, fA 2, fA 3, fA 4] exW) [fB 0, fB 1, fB 2, fB 3]).tunS = [fB 3] := by
  rw [bk_chain5]
  exact cleanAfter_tunS compose_k5

end Iodine.C02L
