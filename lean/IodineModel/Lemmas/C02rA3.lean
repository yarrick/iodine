import IodineModel.Lemmas.C02qA2
import IodineModel.Lemmas.C02v5
import IodineModel.Lemmas.C02v4
import IodineModel.Lemmas.C02up2
import IodineModel.Lemmas.C02qA6
import IodineModel.Lemmas.C02rA1
/-
Renewal of the duplicate memories after an arbitrary fault prefix.  Slot level: over clean query/answer cycles of both
kinds (`CleanBoth`) one more ring position per cycle is known to be aged, so from ANY well-formed slot 15 data and 30 ping
cycles restore `Aged … 1 ∧ PAged … 1` (`CleanBoth.renewed`; `dnscache` is renewed by any 4 cycles and never adds to the
count).  World level (immediate mode, one-fragment packets upstream): from `Recoverable` — `QuietBut`, `RingWF` (NOT a
hypothesis about the prefix: `srvWF_run`) and `FreshNext … n`, which is what can fail (`qa_dropC_not_fresh`) and then costs
one client timeout per collision — the next `n` packets are delivered as on the clean path (`renew_packet`,
`renew_sequence`); after 15 `Aged … 1` holds again (`renewed_aged`) and, with `PAged … 1`, the state is `QuietImm`
(`renewed_quietImm`).
-/
namespace Iodine.C02L
open Iodine Iodine.Gen Iodine.Server Iodine.World

theorem RingWF.memEq {x y : Session} (h : RingWF x) (e : MemEq y x) : RingWF y := h.congr e.q e.ql e.p e.pl e.c e.cl

theorem AgedTo.memEq {P : Par} {x y : Session} {k nq nc sl : Nat} (h : AgedTo P x k nq nc sl) (e : MemEq y x) :
    AgedTo P y k nq nc sl := by
  refine ⟨h.wf.memEq e, ?_, ?_⟩
  · rw [e.q, e.ql]; exact h.qmem
  · rw [e.c, e.cl]; exact h.cache

/-- `PAged` for the `np` newest positions of `qmemping` (ring of 30, ping counter modulo 65536) and the `nc` newest of
`dnscache` (ring of 4) only; `PAgedTo … 0 0` is just `RingWF` -/
structure PAgedTo (P : Par) (x : Session) (k np nc sl : Nat) : Prop where
  wf : RingWF x
  pq : RingAgedTo np QMEMPING_LEN x.qmemping x.qmempingLast QmemEntry.zero (PQRel P) k 65536 sl
  pc : RingAgedTo nc DNSCACHE_LEN x.dnscache x.dcLast DnsCacheEntry.zero (PCRel P) k 65536 sl

theorem PAgedTo.of_wf {P : Par} {x : Session} (h : RingWF x) (k sl : Nat) : PAgedTo P x k 0 0 sl :=
  ⟨h, RingAgedTo.zero _ _ _ _ _ _ _ _, RingAgedTo.zero _ _ _ _ _ _ _ _⟩

theorem PAgedTo.paged {P : Par} {x : Session} {k np nc sl : Nat} (h : PAgedTo P x k np nc sl) (hp : 30 ≤ np) (hc : 4 ≤ nc) :
    PAged P x k sl :=
  ⟨h.wf.plen, h.wf.plast, h.wf.clen, h.wf.clast, h.pq.full hp, h.pc.full hc⟩

theorem PAged.toP {P : Par} {x : Session} {k sl : Nat} (h : PAged P x k sl) (hw : RingWF x) (np nc : Nat) :
    PAgedTo P x k np nc sl := ⟨hw, h.pq.to np, h.pc.to nc⟩

theorem PAgedTo.mono {P : Par} {x : Session} {k np nc np' nc' sl sl' : Nat} (h : PAgedTo P x k np nc sl) (hp : np' ≤ np)
    (hc : nc' ≤ nc) (hs : sl ≤ sl') : PAgedTo P x k np' nc' sl' :=
  ⟨h.wf, h.pq.mono hp hs, h.pc.mono hc hs⟩

theorem PAgedTo.memEq {P : Par} {x y : Session} {k np nc sl : Nat} (h : PAgedTo P x k np nc sl) (e : MemEq y x) :
    PAgedTo P y k np nc sl := by
  refine ⟨h.wf.memEq e, ?_, ?_⟩
  · rw [e.p, e.pl]; exact h.pq
  · rw [e.c, e.cl]; exact h.pc

/-- the client sent a ping (its counter advanced) -/
theorem PAgedTo.step {P : Par} {x : Session} {k np nc sl : Nat} (h : PAgedTo P x k np nc sl) (hk : k < 65536) (hsl : sl ≤ 1000) :
    PAgedTo P x ((k + 1) % 65536) np nc (sl + 1) := by
  rw [← nxt_eq_mod hk]
  exact ⟨h.wf, h.pq.step hk (by simp [QMEMPING_LEN]; omega), h.pc.step hk (by simp [DNSCACHE_LEN]; omega)⟩

/-- the answer to a ping whose counter value is `a0 ≤ sl` steps behind is remembered: one more position of each ring is known -/
theorem PAgedTo.memo {P : Par} {x : Session} {k np nc sl : Nat} (h : PAgedTo P x k np nc (sl + 1)) (q : Query) (ans : List Nat)
    (hans : ans.length ≤ DNSCACHE_ANSWER_SIZE) (k0 a0 : Nat) (ha : 1 ≤ a0 ∧ a0 ≤ sl) (hb : Behind 65536 k k0 a0)
    (h0 : q.name.getD 0 0 = 112) (cp : Nat) (hcp : q.name.idxOf? 46 = some cp)
    (hl : 4 ≤ (Codec.dec Codec.b32 8 (cp - 1) (q.name.drop 1)).length)
    (hq2 : ((Codec.dec Codec.b32 8 (cp - 1) (q.name.drop 1)).take 4).getD 2 0 = k0 / 256)
    (hq3 : ((Codec.dec Codec.b32 8 (cp - 1) (q.name.drop 1)).take 4).getD 3 0 = k0 % 256)
    (hs : seedOfName P.td q.name = k0) :
    PAgedTo P (cacheUpd (qmemUpd x q) q ans) k (np + 1) (nc + 1) sl := by
  have hwf : RingWF (cacheUpd (qmemUpd x q) q ans) := (h.wf.qmemUpd q).cacheUpd q ans
  rw [cacheUpd_eq _ _ _ hans, qmemUpd_ping x q h0 cp hcp hl] at hwf ⊢
  exact ⟨hwf, h.pq.push h.wf.plen h.wf.plast _ (pqrel_ping _ _ ha hb hq2 hq3),
    h.pc.push h.wf.clen h.wf.clast _ (pcrel_ping q ans ha hb hs)⟩

/-- the answer to a DATA query is remembered: one more position of `dnscache` is known, `qmemping` is not touched -/
theorem PAgedTo.memo_data {P : Par} (hu : P.u < 16) {x : Session} {k np nc sl : Nat} (h : PAgedTo P x k np nc sl) (q : Query)
    (ans : List Nat) (hans : ans.length ≤ DNSCACHE_ANSWER_SIZE) (h5 : 5 ≤ q.name.length) (h0 : q.name.getD 0 0 = hexLower P.u) :
    PAgedTo P (cacheUpd (qmemUpd x q) q ans) k np (nc + 1) sl := by
  have hwf : RingWF (cacheUpd (qmemUpd x q) q ans) := (h.wf.qmemUpd q).cacheUpd q ans
  rw [cacheUpd_eq _ _ _ hans, qmemUpd_data x q h5 (by rw [h0]; exact hexLower_ne_p hu)] at hwf ⊢
  exact ⟨hwf, h.pq, h.pc.push_irrel h.wf.clen h.wf.clast _ (pcrel_data hu q ans h0)⟩

/-- clean query/answer cycles on a slot `x` with the client's data-CMC counter `kd` and ping counter `kp`: `nd` data cycles
(the client sends the data query of user `P.u` that carries `kd`, the server remembers it with its answer), `np` ping cycles
(the client sends the ping that carries `kp`), in any order; `nc = nd + np` -/
inductive CleanBoth (P : Par) : Nat → Nat → Nat → Session × Nat × Nat → Session × Nat × Nat → Prop
  | nil (s : Session × Nat × Nat) : CleanBoth P 0 0 0 s s
  | data {nd np nc : Nat} {s : Session × Nat × Nat} {x : Session} {kd kp : Nat} (h : CleanBoth P nd np nc s (x, kd, kp))
      (q : Query) (ans : List Nat) (hans : ans.length ≤ DNSCACHE_ANSWER_SIZE) (h4 : q.name.getD 4 0 = cmcChar kd)
      (h5 : 5 ≤ q.name.length) (h0 : q.name.getD 0 0 = hexLower P.u) :
      CleanBoth P (nd + 1) np (nc + 1) s (cacheUpd (qmemUpd x q) q ans, (kd + 1) % 36, kp)
  | ping {nd np nc : Nat} {s : Session × Nat × Nat} {x : Session} {kd kp : Nat} (h : CleanBoth P nd np nc s (x, kd, kp))
      (q : Query) (ans : List Nat) (hans : ans.length ≤ DNSCACHE_ANSWER_SIZE) (h0 : q.name.getD 0 0 = 112) (cp : Nat)
      (hcp : q.name.idxOf? 46 = some cp) (hl : 4 ≤ (Codec.dec Codec.b32 8 (cp - 1) (q.name.drop 1)).length)
      (hq2 : ((Codec.dec Codec.b32 8 (cp - 1) (q.name.drop 1)).take 4).getD 2 0 = kp / 256)
      (hq3 : ((Codec.dec Codec.b32 8 (cp - 1) (q.name.drop 1)).take 4).getD 3 0 = kp % 256)
      (hs : seedOfName P.td q.name = kp) :
      CleanBoth P nd (np + 1) (nc + 1) s (cacheUpd (qmemUpd x q) q ans, kd, (kp + 1) % 65536)

theorem CleanBoth.count {P : Par} {nd np nc : Nat} {s t : Session × Nat × Nat} (h : CleanBoth P nd np nc s t) : nc = nd + np := by
  induction h <;> omega

theorem CleanBoth.toSess {P : Par} (hu : P.u < 16) {nd np nc : Nat} {x0 x : Session} {kd0 kp0 kd kp : Nat}
    (h : CleanBoth P nd np nc (x0, kd0, kp0) (x, kd, kp)) : CleanSess nd nc (x0, kd0) (x, kd) := by
  generalize hs : (x0, kd0, kp0) = s at h
  generalize ht : (x, kd, kp) = t at h
  induction h generalizing x kd kp with
  | nil s => subst hs; cases ht; exact CleanSess.nil _
  | data h q ans hans h4 h5 h0 ih =>
    cases ht
    exact CleanSess.data (ih hs rfl) q ans hans h4 h5 (by rw [h0]; exact hexLower_ne_p hu)
  | ping h q ans hans h0 cp hcp hl hq2 hq3 hsd ih =>
    cases ht
    exact CleanSess.ping (ih hs rfl) q ans hans h0 cp hcp hl

/-- **RENEWAL of the ping half, slot level.**  From ANY well-formed slot and counter values: after `nd` data cycles and `np`
ping cycles the `np` newest entries of `qmemping` and the `nd + np` newest of `dnscache` are aged with slack 1 for the ping
counter. -/
theorem CleanBoth.renewP {P : Par} (hu : P.u < 16) {nd np nc : Nat} {x0 x : Session} {kd0 kp0 kd kp : Nat}
    (h : CleanBoth P nd np nc (x0, kd0, kp0) (x, kd, kp)) (hwf : RingWF x0) (hk : kp0 < 65536) :
    kp < 65536 ∧ PAgedTo P x kp np nc 1 := by
  generalize hs : (x0, kd0, kp0) = s at h
  generalize ht : (x, kd, kp) = t at h
  induction h generalizing x kd kp with
  | nil s =>
    subst hs
    cases ht
    exact ⟨hk, PAgedTo.of_wf hwf _ _⟩
  | data h q ans hans h4 h5 h0 ih =>
    cases ht
    obtain ⟨h1, h2⟩ := ih hs rfl
    exact ⟨h1, h2.memo_data hu q ans hans h5 h0⟩
  | ping h q ans hans h0 cp hcp hl hq2 hq3 hsd ih =>
    cases ht
    obtain ⟨h1, h2⟩ := ih hs rfl
    exact ⟨Nat.mod_lt _ (by decide),
      (h2.step h1 (by decide)).memo q ans hans _ 1 ⟨Nat.le_refl 1, Nat.le_refl 1⟩ (behind_succ_mod h1) h0 cp hcp hl hq2 hq3 hsd⟩

theorem CleanBoth.renew {P : Par} (hu : P.u < 16) {nd np nc : Nat} {x0 x : Session} {kd0 kp0 kd kp : Nat}
    (h : CleanBoth P nd np nc (x0, kd0, kp0) (x, kd, kp)) (hwf : RingWF x0) (hkd : kd0 < 36) (hkp : kp0 < 65536) :
    kd < 36 ∧ kp < 65536 ∧ AgedTo P x kd nd nc 1 ∧ PAgedTo P x kp np nc 1 :=
  ⟨((h.toSess hu).renew (P := P) hu hwf hkd).1, (h.renewP hu hwf hkp).1, ((h.toSess hu).renew hu hwf hkd).2, (h.renewP hu hwf hkp).2⟩

/-- **… hence after 15 data cycles and 30 ping cycles both freshness clauses of `QuietImm` hold again**, whatever the three
memories held before. -/
theorem CleanBoth.renewed {P : Par} (hu : P.u < 16) {nd np nc : Nat} {x0 x : Session} {kd0 kp0 kd kp : Nat}
    (h : CleanBoth P nd np nc (x0, kd0, kp0) (x, kd, kp)) (hwf : RingWF x0) (hkd : kd0 < 36) (hkp : kp0 < 65536)
    (hnd : 15 ≤ nd) (hnp : 30 ≤ np) : kd < 36 ∧ kp < 65536 ∧ Aged P x kd 1 ∧ PAged P x kp 1 := by
  obtain ⟨h1, h2, h3, h4⟩ := h.renew hu hwf hkd hkp
  have := h.count
  exact ⟨h1, h2, h3.aged hnd (by omega), h4.paged hnp (by omega)⟩

/-- a slot whose ping memories ARE fresh keeps them fresh under data cycles (no ping is consumed): with it, 15 data cycles
suffice for both clauses -/
theorem CleanBoth.keepsP {P : Par} (hu : P.u < 16) {nd nc : Nat} {x0 x : Session} {kd0 kp0 kd kp : Nat} {sl : Nat}
    (h : CleanBoth P nd 0 nc (x0, kd0, kp0) (x, kd, kp)) (hp : PAged P x0 kp0 sl) : kp = kp0 ∧ PAged P x kp sl := by
  generalize hs : (x0, kd0, kp0) = s at h
  generalize ht : (x, kd, kp) = t at h
  generalize hz : 0 = z at h
  induction h generalizing x kd kp with
  | nil s => subst hs; cases ht; exact ⟨rfl, hp⟩
  | data h q ans hans h4 h5 h0 ih =>
    cases ht
    obtain ⟨h1, h2⟩ := ih hs rfl hz
    exact ⟨h1, h2.memo_data hu q ans hans h5 h0⟩
  | ping h q ans hans h0 cp hcp hl hq2 hq3 hsd ih => omega

open Iodine.C16L (ringPos ringPos_lt)

/-- the hypothesis about a fault prefix that stands in for the freshness invariant: no entry of `qmemdata` / `dnscache` collides
with one of the next `n` data-CMC values `k, k+1, …` AS LONG AS IT IS STILL IN ITS RING.  The entry written `i` saves ago is
overwritten by the `(L − i)`-th save from now (`L` = 15 resp. 4), and every clean data query/answer cycle is one save in either
ring, so only the values `k + j` with `i + j < L` matter for it.  The static `Fresh P x k n` ("no remembered entry carries one
of the next `n` characters") implies it (`Fresh.freshNext`) and is strictly stronger: the state after the counterexample's
mishandled packet has `FreshNext … 36` (`qaWD_freshNext`) but not `Fresh … 13` (`qaWD_not_fresh13`). -/
structure FreshNext (P : Par) (x : Session) (k n : Nat) : Prop where
  qmem : RingFreshTo n QMEMDATA_LEN x.qmemdata x.qmemdataLast QmemEntry.zero (QRel P) k 36
  cache : RingFreshTo n DNSCACHE_LEN x.dnscache x.dcLast DnsCacheEntry.zero (CRel P) k 36

theorem FreshNext.mono {P : Par} {x : Session} {k n n' : Nat} (h : FreshNext P x k n) (hn : n' ≤ n) : FreshNext P x k n' :=
  ⟨h.qmem.mono hn, h.cache.mono hn⟩

theorem FreshNext.memEq {P : Par} {x y : Session} {k n : Nat} (h : FreshNext P x k n) (e : MemEq y x) : FreshNext P y k n := by
  refine ⟨?_, ?_⟩
  · rw [e.q, e.ql]; exact h.qmem
  · rw [e.c, e.cl]; exact h.cache

theorem getD_mem_of_lt {α : Type} (l : List α) (p : Nat) (d : α) (h : p < l.length) : l.getD p d ∈ l := by
  rw [List.getD_eq_getElem?_getD, List.getElem?_eq_getElem h]
  exact List.getElem_mem h

theorem Fresh.freshNext {P : Par} {x : Session} {k n : Nat} (h : Fresh P x k n) (hw : RingWF x) : FreshNext P x k n := by
  refine ⟨?_, ?_⟩
  · intro i hi j hj _ ⟨h1, _, h3⟩
    have hm := getD_mem_of_lt x.qmemdata (ringPos QMEMDATA_LEN x.qmemdataLast i) QmemEntry.zero
      (by rw [hw.qlen]; exact ringPos_lt _ _ _ hw.qlast hi)
    exact h.qmem _ hm h1 ⟨j, hj, h3⟩
  · intro i hi j hj _ ⟨h1, h2, _, h4⟩
    have hm := getD_mem_of_lt x.dnscache (ringPos DNSCACHE_LEN x.dcLast i) DnsCacheEntry.zero
      (by rw [hw.clen]; exact ringPos_lt _ _ _ hw.clast hi)
    exact h.cache _ hm h1 h2 ⟨j, hj, h4⟩

/-- the query that carries the counter value `k` passes both duplicate filters -/
theorem FreshNext.fresh {P : Par} {x : Session} {k n : Nat} (h : FreshNext P x k (n + 1)) (hw : RingWF x) (hk : k < 36) :
    Fresh P x k (0 + 1) := by
  constructor
  · intro e he h1 h2 ⟨i, hi, hc⟩
    have hi0 : i = 0 := by omega
    subst hi0
    rw [Nat.add_zero, Nat.mod_eq_of_lt hk] at hc
    exact h.cache.miss hw.clen hw.clast hk e he ⟨h1, h2, hk, hc⟩
  · intro e he h1 ⟨i, hi, hc⟩
    have hi0 : i = 0 := by omega
    subst hi0
    rw [Nat.add_zero, Nat.mod_eq_of_lt hk] at hc
    exact h.qmem.miss hw.qlen hw.qlast hk e he ⟨h1, hk, hc⟩

theorem cmcChar_next_ne {k j : Nat} (hk : k < 36) (hj : j < 15) : cmcChar ((k + 1 + j) % 36) ≠ cmcChar k := by
  intro hc
  have := cmcChar_inj ((k + 1 + j) % 36) k (Nat.mod_lt _ (by decide)) hk hc
  omega

/-- the data query that carries `k` and its answer are remembered: fresh for the next `n` values -/
theorem FreshNext.memo {P : Par} {x : Session} {k n : Nat} (h : FreshNext P x k (n + 1)) (hw : RingWF x) (hk : k < 36)
    (q : Query) (ans : List Nat) (hans : ans.length ≤ DNSCACHE_ANSWER_SIZE) (h4 : q.name.getD 4 0 = cmcChar k)
    (h5 : 5 ≤ q.name.length) (h0 : q.name.getD 0 0 ≠ 80 ∧ q.name.getD 0 0 ≠ 112) :
    FreshNext P (cacheUpd (qmemUpd x q) q ans) ((k + 1) % 36) n := by
  rw [cacheUpd_eq _ _ _ hans, qmemUpd_data x q h5 h0]
  have hcm := dataCmc_getD3 h4 hk
  refine ⟨?_, ?_⟩
  · apply h.qmem.push hw.qlen hw.qlast
    intro j _ hjL ⟨_, _, hc⟩
    simp only at hc
    rw [hcm] at hc
    exact cmcChar_next_ne hk (by simpa [QMEMDATA_LEN] using hjL) hc.symm
  · apply h.cache.push hw.clen hw.clast
    intro j _ hjL ⟨_, _, _, hc⟩
    simp only at hc
    rw [h4] at hc
    exact cmcChar_next_ne hk (by simp [DNSCACHE_LEN] at hjL; omega) hc.symm

/-- the answer to a ping is remembered: no data-CMC value is consumed -/
theorem FreshNext.memo_ping {P : Par} (hu : P.u < 16) {x : Session} {k n : Nat} (h : FreshNext P x k n) (hw : RingWF x)
    (q : Query) (ans : List Nat) (hans : ans.length ≤ DNSCACHE_ANSWER_SIZE) (h0 : q.name.getD 0 0 = 112) (cp : Nat)
    (hcp : q.name.idxOf? 46 = some cp) (hl : 4 ≤ (Codec.dec Codec.b32 8 (cp - 1) (q.name.drop 1)).length) :
    FreshNext P (cacheUpd (qmemUpd x q) q ans) k n := by
  rw [cacheUpd_eq _ _ _ hans, qmemUpd_ping x q h0 cp hcp hl]
  exact ⟨h.qmem, h.cache.push_irrel hw.clen hw.clast _ (crel_ping hu q ans h0)⟩

/-- a fully aged slot whose slack leaves room in the period of the counter (`15 + sl ≤ 36`) is fresh for ALL the values to come:
an entry `i` saves old carries a value at most `i + sl` steps behind `k`, and is gone before the counter has come round to it.
In particular the invariant of the clean path (`Aged … 1`) implies `FreshNext … n` for every `n` -/
theorem Aged.freshNext {P : Par} {x : Session} {k sl : Nat} (h : Aged P x k sl) (hk : k < 36) (n : Nat) (hsl : sl ≤ 21) :
    FreshNext P x k n := by
  refine ⟨?_, ?_⟩
  · intro i hi j hj hij hr
    obtain ⟨a, h1, h2, h3, h4⟩ := h.qmem i hi _ hr
    simp only [QMEMDATA_LEN] at hi hij
    omega
  · intro i hi j hj hij hr
    obtain ⟨a, h1, h2, h3, h4⟩ := h.cache i hi _ hr
    simp only [DNSCACHE_LEN] at hi hij
    omega

/-! ### world level: the next packets are delivered as on the clean path -/

/-- a frame that travels upstream as ONE fragment: an IP packet, made of bytes, not addressed to the client's own tunnel
address, whose compressed form fits one query name -/
structure UpFrame1 (P : Par) (tunIp : Nat) (frame : List Nat) : Prop where
  h24 : 24 ≤ frame.length
  hl : frame.length < 65536
  bytes : Codec.Bytes frame
  dst : Server.ipDst frame ≠ tunIp
  one : fragLen P (0x5a :: frame) = (0x5a :: frame).length

theorem UpFrame1.ok {P : Par} {t : Nat} {f : List Nat} (h : UpFrame1 P t f) :
    UpFrameOk P t f ∧ upFrags P (f.length + 1) (0x5a :: f) = 1 := by
  have : upFrags P (f.length + 1) (0x5a :: f) = 1 := by
    unfold upFrags
    rw [if_neg (by simp), h.one, List.drop_length, upFrags_nil]
  exact ⟨⟨h.h24, h.hl, h.bytes, h.dst, by omega⟩, this⟩

/-- **one one-fragment packet from a state that is quiescent but for the freshness clauses**, if the data-CMC value of its
query is not remembered (`Fresh … 1`): delivered by the 3 prompt events of the clean path; the memories of the slot afterwards
hold that query as well. -/
theorem up1_packet {P : Par} (hP : P.Ok) {w : W} (hq : QuietBut P w)
    (hfr : Fresh P (Server.getUser w.srv P.u) w.cs.c.datacmc 1) (frame : List Nat)
    (hf : UpFrame1 P (Server.getUser w.srv P.u).tunIp frame) :
    ∃ w', promptSteps P.u 3 (step w (.offerC frame)) = some w' ∧ QuietBut P w' ∧
      w'.tunS = w.tunS ++ [tunImage frame] ∧ w'.tunC = w.tunC ∧
      (Server.getUser w'.srv P.u).tunIp = (Server.getUser w.srv P.u).tunIp ∧
      w'.cs.c.datacmc = (w.cs.c.datacmc + 1) % 36 ∧ w'.cs.c.randSeed = w.cs.c.randSeed ∧
      Remembered P (Server.getUser w.srv P.u) (Server.getUser w'.srv P.u) w.cs.c.datacmc := by
  have hne : frame ≠ [] := by intro hc; have := hf.h24; rw [hc] at this; simp at this
  obtain ⟨⟨c, ph⟩, srv, up, down, tC, tS⟩ := w
  obtain rfl : ph = .tunnel := hq.ph
  obtain rfl : up = [] := hq.up
  obtain rfl : down = [] := hq.down
  have hcst : CStat P c := hq.cst
  have hS : SStat P srv := hq.srv
  replace hfr : Fresh P (Server.getUser srv P.u) c.datacmc 1 := hfr
  have hsu : (Server.getUser srv P.u).inpacket.seqno = c.outpkt.seqno := hq.syncu
  have hsd : (Server.getUser srv P.u).outpacket.seqno = c.inpkt.seqno := hq.syncd
  -- the client reads the frame and sends the only fragment of the new packet `c0.outpkt`
  have hready := newPacket_readyM hcst.toM (Or.inl rfl) frame hf.hl hf.bytes
  have hC := cliDoes_tun hP hcst.toM (Or.inl rfl) hq.idleC frame hne hf.hl hf.bytes
  have hoseq := newPacket_oseq hcst.oseq frame
  obtain ⟨c0, hc0, hcmc0, hseed0, hinp0, hnow0⟩ : ∃ c0, newPacket c frame = c0 ∧ c0.datacmc = c.datacmc ∧
      c0.randSeed = c.randSeed ∧ c0.inpkt = c.inpkt ∧ c0.now = c.now := ⟨_, rfl, rfl, rfl, rfl, rfl⟩
  rw [hc0] at hready hC hoseq
  obtain ⟨name, hsend, -, -, hQ⟩ := hready.query hP
  rw [show (fragLen P ((0x5a :: frame).drop 0) == (0x5a :: frame).length - 0) = true by
    rw [beq_iff_eq]; exact hf.one] at hQ
  rw [hsend] at hC
  obtain ⟨hsq, hsqc⟩ := seqno_toNat hready.stat.oseq
  -- the server hands the packet to `handle_full_packet` and parks the query; its sweep answers it 20 ms later
  obtain ⟨s', hdoes1, ⟨hS1, hk1, -, -⟩, hiseq, hifrag, hpark, hme1⟩ :=
    srv_last_core hP (held := false) hS hready.stat.cmc hq.idle.waits (by rw [hcmc0]; exact hfr) (T := 0x5a :: frame) (o := 0)
      (by rw [List.drop_zero]; exact hQ) (Or.inl hq.idle.q) ⟨hQ.from_, hQ.id, hQ.id2⟩
      (Or.inl ⟨rfl, rfl, 1, Nat.le_refl 1, by omega, by rw [hsqc, hoseq, hsu]; rfl⟩) hsq hready.flt
      (by rw [Nat.zero_add]; exact hf.one) (by simp; have := hf.hl; omega) (notSelf_compress hf.dst (by have := hf.hl; omega))
  have hpark' : Parked false (Server.getUser s' P.u) (upQuery (sentState c0).chunkid P.ty name)
      (upQuery (sentState c0).chunkid P.ty name) := hpark
  obtain ⟨s'', hn, hdoes2, ⟨hS2, hk2, -, -⟩, hin2, hw2, -, x0, hm0, hlen0, hm1⟩ :=
    srv_tick_core hS1 hpark' (fun e => Bool.noConfusion e) hQ.id hQ.id2
  have hsending := hready.sending_after
  have hselto : (Client.selectOf ({ sentStateL c0 with sendPingSoon := 0 } : Client.Cli)).to = 1000000 := by
    simp [Client.selectOf, hsending]
  generalize hpkt : Server.scPkt (Server.getUser s' P.u) 0 = pkt at hdoes2 hlen0 hm1
  -- the client reads the acknowledgement: the packet is complete
  obtain ⟨hlen2, hdn, hus, huf⟩ := ack_hdr (x := Server.getUser s' P.u) (y := Server.getUser s' P.u) hpkt.symm
    (by rw [hiseq]; omega) (by rw [hifrag]; decide) rfl hS1.x.oseq hS1.x.ofrag
  have hstep3 := hready.cstep_answer (upQuery (sentState c0).chunkid P.ty name) pkt (Or.inl hQ.c0)
    ((upQuery_id _ _ _).trans (if_neg Bool.false_ne_true).symm) hlen2
    (by rw [hdn, hk1.outpacket, hsd, hinp0])
  obtain ⟨cd, hcdstat, -, hcdidle, hack, -, -, hset⟩ := hready.ack_done (Client.decodeHdr pkt)
    (by rw [hus, hiseq]; exact hsqc) (by rw [huf, hifrag]) (by rw [Nat.zero_add]; exact hf.one)
  refine ⟨⟨⟨cd, .tunnel⟩, s'', [], [], tC, tS ++ [tunImage frame]⟩, ?_,
    ⟨rfl, hcdstat.imm, hcdidle, rfl, rfl, hS2, hw2.idleImm (hk2.lazy.trans (hk1.lazy.trans hq.idle.lazy)),
      by rw [hk2.oqFilled, hk1.oqFilled]; exact hq.oq,
      by show (Server.getUser s'' P.u).inpacket.seqno = cd.outpkt.seqno; rw [hin2, hiseq, hack.oseq]; exact hsqc,
      by show (Server.getUser s'' P.u).outpacket.seqno = cd.inpkt.seqno; rw [hk2.outpacket, hk1.outpacket, hack.inpkt, hinp0]; exact hsd⟩,
    rfl, rfl, (hk2.trans hk1).tunIp, by rw [← hcmc0]; exact hack.cmc, hack.seed.trans hseed0,
    ⟨x0, _, _, hm0.trans hme1, hm1, hlen0, hQ.c0, by rw [← hcmc0]; exact hQ.c4, hQ.len5⟩⟩
  rw [step_offerC_mk (tunSelC_idle hq.idleC) hC, srvAt_same ((sentFactsL c0).now.trans hnow0), List.nil_append, List.append_nil,
    ← junkUp_marker frame hf.h24 (by have := hf.hl; omega)]
  exact ps_last hdoes1 hsending hselto hn hdoes2
    (CliDoes.mk (hstep3.trans hset) rfl rfl) (hack.now.trans (sentFactsL c0).now.symm)

/-- **what remains to be assumed about the fault prefix**: the joint state is quiescent but for the freshness clauses, and no
remembered entry collides with the next `n` data-CMC values while it is in its ring; `nq` / `nc`: how many of the newest entries
of `qmemdata` / `dnscache` are known to be aged with slack 1 (nothing: `0 0`, see `Recoverable.start`) -/
structure Recoverable (P : Par) (nq nc n : Nat) (w : W) : Prop where
  but : QuietBut P w
  aged : AgedTo P (Server.getUser w.srv P.u) w.cs.c.datacmc nq nc 1
  fresh : FreshNext P (Server.getUser w.srv P.u) w.cs.c.datacmc n

theorem Recoverable.start {P : Par} {n : Nat} {w : W} (hq : QuietBut P w) (hwf : RingWF (Server.getUser w.srv P.u))
    (hfr : FreshNext P (Server.getUser w.srv P.u) w.cs.c.datacmc n) : Recoverable P 0 0 n w :=
  ⟨hq, AgedTo.of_wf hwf _ _, hfr⟩

/-- the invariant of the clean path is an instance, with any budget in the place of 21 (`Aged.freshNext`) -/
theorem QuietImm.recoverable {P : Par} {w : W} (h : QuietImm P w) : Recoverable P 15 4 21 w :=
  ⟨h.but, h.aged.to h.paged.plen h.paged.plast 15 4, h.aged.freshNext h.cst.cmc 21 (by decide)⟩

theorem Recoverable.mono {P : Par} {nq nc n nq' nc' n' : Nat} {w : W} (h : Recoverable P nq nc n w) (h1 : nq' ≤ nq)
    (h2 : nc' ≤ nc) (h3 : n' ≤ n) : Recoverable P nq' nc' n' w :=
  ⟨h.but, h.aged.mono h1 h2 (Nat.le_refl 1), h.fresh.mono h3⟩

/-- **one packet of the renewal**: delivered as on the clean path; one more position of each data ring is known to be aged, one
value of the `FreshNext` budget is used up; the ping clause, whatever its slack, is carried along -/
theorem renew_packet {P : Par} (hP : P.Ok) {nq nc n : Nat} {w : W} (h : Recoverable P nq nc (n + 1) w) (frame : List Nat)
    (hf : UpFrame1 P (Server.getUser w.srv P.u).tunIp frame) :
    ∃ w', promptSteps P.u 3 (step w (.offerC frame)) = some w' ∧ Recoverable P (nq + 1) (nc + 1) n w' ∧
      w'.tunS = w.tunS ++ [tunImage frame] ∧ w'.tunC = w.tunC ∧
      (Server.getUser w'.srv P.u).tunIp = (Server.getUser w.srv P.u).tunIp ∧ w'.cs.c.randSeed = w.cs.c.randSeed ∧
      (∀ sd sl, PAged P (Server.getUser w.srv P.u) sd sl → PAged P (Server.getUser w'.srv P.u) sd sl) := by
  have hk := h.but.cst.cmc
  have hwf := h.aged.wf
  obtain ⟨w', h1, h2, h3, h4, h5, h6, h7, x0, Q, ans, m1, m2, hans, c0, c4, l5⟩ :=
    up1_packet hP h.but (h.fresh.fresh hwf hk) frame hf
  have hnp := hexLower_ne_p hP.hu
  refine ⟨w', h1, ⟨h2, ?_, ?_⟩, h3, h4, h5, h7, ?_⟩
  · rw [h6]
    exact (((h.aged.memEq m1).step hk (by decide)).memo Q ans hans _ 1 ⟨Nat.le_refl 1, Nat.le_refl 1⟩ (behind_succ_mod hk) hk c4 l5
      (by rw [c0]; exact hnp)).memEq m2
  · rw [h6]
    exact ((h.fresh.memEq m1).memo (hwf.memEq m1) hk Q ans hans c4 l5 (by rw [c0]; exact hnp)).memEq m2
  · intro sd sl hp
    exact ((hp.memEq m1).memo_data hP.hu Q ans hans l5 c0).memEq m2

/-- **a sequence of packets of the renewal**: each frame is offered after the previous one was delivered (prompt schedule);
if the `FreshNext` budget covers them, all arrive exactly once, in order, as on the clean path -/
theorem renew_sequence {P : Par} (hP : P.Ok) (fuel : Nat) (hfuel : 3 ≤ fuel) :
    ∀ (frames : List (List Nat)) (nq nc n : Nat) (w : W), Recoverable P nq nc (n + frames.length) w →
      (∀ f ∈ frames, UpFrame1 P (Server.getUser w.srv P.u).tunIp f) →
      Recoverable P (nq + frames.length) (nc + frames.length) n (offerAllC P.u fuel w frames) ∧
      (offerAllC P.u fuel w frames).tunS = w.tunS ++ frames.map tunImage ∧
      (offerAllC P.u fuel w frames).tunC = w.tunC ∧
      (offerAllC P.u fuel w frames).cs.c.randSeed = w.cs.c.randSeed ∧
      (∀ sd sl, PAged P (Server.getUser w.srv P.u) sd sl →
        PAged P (Server.getUser (offerAllC P.u fuel w frames).srv P.u) sd sl) := by
  intro frames
  induction frames with
  | nil => intro nq nc n w h _; exact ⟨h, by simp [offerAllC], rfl, rfl, fun _ _ hp => hp⟩
  | cons f fs ih =>
    intro nq nc n w h hok
    have hf := hok f List.mem_cons_self
    have h' : Recoverable P nq nc (n + fs.length + 1) w := by
      have : n + (f :: fs).length = n + fs.length + 1 := by simp; omega
      rw [this] at h; exact h
    obtain ⟨w', h1, h2, h3, h4, h5, h6, h7⟩ := renew_packet hP h' f hf
    obtain ⟨i1, i2, i3, i4, i5⟩ := ih (nq + 1) (nc + 1) n w' h2 (fun g hg => by rw [h5]; exact hok g (List.mem_cons_of_mem _ hg))
    rw [offerAllC_first fs h1 h2.but.quiet hfuel]
    refine ⟨?_, ?_, ?_, ?_, ?_⟩
    · have e1 : nq + (f :: fs).length = nq + 1 + fs.length := by simp; omega
      have e2 : nc + (f :: fs).length = nc + 1 + fs.length := by simp; omega
      rw [e1, e2]; exact i1
    · rw [i2, h3]; simp
    · rw [i3, h4]
    · rw [i4, h6]
    · intro sd sl hp; exact i5 sd sl (h7 sd sl hp)

/-- **RENEWAL, World level (data half).**  After ANY fault prefix that leaves the joint state quiescent but for the freshness
clauses, with `FreshNext` for as many data-CMC values as packets follow: 15 or more one-fragment packets on the prompt loss-free
path are delivered exactly once and in order, and afterwards `Aged … 1` holds again. -/
theorem renewed_aged {P : Par} (hP : P.Ok) (fuel : Nat) (hfuel : 3 ≤ fuel) (frames : List (List Nat)) (w : W)
    (hq : QuietBut P w) (hwf : RingWF (Server.getUser w.srv P.u))
    (hfr : FreshNext P (Server.getUser w.srv P.u) w.cs.c.datacmc frames.length) (h15 : 15 ≤ frames.length)
    (hok : ∀ f ∈ frames, UpFrame1 P (Server.getUser w.srv P.u).tunIp f) :
    QuietBut P (offerAllC P.u fuel w frames) ∧
    Aged P (Server.getUser (offerAllC P.u fuel w frames).srv P.u) (offerAllC P.u fuel w frames).cs.c.datacmc 1 ∧
    (offerAllC P.u fuel w frames).tunS = w.tunS ++ frames.map tunImage ∧ (offerAllC P.u fuel w frames).tunC = w.tunC := by
  obtain ⟨h1, h2, h3, _, _⟩ := renew_sequence hP fuel hfuel frames 0 0 0 w
    (by rw [Nat.zero_add]; exact Recoverable.start hq hwf hfr) hok
  exact ⟨h1.but, h1.aged.aged (by omega) (by omega), h2, h3⟩

/-- **RENEWAL, World level: back to `QuietImm`.**  If in addition the ping memories are fresh (`PAged … 1`: true when no ping
was lost or late in the prefix — e.g. after the 104-event prefix of the counterexample, `freshness_counterexample_state` —, or
after 30 clean ping cycles, `CleanBoth.renewed`), the state after the 15 packets is `QuietImm`: the invariant of ALL the
clean-path theorems. -/
theorem renewed_quietImm {P : Par} (hP : P.Ok) (fuel : Nat) (hfuel : 3 ≤ fuel) (frames : List (List Nat)) (w : W)
    (hq : QuietBut P w) (hwf : RingWF (Server.getUser w.srv P.u))
    (hfr : FreshNext P (Server.getUser w.srv P.u) w.cs.c.datacmc frames.length) (h15 : 15 ≤ frames.length)
    (hok : ∀ f ∈ frames, UpFrame1 P (Server.getUser w.srv P.u).tunIp f)
    (hp : PAged P (Server.getUser w.srv P.u) w.cs.c.randSeed 1) :
    QuietImm P (offerAllC P.u fuel w frames) ∧
    (offerAllC P.u fuel w frames).tunS = w.tunS ++ frames.map tunImage ∧ (offerAllC P.u fuel w frames).tunC = w.tunC := by
  obtain ⟨h1, h2, h3, h4, h5⟩ := renew_sequence hP fuel hfuel frames 0 0 0 w
    (by rw [Nat.zero_add]; exact Recoverable.start hq hwf hfr) hok
  refine ⟨quietImm_iff_but.2 ⟨h1.but, h1.aged.aged (by omega) (by omega), ?_⟩, h2, h3⟩
  rw [h4]
  exact h5 _ _ hp

end Iodine.C02L
