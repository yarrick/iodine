import IodineModel.Lemmas.Client
import IodineModel.Lemmas.C01d
import IodineModel.Props.C08
/-
C01: the upstream hop.  The header characters `send_chunk` writes are read back by the
server's `b32_8to5` arithmetic as the numbers the client put in.
-/
namespace Iodine.C01L
open Iodine

theorem b32_roundtrip : ∀ n : Nat, n < 32 → Server.b32_8to5 (Client.b32_5to8 (n : Int)) = n := by decide +kernel

theorem b32_5to8_ne_dot : ∀ n : Nat, n < 32 → Client.b32_5to8 (n : Int) ≠ 46 := by decide +kernel

theorem b32_5to8_mask' (x : Int) : ∃ n : Nat, n < 32 ∧ Client.b32_5to8 x = Client.b32_5to8 (n : Int) := by
  refine ⟨Client.maskI x 32, ?_, ?_⟩
  · unfold Client.maskI; omega
  · unfold Client.b32_5to8
    congr 1
    unfold Client.maskI
    omega

theorem maskI_lt8 (x : Int) : Client.maskI x 8 < 8 := by unfold Client.maskI; omega
theorem maskI_lt16 (x : Int) : Client.maskI x 16 < 16 := by unfold Client.maskI; omega
theorem maskI_lt4 (x : Int) : Client.maskI x 4 < 4 := by unfold Client.maskI; omega

theorem maskI_4_16 (x : Int) : Client.maskI x 4 = Client.maskI x 16 % 4 := by unfold Client.maskI; omega

/-- the bit arithmetic of the three header digits, all field values -/
theorem hdr_bits1 : ∀ sq : Nat, sq < 8 → ∀ fr : Nat, fr < 16 →
    (sq * 4 ||| fr / 4) < 32 ∧ ((sq * 4 ||| fr / 4) >>> 2) &&& 7 = sq ∧ (sq * 4 ||| fr / 4) &&& 3 = fr / 4 := by
  decide +kernel

theorem hdr_bits2 : ∀ fr : Nat, fr < 16 → ∀ isq : Nat, isq < 8 →
    (fr % 4 * 8 ||| isq) < 32 ∧ (fr % 4 * 8 ||| isq) &&& 7 = isq ∧
    ((fr / 4) <<< 2 ||| (((fr % 4 * 8 ||| isq) >>> 3) &&& 3)) = fr := by
  decide +kernel

theorem hdr_bits3 : ∀ ifr : Nat, ifr < 16 → ∀ l : Nat, l < 2 →
    (ifr * 2 ||| l) < 32 ∧ (ifr * 2 ||| l) >>> 1 = ifr ∧ (ifr * 2 ||| l) &&& 1 = l := by
  decide +kernel

/-- **the header round trip**: what the server's `b32_8to5` arithmetic reads from the five characters `send_chunk` puts
in front of the encoded data -/
theorem chunkHeader_read (c : Client.Cli) (last : Bool) (rest : List Nat) :
    upHdr (Client.chunkHeader c last ++ rest) =
      (Client.maskI c.outpkt.seqno 8, Client.maskI c.outpkt.fragment 16, last) ∧
    Server.b32_8to5 ((Client.chunkHeader c last ++ rest).getD 2 0) &&& 7 = Client.maskI c.inpkt.seqno 8 ∧
    Server.b32_8to5 ((Client.chunkHeader c last ++ rest).getD 3 0) >>> 1 = Client.maskI c.inpkt.fragment 16 ∧
    (Client.chunkHeader c last ++ rest).getD 0 0 = c.useridChar := by
  have hsq := maskI_lt8 c.outpkt.seqno
  have hfr := maskI_lt16 c.outpkt.fragment
  have hisq := maskI_lt8 c.inpkt.seqno
  have hifr := maskI_lt16 c.inpkt.fragment
  generalize hl : (if last then 1 else 0 : Nat) = l
  have hl2 : l < 2 := by rw [← hl]; split <;> omega
  obtain ⟨a1, a2, a3⟩ := hdr_bits1 _ hsq _ hfr
  obtain ⟨b1, b2, b3⟩ := hdr_bits2 _ hfr _ hisq
  obtain ⟨c1, c2, c3⟩ := hdr_bits3 _ hifr _ hl2
  unfold upHdr Client.chunkHeader
  simp only [List.cons_append, List.getD_cons_zero, List.getD_cons_succ]
  rw [maskI_4_16, hl, b32_roundtrip _ a1, b32_roundtrip _ b1, b32_roundtrip _ c1, a2, a3, b2, b3, c2, c3]
  refine ⟨?_, rfl, rfl, trivial⟩
  rw [← hl]; cases last <;> rfl

theorem chunkHeader_length (c : Client.Cli) (last : Bool) : (Client.chunkHeader c last).length = 5 := rfl

theorem cmc_ne_dot : ∀ n : Nat, n < 37 → (Client.ascii "abcdefghijklmnopqrstuvwxyz0123456789").getD n 0 ≠ 46 := by
  decide +kernel

theorem chunkHeader_nodot (c : Client.Cli) (last : Bool) (hu : c.useridChar ≠ 46) :
    Encoding.NoDot (Client.chunkHeader c last) := by
  intro ch hch
  unfold Client.chunkHeader at hch
  simp only [List.mem_cons, List.not_mem_nil, or_false] at hch
  rcases hch with h | h | h | h | h
  · rw [h]; exact hu
  · rw [h]; obtain ⟨n, hn, e⟩ := b32_5to8_mask' _; rw [e]; exact b32_5to8_ne_dot n hn
  · rw [h]; obtain ⟨n, hn, e⟩ := b32_5to8_mask' _; rw [e]; exact b32_5to8_ne_dot n hn
  · rw [h]; obtain ⟨n, hn, e⟩ := b32_5to8_mask' _; rw [e]; exact b32_5to8_ne_dot n hn
  · rw [h]
    by_cases hd : c.datacmc < 37
    · exact cmc_ne_dot _ hd
    · have : (Client.ascii "abcdefghijklmnopqrstuvwxyz0123456789").length = 36 := by decide
      rw [List.getD_eq_getElem?_getD, List.getElem?_eq_none (by omega)]; decide

/-- what `build_hostname` returns inside `send_chunk` -/
def chunkBuilt (c : Client.Cli) : Encoding.Built :=
  Client.buildHostname c.dataenc.codec c.hostnameMaxlen 4091 0 c.topdomain (Client.outRest c.outpkt)

/-- the last-fragment flag `send_chunk` computes -/
def chunkLast (c : Client.Cli) : Bool := (chunkBuilt c).used == c.outpkt.len - c.outpkt.offset

/-- the host name `send_chunk` hands to `send_query` -/
def chunkName (c : Client.Cli) : List Nat := Client.chunkHeader c (chunkLast c) ++ (chunkBuilt c).name

theorem sendChunk_eq (c : Client.Cli) :
    Client.sendChunk c =
      Client.sendQuery { c with outpkt := { c.outpkt with sentlen := (chunkBuilt c).used },
                                datacmc := if c.datacmc + 1 ≥ 36 then 0 else c.datacmc + 1 } (chunkName c) := rfl

/-- C08 for the name `send_chunk` builds: `chunkBuilt` is the `Built` that C08 speaks of -/
theorem chunkBuilt_ok (c : Client.Cli) (L : Nat) (hmax : c.hostnameMaxlen = (L : Int))
    (S : C08.Setting c.dataenc.codec L 5 (Client.chunkHeader c (chunkLast c)) c.topdomain (Client.outRest c.outpkt)) :
    C08.Guarantee c.dataenc.codec L 5 (Client.chunkHeader c (chunkLast c)) c.topdomain (Client.outRest c.outpkt)
      (chunkBuilt c) := by
  obtain ⟨b, hb, G⟩ := C08.hostname_ok S 0
  have hbuilt : chunkBuilt c = b := by
    unfold chunkBuilt
    rw [hmax]
    exact Client.buildHostname_of_some _ L 4091 0 _ _ b S.hL.2 hb
  rw [hbuilt]; exact G

theorem upHdr_take (l : List Nat) (m : Nat) (h : 4 ≤ m) : upHdr (l.take m) = upHdr l := by
  unfold upHdr
  rw [Server.getD_take_lt l m 1 (by omega), Server.getD_take_lt l m 2 (by omega), Server.getD_take_lt l m 3 (by omega)]

end Iodine.C01L
