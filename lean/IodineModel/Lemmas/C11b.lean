import IodineModel.Gen.Tables
import IodineModel.Codec.Inst
import IodineModel.Encoding
import IodineModel.Lemmas.C11a
/-
C11: pure model of the negotiation part of the client's handshake (src/client.c) and of the
server's answer encoding (`write_dns` / `write_dns_nameenc`, src/iodined.c) with the client's matching decoder
(`dns_namedec`).

A relay of C11 is a FIXED transformation, so every probe has one outcome per probe content; the retry loops of
the C functions (`for (i = 0; running && i < 3; i++)`, timeouts 1, 2, 3 s) are collapsed into that outcome
(`none` / `false` = no usable reply in any try).  `running` is true throughout (no Ctrl-C).

  handshake_upenctest          ↦ `upencTest`            (reply = the echoed name `in[0..read)`)
  handshake_upenc_autodetect   ↦ `upencAutodetect`
  write_dns (TXT branch)       ↦ `txtText`
  write_dns_nameenc            ↦ `nameenc`
  dns_namedec                  ↦ `namedec`
  handshake_downenctest        ↦ `downencTest`
  handshake_downenc_autodetect ↦ `downencAutodetect`
  handshake_qtype_autodetect   ↦ `qtypeAutodetect`
  fragsize_check + the 3 tries ↦ the oracle `Nat → ProbeRes`
  handshake_autoprobe_fragsize ↦ `autoprobeFragsize` (loop: `fragLoop`)
  client_handshake after login ↦ `clientHandshakeTail` (field by field: `clientHandshakeTail_eq`)
-/
namespace Iodine.C11L
open Iodine Iodine.Gen Iodine.Codec Iodine.Encoding

/-! ### upstream codec test -/

/-- return value of `handshake_upenctest`: -1, 0, 1 -/
inductive UpRes where
  | caseSwap | differ | same
deriving DecidableEq, Repr

/-- The name `send_upenctest` asks for: `z`, three CMC characters (`hdr`, 4 characters in all), the probe
string, '.', the tunnel domain. -/
def upName (hdr s td : List Nat) : List Nat := hdr ++ s ++ DOT :: td

/-- `handshake_upenctest(s)`; `reply` = `in[0..read)` of a fitting reply with `read > 0`, `none` otherwise.
The server's `Z` handler echoes the whole name it received. -/
def upencTest (s : List Nat) (reply : Option (List Nat)) : UpRes :=
  match reply with
  | none => .differ
  | some rin =>
    if rin.length = 0 then .differ
    else if rin.length < s.length + 4 then .differ
    else if rin.getD 4 0 = 65 then .caseSwap
    else if rin.getD 5 0 = 97 then .caseSwap
    else if (rin.drop 4).take s.length = s then .same
    else .differ

/-- the Base64 / Base64u part of `handshake_upenc_autodetect` -/
def upencTry64 (t : List Nat → UpRes) : Nat :=
  match t pat64 with
  | .caseSwap => 0
  | .same => 1
  | .differ =>
    match t pat64u with
    | .caseSwap => 0
    | .same => 2
    | .differ => 0

/-- `handshake_upenc_autodetect`: 0 keep Base32, 1 Base64, 2 Base64u, 3 Base128.
`t s` = result of `handshake_upenctest(s)`. -/
def upencAutodetect (t : List Nat → UpRes) : Nat :=
  match t pat128a with
  | .caseSwap => 0
  | .differ => upencTry64 t
  | .same =>
  match t pat128b with
  | .caseSwap => 0
  | .differ => upencTry64 t
  | .same =>
  match t pat128c with
  | .caseSwap => 0
  | .differ => upencTry64 t
  | .same =>
  match t pat128d with
  | .caseSwap => 0
  | .differ => upencTry64 t
  | .same =>
  match t pat128e with
  | .caseSwap => 0
  | .differ => upencTry64 t
  | .same => 3

theorem upencTest_same {s : List Nat} {reply : Option (List Nat)} (h : upencTest s reply = .same) :
    ∃ rin, reply = some rin ∧ s.length + 4 ≤ rin.length ∧ (rin.drop 4).take s.length = s := by
  unfold upencTest at h
  split at h
  · cases h
  · rename_i rin
    refine ⟨rin, rfl, ?_⟩
    split at h; · cases h
    split at h; · cases h
    split at h; · cases h
    split at h; · cases h
    split at h
    · rename_i h1 _ _ h2; exact ⟨by omega, h2⟩
    · cases h

/-- the echo of `upName hdr s td` through a character map -/
theorem upencTest_echo_same {f : Nat → Nat} {hdr s td : List Nat} (hh : hdr.length = 4)
    (h : upencTest s (some ((upName hdr s td).map f)) = .same) : s.map f = s := by
  obtain ⟨rin, hr, _, h2⟩ := upencTest_same h
  cases hr
  unfold upName at h2
  rw [List.append_assoc, List.map_append, List.drop_left' (by simpa using hh), List.map_append,
    List.take_left' (by simp)] at h2
  exact h2

theorem upencTry64_cases (t : List Nat → UpRes) :
    upencTry64 t = 0 ∨ (upencTry64 t = 1 ∧ t pat64 = .same) ∨ (upencTry64 t = 2 ∧ t pat64u = .same) := by
  unfold upencTry64
  cases t pat64 with
  | caseSwap => exact Or.inl rfl
  | same => exact Or.inr (Or.inl ⟨rfl, rfl⟩)
  | differ =>
    cases t pat64u with
    | caseSwap | differ => exact Or.inl rfl
    | same => exact Or.inr (Or.inr ⟨rfl, rfl⟩)

/-- Base32 is kept on a case swap, Base128 needs all five probe strings back, anything else is up to the Base64 part -/
theorem upencAutodetect_cases (t : List Nat → UpRes) :
    upencAutodetect t = 0 ∨ upencAutodetect t = upencTry64 t ∨
    (upencAutodetect t = 3 ∧
      t pat128a = .same ∧ t pat128b = .same ∧ t pat128c = .same ∧ t pat128d = .same ∧ t pat128e = .same) := by
  unfold upencAutodetect
  cases t pat128a with
  | caseSwap => exact Or.inl rfl
  | differ => exact Or.inr (Or.inl rfl)
  | same =>
  cases t pat128b with
  | caseSwap => exact Or.inl rfl
  | differ => exact Or.inr (Or.inl rfl)
  | same =>
  cases t pat128c with
  | caseSwap => exact Or.inl rfl
  | differ => exact Or.inr (Or.inl rfl)
  | same =>
  cases t pat128d with
  | caseSwap => exact Or.inl rfl
  | differ => exact Or.inr (Or.inl rfl)
  | same =>
  cases t pat128e with
  | caseSwap => exact Or.inl rfl
  | differ => exact Or.inr (Or.inl rfl)
  | same => exact Or.inr (Or.inr ⟨rfl, rfl, rfl, rfl, rfl, rfl⟩)

theorem upencAutodetect_eq_3 {t : List Nat → UpRes} (h : upencAutodetect t = 3) :
    t pat128a = .same ∧ t pat128b = .same ∧ t pat128c = .same ∧ t pat128d = .same ∧ t pat128e = .same := by
  rcases upencAutodetect_cases t with h0 | h0 | ⟨_, hs⟩
  · omega
  · rcases upencTry64_cases t with h' | ⟨h', _⟩ | ⟨h', _⟩ <;> omega
  · exact hs

theorem upencAutodetect_eq_1 {t : List Nat → UpRes} (h : upencAutodetect t = 1) : t pat64 = .same := by
  rcases upencAutodetect_cases t with h0 | h0 | ⟨h0, _⟩
  · omega
  · rcases upencTry64_cases t with h' | ⟨_, hs⟩ | ⟨h', _⟩ <;> first | omega | exact hs
  · omega

theorem upencAutodetect_eq_2 {t : List Nat → UpRes} (h : upencAutodetect t = 2) : t pat64u = .same := by
  rcases upencAutodetect_cases t with h0 | h0 | ⟨h0, _⟩
  · omega
  · rcases upencTry64_cases t with h' | ⟨h', _⟩ | ⟨_, hs⟩ <;> first | omega | exact hs
  · omega

/-- no outcome of the probes makes the function fail: the result is always one of the four codecs -/
theorem upencAutodetect_le (t : List Nat → UpRes) : upencAutodetect t ≤ 3 := by
  rcases upencAutodetect_cases t with h | h | ⟨h, _⟩ <;>
    rcases upencTry64_cases t with h' | ⟨h', _⟩ | ⟨h', _⟩ <;> omega

/-! ### downstream: the server's answer text and the client's decoder -/

/-- the codec of a downstream codec letter (upper case), Base32 for everything else -/
def dnCodec (dn : Nat) : Codec :=
  if dn = 83 then b64 else if dn = 85 then b64u else if dn = 86 then b128 else b32

/-- `write_dns`, TXT branch: the bytes handed to `dns_encode` (`txtbuf[0 .. len+1)`) -/
def txtText (dn : Nat) (data : List Nat) : List Nat :=
  if dn = 83 then 115 :: (enc b64 65535 data).chars
  else if dn = 85 then 117 :: (enc b64u 65535 data).chars
  else if dn = 86 then 118 :: (enc b128 65535 data).chars
  else if dn = 82 then 114 :: data.take 65535
  else 116 :: (enc b32 65535 data).chars

/-- the letter `write_dns_nameenc` puts in front -/
def nameLetter (dn : Nat) : Nat :=
  if dn = 83 then 105 else if dn = 85 then 106 else if dn = 86 then 107 else 104

/-- `write_dns_nameenc(buf, buflen, data, datalen, downenc)` for `buflen ≥ 255` (1024 / 64 KiB in the
callers): `space = 255 - 4 - 2 = 249`, minus `249 / 57` for the dots; `inline_dotify` runs over the letter
and the encoding; then a '.' (if there is none) and the two rotating letters `t1 t2`.  Returns the name and
the number of data bytes encoded. -/
def nameenc (dn : Nat) (data : List Nat) (t1 t2 : Nat) : List Nat × Nat :=
  let r := enc (dnCodec dn) (249 - 249 / 57) data
  let s := dotify (nameLetter dn :: r.chars)
  let s' := if s.getLast? = some DOT then s else s ++ [DOT]
  (s' ++ [t1, t2], r.used)

/-- `dns_namedec(outdata, cap, buf, buflen)` with `buflen = |buf| ≥ 1`: the decoded bytes (length = return
value), with the four codecs as parameters; `namedec` below puts in the real ones. -/
def namedecG (c32 c64 c64u c128 : Codec) (cap : Nat) (buf : List Nat) : List Nat :=
  match buf with
  | [] => []
  | l :: rest =>
    let host (c : Codec) : List Nat :=
      if buf.length < 5 then [] else unpackData c cap (rest.take (buf.length - 4))
    let txt (c : Codec) : List Nat :=
      if buf.length < 2 then [] else dec c cap (buf.length - 1) rest
    if l = 104 ∨ l = 72 then host c32
    else if l = 105 ∨ l = 73 then host c64
    else if l = 106 ∨ l = 74 then host c64u
    else if l = 107 ∨ l = 75 then host c128
    else if l = 116 ∨ l = 84 then txt c32
    else if l = 115 ∨ l = 83 then txt c64
    else if l = 117 ∨ l = 85 then txt c64u
    else if l = 118 ∨ l = 86 then txt c128
    else if l = 114 ∨ l = 82 then rest.take (min (buf.length - 1) cap)
    else []

/-- `dns_namedec` -/
def namedec (cap : Nat) (buf : List Nat) : List Nat := namedecG b32 b64 b64u b128 cap buf

/-- `sizeof(data)` in `read_dns_withq` -/
def NAMEDEC_CAP : Nat := 65536

/-- `handshake_downenctest`: the reply must be exactly the 48 check bytes.  `reply` = decoded answer
(`in[0..read)`, `read > 0`) or `none`. -/
def downencTest (reply : Option (List Nat)) : Bool :=
  match reply with
  | none => false
  | some rin => decide (rin.length > 0 ∧ rin.length = DOWNCODECCHECK1.length ∧ rin = DOWNCODECCHECK1)

theorem downencTest_true {reply : Option (List Nat)} (h : downencTest reply = true) :
    reply = some DOWNCODECCHECK1 := by
  unfold downencTest at h
  split at h
  · cases h
  · simp only [decide_eq_true_eq] at h
    rw [h.2.2]

/-- `handshake_downenc_autodetect`; `t c` = `handshake_downenctest(c)` for the codec letter `c`;
result: codec letter, ' ' (32) = stay with the default (Base32 / Raw for NULL) -/
def downencAutodetect (qtype : Nat) (t : Nat → Bool) : Nat :=
  if qtype = T_NULL ∨ qtype = T_PRIVATE then 32
  else
    let base64ok := t 83
    let base64uok := !base64ok && t 85
    let base128ok := (base64ok || base64uok) && t 86
    if base128ok && decide (qtype = T_TXT) && t 82 then 82
    else if base128ok then 86
    else if base64ok then 83
    else if base64uok then 85
    else 32

theorem downencAutodetect_cases (qtype : Nat) (t : Nat → Bool) :
    (downencAutodetect qtype t = 32) ∨
    (downencAutodetect qtype t = 83 ∧ t 83 = true) ∨
    (downencAutodetect qtype t = 85 ∧ t 85 = true) ∨
    (downencAutodetect qtype t = 86 ∧ t 86 = true) ∨
    (downencAutodetect qtype t = 82 ∧ t 82 = true ∧ t 86 = true ∧ qtype = T_TXT) := by
  unfold downencAutodetect
  by_cases hq : qtype = T_NULL ∨ qtype = T_PRIVATE
  · simp [hq]
  · simp only [hq, if_false]
    cases h83 : t 83 <;> cases h85 : t 85 <;> cases h86 : t 86 <;> cases h82 : t 82 <;>
      by_cases hT : qtype = T_TXT <;> simp [hT]

/-! ### query type autodetection -/

/-- `handshake_qtype_numcvt` -/
def qtypeNumcvt (num : Nat) : Nat :=
  match num with
  | 0 => T_NULL | 1 => T_PRIVATE | 2 => T_TXT | 3 => T_SRV | 4 => T_MX | 5 => T_CNAME | 6 => T_A
  | _ => T_UNSET

/-- the inner `for (qtypenum = 0; qtypenum < highestworking; qtypenum++)` loop, from `num` on, with `fuel`
≥ the number of remaining candidates: the new `highestworking` -/
def qtypeInner (works : Nat → Bool) (highest : Nat) : Nat → Nat → Nat
  | 0, _ => highest
  | fuel + 1, num =>
    if num < highest then
      if qtypeNumcvt num = T_UNSET then highest
      else if works num then num
      else qtypeInner works highest fuel (num + 1)
    else highest

/-- the outer `for (timeout = 1; timeout <= 3; timeout++)` loop; `works timeout num` =
`handshake_qtypetest` for type number `num` -/
def qtypeOuter (works : Nat → Nat → Bool) : Nat → Nat → Nat → Nat
  | 0, _, highest => highest
  | fuel + 1, timeout, highest =>
    if timeout ≤ 3 then
      let h' := qtypeInner (works timeout) highest 8 0
      if h' = 0 then h' else qtypeOuter works fuel (timeout + 1) h'
    else highest

/-- `handshake_qtype_autodetect`: `none` = "No suitable DNS query type found" (return 1), `some ty` =
return 0 with `do_qtype = ty` -/
def qtypeAutodetect (works : Nat → Nat → Bool) : Option Nat :=
  let highest := qtypeOuter works 3 1 100
  if qtypeNumcvt highest = T_UNSET then none else some (qtypeNumcvt highest)

/-! ### fragment size -/

/-- What the up to three tries for one proposed size leave behind: `ok` — `fragsize_check` set
`max_fragsize = proposed`; `bad` — `max_fragsize` untouched (too short, corrupted after byte 2, no or only
unfitting replies); `fatal` — "corruption at byte 2", `max_fragsize = -1`. -/
inductive ProbeRes where
  | ok | bad | fatal
deriving DecidableEq, Repr

/-- state of the search: `proposed_fragsize`, `range`, `max_fragsize` and (ghost) the sizes asked so far,
latest first -/
structure FragSt where
  proposed : Nat
  range : Nat
  max : Int
  asked : List Nat
deriving DecidableEq, Repr

/-- `max_fragsize` after the tries for `proposed_fragsize` -/
def probeMax (probe : Nat → ProbeRes) (st : FragSt) : Int :=
  match probe st.proposed with
  | .ok => st.proposed
  | .bad => st.max
  | .fatal => -1

/-- one iteration of the `while` body (the condition holds); the `Bool` is false for the `break` on
`max_fragsize < 0` -/
def fragStep (probe : Nat → ProbeRes) (st : FragSt) : FragSt × Bool :=
  let max' : Int := probeMax probe st
  let asked' := st.proposed :: st.asked
  if max' < 0 then ({ st with max := max', asked := asked' }, false)
  else
    let range' := st.range / 2
    if max' = (st.proposed : Int) then (⟨st.proposed + range', range', max', asked'⟩, true)
    else (⟨st.proposed - range', range', max', asked'⟩, true)

/-- `while (running && range > 0 && (range >= 8 || max_fragsize < 300))` -/
def fragCond (st : FragSt) : Bool := decide (st.range > 0) && (decide (st.range ≥ 8) || decide (st.max < 300))

def fragLoop (probe : Nat → ProbeRes) : Nat → FragSt → FragSt
  | 0, st => st
  | fuel + 1, st =>
    if fragCond st then
      let r := fragStep probe st
      if r.2 then fragLoop probe fuel r.1 else r.1
    else st

def fragInit : FragSt := ⟨768, 768, 0, []⟩

/-- the state after the `while` loop (`range` is halved in every iteration: 768 → 0 in 10 steps) -/
def fragSearch (probe : Nat → ProbeRes) : FragSt := fragLoop probe 10 fragInit

/-- `handshake_autoprobe_fragsize`: 0 = "found no accepted fragment size", else `max_fragsize - 2` -/
def autoprobeFragsize (probe : Nat → ProbeRes) : Nat :=
  let m := (fragSearch probe).max
  if m ≤ 2 then 0 else (m - 2).toNat

/-! ### the decision structure of `client_handshake` after the login -/

structure HsCfg where
  /-- `do_qtype` (forced with -T or autodetected before) -/
  qtype : Nat
  /-- `downenc` as set by -O (' ' = 32: autodetect) -/
  downenc : Nat
  /-- `lazymode` as set by -L -/
  lazymode : Bool
  /-- `autodetect_frag_size` (no -m) and the -m value -/
  autoFrag : Bool
  fragsize : Nat
deriving Repr

/-- outcomes of all probes the handshake may make -/
structure HsProbes where
  /-- `handshake_edns0_check` -/
  edns0 : Bool
  /-- `handshake_upenctest` per probe string -/
  up : List Nat → UpRes
  /-- `handshake_switch_codec(bits)`: the server acknowledged (and `dataenc` is switched) -/
  switchUp : Nat → Bool
  /-- `handshake_downenctest` per codec letter -/
  down : Nat → Bool
  /-- `handshake_try_lazy`: the server answered "Lazy" -/
  lazyAck : Bool
  frag : Nat → ProbeRes

structure HsResult where
  /-- return value of `client_handshake` -/
  rc : Int
  /-- `dnsc_use_edns0` -/
  edns0 : Bool
  /-- bits of the upstream codec `dataenc`: 5, 6, 26 (Base64u), 7 -/
  upBits : Nat
  /-- `downenc` (' ' = 32 = server default `T`/Base32, or Raw for NULL) -/
  downenc : Nat
  lazymode : Bool
  /-- the size sent with `handshake_set_fragsize`, if that point was reached -/
  setFrag : Option Nat
deriving DecidableEq, Repr

/-- `client_handshake` from `dnsc_use_edns0 = 1` on (DNS mode: `raw_mode == 0` or the raw login failed) -/
def clientHandshakeTail (cfg : HsCfg) (P : HsProbes) : HsResult :=
  let edns0 := P.edns0
  let upcodec := upencAutodetect P.up
  let bits := if upcodec = 1 then 6 else if upcodec = 2 then 26 else if upcodec = 3 then 7 else 5
  let upBits := if bits ≠ 5 ∧ P.switchUp bits then bits else 5
  let downenc := if cfg.downenc = 32 then downencAutodetect cfg.qtype P.down else cfg.downenc
  let lazymode := if cfg.lazymode then P.lazyAck else false
  if cfg.autoFrag then
    let f := autoprobeFragsize P.frag
    if f = 0 then ⟨1, edns0, upBits, downenc, lazymode, none⟩
    else ⟨0, edns0, upBits, downenc, lazymode, some f⟩
  else ⟨0, edns0, upBits, downenc, lazymode, some cfg.fragsize⟩

/-- the bits `client_handshake` asks `handshake_switch_codec` for, if it got them; else 5 -/
def upBitsOf (P : HsProbes) : Nat :=
  let upcodec := upencAutodetect P.up
  let bits := if upcodec = 1 then 6 else if upcodec = 2 then 26 else if upcodec = 3 then 7 else 5
  if bits ≠ 5 ∧ P.switchUp bits then bits else 5

/-- `client_handshake` field by field: only the return value and the size sent depend on the fragment size search. -/
theorem clientHandshakeTail_eq (cfg : HsCfg) (P : HsProbes) :
    clientHandshakeTail cfg P =
      { rc := if cfg.autoFrag = true ∧ autoprobeFragsize P.frag = 0 then 1 else 0
        edns0 := P.edns0
        upBits := upBitsOf P
        downenc := if cfg.downenc = 32 then downencAutodetect cfg.qtype P.down else cfg.downenc
        lazymode := if cfg.lazymode then P.lazyAck else false
        setFrag := if cfg.autoFrag = true ∧ autoprobeFragsize P.frag = 0 then none
          else some (if cfg.autoFrag then autoprobeFragsize P.frag else cfg.fragsize) } := by
  unfold clientHandshakeTail upBitsOf
  cases cfg.autoFrag
  · simp
  · by_cases h0 : autoprobeFragsize P.frag = 0 <;> simp [h0]

theorem upBitsOf_mem (P : HsProbes) : upBitsOf P = 5 ∨ upBitsOf P = 6 ∨ upBitsOf P = 26 ∨ upBitsOf P = 7 := by
  have hb : ∀ u : Nat, ∃ b, (if u = 1 then 6 else if u = 2 then 26 else if u = 3 then 7 else 5 : Nat) = b ∧
      (b = 5 ∨ b = 6 ∨ b = 26 ∨ b = 7) := by
    intro u
    refine ⟨_, rfl, ?_⟩
    split; · decide
    split; · decide
    split <;> decide
  obtain ⟨b, hb, hmem⟩ := hb (upencAutodetect P.up)
  unfold upBitsOf
  dsimp only
  rw [hb]
  split
  · exact hmem
  · exact Or.inl rfl

end Iodine.C11L
