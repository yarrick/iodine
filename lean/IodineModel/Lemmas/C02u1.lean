import IodineModel.Lemmas.C02s5
/-
Server side of an upstream transfer, on the slot: `send_chunk_or_dataless` with nothing to send, the duplicate filters as
predicates on the slot (`CacheMiss`, `QmemMiss`), admission of the session's queries (`Admitted`), a fragment accepted into the
reassembly buffer when no acknowledgement is awaited (`stored`, `dataASess_accept`), and what one iteration does with a data query
that hits none of the filters (`iteration_data`, either mode).
-/
namespace Iodine.C02L
open Iodine Iodine.Gen Iodine.Server

/-! ### `send_chunk_or_dataless` with nothing to send: a dataless answer -/

theorem scSess_dataless (y : Session) (u : Nat) (w : QSel) (hlen : y.outpacket.len = 0) (hid2 : (w.get y).id2 = 0) :
    scSess y u w =
      ((w.set (cacheUpd (qmemUpd y (w.get y)) (w.get y) (scPkt y 0)) { w.get y with id := 0 },
        [writeDns (w.get y) (scPkt y 0) y.downenc (.chunk u)]), false) := by
  have hd : dropResent y = y := by simp [dropResent, hlen]
  have hp : prepare y = y := by simp [prepare, hlen]
  have hdl : scDatalen y = 0 := by simp [scDatalen, hlen]
  unfold scSess
  simp only [hd, hp, hdl, scAnswer, hid2, ne_eq, not_true_eq_false, if_false, Nat.lt_irrefl, false_and]

/-! ### the duplicate filters, on the slot -/

/-- no valid entry of the answer cache is for this name and type -/
def CacheMiss (x : Session) (q : Query) : Prop :=
  ∀ e ∈ x.dnscache, ¬ (e.q.id ≠ 0 ∧ e.answerlen ≠ 0 ∧ e.q.type = q.type ∧ e.q.name = q.name)

theorem dnscacheFind_none (x : Session) (q : Query) (h : CacheMiss x q) : ∀ n i, dnscacheFind x q n i = none := by
  intro n
  induction n with
  | zero => intro i; rfl
  | succ n ih =>
    intro i
    unfold dnscacheFind
    simp only
    generalize hu : (if x.dcLast < i then x.dcLast + DNSCACHE_LEN - i else x.dcLast - i) = use
    by_cases hlt : use < x.dnscache.length
    · have hm : x.dnscache.getD use DnsCacheEntry.zero ∈ x.dnscache := by
        rw [List.getD_eq_getElem?_getD, List.getElem?_eq_getElem hlt]
        exact List.getElem_mem hlt
      have := h _ hm
      generalize x.dnscache.getD use DnsCacheEntry.zero = e at this
      by_cases h1 : e.q.id = 0
      · rw [if_pos h1]; exact ih _
      · rw [if_neg h1]
        by_cases h2 : e.answerlen = 0
        · rw [if_pos h2]; exact ih _
        · rw [if_neg h2]
          by_cases h3 : e.q.type ≠ q.type ∨ e.q.name ≠ q.name
          · rw [if_pos h3]; exact ih _
          · exfalso
            apply this
            refine ⟨h1, h2, ?_, ?_⟩
            · by_cases h4 : e.q.type = q.type
              · exact h4
              · exact absurd (Or.inl h4) h3
            · by_cases h4 : e.q.name = q.name
              · exact h4
              · exact absurd (Or.inr h4) h3
    · have : x.dnscache.getD use DnsCacheEntry.zero = DnsCacheEntry.zero := by
        rw [List.getD_eq_getElem?_getD, List.getElem?_eq_none (by omega)]
        rfl
      rw [this]
      simp only [DnsCacheEntry.zero, Query.zero, if_true]
      exact ih _

theorem answerFromDnscache_none (s : Srv) (u : Nat) (q : Query) (h : CacheMiss (getUser s u) q) :
    answerFromDnscache s u q = none := by
  unfold answerFromDnscache
  simp only [dnscacheFind_none _ _ h]

theorem answerFromQmem_none (q : Query) (mem : List QmemEntry) (cmc : List Nat) (u : Nat)
    (h : ∀ e ∈ mem, ¬ (e.type ≠ T_UNSET ∧ e.type = q.type ∧ e.cmc = cmc)) :
    answerFromQmem q mem cmc u = none := by
  unfold answerFromQmem
  have : mem.any (fun e => e.type != T_UNSET && e.type == q.type && e.cmc == cmc) = false := by
    rw [List.any_eq_false]
    intro e he hc
    apply h e he
    have hc' : (¬e.type = T_UNSET ∧ e.type = q.type) ∧ e.cmc = cmc := by simpa using hc
    exact ⟨hc'.1.1, hc'.1.2, hc'.2⟩
  simp only [this, Bool.false_eq_true, if_false]

/-- no entry of the data fingerprint memory is for this header and type -/
def QmemMiss (x : Session) (q : Query) : Prop :=
  ∀ e ∈ x.qmemdata, ¬ (e.type ≠ T_UNSET ∧ e.type = q.type ∧ e.cmc = dataCmc q.name)

theorem answerFromQmemData_none (s : Srv) (u : Nat) (q : Query) (h : QmemMiss (getUser s u) q) :
    answerFromQmemData s u q = none :=
  answerFromQmem_none q _ _ u h

theorem rememberDuplicate_none (s : Srv) (u : Nat) (q : Query) (h1 : (getUser s u).q.id = 0 ∨ (getUser s u).q.name ≠ q.name)
    (h2 : (getUser s u).qs.id = 0 ∨ (getUser s u).qs.name ≠ q.name) : rememberDuplicate s u q = none := by
  unfold rememberDuplicate
  simp only
  rw [if_neg (by intro h; rcases h1 with h1 | h1; exact h.1 h1; exact h1 h.2.2.1.symm),
      if_neg (by intro h; rcases h2 with h2 | h2; exact h.1 h2; exact h2 h.2.2.symm)]

/-- the session passes `check_authenticated_user_and_ip` -/
structure Admitted (s : Srv) (u : Nat) (q : Query) : Prop where
  lt : u < s.cfg.createdUsers
  active : (getUser s u).active = true
  enabled : (getUser s u).disabled = false
  fresh : ¬ (getUser s u).lastPkt + 60 < s.now
  ip : s.cfg.checkIp = false ∨
    (q.from_.fam = (getUser s u).host.fam ∧ (q.from_.fam = 4 ∨ q.from_.fam = 6) ∧ (getUser s u).host.ip = q.from_.ip)
  auth : (getUser s u).authenticated = true

theorem checkAuth_admitted {s : Srv} {u : Nat} {q : Query} (h : Admitted s u q) :
    checkAuthenticatedUserAndIp s (u : Int) q = false := by
  obtain ⟨h1, h2, h3, h4, h5, h6⟩ := h
  have hc : checkUserAndIp s (u : Int) q = false := by
    unfold checkUserAndIp
    rw [if_neg (by omega)]
    simp only [Int.toNat_natCast, h2, h3, Bool.not_true, Bool.or_false, Bool.false_eq_true, if_false, h4]
    rcases h5 with h5 | ⟨h5, h7, h8⟩
    · simp [h5]
    · by_cases hci : s.cfg.checkIp = true
      · simp only [hci, Bool.not_true, Bool.false_eq_true, if_false, h5, ne_eq, not_true_eq_false]
        rcases h7 with h7 | h7
        · rw [h5] at h7; simp [h7, h8]
        · rw [h5] at h7; simp [h7, h8]
      · simp [hci]
  unfold checkAuthenticatedUserAndIp
  simp [hc, h6]

/-! ### the idle slot of immediate mode; a fragment accepted into the reassembly buffer -/

/-- the slot is idle in the downstream direction and holds no query (immediate mode between two queries) -/
structure IdleImm (x : Session) : Prop where
  out : x.outpacket.len = 0
  q : x.q.id = 0
  qs : x.qs.id = 0
  lazy : x.lazy = false

/-- the slot after a fragment was accepted into `inpacket` (`I` = `inpacket` as `dataUpstream` left it) and stored -/
def stored (x : Session) (I : Packet) (payload : List Nat) : Session := dataStore { x with inpacket := I } payload

theorem dataASess_accept (x : Session) (h : UpHdr) (payload : List Nat) (I : Packet) (hout : x.outpacket.len = 0)
    (hup : dataUpstream x h.upSeq h.upFrag = ({ x with inpacket := I }, true)) :
    dataASess x h.upSeq h.upFrag h.dnSeq h.dnFrag payload = (stored x I payload, true) := by
  unfold dataASess stored
  simp only [ackSess_other x _ _ (Or.inl hout), hup, if_true]

/-! ### one iteration with a fresh data query -/

/-- the entry state of an iteration: `qsNew` cleared, clock advanced -/
def entryS (s : Srv) (u now' : Nat) : Srv := { putUser s u (topSess (getUser s u) s.now) with now := now' }

theorem getUser_entryS {u : Nat} {s : Srv} (hs : Solo u s) (now' : Nat) :
    getUser (entryS s u now') u = topSess (getUser s u) s.now := by
  unfold entryS
  rw [getUser_withNow, getUser_putUser_self _ _ _ hs.lt]

theorem entryS_solo {u : Nat} {s : Srv} (hs : Solo u s) (now' : Nat) : Solo u (entryS s u now') :=
  (hs.putUser _).withNow now'

/-- An iteration that receives a fresh (no filter hits) data query of session `u`: the slot is rewritten by the data handler and
then by the sweep.  The side condition on self-addressed packets is needed only where a packet is handed on. -/
theorem iteration_data {u : Nat} {s : Srv} (hs : Solo u s) (Q : Query) (now' dlen : Nat) (hu : u < 16)
    (hdl : Common.queryDatalen Q.name s.cfg.topdomain = some dlen) (h6 : 6 ≤ dlen)
    (hc : Q.name.getD 0 0 = hexLower u) (hty : TunnelType Q.type) (hid : Q.id ≠ 0)
    (hadm : Admitted (entryS s u now') u Q)
    (hcache : CacheMiss (topSess (getUser s u) s.now) Q) (hqmem : QmemMiss (topSess (getUser s u) s.now) Q)
    (hdup1 : (topSess (getUser s u) s.now).q.id = 0 ∨ (topSess (getUser s u) s.now).q.name ≠ Q.name)
    (hdup2 : (topSess (getUser s u) s.now).qs.id = 0 ∨ (topSess (getUser s u) s.now).qs.name ≠ Q.name)
    (hns : (dataASess (topSess (getUser s u) s.now) (parseUpHdr (Q.name.take (min dlen 512))).upSeq
        (parseUpHdr (Q.name.take (min dlen 512))).upFrag (parseUpHdr (Q.name.take (min dlen 512))).dnSeq
        (parseUpHdr (Q.name.take (min dlen 512))).dnFrag ((Q.name.take (min dlen 512)).drop 5)).2 = true →
      (parseUpHdr (Q.name.take (min dlen 512))).last = true →
      ¬ selfAddressed (dataASess (topSess (getUser s u) s.now) (parseUpHdr (Q.name.take (min dlen 512))).upSeq
        (parseUpHdr (Q.name.take (min dlen 512))).upFrag (parseUpHdr (Q.name.take (min dlen 512))).dnSeq
        (parseUpHdr (Q.name.take (min dlen 512))).dnFrag ((Q.name.take (min dlen 512)).drop 5)).1 now') :
    iteration s (.q Q) now' =
      (let r := dataSess (topSess (getUser s u) s.now) u Q (parseUpHdr (Q.name.take (min dlen 512)))
                  ((Q.name.take (min dlen 512)).drop 5) now'
       ({ putUser s u (sweepSess r.1 u now').1 with now := now' }, r.2 ++ [Event.sweep] ++ (sweepSess r.1 u now').2,
        ((topOfLoop s).2.1, (topOfLoop s).2.2))) := by
  have hs1 := entryS_solo hs now'
  have hg := getUser_entryS hs now'
  apply iteration_solo hs (.q Q) now' _ _ (by intro f hf; cases hf)
  show tunnelDns (entryS s u now') Q = _
  rw [tunnelDns_data (entryS s u now') Q u dlen hu hdl h6 hc hty hid (checkAuth_admitted hadm)
    (answerFromDnscache_none _ _ _ (by rw [hg]; exact hcache)) (answerFromQmemData_none _ _ _ (by rw [hg]; exact hqmem))
    (rememberDuplicate_none _ _ _ (by rw [hg]; exact hdup1) (by rw [hg]; exact hdup2))]
  rw [dataFresh_solo hs1 _ _ (by rw [hg]; exact hns), hg]
  unfold entryS
  simp only [putUser_withNow, putUser_putUser]

end Iodine.C02L
