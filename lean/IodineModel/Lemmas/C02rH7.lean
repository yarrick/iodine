import IodineModel.Lemmas.C02rO2
import IodineModel.Lemmas.C02qO1
import IodineModel.Lemmas.C02qO2
import IodineModel.Lemmas.C02qO6
import IodineModel.Lemmas.C02rO4
import IodineModel.Lemmas.C02qO3
/-
Endings of the overlap in lazy mode, (E1): the LAST downstream fragment is in flight, the upstream fragment in flight is
not the last one.  Three scheduler steps (`deliverUp, deliverDown, deliverDown`) finish the downstream packet at the client and hand
over to the upstream remainder (C02rO2).  "Dropped": the packet fitted ONE fragment, the server has dropped it already
(`outpacket.len = 0`) and answers the data query with a DATALESS acknowledgement (→ `UpFlightNQ`).  "Pending": the packet has at
least two fragments, the server still has it unacknowledged and answers with the SAME fragment again, which the client refuses as
a duplicate (`send_ping_soon = 500`) while taking its upstream ack (→ `UpFlightNQP`).
-/
namespace Iodine.C02L
open Iodine Iodine.Gen Iodine.World

/-- **(E1, dropped)** the one fragment of the downstream packet is in flight, the upstream fragment in flight is not the last one -/
theorem e1_step_dropped {P : Par} (hP : P.Ok) {outU fd : List Nat} {w : W} {c0 : Client.Cli} {ou fu : Nat} {sq : Int} {D : Nat}
    (h : BothFlightL P outU (0x5a :: fd) w c0 ou fu sq 0 D 0) (hD1 : D = (0x5a :: fd).length)
    (h64u : outU.length ≤ 65536) (h64d : (0x5a :: fd).length ≤ 65536) (h4 : 4 ≤ fd.length)
    (hltU : ou + fragLen P (outU.drop ou) < outU.length) (hfu : fu + 1 < 16) :
    ∃ w' c0', promptSteps P.u 3 w = some w' ∧
      UpFlightNQ P outU w' c0' (ou + fragLen P (outU.drop ou)) (fu + 1) ∧
      w'.tunS = w.tunS ∧ w'.tunC = w.tunC ++ [tunImage fd] ∧ c0'.outpkt.seqno = c0.outpkt.seqno ∧
      (Server.getUser w'.srv P.u).tunIp = (Server.getUser w.srv P.u).tunIp ∧
      (Server.getUser w'.srv P.u).fragsize = (Server.getUser w.srv P.u).fragsize := by
  obtain ⟨cs, srv, up, down, tC, tS⟩ := w
  obtain ⟨dname, pkt, hdn, hndn, hfp, hst⟩ := h.down
  obtain rfl : down = [.ans c0.chunkid P.ty dname pkt] := hdn
  obtain ⟨name, rfl, rfl, hsend, hm1, hm2, hQ⟩ := h.sent.query hP
  generalize hm : fragLen P (outU.drop ou) = m at *
  rw [show (m == outU.length - ou) = false by rw [beq_eq_false_iff_ne]; omega] at hQ
  have hsf := sentFactsL c0
  have hsi := sentIdsL c0
  have hcst := cstat_sentL h.ready
  have hsqn : c0.outpkt.seqno.toNat < 8 := by have := h.ready.stat.oseq; omega
  have hsqr := h.hsq
  have hDpos := h.hD
  have hop : (Server.getUser srv P.u).outpacket = ⟨0, 0, 0, 0x5a :: fd, sq, 0⟩ := by
    rcases h.op with h2 | h1
    · have := h2.2; omega
    · exact h1.1
  have hfl : FragPkt pkt (0x5a :: fd) sq 0 D 0 true := by
    rw [show decide ((0x5a :: fd).length > 0 ∧ (0x5a :: fd).length = 0 + D) = true by rw [decide_eq_true_iff]; omega] at hfp
    exact hfp
  -- step 1: the server receives the data fragment and answers it at once with a dataless packet
  obtain ⟨s1, evs1, t1, pkt1, hit1, hdown1, htun1, hps1, hout1, hE1, htip1, hfrs1, hnow1, hlen1, hdn1, hus1, huf1, hA1, hPA1⟩ :=
    srv_recv_mid_noq_ack hP h.srv.noq h.ready.stat.cmc h.aged h.paged hQ
      (ackSess_top_idle h.srv.stat _ _ (by rw [hop])) (by rw [hop]) h.srv.stat.x.oseq h.srv.stat.x.ofrag
      h.expect hsqn h.ready.hf hm2 h64u
  have hdn1' : (Client.decodeHdr pkt1).dnSeq = sq := by rw [hdn1, hop]
  simp only [upQuery] at hdown1
  -- step 2: the client receives the downstream packet
  obtain ⟨c2, hcli2, hc2st, hc2cnt, hc2bf, hc2out, hc2in, -, -, -⟩ :=
    cliDoes_last_prev h.ready (dname := dname) hndn hfl h.hD h.dup h.exp h.hsq (by omega) (by omega) h64d h4 hst
  generalize hc : ({ sentStateL c0 with sendPingSoon := 0 } : Client.Cli) = c at hsf hcst hsi hcli2 hc2bf hc2out ⊢
  -- step 3: the client receives the dataless answer to its most recent query: the next upstream fragment goes out
  have hcid : c2.chunkid = (sentState c0).chunkid := hc2bf.cid.trans hsi.cid
  generalize (sentState c0).chunkid = id1 at hcid hdown1 hit1 hQ ⊢
  have hdl := tunnelDns_dataless_cur c2 ⟨(pkt1.length : Int), id1, answerType P.ty, 0, name.headD 0, pkt1⟩
    (by rw [headD_eq_getD]; exact notData_held hc2st.uch _ (Or.inl hQ.c0))
    hlen1 hcid.symm hc2st.lz (by rw [hdn1', hc2in])
  have hcnt0' : CntOk (ackNext (hintBook c2)) 0 := cntOk_book (d := 0) hc2cnt 900
  have hnext := acked_next h.ready hsf (cstatL_hintBook hc2st) (hcnt0'.mono (by omega)) ((hintBook_outpkt c2).trans hc2out)
    hus1 huf1 (hm ▸ hltU) hfu [] (c2.sendPingSoon != 0) 2
  rw [hm] at hnext
  obtain ⟨hmore, hready'⟩ := hnext
  have hbf : BookFacts c2 (ackNext (hintBook c2)) := (BookFacts.refl c2).hintBook.ackNext
  have hcli3 := cliDoes_next hP hc2st (id := id1) (ty := P.ty) (name := name) (hdl.trans hmore) hready'
  have hc0sq : (ackNext (hintBook c2)).outpkt.seqno = c0.outpkt.seqno := hbf.oseq.trans (hc2bf.oseq.trans hsf.oseq)
  refine ⟨⟨⟨{ sentStateL (ackNext (hintBook c2)) with sendPingSoon := 0 }, .tunnel⟩, s1,
      upOfEvents (Client.sendChunk (ackNext (hintBook c2))).evs, [], tC ++ [tunImage fd], tS⟩, ackNext (hintBook c2), ?_,
    ⟨⟨rfl, hready', rfl, rfl⟩, hcnt0', rfl, hps1, by rw [hout1, hop],
      by rw [hc0sq]; exact hE1, by rw [hout1, hop, ackNext_inpkt, hintBook_inpkt, hc2in],
      by rw [hbf.cmc, hc2bf.cmc, hsf.cmc36 h.ready.stat.cmc]; exact hA1, by rw [hbf.seed, hc2bf.seed, hsf.seed]; exact hPA1⟩,
    rfl, rfl, hc0sq, htip1, hfrs1⟩
  rw [ps_up (SrvDoes.mk hit1 hdown1 htun1), List.singleton_append, ps_down0 hcli2 hc2bf.now,
    ps_down0 hcli3 ((sentFactsL _).now.trans hbf.now)]
  simp only [promptSteps, List.append_nil]

#print axioms e1_step_dropped

/-- **(E1, pending)** the last of at least two downstream fragments is in flight, the upstream fragment in flight is not the last
one -/
theorem e1_step_pending {P : Par} (hP : P.Ok) {outU fdf : List Nat} {w : W} {c0 : Client.Cli} {ou fu : Nat} {sq : Int} {od D fd : Nat}
    (h : BothFlightL P outU (0x5a :: fdf) w c0 ou fu sq od D fd)
    (heqD : od + D = (0x5a :: fdf).length) (hnd : D < (0x5a :: fdf).length) (hfd : fd < 16)
    (h64u : outU.length ≤ 65536) (h64d : (0x5a :: fdf).length ≤ 65536) (h4 : 4 ≤ fdf.length)
    (hltU : ou + fragLen P (outU.drop ou) < outU.length) (hfu : fu + 1 < 16) :
    ∃ w' c0', promptSteps P.u 3 w = some w' ∧
      UpFlightNQP P outU (0x5a :: fdf) w' c0' (ou + fragLen P (outU.drop ou)) (fu + 1) sq od D fd ∧
      w'.tunS = w.tunS ∧ w'.tunC = w.tunC ++ [tunImage fdf] ∧ c0'.outpkt.seqno = c0.outpkt.seqno ∧
      (Server.getUser w'.srv P.u).tunIp = (Server.getUser w.srv P.u).tunIp ∧
      (Server.getUser w'.srv P.u).fragsize = (Server.getUser w.srv P.u).fragsize := by
  have hsf := sentFactsL c0
  have hsi := sentIdsL c0
  have hcst := cstat_sentL h.ready
  have hDpos := h.hD
  have hfd0 : fd ≠ 0 := by
    rcases h.exp with ⟨_, ho, _⟩ | ⟨hf, _⟩
    · omega
    · exact hf
  -- step 1: the server receives the data fragment and answers it at once with a duplicate of the last downstream fragment
  obtain ⟨s1, dname, pkt, name, pkt1, hs1, hT⟩ := h.step_up hP (Or.inr (Or.inr (by omega))) hfd h64u (last := false)
    (by rw [beq_eq_false_iff_ne]; omega) [] (fun e => nomatch e)
  replace hs1 : promptSteps P.u 1 w = some ⟨⟨{ sentStateL c0 with sendPingSoon := 0 }, .tunnel⟩, s1, [],
    [.ans c0.chunkid P.ty dname pkt, .ans (sentState c0).chunkid P.ty name pkt1], w.tunC, w.tunS⟩ := hs1
  have hE1 := hT.expect hltU
  have hdec : decide ((0x5a :: fdf).length > 0 ∧ (0x5a :: fdf).length = od + D) = true := by
    rw [decide_eq_true_iff]; omega
  have hfl : FragPkt pkt (0x5a :: fdf) sq od D fd true := hdec ▸ hT.fp
  have hfl1 : FragPkt pkt1 (0x5a :: fdf) sq od D fd true := hdec ▸ hT.fp1
  -- step 2: the client receives the first copy of the last downstream fragment
  obtain ⟨c2, hcli2, hc2st, hc2cnt, hc2bf, hc2out, hc2in, hc2inf, -, -⟩ :=
    cliDoes_last_prev h.ready (dname := dname) hT.nd hfl h.hD h.dup h.exp h.hsq hfd heqD h64d h4 hT.stale
  generalize hc : ({ sentStateL c0 with sendPingSoon := 0 } : Client.Cli) = c at hsf hcst hsi hcli2 hc2bf hc2out hs1 ⊢
  -- step 3: the client receives the duplicate as the answer to its most recent query: refused, its up-ack taken, next chunk
  have hcid : c2.chunkid = (sentState c0).chunkid := hc2bf.cid.trans hsi.cid
  generalize (sentState c0).chunkid = id1 at hcid hs1 ⊢
  have hcnt500 : CntOk { hintBook c2 with sendPingSoon := 500 } 0 := (cntOk_book (d := 0) hc2cnt 900).congr rfl rfl
  obtain ⟨hnext, hready'⟩ := acked_next (b := { hintBook c2 with sendPingSoon := 500 }) h.ready hsf
    (cstatL_sps (cstatL_hintBook hc2st) 500) (hcnt500.mono (by omega)) ((hintBook_outpkt c2).trans hc2out) hT.us1 hT.uf1 hltU hfu
    [] (c2.sendPingSoon != 0) (pkt1.length : Int)
  have hmore := (tunnelDns_dup_cur c2 ⟨(pkt1.length : Int), id1, answerType P.ty, 0, name.headD 0, pkt1⟩ pkt1
    (by rw [headD_eq_getD]; exact notData_held hc2st.uch _ (Or.inl hT.name0)) rfl rfl hcid.symm hc2st.lz
    (by rw [hfl1.len]; omega) hfl1.notbad (by rw [hfl1.hdr.1, hc2in]) (by rw [hfl1.hdr.2.1, hc2inf]; omega)
    (by rw [hc2inf]; exact Int.natCast_ne_zero.mpr hfd0)).trans hnext
  have hbf : BookFacts c2 (ackNext { hintBook c2 with sendPingSoon := 500 }) := ((BookFacts.refl c2).hintBook.sps 500).ackNext
  have hin' : (ackNext { hintBook c2 with sendPingSoon := 500 }).inpkt = c2.inpkt :=
    (ackNext_inpkt _).trans (hintBook_inpkt c2)
  generalize hc0' : ackNext { hintBook c2 with sendPingSoon := 500 } = c0' at hmore hbf hready' hin'
  have hcnt0' : CntOk c0' 0 := by rw [← hc0']; exact hcnt500
  have hcli3 := cliDoes_next hP hc2st (id := id1) (ty := P.ty) (name := name) hmore hready'
  have hc0sq : c0'.outpkt.seqno = c0.outpkt.seqno := hbf.oseq.trans (hc2bf.oseq.trans hsf.oseq)
  refine ⟨⟨⟨{ sentStateL c0' with sendPingSoon := 0 }, .tunnel⟩, s1, upOfEvents (Client.sendChunk c0').evs, [],
      w.tunC ++ [tunImage fdf], w.tunS⟩, c0', ?_,
    ⟨rfl, hready', hcnt0', rfl, rfl, rfl, hT.srv.stat, hT.srv.q, hT.srv.qs, hT.srv.lz, hT.srv.oq, hT.kept.outpacket.trans hT.op, h.hD,
      heqD, hfd, h.hsq,
      ⟨by rw [hin', hc2in], by rw [hin', hc2inf]⟩, by rw [hc0sq]; exact hE1,
      by rw [hbf.cmc, hc2bf.cmc, hsf.cmc36 h.ready.stat.cmc]; exact hT.aged,
      by rw [hbf.seed, hc2bf.seed, hsf.seed]; exact hT.paged⟩,
    rfl, rfl, hc0sq, hT.kept.tunIp, hT.kept.fragsize⟩
  rw [show (3 : Nat) = 1 + 2 from rfl, promptSteps_add P.u 1 2 _ _ hs1, ps_down0 hcli2 hc2bf.now,
    ps_down0 hcli3 ((sentFactsL _).now.trans hbf.now)]
  simp only [promptSteps, List.append_nil]

#print axioms e1_step_pending

end Iodine.C02L
