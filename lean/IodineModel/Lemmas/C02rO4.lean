import IodineModel.Lemmas.C02qO4
import IodineModel.Lemmas.C02M8
import IodineModel.Lemmas.C02qO6
/-
Endings of the overlap in lazy mode with the LAST upstream fragment in flight; four scheduler steps each.  (E2),
downstream continues: the steps are those of a round (head of C02qO4), except that the fragment the server stores completes the
upstream packet, which it writes to tun, and that the client finally reads its LAST fragment acknowledged (`send_ping_soon = 20`,
nothing is sent); the downstream invariant `DownFlightL` (C02M1) takes over.  (E3), the last downstream fragment (of at least two)
is in flight as well: the duplicate the server answers with reaches the client as the answer to its MOST RECENT query
(`tunnelDns_dup_cur`: the lazy-mode hint fires), so a ping is due and goes out at once; it acknowledges the last downstream
fragment, and the server holds it (`hold_step`, C02M6): quiescent.
-/
namespace Iodine.C02L
open Iodine Iodine.Gen Iodine.World

/-- **(E2)** the last upstream fragment in flight, the downstream fragment in flight not the last one: four scheduler steps
later the upstream packet is on the server's tun device and the downstream transfer continues ALONE (`DownFlightL`, the
client's `send_ping_soon` is 20) -/
theorem e2_step {P : Par} (hP : P.Ok) {outU frame outD : List Nat} {w : W} {c0 : Client.Cli} {ou fu : Nat} {sq : Int} {od D fd : Nat}
    (h : BothFlightL P outU outD w c0 ou fu sq od D fd) (houtU : outU = 0x5a :: frame)
    (h64u : outU.length ≤ 65536) (h64d : outD.length ≤ 65536)
    (heqU : ou + fragLen P (outU.drop ou) = outU.length) (h24 : 24 ≤ frame.length)
    (hdst : Server.ipDst frame ≠ (Server.getUser w.srv P.u).tunIp)
    (hltD : od + D < outD.length) (hfd : fd + 1 < 16) :
    ∃ w', promptSteps P.u 4 w = some w' ∧
      DownFlightL P outD w' sq (od + D) (downLen (Server.getUser w.srv P.u).fragsize (outD.length - (od + D))) (fd + 1) ∧
      w'.cs.c.sendPingSoon = 20 ∧
      w'.tunS = w.tunS ++ [[0, 0, 8, 0] ++ frame.drop 4] ∧ w'.tunC = w.tunC ∧
      (Server.getUser w'.srv P.u).tunIp = (Server.getUser w.srv P.u).tunIp ∧
      (Server.getUser w'.srv P.u).fragsize = (Server.getUser w.srv P.u).fragsize := by
  have hsf := sentFactsL c0
  have hsqr := h.hsq
  have hDpos0 := h.hD
  -- step 1: the server receives the data fragment and answers it at once with a duplicate of `fd`
  obtain ⟨s1, dname, pkt, name, pkt1, hs1, hT⟩ := h.step_up hP (Or.inr (Or.inr (by omega))) (by omega) h64u (last := true)
    (by rw [beq_iff_eq]; omega) frame (fun _ => ⟨houtU, h24, hdst⟩)
  replace hs1 : promptSteps P.u 1 w = some ⟨⟨{ sentStateL c0 with sendPingSoon := 0 }, .tunnel⟩, s1, [],
    [.ans c0.chunkid P.ty dname pkt, .ans (sentState c0).chunkid P.ty name pkt1], w.tunC,
    w.tunS ++ [[0, 0, 8, 0] ++ frame.drop 4]⟩ := hs1
  have hdec : decide (outD.length > 0 ∧ outD.length = od + D) = false := by rw [decide_eq_false_iff_not]; omega
  have hfl : FragPkt pkt outD sq od D fd false := hdec ▸ hT.fp
  have hfp1' : FragPkt pkt1 outD sq od D fd false := hdec ▸ hT.fp1
  -- steps 2 and 3: the client appends the first copy of `fd` and pings; the server answers with fragment `fd + 1`
  obtain ⟨w4, c4, D', hsteps, hB, htS4, htC4⟩ := both_mid_steps hP h.ready
    (w2 := ⟨⟨{ sentStateL c0 with sendPingSoon := 0 }, .tunnel⟩, s1, [],
      [.ans c0.chunkid P.ty dname pkt, .ans (sentState c0).chunkid P.ty name pkt1], w.tunC,
      w.tunS ++ [[0, 0, 8, 0] ++ frame.drop 4]⟩)
    rfl rfl rfl rfl hT.name0 hT.nd hfl h.hD h.dup h.exp h.hsq hfd hltD h64d hT.stale hT.srv
    (Nat.le_trans (Nat.le_of_eq hT.res) (Nat.succ_le_succ (Nat.le_trans h.srv.res (by decide : 1 ≤ 4))))
    (hT.kept.outpacket.trans hT.op) (by show 0 < (Server.getUser s1 P.u).fragsize; rw [hT.kept.fragsize]; exact h.frag)
    hT.aged hT.paged
  -- step 4: the client receives the duplicate of `fd`, whose header acknowledges the last upstream fragment
  obtain ⟨cs4, srv4, up4, down4, tC4, tS4⟩ := w4
  obtain ⟨name', pkt2, hw4down, hn0, hfp2, hh1, hh2⟩ := hB.down
  obtain rfl : cs4 = ⟨c4, .tunnel⟩ := hB.cs
  obtain rfl : up4 = [] := hB.up
  obtain rfl : down4 = [.ans (sentState c0).chunkid P.ty name pkt1, .ans c4.chunkid P.ty name' pkt2] := hw4down
  replace htS4 : tS4 = w.tunS ++ [[0, 0, 8, 0] ++ frame.drop 4] := htS4
  replace htC4 : tC4 = w.tunC := htC4
  have hsa := sent_acked h.ready hsf hT.us1 hT.uf1
  have hdupn := (tunnelDns_dup_prev hB.recv (by rw [hfp1'.len]; omega) hfp1'.notbad
    (by rw [hfp1'.hdr.1, hB.inpkt]; rfl) (by rw [hfp1'.hdr.2.1, hB.inpkt]; show (fd : Int) ≤ (fd : Int); omega)
    (by rw [hB.inpkt]; show od + D ≠ 0; omega)).trans
    ((upstream_ack_done_of (b := { ackBook c4 with sendPingSoon := 500 }) ((ackBook_outpkt c4).trans hB.outpkt) _ _ _ _
      hsa.1 hsa.2.1 hsa.2.2.1 (fun hh => by have := hsa.2.2.2.mp hh; omega)).trans (if_neg Bool.false_ne_true))
  have hbf : BookFacts c4 (ackDone { ackBook c4 with sendPingSoon := 500 }) := ((BookFacts.refl c4).ackBook.sps 500).ackDone
  have hcdst : CStatL P (ackDone { ackBook c4 with sendPingSoon := 500 }) :=
    cstatL_ackDone (cstatL_sps (cstat_ackBookL hB.recv.cst) 500)
  have hcdcnt : CntOk (ackDone { ackBook c4 with sendPingSoon := 500 }) 1 :=
    cntOk_book hB.cnt 500
  have hcdsps : (ackDone { ackBook c4 with sendPingSoon := 500 }).sendPingSoon = 20 := by unfold ackDone; rfl
  have hcdidle : Client.isSending (ackDone { ackBook c4 with sendPingSoon := 500 }) = false := by unfold ackDone; rfl
  have hcdin : (ackDone { ackBook c4 with sendPingSoon := 500 }).inpkt =
      inAfter (ackBook { sentStateL c0 with sendPingSoon := 0 }) outD sq od D fd :=
    ((ackDone_inpkt _).trans (ackBook_inpkt c4)).trans hB.inpkt
  have hcli : CliDoes ⟨c4, .tunnel⟩ (cliInput (.ans (sentState c0).chunkid P.ty name pkt1))
      ⟨ackDone { ackBook c4 with sendPingSoon := 500 }, .tunnel⟩ [] [] :=
    cliDoes_quiet hB.recv.cst hdupn hcdst.running
  generalize ackDone { ackBook c4 with sendPingSoon := 500 } = cd at hbf hcdst hcdcnt hcdsps hcdidle hcdin hcli
  have hcdsq : cd.outpkt.seqno = c0.outpkt.seqno := by rw [hbf.oseq, hB.outpkt]; exact hsf.oseq
  have hfrs4 : (Server.getUser srv4 P.u).fragsize = (Server.getUser w.srv P.u).fragsize := hB.fragsize.trans hT.kept.fragsize
  have hle' := hB.hle
  refine ⟨⟨⟨cd, .tunnel⟩, srv4, [], [.ans c4.chunkid P.ty name' pkt2], tC4, tS4⟩, ?_, ?_, hcdsps, htS4, htC4,
    hB.tunIp.trans hT.kept.tunIp, hfrs4⟩
  · rw [show (4 : Nat) = 1 + 3 from rfl, promptSteps_add P.u 1 3 _ _ hs1, show (3 : Nat) = 2 + 1 from rfl,
      promptSteps_add P.u 2 1 _ _ hsteps, ps_down0 hcli hbf.now]
    simp only [promptSteps, List.append_nil]
  · rw [← hT.kept.fragsize, ← hB.hDdef]
    refine ⟨rfl, hcdst, hcdcnt, hcdidle, rfl, ⟨name', pkt2, by rw [hbf.cid], ?_, hfp2⟩, ?_, ?_, hsqr, hB.hD, hB.hle, hB.srv, ?_,
      Or.inl hB.op, ?_, ?_, ?_⟩
    · show Client.notData cd (name'.headD 0) = false
      rw [headD_eq_getD, hn0]; simp [Client.notData]
    · show CExpect cd outD sq (od + D) (fd + 1)
      right
      rw [hcdin]
      refine ⟨by omega, rfl, by show ((fd : Nat) : Int) = ((fd + 1 : Nat) : Int) - 1; omega, rfl, ?_⟩
      show (outD.take (od + D)).take (od + D) = _
      rw [List.take_take, Nat.min_self]
    · left
      show sq = cd.inpkt.seqno
      rw [hcdin]; rfl
    · show 0 < (Server.getUser srv4 P.u).fragsize
      rw [hfrs4]; exact h.frag
    · show (Server.getUser srv4 P.u).inpacket.seqno = cd.outpkt.seqno
      rw [hB.inp, hcdsq]; exact hT.iseq
    · show Aged P (Server.getUser srv4 P.u) cd.datacmc 1
      rw [hbf.cmc, hB.cmc]; exact hB.aged
    · show PAged P (Server.getUser srv4 P.u) cd.randSeed 1
      rw [hbf.seed, hB.seed]; exact hB.paged

#print axioms e2_step

/-- a DUPLICATE of the last fragment of the downstream packet just delivered, as the answer to the MOST RECENT query: refused
(`send_ping_soon = 500`), then the upstream code looks at the acknowledgement in its header -/
theorem tunnelDns_dup_cur (c : Client.Cli) (rq : Client.Rq) (pkt : List Nat)
    (hn : Client.notData c rq.name0 = false) (hrv' : rq.rv = (pkt.length : Int)) (hbuf : rq.buf = pkt)
    (hid : rq.id = c.chunkid) (hlz : c.lazymode = true)
    (hrv : 2 < pkt.length) (hbad : pkt.take 5 ≠ Client.ascii "BADIP")
    (hdn : (Client.decodeHdr pkt).dnSeq = c.inpkt.seqno) (hdf : (Client.decodeHdr pkt).dnFrag ≤ c.inpkt.fragment)
    (hf0 : c.inpkt.fragment ≠ 0) :
    Client.tunnelDns c rq =
      Client.upstream { hintBook c with sendPingSoon := 500 } (Client.decodeHdr pkt) [] (c.sendPingSoon != 0) (pkt.length : Int) := by
  subst hbuf
  rw [← hrv']
  exact tunnelDns_payload c rq hn (by omega) (fun hh => hbad hh.2) hid (Or.inl hdn)
    (by rw [recvBook_lazy hlz]; exact downstream_dup (hintBook c) _ _ _ _ (by omega) hdn hdf (Or.inr hf0))

/-- **(E3)** the last upstream fragment AND the last downstream fragment (of a packet of at least two fragments) are in
flight: after `deliverUp deliverDown deliverDown deliverUp` both packets are on the tun devices, the joint state is quiescent -/
theorem e3_step {P : Par} (hP : P.Ok) {outU frame outD fdf : List Nat} {w : W} {c0 : Client.Cli} {ou fu : Nat} {sq : Int} {od D fd : Nat}
    (h : BothFlightL P outU outD w c0 ou fu sq od D fd) (houtU : outU = 0x5a :: frame) (houtD : outD = 0x5a :: fdf)
    (h64u : outU.length ≤ 65536) (h64d : outD.length ≤ 65536)
    (heqU : ou + fragLen P (outU.drop ou) = outU.length) (h24 : 24 ≤ frame.length)
    (hdst : Server.ipDst frame ≠ (Server.getUser w.srv P.u).tunIp)
    (heqD : od + D = outD.length) (hnd : D < outD.length) (h4 : 4 ≤ fdf.length) (hfd : fd < 16) :
    ∃ w', promptSteps P.u 4 w = some w' ∧ QuietLazy P w' ∧ w'.cs.c.sendPingSoon = 0 ∧
      w'.tunS = w.tunS ++ [[0, 0, 8, 0] ++ frame.drop 4] ∧ w'.tunC = w.tunC ++ [tunImage fdf] ∧
      (Server.getUser w'.srv P.u).tunIp = (Server.getUser w.srv P.u).tunIp ∧
      (Server.getUser w'.srv P.u).fragsize = (Server.getUser w.srv P.u).fragsize := by
  have hfd0 : fd ≠ 0 := by
    intro h0
    rcases h.exp with ⟨_, h2, _⟩ | ⟨h1, _⟩
    · omega
    · exact h1 h0
  have hsf := sentFactsL c0
  have hsi := sentIdsL c0
  have hcst := cstat_sentL h.ready
  have hsqr := h.hsq
  have hDpos0 := h.hD
  -- step 1: the server receives the data fragment and answers it at once with a duplicate of `fd`
  obtain ⟨s1, dname, pkt, name, pkt1, hs1, hT⟩ := h.step_up hP (Or.inr (Or.inr (by omega))) hfd h64u (last := true)
    (by rw [beq_iff_eq]; omega) frame (fun _ => ⟨houtU, h24, hdst⟩)
  replace hs1 : promptSteps P.u 1 w = some ⟨⟨{ sentStateL c0 with sendPingSoon := 0 }, .tunnel⟩, s1, [],
    [.ans c0.chunkid P.ty dname pkt, .ans (sentState c0).chunkid P.ty name pkt1], w.tunC,
    w.tunS ++ [[0, 0, 8, 0] ++ frame.drop 4]⟩ := hs1
  have hdec : decide (outD.length > 0 ∧ outD.length = od + D) = true := by rw [decide_eq_true_iff]; omega
  have hfl : FragPkt pkt outD sq od D fd true := hdec ▸ hT.fp
  have hfp1' : FragPkt pkt1 outD sq od D fd true := hdec ▸ hT.fp1
  -- step 2: the client receives the first copy of `fd`
  subst houtD
  obtain ⟨c2, hcli2, hc2st, hc2cnt, hc2bf, hc2out, hc2in, hc2inf, hc2sps, -⟩ :=
    cliDoes_last_prev h.ready (dname := dname) hT.nd hfl h.hD h.dup h.exp h.hsq hfd heqD h64d h4 hT.stale
  generalize hc : ({ sentStateL c0 with sendPingSoon := 0 } : Client.Cli) = c at hsf hcst hsi hcli2 hc2bf hc2out hs1 ⊢
  -- step 3: the duplicate, an answer to the client's most recent query, acknowledges the last upstream fragment
  have hcid : c2.chunkid = (sentState c0).chunkid := hc2bf.cid.trans hsi.cid
  generalize (sentState c0).chunkid = id1 at hcid hs1 ⊢
  have hsa := sent_acked h.ready hsf hT.us1 hT.uf1
  have hdupd := (tunnelDns_dup_cur c2 ⟨(pkt1.length : Int), id1, answerType P.ty, 0, name.headD 0, pkt1⟩ pkt1
    (by rw [headD_eq_getD]; exact notData_held hc2st.uch _ (Or.inl hT.name0)) rfl rfl hcid.symm hc2st.lz
    (by rw [hfp1'.len]; omega) hfp1'.notbad (by rw [hfp1'.hdr.1, hc2in]) (by rw [hfp1'.hdr.2.1, hc2inf]; omega)
    (by rw [hc2inf]; exact Int.natCast_ne_zero.mpr hfd0)).trans
    (upstream_ack_done_of (b := { hintBook c2 with sendPingSoon := 500 }) ((hintBook_outpkt c2).trans hc2out) _ _ _ _
      hsa.1 hsa.2.1 hsa.2.2.1 (fun hh => by have := hsa.2.2.2.mp hh; omega))
  rw [show (c2.sendPingSoon != 0) = true by rw [hc2sps]; rfl] at hdupd
  have hbf : BookFacts c2 (ackDone { hintBook c2 with sendPingSoon := 500 }) := ((BookFacts.refl c2).hintBook.sps 500).ackDone
  have hcdst : CStatL P (ackDone { hintBook c2 with sendPingSoon := 500 }) :=
    cstatL_ackDone (cstatL_sps (cstatL_hintBook hc2st) 500)
  have hcdcnt0 : CntOk (ackDone { hintBook c2 with sendPingSoon := 500 }) 0 :=
    (cntOk_book (d := 0) hc2cnt 900).congr rfl rfl
  have hcdidle : Client.isSending (ackDone { hintBook c2 with sendPingSoon := 500 }) = false := by unfold ackDone; rfl
  have hcdin : (ackDone { hintBook c2 with sendPingSoon := 500 }).inpkt = c2.inpkt := (ackDone_inpkt _).trans (hintBook_inpkt c2)
  generalize ackDone { hintBook c2 with sendPingSoon := 500 } = cd at hdupd hbf hcdst hcdcnt0 hcdidle hcdin
  obtain ⟨name', hcli3, hpq⟩ := cliDoes_ping hP hc2st (id := id1) (ty := P.ty) (name := name) hdupd hcdst (hcdcnt0.mono (by omega))
  rw [hcdin, hc2in, hc2inf] at hpq
  -- step 4: the ping acknowledges the last downstream fragment; the server drops the packet and holds the ping
  have hfin := ackSess_fin { Server.getUser s1 P.u with qsNew := false } (0x5a :: fdf) sq od D fd hT.srv.oq h.hD heqD (by omega)
    (Or.inl (hT.kept.outpacket.trans hT.op))
  obtain ⟨w5, hs4, hQL0, hsps5, htC5, htS5, hfr5, htip5, _⟩ :=
    hold_step hP (w3 := ⟨⟨pingStateL cd, .tunnel⟩, s1, [.query (pingStateL cd).chunkid P.ty name'], [], w.tunC ++ [tunImage fdf],
        w.tunS ++ [[0, 0, 8, 0] ++ frame.drop 4]⟩) (c2 := cd) (a := sq) (b := (fd : Int)) (name' := name') (dd := 0)
      (x1 := ackSess { Server.getUser s1 P.u with qsNew := false } sq (fd : Int))
      rfl hcdst hcdcnt0 hcdidle rfl rfl hpq hT.srv
      (by show (Server.getUser s1 P.u).inpacket.seqno = _; rw [hT.iseq, hbf.oseq, hc2bf.oseq, hsf.oseq])
      (by rw [hbf.cmc, hc2bf.cmc, hsf.cmc36 h.ready.stat.cmc]; exact hT.aged)
      (by rw [hbf.seed, hc2bf.seed, hsf.seed]; exact hT.paged)
      rfl (by rw [hfin]) (by rw [hfin]; exact hsqr)
      (by rw [hfin]; show (0 : Int) ≤ (fd : Int) ∧ (fd : Int) < 16; omega)
      (by rw [hfin, hcdin, hc2in]; show sq = (sq + ((0 : Nat) : Int)) % 8; omega)
  refine ⟨w5, ?_, quietLazyD_zero.1 hQL0, hsps5, by rw [htS5], by rw [htC5], by rw [htip5]; exact hT.kept.tunIp,
    by rw [hfr5]; exact hT.kept.fragsize⟩
  rw [show (4 : Nat) = 1 + 3 from rfl, promptSteps_add P.u 1 3 _ _ hs1, ps_down0 hcli2 hc2bf.now,
    ps_down0 hcli3 ((pingFactsL cd).now.trans hbf.now), List.append_nil, hs4]
  rfl

#print axioms tunnelDns_dup_cur
#print axioms e3_step

end Iodine.C02L
