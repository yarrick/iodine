import IodineModel.Lemmas.C02v2
import IodineModel.Lemmas.C02g
/-
Client side of a DOWNSTREAM transfer: the poll in immediate mode (a timeout sends a ping, `cstep_tick_ping`) and, in either
mode, `tunnel_dns` on an answer with payload to the most recent query: the bookkeeping as one update (`recvBook`), then the
downstream fragment code and the upstream code (`tunnelDns_payload`; `tunnelDns_payload_idle`: nothing is being sent).
-/
namespace Iodine.C02L
open Iodine Iodine.Client

/-! ### the poll -/

/-- the state `send_ping` + the end of the handler leave behind -/
def pingState (c : Cli) : Cli :=
  { rotateChunkid { c with randSeed := (c.randSeed + 1) % 65536 } with sendPingSoon := 0 }

/-- what `pingState` keeps and what it changes -/
structure PingFacts (c c' : Cli) : Prop where
  running : c'.running = c.running
  conn : c'.conn = c.conn
  lazymode : c'.lazymode = c.lazymode
  userid : c'.userid = c.userid
  useridChar : c'.useridChar = c.useridChar
  topdomain : c'.topdomain = c.topdomain
  hostnameMaxlen : c'.hostnameMaxlen = c.hostnameMaxlen
  dataenc : c'.dataenc = c.dataenc
  doQtype : c'.doQtype = c.doQtype
  ldt : c'.lastdownstreamtime = c.lastdownstreamtime
  now : c'.now = c.now
  inpkt : c'.inpkt = c.inpkt
  outpkt : c'.outpkt = c.outpkt
  datacmc : c'.datacmc = c.datacmc
  cid : c'.chunkid < 65536
  seed : c'.randSeed = (c.randSeed + 1) % 65536
  sps : c'.sendPingSoon = 0
  selto : c'.selecttimeout = c.selecttimeout

theorem pingFacts (c : Cli) : PingFacts c (pingState c) := by
  constructor
  case cid =>
    have := rotateChunkid_lt { c with randSeed := (c.randSeed + 1) % 65536 }
    simpa [pingState] using this
  all_goals simp [pingState, rotateChunkid]

attribute [irreducible] pingState

/-- with nothing in flight a timeout of `client_tunnel`'s `select` sends a ping (immediate mode) -/
theorem cstep_tick_ping {P : Par} (hP : P.Ok) (c : Cli) (hc : CStat P c) (hs : isSending c = false)
    (hexp : ¬ c.lastdownstreamtime + 60 < c.now + ((selectOf c).to / 1000000).toNat) :
    ∃ name, cstep ⟨c, .tunnel⟩ .tick =
        (⟨pingState (advanceClock c (selectOf c)), .tunnel⟩,
         [.query (pingState (advanceClock c (selectOf c))).chunkid P.ty name],
         .sel (selectOf (pingState (advanceClock c (selectOf c))))) ∧
      name.getD 0 0 = 112 ∧
      ∃ dlen, Common.queryDatalen name P.td = some dlen ∧ 2 ≤ dlen ∧
        (∀ ty id from_ from2 dest, pingUnpacked ⟨name, ty, id, from_, 0, from2, dest⟩ dlen = pingData c) ∧
        Server.charVal ((pingData c).getD 0 0) = c.userid ∧
        Server.charVal ((pingData c).getD 1 0) / 16 = c.inpkt.seqno ∧
        Server.charVal ((pingData c).getD 1 0) % 16 = c.inpkt.fragment ∧
        ∃ cp, name.idxOf? 46 = some cp ∧ (Codec.dec Codec.b32 8 (cp - 1) (name.drop 1)).take 4 = pingData c ∧
          4 ≤ (Codec.dec Codec.b32 8 (cp - 1) (name.drop 1)).length := by
  generalize hc' : advanceClock c (selectOf c) = c'
  have hfr : c' = { c with now := c'.now } := by rw [← hc']; rfl
  have hpd : pingData c' = pingData c := by rw [hfr]; rfl
  have hqt : c'.doQtype < 65536 := by rw [hfr]; show c.doQtype < 65536; rw [hc.ty]; exact tunnelType_lt hP.tty
  obtain ⟨name, hsend, hpn⟩ :=
    sendPing_name c' P.ec.codec P.L P.td (by rw [hfr]; exact hc.imm) (by rw [hfr]; exact hc.L) (by rw [hfr]; exact hc.td) hP.set hqt
      (by rw [hfr]; exact hc.conn)
  obtain ⟨hu0, hu1, hu2⟩ := pingData_charVal c (by rw [hc.uid]; have := hP.hu; omega) hc.seed hc.iseq hc.ifrag
  have h0 := hpn.c0
  obtain ⟨dlen, hq, h2, hun⟩ := hpn.read
  have hfp := hpn.fp
  refine ⟨name, ?_, h0, dlen, hq, h2, ?_, ?_, ?_, ?_, ?_⟩
  · show tunnelStep c .tick = _
    rw [tunnelStep_tick c hc.running (by rw [advanceClock_now]; exact hexp), hc', timeoutBranch_idle c' (by rw [hfr]; exact hs)]
    have hrun : (rotateChunkid { c' with randSeed := (c'.randSeed + 1) % 65536 }).running = true := by
      have : (rotateChunkid { c' with randSeed := (c'.randSeed + 1) % 65536 }).running = c'.running := by simp [rotateChunkid]
      rw [this, hfr]; exact hc.running
    rw [settle_afterSend _ _ _ (by rw [hsend]) (by rw [hsend]; exact hrun), hsend]
    have hty : c'.doQtype = P.ty := by rw [hfr]; exact hc.ty
    have e : ({ rotateChunkid { c' with randSeed := (c'.randSeed + 1) % 65536 } with sendPingSoon := 0 } : Cli) = pingState c' := by
      unfold pingState; rfl
    simp only [List.nil_append]
    rw [e]
    have e2 : (rotateChunkid { c' with randSeed := (c'.randSeed + 1) % 65536 }).chunkid = (pingState c').chunkid := by
      rw [← e]
    rw [e2, hty]
  · intro ty id f f2 d; rw [hun, hpd]
  · exact hu0
  · exact hu1
  · exact hu2
  · rw [← hpd]; exact hfp

/-! ### an answer that carries data -/

theorem acceptFragment_outpkt (c c' : Cli) (h : Hdr) (he : acceptFragment c h = some c') : c'.outpkt = c.outpkt := by
  unfold acceptFragment at he
  split at he
  · cases he; rfl
  · split at he
    · cases he; rfl
    · split at he
      · cases he
      · split at he
        · cases he
        · cases he; rfl

theorem downstream_outpkt (c : Cli) (h : Hdr) (buf : List Nat) (read : Int) (sn : Bool) :
    (downstream c h buf read sn).1.outpkt = c.outpkt := by
  unfold downstream
  split
  · cases he : acceptFragment c h with
    | none => rfl
    | some c' =>
      simp only
      have h1 := acceptFragment_outpkt c c' h he
      have h2 : (appendFragment c' h buf read).outpkt = c'.outpkt := rfl
      by_cases hl : h.last = true
      · simp only [hl, if_true]
        have h3 : (deliver (appendFragment c' h buf read)).1.outpkt = (appendFragment c' h buf read).outpkt := rfl
        split
        · show (deliver (appendFragment c' h buf read)).1.outpkt = _; rw [h3, h2, h1]
        · show (deliver (appendFragment c' h buf read)).1.outpkt = _; rw [h3, h2, h1]
      · simp only [hl, Bool.false_eq_true, if_false]
        split
        · show (appendFragment c' h buf read).outpkt = _; rw [h2, h1]
        · show (appendFragment c' h buf read).outpkt = _; rw [h2, h1]
  · rfl

theorem dupeSeqno_dupe (c : Cli) (h : Hdr) (rd : Int) (h2 : 2 < rd) (hne : h.dnSeq ≠ c.inpkt.seqno)
    (hrec : Client.recentSeqno c.inpkt.seqno h.dnSeq = true) : dupeSeqno c h rd = ({ c with sendPingSoon := 500 }, 2) := by
  unfold dupeSeqno
  rw [if_pos ⟨h2, hne, hrec⟩]

theorem upstream_idle (c : Cli) (h : Hdr) (evs : List CEvent) (sn : Bool) (rd : Int) (hs : isSending c = false) :
    upstream c h evs sn rd = finalPing c evs sn rd := by
  unfold upstream
  rw [if_neg (by rw [hs]; simp)]

theorem hintBook_flat (c : Cli) :
    hintBook c = { c with packrecv := (countRecv c).packrecv, recvcnt := c.recvcnt + 1, lastdownstreamtime := c.now,
                          sendPingSoon := 900 } := by
  cases c; rfl

/-- the bookkeeping of `tunnel_dns` on an accepted answer to the MOST RECENT query: counted, the session is alive, and in lazy
mode the hint "we shouldn't get much replies to our most-recent query" arms the 900 ms timer.  (Stated as ONE update of `c`.) -/
def recvBook (c : Cli) : Cli :=
  { c with packrecv := (countRecv c).packrecv, recvcnt := c.recvcnt + 1, lastdownstreamtime := c.now,
           sendPingSoon := if c.lazymode then 900 else 0 }

theorem recvBook_lazy {c : Cli} (h : c.lazymode = true) : recvBook c = hintBook c := by
  rw [hintBook_flat]
  unfold recvBook
  rw [if_pos h]

theorem recvBook_imm {c : Cli} (h : c.lazymode = false) : recvBook c = ackBook { c with sendPingSoon := 0 } := by
  unfold recvBook
  rw [if_neg (by rw [h]; decide)]
  rfl

theorem recvBook_imm0 {c : Cli} (h : c.lazymode = false) (hs : c.sendPingSoon = 0) : recvBook c = ackBook c := by
  rw [recvBook_imm h, sps0_of c hs]

theorem recvBook_inpkt (c : Cli) : (recvBook c).inpkt = c.inpkt := rfl

/-- the bookkeeping stages on an answer to the most recent query of which nothing is adopted, either mode -/
theorem book_recent (c : Cli) (id : Nat) (h : Hdr) (rd : Int) (hid : id = c.chunkid)
    (hk : rd ≠ 2 ∨ h.dnSeq = c.inpkt.seqno ∨ Client.recentSeqno c.inpkt.seqno h.dnSeq = true) :
    datalessAdopt (lazyHint (ackBook { c with sendPingSoon := 0 }) id) h rd = recvBook c := by
  by_cases hlz : c.lazymode = true
  · rw [book_cur c id _ _ hid hlz hk, recvBook_lazy hlz]
  · have hlz : c.lazymode = false := by simpa using hlz
    rw [book_other { c with sendPingSoon := 0 } id _ _ (Or.inl hlz) hk, recvBook_imm hlz]

theorem lazyHint_keep (c : Cli) (id : Nat) (h : c.sendPingSoon ≠ 0 ∧ c.sendPingSoon ≤ 900) : lazyHint c id = c := by
  unfold lazyHint
  by_cases hc : id = c.chunkid ∧ c.lazymode = true
  · rw [if_pos hc, if_neg (by omega)]
  · rw [if_neg hc]

/-- `tunnel_dns` on an answer with payload to the MOST RECENT query whose header does not name a recent OLD downstream packet —
either mode, whatever is being sent upstream, whether or not a ping was due (`send_something_now`): bookkeeping, the downstream
fragment code, then the upstream code -/
theorem tunnelDns_payload (c : Cli) (rq : Rq) (hn : notData c rq.name0 = false) (hrv : 2 < rq.rv)
    (hbad : ¬ (rq.rv = 5 ∧ rq.buf.take 5 = ascii "BADIP")) (hid : rq.id = c.chunkid)
    (hdup : (decodeHdr rq.buf).dnSeq = c.inpkt.seqno ∨ Client.recentSeqno c.inpkt.seqno (decodeHdr rq.buf).dnSeq = false)
    {c' : Cli} {evs : List CEvent} {sn : Bool}
    (hds : downstream (recvBook c) (decodeHdr rq.buf) rq.buf rq.rv (c.sendPingSoon != 0) = (c', evs, sn)) :
    tunnelDns c rq = upstream c' (decodeHdr rq.buf) evs sn rq.rv :=
  tunnelDns_via c rq hn (by omega) hbad (by rw [hid]; exact recentId_cur c)
    (dupeSeqno_keep { c with sendPingSoon := 0 } _ _ (Or.inr hdup))
    (book_recent c rq.id (decodeHdr rq.buf) rq.rv hid (Or.inl (by omega))) hds

/-- … while nothing is being sent upstream: the final ping -/
theorem tunnelDns_payload_idle (c : Cli) (rq : Rq) (hn : notData c rq.name0 = false) (hrv : 2 < rq.rv)
    (hbad : ¬ (rq.rv = 5 ∧ rq.buf.take 5 = ascii "BADIP")) (hid : rq.id = c.chunkid) (hs : isSending c = false)
    (hdup : (decodeHdr rq.buf).dnSeq = c.inpkt.seqno ∨ Client.recentSeqno c.inpkt.seqno (decodeHdr rq.buf).dnSeq = false) :
    tunnelDns c rq =
      finalPing (downstream (recvBook c) (decodeHdr rq.buf) rq.buf rq.rv (c.sendPingSoon != 0)).1
        (downstream (recvBook c) (decodeHdr rq.buf) rq.buf rq.rv (c.sendPingSoon != 0)).2.1
        (downstream (recvBook c) (decodeHdr rq.buf) rq.buf rq.rv (c.sendPingSoon != 0)).2.2 rq.rv := by
  generalize hr : downstream (recvBook c) (decodeHdr rq.buf) rq.buf rq.rv (c.sendPingSoon != 0) = r
  have hso : isSending r.1 = false := by
    rw [← hr]
    unfold isSending
    rw [downstream_outpkt]
    exact hs
  rw [tunnelDns_payload c rq hn hrv hbad hid hdup (c' := r.1) (evs := r.2.1) (sn := r.2.2) hr, upstream_idle _ _ _ _ _ hso]

end Iodine.C02L
