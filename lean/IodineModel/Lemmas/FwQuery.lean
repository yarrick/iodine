import IodineModel.FwQuery
/-
Helper lemmas for C20 (DNS forwarding bookkeeping).

Core: the ring invariant `Inv ps s` — after the puts `ps` (oldest first) the state `s` holds in
slot `k % SIZE` the `k`-th put, for the last `min SIZE ps.length` values of `k`, and `(0,0)` in the
slots `ps.length ≤ j < SIZE` that were never written.  Everything about `get` follows from it.
-/
namespace Iodine.FwQuery

theorem SIZE_pos : 0 < SIZE := by decide

/-- unfold the generated constant to its numeral, then linear arithmetic (with `%` by a numeral) -/
local macro "sz_omega" : tactic =>
  `(tactic| ((try simp only [SIZE, Iodine.Gen.FW_QUERY_CACHE_SIZE] at *) <;> omega))


/-- membership in "the last `m` elements" by absolute position -/
theorem mem_drop_length_sub {α} (l : List α) (m : Nat) (x : α) :
    x ∈ l.drop (l.length - m) ↔ ∃ k, k < l.length ∧ l.length ≤ k + m ∧ l[k]? = some x := by
  rw [List.mem_iff_getElem?]
  constructor
  · rintro ⟨t, ht⟩
    rw [List.getElem?_drop] at ht
    have hlt : l.length - m + t < l.length := by
      have := List.getElem?_eq_some_iff.mp ht; exact this.1
    exact ⟨l.length - m + t, hlt, by omega, ht⟩
  · rintro ⟨k, hk, hkm, hx⟩
    refine ⟨k - (l.length - m), ?_⟩
    rw [List.getElem?_drop]
    rw [show l.length - m + (k - (l.length - m)) = k by omega]
    exact hx

theorem asker_unique_of_count {l : List (Addr × Nat)} {i a b : Nat}
    (hc : (l.map Prod.snd).count i = 1) (ha : (a, i) ∈ l) (hb : (b, i) ∈ l) : a = b := by
  induction l with
  | nil => cases ha
  | cons x l ih =>
    simp only [List.map_cons, List.count_cons] at hc
    by_cases hx : x.2 = i
    · have h0 : (l.map Prod.snd).count i = 0 := by simp [hx] at hc; exact hc
      have hni : i ∉ l.map Prod.snd := List.count_eq_zero.mp h0
      have key : ∀ c, (c, i) ∈ x :: l → (c, i) = x := by
        intro c hcm
        rcases List.mem_cons.mp hcm with h | h
        · exact h
        · exact absurd (List.mem_map.mpr ⟨(c, i), h, rfl⟩) hni
      have h1 := key a ha
      have h2 := key b hb
      rw [← h2] at h1
      exact (Prod.mk.inj h1).1
    · have hne : ∀ c, (c, i) ∈ x :: l → (c, i) ∈ l := by
        intro c hcm
        rcases List.mem_cons.mp hcm with h | h
        · exact absurd (by rw [← h]) hx
        · exact h
      have hc' : (l.map Prod.snd).count i = 1 := by
        have : (x.2 == i) = false := by simpa using hx
        simpa [this] using hc
      exact ih hc' (hne a ha) (hne b hb)

/-! ### the puts of an event sequence (model side) -/

def putOf : Ev → Option (Addr × Nat)
  | .query a i => some (a, i)
  | .reply _ _ => none

def putsOf (evs : List Ev) : List (Addr × Nat) := evs.filterMap putOf

/-! ### the ring invariant -/

structure Inv (ps : List (Addr × Nat)) (s : Fw) : Prop where
  len : s.slots.length = SIZE
  ix : s.ix = ps.length % SIZE
  cls : ∀ j, j < SIZE →
    (∃ k, k < ps.length ∧ ps.length ≤ k + SIZE ∧ k % SIZE = j ∧ s.slots[j]? = ps[k]?) ∨
    (ps.length ≤ j ∧ s.slots[j]? = some (0, 0))

theorem inv_init : Inv [] init := by
  refine ⟨by simp [init], by simp [init], ?_⟩
  intro j hj
  right
  refine ⟨Nat.zero_le _, ?_⟩
  simp only [init, List.getElem?_replicate, hj, if_true]

theorem inv_put {ps : List (Addr × Nat)} {s : Fw} (h : Inv ps s) (a i : Nat) :
    Inv (ps ++ [(a, i)]) (put s a i) := by
  obtain ⟨hlen, hix, hcls⟩ := h
  have hixlt : s.ix < s.slots.length := by
    rw [hlen, hix]; exact Nat.mod_lt _ SIZE_pos
  refine ⟨?_, ?_, ?_⟩
  · simp only [put, List.length_set, hlen]
  · simp only [put, List.length_append, List.length_singleton]
    rw [hix]
    split <;> sz_omega
  · intro j hj
    simp only [put, List.length_append, List.length_singleton, List.getElem?_set]
    by_cases hji : s.ix = j
    · left
      refine ⟨ps.length, by omega, by omega, by omega, ?_⟩
      rw [if_pos hji, if_pos hixlt]
      simp
    · rw [if_neg hji]
      rcases hcls j hj with ⟨k, hk, hk2, hkj, hsl⟩ | ⟨hnj, hsl⟩
      · left
        refine ⟨k, by omega, ?_, hkj, ?_⟩
        · sz_omega
        · rw [hsl, List.getElem?_append_left hk]
      · right
        refine ⟨?_, hsl⟩
        sz_omega

theorem Inv.window {ps s} (h : Inv ps s) {k : Nat} (hk : k < ps.length)
    (hk2 : ps.length ≤ k + SIZE) : s.slots[k % SIZE]? = ps[k]? := by
  rcases h.cls (k % SIZE) (Nat.mod_lt _ SIZE_pos) with ⟨k', hk', hk2', hkk, hsl⟩ | ⟨hn, _⟩
  · have : k' = k := by sz_omega
    rw [hsl, this]
  · exfalso
    have := Nat.mod_le k SIZE
    omega

theorem Inv.unwritten {ps s} (h : Inv ps s) {j : Nat} (hn : ps.length ≤ j) (hj : j < SIZE) :
    s.slots[j]? = some (0, 0) := by
  rcases h.cls j hj with ⟨k, hk, _, hkj, _⟩ | ⟨_, hsl⟩
  · exfalso
    have : k % SIZE = k := Nat.mod_eq_of_lt (by omega)
    omega
  · exact hsl

/-! ### `get` -/

theorem get_eq_some_iff (s : Fw) (i j : Nat) :
    get s i = some j ↔
      ∃ x, s.slots[j]? = some x ∧ x.2 = i ∧
        ∀ j', j' < j → ∀ y, s.slots[j']? = some y → y.2 ≠ i := by
  unfold get
  rw [List.findIdx?_eq_some_iff_getElem]
  constructor
  · rintro ⟨hj, hp, hmin⟩
    refine ⟨s.slots[j], List.getElem?_eq_getElem hj, by simpa using hp, ?_⟩
    intro j' hj' y hy
    have hlt : j' < s.slots.length := by omega
    have := hmin j' hj'
    rw [List.getElem?_eq_getElem hlt] at hy
    cases hy
    simpa using this
  · rintro ⟨x, hx, hxi, hmin⟩
    obtain ⟨hj, hxe⟩ := List.getElem?_eq_some_iff.mp hx
    refine ⟨hj, by simp [hxe, hxi], ?_⟩
    intro j' hj'
    have hlt : j' < s.slots.length := by omega
    have := hmin j' hj' _ (List.getElem?_eq_getElem hlt)
    simpa using this

theorem get_eq_none_iff (s : Fw) (i : Nat) :
    get s i = none ↔ ∀ (j : Nat) (y : Addr × Nat), s.slots[j]? = some y → y.2 ≠ i := by
  unfold get
  rw [List.findIdx?_eq_none_iff]
  constructor
  · intro h j y hy
    have := h y (List.mem_iff_getElem?.mpr ⟨j, hy⟩)
    simpa using this
  · intro h x hx
    obtain ⟨j, hj⟩ := List.mem_iff_getElem?.mp hx
    simpa using h j x hj

theorem get_isSome_of_slot (s : Fw) (i j : Nat) (x : Addr × Nat) (hx : s.slots[j]? = some x)
    (hxi : x.2 = i) : ∃ j', get s i = some j' := by
  cases hg : get s i with
  | some j' => exact ⟨j', rfl⟩
  | none => exact absurd hxi ((get_eq_none_iff s i).mp hg j x hx)

theorem slot_eq_of_getElem? {s : Fw} {j : Nat} {x : Addr × Nat} (h : s.slots[j]? = some x) :
    slot s j = x := by
  simp [slot, List.getD_eq_getElem?_getD, h]

/-- If some put still in the window has id `i`, the lookup finds the window put whose slot number
is least among the window puts with id `i`. -/
theorem Inv.get_window {ps s} (h : Inv ps s) {i k a : Nat} (hk : k < ps.length)
    (hk2 : ps.length ≤ k + SIZE) (hps : ps[k]? = some (a, i)) :
    ∃ k' b, k' < ps.length ∧ ps.length ≤ k' + SIZE ∧ ps[k']? = some (b, i) ∧
      get s i = some (k' % SIZE) ∧ slot s (k' % SIZE) = (b, i) ∧
      ∀ k'', k'' < ps.length → ps.length ≤ k'' + SIZE → (∃ c, ps[k'']? = some (c, i)) →
        k' % SIZE ≤ k'' % SIZE := by
  have hslk : s.slots[k % SIZE]? = some (a, i) := by rw [h.window hk hk2, hps]
  obtain ⟨j, hg⟩ := get_isSome_of_slot s i _ _ hslk rfl
  obtain ⟨x, hx, hxi, hmin⟩ := (get_eq_some_iff s i j).mp hg
  have hjS : j < SIZE := by
    rw [← h.len]; exact (List.getElem?_eq_some_iff.mp hx).1
  have hjk : j ≤ k % SIZE := by
    rcases Nat.lt_or_ge (k % SIZE) j with hlt | hge
    · exact absurd rfl (hmin _ hlt _ hslk)
    · exact hge
  rcases h.cls j hjS with ⟨k', hk', hk2', hkj, hsl⟩ | ⟨hn, _⟩
  · obtain ⟨b, i'⟩ := x
    simp only at hxi
    subst hxi
    refine ⟨k', b, hk', hk2', ?_, ?_, ?_, ?_⟩
    · rw [← hsl, hx]
    · rw [hkj]; exact hg
    · rw [hkj]; exact slot_eq_of_getElem? hx
    · rintro k'' hk'' hk2'' ⟨c, hc⟩
      rw [hkj]
      rcases Nat.lt_or_ge (k'' % SIZE) j with hlt | hge
      · have hs : s.slots[k'' % SIZE]? = some (c, i') := by rw [h.window hk'' hk2'', hc]
        exact absurd rfl (hmin _ hlt _ hs)
      · exact hge
  · exfalso
    have : k % SIZE = k := Nat.mod_eq_of_lt (by omega)
    omega

/-- If no put in the window has id `i`, the lookup fails — except for id 0 while the ring is not
yet full, where it finds the first never-written slot (number `ps.length`, holding `(0,0)`). -/
theorem Inv.get_no_window {ps s} (h : Inv ps s) {i : Nat}
    (hno : ∀ k, k < ps.length → ps.length ≤ k + SIZE → ∀ c, ps[k]? ≠ some (c, i)) :
    get s i = if i = 0 ∧ ps.length < SIZE then some ps.length else none := by
  split
  · rename_i hc
    obtain ⟨hi, hn⟩ := hc
    subst hi
    rw [get_eq_some_iff]
    refine ⟨(0, 0), h.unwritten (Nat.le_refl _) hn, rfl, ?_⟩
    intro j' hj' y hy hy0
    rcases h.cls j' (by omega) with ⟨k, hk, hk2, _, hsl⟩ | ⟨hnj, _⟩
    · rw [hy] at hsl
      obtain ⟨c, i'⟩ := y
      simp only at hy0
      subst hy0
      exact hno k hk hk2 c hsl.symm
    · omega
  · rename_i hc
    rw [get_eq_none_iff]
    intro j y hy hyi
    have hjS : j < SIZE := by
      rw [← h.len]; exact (List.getElem?_eq_some_iff.mp hy).1
    rcases h.cls j hjS with ⟨k, hk, hk2, _, hsl⟩ | ⟨hnj, hsl⟩
    · rw [hy] at hsl
      obtain ⟨c, i'⟩ := y
      simp only at hyi
      subst hyi
      exact hno k hk hk2 c hsl.symm
    · rw [hy] at hsl
      cases hsl
      simp only at hyi
      exact hc ⟨hyi.symm, by omega⟩

/-! ### ring order: reading the ring from `ix` round gives never-written slots, then the last puts -/

theorem rotate_getElem? {α} (l : List α) (ix t : Nat) (hix : ix < l.length) (ht : t < l.length) :
    (l.drop ix ++ l.take ix)[t]? = l[(ix + t) % l.length]? := by
  rw [List.getElem?_append, List.length_drop]
  split
  · rename_i h1
    rw [List.getElem?_drop, Nat.mod_eq_of_lt (by omega)]
  · rename_i h1
    rw [List.getElem?_take, if_pos (by omega)]
    congr 1
    have : ix + t = (t - (l.length - ix)) + l.length := by omega
    rw [this, Nat.add_mod_right, Nat.mod_eq_of_lt (by omega)]

theorem Inv.ring_order {ps s} (h : Inv ps s) :
    s.slots.drop s.ix ++ s.slots.take s.ix =
      List.replicate (SIZE - ps.length) (0, 0) ++ ps.drop (ps.length - SIZE) := by
  have hixlt : s.ix < s.slots.length := by
    rw [h.len, h.ix]; exact Nat.mod_lt _ SIZE_pos
  apply List.ext_getElem?
  intro t
  by_cases ht : t < SIZE
  · rw [rotate_getElem? _ _ _ hixlt (by rw [h.len]; exact ht), h.len, h.ix,
      List.getElem?_append, List.length_replicate, List.getElem?_replicate, List.getElem?_drop]
    split
    · rename_i h1
      have : (ps.length % SIZE + t) % SIZE = ps.length + t := by sz_omega
      rw [this]
      exact h.unwritten (by omega) (by omega)
    · rename_i h1
      have hk : ps.length - SIZE + (t - (SIZE - ps.length)) < ps.length := by omega
      have hk2 : ps.length ≤ ps.length - SIZE + (t - (SIZE - ps.length)) + SIZE := by omega
      rw [← h.window hk hk2]
      congr 1
      sz_omega
  · have h1 : (s.slots.drop s.ix ++ s.slots.take s.ix).length ≤ t := by
      have := h.len
      simp only [List.length_append, List.length_drop, List.length_take]; omega
    have h2 : (List.replicate (SIZE - ps.length) ((0, 0) : Addr × Nat) ++
        ps.drop (ps.length - SIZE)).length ≤ t := by
      simp only [List.length_append, List.length_drop, List.length_replicate]; omega
    rw [List.getElem?_eq_none h1, List.getElem?_eq_none h2]

/-! ### runs -/

theorem runFrom_append (s : Fw) (acc : List Out) (e1 e2 : List Ev) :
    runFrom s acc (e1 ++ e2) = runFrom (runFrom s acc e1).1 (runFrom s acc e1).2 e2 := by
  simp only [runFrom, List.foldl_append]

theorem run_snoc (evs : List Ev) (e : Ev) :
    run (evs ++ [e]) = ((step (run evs).1 e).1, (run evs).2 ++ (step (run evs).1 e).2) := by
  simp only [run, runFrom, List.foldl_append, List.foldl_cons, List.foldl_nil]

@[simp] theorem putsOf_nil : putsOf [] = [] := rfl
@[simp] theorem putsOf_cons_query (a i : Nat) (evs : List Ev) :
    putsOf (.query a i :: evs) = (a, i) :: putsOf evs := rfl
@[simp] theorem putsOf_cons_reply (i : Nat) (b : List Nat) (evs : List Ev) :
    putsOf (.reply i b :: evs) = putsOf evs := rfl

theorem putsOf_append (e1 e2 : List Ev) : putsOf (e1 ++ e2) = putsOf e1 ++ putsOf e2 := by
  simp only [putsOf, List.filterMap_append]

/-- a reply never changes the ring (nothing is removed) -/
theorem step_reply_state (s : Fw) (i : Nat) (b : List Nat) : (step s (.reply i b)).1 = s := by
  simp only [step]; split <;> rfl

theorem inv_runFrom {ps s} (h : Inv ps s) (acc : List Out) (evs : List Ev) :
    Inv (ps ++ putsOf evs) (runFrom s acc evs).1 := by
  induction evs generalizing ps s acc with
  | nil => simpa [runFrom] using h
  | cons e evs ih =>
    cases e with
    | query a i =>
      have := ih (inv_put h a i) (acc ++ [Out.forward i])
      simpa [runFrom, step, List.append_assoc] using this
    | reply i b =>
      have := ih h (acc ++ (step s (Ev.reply i b)).2)
      simpa [runFrom, step_reply_state s i b] using this

theorem inv_run (evs : List Ev) : Inv (putsOf evs) (run evs).1 := by
  simpa [run] using inv_runFrom inv_init [] evs

theorem step_reply_out (s : Fw) (i : Nat) (b : List Nat) :
    (step s (.reply i b)).2 =
      match get s i with
      | some j => [Out.toAsker (slot s j).1 b]
      | none => [] := by
  simp only [step]; split <;> simp [*]

end Iodine.FwQuery
