import IodineModel.Lemmas.C02base
/-
Session-level forms of the server functions on the data / ping path: each of them reads and writes only slot `u`, so
`F s u … = (putUser s u (FSess (getUser s u) …), events (getUser s u))`.
-/
namespace Iodine.C02L
open Iodine Iodine.Gen Iodine.Server

/-- `start_new_outpacket` on the slot -/
def startOut (x : Session) (data : List Nat) (datalen : Nat) : Session :=
  { x with outpacket := { x.outpacket with data := data.take (min datalen PACKET_DATA_SIZE), len := min datalen PACKET_DATA_SIZE,
                                           offset := 0, sentlen := 0, seqno := (x.outpacket.seqno + 1) % 8, fragment := 0 },
           outfragresent := 0 }

theorem startNewOutpacket_eq (s : Srv) (u : Nat) (d : List Nat) (n : Nat) :
    startNewOutpacket s u d n = putUser s u (startOut (getUser s u) d n) := by
  unfold startNewOutpacket
  rw [setUser_eq_putUser]
  rfl

/-- `get_from_outpacketq` on the slot -/
def fromQueue (x : Session) : Session × Bool :=
  if x.oqFilled = 0 then (x, false)
  else
    let p := x.outpacketq.getD x.oqNext Packet.zero
    let y := startOut x p.data p.len
    ({ y with oqNext := if x.oqNext + 1 ≥ OUTPACKETQ_LEN then 0 else x.oqNext + 1, oqFilled := y.oqFilled - 1 }, true)

theorem getFromOutpacketq_eq (s : Srv) (u : Nat) (h : u < s.users.length) :
    getFromOutpacketq s u = (putUser s u (fromQueue (getUser s u)).1, (fromQueue (getUser s u)).2) := by
  unfold getFromOutpacketq fromQueue
  simp only
  split
  · simp [putUser_getUser]
  · simp only [startNewOutpacket_eq, setUser_eq_putUser, putUser_putUser, getUser_putUser_self _ _ _ h]

/-- `save_to_qmem_pingordata` on the slot -/
def qmemUpd (x : Session) (q : Query) : Session :=
  let c0 := q.name.getD 0 0
  if c0 = 80 ∨ c0 = 112 then
    match q.name.idxOf? 46 with
    | none => x
    | some cp =>
      let cmc := Codec.dec Codec.b32 8 (cp - 1) (q.name.drop 1)
      if cmc.length < 4 then x
      else
        let r := saveToQmem x.qmemping x.qmempingLast QMEMPING_LEN (cmc.take 4) q.type
        { x with qmemping := r.1, qmempingLast := r.2 }
  else
    if q.name.length < 5 then x
    else
      let r := saveToQmem x.qmemdata x.qmemdataLast QMEMDATA_LEN (dataCmc q.name) q.type
      { x with qmemdata := r.1, qmemdataLast := r.2 }

theorem saveToQmemPingOrData_eq (s : Srv) (u : Nat) (q : Query) :
    saveToQmemPingOrData s u q = putUser s u (qmemUpd (getUser s u) q) := by
  unfold saveToQmemPingOrData qmemUpd
  simp only
  split
  · cases List.idxOf? 46 q.name with
    | none => simp only [putUser_getUser]
    | some cp =>
      simp only
      split
      · simp only [putUser_getUser]
      · rw [setUser_eq_putUser]
  · split
    · simp only [putUser_getUser]
    · rw [setUser_eq_putUser]

/-- `save_to_dnscache` on the slot -/
def cacheUpd (x : Session) (q : Query) (answer : List Nat) : Session :=
  if answer.length > DNSCACHE_ANSWER_SIZE then x
  else
    let fill := if x.dcLast + 1 ≥ DNSCACHE_LEN then 0 else x.dcLast + 1
    { x with dnscache := x.dnscache.set fill ⟨q, answer, answer.length⟩, dcLast := fill }

theorem saveToDnscache_eq (s : Srv) (u : Nat) (q : Query) (a : List Nat) :
    saveToDnscache s u q a = putUser s u (cacheUpd (getUser s u) q a) := by
  unfold saveToDnscache cacheUpd
  split
  · simp [putUser_getUser]
  · rw [setUser_eq_putUser]

/-- first block of `send_chunk_or_dataless` on the slot -/
def dropResent (x : Session) : Session :=
  if x.outpacket.len > 0 ∧ x.outfragresent > 5 then (fromQueue (dropOut x)).1 else x

theorem scDropResent_eq (s : Srv) (u : Nat) (h : u < s.users.length) :
    scDropResent s u = putUser s u (dropResent (getUser s u)) := by
  unfold scDropResent dropResent
  simp only
  split
  · rw [setUser_eq_putUser, getFromOutpacketq_eq _ _ (by simpa using h)]
    simp only [putUser_putUser, getUser_putUser_self _ _ _ h]
  · simp [putUser_getUser]

/-- second block on the slot -/
def prepare (x : Session) : Session :=
  if x.outpacket.len > 0 then
    { x with outpacket := { x.outpacket with sentlen := scDatalen x }, outfragresent := x.outfragresent + 1 }
  else x

theorem scPrepare_eq (s : Srv) (u : Nat) : scPrepare s u = putUser s u (prepare (getUser s u)) := by
  unfold scPrepare prepare
  split
  · rw [setUser_eq_putUser]
  · simp [putUser_getUser]

/-- `send_chunk_or_dataless` on the slot: new slot, events, return value -/
def scSess (x0 : Session) (u : Nat) (w : QSel) : (Session × List Event) × Bool :=
  let x := prepare (dropResent x0)
  let datalen := scDatalen x
  let pkt := scPkt x datalen
  let a := scAnswer (w.get x) pkt x.downenc u
  let y := w.set (cacheUpd (qmemUpd x a.1) a.1 pkt) { a.1 with id := 0 }
  if datalen > 0 ∧ datalen = x.outpacket.len then
    (((fromQueue (dropOut y)).1, a.2), (fromQueue (dropOut y)).2)
  else ((y, a.2), false)

theorem sendChunkOrDataless_eq (s : Srv) (u : Nat) (w : QSel) (h : u < s.users.length) :
    sendChunkOrDataless s u w =
      ((putUser s u (scSess (getUser s u) u w).1.1, (scSess (getUser s u) u w).1.2), (scSess (getUser s u) u w).2) := by
  unfold sendChunkOrDataless scSess
  simp only [scDropResent_eq _ _ h, scPrepare_eq, saveToQmemPingOrData_eq, saveToDnscache_eq, setUser_eq_putUser,
    putUser_putUser, getUser_putUser_self _ _ _ h]
  split
  · rw [getFromOutpacketq_eq _ _ (by simpa using h)]
    simp only [putUser_putUser, getUser_putUser_self _ _ _ h]
  · rfl

/-- `process_downstream_ack` on the slot -/
def ackSess (x : Session) (dnSeq dnFrag : Int) : Session :=
  if x.outpacket.len = 0 then x
  else if x.outpacket.seqno ≠ dnSeq ∨ x.outpacket.fragment ≠ dnFrag then x
  else if x.outpacket.sentlen = 0 then x
  else
    let off := x.outpacket.offset + x.outpacket.sentlen
    let y := { x with outpacket := { x.outpacket with offset := off, sentlen := 0, fragment := sChar (x.outpacket.fragment + 1) },
                      outfragresent := 0 }
    if off ≥ x.outpacket.len then
      (fromQueue { y with outpacket := { y.outpacket with len := 0, offset := 0, fragment := sChar (y.outpacket.fragment - 1) } }).1
    else y

theorem ackSess_other (x : Session) (a b : Int)
    (h : x.outpacket.len = 0 ∨ x.outpacket.seqno ≠ a ∨ x.outpacket.fragment ≠ b ∨ x.outpacket.sentlen = 0) :
    ackSess x a b = x := by
  unfold ackSess
  by_cases h1 : x.outpacket.len = 0
  · rw [if_pos h1]
  rw [if_neg h1]
  by_cases h2 : x.outpacket.seqno ≠ a ∨ x.outpacket.fragment ≠ b
  · rw [if_pos h2]
  rw [if_neg h2]
  exact if_pos (h.resolve_left h1 |>.elim (fun h => absurd (Or.inl h) h2) fun h => h.elim (fun h => absurd (Or.inr h) h2) id)

theorem processDownstreamAck_eq (s : Srv) (u : Nat) (a b : Int) (h : u < s.users.length) :
    processDownstreamAck s u a b = putUser s u (ackSess (getUser s u) a b) := by
  unfold processDownstreamAck ackSess
  simp only
  by_cases h1 : (getUser s u).outpacket.len = 0
  · rw [if_pos h1, if_pos h1, putUser_getUser]
  rw [if_neg h1, if_neg h1]
  by_cases h2 : (getUser s u).outpacket.seqno ≠ a ∨ (getUser s u).outpacket.fragment ≠ b
  · rw [if_pos h2, if_pos h2, putUser_getUser]
  rw [if_neg h2, if_neg h2]
  by_cases h3 : (getUser s u).outpacket.sentlen = 0
  · rw [if_pos h3, if_pos h3, putUser_getUser]
  rw [if_neg h3, if_neg h3]
  by_cases h4 : (getUser s u).outpacket.offset + (getUser s u).outpacket.sentlen ≥ (getUser s u).outpacket.len
  · rw [if_pos h4, if_pos h4]
    simp only [setUser_eq_putUser, putUser_putUser, getUser_putUser_self _ _ _ h]
    rw [getFromOutpacketq_eq _ _ (by simpa using h)]
    simp only [putUser_putUser, getUser_putUser_self _ _ _ h]
  · rw [if_neg h4, if_neg h4, setUser_eq_putUser]

end Iodine.C02L
