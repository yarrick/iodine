import IodineModel.Lemmas.C02qD3
/-
Downstream, immediate mode, desynchronised start: the IDLE POLL.  From a quiescent state the prompt scheduler does nothing, so the
poll is stated with its explicit events `tickC deliverUp deliverDown` (the ones `promptEv` picks once the state is not quiescent).
The server answers dataless with its current downstream sequence number: the client ADOPTS it when it is 1..4 ahead
(`idle_poll_resyncs_down`) and ignores it when it is its own or 5..7 ahead, i.e. in the window (the two clauses of `idle_poll`).
-/
namespace Iodine.C02L
open Iodine Iodine.Gen Iodine.World

/-- the third step of a poll round: the answer reaches the client, whose step takes no time -/
theorem Polled.down {P : Par} {sl sp : Nat} {w w2 : W} {c c2 : Client.Cli} {s1 s' : Server.Srv} {name pkt : List Nat}
    {evs : List Client.CEvent} {nx : Client.Next} (h : Polled P sl sp w w2 c s1 s' name pkt)
    (hstep : Client.cstep ⟨c, .tunnel⟩ (cliInput (.ans c.chunkid P.ty name pkt)) = (⟨c2, .tunnel⟩, evs, nx))
    (hn : c2.now = c.now) :
    promptEv w2 = .deliverDown ∧
    step w2 .deliverDown = ⟨⟨c2, .tunnel⟩, s', upOfEvents evs, [], w.tunC ++ tunOfCEvents evs, w.tunS⟩ := by
  rw [h.hw2]
  refine ⟨rfl, ?_⟩
  show step ⟨⟨c, .tunnel⟩, s', [], [.ans c.chunkid P.ty name pkt], w.tunC, w.tunS⟩ .deliverDown = _
  rw [step_deliverDown_mk (CliDoes.mk hstep rfl rfl), srvAt_same hn]
  rfl

theorem Polled.recv {P : Par} {sl sp : Nat} {w w2 : W} {c : Client.Cli} {s1 s' : Server.Srv} {name pkt : List Nat}
    (h : Polled P sl sp w w2 c s1 s' name pkt) :
    RecvOk P false c ⟨(pkt.length : Int), c.chunkid, answerType P.ty, 0, name.headD 0, pkt⟩ pkt :=
  ⟨h.cst.toM, h.idle, by rw [h.name0]; simp [Client.notData], rfl, rfl, rfl⟩

/-- One idle poll from a quiescent state desynchronised by `d`.  `adopt = true`: the server's number is 1..4 ahead, the
client adopts it, the joint state is SYNCHRONISED and the client's 500 ms timer runs.  `adopt = false`: the number is the
client's own or in the window (5..7 ahead): nothing changes but the clocks and the ping counters. -/
theorem idle_poll {P : Par} (hP : P.Ok) {w : W} {d : Nat} (hq : QuietImmD P 0 d w) (hd : d < 8) (hr : Roomy P w) :
    ∃ w', run w [.tickC, .deliverUp, .deliverDown] = w' ∧
      promptEv w = .tickC ∧ promptEv (step w .tickC) = .deliverUp ∧ promptEv (step (step w .tickC) .deliverUp) = .deliverDown ∧
      w'.tunC = w.tunC ∧ w'.tunS = w.tunS ∧
      (Server.getUser w'.srv P.u).fragsize = (Server.getUser w.srv P.u).fragsize ∧
      (Server.getUser w'.srv P.u).tunIp = (Server.getUser w.srv P.u).tunIp ∧
      (Server.getUser w'.srv P.u).lastPkt = w'.srv.now ∧ w'.cs.c.lastdownstreamtime = w'.cs.c.now ∧
      w'.cs.c.selecttimeout = w.cs.c.selecttimeout ∧
      w'.cs.c.now = w.cs.c.now + ((Client.selectOf w.cs.c).to / 1000000).toNat ∧
      ((1 ≤ d ∧ d ≤ 4) → QuietImm P w' ∧ w'.cs.c.sendPingSoon = 500 ∧
        w'.cs.c.inpkt.seqno = (w.cs.c.inpkt.seqno + d) % 8 ∧ w'.cs.c.inpkt.len = 0) ∧
      ((d = 0 ∨ 5 ≤ d) → QuietImmD P 0 d w' ∧ w'.cs.c.sendPingSoon = 0 ∧ w'.cs.c.inpkt = w.cs.c.inpkt) := by
  have hsrvG : PingSrvG P w.srv := ⟨hq.srv, hq.idle.q, hq.idle.qs, hq.idle.lazy, hq.oq⟩
  obtain ⟨w2, c, s1, s', name, pkt, hpe0, hpe1, hsteps, _, hpl⟩ := poll_answered hP hq.ph hq.cst hq.idleC hq.up hq.down hsrvG hr.to hr.cli
    hr.srv (Nat.le_refl 1) (by omega) hq.aged hq.paged
  have hs1u := hpl.s1u
  have hap := hpl.ap
  have hci := hq.cst.iseq
  generalize hsq : (w.cs.c.inpkt.seqno + d) % 8 = sq
  have hsqr : 0 ≤ sq ∧ sq < 8 := by rw [← hsq]; exact mod8_range _
  have hseq1 : (Server.getUser s1 P.u).outpacket.seqno = sq := by rw [hs1u, hq.syncd, hsq]
  have hx0fr : 0 ≤ (Server.getUser s1 P.u).outpacket.fragment ∧ (Server.getUser s1 P.u).outpacket.fragment < 16 := by
    rw [hs1u]; exact hq.srv.x.ofrag
  obtain ⟨hack, hzl, hzs, _, hps, hk⟩ := afterPing_dataless hpl.ps1.noq rfl hap (Or.inl (by rw [hs1u]; exact hq.idle.out))
  rw [hseq1] at hack hzs
  have hfs' := hk.fragsize
  have hin' := hk.inpacket
  have htun' := hk.tunIp
  have hlp := hk.lastPkt
  have hps := hps.imm
  rw [hs1u] at hfs' hin' htun'
  have hdn := hack.dnSeq
  have hdf := hack.dnFrag
  have hlen2 := hack.len
  have hrun : run w [.tickC, .deliverUp, .deliverDown] = step w2 .deliverDown := by
    show step (step (step w .tickC) .deliverUp) .deliverDown = _
    rw [hsteps]
  have hsu0 : (Server.getUser s' P.u).inpacket.seqno = c.outpkt.seqno := by
    rw [hin', hpl.outpkt, hq.syncu, mod8_zero hq.srv.x.iseq]
  have hnow : c.now = w.cs.c.now + ((Client.selectOf w.cs.c).to / 1000000).toNat := hpl.now
  by_cases hcase : 1 ≤ d ∧ d ≤ 4
  · -- adopted
    obtain ⟨hstep, hst⟩ := recv_dataless_adopt hpl.recv hpl.sps hlen2 hdn hdf hsqr hx0fr (by rw [hpl.inpkt, ← hsq]; exact mod8_ne hci ⟨hcase.1, Nat.le_trans hcase.2 (by decide)⟩)
      (by rw [hpl.inpkt, ← hsq]; exact recentSeqno_far _ hci d hcase)
    obtain ⟨hpe2, hs2⟩ := hpl.down hstep rfl
    refine ⟨_, hrun.trans hs2, hpe0, hpe1, by rw [hsteps]; exact hpe2, List.append_nil _, rfl, hfs', htun', hlp, rfl, hpl.selto,
      hnow, ?_, fun hc => absurd hcase (not_adopt hc)⟩
    intro _
    exact ⟨⟨rfl, hst.imm, hpl.idle, rfl, rfl, hps.stat, ⟨hzl, hps.q, hps.qs, hps.lz⟩,
      hps.oq, hsu0, by rw [hzs]; rfl, hpl.aged, hpl.paged⟩, rfl, rfl, rfl⟩
  · -- ignored
    have hstep : Client.cstep ⟨c, .tunnel⟩ (cliInput (.ans c.chunkid P.ty name pkt)) =
        (⟨ackBook c, .tunnel⟩, [], .sel (Client.selectOf (ackBook c))) := by
      show Client.cstep ⟨c, .tunnel⟩ (.rq _) = _
      rw [recv_dataless_common hpl.recv (len_two hlen2) (by
        rw [hdn, hpl.inpkt, ← hsq]
        by_cases h0 : d = 0
        · left; subst h0; exact mod8_zero hci
        · right; exact (recentSeqno_behind _ hci d (behind_of hd h0 hcase)).2), hpl.sps, recvBook_imm0 hpl.cst.imm hpl.sps]
      simp [Client.finalPing, Client.settle, Client.loopTop, hpl.cst.toM.ackBook.running]
    obtain ⟨hpe2, hs2⟩ := hpl.down hstep rfl
    refine ⟨_, hrun.trans hs2, hpe0, hpe1, by rw [hsteps]; exact hpe2, List.append_nil _, rfl, hfs', htun', hlp, rfl, hpl.selto,
      hnow, fun hc => absurd hc hcase, ?_⟩
    intro _
    refine ⟨⟨rfl, hpl.cst.toM.ackBook.imm, hpl.idle, rfl, rfl, hps.stat, ⟨hzl, hps.q, hps.qs, hps.lz⟩, hps.oq, ?_, ?_,
      hpl.aged, hpl.paged⟩, hpl.sps, hpl.inpkt⟩
    · show (ackBook c).outpkt.seqno = ((Server.getUser s' P.u).inpacket.seqno + (0 : Nat)) % 8
      rw [hsu0]
      exact (mod8_zero hpl.cst.oseq).symm
    · show (Server.getUser s' P.u).outpacket.seqno = (c.inpkt.seqno + d) % 8
      rw [hzs, hpl.inpkt, hsq]

/-- From a quiescent joint state in which the server's downstream sequence number is `d ∈ 1..4`
ahead of the client's, with timer room for one poll: the client's next poll — `tickC` (its `select` times out, a ping goes
out), `deliverUp` (the server answers dataless, carrying its number), `deliverDown` (the number is outside the window: the
client ADOPTS it, `send_ping_soon := 500`) — ends in a SYNCHRONISED quiescent state; nothing is written to either tun device.
The 500 ms timer then causes one more poll (no whole second passes), after which `send_ping_soon = 0` and the state is
still synchronised and quiescent. -/
theorem idle_poll_resyncs_down {P : Par} (hP : P.Ok) {w : W} {d : Nat} (hq : QuietImmD P 0 d w) (hd : 1 ≤ d ∧ d ≤ 4)
    (hto : (Client.selectOf w.cs.c).to < 10000000)
    (hexp : ¬ w.cs.c.lastdownstreamtime + 60 < w.cs.c.now + ((Client.selectOf w.cs.c).to / 1000000).toNat)
    (hlive : w.srv.now + ((Client.selectOf w.cs.c).to / 1000000).toNat < (Server.getUser w.srv P.u).lastPkt + 60) :
    ∃ w1 w2, run w [.tickC, .deliverUp, .deliverDown] = w1 ∧ QuietImm P w1 ∧ w1.cs.c.sendPingSoon = 500 ∧
      w1.cs.c.inpkt.seqno = (w.cs.c.inpkt.seqno + d) % 8 ∧
      w1.tunC = w.tunC ∧ w1.tunS = w.tunS ∧ w1.cs.c.now = w1.cs.c.lastdownstreamtime ∧
      run w1 [.tickC, .deliverUp, .deliverDown] = w2 ∧ QuietImm P w2 ∧ w2.cs.c.sendPingSoon = 0 ∧
      w2.cs.c.inpkt = w1.cs.c.inpkt ∧ w2.tunC = w.tunC ∧ w2.tunS = w.tunS ∧ w2.cs.c.now = w1.cs.c.now := by
  obtain ⟨w1, hr1, _, _, _, a1, a2, _, _, _, a6, _, _, hadopt, _⟩ := idle_poll hP hq (by omega) ⟨hto, hexp, hlive⟩
  obtain ⟨hq1, hsps1, hseq1, _⟩ := hadopt hd
  have hq1D := quietImmD_zero.2 hq1
  obtain ⟨w2, hr2, _, _, _, b1, b2, _, _, _, _, _, b7, _, hstale⟩ :=
    idle_poll hP hq1D (by omega) (roomy_of_timer hq1.cst hq1.srv hsps1 (by decide) (by decide))
  obtain ⟨hq2, hsps2, hinp2⟩ := hstale (Or.inl rfl)
  refine ⟨w1, w2, hr1, hq1, hsps1, hseq1, a1, a2, a6.symm, hr2, quietImmD_zero.1 hq2, hsps2, hinp2, by rw [b1, a1], by rw [b2, a2], ?_⟩
  have hto1 : (Client.selectOf w1.cs.c).to = 500000 := by simp [Client.selectOf, hsps1]
  rw [b7, hto1]
  rfl

end Iodine.C02L
