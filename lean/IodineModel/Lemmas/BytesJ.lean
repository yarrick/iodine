import IodineModel.Lemmas.BytesB
import IodineModel.Lemmas.BytesF
import IodineModel.Lemmas.WireRead
/-
What `readname` / `dns_decode(QR_QUERY)` make of a datagram whose question
labels — as they stand ON THE WIRE — contain no '.' and no NUL byte.

`wireLabels` walks the name like `readname` does (labels, compression pointers with a jump budget, lenient about everything
that is not a label); `nameLoop_plain` is the simulation: the bytes `readname` stores are the labels of a PREFIX of that walk,
separated by dots, possibly followed by one more dot, then NUL — or the 255-byte array is full.  It is `Wire.nameLoop_walk`
(Lemmas/WireRead) for the invariant `LoopInv`: the labels copied so far, each with its dot.
-/
namespace Iodine.BytesL
open Iodine Iodine.Wire Iodine.C10

/-! ### the labels of a name on the wire -/

/-- one activation of the walk from offset `pos`; `jump off` is the walk behind a compression pointer to `off` -/
def walkFrom (pkt : List Nat) (jump : Nat → List (List Nat)) : Nat → Nat → List (List Nat)
  | 0, _ => []
  | fuel + 1, pos =>
    if pkt.length ≤ pos then []
    else if pkt.getD pos 0 = 0 then []
    else if 192 ≤ pkt.getD pos 0 then
      if pos + 1 < pkt.length ∧ pkt.getD pos 0 % 64 * 256 + pkt.getD (pos + 1) 0 < pkt.length then
        jump (pkt.getD pos 0 % 64 * 256 + pkt.getD (pos + 1) 0)
      else []
    else if 64 ≤ pkt.getD pos 0 then []
    else if pkt.length ≤ pos + 1 then []
    else (pkt.drop (pos + 1)).take (pkt.getD pos 0) :: walkFrom pkt jump fuel (pos + 1 + pkt.getD pos 0)

/-- the labels of the name at `pos`, following at most `budget - 1` pointers -/
def wireLabels (pkt : List Nat) : Nat → Nat → List (List Nat)
  | 0, _ => []
  | j + 1, pos => walkFrom pkt (wireLabels pkt j) pkt.length pos

def PlainLabel (l : List Nat) : Prop := 0 ∉ l ∧ 46 ∉ l

theorem walkFrom_stop (pkt : List Nat) (jump : Nat → List (List Nat)) (fuel s : Nat)
    (h : ¬ s < pkt.length ∨ pkt.getD s 0 = 0) : walkFrom pkt jump fuel s = [] := by
  cases fuel with
  | zero => rfl
  | succ fuel =>
    rcases h with h | h
    · rw [walkFrom, if_pos (by omega)]
    · by_cases hs : pkt.length ≤ s
      · rw [walkFrom, if_pos hs]
      · rw [walkFrom, if_neg hs, if_pos h]

theorem walkFrom_ptr (pkt : List Nat) (jump : Nat → List (List Nat)) (fuel s : Nat)
    (h1 : s < pkt.length) (h2 : 192 ≤ pkt.getD s 0) :
    walkFrom pkt jump (fuel + 1) s =
      if s + 1 < pkt.length ∧ pkt.getD s 0 % 64 * 256 + pkt.getD (s + 1) 0 < pkt.length then
        jump (pkt.getD s 0 % 64 * 256 + pkt.getD (s + 1) 0)
      else [] := by
  rw [walkFrom, if_neg (by omega), if_neg (by omega), if_pos h2]

theorem walkFrom_last (pkt : List Nat) (jump : Nat → List (List Nat)) (fuel s : Nat)
    (h3 : pkt.getD s 0 < 64) (h4 : ¬ s + 1 < pkt.length) : walkFrom pkt jump fuel s = [] := by
  cases fuel with
  | zero => rfl
  | succ fuel =>
    by_cases hs : pkt.length ≤ s
    · rw [walkFrom, if_pos hs]
    · by_cases h0 : pkt.getD s 0 = 0
      · rw [walkFrom, if_neg hs, if_pos h0]
      · rw [walkFrom, if_neg hs, if_neg h0, if_neg (by omega), if_neg (by omega), if_pos (by omega)]

theorem walkFrom_label (pkt : List Nat) (jump : Nat → List (List Nat)) (fuel s : Nat)
    (h1 : s + 1 < pkt.length) (h2 : pkt.getD s 0 ≠ 0) (h3 : pkt.getD s 0 < 64) :
    walkFrom pkt jump (fuel + 1) s =
      (pkt.drop (s + 1)).take (pkt.getD s 0) :: walkFrom pkt jump fuel (s + 1 + pkt.getD s 0) := by
  rw [walkFrom, if_neg (by omega), if_neg h2, if_neg (by omega), if_neg (by omega), if_neg (by omega)]

/-! ### dotted names -/

/-- a label as it may stand in a legal name -/
def GoodLabel (l : List Nat) : Prop := 1 ≤ l.length ∧ l.length ≤ 63 ∧ ∀ c ∈ l, c ≠ 0 ∧ c ≠ 46 ∧ c < 256

def dotEnd (ls : List (List Nat)) : List Nat := ls.flatMap (fun l => l ++ [46])

theorem dotEnd_append (a b : List (List Nat)) : dotEnd (a ++ b) = dotEnd a ++ dotEnd b := by
  simp [dotEnd]

theorem dotEnd_single (l : List Nat) : dotEnd [l] = l ++ [46] := by simp [dotEnd]

theorem dotEnd_cons (l : List Nat) (ls : List (List Nat)) : dotEnd (l :: ls) = l ++ 46 :: dotEnd ls := by
  simp [dotEnd]

/-- a non-empty `dotEnd` ends in the dot of its last label -/
theorem dotEnd_snoc {ls : List (List Nat)} (h : dotEnd ls ≠ []) :
    ∃ init last, ls = init ++ [last] ∧ dotEnd ls = (dotEnd init ++ last) ++ [46] := by
  have hne : ls ≠ [] := fun e => h (e ▸ rfl)
  refine ⟨ls.dropLast, ls.getLast hne, (List.dropLast_concat_getLast hne).symm, ?_⟩
  conv => lhs; rw [← List.dropLast_concat_getLast hne]
  rw [dotEnd_append, dotEnd_single, List.append_assoc]

/-- `o` is the labels `ls` separated by dots, or that followed by one more dot -/
def Shape (o : List Nat) (ls : List (List Nat)) : Prop :=
  (∀ l ∈ ls, GoodLabel l) ∧ (o = dotEnd ls ∨ ∃ init last, ls = init ++ [last] ∧ o = dotEnd init ++ last)

theorem dotEnd_nonul (ls : List (List Nat)) (h : ∀ l ∈ ls, GoodLabel l) : ∀ c ∈ dotEnd ls, c ≠ 0 ∧ c < 256 := by
  intro c hc
  simp only [dotEnd, List.mem_flatMap, List.mem_append, List.mem_singleton] at hc
  obtain ⟨l, hl, hc | hc⟩ := hc
  · have := (h l hl).2.2 c hc; exact ⟨this.1, this.2.2⟩
  · subst hc; exact ⟨by decide, by decide⟩

theorem shape_nonul {o : List Nat} {ls : List (List Nat)} (h : Shape o ls) : ∀ c ∈ o, c ≠ 0 ∧ c < 256 := by
  obtain ⟨hg, ho | ⟨init, last, hls, ho⟩⟩ := h
  · rw [ho]; exact dotEnd_nonul ls hg
  · rw [ho]
    intro c hc
    rcases List.mem_append.1 hc with hc | hc
    · exact dotEnd_nonul init (fun l hl => hg l (by rw [hls]; simp [hl])) c hc
    · have := (hg last (by rw [hls]; simp)).2.2 c hc; exact ⟨this.1, this.2.2⟩

theorem labels_dotEnd_append (init : List (List Nat)) (last : List Nat) (h : ∀ l ∈ init ++ [last], 46 ∉ l) :
    labels (dotEnd init ++ last) = init ++ [last] := by
  induction init with
  | nil => simpa [dotEnd] using labels_dotfree last (h last (by simp))
  | cons d init ih =>
    rw [dotEnd_cons, List.append_assoc, List.cons_append, labels_append_dot,
      labels_dotfree d (h d (by simp)), ih (fun l hl => h l (by simp at hl ⊢; exact Or.inr hl))]
    simp

theorem legal_of_shape_last (init : List (List Nat)) (last : List Nat) (h : ∀ l ∈ init ++ [last], GoodLabel l)
    (hlen : (dotEnd init ++ last).length ≤ 253) :
    LegalName (dotEnd init ++ last) ∧ labels (dotEnd init ++ last) = init ++ [last] := by
  have hl := labels_dotEnd_append init last (fun l hl c => ((h l hl).2.2 46 c).2.1 rfl)
  refine ⟨⟨hlen, ?_, ?_⟩, hl⟩
  · exact shape_nonul (ls := init ++ [last]) ⟨h, Or.inr ⟨init, last, rfl, rfl⟩⟩
  · rw [hl]; intro l hl'; exact ⟨(h l hl').1, (h l hl').2.1⟩

theorem byte_bits : ∀ c, c < 256 →
    ((c &&& 192 = 192) ↔ 192 ≤ c) ∧ ((c &&& 192 = 0) ↔ c < 64) ∧ c &&& 63 = c % 64 ∧ c &&& 255 = c := by
  decide +kernel

theorem ptr_offset (c c2 : Nat) (h : c < 256) (h2 : c2 < 256) : (c &&& 63) <<< 8 ||| c2 &&& 255 = c % 64 * 256 + c2 := by
  rw [(byte_bits c h).2.2.1, (byte_bits c2 h2).2.2.2, ← Nat.shiftLeft_add_eq_or_of_lt (by omega), Nat.shiftLeft_eq]

/-! ### `readname` on plain labels -/

/-- what `readname_loop` has stored when it returns: nothing; or `o` and a NUL where `o` is NUL-free and either fills the
array (`length` bytes with the NUL) or is ALL the labels on the wire, dotted, or a prefix of them, dotted, with one more dot -/
def NameRes (length : Nat) (total : List (List Nat)) (w : List Nat) : Prop :=
  w = [] ∨ ∃ o, w = o ++ [0] ∧ (∀ c ∈ o, c ≠ 0) ∧
    (o.length + 1 = length ∨ (o.length + 1 < length ∧ ∃ ls, ls <+: total ∧ Shape o ls ∧ (ls = total ∨ o = dotEnd ls)))

/-- the loop invariant at the loop test: `out` is the labels `done` each followed by a dot and the walk goes on at `s`;
or `out` ends in a label without a dot, the walk is over and so is the loop -/
def LoopInv (pkt : List Nat) (jump : Nat → List (List Nat)) (total : List (List Nat)) (fuel s : Nat) (out : List Nat) : Prop :=
  ∃ done, (∀ l ∈ done, GoodLabel l) ∧
    ((out = dotEnd done ∧ done ++ walkFrom pkt jump fuel s = total) ∨
     (∃ init last, done = init ++ [last] ∧ out = dotEnd init ++ last ∧ done = total ∧
        (¬ s < pkt.length ∨ pkt.getD s 0 = 0)))

theorem LoopInv.shape {pkt : List Nat} {jump : Nat → List (List Nat)} {total : List (List Nat)} {fuel s : Nat} {out : List Nat}
    (h : LoopInv pkt jump total fuel s out) : ∃ ls, ls <+: total ∧ Shape out ls ∧ (ls = total ∨ out = dotEnd ls) := by
  obtain ⟨done, hg, ⟨ho, ht⟩ | ⟨init, last, hd, ho, ht, _⟩⟩ := h
  · exact ⟨done, ⟨_, ht⟩, ⟨hg, Or.inl ho⟩, Or.inr ho⟩
  · exact ⟨done, ht ▸ List.prefix_refl _, ⟨hg, Or.inr ⟨init, last, hd, ho⟩⟩, Or.inl ht⟩

theorem nameRes_of_shape {length : Nat} {total : List (List Nat)} {out : List Nat} (ho : out.length < length)
    (h : ∃ ls, ls <+: total ∧ Shape out ls ∧ (ls = total ∨ out = dotEnd ls)) : NameRes length total (out ++ [0]) := by
  obtain ⟨ls, hp, hs, hx⟩ := h
  refine Or.inr ⟨out, rfl, fun c hc => (shape_nonul hs c hc).1, ?_⟩
  by_cases h1 : out.length + 1 = length
  · exact Or.inl h1
  · exact Or.inr ⟨by omega, ls, hp, hs, hx⟩

theorem shape_append {done ls' : List (List Nat)} {o' : List Nat} (hg : ∀ l ∈ done, GoodLabel l) (h : Shape o' ls') :
    Shape (dotEnd done ++ o') (done ++ ls') := by
  obtain ⟨hg', ho | ⟨init, last, hls, ho⟩⟩ := h
  · refine ⟨fun l hl => ?_, Or.inl (by rw [dotEnd_append, ho])⟩
    rcases List.mem_append.1 hl with h | h
    · exact hg l h
    · exact hg' l h
  · refine ⟨fun l hl => ?_, Or.inr ⟨done ++ init, last, by rw [hls, List.append_assoc], by rw [dotEnd_append, ho, List.append_assoc]⟩⟩
    rcases List.mem_append.1 hl with h | h
    · exact hg l h
    · exact hg' l h

/-- **The simulation.**  One activation of `readname_loop` over a datagram of bytes whose labels on the wire (the walk `total`
of this activation) are plain: the instance of `Wire.nameLoop_walk` for the invariant `LoopInv`. -/
theorem nameLoop_plain {pkt res : Array Nat} {cap : Nat} (hbytes : IsBytes pkt.toList) (length : Nat)
    (rec : Nat → Nat → Except Fault (List Nat)) (src0 : Nat) (jump : Nat → List (List Nat))
    (hrec : ∀ off len, 0 < len → Same (pkt.size ≤ cap) True
      (fun w => (∀ l ∈ jump off, PlainLabel l) → NameRes len (jump off) w) (rec off len) (rec off len))
    (total : List (List Nat)) (hplain : ∀ l ∈ total, PlainLabel l) :
    ∀ fuel s out, pkt.size - s ≤ fuel → out.length < length → LoopInv pkt.toList jump total fuel s out →
      Same (pkt.size ≤ cap) True (fun r => NameRes length total r.2)
        (nameLoop ⟨pkt, res, cap⟩ length rec src0 fuel s out) (nameLoop ⟨pkt, res, cap⟩ length rec src0 fuel s out) := by
  generalize hP : pkt.toList = P at hbytes
  have hsz : pkt.size = P.length := by rw [← hP]; simp
  have hget : ∀ i, pkt.getD i 0 = P.getD i 0 := fun i => by rw [← hP, getD_toList]
  -- the state of the walk at a length byte that is not the end of the name
  have open_ : ∀ {fuel s out}, LoopInv P jump total (fuel + 1) s out → s < P.length → P.getD s 0 ≠ 0 →
      ∃ done, (∀ l ∈ done, GoodLabel l) ∧ out = dotEnd done ∧ done ++ walkFrom P jump (fuel + 1) s = total := by
    rintro fuel s out ⟨done, hg, ⟨hout, htot⟩ | ⟨_, _, _, _, _, hstop⟩⟩ hsP hc0
    · exact ⟨done, hg, hout, htot⟩
    · exact (hstop.elim (fun h => h hsP) hc0).elim
  refine nameLoop_walk (I := LoopInv P jump total) (Post := NameRes length total) length rec rec src0 hrec (.inl rfl)
    (fun hi ho => nameRes_of_shape ho hi.shape) ?_ ?_
  · -- behind a compression pointer
    intro fuel s out sub hi h3 hl hc0 h2 hoff hsub h6
    rw [hsz] at h3 hoff
    rw [hget, hget] at hoff hsub
    rw [hget] at hc0 h2
    have hsP : s < P.length := by omega
    have hc256 : P.getD s 0 < 256 := hbytes _ (mem_of_getD_lt hsP)
    have hc2 : P.getD (s + 1) 0 < 256 := hbytes _ (mem_of_getD_lt h3)
    rw [ptr_offset _ _ hc256 hc2] at hoff hsub
    obtain ⟨done, hg, hout, htot⟩ := open_ hi hsP hc0
    rw [walkFrom_ptr P jump fuel s hsP ((byte_bits _ hc256).1.1 h2), if_pos ⟨h3, hoff⟩] at htot
    have hnn : ∀ c ∈ out, c ≠ 0 := fun c hc => (dotEnd_nonul done hg c (hout ▸ hc)).1
    rcases hsub (fun l hl => hplain l (by rw [← htot]; exact List.mem_append_right _ hl)) with
      hnil | ⟨o', hw, hnn', hcase⟩
    · subst hnil
      have : out = [] := List.eq_nil_of_length_eq_zero (by simp only [List.length_nil, true_and] at h6; omega)
      left; simp only [this, List.append_nil]
    · right
      refine ⟨out ++ o', by rw [hw, List.append_assoc], fun c hc => (List.mem_append.1 hc).elim (hnn c) (hnn' c), ?_⟩
      rcases hcase with hfull | ⟨hlt, ls', hpre, hshape, hx⟩
      · left; simp only [List.length_append]; omega
      · right
        refine ⟨by simp only [List.length_append]; omega, done ++ ls', ?_, ?_, ?_⟩
        · obtain ⟨t, ht⟩ := hpre
          exact ⟨t, by rw [← htot, ← ht, List.append_assoc]⟩
        · rw [hout]; exact shape_append hg hshape
        · rcases hx with hx | hx
          · left; rw [← htot, hx]
          · right; rw [hout, hx, dotEnd_append]
  · -- a label
    intro fuel s out k hi hs hl hc0 _ h3 hk hsk ho' hwhy
    rw [hP] at ho' hwhy ⊢
    rw [hsz] at hs hsk hwhy ⊢
    rw [hget] at hc0 h3 hk hwhy
    simp only [hget] at hwhy ⊢
    have hc256 : P.getD s 0 < 256 := hbytes _ (mem_of_getD_lt hs)
    have h64 := (byte_bits _ hc256).2.1.1 h3
    obtain ⟨done, hg, hout, htot⟩ := open_ hi hs hc0
    have hnn : ∀ c ∈ out, c ≠ 0 := fun c hc => (dotEnd_nonul done hg c (hout ▸ hc)).1
    -- the label on the wire
    have hlab : s + 1 < P.length →
        done ++ (P.drop (s + 1)).take (P.getD s 0) :: walkFrom P jump fuel (s + 1 + P.getD s 0) = total ∧
        ∀ l ∈ done ++ [(P.drop (s + 1)).take (P.getD s 0)], GoodLabel l := by
      intro h1P
      rw [walkFrom_label P jump fuel s h1P hc0 h64] at htot
      have hp := hplain ((P.drop (s + 1)).take (P.getD s 0)) (by rw [← htot]; simp)
      refine ⟨htot, fun l hl => (List.mem_append.1 hl).elim (hg l) fun h => List.mem_singleton.1 h ▸ ⟨?_, ?_, fun c hc =>
        ⟨fun e => hp.1 (e ▸ hc), fun e => hp.2 (e ▸ hc), hbytes c (List.mem_of_mem_drop (List.mem_of_mem_take hc))⟩⟩⟩ <;>
        (simp only [List.length_take, List.length_drop]; omega)
    refine ⟨fun hfull => .inr ⟨_, rfl, fun c hc => ?_, .inl (by omega)⟩, fun hroom => ⟨fun h5 h6 => ?_, fun h56 => ?_⟩⟩
    · rcases List.mem_append.1 hc with hc | hc
      · exact hnn c hc
      · by_cases h1P : s + 1 < P.length
        · exact (((hlab h1P).2 _ (by simp)).2.2 c ((List.take_prefix_take_left hk).subset hc)).1
        · rw [List.drop_of_length_le (by omega)] at hc; simp at hc
    · -- the whole label, and the name goes on: a dot
      have hkc : k = P.getD s 0 := by rcases hwhy with h | h | h <;> first | exact h | exact absurd h5 h | exact absurd hroom h
      obtain ⟨htot', hg2⟩ := hlab (by omega)
      refine ⟨done ++ [(P.drop (s + 1)).take (P.getD s 0)], hg2, .inl ⟨?_, ?_⟩⟩
      · rw [dotEnd_append, dotEnd_single, hout, hkc, List.append_assoc]
      · rw [← htot', hkc, List.append_assoc]; rfl
    · -- the walk is over
      by_cases h1P : s + 1 < P.length
      · obtain ⟨htot', hg2⟩ := hlab h1P
        have hstop : ¬ s + 1 + k < P.length ∨ P.getD (s + 1 + k) 0 = 0 := by
          by_cases h5 : s + 1 + k < P.length
          · exact .inr (Decidable.byContradiction fun h6 => h56 ⟨h5, h6⟩)
          · exact .inl h5
        have hcut : (P.drop (s + 1)).take k = (P.drop (s + 1)).take (P.getD s 0) ∧
            walkFrom P jump fuel (s + 1 + P.getD s 0) = [] := by
          rcases hwhy with h | h | h
          · rw [← h]; exact ⟨rfl, walkFrom_stop P jump fuel _ hstop⟩
          · exact ⟨by rw [List.take_of_length_le (by simp only [List.length_drop]; omega),
              List.take_of_length_le (by simp only [List.length_drop]; omega)], walkFrom_stop P jump fuel _ (.inl (by omega))⟩
          · exact absurd hroom h
        refine ⟨done ++ [(P.drop (s + 1)).take (P.getD s 0)], hg2, .inr ⟨done, _, rfl, by rw [hout, hcut.1], ?_, hstop⟩⟩
        rw [← htot', hcut.2]
      · refine ⟨done, hg, .inl ⟨by rw [hout, List.drop_of_length_le (by omega)]; simp, ?_⟩⟩
        rw [walkFrom_last P jump _ s h64 h1P] at htot
        rw [walkFrom_stop P jump fuel _ (.inl (by omega))]
        exact htot

theorem readnameLoop_plain {pkt res : Array Nat} {cap : Nat} (hbytes : IsBytes pkt.toList) :
    ∀ loop src length, 0 < length → Same (pkt.size ≤ cap) True
      (fun r => (∀ l ∈ wireLabels pkt.toList loop src, PlainLabel l) → NameRes length (wireLabels pkt.toList loop src) r.2)
      (readnameLoop ⟨pkt, res, cap⟩ loop src length) (readnameLoop ⟨pkt, res, cap⟩ loop src length) := by
  intro loop
  induction loop with
  | zero => intro src length _; exact .pure _ fun _ => .inl rfl
  | succ loop ih =>
    intro src length hl
    simp only [readnameLoop]
    by_cases hp : ∀ l ∈ wireLabels pkt.toList (loop + 1) src, PlainLabel l
    · refine (nameLoop_plain hbytes length _ src (wireLabels pkt.toList loop)
        (fun off len hlen => (ih off len hlen).map _ fun _ h => h) _ hp pkt.size src [] (by omega) (by simpa using hl)
        ⟨[], by simp, .inl ⟨rfl, ?_⟩⟩).mono fun _ h _ => h
      simp [wireLabels]
    · exact (readnameLoop_same (.triv pkt) (loop + 1) src length hl).mono fun _ _ h => absurd h hp

/-- **`dns_decode(QR_QUERY)` on plain labels**: the datagram is dropped (`rv ≤ 0`), or the name handed on is non-empty, has at most
253 characters and is all the labels on the wire, dotted, or a prefix of them, dotted, followed by one more dot. -/
theorem dnsDecodeQuery_plain {pkt res : Array Nat} {cap : Nat} (hbytes : IsBytes pkt.toList)
    (hp : ∀ l ∈ wireLabels pkt.toList 10 12, PlainLabel l) {d : Decoded} (h : dnsDecodeQuery ⟨pkt, res, cap⟩ = .ok d) :
    d.rv ≤ 0 ∨ ∃ ls, ls <+: wireLabels pkt.toList 10 12 ∧ Shape d.name ls ∧
      (ls = wireLabels pkt.toList 10 12 ∨ d.name = dotEnd ls) ∧ d.name ≠ [] ∧ d.name.length ≤ 253 := by
  rcases dnsDecodeQuery_ok_cases h with ⟨hrv, _⟩ | ⟨dd, w, hrn, hle, _, _, hname, hrv⟩
  · exact Or.inl hrv
  have hrl : readnameLoop ⟨pkt, res, cap⟩ 10 12 255 = .ok (dd, w) := by
    simpa [readname] using hrn
  have hres := (readnameLoop_plain hbytes 10 12 255 (by omega)).post _ hrl hp
  -- the C string in `name[]`: too long, empty, or the labels read
  have hfact : (cstr (w.take 255)).length > 253 ∨ cstr (w.take 255) = [] ∨
      ∃ ls, ls <+: wireLabels pkt.toList 10 12 ∧ Shape (cstr (w.take 255)) ls ∧
        (ls = wireLabels pkt.toList 10 12 ∨ cstr (w.take 255) = dotEnd ls) := by
    rcases hres with hnil | ⟨o, hw, hnn, hfull | ⟨hlt, ls, hpre, hsh, hx⟩⟩
    · simp only at hnil
      right; left; rw [hnil]; rfl
    · simp only at hw
      left
      rw [hw, List.take_of_length_le (by simp only [List.length_append, List.length_cons, List.length_nil]; omega),
        Wire.cstr_append_nul o [] hnn]
      omega
    · simp only at hw
      right; right
      rw [hw, List.take_of_length_le (by simp only [List.length_append, List.length_cons, List.length_nil]; omega),
        Wire.cstr_append_nul o [] hnn]
      exact ⟨ls, hpre, hsh, hx⟩
  generalize cstr (w.take 255) = nm at hname hle hfact
  have hnm : d.name = nm := by
    have h256 : nm.take 256 = nm := List.take_of_length_le (by omega)
    rw [hname, h256, List.take_of_length_le (by omega)]
  rw [hnm] at hrv ⊢
  rcases hfact with hf | hf | ⟨ls, hpre, hsh, hx⟩
  · exact absurd hf hle
  · left; rw [hrv, hf]; simp
  · by_cases hne : nm = []
    · left; rw [hrv, hne]; simp
    · right; exact ⟨ls, hpre, hsh, hx, hne, by omega⟩

end Iodine.BytesL
