import IodineModel.Client.ReadDns
import IodineModel.Lemmas.WireRt3
/-
The client's MX/SRV loop (`mxParts`, client.c `read_dns_withq`) run over the buffer the decoder's output
loop (`mxOutPure`) produced from a list of host names, each of which carries a chunk of the payload.
Abstract in the codec: `Carries name chunk` is what `dns_namedec` is required to do with a name and with cuts
of it (established for the names of `write_dns_nameenc` by `carries_nameenc`, Lemmas/MxServer.lean).
-/
namespace Iodine.Downstream
open Iodine Iodine.Wire Iodine.Client.ReadDns

/-- `dns_namedec` on the memory holding `name` (or its first `l` characters) and a NUL -/
structure Carries (name chunk : List Nat) : Prop where
  len_ge : 4 ≤ name.length
  chunk_ne : chunk ≠ []
  nonul : ∀ c ∈ name, c ≠ 0
  /-- a cut of the name, decoded with any length up to one beyond the cut: a prefix of the chunk -/
  cut : ∀ (N l t : Nat) (rest : List Nat), 1 ≤ l → l ≤ name.length → t ≤ l + 1 →
    dnsNamedec N (name.take l ++ 0 :: rest) t <+: chunk
  /-- the whole name, with its own length or one more: the chunk -/
  exact : ∀ (N t : Nat) (rest : List Nat), (t = name.length ∨ t = name.length + 1) → chunk.length ≤ N →
    dnsNamedec N (name ++ 0 :: rest) t = chunk
  /-- the name without its last character, decoded with one more than what is left: still the chunk -/
  exact1 : ∀ (N : Nat) (rest : List Nat), chunk.length ≤ N →
    dnsNamedec N (name.take (name.length - 1) ++ 0 :: rest) name.length = chunk
  /-- two or more characters lost: strictly less than the chunk -/
  strict : ∀ (N l : Nat) (rest : List Nat), 1 ≤ l → l + 2 ≤ name.length →
    (dnsNamedec N (name.take l ++ 0 :: rest) (l + 1)).length < chunk.length

/-- all names but the last have length `L`, the last at most `L` -/
def Uniform (L : Nat) : List (List Nat × List Nat) → Prop
  | [] => True
  | it :: rest => it.1.length ≤ L ∧ (rest ≠ [] → it.1.length = L) ∧ Uniform L rest

theorem uniform_first (L : Nat) (it : List Nat × List Nat) (rest : List (List Nat × List Nat))
    (h : Uniform L (it :: rest)) : Uniform it.1.length (it :: rest) := by
  obtain ⟨h1, h2, h3⟩ := h
  cases rest with
  | nil => exact ⟨Nat.le_refl _, fun h => absurd rfl h, trivial⟩
  | cons a b =>
    have := h2 (by simp)
    rw [this]
    exact ⟨Nat.le_of_eq this, fun _ => this, h3⟩

theorem mxParts_zero_len (first buftotal : Nat) (mem : List Nat) (fuel bufoffset : Nat) (out : List Nat)
    (h : buftotal ≤ bufoffset) : mxParts first buftotal mem fuel bufoffset out = out := by
  cases fuel with
  | zero => rfl
  | succ f =>
    simp only [mxParts]
    rw [if_pos (Or.inl (by omega))]

/-- bytes the names take in the buffer, each with its NUL -/
def joinedLen (names : List (List Nat)) : Nat := (names.map (fun n => n.length + 1)).sum

theorem joinedLen_cons (n : List Nat) (r : List (List Nat)) : joinedLen (n :: r) = n.length + 1 + joinedLen r := by
  simp [joinedLen]

theorem joinedLen_pos (items : List (List Nat × List Nat)) (h : ∀ it ∈ items, Carries it.1 it.2) (hne : items ≠ []) :
    5 ≤ joinedLen (items.map (·.1)) := by
  cases items with
  | nil => exact absurd rfl hne
  | cons it r =>
    have := (h it (by simp)).len_ge
    simp only [List.map_cons, joinedLen_cons]
    omega

theorem flatten_pos (items : List (List Nat × List Nat)) (h : ∀ it ∈ items, Carries it.1 it.2) (hne : items ≠ []) :
    0 < (items.map (·.2)).flatten.length := by
  cases items with
  | nil => exact absurd rfl hne
  | cons it r =>
    have := List.length_pos_iff.mpr (h it (by simp)).chunk_ne
    simp only [List.map_cons, List.flatten_cons, List.length_append]
    omega

/-- what the loop extracts, as a function of the names and their chunks: the chunks of the names that arrive whole
(and have the common length), then whatever the cut last name decodes to.  `o` = bytes of the buffer in front of
the names, `a` = bytes extracted so far. -/
def mxExpected (L B : Nat) : List (List Nat × List Nat) → (o a : Nat) → List Nat
  | [], _, _ => []
  | it :: rest, o, a =>
    if o + 2 ≥ B then []
    else if min it.1.length (B - (o + 2)) = L then
      it.2 ++ mxExpected L B rest (o + min it.1.length (B - (o + 2)) + 1) (a + it.2.length)
    else dnsNamedec (dataSize - a) (it.1.take (min it.1.length (B - (o + 2))) ++ [0, 0])
      (min it.1.length (B - (o + 2)) + 1)

/-- The last name in the buffer: shorter than the common length `L`, possibly cut to `l` characters by the room that
was left.  It decodes to its chunk when at most its final character is missing and to less when more is; the names
fit the buffer exactly when the chunk is complete and no further name follows. -/
theorem last_name_decodes {n ch : List Nat} (hc : Carries n ch) (rest : List (List Nat × List Nat))
    (hCrest : ∀ it ∈ rest, Carries it.1 it.2) (L B o l N : Nat) (hroom : ¬ o + 2 ≥ B)
    (hl : min n.length (B - (o + 2)) = l) (hlt : l < L) (hnLast : rest ≠ [] → n.length = L) (hN : ch.length ≤ N) :
    (o + (n.length + 1 + joinedLen (rest.map (·.1))) ≤ B →
      dnsNamedec N (n.take l ++ 0 :: ([] ++ [0])) (l + 1) = ch ∧ rest = []) ∧
    (B < o + (n.length + 1 + joinedLen (rest.map (·.1))) →
      (dnsNamedec N (n.take l ++ 0 :: ([] ++ [0])) (l + 1)).length < ch.length ∨
      (dnsNamedec N (n.take l ++ 0 :: ([] ++ [0])) (l + 1) = ch ∧ rest ≠ [])) := by
  have hn4 := hc.len_ge
  have hrestpos : rest ≠ [] → 5 ≤ joinedLen (rest.map (·.1)) := joinedLen_pos rest hCrest
  by_cases hwhole : l = n.length
  · -- the whole name is there; it is the last one
    have hrest : rest = [] := by
      cases rest with
      | nil => rfl
      | cons a b => have := hnLast (by simp); omega
    have htake : n.take l = n := List.take_of_length_le (by omega)
    rw [htake, hc.exact _ (l + 1) _ (Or.inr (by rw [hwhole])) hN, hrest]
    refine ⟨fun _ => ⟨rfl, rfl⟩, fun h => ?_⟩
    simp [joinedLen] at h
    omega
  · -- truncated: l = B - o - 2
    by_cases hone : l + 1 = n.length
    · have hdec : dnsNamedec N (n.take l ++ 0 :: ([] ++ [0])) (l + 1) = ch := by
        rw [show l = n.length - 1 by omega, show n.length - 1 + 1 = n.length by omega]
        exact hc.exact1 _ _ hN
      rw [hdec]
      constructor
      · intro hfit
        refine ⟨rfl, ?_⟩
        cases rest with
        | nil => rfl
        | cons a b => have := hrestpos (by simp); omega
      · intro hnfit
        refine Or.inr ⟨rfl, fun hr => ?_⟩
        rw [hr] at hnfit
        simp [joinedLen] at hnfit
        omega
    · exact ⟨fun hfit => by omega, fun _ => Or.inl (hc.strict _ l _ (by omega) (by omega))⟩

/-- The client's loop over the buffer `mxOutPure` built: it extracts a prefix of the concatenated chunks; all of
them exactly when the names, with their NULs, take at most `B` bytes behind `out0` (then the last name has lost
at most its final character). -/
theorem mxParts_run (L B : Nat) (hB : B ≤ 65536) : ∀ (items : List (List Nat × List Nat)) (out0 acc : List Nat)
    (fuel : Nat), Uniform L items → (∀ it ∈ items, Carries it.1 it.2) → out0.length < B →
    acc.length + (items.map (·.2)).flatten.length < 65536 →
    (mxOutPure B (items.map (·.1)) out0).length - out0.length ≤ fuel →
    ∃ D, mxParts L (mxOutPure B (items.map (·.1)) out0).length (mxOutPure B (items.map (·.1)) out0 ++ [0]) fuel
          out0.length acc = acc ++ D ∧ D <+: (items.map (·.2)).flatten ∧
      (out0.length + joinedLen (items.map (·.1)) ≤ B → D = (items.map (·.2)).flatten) ∧
      (B < out0.length + joinedLen (items.map (·.1)) → D.length < (items.map (·.2)).flatten.length) ∧
      D = mxExpected L B items out0.length acc.length := by
  intro items
  induction items with
  | nil =>
    intro out0 acc fuel _ _ ho _ _
    refine ⟨[], ?_, List.nil_prefix, fun _ => rfl, fun h => ?_, rfl⟩
    · simp only [List.map_nil, mxOutPure, List.append_nil]
      exact mxParts_zero_len _ _ _ _ _ _ (Nat.le_refl _)
    · simp [joinedLen] at h; omega
  | cons it rest ih =>
    intro out0 acc fuel hU hC ho hacc hfuel
    obtain ⟨n, ch⟩ := it
    obtain ⟨hnL, hnLast, hUrest⟩ := hU
    have hc := hC (n, ch) (by simp)
    have hCrest : ∀ it ∈ rest, Carries it.1 it.2 := fun it hit => hC it (by simp [hit])
    simp only at hnL hnLast hc
    have hn4 := hc.len_ge
    have hchpos : 0 < ch.length := List.length_pos_iff.mpr hc.chunk_ne
    simp only [List.map_cons, mxOutPure, List.flatten_cons, List.length_append, joinedLen_cons, mxExpected] at hacc hfuel ⊢
    by_cases hroom : out0.length + 2 ≥ B
    · -- no room for another name
      rw [if_pos hroom, if_pos hroom]
      refine ⟨[], ?_, List.nil_prefix, fun h => by omega, fun _ => by simp only [List.length_nil]; omega, rfl⟩
      rw [List.append_nil]
      exact mxParts_zero_len _ _ _ _ _ _ (Nat.le_refl _)
    · rw [if_neg hroom] at hfuel ⊢
      rw [if_neg hroom]
      generalize hl : min n.length (B - (out0.length + 2)) = l at hfuel ⊢
      have hl1 : 1 ≤ l := by omega
      have hln : l ≤ n.length := by omega
      have hout' : (out0 ++ n.take l ++ [0]).length = out0.length + l + 1 := by
        simp only [List.length_append, List.length_take, List.length_cons, List.length_nil]; omega
      obtain ⟨X, hX⟩ := mxOutPure_prefix B (rest.map (·.1)) (out0 ++ n.take l ++ [0])
      generalize hR : mxOutPure B (rest.map (·.1)) (out0 ++ n.take l ++ [0]) = R at hfuel hX ⊢
      have hRlen : R.length = out0.length + l + 1 + X.length := by rw [← hX, List.length_append, hout']
      have hmem : (R ++ [0]).drop out0.length = n.take l ++ 0 :: (X ++ [0]) := by
        rw [← hX]
        simp only [List.append_assoc]
        rw [List.drop_left' rfl]
        simp
      have hds : ¬ (dataSize - acc.length = 0) := by simp only [dataSize]; omega
      have hN : ch.length ≤ dataSize - acc.length := by simp only [dataSize]; omega
      by_cases hlL : l = L
      · -- a name of the common length: decoded with its own length
        have hnl : n.length = L := by omega
        have htake : n.take l = n := List.take_of_length_le (by omega)
        obtain ⟨f, rfl⟩ : ∃ f, fuel = f + 1 := ⟨fuel - 1, by omega⟩
        have htpl : min L (R.length - out0.length) = L := by omega
        have hd : dnsNamedec (dataSize - acc.length) ((R ++ [0]).drop out0.length) L = ch := by
          rw [hmem, htake]
          exact hc.exact _ _ _ (Or.inl hnl.symm) hN
        simp only [mxParts, htpl, hd]
        rw [if_neg (by omega), if_neg (by omega)]
        have hoff : out0.length + L + 1 = (out0 ++ n.take l ++ [0]).length := by rw [hout', hlL]
        rw [hoff, ← hR]
        obtain ⟨D, hD, hpre, hex, hnex, hexp⟩ := ih (out0 ++ n.take l ++ [0]) (acc ++ ch) f hUrest hCrest
          (by rw [hout']; omega) (by simp only [List.length_append]; omega) (by rw [hR, hout']; omega)
        refine ⟨ch ++ D, ?_, ?_, ?_, ?_, ?_⟩
        · rw [hD, List.append_assoc]
        · exact (List.prefix_append_right_inj ch).mpr hpre
        · intro hfit
          rw [hex (by rw [hout']; omega)]
        · intro hnfit
          have := hnex (by rw [hout']; omega)
          simp only [List.length_append]
          omega
        · rw [if_pos hlL, hexp, hout', List.length_append]
      · -- a shorter (last or truncated) name: nothing follows it in the buffer
        have hlt : l < L := by omega
        have hRout : R = out0 ++ n.take l ++ [0] := by
          rw [← hR]
          by_cases htr : l < n.length
          · -- truncated: the buffer is full
            cases hrest : rest.map (·.1) with
            | nil => rfl
            | cons a b =>
              simp only [mxOutPure]
              rw [if_pos (by rw [hout']; omega)]
          · have : rest = [] := by
              cases rest with
              | nil => rfl
              | cons a b => have := hnLast (by simp); omega
            rw [this]; rfl
        have hX0 : X = [] := by
          have h1 : R.length = out0.length + l + 1 := by rw [hRout, hout']
          exact List.eq_nil_of_length_eq_zero (by omega)
        rw [hX0] at hmem hRlen
        simp only [List.length_nil, Nat.add_zero] at hRlen
        obtain ⟨f, rfl⟩ : ∃ f, fuel = f + 1 := ⟨fuel - 1, by omega⟩
        have htpl : min L (R.length - out0.length) = l + 1 := by omega
        have hdpre := hc.cut (dataSize - acc.length) l (l + 1) ([] ++ [0]) hl1 hln (Nat.le_refl _)
        have hb : R.length ≤ out0.length + (l + 1) + 1 := by omega
        have hcase := last_name_decodes hc rest hCrest L B out0.length l (dataSize - acc.length) hroom hl hlt hnLast hN
        simp only [mxParts, htpl, hmem]
        rw [if_neg (by omega)]
        rw [if_neg hlL]
        rw [show n.take l ++ [0, 0] = n.take l ++ 0 :: ([] ++ [0]) from rfl]
        generalize dnsNamedec (dataSize - acc.length) (n.take l ++ 0 :: ([] ++ [0])) (l + 1) = d at hdpre hcase ⊢
        by_cases hd0 : d.length = 0
        · rw [if_pos hd0]
          refine ⟨[], by simp, List.nil_prefix, ?_, ?_, (List.eq_nil_of_length_eq_zero hd0).symm⟩
          · intro hfit
            have := (hcase.1 hfit).1
            rw [this] at hd0
            omega
          · intro _
            simp only [List.length_nil]; omega
        · rw [if_neg hd0]
          rw [mxParts_zero_len _ _ _ _ _ _ hb]
          refine ⟨d, rfl, List.IsPrefix.trans hdpre (List.prefix_append _ _), ?_, ?_, rfl⟩
          · intro hfit
            obtain ⟨h1, h2⟩ := hcase.1 hfit
            rw [h1, h2]; simp
          · intro hnfit
            rcases hcase.2 hnfit with h | ⟨h1, h2⟩
            · omega
            · have := flatten_pos rest hCrest h2
              rw [h1]; omega

end Iodine.Downstream
