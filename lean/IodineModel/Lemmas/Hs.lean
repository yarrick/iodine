import IodineModel.Lemmas.Client
import IodineModel.Lemmas.HsPos
/-
Lemmas about the handshake step machine (`Client/Handshake.lean`).  First the claim its header makes: with `send_query_sendcnt`
negative `send_query` is its plain head (`sendQuery_of_sendcnt_neg`).  Then a measure that every step which is not "reply ignored"
strictly decreases — the handshake cannot wedge.  The measure of an output is `orank`: 0 when `client_handshake` is over, else one
more than `hsRank` (Lemmas/HsPos.lean) of the place the thread is parked in.  `hstep_cases` says what one step is — reply ignored,
or the loop body of the place the thread is parked in, run in a state that differs only in the clock and `in[]` — for every
invariant of the machine to start from.  Last, two facts about `in[]`: a step depends neither on what earlier replies left there
nor on anything of a reply behind its length.
-/
namespace Iodine.Client
open Iodine Iodine.Gen

/-- The claim in the header of `Client/Handshake.lean`: while `send_query_sendcnt` is negative (it is -1 until
`client_tunnel` starts) the "too few answers" block of `send_query` is dead: `send_query` is its plain head and never
enters `handshake_lazyoff`. -/
theorem sendQuery_of_sendcnt_neg (c : Cli) (h : List Nat) (hs : c.sendcnt < 0) :
    sendQuery c h = ⟨(sendQueryPlain c h).1.1, (sendQueryPlain c h).1.2, false⟩ := by
  have hs' := sendQueryPlain_sendcnt c h
  unfold sendQuery
  simp only
  split
  · have : ¬ (0 ≤ (sendQueryPlain c h).1.1.sendcnt) := by rw [hs']; omega
    simp [sendQueryCount, this]
  · rfl

/-- 0 = not running; otherwise 1 + the rank of the place -/
def posRank : Option HPos → Nat
  | none => 0
  | some p => hsRank p + 1

/-- measure of the state a piece of handshake code ends in -/
def orank (o : HOut) : Nat := posRank o.1.pos

@[simp] theorem orank_done (s : HState) (evs : List CEvent) (rv : Int) : orank (s.done evs rv) = 0 := rfl

@[simp] theorem orank_park (s : HState) (r : Res) (evs : List CEvent) (p : HPos) : orank (s.park r evs p) = hsRank p + 1 := rfl

theorem orank_hsEnd (s : HState) (evs : List CEvent) : orank (hsEnd s evs) = 0 := rfl

/-- the bound a continuation function comes with -/
theorem orank_of_leaf {l : Bool} {B : Nat} {s : HState} {evs : List CEvent} {o : HOut} (h : Leaf l B s evs o) : orank o ≤ B := by
  cases h with
  | stop s' nx _ => exact Nat.zero_le _
  | park s' r p _ _ hB => exact hB

/-- the measure at the first `select` of `client_handshake` -/
theorem orank_hsStart (c : Cli) (args : HsArgs) (pw dev : List Nat) : orank (hsStart c args pw dev) ≤ 162 :=
  orank_of_leaf (leaf_hsStart c args pw dev)

theorem posRank_le_hsRank {o : Option HPos} {p : HPos} (h : posRank o ≤ hsRank p) : posRank o < posRank (some p) := by
  show posRank o < hsRank p + 1
  omega

/-- an input on which the `select` returns 0 and `handshake_waitdns` -3: a timeout, or a tun frame — the handshake's `select` does
not watch the tun device, and `fire` (like the harness) then makes it return 0 WITHOUT advancing the clock -/
def isTimeoutInput : CInput → Bool
  | .tick => true
  | .tun _ => true
  | _ => false

/-- a `select` timeout proper (the clock has moved): what the bound on the number of timeouts counts -/
def isTick : CInput → Bool
  | .tick => true
  | _ => false

theorem hstep_idle (s : HState) (inp : CInput) (hp : s.pos = none) : hstep s inp = (s, [], .none) := by
  rw [hstep, hp]

/-- the state in which the code behind the `select` runs: the clock may have moved (timeout, `sleep(1)`), `in[]` holds `x` -/
def HState.woken (s : HState) (n : Nat) (x : List Nat) : HState := { s with c := { s.c with now := n }, inb := x }

/-- WHAT ONE STEP IS, for a thread parked at `p`: the reply is one `handshake_waitdns` ignores — only `in[]` has changed and
the thread is parked in the same `select` again —, or the loop body of `p` runs with some return value of
`handshake_waitdns`, or (raw login) the code behind its own `select`; in a state that differs from `s` only in the clock and
`in[]`, which holds at most `sizeof(in)` bytes.  A timeout is never ignored. -/
theorem hstep_cases (s : HState) (inp : CInput) (p : HPos) (hp : s.pos = some p) :
    ∃ n x, x.length ≤ 4096 ∧
      ((isTimeoutInput inp = false ∧ hstep s inp = ({ s with inb := x }, [], .sel p.sel)) ∨
       (∃ read, p.rawLogin? = none ∧ hstep s inp = hsGot (s.woken n x) p read) ∨
       (∃ seed i d, p = .rawLogin seed i ∧ hstep s inp = rawLoginGot (s.woken n s.inb) seed i d)) := by
  obtain ⟨c, pos, inb, args, pw, dev⟩ := s
  simp only at hp
  subst hp
  have hbl : p.wait.2.2 ≤ 4096 := by cases p <;> simp [HPos.wait]
  -- what `select` reports: a timeout (the clock may have moved), or the datagram (it has not)
  obtain ⟨n, f, hf, hn⟩ : ∃ n f, fire c p.sel inp = ({ c with now := n }, f) ∧
      ((∃ q, hsWaitIn f = .ans q) → isTimeoutInput inp = false ∧ n = c.now) := by
    cases inp with
    | tick => exact ⟨_, .timeout, rfl, fun ⟨q, h⟩ => by cases h⟩
    | tun fr => exact ⟨c.now, .timeout, by simp [fire, HPos.sel], fun ⟨q, h⟩ => by cases h⟩
    | rq q => exact ⟨c.now, _, rfl, fun _ => ⟨rfl, rfl⟩⟩
    | rawans b => exact ⟨c.now, _, rfl, fun _ => ⟨rfl, rfl⟩⟩
  simp only [hstep, hf, hstepAt]
  cases hr : p.rawLogin? with
  | some si =>
    obtain ⟨seed, i⟩ := si
    cases p <;> simp [HPos.rawLogin?] at hr
    obtain ⟨rfl, rfl⟩ := hr
    exact ⟨n, [], Nat.zero_le _, .inr (.inr ⟨_, _, _, rfl, rfl⟩)⟩
  | none =>
    simp only
    cases hw : hsWaitIn f with
    | timeout => exact ⟨n, [], Nat.zero_le _, .inr (.inl ⟨-3, trivial, rfl⟩)⟩
    | ans rq =>
      obtain ⟨hti, rfl⟩ := hn ⟨rq, hw⟩
      have hx : (rq.buf.take (min rq.rv.toNat p.wait.2.2)).length ≤ 4096 := by rw [List.length_take]; omega
      simp only [hsWaitRound]
      by_cases h1 : rq.id ≠ c.chunkid ∨ (rq.name0 ≠ p.wait.1 ∧ rq.name0 ≠ p.wait.1 - 32)
      · rw [if_pos h1]; exact ⟨c.now, _, hx, .inl ⟨hti, rfl⟩⟩
      rw [if_neg h1]
      by_cases h2 : rq.rv < 0
      · rw [if_pos h2]
        by_cases h3 : rq.rcode = 2
        · rw [if_pos h3]; exact ⟨c.now + 1, _, hx, .inr (.inl ⟨-2, trivial, rfl⟩)⟩
        · rw [if_neg h3]; exact ⟨c.now, _, hx, .inr (.inl ⟨-2, trivial, rfl⟩)⟩
      · rw [if_neg h2]; exact ⟨c.now, _, hx, .inr (.inl ⟨_, trivial, rfl⟩)⟩

theorem Upd.woken {l : Bool} (s : HState) (n : Nat) {x : List Nat} (hx : x.length ≤ 4096) : Upd l s (s.woken n x) :=
  .neutral s _ _ _ _ _ n hx

/-- ONE STEP: either the measure drops strictly (below the rank of the place the thread was parked in), or the input
was a reply that `handshake_waitdns` ignores — then nothing but `in[]` has changed, nothing was sent and the thread is
parked in the same `select` again.  A timeout is never ignored. -/
theorem hstep_progress_or_ignored (s : HState) (inp : CInput) (p : HPos) (hp : s.pos = some p) :
    orank (hstep s inp) ≤ hsRank p ∨
    (isTimeoutInput inp = false ∧ hstep s inp = ({ s with inb := (hstep s inp).1.inb }, [], .sel p.sel)) := by
  obtain ⟨n, x, _, ⟨ht, h⟩ | ⟨read, _, h⟩ | ⟨seed, i, d, rfl, h⟩⟩ := hstep_cases s inp p hp
  · exact .inr ⟨ht, by rw [h]⟩
  · exact .inl (h ▸ orank_of_leaf (leaf_hsGot (l := false) _ p read nofun))
  · exact .inl (h ▸ orank_of_leaf (leaf_rawLoginGot (l := false) _ seed i d))

theorem hstep_timeout_progress (s : HState) (inp : CInput) (p : HPos) (hp : s.pos = some p) (ht : isTimeoutInput inp = true) :
    orank (hstep s inp) ≤ hsRank p := by
  rcases hstep_progress_or_ignored s inp p hp with h | ⟨h, _⟩
  · exact h
  · rw [ht] at h; cases h

theorem hstep_mono (s : HState) (inp : CInput) : orank (hstep s inp) ≤ posRank s.pos := by
  cases hp : s.pos with
  | none => rw [hstep_idle s inp hp, orank, hp]; exact Nat.le_refl _
  | some p =>
    rcases hstep_progress_or_ignored s inp p hp with h | ⟨_, h⟩
    · show _ ≤ hsRank p + 1; omega
    · rw [h]; simp [orank, hp]

/-- the two together: no input raises the measure, a timeout lowers it -/
theorem hstep_budget (s : HState) (inp : CInput) :
    posRank (hstep s inp).1.pos ≤ posRank s.pos - (isTick inp).toNat := by
  cases hp : s.pos with
  | none => rw [hstep_idle s inp hp, hp]; exact Nat.zero_le _
  | some p =>
    cases inp with
    | tick => exact hstep_timeout_progress s .tick p hp rfl
    | rq _ | rawans _ | tun _ => rw [← hp]; exact hstep_mono s _

theorem hsWaitRound_residue_free (s : HState) (x : List Nat) (c1 bl : Nat) (w : WaitIn) :
    hsWaitRound { s with inb := x } c1 bl w = hsWaitRound s c1 bl w := by
  unfold hsWaitRound
  cases w <;> rfl

theorem rawLoginGot_residue_free (s : HState) (x : List Nat) (seed i : Nat) (d : Option (List Nat)) :
    rawLoginGot { s with inb := x } seed i d = rawLoginGot s seed i d := by
  unfold rawLoginGot
  cases d <;> rfl

/-- While the handshake runs, a step does not depend on what is in `in[]` when the `select` returns: whatever earlier
replies (fitting or ignored) wrote there, the step is the same — state, events, next `select`. -/
theorem hstep_residue_free (s : HState) (x : List Nat) (inp : CInput) (hp : s.pos ≠ none) :
    hstep { s with inb := x } inp = hstep s inp := by
  obtain ⟨c, pos, inb, args, pw, dev⟩ := s
  cases pos with
  | none => exact absurd rfl hp
  | some p =>
    simp only [hstep]
    unfold hstepAt
    cases p.rawLogin? with
    | some si => exact rawLoginGot_residue_free ⟨(fire c p.sel inp).1, some p, inb, args, pw, dev⟩ x si.1 si.2 _
    | none =>
      simp only
      rw [← hsWaitRound_residue_free ⟨(fire c p.sel inp).1, some p, inb, args, pw, dev⟩ x]

/-- … and it depends on a reply only through the return value of `read_dns_withq`, the id, the first character of the
question, the RCODE and the first `min(read, buflen)` decoded bytes. -/
theorem hstep_reply_prefix (s : HState) (p : HPos) (hp : s.pos = some p) (q q' : Rq)
    (hrv : q.rv = q'.rv) (hid : q.id = q'.id) (hrc : q.rcode = q'.rcode) (hn : q.name0 = q'.name0)
    (hbuf : q.buf.take (min q.rv.toNat p.wait.2.2) = q'.buf.take (min q.rv.toNat p.wait.2.2)) :
    hstep s (.rq q) = hstep s (.rq q') := by
  obtain ⟨c, pos, inb, args, pw, dev⟩ := s
  simp only at hp
  subst hp
  simp only [hstep, fire]
  unfold hstepAt
  cases p.rawLogin? with
  | some si => rfl
  | none =>
    simp only [hsWaitIn]
    have : hsWaitRound ⟨c, some p, inb, args, pw, dev⟩ p.wait.1 p.wait.2.2 (.ans q) =
        hsWaitRound ⟨c, some p, inb, args, pw, dev⟩ p.wait.1 p.wait.2.2 (.ans q') := by
      unfold hsWaitRound
      simp only [← hrv, ← hid, ← hrc, ← hn, hbuf]
    rw [this]

end Iodine.Client
