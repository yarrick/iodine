import IodineModel.Lemmas.C02v7
import IodineModel.Lemmas.C02mode
import IodineModel.Lemmas.C02sched
/-
What the chain stated once for both DNS modes (C02up1–2) stands on, and the lazy-mode side of it.  Client: `sentStateL` is the state
after `send_chunk` in EITHER mode — `bumpCnt` counts the send in lazy mode and is the identity in immediate mode, where nothing
reads the counters (`CntM`, C02mode) —, so the client after the send (`afterChunk`) is described once: what the send keeps
(`sentFactsL`, `sentIdsL`), the standing conditions (`CStatM.after_chunk`), the step through `settle` (`CSend.settle`), and what the
client after the answer has in common with the one that sent (`Acked`).  Server, lazy mode: the slot holds ONE query of the client between two queries (`IdleLazy`); the held query `H`
is remembered only when it is answered, i.e. after the client has sent the NEXT one, so the duplicate memories are aged with the
slack that goes with what `H` is (`HeldMem`); what an iteration that rewrites the slot keeps (`PutL`, `putL`).  `QuietLazy` is the
quiescent joint state of lazy mode.
-/
namespace Iodine.C02L
open Iodine Iodine.Gen Iodine.Server Iodine.World

/-! ### the lazy-mode client about to send, and the state `send_chunk` leaves -/

theorem ackBook_cnt (c : Client.Cli) {d : Nat} (h : CntOk c (d + 1)) : CntOk (ackBook c) d := by
  unfold CntOk at *
  show c.sendcnt < 0 ∨ 100 ≤ c.sendcnt ∨ c.sendcnt ≤ ((c.recvcnt + 1 : Nat) : Int) + d
  omega

/-- a lazy-mode client state from which `send_chunk` is about to send fragment `f` (offset `o`) of the compressed packet
`out`, with the answer counting in balance -/
structure CReadyL (P : Par) (c : Client.Cli) (out : List Nat) (o f : Nat) : Prop where
  stat : CStatL P c
  cnt : CntOk c 1
  data : c.outpkt.data = out
  len : c.outpkt.len = out.length
  off : c.outpkt.offset = o
  frag : c.outpkt.fragment = (f : Int)
  ho : o < out.length
  hf : f < 16
  bytes : Codec.Bytes out

theorem CReadyL.send {P : Par} {c : Client.Cli} {out : List Nat} {o f : Nat} (h : CReadyL P c out o f) : CSend P c out o f :=
  ⟨Or.inr h.cnt, h.stat.uch, h.stat.td, h.stat.L, h.stat.enc, h.stat.ty, h.stat.cmc, h.stat.oseq, h.stat.iseq, h.stat.ifrag,
    h.data, h.len, h.off, h.frag, h.ho, h.hf, h.bytes⟩

theorem cFragLen_readyL {P : Par} {c : Client.Cli} {out : List Nat} {o f : Nat} (h : CReadyL P c out o f) :
    cFragLen c = fragLen P (out.drop o) := h.send.fragLen_eq

/-- the state `send_chunk` leaves behind in lazy mode (before `send_ping_soon = 0`): as in immediate mode, and the send
is counted -/
def sentStateL (c : Client.Cli) : Client.Cli := bumpCnt (sentState c)

theorem sentStateL_eta (c : Client.Cli) : sentStateL c = { sentState c with sendcnt := (sentStateL c).sendcnt } :=
  bumpCnt_eta _

theorem sentStateL_resent (c : Client.Cli) : (sentStateL c).outchunkresent = c.outchunkresent := by
  rw [sentStateL_eta, sentState, rotateChunkid_eta]

theorem sentStateL_chunkid (c : Client.Cli) : (sentStateL c).chunkid = (sentState c).chunkid := by
  rw [sentStateL_eta]

theorem send_readyL {P : Par} (hP : P.Ok) {c : Client.Cli} {out : List Nat} {o f : Nat} (h : CReadyL P c out o f) :
    ∃ name,
      Client.sendChunk c = ⟨sentStateL c, [.query (sentState c).chunkid P.ty name], false⟩ ∧
      1 ≤ fragLen P (out.drop o) ∧ o + fragLen P (out.drop o) ≤ out.length ∧
      UpQ P (upQuery (sentState c).chunkid P.ty name)
        ⟨c.outpkt.seqno.toNat, f, c.inpkt.seqno, c.inpkt.fragment, fragLen P (out.drop o) == out.length - o⟩
        c.datacmc ((out.drop o).take (fragLen P (out.drop o))) :=
  h.send.sends hP

/-! ### what `sentStateL` keeps and what it changes -/

/-- the client after `send_chunk` from `c` and the end of the handler that called it -/
abbrev afterChunk (c : Client.Cli) : Client.Cli := { sentStateL c with sendPingSoon := 0 }

theorem sentFacts_sendcnt (c x : Client.Cli) (v : Int) (h : SentFacts c { x with sendPingSoon := 0 }) :
    SentFacts c { ({ x with sendcnt := v } : Client.Cli) with sendPingSoon := 0 } :=
  ⟨h.running, h.conn, h.lazymode, h.userid, h.useridChar, h.topdomain, h.hostnameMaxlen, h.dataenc, h.doQtype, h.ldt,
    h.now, h.inpkt, h.olen, h.ooff, h.odata, h.oseq, h.ofrag, h.osent, h.cid, h.cmc, h.sps, h.seed, h.selto⟩

theorem sentFactsL (c : Client.Cli) : SentFacts c { sentStateL c with sendPingSoon := 0 } := by
  have h := sentFacts c
  obtain ⟨v, e⟩ : ∃ v, sentStateL c = { sentState c with sendcnt := v } := ⟨_, sentStateL_eta c⟩
  rw [e]
  exact sentFacts_sendcnt c _ v h

/-- the ids and the counters after the send -/
structure SentIdsL (c c' : Client.Cli) : Prop where
  cid : c'.chunkid = (sentState c).chunkid
  prev : c'.chunkidPrev = c.chunkid
  ne : c.chunkid < 65536 → c'.chunkid ≠ c.chunkid
  cnt : CntOk c 1 → CntOk c' 2

theorem sentIdsL (c : Client.Cli) : SentIdsL c { sentStateL c with sendPingSoon := 0 } := by
  refine ⟨sentStateL_chunkid c, ?_, ?_, ?_⟩
  · show (sentStateL c).chunkidPrev = _
    rw [sentStateL_eta, sentState, rotateChunkid_eta]
  · intro hc
    show (sentStateL c).chunkid ≠ _
    rw [sentStateL_chunkid]
    exact rotateChunkid_ne _ hc
  · intro hc
    have h1 : CntOk (sentState c) 1 := rotateChunkid_cnt _ 1 (hc.congr rfl rfl)
    exact (bumpCnt_cnt _ 1 h1).congr rfl rfl

/-- the standing conditions hold again after `send_chunk`, either mode: the state in which the acknowledgement of the
fragment in flight is processed -/
theorem CStatM.after_chunk {P : Par} {lz : Bool} {c0 : Client.Cli} (h : CStatM P lz c0) : CStatM P lz (afterChunk c0) :=
  let hs := sentFactsL c0
  h.move_eqs hs.running hs.conn hs.lazymode hs.userid hs.useridChar hs.topdomain hs.hostnameMaxlen hs.dataenc hs.doQtype hs.cid
    (by rw [hs.cmc36 h.cmc]; exact Nat.mod_lt _ (by decide)) (by rw [hs.ldt, hs.now]; exact h.alive) hs.oseq hs.inpkt hs.seed

theorem cstat_sentL {P : Par} {c0 : Client.Cli} {out : List Nat} {o f : Nat} (h : CReadyL P c0 out o f) :
    CStatL P { sentStateL c0 with sendPingSoon := 0 } := h.stat.toM.after_chunk.lazy

theorem ackBook_record (c : Client.Cli) : ackBook c =
    { c with packrecv := (ackBook c).packrecv, recvcnt := c.recvcnt + 1, lastdownstreamtime := c.now } := by
  simp only [ackBook, Client.countRecv]

theorem cstat_ackBookL {P : Par} {c : Client.Cli} (hc : CStatL P c) : CStatL P (ackBook c) := hc.toM.ackBook.lazy

/-! ### the send through `settle`, and the client after the answer -/

/-- `send_chunk` from a state that is ready to send, through `settle`: the query goes out, the client is back in its `select` -/
theorem CSend.settle {P : Par} (hP : P.Ok) {c : Client.Cli} {out : List Nat} {o f : Nat} (h : CSend P c out o f)
    (hrun : c.running = true) (pre : List Client.CEvent) (k : Client.Resume) :
    Client.settle (Client.afterSend (Client.sendChunk c) pre k) =
      (⟨afterChunk c, .tunnel⟩, pre ++ (Client.sendChunk c).evs, .sel (Client.selectOf (afterChunk c))) := by
  obtain ⟨name, hsend, _⟩ := h.sends hP
  rw [settle_afterSend _ _ _ (by rw [hsend]) (by rw [hsend]; exact (sentFactsL c).running.trans hrun), hsend]
  rfl

theorem CSend.no_tun {P : Par} (hP : P.Ok) {c : Client.Cli} {out : List Nat} {o f : Nat} (h : CSend P c out o f) :
    tunOfCEvents (Client.sendChunk c).evs = [] := by
  obtain ⟨name, hsend, _⟩ := h.sends hP
  rw [hsend]; rfl

/-- `tunnel_dns` of the client accepts the first character of a held query's name -/
theorem notData_held {P : Par} {c : Client.Cli} (hc : c.useridChar = hexLower P.u) (n0 : Nat)
    (h : n0 = hexLower P.u ∨ n0 = 112) : Client.notData c n0 = false := by
  unfold Client.notData
  rcases h with h | h
  · simp [h, hc]
  · simp [h]

/-- what the client state `c'` after the answer that followed the send from `c0` has in common with `c0` -/
structure Acked (c0 c' : Client.Cli) : Prop where
  cid : c'.chunkid = (sentState c0).chunkid
  oseq : c'.outpkt.seqno = c0.outpkt.seqno
  inpkt : c'.inpkt = c0.inpkt
  cmc : c'.datacmc = (c0.datacmc + 1) % 36
  seed : c'.randSeed = c0.randSeed
  now : c'.now = c0.now
  ldt : c'.lastdownstreamtime = c0.now

theorem Acked.of_sentFacts {c0 c : Client.Cli} (hsf : SentFacts c0 c) (hcid : c.chunkid = (sentState c0).chunkid)
    (hk : c0.datacmc < 36) : Acked c0 (ackBook c) := by
  rw [ackBook_record]
  exact ⟨hcid, hsf.oseq, hsf.inpkt, hsf.cmc36 hk, hsf.seed, hsf.now, hsf.now⟩

/-! ### the slot that holds one query: the held query and the duplicate memories -/

/-- the slot is idle in the downstream direction and holds exactly one query, in `q` (lazy mode between two queries) -/
structure IdleLazy (x : Session) : Prop where
  out : x.outpacket.len = 0
  q : x.q.id ≠ 0
  q2 : x.q.id2 = 0
  qs : x.qs.id = 0
  lazy : x.lazy = true

/-- what every held query of the session satisfies -/
structure HeldBase (P : Par) (H : Query) : Prop where
  from_ : H.from_ = clientAddr
  id2 : H.id2 = 0
  id : H.id ≠ 0
  ty : H.type = P.ty

/-- `H` is a data query of the session carrying data-CMC counter value `k0` -/
structure HeldData (P : Par) (H : Query) (k0 : Nat) : Prop where
  hk0 : k0 < 36
  c0 : H.name.getD 0 0 = hexLower P.u
  c4 : H.name.getD 4 0 = cmcChar k0
  len5 : 5 ≤ H.name.length

/-- `H` is a ping carrying ping counter value `s0` (as `save_to_qmem_pingordata` fingerprints it and as `handle_ping`
unpacks it) -/
structure HeldPing (P : Par) (H : Query) (s0 : Nat) : Prop where
  hs0 : s0 < 65536
  c0 : H.name.getD 0 0 = 112
  fp : ∃ cp, H.name.idxOf? 46 = some cp ∧ 4 ≤ (Codec.dec Codec.b32 8 (cp - 1) (H.name.drop 1)).length ∧
    ((Codec.dec Codec.b32 8 (cp - 1) (H.name.drop 1)).take 4).getD 2 0 = s0 / 256 ∧
    ((Codec.dec Codec.b32 8 (cp - 1) (H.name.drop 1)).take 4).getD 3 0 = s0 % 256
  seed : seedOfName P.td H.name = s0

/-- the held query and the memories: `k` = the client's data-CMC counter, `sd` = its ping counter -/
def HeldMem (P : Par) (x : Session) (H : Query) (k sd : Nat) : Prop :=
  (∃ k0, HeldData P H k0 ∧ Behind 36 k k0 1 ∧ Aged P x k 2 ∧ PAged P x sd 1) ∨
  (∃ s0, HeldPing P H s0 ∧ Behind 65536 sd s0 1 ∧ Aged P x k 1 ∧ PAged P x sd 2)

theorem HeldMem.aged {P : Par} {x : Session} {H : Query} {k sd : Nat} (h : HeldMem P x H k sd) : Aged P x k 2 := by
  rcases h with ⟨_, _, _, h, _⟩ | ⟨_, _, _, h, _⟩
  · exact h
  · exact h.mono (by omega)

theorem HeldMem.fresh {P : Par} {x : Session} {H : Query} {k sd : Nat} (h : HeldMem P x H k sd) (hk : k < 36) :
    Fresh P x k (0 + 1) := h.aged.fresh hk (by omega)

theorem HeldMem.congr {P : Par} {x y : Session} {H : Query} {k sd : Nat} (h : HeldMem P x H k sd)
    (h1 : y.qmemdata = x.qmemdata) (h2 : y.qmemdataLast = x.qmemdataLast) (h3 : y.dnscache = x.dnscache)
    (h4 : y.dcLast = x.dcLast) (h5 : y.qmemping = x.qmemping) (h6 : y.qmempingLast = x.qmempingLast) :
    HeldMem P y H k sd := by
  rcases h with ⟨k0, a, b, c, d⟩ | ⟨s0, a, b, c, d⟩
  · exact Or.inl ⟨k0, a, b, c.congr h1 h2 h3 h4, d.congr h5 h6 h3 h4⟩
  · exact Or.inr ⟨s0, a, b, c.congr h1 h2 h3 h4, d.congr h5 h6 h3 h4⟩

theorem HeldMem.c0 {P : Par} {x : Session} {H : Query} {k sd : Nat} (h : HeldMem P x H k sd) :
    H.name.getD 0 0 = hexLower P.u ∨ H.name.getD 0 0 = 112 := by
  rcases h with ⟨_, a, _⟩ | ⟨_, a, _⟩
  · exact Or.inl a.c0
  · exact Or.inr a.c0

/-- the held query is not the data query that carries the current data-CMC counter value: `rememberDuplicate` does not
take the new query for a duplicate of the held one -/
theorem HeldMem.name_ne {P : Par} (hu : P.u < 16) {x : Session} {H : Query} {k sd : Nat} (h : HeldMem P x H k sd) (hk : k < 36)
    (Q : Query) (h0 : Q.name.getD 0 0 = hexLower P.u) (h4 : Q.name.getD 4 0 = cmcChar k) : H.name ≠ Q.name := by
  intro he
  rcases h with ⟨k0, a, b, _⟩ | ⟨_, a, _⟩
  · have h1 := a.c4
    rw [he, h4] at h1
    have := cmcChar_inj k k0 hk a.hk0 h1
    unfold Behind at b
    omega
  · have h1 := a.c0
    rw [he, h0] at h1
    exact (hexLower_ne_p hu).2 h1

theorem behind_step36 {k k0 : Nat} (hk : k < 36) (h : Behind 36 k k0 1) : Behind 36 ((k + 1) % 36) k0 2 := by
  unfold Behind at *
  omega

/-- The client has sent the data query `Q` (counter value `k`), and now the answer to the held query `H` is remembered:
the memories are as they must be for `Q` held. -/
theorem HeldMem.memo {P : Par} (hu : P.u < 16) {x : Session} {H : Query} {k sd : Nat} (h : HeldMem P x H k sd) (hk : k < 36)
    (ans : List Nat) (hans : ans.length ≤ DNSCACHE_ANSWER_SIZE) (Q : Query) (hQ : HeldData P Q k) :
    HeldMem P (cacheUpd (qmemUpd x H) H ans) Q ((k + 1) % 36) sd := by
  left
  rcases h with ⟨k0, a, b, c, d⟩ | ⟨s0, a, b, c, d⟩
  · refine ⟨k, hQ, behind_succ_mod hk, ?_, ?_⟩
    · exact (c.step hk (by omega)).memo H ans hans k0 2 ⟨by omega, by omega⟩ (behind_step36 hk b) a.hk0 a.c4 a.len5
        (by rw [a.c0]; exact hexLower_ne_p hu)
    · exact d.memo_data hu H ans hans a.len5 a.c0
  · obtain ⟨cp, hcp, hl, hq2, hq3⟩ := a.fp
    refine ⟨k, hQ, behind_succ_mod hk, ?_, ?_⟩
    · exact (c.step hk (by omega)).memo_ping hu H ans hans a.c0 cp hcp hl
    · exact d.memo H ans hans s0 1 ⟨by omega, by omega⟩ b a.c0 cp hcp hl hq2 hq3 a.seed

/-- what the hop lemmas say about the query `send_chunk` emitted: it can be held -/
theorem UpQ.heldBase {P : Par} {Q : Query} {h : UpHdr} {k : Nat} {chunk : List Nat} (hQ : UpQ P Q h k chunk) : HeldBase P Q :=
  ⟨hQ.from_, hQ.id2, hQ.id, hQ.ty⟩

theorem UpQ.heldData {P : Par} {Q : Query} {h : UpHdr} {k : Nat} {chunk : List Nat} (hQ : UpQ P Q h k chunk) (hk : k < 36) :
    HeldData P Q k :=
  ⟨hk, hQ.c0, hQ.c4, hQ.len5⟩

/-! ### writing the slot back -/

/-- The slot of `s'` is `Z` up to the duplicate memories, and `Z` differs from the slot of `s` at most in the reassembly
buffer, the two query slots and the time of the last query. -/
structure PutL (P : Par) (s s' : Srv) (Z : Session) : Prop where
  stat : SStat P s'
  now : s'.now = s.now
  inp : (getUser s' P.u).inpacket = Z.inpacket
  q : (getUser s' P.u).q = Z.q
  qs : (getUser s' P.u).qs = Z.qs
  last : (getUser s' P.u).lastPkt = Z.lastPkt
  kept : Kept (getUser s' P.u) (getUser s P.u)

theorem putL {P : Par} {s : Srv} (hS : SStat P s) {Y Z : Session} (hYc : core Y = core Z)
    (hZ : Z = { getUser s P.u with qsNew := Z.qsNew, inpacket := Z.inpacket, q := Z.q, qs := Z.qs, lastPkt := Z.lastPkt })
    (hseq : 0 ≤ Z.inpacket.seqno ∧ Z.inpacket.seqno < 8) (hfrag : 0 ≤ Z.inpacket.fragment ∧ Z.inpacket.fragment < 16)
    (hlive : s.now < Z.lastPkt + 60) :
    PutL P s { putUser s P.u Y with now := s.now } Z ∧ getUser { putUser s P.u Y with now := s.now } P.u = Y := by
  have hg := getUser_put hS Y s.now
  have hk : Kept Y (getUser s P.u) := (Kept.of_core hYc).trans (by rw [hZ]; exact kept_slot ..)
  have ei : Y.inpacket = Z.inpacket := core_inpacket hYc
  refine ⟨⟨hS.put hk (ei ▸ hseq) (ei ▸ hfrag) (by rw [core_lastPkt hYc]; exact hlive), rfl, ?_, ?_, ?_, ?_, ?_⟩, hg⟩
  all_goals rw [hg]
  · exact ei
  · exact core_q hYc
  · exact core_qs hYc
  · exact core_lastPkt hYc
  · exact hk

/-! ### the quiescent joint state -/

/-- Quiescent joint state, LAZY mode.  Nothing is in flight; the client thread is parked in `client_tunnel`'s `select`, in
lazy mode, not sending, its answer counting in balance (`CntOk … 1`: at most one more query sent than answers received,
or not counting); the server's slot has no outpacket, an empty queue, nothing in `q_sendrealsoon`, is in lazy mode and HOLDS
exactly one query in `q`: the client's most recent one (same id), a ping or a data query (`HeldMem`), which is not yet in
the duplicate memories — these are aged with the slack that goes with the kind of the held query; both reassemblers agree
with the peer's sender on the current sequence number. -/
structure QuietLazy (P : Par) (w : W) : Prop where
  ph : w.cs.ph = .tunnel
  cst : CStatL P w.cs.c
  cnt : CntOk w.cs.c 1
  idleC : Client.isSending w.cs.c = false
  up : w.up = []
  down : w.down = []
  srv : SStat P w.srv
  idle : IdleLazy (Server.getUser w.srv P.u)
  oq : (Server.getUser w.srv P.u).oqFilled = 0
  held : HeldBase P (Server.getUser w.srv P.u).q
  heldid : (Server.getUser w.srv P.u).q.id = w.cs.c.chunkid
  syncu : (Server.getUser w.srv P.u).inpacket.seqno = w.cs.c.outpkt.seqno
  syncd : (Server.getUser w.srv P.u).outpacket.seqno = w.cs.c.inpkt.seqno
  mem : HeldMem P (Server.getUser w.srv P.u) (Server.getUser w.srv P.u).q w.cs.c.datacmc w.cs.c.randSeed

theorem QuietLazy.quiet {P : Par} {w : W} (h : QuietLazy P w) : quiet P.u w = true :=
  quiet_of_idle h.up h.down h.idleC h.idle.out h.oq h.idle.qs (Or.inl ⟨h.idle.lazy, h.idle.q⟩)

theorem newPacket_oseq {c : Client.Cli} (hc : 0 ≤ c.outpkt.seqno ∧ c.outpkt.seqno < 8) (frame : List Nat) :
    (newPacket c frame).outpkt.seqno = (c.outpkt.seqno + 1) % 8 :=
  sChar_small _ (by have := hc; omega)

end Iodine.C02L
