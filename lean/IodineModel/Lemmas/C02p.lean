import IodineModel.Props.C08
import IodineModel.Lemmas.C02s5
import IodineModel.Lemmas.C02a
import IodineModel.Lemmas.C02w
/-
Parameters of a tunnel session as the clean-path theorems quantify over them, and the alphabet of the data-CMC character.
-/
namespace Iodine.C02L
open Iodine

/-- the hypotheses on codec, host name limit and tunnel domain (those of C08, plus: the domain is a plain byte string
without `*` and NUL, and the alphabet consists of bytes) -/
structure UpSetting (cd : Codec.Codec) (L : Nat) (td : List Nat) : Prop where
  wf : Codec.WF cd
  nodot : ∀ ch ∈ cd.tbl, ch ≠ 46
  byte : ∀ ch ∈ cd.tbl, ch < 256
  hL : 100 ≤ L ∧ L ≤ 255
  td_len : 3 ≤ td.length ∧ td.length ≤ 128 ∧ td.length + 24 ≤ L
  td_legal : Encoding.legalAux 0 td = true
  td_plain : 42 ∉ td
  td_bytes : ∀ c ∈ td, c ≠ 0 ∧ c < 256

/-- the four codecs of iodine satisfy the codec part -/
theorem upSetting_of_enc (e : Client.Enc) (L : Nat) (td : List Nat) (hL : 100 ≤ L ∧ L ≤ 255)
    (h1 : 3 ≤ td.length ∧ td.length ≤ 128 ∧ td.length + 24 ≤ L) (h2 : Encoding.legalAux 0 td = true) (h3 : 42 ∉ td)
    (h4 : ∀ c ∈ td, c ≠ 0 ∧ c < 256) : UpSetting e.codec L td := by
  cases e
  · exact ⟨C07.wf_b32, C08.tables_nodot.1, C07.tables_byte.1, hL, h1, h2, h3, h4⟩
  · exact ⟨C07.wf_b64, C08.tables_nodot.2.1, C07.tables_byte.2.1, hL, h1, h2, h3, h4⟩
  · exact ⟨C07.wf_b64u, C08.tables_nodot.2.2.1, C07.tables_byte.2.2.1, hL, h1, h2, h3, h4⟩
  · exact ⟨C07.wf_b128, C08.tables_nodot.2.2.2, C07.tables_byte.2.2.2, hL, h1, h2, h3, h4⟩

/-- the data-CMC character `send_chunk` uses when its counter is `n` -/
def cmcChar (n : Nat) : Nat := (Client.ascii "abcdefghijklmnopqrstuvwxyz0123456789").getD n 0

theorem cmcChar_eq_add : ∀ n, n < 36 → cmcChar n = if n < 26 then 97 + n else 22 + n := by decide

/-- `cmcChar`: lower-case letters and digits -/
theorem cmcChar_chars (n : Nat) (h : n < 36) :
    cmcChar n ≠ 46 ∧ cmcChar n ≠ 0 ∧ cmcChar n < 256 ∧
      ((97 ≤ cmcChar n ∧ cmcChar n ≤ 122) ∨ (48 ≤ cmcChar n ∧ cmcChar n ≤ 57)) := by
  rw [cmcChar_eq_add n h]
  split <;> omega

/-- the case folding of `Server.dataCmc` leaves a `cmcChar` alone -/
theorem cmcChar_nofold (n : Nat) (h : n < 36) : ¬ (65 ≤ cmcChar n ∧ cmcChar n ≤ 90) := by
  have := (cmcChar_chars n h).2.2.2
  omega

theorem cmcChar_inj (a b : Nat) (ha : a < 36) (hb : b < 36) (h : cmcChar a = cmcChar b) : a = b := by
  rw [cmcChar_eq_add a ha, cmcChar_eq_add b hb] at h
  split at h <;> split at h <;> omega

end Iodine.C02L
