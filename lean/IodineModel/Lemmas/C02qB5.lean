import IodineModel.Lemmas.C02qB4
/-
Upstream blackout: the links `bkW 4 → … → bkW 8` of the composition witness and the chains
of five, seven and eight give-up runs.
-/
namespace Iodine.C02L
open Iodine Iodine.Gen Iodine.World Iodine.C02

/-- TEST (kernel-evaluated): the links of the chain -/
theorem bk_link4 : runSched blackoutEvUp 9 (step (bkW 4) (.offerC (fA 4))) = bkW 5 := by
  rw [runSched_fast, step_fast]; decide +kernel
theorem bk_link5 : runSched blackoutEvUp 9 (step (bkW 5) (.offerC (fA 5))) = bkW 6 := by
  rw [runSched_fast, step_fast]; decide +kernel
theorem bk_link6 : runSched blackoutEvUp 9 (step (bkW 6) (.offerC (fA 6))) = bkW 7 := by
  rw [runSched_fast, step_fast]; decide +kernel
theorem bk_link7 : runSched blackoutEvUp 9 (step (bkW 7) (.offerC (fA 7))) = bkW 8 := by
  rw [runSched_fast, step_fast]; decide +kernel

theorem bk_chain5 : giveupRunUp [fA 0, fA 1, fA 2, fA 3, fA 4] exW = bkW 5 := by
  rw [← bkW_zero]
  simp only [giveupRunUp, bk_link0, bk_link1, bk_link2, bk_link3, bk_link4]

theorem bk_chain7 : giveupRunUp [fA 0, fA 1, fA 2, fA 3, fA 4, fA 5, fA 6] exW = bkW 7 := by
  rw [← bkW_zero]
  simp only [giveupRunUp, bk_link0, bk_link1, bk_link2, bk_link3, bk_link4, bk_link5, bk_link6]

theorem bk_chain8 : giveupRunUp [fA 0, fA 1, fA 2, fA 3, fA 4, fA 5, fA 6, fA 7] exW = bkW 8 := by
  rw [← bkW_zero]
  simp only [giveupRunUp, bk_link0, bk_link1, bk_link2, bk_link3, bk_link4, bk_link5, bk_link6, bk_link7]

/-- after 8 give-ups the sequence numbers agree again (`8 ≡ 0`) -/
example : (bkW 8).cs.c.outpkt.seqno = (Server.getUser (bkW 8).srv 0).inpacket.seqno := by decide +kernel

end Iodine.C02L
