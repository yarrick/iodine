import IodineModel.Lemmas.C02s1
import IodineModel.Lemmas.HandlerCases
/-
A server with a single client: slot `u` is the session, every other slot is inactive (`Solo`).  A loop over all slots
(`clearNewFrom`, `timeoutFrom`, `allUsersWaitingToSend`, `sweepFrom`, `findUserByIp`) then sees that one slot (`loop_solo`),
so the data handler, the ping handler, the sweep and a whole loop iteration are functions of the slot: `dataFresh_solo`,
`pingFresh_onSlot`, `sweepOne_eq`, `iteration_solo`.
-/
namespace Iodine.C02L
open Iodine Iodine.Gen Iodine.Server

structure Solo (u : Nat) (s : Srv) : Prop where
  lt : u < s.users.length
  created : s.cfg.createdUsers = s.users.length
  others : ∀ v, v ≠ u → (getUser s v).active = false

theorem Solo.putUser {u : Nat} {s : Srv} (h : Solo u s) (x : Session) : Solo u (putUser s u x) :=
  ⟨by simpa using h.lt, by simpa using h.created, fun v hv => by rw [getUser_putUser_ne _ _ _ _ hv]; exact h.others v hv⟩

theorem Solo.withNow {u : Nat} {s : Srv} (h : Solo u s) (n : Nat) : Solo u { s with now := n } :=
  ⟨h.lt, h.created, h.others⟩

theorem Solo.of_table {u n : Nat} {s : Srv} (hlen : s.users.length = n) (hu : u < n) (hc : s.cfg.createdUsers = n)
    (hoff : ∀ v, v < n → v ≠ u → (getUser s v).active = false) : Solo u s := by
  refine ⟨by omega, by omega, fun v hv => ?_⟩
  by_cases h : v < n
  · exact hoff v h hv
  · unfold getUser
    rw [List.getD_eq_getElem?_getD, List.getElem?_eq_none (by omega)]
    rfl

theorem live_inactive (x : Session) (now : Nat) (h : x.active = false) : live x now = false := by
  simp [live, h]

def OthersOff (u i : Nat) (l : List Session) : Prop := ∀ j (h : j < l.length), i + j ≠ u → (l[j]).active = false

theorem OthersOff.tail {u i : Nat} {x : Session} {l : List Session} (h : OthersOff u i (x :: l)) : OthersOff u (i + 1) l := by
  intro j hj hne
  have := h (j + 1) (by simp; omega) (by omega)
  simpa using this

theorem OthersOff.head {u i : Nat} {x : Session} {l : List Session} (h : OthersOff u i (x :: l)) (hi : i ≠ u) : x.active = false := by
  have := h 0 (by simp) (by omega)
  simpa using this

theorem Solo.othersOff {u : Nat} {s : Srv} (h : Solo u s) : OthersOff u 0 s.users := by
  intro j hj hne
  have := h.others j (by omega)
  simpa [getUser, List.getD_eq_getElem?_getD, List.getElem?_eq_getElem hj] using this

/-- the top of the server's loop on the slot: a live session's "query is new" flag is cleared before `select` -/
def topSess (x : Session) (now : Nat) : Session := if live x now then { x with qsNew := false } else x

theorem topSess_of_live {x : Session} {now : Nat} (h : live x now = true) : topSess x now = { x with qsNew := false } :=
  if_pos h

theorem topOfLoop_state {u : Nat} {s : Srv} (h : Solo u s) : (topOfLoop s).1 = putUser s u (topSess (getUser s u) s.now) := by
  unfold topSess
  refine C04L.srv_ext _ _ rfl rfl rfl rfl ((length_clearNewFrom _ _ _ _).trans (putUser_length _ _ _).symm) fun v => ?_
  rw [getUser_topOfLoop]
  by_cases hv : v = u
  · subst hv
    rw [getUser_putUser_self _ _ _ h.lt, h.created]
    simp only [h.lt, true_and, and_true]
  · rw [getUser_putUser_ne _ _ _ _ hv, live_inactive _ _ (h.others v hv)]
    simp

/-- a loop over the slots (`loop l i`, `i` the absolute index of the head of `l`) whose step `f` skips inactive slots
sees, of a list in which only slot `u` may be active, just that slot -/
theorem loop_solo {β : Type} (u : Nat) (loop : List Session → Nat → β) (z : β) (f : Nat → Session → β → β)
    (hnil : ∀ i, loop [] i = z) (hcons : ∀ x xs i, loop (x :: xs) i = f i x (loop xs (i + 1)))
    (hoff : ∀ i x r, x.active = false → f i x r = r) :
    ∀ (l : List Session) (i : Nat), OthersOff u i l →
      loop l i = if i ≤ u ∧ u - i < l.length then f u (l.getD (u - i) (Session.zero 0)) z else z := by
  intro l
  induction l with
  | nil => intro i _; rw [hnil, if_neg (by simp)]
  | cons x xs ih =>
    intro i ho
    rw [hcons, ih (i + 1) ho.tail]
    by_cases hiu : i = u
    · subst hiu
      rw [if_neg (by omega), if_pos (by simp)]
      simp
    · rw [hoff i x _ (ho.head hiu)]
      by_cases hlt : i < u
      · have e : u - i = (u - (i + 1)) + 1 := by omega
        by_cases hl : u - (i + 1) < xs.length
        · rw [if_pos ⟨by omega, hl⟩, if_pos ⟨by omega, by simp; omega⟩, e]
          simp
        · rw [if_neg (fun h => hl h.2), if_neg (fun h => hl (by have := h.2; simp at this; omega))]
      · rw [if_neg (by omega), if_neg (by omega)]

theorem topOfLoop_timeout {u : Nat} {s : Srv} (h : Solo u s) :
    (topOfLoop s).2.1 = if live (getUser s u) s.now ∧ (getUser s u).qs.id ≠ 0 then 20000 else 10000000 := by
  have hc : u < s.cfg.createdUsers := by rw [h.created]; exact h.lt
  show timeoutFrom s.now s.cfg.createdUsers s.users 0 = _
  rw [loop_solo u (timeoutFrom s.now s.cfg.createdUsers) 10000000
    (fun i x r => if i < s.cfg.createdUsers ∧ live x s.now ∧ x.qs.id ≠ 0 then 20000 else r)
    (fun _ => rfl) (fun _ _ _ => rfl) (fun i x r hx => by simp [live_inactive x s.now hx]) s.users 0 h.othersOff,
    if_pos ⟨Nat.zero_le _, h.lt⟩]
  simp only [hc, true_and]
  rfl

theorem allWaiting_solo {u : Nat} {s : Srv} (h : Solo u s) :
    allUsersWaitingToSend s =
      !(live (getUser s u) s.now &&
        ((getUser s u).conn == .rawUdp || ((getUser s u).conn == .dnsNull && decide ((getUser s u).oqFilled < 1)))) := by
  unfold allUsersWaitingToSend
  rw [loop_solo u (fun l _ => l.any fun x => live x s.now && (x.conn == .rawUdp || (x.conn == .dnsNull && decide (x.oqFilled < 1))))
    false (fun _ x r => (live x s.now && (x.conn == .rawUdp || (x.conn == .dnsNull && decide (x.oqFilled < 1)))) || r)
    (fun _ => rfl) (fun _ _ _ => List.any_cons) (fun i x r hx => by simp [live_inactive x s.now hx]) s.users 0 h.othersOff,
    if_pos ⟨Nat.zero_le _, h.lt⟩, Bool.or_false]
  rfl

/-- tun is in the read set of the next `select` iff the session is live and its outpacket queue is empty (or it is in raw mode) -/
theorem topOfLoop_tunsel_solo {u : Nat} {s : Srv} (h : Solo u s) :
    (topOfLoop s).2.2 = (live (getUser s u) s.now &&
      ((getUser s u).conn == .rawUdp || ((getUser s u).conn == .dnsNull && decide ((getUser s u).oqFilled < 1)))) := by
  show (!allUsersWaitingToSend (topOfLoop s).1) = _
  rw [topOfLoop_state h, allWaiting_solo (h.putUser _), getUser_putUser_self _ _ _ h.lt, Bool.not_not]
  show (live _ s.now && _) = _
  unfold topSess
  split <;> rfl

theorem topOfLoop_snd_putUser {u : Nat} {s : Srv} (h : Solo u s) (y : Session)
    (h1 : live y s.now = live (getUser s u) s.now) (h2 : y.qs.id = (getUser s u).qs.id) (h3 : y.conn = (getUser s u).conn)
    (h4 : y.oqFilled = (getUser s u).oqFilled) : (topOfLoop (putUser s u y)).2 = (topOfLoop s).2 := by
  have hg : getUser (putUser s u y) u = y := getUser_putUser_self _ _ _ h.lt
  refine Prod.ext ?_ ?_
  · rw [topOfLoop_timeout (h.putUser y), topOfLoop_timeout h, hg, show (putUser s u y).now = s.now from rfl, h1, h2]
  · rw [topOfLoop_tunsel_solo (h.putUser y), topOfLoop_tunsel_solo h, hg, show (putUser s u y).now = s.now from rfl, h1, h3, h4]

theorem findUserByIp_solo {u : Nat} {s : Srv} (h : Solo u s) (ip : Nat) :
    findUserByIp s ip =
      (let x := getUser s u
       if x.active ∧ x.authenticated ∧ ¬ x.disabled ∧ x.lastPkt + 60 > s.now ∧ ip = x.tunIp then some u else none) := by
  unfold findUserByIp Users.findUserByIp
  rw [loop_solo u (fun l i => Users.findUserByIpFrom s.now ip (l.map toSlot) i) none
    (fun i x r => if x.active ∧ x.authenticated ∧ ¬ x.disabled ∧ x.lastPkt + 60 > s.now ∧ ip = x.tunIp then some i else r)
    (fun _ => rfl) (fun _ _ _ => rfl) (fun i x r hx => by simp [hx]) s.users 0 h.othersOff,
    if_pos ⟨Nat.zero_le _, h.lt⟩]
  rfl

/-- the sweep after the handlers ("send realsoon's") at slot `u` alone -/
def sweepOne (s : Srv) (u : Nat) : Res :=
  let x := getUser s u
  if live x s.now ∧ x.qs.id ≠ 0 ∧ x.conn = .dnsNull ∧ !x.qsNew then (sendChunkOrDataless s u .qs).1 else (s, [])

theorem sweepFrom_off (u : Nat) : ∀ (n i : Nat) (s : Srv), u < i → (∀ v, v ≠ u → (getUser s v).active = false) →
    sweepFrom n i s = (s, []) := by
  intro n
  induction n with
  | zero => intros; rfl
  | succ n ih =>
    intro i s hi ho
    unfold sweepFrom
    simp only [live_inactive _ s.now (ho i (by omega))]
    simp [andThen, ih (i + 1) s (by omega) ho]

theorem sweepFrom_solo (u : Nat) : ∀ (n i : Nat) (s : Srv), i ≤ u → u < i + n → Solo u s →
    sweepFrom n i s = sweepOne s u := by
  intro n
  induction n with
  | zero => intro i s h1 h2; omega
  | succ n ih =>
    intro i s hi hn hs
    unfold sweepFrom
    by_cases hiu : i = u
    · subst hiu
      simp only [andThen, sweepOne]
      split
      · rw [sendChunkOrDataless_eq _ _ _ hs.lt]
        simp only
        rw [sweepFrom_off i n (i + 1) _ (by omega) (hs.putUser _).others]
        simp
      · rw [sweepFrom_off i n (i + 1) s (by omega) hs.others]
        simp
    · simp only [live_inactive _ s.now (hs.others i hiu)]
      simp [andThen, ih (i + 1) s (by omega) (by omega) hs]

theorem sweep_solo {u : Nat} {s : Srv} (h : Solo u s) : sweep s = sweepOne s u := by
  unfold sweep
  exact sweepFrom_solo u _ 0 s (Nat.zero_le _) (by rw [h.created]; simpa using h.lt) h

/-- the five header fields of an upstream data query -/
structure UpHdr where
  upSeq : Nat
  upFrag : Nat
  dnSeq : Int
  dnFrag : Int
  last : Bool
deriving DecidableEq, Repr

def parseUpHdr (inb : List Nat) : UpHdr :=
  { upSeq := (b32_8to5 (inb.getD 1 0) >>> 2) &&& 7,
    upFrag := ((b32_8to5 (inb.getD 1 0) &&& 3) <<< 2) ||| ((b32_8to5 (inb.getD 2 0) >>> 3) &&& 3),
    dnSeq := ((b32_8to5 (inb.getD 2 0) &&& 7 : Nat) : Int),
    dnFrag := ((b32_8to5 (inb.getD 3 0) >>> 1 : Nat) : Int),
    last := decide ((b32_8to5 (inb.getD 3 0) &&& 1) = 1) }

/-- the data handler up to `handle_full_packet` on the slot: the downstream ack, the upstream fragment check and, if it passes
(`Bool`), the copy into `inpacket` -/
def dataASess (x : Session) (upSeq upFrag : Nat) (dnSeq dnFrag : Int) (payload : List Nat) : Session × Bool :=
  let up := dataUpstream (ackSess x dnSeq dnFrag) upSeq upFrag
  (if up.2 then dataStore up.1 payload else up.1, up.2)

/-- the part of the data handler in front of `handle_full_packet` (`C05N.dataPre`), on the slot -/
theorem dataPre_eq (s : Srv) (u : Nat) (inb : List Nat) (h : u < s.users.length) :
    C05N.dataPre s u inb =
      (putUser s u (dataASess (getUser s u) (parseUpHdr inb).upSeq (parseUpHdr inb).upFrag (parseUpHdr inb).dnSeq
          (parseUpHdr inb).dnFrag (inb.drop 5)).1,
       (dataASess (getUser s u) (parseUpHdr inb).upSeq (parseUpHdr inb).upFrag (parseUpHdr inb).dnSeq
          (parseUpHdr inb).dnFrag (inb.drop 5)).2, (parseUpHdr inb).last) := by
  unfold C05N.dataPre dataASess parseUpHdr
  simp only [processDownstreamAck_eq _ _ _ _ h, setUser_eq_putUser, putUser_putUser, getUser_putUser_self _ _ _ h]

/-- the packet in `inpacket` is addressed to the tunnel address of the session itself -/
def selfAddressed (x : Session) (now : Nat) : Prop :=
  ∃ out, uncompress (x.inpacket.data.take x.inpacket.len) 65536 = some out ∧ 24 ≤ out.length ∧
    x.active = true ∧ x.authenticated = true ∧ x.disabled = false ∧ x.lastPkt + 60 > now ∧ ipDst out = x.tunIp

/-- `handle_full_packet` on the slot, for a packet that is not for the session itself: events -/
def fullEvs (x : Session) : List Event :=
  match uncompress (x.inpacket.data.take x.inpacket.len) 65536 with
  | some out => if out.length ≥ 4 + 20 then [writeTun out] else []
  | none => []

/-- … the slot afterwards: `inpacket` emptied -/
def fullSess (x : Session) : Session := { x with inpacket := { x.inpacket with len := 0, offset := 0 } }

theorem handleFullPacket_eq {u : Nat} {s : Srv} (hs : Solo u s) (hns : ¬ selfAddressed (getUser s u) s.now) :
    handleFullPacket s u = (putUser s u (fullSess (getUser s u)), fullEvs (getUser s u)) := by
  unfold handleFullPacket fullEvs fullSess
  simp only [setUser_eq_putUser]
  cases hun : uncompress ((getUser s u).inpacket.data.take (getUser s u).inpacket.len) 65536 with
  | none => simp
  | some out =>
    simp only
    by_cases hl : out.length ≥ 4 + 20
    · rw [if_pos hl, if_pos hl, findUserByIp_solo hs]
      have : ¬ ((getUser s u).active = true ∧ (getUser s u).authenticated = true ∧ ¬ (getUser s u).disabled = true ∧
          (getUser s u).lastPkt + 60 > s.now ∧ ipDst out = (getUser s u).tunIp) := by
        intro ⟨h1, h2, h3, h4, h5⟩
        exact hns ⟨out, hun, hl, h1, h2, by simpa using h3, h4, h5⟩
      simp only [this, if_false]
    · rw [if_neg hl, if_neg hl]

/-- `saveQuery` on the slot -/
def saveQ (x : Session) (q : Query) (now : Nat) : Session := { x with q := q, lastPkt := now }

theorem saveQuery_eq (s : Srv) (u : Nat) (q : Query) : saveQuery s u q = putUser s u (saveQ (getUser s u) q s.now) := by
  unfold saveQuery saveQ
  rw [setUser_eq_putUser]

/-- `dataStepQs` on the slot -/
def stepQsSess (x : Session) (u : Nat) : (Session × List Event) × Bool :=
  if x.qs.id ≠ 0 then ((scSess x u .qs).1, !(scSess x u .qs).2) else ((x, []), false)

theorem dataStepQs_eq (s : Srv) (u : Nat) (h : u < s.users.length) :
    dataStepQs s u = ((putUser s u (stepQsSess (getUser s u) u).1.1, (stepQsSess (getUser s u) u).1.2),
      (stepQsSess (getUser s u) u).2) := by
  unfold dataStepQs stepQsSess
  split
  · rw [sendChunkOrDataless_eq _ _ _ h]
  · simp [putUser_getUser]

/-- `dataStepQ` on the slot -/
def stepQSess (x : Session) (u : Nat) (ok lastfrag didsend : Bool) : (Session × List Event) × Bool :=
  if x.q.id ≠ 0 then
    if (x.outpacket.len > 0 ∧ !didsend) ∨ (ok ∧ !lastfrag ∧ !didsend) ∨ (!ok ∧ !didsend) ∨ !x.lazy then
      ((scSess x u .q).1, !(scSess x u .q).2)
    else ((Server.parkQuery x, []), true)
  else ((x, []), didsend)

theorem dataStepQ_eq (s : Srv) (u : Nat) (ok lastfrag didsend : Bool) (h : u < s.users.length) :
    dataStepQ s u ok lastfrag didsend =
      ((putUser s u (stepQSess (getUser s u) u ok lastfrag didsend).1.1, (stepQSess (getUser s u) u ok lastfrag didsend).1.2),
       (stepQSess (getUser s u) u ok lastfrag didsend).2) := by
  unfold dataStepQ stepQSess Server.parkQuery
  simp only
  split
  · split
    · rw [sendChunkOrDataless_eq _ _ _ h]
    · rw [setUser_eq_putUser]
  · simp [putUser_getUser]

/-- `dataStepFinal` on the slot -/
def stepFinalSess (x : Session) (u : Nat) (ok lastfrag didsend : Bool) : Session × List Event :=
  if x.outpacket.len > 0 ∧ !didsend then (scSess x u .q).1
  else if !didsend ∨ !x.lazy then
    if ok ∧ lastfrag then (Server.parkQuery x, []) else (scSess x u .q).1
  else (x, [])

theorem dataStepFinal_eq (s : Srv) (u : Nat) (ok lastfrag didsend : Bool) (h : u < s.users.length) :
    dataStepFinal s u ok lastfrag didsend =
      (putUser s u (stepFinalSess (getUser s u) u ok lastfrag didsend).1, (stepFinalSess (getUser s u) u ok lastfrag didsend).2) := by
  unfold dataStepFinal stepFinalSess Server.parkQuery
  simp only
  split
  · rw [sendChunkOrDataless_eq _ _ _ h]
  · split
    · split
      · rw [setUser_eq_putUser]
      · rw [sendChunkOrDataless_eq _ _ _ h]
    · simp [putUser_getUser]

/-- the data handler (`dataFresh`) on the slot: new slot and events -/
def dataSess (x : Session) (u : Nat) (q : Query) (h : UpHdr) (payload : List Nat) (now : Nat) : Session × List Event :=
  let a := dataASess x h.upSeq h.upFrag h.dnSeq h.dnFrag payload
  let b : Session × List Event := if a.2 ∧ h.last then (fullSess a.1, fullEvs a.1) else (a.1, [])
  let c := stepQsSess b.1 u
  let d := stepQSess c.1.1 u a.2 h.last c.2
  let e := stepFinalSess (saveQ d.1.1 q now) u a.2 h.last d.2
  (e.1, b.2 ++ c.1.2 ++ d.1.2 ++ e.2)

/-- **the data handler of a server with a single client is `dataSess` on the slot** (for a packet that is not addressed to the
session itself) -/
theorem dataFresh_solo {u : Nat} {s : Srv} (hs : Solo u s) (q : Query) (inb : List Nat)
    (hns : (dataASess (getUser s u) (parseUpHdr inb).upSeq (parseUpHdr inb).upFrag (parseUpHdr inb).dnSeq
        (parseUpHdr inb).dnFrag (inb.drop 5)).2 = true → (parseUpHdr inb).last = true →
      ¬ selfAddressed (dataASess (getUser s u) (parseUpHdr inb).upSeq (parseUpHdr inb).upFrag (parseUpHdr inb).dnSeq
        (parseUpHdr inb).dnFrag (inb.drop 5)).1 s.now) :
    dataFresh s u q inb =
      (putUser s u (dataSess (getUser s u) u q (parseUpHdr inb) (inb.drop 5) s.now).1,
       (dataSess (getUser s u) u q (parseUpHdr inb) (inb.drop 5) s.now).2) := by
  have hl := hs.lt
  have hl' : ∀ y, u < (putUser s u y).users.length := fun y => by simpa using hl
  rw [C05N.dataFresh_eq, dataPre_eq _ _ _ hl]
  unfold dataSess C05N.dataRest
  simp only
  generalize parseUpHdr inb = h at hns ⊢
  generalize dataASess (getUser s u) h.upSeq h.upFrag h.dnSeq h.dnFrag (inb.drop 5) = a at hns ⊢
  have hB : (if a.2 = true ∧ h.last = true then handleFullPacket (putUser s u a.1) u else (putUser s u a.1, [])) =
      (putUser s u (if a.2 ∧ h.last then (fullSess a.1, fullEvs a.1) else (a.1, [])).1,
       (if a.2 = true ∧ h.last = true then (fullSess a.1, fullEvs a.1) else (a.1, [])).2) := by
    by_cases hc : a.2 = true ∧ h.last = true
    · rw [if_pos hc,
        handleFullPacket_eq (hs.putUser _) (by simpa [getUser_putUser_self _ _ _ hl] using hns hc.1 hc.2)]
      simp only [if_pos hc, putUser_putUser, getUser_putUser_self _ _ _ hl]
    · simp only [if_neg hc]
  rw [hB]
  generalize (if a.2 = true ∧ h.last = true then (fullSess a.1, fullEvs a.1) else (a.1, [])) = b
  simp only [dataStepQs_eq _ _ (hl' _), putUser_putUser, getUser_putUser_self _ _ _ hl]
  generalize stepQsSess b.1 u = c
  simp only [dataStepQ_eq _ _ _ _ _ (hl' _), putUser_putUser, getUser_putUser_self _ _ _ hl]
  generalize stepQSess c.1.1 u a.2 h.last c.2 = d
  simp only [saveQuery_eq, dataStepFinal_eq _ _ _ _ _ (hl' _), putUser_putUser, getUser_putUser_self _ _ _ hl, putUser_now]

/-- the three parts of the ping handler on the slot: the downstream ack and `pingQs`; `pingQ`; `pingNew` -/
def pingASess (x : Session) (u : Nat) (a b : Int) : Session × List Event :=
  let y := ackSess x a b
  if y.qs.id ≠ 0 then (scSess y u .qs).1 else (y, [])

def pingBSess (x : Session) (u : Nat) : (Session × List Event) × Bool :=
  if x.q.id ≠ 0 then ((scSess x u .q).1, !(scSess x u .q).2) else ((x, []), false)

def pingCSess (x : Session) (u : Nat) (q : Query) (didsend : Bool) (now : Nat) : Session × List Event :=
  let y := saveQ x q now
  if (!didsend ∧ y.outpacket.len > 0) ∨ !y.lazy then (scSess y u .q).1 else (y, [])

/-- the ping handler (`pingFresh`) on the slot -/
def pingSess (x : Session) (u : Nat) (q : Query) (a b : Int) (now : Nat) : Session × List Event :=
  let r1 := pingASess x u a b
  let r2 := pingBSess r1.1 u
  let r3 := pingCSess r2.1.1 u q r2.2 now
  (r3.1, r1.2 ++ r2.1.2 ++ r3.2)

theorem pingFresh_onSlot (s : Srv) (u : Nat) (q : Query) (unpacked : List Nat) (h : u < s.users.length) :
    pingFresh s u q unpacked =
      (putUser s u (pingSess (getUser s u) u q (charVal (unpacked.getD 1 0) / 16) (charVal (unpacked.getD 1 0) % 16) s.now).1,
       (pingSess (getUser s u) u q (charVal (unpacked.getD 1 0) / 16) (charVal (unpacked.getD 1 0) % 16) s.now).2) := by
  have hl' : ∀ y, u < (putUser s u y).users.length := fun y => by simpa using h
  rw [Server.pingFresh_eq, processDownstreamAck_eq _ _ _ _ h]
  unfold pingSess pingASess pingRest
  generalize ackSess (getUser s u) (charVal (unpacked.getD 1 0) / 16) (charVal (unpacked.getD 1 0) % 16) = y
  have hA : pingQs (putUser s u y) u =
      (putUser s u (if y.qs.id ≠ 0 then (scSess y u .qs).1 else (y, [])).1, (if y.qs.id ≠ 0 then (scSess y u .qs).1 else (y, [])).2) := by
    unfold pingQs
    rw [getUser_putUser_self _ _ _ h]
    by_cases hc : y.qs.id ≠ 0
    · simp only [if_pos hc, sendChunkOrDataless_eq _ _ _ (hl' _), putUser_putUser, getUser_putUser_self _ _ _ h]
    · simp only [if_neg hc]
  simp only [hA]
  generalize (if y.qs.id ≠ 0 then (scSess y u .qs).1 else (y, [])) = r1
  have hB : pingQ (putUser s u r1.1) u =
      ((putUser s u (pingBSess r1.1 u).1.1, (pingBSess r1.1 u).1.2), (pingBSess r1.1 u).2) := by
    unfold pingQ pingBSess
    rw [getUser_putUser_self _ _ _ h]
    by_cases hc : r1.1.q.id ≠ 0
    · simp only [if_pos hc, sendChunkOrDataless_eq _ _ _ (hl' _), putUser_putUser, getUser_putUser_self _ _ _ h]
    · simp only [if_neg hc]
  simp only [hB]
  generalize pingBSess r1.1 u = r2
  unfold pingNew pingCSess
  simp only [saveQuery_eq, putUser_putUser, getUser_putUser_self _ _ _ h, putUser_now]
  by_cases hc : (!r2.2 ∧ (saveQ r2.1.1 q s.now).outpacket.len > 0) ∨ !(saveQ r2.1.1 q s.now).lazy
  · simp only [if_pos hc, sendChunkOrDataless_eq _ _ _ (hl' _), putUser_putUser, getUser_putUser_self _ _ _ h]
  · simp only [if_neg hc]

/-- `sweepOne` on the slot -/
def sweepSess (x : Session) (u now : Nat) : Session × List Event :=
  if live x now ∧ x.qs.id ≠ 0 ∧ x.conn = .dnsNull ∧ !x.qsNew then (scSess x u .qs).1 else (x, [])

theorem sweepOne_eq (s : Srv) (u : Nat) (h : u < s.users.length) :
    sweepOne s u = (putUser s u (sweepSess (getUser s u) u s.now).1, (sweepSess (getUser s u) u s.now).2) := by
  unfold sweepOne sweepSess
  simp only
  split
  · rw [sendChunkOrDataless_eq _ _ _ h]
  · simp [putUser_getUser]

/-- an iteration whose handler touches only slot `u` (and the clock is `now'` from `select`'s return on) -/
theorem iteration_solo {u : Nat} {s : Srv} (hs : Solo u s) (inp : Input) (now' : Nat) (y : Session) (evs : List Event)
    (hnt : ∀ f, inp ≠ .tun f)
    (hd : dispatch { putUser s u (topSess (getUser s u) s.now) with now := now' } inp (topOfLoop s).2.2 =
      ({ putUser s u y with now := now' }, evs)) :
    iteration s inp now' =
      ({ putUser s u (sweepSess y u now').1 with now := now' }, evs ++ [Event.sweep] ++ (sweepSess y u now').2,
       ((topOfLoop s).2.1, (topOfLoop s).2.2)) := by
  have hl := hs.lt
  unfold iteration body
  simp only [topOfLoop_state hs]
  have hsolo : Solo u { putUser s u y with now := now' } := (hs.putUser y).withNow now'
  rw [hd]
  simp only [andThen]
  rw [sweep_solo hsolo, sweepOne_eq _ _ (by simpa using hl)]
  rw [getUser_put_now _ _ _ _ hl, putUser_put_now]

end Iodine.C02L
