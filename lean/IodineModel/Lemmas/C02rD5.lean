import IodineModel.Lemmas.C02qD9
import IodineModel.Lemmas.C02rD4
/-
C02 / downstream at distance 7 — NON-VACUITY of `down_packet_imm_desync7_ok`, `down_packet_lazy_desync7_ok`,
`recovery_after_giveups_down_imm`, `recovery_after_giveups_down_lazy` on the demo sessions (`exD` = `desyncC C02.exW`,
immediate mode; `desyncD exPL exWL` / `desyncD exPL exWD`, lazy mode), both cases of `lostDown'`.
-/
namespace Iodine.C02L
open Iodine Iodine.Gen Iodine.World

/-- the client of the demo session has taken nothing yet: fragment number 0, empty reassembly buffer -/
theorem exW_inpkt_rD : C02.exW.cs.c.inpkt.fragment = 0 ∧ C02.exW.cs.c.inpkt.len = 0 := by decide +kernel

theorem exD_inpkt_rD (d : Nat) : (exD d).cs.c.inpkt.fragment = 0 ∧ (exD d).cs.c.inpkt.len = 0 := exW_inpkt_rD

theorem exWL_inpkt_rD : exWL.cs.c.inpkt.fragment = 0 ∧ exWL.cs.c.inpkt.len = 0 := exWL_facts.2.2.2

/-- non-vacuity of `down_packet_imm_desync7_ok`, and the theorem applied: 7 ahead, fragment number 0, nothing stored: the
two-fragment frame arrives after the usual 8 steps and the session is synchronised -/
example : ∃ w', promptSteps 0 8 (step (exD 7) (.offerS (demoFrame 2 30))) = some w' ∧ QuietImm C02.exP w' ∧
    w'.tunC = [demoFrame 2 30] ∧ w'.tunS = [] := by
  obtain ⟨w', h1, h2, h3, h4, _⟩ := down_packet_imm_desync7_ok C02.exP_ok (exD_quiet 7) (exD_inpkt_rD 7).1 (exD_inpkt_rD 7).2
    (demoFrame 2 30) (by decide +kernel) C02.ex_acceptable_down.1 (exD_roomy 7).to (exD_roomy 7).cli (exD_roomy 7).srv
  have hg : downSteps (downFrags (Server.getUser (exD 7).srv C02.exP.u).fragsize ((demoFrame 2 30).length + 1) ((demoFrame 2 30).length + 1)) = 8 := by
    decide +kernel
  rw [hg] at h1
  have hi : tunImage (demoFrame 2 30) = demoFrame 2 30 := by decide
  exact ⟨w', h1, h2, by rw [h3, hi]; rfl, h4⟩

/-- non-vacuity of `down_packet_lazy_desync7_ok`: `d = 7`, the two-fragment frame: delivered after 5 steps, synchronised -/
example : ∃ w', promptSteps 0 5 (step (desyncD exPL exWL 7) (.offerS (demoFrame 2 30))) = some w' ∧ QuietLazy exPL w' ∧
    w'.tunC = [demoFrame 2 30] ∧ w'.tunS = [] := by
  have hq := ex_quiescent_lazy.desync 7
  have hsl := desyncD_slot ex_quiescent_lazy 7
  have hok : DownFrameOk (Server.getUser (desyncD exPL exWL 7).srv exPL.u).tunIp
      (Server.getUser (desyncD exPL exWL 7).srv exPL.u).fragsize (demoFrame 2 30) := by
    rw [hsl.1, hsl.2]; exact ex_acceptable_down_lazy.1
  obtain ⟨w', h1, h2, _, h4, h5, _⟩ := down_packet_lazy_desync7_ok exPL_ok hq (by rw [desyncD_client]; exact exWL_inpkt_rD.1)
    (by rw [desyncD_client]; exact exWL_inpkt_rD.2) (demoFrame 2 30) (by rw [hsl.1, exWL_fragsize]; decide) hok
  rw [hsl.1, exWL_fragsize, ex_acceptable_down_lazy.2, desyncD_client, exWL_sps] at h1
  have ht := exWL_facts.2.2.1
  have hi : tunImage (demoFrame 2 30) = demoFrame 2 30 := by decide
  exact ⟨w', h1, h2, by rw [h4, (desyncD_tun _ _ _).1, ht.2, hi]; rfl, by rw [h5, (desyncD_tun _ _ _).2, ht.1]⟩

private theorem five_ok_rD {tunIp F : Nat} (h1 : tunIp = 0x0a000002) (h2 : F = 30) :
    ∀ f ∈ [demoFrame 2 4, demoFrame 2 30, demoFrame 2 100, demoFrame 2 5, demoFrame 2 31], DownFrameOk tunIp F f := by
  intro f hf
  simp only [List.mem_cons, List.not_mem_nil, or_false] at hf
  subst h1; subst h2
  rcases hf with rfl | rfl | rfl | rfl | rfl
  · exact ⟨by decide, by decide, by decide +kernel, by decide +kernel⟩
  · exact ⟨by decide, by decide, by decide +kernel, by decide +kernel⟩
  · exact ⟨by decide +kernel, by decide +kernel, by decide +kernel, by decide +kernel⟩
  · exact ⟨by decide, by decide, by decide +kernel, by decide +kernel⟩
  · exact ⟨by decide, by decide, by decide +kernel, by decide +kernel⟩

/-- `recovery_after_giveups_down_lazy` applied, case `inpkt.fragment = 0`: the server 5 ahead of the fresh client of `exWL`:
only the first TWO of five offered frames are lost (`d = 5, 6`); the third (`d = 7`) is taken through the weird situation -/
example :
    let fs := [demoFrame 2 4, demoFrame 2 30, demoFrame 2 100, demoFrame 2 5, demoFrame 2 31]
    lostDown' 5 true = 2 ∧ QuietLazy exPL (offerAllS 0 40 (desyncD exPL exWL 5) fs) ∧
    (offerAllS 0 40 (desyncD exPL exWL 5) fs).tunC = [demoFrame 2 100, demoFrame 2 5, demoFrame 2 31] := by
  intro fs
  have hq := ex_quiescent_lazy.desync 5
  have hsl := desyncD_slot ex_quiescent_lazy 5
  have hfr : (desyncD exPL exWL 5).cs.c.inpkt.fragment = 0 := by rw [desyncD_client]; exact exWL_inpkt_rD.1
  have hb : decide ((desyncD exPL exWL 5).cs.c.inpkt.fragment = 0) = true := by simpa using hfr
  have := recovery_after_giveups_down_lazy exPL_ok 40 (by omega) fs 5 (desyncD exPL exWL 5) hq (by omega)
    (fun _ _ => by rw [desyncD_client]; exact exWL_inpkt_rD.2) (by rw [hsl.1, exWL_fragsize]; decide)
    (five_ok_rD (by rw [hsl.2, exWL_tunIp]) (by rw [hsl.1, exWL_fragsize])) (by rw [hb]; decide)
  rw [hb] at this
  have ht := exWL_facts.2.2.1.2
  refine ⟨by decide, this.1, ?_⟩
  show (offerAllS exPL.u 40 _ fs).tunC = _
  rw [this.2.1, (desyncD_tun _ _ _).1, ht]
  decide

/-- … and case `inpkt.fragment ≠ 0` (`exWD`: the client's last packet had two fragments): the first THREE are lost -/
example :
    let fs := [demoFrame 2 4, demoFrame 2 30, demoFrame 2 100, demoFrame 2 5, demoFrame 2 31]
    lostDown' 5 false = 3 ∧ QuietLazy exPL (offerAllS 0 40 (desyncD exPL exWD 5) fs) ∧
    (offerAllS 0 40 (desyncD exPL exWD 5) fs).tunC = [demoFrame 2 30, demoFrame 2 5, demoFrame 2 31] := by
  intro fs
  have hq := ex_quiescent_after_down.desync 5
  have hsl := desyncD_slot ex_quiescent_after_down 5
  have hfr : (desyncD exPL exWD 5).cs.c.inpkt.fragment ≠ 0 := by rw [desyncD_client, exWD_facts.1]; decide
  have hb : decide ((desyncD exPL exWD 5).cs.c.inpkt.fragment = 0) = false := by simpa using hfr
  have := recovery_after_giveups_down_lazy exPL_ok 40 (by omega) fs 5 (desyncD exPL exWD 5) hq (by omega)
    (fun _ h0 => absurd h0 hfr) (by rw [hsl.1, exWD_facts.2.2.2.1]; decide)
    (five_ok_rD (by rw [hsl.2, exWD_facts.2.2.2.2]) (by rw [hsl.1, exWD_facts.2.2.2.1])) (by rw [hb]; decide)
  rw [hb] at this
  refine ⟨by decide, this.1, ?_⟩
  show (offerAllS exPL.u 40 _ fs).tunC = _
  rw [this.2.1, (desyncD_tun _ _ _).1, exWD_facts.2.1]
  decide

private theorem five_ok_imm_rD (w : W) (h1 : (Server.getUser w.srv C02.exP.u).tunIp = (Server.getUser C02.exW.srv C02.exP.u).tunIp)
    (h2 : (Server.getUser w.srv C02.exP.u).fragsize = (Server.getUser C02.exW.srv C02.exP.u).fragsize) :
    ∀ f ∈ [demoFrame 2 30, demoFrame 2 4, demoFrame 2 31, demoFrame 2 5, demoFrame 2 32],
      DownFrameOk (Server.getUser w.srv C02.exP.u).tunIp (Server.getUser w.srv C02.exP.u).fragsize f := by
  intro f hf
  simp only [List.mem_cons, List.not_mem_nil, or_false] at hf
  rw [h1, h2]
  rcases hf with rfl | rfl | rfl | rfl | rfl <;>
    exact ⟨by decide, by decide, by decide +kernel, by decide +kernel⟩

/-- `recovery_after_giveups_down_imm` applied, case `inpkt.fragment = 0`: 5 ahead of the fresh client of `C02.exW`: of five
frames the first TWO are lost, the third (`d = 7`, weird situation) and the others arrive -/
example : (offerAllS 0 40 (exD 5) [demoFrame 2 30, demoFrame 2 4, demoFrame 2 31, demoFrame 2 5, demoFrame 2 32]).tunC =
    [demoFrame 2 31, demoFrame 2 5, demoFrame 2 32] := by
  have hb : decide ((exD 5).cs.c.inpkt.fragment = 0) = true := by simpa using (exD_inpkt_rD 5).1
  have := (recovery_after_giveups_down_imm C02.exP_ok 40 (by decide) [demoFrame 2 30, demoFrame 2 4, demoFrame 2 31, demoFrame 2 5, demoFrame 2 32]
    5 (exD 5) (exD_quiet 5) (by decide) (fun _ _ => (exD_inpkt_rD 5).2) (exD_roomy 5) (by decide +kernel) (by decide +kernel)
    (five_ok_imm_rD (exD 5) rfl rfl) (by rw [hb]; decide)).2.1
  rw [hb] at this
  show (offerAllS C02.exP.u 40 (exD 5) _).tunC = _
  rw [this]
  have ht : (exD 5).tunC = [] := by decide +kernel
  rw [ht]
  decide

/-- … and case `inpkt.fragment ≠ 0` (`exDf`): the first THREE are lost -/
example : (offerAllS 0 40 (exDf 5) [demoFrame 2 30, demoFrame 2 4, demoFrame 2 31, demoFrame 2 5, demoFrame 2 32]).tunC =
    [demoFrame 2 5, demoFrame 2 32] := by
  have hfr : (exDf 5).cs.c.inpkt.fragment ≠ 0 := by decide
  have hb : decide ((exDf 5).cs.c.inpkt.fragment = 0) = false := by simpa using hfr
  have := (recovery_after_giveups_down_imm C02.exP_ok 40 (by decide) [demoFrame 2 30, demoFrame 2 4, demoFrame 2 31, demoFrame 2 5, demoFrame 2 32]
    5 (exDf 5) (exDf_quiet 5) (by decide) (fun _ h0 => absurd h0 hfr) (exDf_roomy 5) (by decide +kernel) (by decide +kernel)
    (five_ok_imm_rD (exDf 5) rfl rfl) (by rw [hb]; decide)).2.1
  rw [hb] at this
  show (offerAllS C02.exP.u 40 (exDf 5) _).tunC = _
  rw [this]
  have ht : (exDf 5).tunC = [] := by decide +kernel
  rw [ht]
  decide

end Iodine.C02L
