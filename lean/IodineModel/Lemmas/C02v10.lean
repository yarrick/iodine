import IodineModel.Lemmas.C02up2
/-
Upstream transfer in immediate mode: one packet and sequences of packets (`up_packet_imm`, `up_sequence_imm`), the cases
`.imm sl sp` of `QuietMD.up_packet` and `QuietMD.up_sequence`.
-/
namespace Iodine.C02L
open Iodine Iodine.Gen Iodine.World

/-- **One packet upstream, immediate mode.**  From a quiescent joint state, a frame offered to the client is cut into
`g` fragments; after `2·g + 1` steps of the prompt schedule the joint state is quiescent again, the server has written
exactly that frame (with the tun header rewritten) to its tun device and the client nothing. -/
theorem up_packet_imm {P : Par} (hP : P.Ok) {sl sp : Nat} {w : W} (hq : QuietImmS P sl sp w) (frame : List Nat)
    (h24 : 24 ≤ frame.length) (hl : frame.length < 65536) (hb : Codec.Bytes frame)
    (hdst : Server.ipDst frame ≠ (Server.getUser w.srv P.u).tunIp)
    (hg16 : upFrags P (frame.length + 1) (0x5a :: frame) ≤ 16) (hsl : 1 ≤ sl ∧ sl ≤ 21 := by omega) :
    ∃ w', promptSteps P.u (2 * upFrags P (frame.length + 1) (0x5a :: frame) + 1) (step w (.offerC frame)) = some w' ∧
      QuietImmS P sl sp w' ∧
      w'.tunS = w.tunS ++ [[0, 0, 8, 0] ++ frame.drop 4] ∧ w'.tunC = w.tunC ∧
      (Server.getUser w'.srv P.u).tunIp = (Server.getUser w.srv P.u).tunIp ∧
      w'.cs.c.sendPingSoon = 20 ∧ w'.cs.c.selecttimeout = w.cs.c.selecttimeout ∧
      (Server.getUser w'.srv P.u).fragsize = (Server.getUser w.srv P.u).fragsize := by
  obtain ⟨w', h1, h2, h3, _, h⟩ := (quietMD_imm_zero.2 hq).up_packet hP
    (show Mode.Ok (.imm sl sp) from hsl) (Nat.zero_le 3) frame h24 hl hb hdst hg16
  exact ⟨w', h1, quietMD_imm_zero.1 h2, h3, h.tunC, h.kept.tunIp, h.sps, h.selto, h.kept.fragsize⟩

/-- **A sequence of packets upstream, immediate mode**: each frame is offered after the previous one was delivered;
all of them arrive exactly once, in order, and the joint state is quiescent again. -/
theorem up_sequence_imm {P : Par} (hP : P.Ok) (fuel : Nat) (hfuel : 33 ≤ fuel) {sl sp : Nat}
    (frames : List (List Nat)) (w : W) (hq : QuietImmS P sl sp w)
    (hok : ∀ f ∈ frames, UpFrameOk P (Server.getUser w.srv P.u).tunIp f) (hsl : 1 ≤ sl ∧ sl ≤ 21 := by omega) :
    QuietImmS P sl sp (offerAllC P.u fuel w frames) ∧
    (offerAllC P.u fuel w frames).tunS = w.tunS ++ frames.map tunImage ∧
    (offerAllC P.u fuel w frames).tunC = w.tunC := by
  have := (quietMD_imm_zero.2 hq).up_sequence hP (show Mode.Ok (.imm sl sp) from hsl) fuel hfuel frames hok
  exact ⟨quietMD_imm_zero.1 this.1, this.2⟩

end Iodine.C02L
