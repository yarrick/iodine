import IodineModel.Lemmas.C02qO6
import IodineModel.Lemmas.C02qO4
import IodineModel.Lemmas.C02M8
import IodineModel.Lemmas.WorldFast
/-
Overlapping transfers in lazy mode: the single-fragment × single-fragment case END TO END (`overlap_single_lazy`), and
non-vacuity on the lazy demo session `exWL`.
-/
namespace Iodine.C02L
open Iodine Iodine.Gen Iodine.World

/-- Lazy mode, from a quiescent joint state: a frame `fu` is offered to the client and a frame `fd`
to the server — in either order, BEFORE anything is delivered —, each fitting ONE fragment of its direction.  Both orders
give the same joint state, and from it the prompt schedule reaches after exactly FIVE steps
(`deliverUp deliverDown tickC deliverUp deliverDown`) a quiescent state again; `fu` was written to the server's tun device
exactly once and `fd` to the client's exactly once.
(What happens: the server can only PARK the data query — it holds no other query, the one it held went out with the
downstream packet —, so the client's 5 ms ping timer fires first and the chunk is sent a SECOND time; the server recognises
the duplicate, answers the parked query with the acknowledgement and holds the second one.) -/
theorem overlap_single_lazy {P : Par} (hP : P.Ok) {w : W} (hq : QuietLazy P w) (fu fd : List Nat)
    (hu : UpFrameOk P (Server.getUser w.srv P.u).tunIp fu)
    (hd : DownFrameOk (Server.getUser w.srv P.u).tunIp (Server.getUser w.srv P.u).fragsize fd)
    (hF : 0 < (Server.getUser w.srv P.u).fragsize)
    (hU1 : fragLen P (0x5a :: fu) = (0x5a :: fu).length)
    (hD1 : downLen (Server.getUser w.srv P.u).fragsize (0x5a :: fd).length = (0x5a :: fd).length) :
    step (step w (.offerS fd)) (.offerC fu) = step (step w (.offerC fu)) (.offerS fd) ∧
    ∃ w', promptSteps P.u 5 (step (step w (.offerC fu)) (.offerS fd)) = some w' ∧ QuietLazy P w' ∧
      w'.tunS = w.tunS ++ [tunImage fu] ∧ w'.tunC = w.tunC ++ [tunImage fd] ∧
      (Server.getUser w'.srv P.u).tunIp = (Server.getUser w.srv P.u).tunIp ∧
      (Server.getUser w'.srv P.u).fragsize = (Server.getUser w.srv P.u).fragsize := by
  obtain ⟨w2, hcs, hsc, hB, htS, htC, htip, hfr⟩ := both_offer_lazy hP hq fu fd hu hd hF
  have h64u : (0x5a :: fu).length ≤ 65536 := by have := hu.hl; simp; omega
  have h64d : (0x5a :: fd).length ≤ 65536 := by have := hd.hl; simp; omega
  obtain ⟨w3, Q, hs1, hP1, htS1, htC1, htip1, hfr1⟩ := single_step1 hP hB h64u hU1 hD1 hu.h24 (by rw [htip]; exact hu.dst)
  obtain ⟨w4, c1, hs2, hR, htS2, htC2, hsrv2⟩ := single_step23 hP hP1 h64d (by have := hd.h24; omega) rfl
  obtain ⟨w5, hs3, hQ5, htS3, htC3, htip3, hfr3⟩ := single_step45 hP hR (by simpa using hU1)
  refine ⟨by rw [hsc, hcs], w5, ?_, hQ5, ?_, ?_, ?_, ?_⟩
  · rw [hcs]
    have h12 := promptSteps_add P.u 1 2 w2 w3 hs1
    rw [hs2] at h12
    have h123 := promptSteps_add P.u (1 + 2) 2 w2 w4 h12
    rw [hs3] at h123
    exact h123
  · rw [htS3, htS2, htS1, htS]; rfl
  · rw [htC3, htC2, htC1, htC]
  · rw [htip3, hsrv2, htip1, htip]
  · rw [hfr3, hsrv2, hfr1, hfr]

/-- … in terms of the executable prompt run: any fuel `≥ 5` ends in that state, after exactly 5 scheduler events -/
theorem overlap_single_lazy_run {P : Par} (hP : P.Ok) {w : W} (hq : QuietLazy P w) (fu fd : List Nat)
    (hu : UpFrameOk P (Server.getUser w.srv P.u).tunIp fu)
    (hd : DownFrameOk (Server.getUser w.srv P.u).tunIp (Server.getUser w.srv P.u).fragsize fd)
    (hF : 0 < (Server.getUser w.srv P.u).fragsize)
    (hU1 : fragLen P (0x5a :: fu) = (0x5a :: fu).length)
    (hD1 : downLen (Server.getUser w.srv P.u).fragsize (0x5a :: fd).length = (0x5a :: fd).length) :
    ∃ w', (∀ fuel, 5 ≤ fuel → runPromptCount P.u fuel (step (step w (.offerC fu)) (.offerS fd)) 0 = (w', 5)) ∧
      (∀ fuel, 5 ≤ fuel → runPromptCount P.u fuel (step (step w (.offerS fd)) (.offerC fu)) 0 = (w', 5)) ∧
      QuietLazy P w' ∧ w'.tunS = w.tunS ++ [tunImage fu] ∧ w'.tunC = w.tunC ++ [tunImage fd] := by
  obtain ⟨hcomm, w', h1, h2, h3, h4, _⟩ := overlap_single_lazy hP hq fu fd hu hd hF hU1 hD1
  have hr : ∀ fuel, 5 ≤ fuel → runPromptCount P.u fuel (step (step w (.offerC fu)) (.offerS fd)) 0 = (w', 5) := by
    intro fuel hf
    have := runPromptCount_of_steps P.u _ _ _ h1 h2.quiet fuel 0 hf
    simpa using this
  exact ⟨w', hr, fun fuel hf => by rw [hcomm]; exact hr fuel hf, h2, h3, h4⟩

/-! ### non-vacuity: the lazy demo session `exWL`, a 4-byte-payload frame each way -/

theorem ex_overlap_frames :
    UpFrameOk exPL (Server.getUser exWL.srv exPL.u).tunIp (demoFrame 9 4) ∧
    DownFrameOk (Server.getUser exWL.srv exPL.u).tunIp (Server.getUser exWL.srv exPL.u).fragsize (demoFrame 2 4) ∧
    fragLen exPL (0x5a :: demoFrame 9 4) = (0x5a :: demoFrame 9 4).length ∧
    downLen (Server.getUser exWL.srv exPL.u).fragsize (0x5a :: demoFrame 2 4).length = (0x5a :: demoFrame 2 4).length := by
  refine ⟨⟨by decide, by decide, by unfold Codec.Bytes; decide, by decide +kernel, by decide +kernel⟩,
    ⟨by decide, by decide, by decide +kernel, by decide +kernel⟩, by decide +kernel, by rw [exWL_facts.1]; decide⟩

theorem exWL_tun_emptyrO : exWL.tunS = [] ∧ exWL.tunC = [] := exWL_tun

theorem ex_up100rO : UpFrameOk exPL (Server.getUser exWL.srv exPL.u).tunIp (demoFrame 9 100) :=
  ⟨by decide +kernel, by decide +kernel, by unfold Codec.Bytes; decide +kernel, by decide +kernel, by decide +kernel⟩

theorem ex_down100rO : DownFrameOk (Server.getUser exWL.srv exPL.u).tunIp (Server.getUser exWL.srv exPL.u).fragsize (demoFrame 2 100) :=
  ⟨by decide +kernel, by decide +kernel, by decide +kernel, by decide +kernel⟩

/-- the theorem applied to the demo session: both frames arrive, after exactly five scheduler events, whichever was offered first -/
example : ∃ w', runPromptCount 0 5 (step (step exWL (.offerC (demoFrame 9 4))) (.offerS (demoFrame 2 4))) 0 = (w', 5) ∧
    runPromptCount 0 5 (step (step exWL (.offerS (demoFrame 2 4))) (.offerC (demoFrame 9 4))) 0 = (w', 5) ∧
    QuietLazy exPL w' ∧ w'.tunS = [demoFrame 9 4] ∧ w'.tunC = [demoFrame 2 4] := by
  obtain ⟨w', h1, h2, h3, h4, h5⟩ := overlap_single_lazy_run exPL_ok ex_quiescent_lazy (demoFrame 9 4) (demoFrame 2 4)
    ex_overlap_frames.1 ex_overlap_frames.2.1 (by rw [exWL_facts.1]; decide) ex_overlap_frames.2.2.1 ex_overlap_frames.2.2.2
  refine ⟨w', h1 5 (Nat.le_refl _), h2 5 (Nat.le_refl _), h3, ?_, ?_⟩
  · rw [h4, exWL_tun.1]; decide
  · rw [h5, exWL_tun.2]; decide

/-- non-vacuity of `both_offer_lazy` / `BothFlightL` with SEVERAL fragments each way (2 upstream, 2 downstream) -/
example : ∃ w2, step (step exWL (.offerC (demoFrame 9 30))) (.offerS (demoFrame 2 30)) = w2 ∧
    step (step exWL (.offerS (demoFrame 2 30))) (.offerC (demoFrame 9 30)) = w2 ∧
    BothFlightL exPL (0x5a :: demoFrame 9 30) (0x5a :: demoFrame 2 30) w2 (newPacket exWL.cs.c (demoFrame 9 30)) 0 0
      ((exWL.cs.c.inpkt.seqno + 1) % 8) 0 (downLen (Server.getUser exWL.srv exPL.u).fragsize (0x5a :: demoFrame 2 30).length) 0 := by
  obtain ⟨w2, h1, h2, h3, _⟩ := both_offer_lazy exPL_ok ex_quiescent_lazy (demoFrame 9 30) (demoFrame 2 30)
    ex_acceptable_lazy.1 ex_acceptable_down_lazy.1 (by rw [exWL_facts.1]; decide)
  exact ⟨w2, h1, h2, h3⟩

/-- non-vacuity of the one-round lemma `both_round_lazy` (C02qO4): on the demo session, a 3-fragment frame up (`demoFrame 9 100`,
54-byte fragments) and a 5-fragment frame down (`demoFrame 2 100`, 30-byte fragments): after the double offer, four scheduler steps
lead from fragments (0, 0) to fragments (1, 1) in flight -/
example : ∃ w' c0', promptSteps 0 4 (step (step exWL (.offerC (demoFrame 9 100))) (.offerS (demoFrame 2 100))) = some w' ∧
    BothFlightL exPL (0x5a :: demoFrame 9 100) (0x5a :: demoFrame 2 100) w' c0' (0 + fragLen exPL ((0x5a :: demoFrame 9 100).drop 0)) 1
      ((exWL.cs.c.inpkt.seqno + 1) % 8) (0 + 30) 30 1 := by
  obtain ⟨w2, h1, _, hB, _, _, _, hfr⟩ := both_offer_lazy exPL_ok ex_quiescent_lazy (demoFrame 9 100) (demoFrame 2 100)
    ex_up100rO ex_down100rO
    (by rw [exWL_facts.1]; decide)
  have hD : downLen (Server.getUser exWL.srv exPL.u).fragsize (0x5a :: demoFrame 2 100).length = 30 := by
    rw [exWL_facts.1]; decide +kernel
  rw [hD] at hB
  obtain ⟨w', c0', hs, hB', _⟩ := both_round_lazy exPL_ok hB (by decide +kernel) (by decide +kernel) (by decide +kernel) (by decide +kernel) (by decide +kernel) (by decide +kernel)
  have hD' : downLen (Server.getUser w2.srv exPL.u).fragsize ((0x5a :: demoFrame 2 100).length - (0 + 30)) = 30 := by
    rw [hfr, exWL_facts.1]; decide +kernel
  rw [hD'] at hB'
  exact ⟨w', c0', by rw [h1]; exact hs, hB'⟩

/-- FINDING (concrete run, kernel-evaluated): overlapping single-fragment transfers cost a RESEND.  After
`deliverUp deliverDown tickC` both frames are already on the tun devices, yet the client has sent its chunk a second time
(`outchunkresent = 1`, one data query in flight): the server could not acknowledge the first copy at once — it holds no
query, the held one went out with the downstream packet — and the client's 5 ms ping timer beats the server's 20 ms one. -/
theorem overlap_resend_finding :
    (let w := run (step (step exWL (.offerC (demoFrame 9 4))) (.offerS (demoFrame 2 4))) [.deliverUp, .deliverDown, .tickC]
     w.cs.c.outchunkresent = 1 ∧ w.tunS = [demoFrame 9 4] ∧ w.tunC = [demoFrame 2 4] ∧ w.up.length = 1 ∧ w.down = [] ∧
     (Server.getUser w.srv 0).qs.id ≠ 0) ∧
    promptTrace 0 9 (step (step exWL (.offerC (demoFrame 9 4))) (.offerS (demoFrame 2 4))) =
      [.deliverUp, .deliverDown, .tickC, .deliverUp, .deliverDown] := by
  rw [run_fast, promptTrace_fast, step_fast]; decide +kernel

/-- FINDING (concrete run): with several fragments each way every downstream fragment is sent TWICE (once as the answer to
the ping that fetched it, once more as the answer to the next upstream data query: `outfragresent = 2`, two answers in
flight), and the client drops the second copy as a duplicate; still each frame arrives exactly once (`test_lazy_both`). -/
theorem overlap_duplicates_finding :
    (let w := step (step (step exWL (.offerC (demoFrame 9 30))) (.offerS (demoFrame 2 30))) .deliverUp
     w.down.length = 2 ∧ (Server.getUser w.srv 0).outfragresent = 2 ∧ (Server.getUser w.srv 0).q.id = 0) := by
  rw [step_fast]; decide +kernel

#print axioms overlap_single_lazy
#print axioms overlap_single_lazy_run
#print axioms both_offer_lazy
#print axioms both_round_lazy

end Iodine.C02L
