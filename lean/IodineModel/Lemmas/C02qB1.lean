import IodineModel.Lemmas.C02q0
import IodineModel.Lemmas.C02d5
import IodineModel.Lemmas.C02up2
import IodineModel.Lemmas.C02qA1
/-
The give-up run under an UPSTREAM blackout, immediate mode.  While every upstream datagram is lost the client, having accepted
a frame from its tun device, times out once per second: three times the first fragment is sent again (`resentState`), the
fourth time the packet is dropped and a ping goes out (`gaveupState`).  The client's side of the run is `UpLost P out c0 c r`:
`c` after `r` resends, relative to the state `c0` in which it accepted the frame (`uplost_offer`, `uplost_resend`,
`uplost_giveup`); in the joined model two events of the blackout schedule lose the query in flight and let the client's 1 s
timeout expire before the server's 10 s (`upLost_drop_tick`).  `giveup_run_up_imm`: after exactly 9 steps the pair is quiescent
again, 4 s later, and NOTHING has moved except the client and the clocks (`GaveUp`): the client's `outpkt.seqno` is one further,
the freshness slack of the server's duplicate memories has grown by 4 (data-CMC counter) resp. 1 (ping counter).
`giveup_runs_up_imm`: `k` frames in a row.
-/
namespace Iodine.C02L
open Iodine Iodine.Gen Iodine.World

theorem quietImmDS_one {P : Par} {du dd : Nat} {w : W} : QuietImmDS P du dd 1 1 w ↔ QuietImmD P du dd w :=
  ⟨fun h => ⟨h.ph, h.cst, h.idleC, h.up, h.down, h.srv, h.idle, h.oq, h.syncu, h.syncd, h.aged, h.paged⟩,
   fun h => ⟨h.ph, h.cst, h.idleC, h.up, h.down, h.srv, h.idle, h.oq, h.syncu, h.syncd, h.aged, h.paged⟩⟩

theorem quietImmDS_of_quietImm {P : Par} {w : W} (h : QuietImm P w) : QuietImmDS P 0 0 1 1 w :=
  quietImmDS_one.2 (quietImmD_zero.2 h)

theorem QuietImmDS.mono {P : Par} {du dd sl sp sl' sp' : Nat} {w : W} (h : QuietImmDS P du dd sl sp w) (h1 : sl ≤ sl')
    (h2 : sp ≤ sp') : QuietImmDS P du dd sl' sp' w :=
  ⟨h.ph, h.cst, h.idleC, h.up, h.down, h.srv, h.idle, h.oq, h.syncu, h.syncd, h.aged.mono h1, h.paged.mono h2⟩

theorem QuietImmDS.mod8 {P : Par} {du dd sl sp : Nat} {w : W} (h : QuietImmDS P du dd sl sp w) :
    QuietImmDS P (du % 8) dd sl sp w :=
  ⟨h.ph, h.cst, h.idleC, h.up, h.down, h.srv, h.idle, h.oq, by have := h.syncu; omega, h.syncd, h.aged, h.paged⟩

/-- the clock and the resend counter do not enter `CReady` (as long as the 60 s are not over) -/
theorem CReady.tweak {P : Par} {c : Client.Cli} {out : List Nat} {o f : Nat} (h : CReady P c out o f) (n k : Nat)
    (ha : ¬ c.lastdownstreamtime + 60 < n) : CReady P { c with now := n, outchunkresent := k } out o f :=
  ⟨(h.stat.toM.move (c' := { c with now := n, outchunkresent := k }) rfl h.stat.cid h.stat.cmc ha).imm,
    h.data, h.len, h.off, h.frag, h.ho, h.hf, h.bytes⟩

/-- immediate mode counts no answers: the state after `send_chunk` is `sentState` -/
theorem afterChunk_imm {c : Client.Cli} (h : c.lazymode = false) : afterChunk c = { sentState c with sendPingSoon := 0 } :=
  congrArg (fun z : Client.Cli => { z with sendPingSoon := 0 }) (bumpCnt_imm (c := sentState c) h)

/-- after `send_chunk` the same fragment is ready to be sent again -/
theorem CReady.sent {P : Par} {c : Client.Cli} {out : List Nat} {o f : Nat} (h : CReady P c out o f) :
    CReady P { sentState c with sendPingSoon := 0 } out o f := by
  have s := sentFacts c
  have hst := h.stat.toM.after_chunk.imm
  rw [afterChunk_imm h.stat.imm] at hst
  exact ⟨hst, s.odata.trans h.data, s.olen.trans h.len, s.ooff.trans h.off, s.ofrag.trans h.frag, h.ho, h.hf, h.bytes⟩

theorem CReady.sending {P : Par} {c : Client.Cli} {out : List Nat} {o f : Nat} (h : CReady P c out o f) :
    Client.isSending c = true := by
  unfold Client.isSending
  have := h.ho
  rw [h.len, bne_iff_ne]
  omega

/-- the client after a timeout that resends the fragment in flight: one second later, `outchunkresent` one up, the
fragment sent again (`sentState`: `sentlen`, the data-CMC counter one on, a new query id) -/
def resentState (c : Client.Cli) : Client.Cli :=
  { sentState { c with now := c.now + 1, outchunkresent := c.outchunkresent + 1 } with sendPingSoon := 0 }

/-- the client after the timeout that gives the packet up: one second later, `outpkt` emptied (its sequence number stays),
`outchunkresent = 0`, a ping sent (`pingState`: the ping counter one on, a new query id) -/
def gaveupState (c : Client.Cli) : Client.Cli := pingState (dropPkt { c with now := c.now + 1 })

structure ResentFacts (c c' : Client.Cli) : Prop where
  now : c'.now = c.now + 1
  res : c'.outchunkresent = c.outchunkresent + 1
  sps : c'.sendPingSoon = 0
  ldt : c'.lastdownstreamtime = c.lastdownstreamtime
  cmc : c'.datacmc = if c.datacmc + 1 ≥ 36 then 0 else c.datacmc + 1
  seed : c'.randSeed = c.randSeed
  inpkt : c'.inpkt = c.inpkt
  oseq : c'.outpkt.seqno = c.outpkt.seqno
  selto : c'.selecttimeout = c.selecttimeout

theorem resentFacts (c : Client.Cli) : ResentFacts c (resentState c) := by
  have s := sentFacts { c with now := c.now + 1, outchunkresent := c.outchunkresent + 1 }
  exact ⟨s.now, by simp [resentState, sentState, Client.rotateChunkid], s.sps, s.ldt, s.cmc, s.seed, s.inpkt, s.oseq, s.selto⟩

theorem CReady.resent {P : Par} {c : Client.Cli} {out : List Nat} {o f : Nat} (h : CReady P c out o f)
    (ha : ¬ c.lastdownstreamtime + 60 < c.now + 1) : CReady P (resentState c) out o f :=
  (h.tweak (c.now + 1) (c.outchunkresent + 1) ha).sent

structure GaveupFacts (c c' : Client.Cli) : Prop where
  now : c'.now = c.now + 1
  res : c'.outchunkresent = 0
  sps : c'.sendPingSoon = 0
  ldt : c'.lastdownstreamtime = c.lastdownstreamtime
  cmc : c'.datacmc = c.datacmc
  seed : c'.randSeed = (c.randSeed + 1) % 65536
  inpkt : c'.inpkt = c.inpkt
  oseq : c'.outpkt.seqno = c.outpkt.seqno
  olen : c'.outpkt.len = 0
  selto : c'.selecttimeout = c.selecttimeout

theorem gaveupFacts (c : Client.Cli) : GaveupFacts c (gaveupState c) := by
  have p := pingFacts (dropPkt { c with now := c.now + 1 })
  exact ⟨p.now, by simp [gaveupState, pingState, Client.rotateChunkid], p.sps, p.ldt, p.datacmc, p.seed, p.inpkt,
    by rw [gaveupState, p.outpkt], by rw [gaveupState, p.outpkt], p.selto⟩

theorem gaveup_cstat {P : Par} {c : Client.Cli} (hc : CStat P c) (ha : ¬ c.lastdownstreamtime + 60 < c.now + 1) :
    CStat P (gaveupState c) ∧ Client.isSending (gaveupState c) = false := by
  have p := pingFacts (dropPkt { c with now := c.now + 1 })
  have hd : CStatM P false (dropPkt { c with now := c.now + 1 }) := hc.toM.move rfl hc.cid hc.cmc ha
  refine ⟨(hd.after_ping p (by rw [p.seed]; exact Nat.mod_lt _ (by omega))).imm, ?_⟩
  unfold Client.isSending
  rw [(gaveupFacts c).olen]
  rfl

/-- in immediate mode, waiting for the answer, the state `cliDoes_resend` ends in is `resentState` -/
theorem afterChunk_resent {c : Client.Cli} (hs : Client.isSending c = true) (hsps : c.sendPingSoon = 0)
    (hlz : c.lazymode = false) :
    afterChunk { Client.advanceClock c (Client.selectOf c) with outchunkresent := c.outchunkresent + 1 } = resentState c := by
  rw [advanceClock_sending c hs hsps]
  exact afterChunk_imm (c := { c with now := c.now + 1, outchunkresent := c.outchunkresent + 1 }) hlz

/-- immediate mode counts no answers: `pingStateL` is `pingState` -/
theorem pingStateL_imm {c : Client.Cli} (h : c.lazymode = false) : pingStateL c = pingState c := by
  unfold pingStateL pingState
  rw [bumpCnt_imm (c := Client.rotateChunkid { c with randSeed := (c.randSeed + 1) % 65536 }) h]

/-- the timeout after the third resend: the packet is dropped, a ping goes out -/
theorem cstep_giveup {P : Par} (hP : P.Ok) {c : Client.Cli} {out : List Nat} {o f : Nat} (h : CReady P c out o f)
    (hsps : c.sendPingSoon = 0) (hr : 3 ≤ c.outchunkresent) (ha : ¬ c.lastdownstreamtime + 60 < c.now + 1) :
    ∃ name, CliDoes ⟨c, .tunnel⟩ .tick ⟨gaveupState c, .tunnel⟩ [.query (gaveupState c).chunkid P.ty name] [] := by
  have hs := h.sending
  have hadv := advanceClock_sending c hs hsps
  have hd : CStatM P false (dropPkt { c with now := c.now + 1 }) := h.stat.toM.move rfl h.stat.cid h.stat.cmc ha
  obtain ⟨name, hsett, -⟩ := settle_ping hP hd (Or.inl rfl) [] .timeout
  rw [show pingStateL (dropPkt { c with now := c.now + 1 }) = gaveupState c from
    pingStateL_imm (c := dropPkt { c with now := c.now + 1 }) h.stat.imm] at hsett
  refine ⟨name, CliDoes.mk (evs := [.query (gaveupState c).chunkid P.ty name]) (nx := .sel (Client.selectOf (gaveupState c)))
    ?_ rfl rfl⟩
  show Client.tunnelStep c .tick = _
  rw [tunnelStep_tick c h.stat.running (by rw [hadv]; exact ha), hadv]
  unfold Client.timeoutBranch
  rw [if_pos (by exact hs), if_neg (by show ¬ c.outchunkresent < 3; omega)]
  exact hsett

/-- relative to the state `c0` in which the client accepted the frame, it has the first fragment of the packet `out` in
flight, resent `r` times, one second apart; nothing else has changed -/
structure UpLost (P : Par) (out : List Nat) (c0 c : Client.Cli) (r : Nat) : Prop where
  ready : CReady P c out 0 0
  res : c.outchunkresent = r
  sps : c.sendPingSoon = 0
  now : c.now = c0.now + r
  ldt : c.lastdownstreamtime = c0.lastdownstreamtime
  cmc : c.datacmc = (c0.datacmc + r + 1) % 36
  seed : c.randSeed = c0.randSeed
  inpkt : c.inpkt = c0.inpkt
  oseq : c.outpkt.seqno = (c0.outpkt.seqno + 1) % 8
  selto : c.selecttimeout = c0.selecttimeout

/-- a frame from the tun device of an idle client: it is read, compressed, and its first fragment goes out -/
theorem uplost_offer {P : Par} (hP : P.Ok) {c0 : Client.Cli} (hc : CStat P c0) (hi : Client.isSending c0 = false)
    (frame : List Nat) (hne : frame ≠ []) (hl : frame.length < 65536) (hb : Codec.Bytes frame) :
    ∃ d c, CliDoes ⟨c0, .tunnel⟩ (.tun frame) ⟨c, .tunnel⟩ [d] [] ∧ UpLost P (0x5a :: frame) c0 c 0 := by
  have hready : CReady P (newPacket c0 frame) (0x5a :: frame) 0 0 := by
    have h := newPacket_readyM hc.toM (Or.inl rfl) frame hl hb
    exact ⟨h.stat.imm, h.data, h.len, h.off, h.frag, h.olt, h.flt, h.bytes⟩
  have hdo := cliDoes_tun hP hc.toM (Or.inl rfl) hi frame hne hl hb
  obtain ⟨name, hq, -⟩ := hready.toM.query hP
  rw [hq, afterChunk_imm (c := newPacket c0 frame) hc.imm] at hdo
  have hsf := sentFacts (newPacket c0 frame)
  refine ⟨_, _, hdo, hready.sent, ?_, hsf.sps, hsf.now, hsf.ldt, ?_, hsf.seed, hsf.inpkt, ?_, hsf.selto⟩
  · simp [sentState, Client.rotateChunkid, newPacket]
  · rw [hsf.cmc]
    show (if c0.datacmc + 1 ≥ 36 then 0 else c0.datacmc + 1) = _
    have := hc.cmc
    split <;> omega
  · rw [hsf.oseq]
    exact sChar_small _ (by have := hc.oseq; omega)

/-- the query is lost and the client's timeout expires, for the first, second or third time: the fragment goes out again -/
theorem uplost_resend {P : Par} (hP : P.Ok) {out : List Nat} {c0 c : Client.Cli} {r : Nat} (h : UpLost P out c0 c r) (hr : r < 3)
    (ha : ¬ c0.lastdownstreamtime + 60 < c0.now + r + 1) :
    ∃ d, CliDoes ⟨c, .tunnel⟩ .tick ⟨resentState c, .tunnel⟩ [d] [] ∧ UpLost P out c0 (resentState c) (r + 1) := by
  have ha' : ¬ c.lastdownstreamtime + 60 < c.now + 1 := by rw [h.ldt, h.now]; exact ha
  obtain ⟨c1, rfl, h1, hstep⟩ := cliDoes_resend hP h.ready.toM (by rw [h.res]; exact hr)
    (by rw [advanceClock_sending c h.ready.sending h.sps]; exact ha')
  obtain ⟨name, hq, -⟩ := h1.query hP
  rw [hq, afterChunk_resent h.ready.sending h.sps h.ready.stat.imm] at hstep
  have rf := resentFacts c
  refine ⟨_, hstep, h.ready.resent ha', by rw [rf.res, h.res], rf.sps, by rw [rf.now, h.now]; omega, rf.ldt.trans h.ldt, ?_,
    rf.seed.trans h.seed, rf.inpkt.trans h.inpkt, rf.oseq.trans h.oseq, rf.selto.trans h.selto⟩
  rw [rf.cmc, h.cmc]
  split <;> omega

/-- upstream blackout, a query in flight, nothing parked at the server: the query is lost, then the client's timeout
(1 s, against the server's 10 s) expires -/
theorem upLost_drop_tick {u k n : Nat} {c c' : Client.Cli} {srv : Server.Srv} {d : UpD} {ups : List UpD} {tC tS tn : List (List Nat)}
    (hs : Client.isSending c = true) (hsps : c.sendPingSoon = 0) (hS : Solo u srv) (hqs : (Server.getUser srv u).qs.id = 0)
    (h : CliDoes ⟨c, .tunnel⟩ .tick ⟨c', .tunnel⟩ ups tn) (hn : c'.now = c.now + 1) :
    runSched blackoutEvUp (k + 2) ⟨⟨c, .tunnel⟩, { srv with now := n }, [d], [], tC, tS⟩ =
      runSched blackoutEvUp k ⟨⟨c', .tunnel⟩, { srv with now := n + 1 }, ups, [], tC ++ tn, tS⟩ := by
  rw [upLost_drop, upLost_tickC (t := 1000000) (by rw [timeoutC_tunnel, selectOf_sending c hs hsps])
    (by rw [topOfLoop_timeout (hS.withNow n), if_neg (fun hc => hc.2 hqs)]; decide) h]
  show runSched blackoutEvUp k ⟨_, { srv with now := n + (c'.now - c.now) }, _, _, _, _⟩ = _
  rw [hn, Nat.add_sub_cancel_left]

/-- the state after the give-up, relative to the state `w0` in which the frame was offered -/
structure GaveUp (P : Par) (w0 w : W) : Prop where
  ph : w.cs.ph = .tunnel
  cst : CStat P w.cs.c
  idleC : Client.isSending w.cs.c = false
  up : w.up = []
  down : w.down = []
  srv : w.srv = { w0.srv with now := w0.srv.now + 4 }
  tunS : w.tunS = w0.tunS
  tunC : w.tunC = w0.tunC
  now : w.cs.c.now = w0.cs.c.now + 4
  ldt : w.cs.c.lastdownstreamtime = w0.cs.c.lastdownstreamtime
  cmc : w.cs.c.datacmc = (w0.cs.c.datacmc + 4) % 36
  seed : w.cs.c.randSeed = (w0.cs.c.randSeed + 1) % 65536
  inpkt : w.cs.c.inpkt = w0.cs.c.inpkt
  oseq : w.cs.c.outpkt.seqno = (w0.cs.c.outpkt.seqno + 1) % 8
  selto : w.cs.c.selecttimeout = w0.cs.c.selecttimeout
  res : w.cs.c.outchunkresent = 0
  sps : w.cs.c.sendPingSoon = 0

/-- the third resend is lost and the timeout expires again: the client gives the packet up and pings -/
theorem uplost_giveup {P : Par} (hP : P.Ok) {out : List Nat} {c0 c : Client.Cli} (h : UpLost P out c0 c 3)
    (ha : ¬ c0.lastdownstreamtime + 60 < c0.now + 4) :
    ∃ d, CliDoes ⟨c, .tunnel⟩ .tick ⟨gaveupState c, .tunnel⟩ [d] [] ∧
      ∀ (srv : Server.Srv) (tC tS : List (List Nat)),
        GaveUp P ⟨⟨c0, .tunnel⟩, srv, [], [], tC, tS⟩
          ⟨⟨gaveupState c, .tunnel⟩, { srv with now := srv.now + 4 }, [], [], tC, tS⟩ := by
  have ha' : ¬ c.lastdownstreamtime + 60 < c.now + 1 := by rw [h.ldt, h.now]; exact ha
  obtain ⟨name, hstep⟩ := cstep_giveup hP h.ready h.sps (by rw [h.res]; omega) ha'
  have gf := gaveupFacts c
  obtain ⟨gc, gi⟩ := gaveup_cstat h.ready.stat ha'
  exact ⟨_, hstep, fun srv tC tS => ⟨rfl, gc, gi, rfl, rfl, rfl, rfl, rfl, by rw [gf.now, h.now], gf.ldt.trans h.ldt,
    by rw [gf.cmc, h.cmc], by rw [gf.seed, h.seed], gf.inpkt.trans h.inpkt, gf.oseq.trans h.oseq, gf.selto.trans h.selto,
    gf.res, gf.sps⟩⟩

/-- `m` data queries were sent and none remembered (`sl + m ≤ 22`: the counter has period 36, the longer ring 15 entries) -/
theorem Aged.steps {P : Par} {x : Server.Session} {k sl : Nat} (m : Nat) (h : Aged P x k sl) (hk : k < 36)
    (hsl : sl + m ≤ 22) : Aged P x ((k + m) % 36) (sl + m) :=
  ⟨h.qlen, h.qlast, h.clen, h.clast, h.qmem.steps m hk (by simp [QMEMDATA_LEN]; omega),
    h.cache.steps m hk (by simp [DNSCACHE_LEN]; omega)⟩

/-- **One frame under the upstream blackout, immediate mode**: 9 steps of the blackout schedule after the offer the state is
`GaveUp`, and quiescent with one more sequence number of desynchronisation and the slack grown by 4 resp. 1.  Hypotheses: the
frame is acceptable to `tunnel_tun`; the slack leaves room for four more data queries (`Aged.steps`: `sl + 4 ≤ 22`); neither
60 s limit is reached within the 4 s: the client's `lastdownstreamtime` and the server's `lastPkt` are NOT refreshed during
the run.  That the schedule's choice is `tickC` — the client's 1 s against the server's 10 s — is derived, not assumed. -/
theorem giveup_run_up_imm {P : Par} (hP : P.Ok) {w : W} {du dd sl sp : Nat} (hq : QuietImmDS P du dd sl sp w)
    (frame : List Nat) (hne : frame ≠ []) (hl : frame.length < 65536) (hb : Codec.Bytes frame)
    (hsl : sl ≤ 18) (hsp : sp ≤ 1000)
    (hc : ¬ w.cs.c.lastdownstreamtime + 60 < w.cs.c.now + 4)
    (hs : w.srv.now + 4 < (Server.getUser w.srv P.u).lastPkt + 60) :
    GaveUp P w (runSched blackoutEvUp 9 (step w (.offerC frame))) ∧
    QuietImmDS P ((du + 1) % 8) dd (sl + 4) (sp + 1) (runSched blackoutEvUp 9 (step w (.offerC frame))) := by
  have g : GaveUp P w (runSched blackoutEvUp 9 (step w (.offerC frame))) := by
    obtain ⟨⟨c0, ph⟩, srv, up, down, tC, tS⟩ := w
    obtain rfl : ph = .tunnel := hq.ph
    obtain rfl : up = [] := hq.up
    obtain rfl : down = [] := hq.down
    have hS : Solo P.u srv := hq.srv.solo
    have hqs : (Server.getUser srv P.u).qs.id = 0 := hq.idle.qs
    obtain ⟨d0, c1, hC0, h0⟩ := uplost_offer hP hq.cst hq.idleC frame hne hl hb
    obtain ⟨d1, hC1, h1⟩ := uplost_resend hP h0 (by omega) (by omega)
    obtain ⟨d2, hC2, h2⟩ := uplost_resend hP h1 (by omega) (by omega)
    obtain ⟨d3, hC3, h3⟩ := uplost_resend hP h2 (by omega) (by omega)
    obtain ⟨d4, hC4, g⟩ := uplost_giveup hP h3 hc
    rw [step_offerC_mk (tunSelC_idle hq.idleC) hC0, srvAt_same h0.now, List.nil_append]
    show GaveUp P _ (runSched blackoutEvUp 9 ⟨_, { srv with now := srv.now }, _, _, _, _⟩)
    rw [upLost_drop_tick h0.ready.sending h0.sps hS hqs hC1 (resentFacts _).now,
      upLost_drop_tick h1.ready.sending h1.sps hS hqs hC2 (resentFacts _).now,
      upLost_drop_tick h2.ready.sending h2.sps hS hqs hC3 (resentFacts _).now,
      upLost_drop_tick h3.ready.sending h3.sps hS hqs hC4 (gaveupFacts _).now, upLost_drop]
    simp only [List.append_nil]
    exact g srv tC tS
  refine ⟨g, ?_⟩
  generalize runSched blackoutEvUp 9 (step w (.offerC frame)) = w' at g
  have hx : Server.getUser w'.srv P.u = Server.getUser w.srv P.u := by rw [g.srv]; rfl
  refine ⟨g.ph, g.cst, g.idleC, g.up, g.down, ?_, ?_, ?_, ?_, ?_, ?_, ?_⟩
  · rw [g.srv]; exact hq.srv.advance 4 hs
  · rw [hx]; exact hq.idle
  · rw [hx]; exact hq.oq
  · rw [hx, g.oseq, hq.syncu]; omega
  · rw [hx, g.inpkt]; exact hq.syncd
  · rw [hx, g.cmc]; exact hq.aged.steps 4 hq.cst.cmc (by omega)
  · rw [hx, g.seed]; exact hq.paged.step hq.cst.seed hsp

/-- offer a frame, run the blackout schedule until the pair is idle again (9 steps), repeat -/
def giveupRunUp : List (List Nat) → W → W
  | [], w => w
  | f :: fs, w => giveupRunUp fs (runSched blackoutEvUp 9 (step w (.offerC f)))

/-- the state after `k` give-up runs, relative to the state `w0` before the first -/
structure GaveUpN (w0 w : W) (k : Nat) : Prop where
  srv : w.srv = { w0.srv with now := w0.srv.now + 4 * k }
  tunS : w.tunS = w0.tunS
  tunC : w.tunC = w0.tunC
  now : w.cs.c.now = w0.cs.c.now + 4 * k
  ldt : w.cs.c.lastdownstreamtime = w0.cs.c.lastdownstreamtime
  cmc : w.cs.c.datacmc = (w0.cs.c.datacmc + 4 * k) % 36
  seed : w.cs.c.randSeed = (w0.cs.c.randSeed + k) % 65536
  inpkt : w.cs.c.inpkt = w0.cs.c.inpkt
  oseq : w.cs.c.outpkt.seqno = (w0.cs.c.outpkt.seqno + k) % 8
  selto : w.cs.c.selecttimeout = w0.cs.c.selecttimeout

theorem GaveUpN.zero {P : Par} {w : W} (hc : CStat P w.cs.c) : GaveUpN w w 0 :=
  ⟨rfl, rfl, rfl, rfl, rfl, by have := hc.cmc; show _ = (_ + 0) % 36; omega,
   by have := hc.seed; show _ = (_ + 0) % 65536; omega, rfl, by have := hc.oseq; show _ = (_ + ((0 : Nat) : Int)) % 8; omega, rfl⟩

theorem GaveUpN.cons {P : Par} {w0 w1 w : W} {k : Nat} (g : GaveUp P w0 w1) (h : GaveUpN w1 w k) : GaveUpN w0 w (k + 1) := by
  refine ⟨?_, h.tunS.trans g.tunS, h.tunC.trans g.tunC, ?_, h.ldt.trans g.ldt, ?_, ?_, h.inpkt.trans g.inpkt, ?_,
    h.selto.trans g.selto⟩
  · rw [h.srv, g.srv]
    show ({ w0.srv with now := w0.srv.now + 4 + 4 * k } : Server.Srv) = { w0.srv with now := w0.srv.now + 4 * (k + 1) }
    have : w0.srv.now + 4 + 4 * k = w0.srv.now + 4 * (k + 1) := by omega
    rw [this]
  · rw [h.now, g.now]; omega
  · rw [h.cmc, g.cmc]; omega
  · rw [h.seed, g.seed]; omega
  · rw [h.oseq, g.oseq]; omega

/-- `k` frames offered one after the other, each followed by its 9 steps of the blackout schedule:
the server is unchanged except for its clock (`4·k` s), nothing was written to either tun device, the client's
`outpkt.seqno` is `k` further, and the slack has grown to `sl + 4·k` resp. `sp + k`.  Time hypothesis: `4·k` seconds of room
on both 60 s limits; slack hypothesis: `sl + 4·k ≤ 22` (the data-CMC counter has period 36 and the longer ring 15 entries:
the invariant cannot express more than 21 un-remembered sends), i.e. from `QuietImm` (`sl = 1`) up to `k = 5` frames. -/
theorem giveup_runs_up_imm {P : Par} (hP : P.Ok) (frames : List (List Nat))
    (hok : ∀ f ∈ frames, f ≠ [] ∧ f.length < 65536 ∧ Codec.Bytes f) :
    ∀ {w : W} {du dd sl sp : Nat}, QuietImmDS P du dd sl sp w →
    sl + 4 * frames.length ≤ 22 → sp + frames.length ≤ 1001 →
    ¬ w.cs.c.lastdownstreamtime + 60 < w.cs.c.now + 4 * frames.length →
    w.srv.now + 4 * frames.length < (Server.getUser w.srv P.u).lastPkt + 60 →
    GaveUpN w (giveupRunUp frames w) frames.length ∧
    QuietImmDS P ((du + frames.length) % 8) dd (sl + 4 * frames.length) (sp + frames.length) (giveupRunUp frames w) := by
  induction frames with
  | nil =>
    intro w du dd sl sp hq _ _ _ _
    exact ⟨GaveUpN.zero hq.cst, hq.mod8⟩
  | cons f fs ih =>
    intro w du dd sl sp hq hsl hsp hc hs
    simp only [List.length_cons] at hsl hsp hc hs ⊢
    obtain ⟨hf1, hf2, hf3⟩ := hok f (List.mem_cons_self ..)
    obtain ⟨g, hq1⟩ := giveup_run_up_imm hP hq f hf1 hf2 hf3 (by omega) (by omega) (by omega) (by omega)
    have hx : Server.getUser (runSched blackoutEvUp 9 (step w (.offerC f))).srv P.u = Server.getUser w.srv P.u := by
      rw [g.srv]; rfl
    obtain ⟨gn, hqn⟩ := ih (fun f' hf' => hok f' (List.mem_cons_of_mem _ hf')) hq1 (by omega) (by omega)
      (by rw [g.ldt, g.now]; omega) (by rw [hx, g.srv]; show w.srv.now + 4 + 4 * fs.length < _; omega)
    refine ⟨GaveUpN.cons g gn, ?_⟩
    have e1 : ((du + 1) % 8 + fs.length) % 8 = (du + (fs.length + 1)) % 8 := by omega
    have e2 : sl + 4 + 4 * fs.length = sl + 4 * (fs.length + 1) := by omega
    have e3 : sp + 1 + fs.length = sp + (fs.length + 1) := by omega
    rw [e1, e2, e3] at hqn
    exact hqn

end Iodine.C02L
