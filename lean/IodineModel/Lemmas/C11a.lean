import IodineModel.Codec.Inst
import IodineModel.Encoding
import IodineModel.Common
import IodineModel.Lemmas.Common
/-
C11: what is independent of the concrete family of relay maps.  A DNS relay of the property C11 acts on a name / text character
by character through a fixed map `f : Nat → Nat`.  A string passes unaltered iff `f` is the identity on its characters, so a
probe set that contains an alphabet detects every map that alters it (`altered_of_cover`).  If `rev (f c) = rev c` and
`f c = 0 ↔ c = 0` on the characters of a text (`Transparent`), decoding the relayed text gives what decoding the text gives
(`dec_transparent`, `unpackData_transparent`); lower-casing is such a map for Base32 (`lower_transparent`), and `query_datalen`
does not see it either.
-/
namespace Iodine.C11L
open Iodine Iodine.Codec Iodine.Encoding

/-! ### strings under a character map -/

theorem map_eq_self_iff {f : Nat → Nat} {s : List Nat} : s.map f = s ↔ ∀ c ∈ s, f c = c := by
  induction s with
  | nil => simp
  | cons a s ih =>
    simp only [List.map_cons, List.cons.injEq, ih, List.mem_cons, forall_eq_or_imp]

theorem map_ne_of_altered {f : Nat → Nat} {s : List Nat} {c : Nat} (hc : c ∈ s) (h : f c ≠ c) :
    s.map f ≠ s := fun e => h (map_eq_self_iff.mp e c hc)

/-- A probe set containing every character of the alphabet `A` detects every map that alters `A`. -/
theorem altered_of_cover {f : Nat → Nat} {A : List Nat} {probes : List (List Nat)}
    (hcov : ∀ c ∈ A, ∃ p ∈ probes, c ∈ p) (h : ∃ c ∈ A, f c ≠ c) : ∃ p ∈ probes, p.map f ≠ p := by
  obtain ⟨c, hcA, hne⟩ := h
  obtain ⟨p, hp, hcp⟩ := hcov c hcA
  exact ⟨p, hp, map_ne_of_altered hcp hne⟩

/-- … and one probe string that contains the alphabet up to characters the map is known to fix -/
theorem altered_of_cover_but {f : Nat → Nat} {A p : List Nat} {E : Nat → Prop}
    (hcov : ∀ c ∈ A, c ∈ p ∨ E c) (hE : ∀ c, E c → f c = c) (h : ∃ c ∈ A, f c ≠ c) : p.map f ≠ p := by
  obtain ⟨c, hc, hne⟩ := h
  rcases hcov c hc with hp | he
  · exact map_ne_of_altered hp hne
  · exact absurd (hE c he) hne

theorem map_append_fixed {f : Nat → Nat} {a b : List Nat} (ha : a.map f = a) (hb : b.map f = b) :
    (a ++ b).map f = a ++ b := by rw [List.map_append, ha, hb]

/-! ### decoding transparency -/

/-- `f` does not change what the decoder of `c` reads from the characters of `s`. -/
def Transparent (c : Codec) (f : Nat → Nat) (s : List Nat) : Prop :=
  ∀ ch ∈ s, c.rev (f ch) = c.rev ch ∧ (f ch = 0 ↔ ch = 0)

theorem Transparent.tail {c : Codec} {f : Nat → Nat} {a : Nat} {s : List Nat}
    (h : Transparent c f (a :: s)) : Transparent c f s := fun ch hch => h ch (List.mem_cons_of_mem _ hch)

theorem Transparent.sub {c : Codec} {f : Nat → Nat} {s t : List Nat} (h : Transparent c f s)
    (hst : ∀ ch ∈ t, ch ∈ s) : Transparent c f t := fun ch hch => h ch (hst ch hch)

theorem decBits_transparent {c : Codec} {f : Nat → Nat} {s : List Nat} (h : Transparent c f s) :
    decBits c (s.map f) = decBits c s := by
  induction s with
  | nil => rfl
  | cons a s ih =>
    simp only [decBits, List.map_cons, List.flatMap_cons] at ih ⊢
    rw [(h a List.mem_cons_self).1, ih h.tail]

theorem decAll_transparent {c : Codec} {f : Nat → Nat} {s : List Nat} (h : Transparent c f s) :
    decAll c (s.map f) = decAll c s := by
  unfold decAll
  rw [decBits_transparent h]

theorem takeWhile_map_transparent {c : Codec} {f : Nat → Nat} {s : List Nat} (h : Transparent c f s) :
    (s.map f).takeWhile (fun ch => ch != 0) = (s.takeWhile (fun ch => ch != 0)).map f := by
  induction s with
  | nil => rfl
  | cons a s ih =>
    have ha := (h a List.mem_cons_self).2
    simp only [List.map_cons, List.takeWhile_cons]
    by_cases h0 : a = 0
    · have : f a = 0 := ha.mpr h0
      subst h0
      simp [this]
    · have : f a ≠ 0 := fun e => h0 (ha.mp e)
      simp [h0, this, ih h.tail]

theorem cstr_map_transparent {c : Codec} {f : Nat → Nat} {s : List Nat} (h : Transparent c f s) (n : Nat) :
    cstr n (s.map f) = (cstr n s).map f := by
  unfold cstr
  rw [← List.map_take]
  exact takeWhile_map_transparent (h.sub fun ch hch => List.mem_of_mem_take hch)

/-- `baseN_decode` of the relayed text = `baseN_decode` of the text. -/
theorem dec_transparent {c : Codec} {f : Nat → Nat} {s : List Nat} (h : Transparent c f s) (cap n : Nat) :
    dec c cap n (s.map f) = dec c cap n s := by
  unfold dec
  rw [cstr_map_transparent h n]
  rw [decAll_transparent (h.sub fun ch hch => by
    unfold cstr at hch
    exact List.mem_of_mem_take (List.mem_takeWhile_imp_mem hch))]
where
  List.mem_takeWhile_imp_mem {p : Nat → Bool} {l : List Nat} {a : Nat} (h : a ∈ l.takeWhile p) : a ∈ l :=
    (List.takeWhile_sublist p).subset h

def DotPreserving (f : Nat → Nat) (s : List Nat) : Prop := ∀ ch ∈ s, (f ch = DOT ↔ ch = DOT)

theorem undotify_map {f : Nat → Nat} {s : List Nat} (h : DotPreserving f s) :
    undotify (s.map f) = (undotify s).map f := by
  induction s with
  | nil => rfl
  | cons a s ih =>
    have ha := h a List.mem_cons_self
    have ih' := ih fun ch hch => h ch (List.mem_cons_of_mem _ hch)
    unfold undotify at ih' ⊢
    simp only [List.map_cons, List.filter_cons]
    by_cases hd : a = DOT
    · have : f a = DOT := ha.mpr hd
      subst hd
      simp [this, ih']
    · have : f a ≠ DOT := fun e => hd (ha.mp e)
      simp [hd, this, ih']

theorem undotify_sub (s : List Nat) : ∀ ch ∈ undotify s, ch ∈ s := fun _ h => (List.mem_filter.mp h).1

/-- `unpack_data` of the relayed text = `unpack_data` of the text. -/
theorem unpackData_transparent {c : Codec} {f : Nat → Nat} {s : List Nat} (h : Transparent c f s)
    (hd : DotPreserving f s) (cap : Nat) : unpackData c cap (s.map f) = unpackData c cap s := by
  unfold unpackData
  simp only [undotify_map hd, List.length_map]
  exact dec_transparent (h.sub (undotify_sub s)) cap _

/-! ### letter case -/

/-- The lower-casing member of the relay family (`caseFns`, Lemmas/C11c.lean), written like its sibling `toUpperC` and like the
specification's `lowerOf` (Props/C11.lean); it is the model's `Common.toLower` (`toLowerC_eq`), whose test is a `Bool`. -/
def toLowerC (c : Nat) : Nat := if 65 ≤ c ∧ c ≤ 90 then c + 32 else c
def toUpperC (c : Nat) : Nat := if 97 ≤ c ∧ c ≤ 122 then c - 32 else c

theorem toLowerC_eq : toLowerC = Common.toLower := funext fun c => (Common.toLower_eq_ite c).symm

/-- `a` and `b` are the same string up to the case of each letter separately -/
def CaseEq (a b : List Nat) : Prop := a.map toLowerC = b.map toLowerC

theorem caseEq_take {s t : List Nat} (h : CaseEq s t) (n : Nat) : CaseEq (s.take n) (t.take n) := by
  unfold CaseEq at *
  rw [List.map_take, List.map_take, h]

theorem caseEq_drop {s t : List Nat} (h : CaseEq s t) (n : Nat) : CaseEq (s.drop n) (t.drop n) := by
  unfold CaseEq at *
  rw [List.map_drop, List.map_drop, h]

theorem CaseEq.lower {a b : List Nat} (h : CaseEq a b) : a.map Common.toLower = b.map Common.toLower := by
  unfold CaseEq at h
  rwa [toLowerC_eq] at h

/-- Base32's reverse table maps both cases of a letter to the same value (`base32_reverse_init` writes
`rev[cb32[i]]` and `rev[cb32_ucase[i]]`). -/
theorem b32_rev_toLower (c : Nat) : b32.rev (Common.toLower c) = b32.rev c := by
  rw [Common.toLower_eq_ite]
  split
  · rename_i h
    have : ∀ c, c < 91 → 65 ≤ c → b32.rev (c + 32) = b32.rev c := by decide
    exact this c (by omega) h.1
  · rfl

/-! Lower-casing is a character map the Base32 decoder does not notice; two strings equal up to case have the same
lower-cased string; so each is decoded like that one. -/

theorem lower_transparent (s : List Nat) : Transparent b32 Common.toLower s :=
  fun ch _ => ⟨b32_rev_toLower ch, Common.toLower_eq_iff ch 0 (by omega)⟩

theorem lower_dotPreserving (s : List Nat) : DotPreserving Common.toLower s :=
  fun ch _ => Common.toLower_eq_iff ch DOT (by unfold DOT; omega)

theorem unpackData_lower (cap : Nat) (s : List Nat) :
    unpackData b32 cap (s.map Common.toLower) = unpackData b32 cap s :=
  unpackData_transparent (lower_transparent s) (lower_dotPreserving s) cap

/-- `base32_decode` gives the same bytes for two texts that differ only in the case of letters — any
letters, each one separately. -/
theorem dec_b32_caseEq {s t : List Nat} (h : CaseEq s t) (cap n : Nat) : dec b32 cap n s = dec b32 cap n t := by
  rw [← dec_transparent (lower_transparent s), ← dec_transparent (lower_transparent t), h.lower]

theorem unpackData_b32_caseEq {s t : List Nat} (h : CaseEq s t) (cap : Nat) :
    unpackData b32 cap s = unpackData b32 cap t := by
  rw [← unpackData_lower cap s, ← unpackData_lower cap t, h.lower]

theorem serverExtract_b32_caseEq {s t : List Nat} (h : CaseEq s t) (hh dlen : Nat) :
    serverExtract b32 hh dlen s = serverExtract b32 hh dlen t :=
  unpackData_b32_caseEq (caseEq_drop (caseEq_take h dlen) hh) _

theorem queryDatalen_caseEq {q q' : List Nat} (h : CaseEq q' q) (t : List Nat) :
    Common.queryDatalen q' t = Common.queryDatalen q t := Common.queryDatalen_lower q' q t h.lower

end Iodine.C11L

