import IodineModel.Lemmas.C02up2
import IodineModel.Lemmas.C02d5
import IodineModel.Lemmas.C02M1
/-
Upstream, both DNS modes — a packet that falls into the server's duplicate window and is not falsely acknowledged.  One round:
the fragment reaches the server, which drops it and answers with its OWN numbers; the client books the answer and goes on waiting
(`InFlight.bounced`); its 1 s timer fires (`CReadyM.ticked`) and the same fragment goes out again (`Bounced.resend`, three times) or
— the fourth time — the packet is given up and a ping goes out, which the server answers (`Bounced.giveup`): quiescent again, the
client one packet further ahead.  `QuietMD.up_packet_drop`: the 14 scheduler steps of one lost packet.
The ping that reaches the waiting server, once for a slot that holds a query or none (`pingSess_answers`, `srv_ping_core`, with the
step of the memories `MemM.remember_ping`: `srv_ping`).
-/
namespace Iodine.C02L
open Iodine Iodine.Gen Iodine.World

/-- the packet of `c0` is still the one being sent from `c'`, after `n` more resends -/
structure Retried (c0 c' : Client.Cli) (n : Nat) : Prop where
  oseq : c'.outpkt.seqno = c0.outpkt.seqno
  res : c'.outchunkresent = c0.outchunkresent + n
  selto : c'.selecttimeout = c0.selecttimeout

/-- the client has read an answer that did not acknowledge its fragment and waits for its 1 s timer; the server waits -/
structure Bounced (P : Par) (m : Mode) (out : List Nat) (w : W) (c0 : Client.Cli) (o f : Nat) : Prop where
  ready : CReadyM P m.lz c0 out o f
  cs : w.cs = ⟨ackBook (afterChunk c0), .tunnel⟩
  up : w.up = []
  down : w.down = []
  srv : SStat P w.srv
  last : (Server.getUser w.srv P.u).lastPkt = w.srv.now
  oq : (Server.getUser w.srv P.u).oqFilled = 0
  syncd : (Server.getUser w.srv P.u).outpacket.seqno = c0.inpkt.seqno
  wait : SrvWait P m (Server.getUser w.srv P.u) (sentState c0).chunkid ((c0.datacmc + 1) % 36) c0.randSeed

section
variable {P : Par} {m : Mode} {out : List Nat} {w : W} {c0 : Client.Cli} {o f : Nat}

/-- **The server drops the fragment as a duplicate and its own numbers are not the client's** (2 steps): the client books the
answer and goes on waiting for its timer. -/
theorem InFlight.bounced (hP : P.Ok) (hm : m.Ok) (h : InFlight P m out w c0 o f)
    (hdup : Dup (Server.getUser w.srv P.u).inpacket c0.outpkt.seqno.toNat f)
    (hno : ¬ ((Server.getUser w.srv P.u).inpacket.seqno = c0.outpkt.seqno ∧ (Server.getUser w.srv P.u).inpacket.fragment = (f : Int))) :
    ∃ w', promptSteps P.u 2 w = some w' ∧ Bounced P m out w' c0 o f ∧ Idled P w w' 0 := by
  obtain ⟨s', _, pkt, _, hans, hwait, hus, huf, hrun⟩ := h.exchange hP hm (recvPkt_dup hdup) (fun e => by cases e)
    h.srv.x.iseq h.srv.x.ifrag
  have hset := h.ready.ack_other (Client.decodeHdr pkt) (by rw [hus, huf]; exact hno)
  have h2 := hrun _ _ _ hset (sentFactsL c0).now
  rw [show tunOfCEvents [] = [] from rfl, List.append_nil, show upOfEvents [] = [] from rfl] at h2
  exact ⟨_, h2, ⟨h.ready, rfl, rfl, rfl, hans.stat, by rw [hans.last]; exact hans.now.symm, by rw [hans.kept.oqFilled]; exact h.oq,
    by rw [hans.kept.outpacket]; exact h.syncd, hwait⟩, ⟨rfl, rfl, hans.inp, hans.kept, hans.now, by rw [h.cs]; rfl⟩⟩

end

/-! ### the client's 1 s timer -/

/-- the waiting client after its 1 s `select` timeout: `c1`, from which `timeoutBranch` decides between a resend and the give-up -/
structure Ticked (P : Par) (lz : Bool) (out : List Nat) (c0 c1 : Client.Cli) (o f : Nat) : Prop where
  stat : CStatM P lz c1
  cnt : CntM lz c1 1
  sending : Client.isSending c1 = true
  data : c1.outpkt.data = out
  len : c1.outpkt.len = out.length
  off : c1.outpkt.offset = o
  frag : c1.outpkt.fragment = (f : Int)
  seq : c1.outpkt.seqno = c0.outpkt.seqno
  res : c1.outchunkresent = c0.outchunkresent
  inpkt : c1.inpkt = c0.inpkt
  cmc : c1.datacmc = (c0.datacmc + 1) % 36
  seed : c1.randSeed = c0.randSeed
  cid : c1.chunkid = (sentState c0).chunkid
  now : c1.now = c0.now + 1
  selto : c1.selecttimeout = c0.selecttimeout

theorem CReadyM.ticked {P : Par} {lz : Bool} {c0 : Client.Cli} {out : List Nat} {o f : Nat} (h : CReadyM P lz c0 out o f) :
    ∃ c1, Ticked P lz out c0 c1 o f ∧
      Client.isSending (ackBook (afterChunk c0)) = true ∧
      (Client.selectOf (ackBook (afterChunk c0))).to = 1000000 ∧
      Client.cstep ⟨ackBook (afterChunk c0), .tunnel⟩ .tick = Client.settle (Client.timeoutBranch c1) := by
  have hsf : SentFacts c0 (afterChunk c0) := sentFactsL c0
  have hready := h.bounced
  have hack := h.acked
  have hres : (afterChunk c0).outchunkresent = c0.outchunkresent := sentStateL_resent c0
  have hsending : Client.isSending (ackBook (afterChunk c0)) = true := h.send.sending hsf
  -- `afterChunk c0` becomes a variable before fields are read: through `ackBook (afterChunk c0)` every projection is dear to check
  generalize afterChunk c0 = c at hsf hready hack hres hsending
  have hsel : (ackBook c).selecttimeout = c0.selecttimeout := hsf.selto
  have hsps : (ackBook c).sendPingSoon = 0 := hsf.sps
  replace hres : (ackBook c).outchunkresent = c0.outchunkresent := hres
  generalize ackBook c = cb at hready hack hres hsel hsps hsending
  have hadv := advanceClock_sending cb hsending hsps
  have halive : ¬ cb.lastdownstreamtime + 60 < cb.now + 1 := by rw [hack.ldt, hack.now]; omega
  refine ⟨{ cb with now := cb.now + 1 }, ⟨hready.stat.move rfl hready.stat.cid hready.stat.cmc halive,
    hready.cnt.imp id fun e => e.congr rfl rfl, hsending, hready.data, hready.len, hready.off, hready.frag, hack.oseq, hres,
    hack.inpkt, hack.cmc, hack.seed, hack.cid, congrArg (· + 1) hack.now, hsel⟩, hsending, selectOf_sending cb hsending hsps, ?_⟩
  show Client.tunnelStep cb .tick = _
  rw [tunnelStep_tick cb hready.stat.running (by rw [hadv]; exact halive), hadv]

section
variable {P : Par} {m : Mode} {out : List Nat} {w : W} {c0 : Client.Cli} {o f : Nat}

theorem srvAt_tick {srv : Server.Srv} {cs cs' : Client.CState} (h : cs'.c.now = cs.c.now + 1) :
    srvAt srv cs cs' = { srv with now := srv.now + 1 } := by
  simp [srvAt, h]

/-- the server's `select` of a waiting slot lasts 10 s -/
theorem SrvWait.timeout {s : Server.Srv} {cid k sd : Nat} (hS : SStat P s) (h : SrvWait P m (Server.getUser s P.u) cid k sd) :
    (Server.topOfLoop s).2.1 = 10000000 := by
  rw [topOfLoop_timeout hS.solo, if_neg (fun hc => hc.2 h.waits.qs)]

/-- **the timer fires with fewer than three resends behind** (1 step): the same fragment goes out again, one second later -/
theorem Bounced.resend (hP : P.Ok) (h : Bounced P m out w c0 o f) (hr : c0.outchunkresent < 3) :
    ∃ w' c0', promptSteps P.u 1 w = some w' ∧ InFlight P m out w' c0' o f ∧ Idled P w w' 1 ∧ Retried c0 c0' 1 := by
  obtain ⟨c1, ht, hsending, hto, htick⟩ := h.ready.ticked
  generalize hc2 : ({ c1 with outchunkresent := c1.outchunkresent + 1 } : Client.Cli) = c2
  have hready' : CReadyM P m.lz c2 out o f := by
    subst hc2
    exact ⟨ht.stat.move rfl ht.stat.cid ht.stat.cmc ht.stat.alive, ht.cnt.imp id fun e => e.congr rfl rfl, ht.data, ht.len, ht.off,
      ht.frag, h.ready.olt, h.ready.flt, h.ready.bytes⟩
  have hstep : Client.cstep ⟨ackBook (afterChunk c0), .tunnel⟩ .tick =
      (⟨afterChunk c2, .tunnel⟩, (Client.sendChunk c2).evs, .sel (Client.selectOf (afterChunk c2))) := by
    rw [htick, Client.timeoutBranch_resend c1 ht.sending (by rw [ht.res]; exact hr), hc2, hready'.settle hP [] _, List.nil_append]
  have hnow' : (afterChunk c2).now = (ackBook (afterChunk c0)).now + 1 := by
    rw [(sentFactsL c2).now, ← hc2]
    exact ht.now.trans (congrArg (· + 1) (sentFactsL c0).now.symm)
  have hS' : SStat P { w.srv with now := w.srv.now + 1 } := h.srv.advance 1 (by rw [h.last]; omega)
  have hcs := h.cs
  have hup := h.up
  have hdn := h.down
  have hto' := h.wait.timeout h.srv
  obtain ⟨cs, srv, up, down, tC, tS⟩ := w
  subst hcs hup hdn
  refine ⟨⟨⟨afterChunk c2, .tunnel⟩, { srv with now := srv.now + 1 }, upOfEvents (Client.sendChunk c2).evs, [], tC, tS⟩, c2, ?_,
    ⟨rfl, hready', rfl, rfl, rfl, hS', h.oq, ?_, ?_⟩, ⟨rfl, rfl, rfl, Kept.refl _, rfl, hnow'⟩, ⟨?_, ?_, ?_⟩⟩
  · rw [ps_tickC (quiet_false_of_sending hsending) timeoutC_tunnel (by rw [hto, hto']; decide)
        (CliDoes.mk hstep rfl (hready'.no_tun hP)), srvAt_tick hnow', List.append_nil]
    rfl
  all_goals rw [← hc2]
  · exact h.syncd.trans (congrArg Client.Packet.seqno ht.inpkt.symm)
  · show SrvWait P m (Server.getUser srv P.u) c1.chunkid c1.datacmc c1.randSeed
    rw [ht.cid, ht.cmc, ht.seed]; exact h.wait
  · exact ht.seq
  · exact congrArg (· + 1) ht.res
  · exact ht.selto

end

/-! ### the ping of the give-up -/

/-- **the client's ping**, either mode: the state afterwards, the query, and what the server reads out of it -/
theorem ping_sent {P : Par} (hP : P.Ok) {lz : Bool} {c : Client.Cli} (hc : CStatM P lz c) (hcnt : CntM lz c 1) (k : Client.Resume) :
    ∃ name,
      Client.settle (Client.afterSend (Client.sendPing c) [] k) =
        (⟨pingStateL c, .tunnel⟩, [.query (pingStateL c).chunkid P.ty name], .sel (Client.selectOf (pingStateL c))) ∧
      PingQ P (upQuery (pingStateL c).chunkid P.ty name) c.inpkt.seqno c.inpkt.fragment c.randSeed ∧
      PingFacts c (pingStateL c) ∧ (pingStateL c).chunkidPrev = c.chunkid ∧ (pingStateL c).chunkid ≠ c.chunkid ∧
      CntM lz (pingStateL c) 2 := by
  obtain ⟨name, hsett, hpq⟩ := settle_ping hP hc hcnt [] k
  have hpi := pingStateL_ids c
  exact ⟨name, hsett, hpq, pingFactsL c, hpi.1, hpi.2.1 hc.cid, hcnt.pinged⟩

section
open Iodine.Server

/-! ### a ping reaches the waiting server -/

theorem PingQ.heldBase {P : Par} {Q : Query} {a b : Int} {sd : Nat} (hQ : PingQ P Q a b sd) : HeldBase P Q :=
  ⟨hQ.from_, hQ.id2, hQ.id, hQ.ty⟩

/-- no query held, immediate mode: the ping is answered at once -/
theorem pingSess_unheld_answer (x : Session) (u : Nat) (Q : Query) (a b : Int) (now : Nat) (hi : Waits false x)
    (hl : x.lazy = false) (hid2 : Q.id2 = 0) :
    pingSess x u Q a b now =
      ({ cacheUpd (qmemUpd (saveQ x Q now) Q) Q (scPkt x 0) with q := { Q with id := 0 } },
       [writeDns Q (scPkt x 0) x.downenc (.chunk u)]) := by
  have h1 := hi.out
  have h2 : x.q.id = 0 := hi.q
  have h3 := hi.qs
  unfold pingSess pingASess pingBSess pingCSess
  rw [ackSess_other x a b (Or.inl h1)]
  have h4 : (saveQ x Q now).lazy = false := hl
  simp only [h3, h2, h4, ne_eq, not_true_eq_false, if_false, Bool.not_false, or_true, if_true]
  rw [scSess_dataless _ _ _ (by simp [saveQ, h1]) (by simp [QSel.get, saveQ, hid2])]
  simp [QSel.get, QSel.set, saveQ, scPkt]

/-- one query held, lazy mode: it is answered, the ping is held -/
theorem pingSess_lazy_swap (x : Session) (u : Nat) (Q : Query) (a b : Int) (now : Nat) (hi : IdleLazy x) :
    pingSess x u Q a b now =
      (saveQ { cacheUpd (qmemUpd x x.q) x.q (scPkt x 0) with q := { x.q with id := 0 } } Q now,
       [writeDns x.q (scPkt x 0) x.downenc (.chunk u)]) := by
  obtain ⟨h1, h2, h2', h3, h4⟩ := hi
  have hack : ackSess x a b = x := ackSess_other x a b (Or.inl h1)
  have eA : pingASess x u a b = (x, []) := by
    unfold pingASess
    simp only [hack, h3, ne_eq, not_true_eq_false, if_false]
  have eB : pingBSess x u = ((scSess x u .q).1, !(scSess x u .q).2) := by
    unfold pingBSess
    rw [if_pos h2]
  unfold pingSess
  rw [eA]
  simp only
  rw [eB, scSess_dataless _ _ _ h1 (by simp [QSel.get, h2'])]
  simp only [QSel.get, QSel.set, Bool.not_false]
  generalize hY : ({ cacheUpd (qmemUpd x x.q) x.q (scPkt x 0) with q := { x.q with id := 0 } } : Session) = Y
  have hYc : core Y = core { x with q := { x.q with id := 0 } } := hY ▸ core_setQ (core_memo x x.q (scPkt x 0)) _
  have hYl : Y.lazy = true := by
    have := core_lazy hYc
    rw [this]; exact h4
  have eC : pingCSess Y u Q true now = (saveQ Y Q now, []) := by
    unfold pingCSess
    have h5 : (saveQ Y Q now).lazy = true := hYl
    simp [h5]
  rw [eC]
  simp

/-- The ping handler on a waiting slot: the query `ansQ` is answered at once with the dataless packet `scPkt x 0` and remembered;
`q` becomes `holdQ`; nothing else of the slot moves. -/
theorem pingSess_answers (held : Bool) (x : Session) (u : Nat) (Q : Query) (a b : Int) (now : Nat) (hi : Waits held x)
    (hl : x.lazy = held) (hid2 : Q.id2 = 0) :
    ∃ Y, pingSess x u Q a b now = (Y, [writeDns (ansQ held x.q Q) (scPkt x 0) x.downenc (.chunk u)]) ∧
      core Y = core { x with q := holdQ held Q, lastPkt := now } ∧
      MemEq Y (cacheUpd (qmemUpd x (ansQ held x.q Q)) (ansQ held x.q Q) (scPkt x 0)) := by
  cases held
  · exact ⟨_, pingSess_unheld_answer x u Q a b now hi hl hid2,
      (core_setQ (core_memo (saveQ x Q now) Q (scPkt x 0)) _).trans (saveQ_setQ x Q _ now),
      (memEq_setQ _ _).trans (MemEq.memo (memEq_saveQ x Q now) Q _)⟩
  · exact ⟨_, pingSess_lazy_swap x u Q a b now hi.idleLazy, core_swapQ x x.q Q _ now, (memEq_saveQ _ Q now).trans (memEq_setQ _ _)⟩

/-- **A ping reaches the waiting server.**  A query of the session (`ansQ`: the ping itself, or the held one) is answered at once
with a dataless packet and remembered; the reassembly buffer is untouched; the server
waits again.  Of the memories only this is needed: the ping is not remembered (`hPA`) and no repetition of a held one (`hnd`). -/
theorem srv_ping_core {P : Par} (hP : P.Ok) {held : Bool} {s : Srv} (hS : SStat P s) (hw : Waits held (getUser s P.u))
    (hl : (getUser s P.u).lazy = held) {Q : Query} {a b : Int} {sd sp : Nat} (hQ : PingQ P Q a b sd)
    (hPA : PAged P (getUser s P.u) sd sp) (hsp : sp ≤ 1000)
    (hnd : (getUser s P.u).q.id = 0 ∨ (getUser s P.u).q.name ≠ Q.name)
    (hfrom : (ansQ held (getUser s P.u).q Q).from_ = clientAddr) :
    ∃ s' pkt, SrvDoes s (.q Q) 0 s' [.ans (ansQ held (getUser s P.u).q Q).id (ansQ held (getUser s P.u).q Q).type
        (ansQ held (getUser s P.u).q Q).name pkt] [] ∧
      Answered P s s' (getUser s P.u).inpacket pkt ∧ Waits held (getUser s' P.u) ∧ (getUser s' P.u).q = holdQ held Q ∧
      Remembers P s s' (ansQ held (getUser s P.u).q Q) pkt := by
  obtain ⟨dlen, hdl, h2, h4, huid, ha, hb, hc2, hc3⟩ := hQ.parse
  have htop := topSess_live hS
  generalize hx0 : ({ getUser s P.u with qsNew := false } : Session) = x0 at htop
  have ht := topSlot_facts hx0
  have hx0w : Waits held x0 := hw.congr ht.outpacket ht.q ht.qs ht.lazy
  have hx0P : PAged P x0 sd sp := hPA.memEq ht.mem
  have hit := iteration_ping hS.solo Q s.now dlen (by rw [hS.td]; exact hdl) h2 hQ.c0 (hQ.ty ▸ hP.tty) hQ.id h4 huid
    (admitted_entry hS Q hQ.from_)
    (by rw [htop]; exact hx0P.cacheMiss hQ.sdlt hsp Q hQ.ty hQ.c0 hQ.seed)
    (by rw [htop]; exact hx0P.qmemMiss hQ.sdlt hsp Q hQ.ty _ hc2 hc3)
    (by rw [htop, ht.q]; exact hnd) (by rw [htop]; exact Or.inl hx0w.qs)
  obtain ⟨Y, hps, hc, hmem⟩ := pingSess_answers held x0 P.u Q a b s.now hx0w (ht.lazy.trans hl) hQ.id2
  rw [ht.q] at hps hmem
  rw [htop, ha, hb, hps] at hit
  simp only at hit
  rw [sweepSess_noqs (by rw [core_qs hc]; exact hx0w.qs)] at hit
  refine ⟨_, scPkt x0 0, SrvDoes.mk hit ?_ ?_, put_answered hS hx0 hx0w hc hmem hS.x.iseq hS.x.ifrag hQ.id hQ.id2⟩
  · simp only [List.append_nil, downOfEvents_append, downOfEvents_sweep, downOfEvents_writeDns _ _ _ _ hfrom]
  · simp only [List.append_nil, tunOfSEvents_append, tunOfSEvents_writeDns, tunOfSEvents_sweep]

section
variable {P : Par} {m : Mode} {x : Session} {H : Query} {k sd : Nat}

/-- the ping memories are aged with a slack the ping counter's period allows -/
theorem MemM.paged (h : MemM P m x H k sd) (hmP : m.OkP) : ∃ sp, sp ≤ 1000 ∧ PAged P x sd sp := by
  cases m with
  | imm sl sp => exact ⟨sp, by have := hmP.2; omega, h.2⟩
  | lazy =>
    rcases h.2 with ⟨_, _, _, _, d⟩ | ⟨_, _, _, _, d⟩
    · exact ⟨1, by omega, d⟩
    · exact ⟨2, by omega, d⟩

/-- the ping that carries the counter value `sd` is no repetition of the held query -/
theorem MemM.name_ne_ping (hu : P.u < 16) (h : MemM P m x H k sd) (hlz : m.lz = true) {Q : Query} {a b : Int}
    (hQ : PingQ P Q a b sd) : H.name ≠ Q.name := by
  cases m with
  | imm sl sp => cases hlz
  | lazy =>
    intro he
    rcases h.2 with ⟨_, d, _⟩ | ⟨s0, d, hb, _⟩
    · have h1 := d.c0
      rw [he, hQ.c0] at h1
      exact (hexLower_ne_p hu).2 h1.symm
    · have h1 := d.seed
      rw [he, hQ.seed] at h1
      unfold Behind at hb
      omega

/-- The step of the memories: the ping `Q` (counter value `sd`) has arrived, and the answer to `ansQ` — `Q` itself, or the
query `H` held so far — is remembered. -/
theorem MemM.remember_ping (hP : P.Ok) (hmP : m.OkP) (h : MemM P m x H k sd) {Q : Query} {a b : Int} (hQ : PingQ P Q a b sd)
    {ans : List Nat} (hans : ans.length ≤ DNSCACHE_ANSWER_SIZE) :
    MemM P m (cacheUpd (qmemUpd x (ansQ m.lz H Q)) (ansQ m.lz H Q) ans) Q k ((sd + 1) % 65536) := by
  obtain ⟨cp, hcp, hfl, hf2, hf3⟩ := hQ.fp
  cases m with
  | imm sl sp =>
    exact ⟨h.1.memo_ping hP.hu Q ans hans hQ.c0 cp hcp hfl,
      (h.2.step hQ.sdlt (by have := hmP.2; omega)).memo Q ans hans sd 1 ⟨Nat.le_refl 1, hmP.1⟩ (behind_succ_mod hQ.sdlt) hQ.c0 cp hcp
        hfl hf2 hf3 hQ.seed⟩
  | lazy =>
    have hset := HeldMem.settle hP.hu h.2 ans hans
    exact ⟨hQ.heldBase, Or.inr ⟨sd, ⟨hQ.sdlt, hQ.c0, hQ.fp, hQ.seed⟩, behind_succ_mod hQ.sdlt, hset.1,
      hset.2.step hQ.sdlt (by omega)⟩⟩

end

/-- … in mode `m`, with what is known of the memories: they are as they must be for the next ping counter value -/
theorem srv_ping {P : Par} (hP : P.Ok) {m : Mode} (hmP : m.OkP) {s : Srv} (hS : SStat P s) {cid k sd : Nat}
    (hW : SrvWait P m (getUser s P.u) cid k sd) {Q : Query} {a b : Int} (hQ : PingQ P Q a b sd) :
    ∃ s' pkt, SrvDoes s (.q Q) 0 s' [.ans (ansQ m.lz (getUser s P.u).q Q).id (ansQ m.lz (getUser s P.u).q Q).type
        (ansQ m.lz (getUser s P.u).q Q).name pkt] [] ∧
      Answered P s s' (getUser s P.u).inpacket pkt ∧ SrvWait P m (getUser s' P.u) Q.id k ((sd + 1) % 65536) := by
  obtain ⟨sp, hsp, hPA⟩ := hW.mem.paged hmP
  have hnd := hW.nodup fun hlz => hW.mem.name_ne_ping hP.hu hlz hQ
  have hfrom := (hW.ans hQ.heldBase (Or.inr hQ.c0)).1
  obtain ⟨s', pkt, hdoes, hans, hw', hq', y, hym, hlen, hmem⟩ := srv_ping_core hP hS hW.waits hW.lazy hQ hPA hsp hnd hfrom
  refine ⟨s', pkt, hdoes, hans, hw', by rw [hans.kept.lazy]; exact hW.lazy, fun hlz => by rw [hq', holdQ, hlz]; rfl, ?_⟩
  have := ((hW.mem.memEq hym).remember_ping hP hmP hQ hlen).memEq hmem
  rw [hq']
  cases m <;> exact this

end

section
variable {P : Par} {m : Mode} {out : List Nat} {w : W} {c0 : Client.Cli} {o f : Nat}

/-- **the timer fires for the fourth time** (3 steps): the client forgets the packet and sends a ping; the server answers (the
ping, or the query it held, holding the ping); the client reads that answer.  Quiescent again — the client's `outpkt.seqno`
is still the forgotten packet's, the server's `inpacket` is untouched, one second has passed. -/
theorem Bounced.giveup (hP : P.Ok) (hmP : m.OkP) (h : Bounced P m out w c0 o f) (hr : 3 ≤ c0.outchunkresent) :
    ∃ w', promptSteps P.u 3 w = some w' ∧ Idled P w w' 1 ∧ w'.cs.c.selecttimeout = c0.selecttimeout ∧
      ∀ du : Nat, c0.outpkt.seqno = ((Server.getUser w.srv P.u).inpacket.seqno + du) % 8 → QuietMD P m du 0 w' := by
  have hready := h.ready
  obtain ⟨cs, srv, up, down, tC, tS⟩ := w
  obtain rfl : cs = ⟨ackBook (afterChunk c0), .tunnel⟩ := h.cs
  obtain rfl : up = [] := h.up
  obtain rfl : down = [] := h.down
  have hsrv : SStat P srv := h.srv
  have hlast : (Server.getUser srv P.u).lastPkt = srv.now := h.last
  have hoq : (Server.getUser srv P.u).oqFilled = 0 := h.oq
  have hsyncd : (Server.getUser srv P.u).outpacket.seqno = c0.inpkt.seqno := h.syncd
  have hwait0 : SrvWait P m (Server.getUser srv P.u) (sentState c0).chunkid ((c0.datacmc + 1) % 36) c0.randSeed := h.wait
  obtain ⟨c1, ht, hsending, hto, htick⟩ := hready.ticked
  generalize hcd : ({ c1 with outpkt := { c1.outpkt with offset := 0, len := 0, sentlen := 0 }, outchunkresent := 0 } : Client.Cli) = cd
  have hcdst : CStatM P m.lz cd := by
    subst hcd
    exact ht.stat.move rfl ht.stat.cid ht.stat.cmc ht.stat.alive
  have hcdcnt : CntM m.lz cd 1 := by subst hcd; exact ht.cnt.imp id fun e => e.congr rfl rfl
  have hcdidle : Client.isSending cd = false := by subst hcd; rfl
  obtain ⟨name, hsett, hpq, hpf, hprev, hcne, hcnt2⟩ := ping_sent hP hcdst hcdcnt .timeout
  have hstep1 : Client.cstep ⟨ackBook (afterChunk c0), .tunnel⟩ .tick =
      (⟨pingStateL cd, .tunnel⟩, [.query (pingStateL cd).chunkid P.ty name],
       .sel (Client.selectOf (pingStateL cd))) := by
    rw [htick]
    unfold Client.timeoutBranch
    rw [if_pos ht.sending, if_neg (by rw [ht.res]; omega), hcd]
    exact hsett
  have hcpst := cstatM_pingStateL hcdst
  generalize pingStateL cd = cp at hsett hpq hpf hprev hcne hcnt2 hstep1 hcpst
  have hcdnow : cd.now = c0.now + 1 := by rw [← hcd]; exact ht.now
  have hcpin : cp.inpkt = c0.inpkt := by rw [hpf.inpkt, ← hcd]; exact ht.inpkt
  have hcdseed : cd.randSeed = c0.randSeed := by rw [← hcd]; exact ht.seed
  have hcdcmc : cd.datacmc = (c0.datacmc + 1) % 36 := by rw [← hcd]; exact ht.cmc
  have hcdcid : cd.chunkid = (sentState c0).chunkid := by rw [← hcd]; exact ht.cid
  rw [hcdseed] at hpq
  have hbnow : (ackBook (afterChunk c0)).now = c0.now := (sentFactsL c0).now
  have hnow1 : cp.now = (ackBook (afterChunk c0)).now + 1 := by
    rw [hpf.now, hcdnow, hbnow]
  have hS' : SStat P { srv with now := srv.now + 1 } := hsrv.advance 1 (by rw [hlast]; omega)
  obtain ⟨s', pkt, hdoes, hans, hwait⟩ :=
    srv_ping hP hmP hS' (s := { srv with now := srv.now + 1 }) hwait0 hpq
  have hA := (hwait0.ans hpq.heldBase (Or.inr hpq.c0)).2
  -- the id of the held query, `(sentState c0).chunkid`, is the client's `chunkidPrev` now that the ping has gone out
  rw [← hcdcid, ← hprev, upQuery_id] at hA
  have hgu : Server.getUser ({ srv with now := srv.now + 1 } : Server.Srv) P.u = Server.getUser srv P.u := rfl
  rw [hgu] at hdoes hans
  generalize ansQ m.lz (Server.getUser srv P.u).q (upQuery cp.chunkid P.ty name) = A at hdoes hA
  obtain ⟨y, hpkt, hyo, hyi⟩ := hans.pkt
  obtain ⟨hlen2, hdn, _, _⟩ := ack_hdr (x := Server.getUser srv P.u) hpkt (by rw [hyi]; exact hsrv.x.iseq)
    (by rw [hyi]; exact hsrv.x.ifrag) hyo hsrv.x.oseq hsrv.x.ofrag
  have hcpidle : Client.isSending (ackBook cp) = false := by
    unfold Client.isSending
    show (cp.outpkt.len != 0) = false
    rw [hpf.outpkt]
    exact hcdidle
  have hcfst := hcpst.ackBook
  have hstep3 : Client.cstep ⟨cp, .tunnel⟩ (cliInput (.ans A.id A.type A.name pkt)) =
      (⟨ackBook cp, .tunnel⟩, [], .sel (Client.selectOf (ackBook cp))) := by
    rw [cstep_answerM hcpst hpf.sps A pkt hA.2 hA.1
        (fun e => by rw [hA.1, e, if_pos rfl, hprev]; exact fun e' => hcne e'.symm) hlen2
        (by rw [hdn, hcpin]; exact hsyncd),
      (upstream_other_ack (ackBook cp) (Client.decodeHdr pkt) [] false 2 (by intro ⟨h1, _⟩; rw [hcpidle] at h1; cases h1)).1]
    simp [Client.finalPing, Client.settle, Client.loopTop, hcfst.running]
  have hcfseq : (ackBook cp).outpkt.seqno = c0.outpkt.seqno := by
    show cp.outpkt.seqno = _
    rw [hpf.outpkt, ← hcd]; exact ht.seq
  have hto' := hwait0.timeout hsrv
  refine ⟨⟨⟨ackBook cp, .tunnel⟩, s', [], [], tC, tS⟩, ?_, ⟨rfl, rfl, hans.inp, hans.kept, hans.now,
    by show cp.now = _; exact hnow1⟩, by show cp.selecttimeout = _; rw [hpf.selto, ← hcd]; exact ht.selto, fun du hdu => ?_⟩
  · rw [ps_tickC (quiet_false_of_sending hsending) timeoutC_tunnel (by rw [hto, hto']; decide) (CliDoes.mk hstep1 (up := [.query cp.chunkid P.ty name]) (tun := []) rfl rfl),
      srvAt_tick hnow1, ps_up0 hdoes, ps_down (CliDoes.mk hstep3 (up := []) (tun := []) rfl rfl),
      srvAt_same (show (ackBook cp).now = cp.now from rfl)]
    simp only [List.append_nil]
    rfl
  · refine ⟨rfl, hcfst, ?_, hcpidle, rfl, rfl, hans.stat, by rw [hans.kept.oqFilled]; exact hoq, ?_, ?_, ?_⟩
    · exact hcnt2.imp id fun e => ackBook_cnt cp e
    · show (ackBook cp).outpkt.seqno = ((Server.getUser s' P.u).inpacket.seqno + (du : Int)) % 8
      rw [hcfseq, hans.inp]; exact hdu
    · show (Server.getUser s' P.u).outpacket.seqno = ((ackBook cp).inpkt.seqno + ((0 : Nat) : Int)) % 8
      rw [hans.kept.outpacket]
      show (Server.getUser srv P.u).outpacket.seqno = (cp.inpkt.seqno + ((0 : Nat) : Int)) % 8
      rw [hcpin, hsyncd]; exact (seqno_add_zero hready.stat.iseq).symm
    · show SrvWait P m (Server.getUser s' P.u) (ackBook cp).chunkid (ackBook cp).datacmc (ackBook cp).randSeed
      show SrvWait P m (Server.getUser s' P.u) cp.chunkid cp.datacmc cp.randSeed
      rw [hpf.datacmc, hpf.seed, hcdcmc, hcdseed]
      exact hwait

end

/-! ### one lost packet -/

/-- the client's new sequence number falls into the server's window and the server's own numbers are not an acknowledgement
of fragment 0 -/
def DropsUp (x : Server.Session) (d : Nat) : Prop := (4 ≤ d ∧ d ≤ 6) ∨ (d = 7 ∧ 1 ≤ x.inpacket.fragment)

theorem DropsUp.dup {x : Server.Session} {d : Nat} (hd : DropsUp x d)
    (hs : 0 ≤ x.inpacket.seqno ∧ x.inpacket.seqno < 8) (hf : 0 ≤ x.inpacket.fragment) {sq : Int}
    (hsq : sq = (x.inpacket.seqno + ((d + 1 : Nat) : Int)) % 8) :
    Dup x.inpacket sq.toNat 0 ∧ ¬ (x.inpacket.seqno = sq ∧ x.inpacket.fragment = ((0 : Nat) : Int)) := by
  rcases hd with hd | ⟨rfl, hd⟩
  · exact ⟨dup_of_ahead hs 0 hd (by omega), fun h => by omega⟩
  · exact ⟨dup_of_same hf (by omega), fun h => by omega⟩

section
variable {P : Par} {m : Mode} {out : List Nat}

/-- `n` rounds of a fragment that falls into the server's window, while the client still resends (3 steps and one second each):
dropped and bounced, the timer, the resend.  Nothing moves but the clocks, the counters and the memories. -/
theorem InFlight.drop_rounds (hP : P.Ok) (hm : m.Ok) {o f : Nat} :
    ∀ (n : Nat) (w : W) (c0 : Client.Cli), InFlight P m out w c0 o f →
      Dup (Server.getUser w.srv P.u).inpacket c0.outpkt.seqno.toNat f →
      ¬ ((Server.getUser w.srv P.u).inpacket.seqno = c0.outpkt.seqno ∧ (Server.getUser w.srv P.u).inpacket.fragment = (f : Int)) →
      c0.outchunkresent + n ≤ 3 →
      ∃ w' c', promptSteps P.u (3 * n) w = some w' ∧ InFlight P m out w' c' o f ∧ Idled P w w' n ∧ Retried c0 c' n := by
  intro n
  induction n with
  | zero => intro w c0 h _ _ _; exact ⟨w, c0, rfl, h, Idled.refl P w, ⟨rfl, rfl, rfl⟩⟩
  | succ n ih =>
    intro w c0 h hdup hno hr
    obtain ⟨w1, h1, hb, i1⟩ := h.bounced hP hm hdup hno
    obtain ⟨w2, c2, h2, hfl, i2, r2⟩ := hb.resend hP (by omega)
    obtain ⟨w', c', h3, hfl', i3, r3⟩ := ih w2 c2 hfl (by rw [i2.inp, i1.inp, r2.oseq]; exact hdup)
      (by rw [i2.inp, i1.inp, r2.oseq]; exact hno) (by have := r2.res; omega)
    refine ⟨w', c', ?_, hfl', ?_, ⟨r3.oseq.trans r2.oseq, by rw [r3.res, r2.res]; omega, r3.selto.trans r2.selto⟩⟩
    · rw [show 3 * (n + 1) = 2 + (1 + 3 * n) from by omega, promptSteps_add P.u 2 _ w w1 h1,
        promptSteps_add P.u 1 _ w1 w2 h2, h3]
    · have := (i1.trans i2).trans i3
      rw [show 0 + 1 + n = n + 1 from by omega] at this
      exact this

/-- **One packet offered while the client is `d` ahead, `d` in the bad half of the window, is lost**: three resends, the give-up
after 4 s (14 scheduler steps); quiescent again, one further out of step; nothing was written to either tun device and the
server's reassembly state is what it was.  For EVERY frame: only fragment 0 is ever sent. -/
theorem QuietMD.up_packet_drop {w : W} (hP : P.Ok) (hm : m.Ok) (hmP : m.OkP) {d : Nat} (hq : QuietMD P m d 0 w)
    (hd : DropsUp (Server.getUser w.srv P.u) d) (frame : List Nat) (hne : frame ≠ []) (hl : frame.length < 65536)
    (hb : Codec.Bytes frame) :
    ∃ w', promptSteps P.u 14 (step w (.offerC frame)) = some w' ∧ QuietMD P m ((d + 1) % 8) 0 w' ∧
      Idled P w w' 4 ∧ w'.cs.c.selecttimeout = w.cs.c.selecttimeout := by
  obtain ⟨w1, hw1, hfl, t1, t2, hsrv, hseq⟩ := hq.offer hP frame hne hl hb
  have hcnow : w1.cs.c.now = w.cs.c.now := by rw [hfl.cli]; exact (sentFactsL _).now
  have hres : (newPacket w.cs.c frame).outchunkresent = 0 := rfl
  have hsel0 : (newPacket w.cs.c frame).selecttimeout = w.cs.c.selecttimeout := rfl
  generalize newPacket w.cs.c frame = c0 at hfl hseq hres hsel0
  obtain ⟨hdup, hno⟩ := hsrv.symm ▸ hd.dup hq.srv.x.iseq hq.srv.x.ifrag.1 hseq
  obtain ⟨w2, c2, h2, hfl2, i2, r2⟩ := InFlight.drop_rounds hP hm 3 w1 c0 hfl hdup hno (by omega)
  obtain ⟨w3, h3, hb3, i3⟩ := hfl2.bounced hP hm (by rw [i2.inp, r2.oseq]; exact hdup) (by rw [i2.inp, r2.oseq]; exact hno)
  obtain ⟨w', h4, i4, l4, hQ⟩ := hb3.giveup hP hmP (by have := r2.res; omega)
  have hi : Idled P w1 w' 4 := (i2.trans i3).trans i4
  rw [hw1]
  refine ⟨w', ?_, hQ ((d + 1) % 8) ?_, ⟨hi.tunS.trans t1, hi.tunC.trans t2, hsrv ▸ hi.inp, hsrv ▸ hi.kept,
    by rw [hi.srvNow, hsrv], by rw [hi.cliNow, hcnow]⟩, by rw [l4, r2.selto, hsel0]⟩
  · rw [show (14 : Nat) = 3 * 3 + (2 + 3) from rfl, promptSteps_add P.u (3 * 3) _ w1 w2 h2, promptSteps_add P.u 2 _ w2 w3 h3, h4]
  · rw [i3.inp, i2.inp, hsrv, r2.oseq, hseq]
    omega

end

end Iodine.C02L
