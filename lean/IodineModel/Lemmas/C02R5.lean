import IodineModel.Lemmas.C02R1
/-
RAW UDP mode: either-case forms of the packet theorems, sequences of packets, the passing of time, and non-vacuity on
`World.demoRaw`.
-/
namespace Iodine.C02L
open Iodine Iodine.Gen Iodine.World

/-- what a frame must satisfy to be carried upstream in one raw datagram and be written to the server's tun device: an IP
packet (4-byte tun header + 20-byte IP header at least), at most 4091 bytes (compressed: 4092, what `send_raw` sends at
most), not addressed to the client's own tunnel address -/
structure RawUpOk (tunIp : Nat) (f : List Nat) : Prop where
  h24 : 24 ≤ f.length
  hlen : f.length + 1 ≤ 4092
  dst : Server.ipDst f ≠ tunIp

/-- … downstream: addressed to the client's tunnel address -/
structure RawDownOk (tunIp : Nat) (f : List Nat) : Prop where
  h24 : 24 ≤ f.length
  hlen : f.length + 1 ≤ 4092
  dst : Server.ipDst f = tunIp

/-- such a frame passes `send_raw` whole -/
theorem cut_fits (f : List Nat) (hlen : f.length + 1 ≤ 4092) : f.take 4091 = f := List.take_of_length_le (by omega)

/-- **One packet upstream, raw mode** (keepalive due or not): delivered exactly once within three steps of the prompt
schedule; the server has heard from the client, and if the keepalive was due so has the client from the server. -/
theorem raw_up_any {u : Nat} {w : W} (hq : QuietRaw u w) (hsel : 0 < w.cs.c.selecttimeout) (f : List Nat)
    (hok : RawUpOk (Server.getUser w.srv u).tunIp f) :
    ∃ k w', k ≤ 3 ∧ promptSteps u k (step w (.offerC f)) = some w' ∧ QuietRaw u w' ∧
      w'.tunS = w.tunS ++ [tunImage f] ∧ w'.tunC = w.tunC ∧ RawKept u w w' ∧
      (Server.getUser w'.srv u).lastPkt = w'.srv.now ∧
      (kaDue w.cs.c → w'.cs.c.lastdownstreamtime = w'.cs.c.now) := by
  have hl : f.length < 65536 := by have := hok.hlen; omega
  by_cases hd : kaDue w.cs.c
  · obtain ⟨w', h1, h2, h3, h4, h5, h6, h7, _⟩ := raw_up_keepalive_cut hq f hok.h24 hl hok.dst hd hsel
    rw [cut_fits f hok.hlen] at h3
    exact ⟨3, w', Nat.le_refl _, h1, h2, h3, h4, h5, h6, fun _ => h7⟩
  · obtain ⟨w', h1, h2, h3, h4, h5, h6, _, _⟩ := raw_up_cut hq f hok.h24 hl hok.dst hd
    rw [cut_fits f hok.hlen] at h3
    exact ⟨1, w', by omega, h1, h2, h3, h4, h5, h6, fun h => absurd h hd⟩

/-- **One packet downstream, raw mode** (keepalive due or not): delivered exactly once within three steps; the client
has heard from the server, and if the keepalive was due so has the server from the client. -/
theorem raw_down_any {u : Nat} {w : W} (hq : QuietRaw u w) (hsel : 0 < w.cs.c.selecttimeout) (f : List Nat)
    (hok : RawDownOk (Server.getUser w.srv u).tunIp f) :
    ∃ k w', k ≤ 3 ∧ promptSteps u k (step w (.offerS f)) = some w' ∧ QuietRaw u w' ∧
      w'.tunC = w.tunC ++ [tunImage f] ∧ w'.tunS = w.tunS ∧ RawKept u w w' ∧
      w'.cs.c.lastdownstreamtime = w'.cs.c.now ∧
      (kaDue w.cs.c → (Server.getUser w'.srv u).lastPkt = w'.srv.now) := by
  have hl : f.length < 65536 := by have := hok.hlen; omega
  by_cases hd : kaDue w.cs.c
  · obtain ⟨w', h1, h2, h3, h4, h5, h6, h7, _⟩ := raw_down_keepalive_cut hq f hok.h24 hl hok.dst hd hsel
    rw [cut_fits f hok.hlen] at h3
    exact ⟨3, w', Nat.le_refl _, h1, h2, h3, h4, h5, h6, fun _ => h7⟩
  · obtain ⟨w', h1, h2, h3, h4, h5, h6, _, _⟩ := raw_down_cut hq f hok.h24 hl hok.dst hd
    rw [cut_fits f hok.hlen] at h3
    exact ⟨1, w', by omega, h1, h2, h3, h4, h5, h6, fun h => absurd h hd⟩

def RawOfferOk (tunIp : Nat) : Offer → Prop
  | .toServer f => RawUpOk tunIp f
  | .toClient f => RawDownOk tunIp f

/-- one frame offered to the client and the prompt schedule run to its end, as the inductions over offers take it: the state
is as before (quiescent, `selecttimeout` positive, the tunnel address unchanged), the frame is on the server's tun device -/
theorem raw_up_run {u fuel : Nat} (hfuel : 3 ≤ fuel) {w : W} (hq : QuietRaw u w ∧ 0 < w.cs.c.selecttimeout) {f : List Nat}
    (ho : RawUpOk (Server.getUser w.srv u).tunIp f) :
    (QuietRaw u (runPrompt u fuel (step w (.offerC f))) ∧ 0 < (runPrompt u fuel (step w (.offerC f))).cs.c.selecttimeout) ∧
    (runPrompt u fuel (step w (.offerC f))).tunS = w.tunS ++ [tunImage f] ∧
    (runPrompt u fuel (step w (.offerC f))).tunC = w.tunC ∧
    (Server.getUser (runPrompt u fuel (step w (.offerC f))).srv u).tunIp = (Server.getUser w.srv u).tunIp := by
  obtain ⟨k, w', hk, h1, h2, h3, h4, h5, _, _⟩ := raw_up_any hq.1 hq.2 f ho
  rw [runPrompt_of_steps u _ _ _ h1 h2.quiet fuel (by omega)]
  exact ⟨⟨h2, by rw [h5.selto]; exact hq.2⟩, h3, h4, h5.tunIp⟩

theorem raw_down_run {u fuel : Nat} (hfuel : 3 ≤ fuel) {w : W} (hq : QuietRaw u w ∧ 0 < w.cs.c.selecttimeout) {f : List Nat}
    (ho : RawDownOk (Server.getUser w.srv u).tunIp f) :
    (QuietRaw u (runPrompt u fuel (step w (.offerS f))) ∧ 0 < (runPrompt u fuel (step w (.offerS f))).cs.c.selecttimeout) ∧
    (runPrompt u fuel (step w (.offerS f))).tunC = w.tunC ++ [tunImage f] ∧
    (runPrompt u fuel (step w (.offerS f))).tunS = w.tunS ∧
    (Server.getUser (runPrompt u fuel (step w (.offerS f))).srv u).tunIp = (Server.getUser w.srv u).tunIp := by
  obtain ⟨k, w', hk, h1, h2, h3, h4, h5, _, _⟩ := raw_down_any hq.1 hq.2 f ho
  rw [runPrompt_of_steps u _ _ _ h1 h2.quiet fuel (by omega)]
  exact ⟨⟨h2, by rw [h5.selto]; exact hq.2⟩, h3, h4, h5.tunIp⟩

/-- **Packets offered on both sides, one after the other (raw mode).** -/
theorem mixed_sequence_raw {u : Nat} (fuel : Nat) (hfuel : 3 ≤ fuel) :
    ∀ (offers : List Offer) (w : W), QuietRaw u w → 0 < w.cs.c.selecttimeout →
      (∀ o ∈ offers, RawOfferOk (Server.getUser w.srv u).tunIp o) →
      QuietRaw u (offerAll u fuel w offers) ∧
      (offerAll u fuel w offers).tunS = w.tunS ++ (Offer.ups offers).map tunImage ∧
      (offerAll u fuel w offers).tunC = w.tunC ++ (Offer.downs offers).map tunImage := by
  intro offers w hq hsel hok
  have := offerAll_induct (u := u) (fuel := fuel) (Q := fun w => QuietRaw u w ∧ 0 < w.cs.c.selecttimeout)
    (ok := fun w o => RawOfferOk (Server.getUser w.srv u).tunIp o)
    (fun w f hq ho => by
      obtain ⟨h1, h2, h3, h4⟩ := raw_up_run hfuel hq ho
      exact ⟨h1, h2, h3, fun o ho => by rw [h4]; exact ho⟩)
    (fun w f hq ho => by
      obtain ⟨h1, h2, h3, h4⟩ := raw_down_run hfuel hq ho
      exact ⟨h1, h2, h3, fun o ho => by rw [h4]; exact ho⟩) offers w ⟨hq, hsel⟩ hok
  exact ⟨this.1.1, this.2⟩

/-- **A sequence of packets upstream, raw mode**: each frame is offered after the previous one was delivered; all of
them arrive at the server's tun device exactly once, in order; quiescent again. -/
theorem up_sequence_raw {u : Nat} (fuel : Nat) (hfuel : 3 ≤ fuel) (frames : List (List Nat)) (w : W)
    (hq : QuietRaw u w) (hsel : 0 < w.cs.c.selecttimeout) (hok : ∀ f ∈ frames, RawUpOk (Server.getUser w.srv u).tunIp f) :
    QuietRaw u (offerAllC u fuel w frames) ∧
    (offerAllC u fuel w frames).tunS = w.tunS ++ frames.map tunImage ∧
    (offerAllC u fuel w frames).tunC = w.tunC := by
  have := offerAllC_induct (u := u) (fuel := fuel) (Q := fun w => QuietRaw u w ∧ 0 < w.cs.c.selecttimeout)
    (ok := fun w f => RawUpOk (Server.getUser w.srv u).tunIp f)
    (fun w f hq ho => by
      obtain ⟨h1, h2, h3, h4⟩ := raw_up_run hfuel hq ho
      exact ⟨h1, h2, h3, fun g hg => by rw [h4]; exact hg⟩) frames w ⟨hq, hsel⟩ hok
  exact ⟨this.1.1, this.2⟩

theorem down_sequence_raw {u : Nat} (fuel : Nat) (hfuel : 3 ≤ fuel) :
    ∀ (frames : List (List Nat)) (w : W), QuietRaw u w → 0 < w.cs.c.selecttimeout →
      (∀ f ∈ frames, RawDownOk (Server.getUser w.srv u).tunIp f) →
      QuietRaw u (offerAllS u fuel w frames) ∧
      (offerAllS u fuel w frames).tunC = w.tunC ++ frames.map tunImage ∧
      (offerAllS u fuel w frames).tunS = w.tunS := by
  intro frames w hq hsel hok
  have := offerAllS_induct (u := u) (fuel := fuel) (Q := fun w => QuietRaw u w ∧ 0 < w.cs.c.selecttimeout)
    (ok := fun w f => RawDownOk (Server.getUser w.srv u).tunIp f)
    (fun w f hq ho => by
      obtain ⟨h1, h2, h3, h4⟩ := raw_down_run hfuel hq ho
      exact ⟨h1, h2, h3, fun g hg => by rw [h4]; exact hg⟩) frames w ⟨hq, hsel⟩ hok
  exact ⟨this.1.1, this.2⟩

/-- `dt` seconds pass on a quiescent raw-mode state without either 60 s limit being reached: still quiescent -/
theorem QuietRaw.advance {u : Nat} {w : W} (hq : QuietRaw u w) (dt : Nat)
    (hc : ¬ w.cs.c.lastdownstreamtime + 60 < w.cs.c.now + dt)
    (hs : w.srv.now + dt < (Server.getUser w.srv u).lastPkt + 60) :
    QuietRaw u (step w (.advance dt)) := by
  have hi := hq.inv
  have hx := hi.srv.slot
  refine ⟨⟨hi.ph, hi.u16, ⟨hi.cli.running, hi.cli.conn, hi.cli.uid, hc, hi.cli.idle⟩,
    ⟨hi.srv.solo.withNow _, ?_, hi.srv.ip⟩⟩, hq.up, hq.down⟩
  exact ⟨hx.active, hx.auth, hx.authRaw, hx.enabled, hx.conn, hs, hx.qfrom, hx.qid, hx.qsid, hx.out, hx.oq, hx.imm⟩

/-- **One-directional traffic keeps a raw session alive.**  Upstream frames only, the first one offered when the keepalive
is due: afterwards the client's `lastdownstreamtime` is the current time, so a further 60 s may pass before
`client_tunnel` would give up (without the keepalive in front of the handlers nothing would ever refresh it: `raw_up_cut`
leaves `lastdownstreamtime` unchanged). -/
theorem raw_up_keeps_alive {u : Nat} {w : W} (hq : QuietRaw u w) (hsel : 0 < w.cs.c.selecttimeout) (f : List Nat)
    (hok : RawUpOk (Server.getUser w.srv u).tunIp f) (hd : kaDue w.cs.c) (dt : Nat) (hdt : dt < 60) :
    ∃ w', promptSteps u 3 (step w (.offerC f)) = some w' ∧ QuietRaw u (step w' (.advance dt)) ∧
      w'.tunS = w.tunS ++ [tunImage f] := by
  obtain ⟨w', h1, h2, h3, _, _, h6, h7, _⟩ :=
    raw_up_keepalive_cut hq f hok.h24 (by have := hok.hlen; omega) hok.dst hd hsel
  rw [cut_fits f hok.hlen] at h3
  exact ⟨w', h1, h2.advance dt (by rw [h7]; omega) (by rw [h6]; omega), h3⟩

theorem demoRaw_users : (demoServer false true .b32).users.length = 16 := by decide +kernel

theorem demoRaw_solo : Solo 0 (demoServer false true .b32) :=
  Solo.of_table demoRaw_users (by decide) (by decide +kernel) (by decide +kernel)

theorem quietRaw_demoRaw : QuietRaw 0 demoRaw := by
  refine ⟨⟨rfl, by decide, ⟨rfl, rfl, rfl, by decide, rfl⟩, ⟨demoRaw_solo, ?_, Or.inr (by decide +kernel)⟩⟩, rfl, rfl⟩
  exact ⟨by decide +kernel, by decide +kernel, by decide +kernel, by decide +kernel, by decide +kernel, by decide +kernel,
    by decide +kernel, by decide +kernel, by decide +kernel, by decide +kernel, by decide +kernel, by decide +kernel⟩

theorem demoRaw_tunIp : (Server.getUser demoRaw.srv 0).tunIp = 0x0a000002 := by decide +kernel

theorem demoRaw_not_due : ¬ kaDue demoRaw.cs.c := by decide

theorem demoFrame_up_ok (n : Nat) (hn : n + 25 ≤ 4092) : RawUpOk (Server.getUser demoRaw.srv 0).tunIp (demoFrame 9 n) := by
  refine ⟨by simp [demoFrame], by simp [demoFrame]; omega, ?_⟩
  rw [demoRaw_tunIp]
  simp [Server.ipDst, demoFrame, Server.beVal]

theorem demoFrame_down_ok (n : Nat) (hn : n + 25 ≤ 4092) : RawDownOk (Server.getUser demoRaw.srv 0).tunIp (demoFrame 2 n) := by
  refine ⟨by simp [demoFrame], by simp [demoFrame]; omega, ?_⟩
  rw [demoRaw_tunIp]
  simp [Server.ipDst, demoFrame, Server.beVal]

/-- non-vacuity of `raw_up_cut`: a 124-byte frame on `demoRaw` -/
example : ∃ w', promptSteps 0 1 (step demoRaw (.offerC (demoFrame 9 100))) = some w' ∧ QuietRaw 0 w' ∧
    w'.tunS = [tunImage (demoFrame 9 100)] ∧ w'.tunC = [] := by
  have hok := demoFrame_up_ok 100 (by omega)
  obtain ⟨w', h1, h2, h3, h4, _⟩ := raw_up_cut quietRaw_demoRaw (demoFrame 9 100) hok.h24 (by have := hok.hlen; omega) hok.dst demoRaw_not_due
  rw [cut_fits _ hok.hlen] at h3
  exact ⟨w', h1, h2, h3, h4⟩

/-- non-vacuity of `raw_down_cut` -/
example : ∃ w', promptSteps 0 1 (step demoRaw (.offerS (demoFrame 2 100))) = some w' ∧ QuietRaw 0 w' ∧
    w'.tunC = [tunImage (demoFrame 2 100)] ∧ w'.tunS = [] := by
  have hok := demoFrame_down_ok 100 (by omega)
  obtain ⟨w', h1, h2, h3, h4, _⟩ := raw_down_cut quietRaw_demoRaw (demoFrame 2 100) hok.h24 (by have := hok.hlen; omega) hok.dst demoRaw_not_due
  rw [cut_fits _ hok.hlen] at h3
  exact ⟨w', h1, h2, h3, h4⟩

/-- five seconds later the keepalive is due (`selecttimeout = 1`) and the state is still quiescent -/
theorem quietRaw_demoRaw_later : QuietRaw 0 (step demoRaw (.advance 5)) ∧ kaDue (step demoRaw (.advance 5)).cs.c ∧
    0 < (step demoRaw (.advance 5)).cs.c.selecttimeout :=
  ⟨quietRaw_demoRaw.advance 5 (by decide) (by decide +kernel), by decide, by decide⟩

/-- non-vacuity of `raw_up_keepalive_cut` / `raw_down_keepalive_cut` -/
example : ∃ w', promptSteps 0 3 (step (step demoRaw (.advance 5)) (.offerC (demoFrame 9 100))) = some w' ∧ QuietRaw 0 w' ∧
    w'.tunS = [tunImage (demoFrame 9 100)] ∧ w'.cs.c.lastdownstreamtime = 1005 := by
  obtain ⟨hq, hd, hsel⟩ := quietRaw_demoRaw_later
  have hok := demoFrame_up_ok 100 (by omega)
  obtain ⟨w', h1, h2, h3, _, h5, _, h7, _⟩ := raw_up_keepalive_cut hq (demoFrame 9 100) hok.h24 (by have := hok.hlen; omega) hok.dst hd hsel
  rw [cut_fits _ hok.hlen] at h3
  exact ⟨w', h1, h2, h3, by rw [h7, h5.nowC]; rfl⟩

example : ∃ w', promptSteps 0 3 (step (step demoRaw (.advance 5)) (.offerS (demoFrame 2 100))) = some w' ∧ QuietRaw 0 w' ∧
    w'.tunC = [tunImage (demoFrame 2 100)] ∧ (Server.getUser w'.srv 0).lastPkt = 1005 := by
  obtain ⟨hq, hd, hsel⟩ := quietRaw_demoRaw_later
  have hok := demoFrame_down_ok 100 (by omega)
  obtain ⟨w', h1, h2, h3, _, h5, _, h7, _⟩ := raw_down_keepalive_cut hq (demoFrame 2 100) hok.h24 (by have := hok.hlen; omega) hok.dst hd hsel
  rw [cut_fits _ hok.hlen] at h3
  exact ⟨w', h1, h2, h3, by rw [h7, h5.nowS]; rfl⟩

/-- non-vacuity of the sequence theorems -/
example : (offerAllC 0 3 demoRaw [demoFrame 9 100, demoFrame 9 4, demoFrame 9 1000]).tunS =
    [tunImage (demoFrame 9 100), tunImage (demoFrame 9 4), tunImage (demoFrame 9 1000)] := by
  have := (up_sequence_raw (u := 0) 3 (Nat.le_refl _) [demoFrame 9 100, demoFrame 9 4, demoFrame 9 1000] demoRaw quietRaw_demoRaw
    (by decide) (by
      intro f hf
      simp only [List.mem_cons, List.not_mem_nil, or_false] at hf
      rcases hf with h | h | h <;> subst h
      · exact demoFrame_up_ok 100 (by omega)
      · exact demoFrame_up_ok 4 (by omega)
      · exact demoFrame_up_ok 1000 (by omega))).2.1
  exact this

/-! ### the 4092-byte cut is real

`send_raw` copies at most `sizeof(packet) - RAW_HDR_LEN = 4092` bytes of the compressed packet.  A frame of 4092 bytes
or more loses everything behind its first 4091 bytes on the way — silently, in both directions; the hypothesis
`f.length + 1 ≤ 4092` of `raw_up_any` / `raw_down_any` cannot be dropped. -/

/-- a tun device that received the cut frame did not receive the frame -/
theorem tunImage_cut_ne (l : List (List Nat)) (f : List Nat) (hlong : 4092 ≤ f.length) :
    l ++ [tunImage (f.take 4091)] ≠ l ++ [tunImage f] := by
  intro h
  have := congrArg List.length (List.singleton_inj.1 (List.append_cancel_left h))
  simp only [tunImage, List.length_append, List.length_cons, List.length_nil, List.length_drop, List.length_take] at this
  omega

/-- a long frame offered to the client reaches the server's tun device TRUNCATED to 4091 bytes -/
theorem raw_up_long_truncated {u : Nat} {w : W} (hq : QuietRaw u w) (f : List Nat) (hlong : 4092 ≤ f.length)
    (hlen : f.length < 65536) (hdst : Server.ipDst f ≠ (Server.getUser w.srv u).tunIp) (hnd : ¬ kaDue w.cs.c) :
    ∃ w', promptSteps u 1 (step w (.offerC f)) = some w' ∧ QuietRaw u w' ∧
      w'.tunS = w.tunS ++ [tunImage (f.take 4091)] ∧ w'.tunS ≠ w.tunS ++ [tunImage f] := by
  obtain ⟨w', h1, h2, h3, _⟩ := raw_up_cut hq f (by omega) hlen hdst hnd
  exact ⟨w', h1, h2, h3, h3 ▸ tunImage_cut_ne _ f hlong⟩

theorem raw_down_long_truncated {u : Nat} {w : W} (hq : QuietRaw u w) (f : List Nat) (hlong : 4092 ≤ f.length)
    (hlen : f.length < 65536) (hdst : Server.ipDst f = (Server.getUser w.srv u).tunIp) (hnd : ¬ kaDue w.cs.c) :
    ∃ w', promptSteps u 1 (step w (.offerS f)) = some w' ∧ QuietRaw u w' ∧
      w'.tunC = w.tunC ++ [tunImage (f.take 4091)] ∧ w'.tunC ≠ w.tunC ++ [tunImage f] := by
  obtain ⟨w', h1, h2, h3, _⟩ := raw_down_cut hq f (by omega) hlen hdst hnd
  exact ⟨w', h1, h2, h3, h3 ▸ tunImage_cut_ne _ f hlong⟩

/-- non-vacuity: a 4092-byte frame on `demoRaw` -/
example : ∃ w', promptSteps 0 1 (step demoRaw (.offerC (demoFrame 9 4068))) = some w' ∧
    w'.tunS = [tunImage ((demoFrame 9 4068).take 4091)] ∧ w'.tunS ≠ [tunImage (demoFrame 9 4068)] := by
  have hdst : Server.ipDst (demoFrame 9 4068) ≠ (Server.getUser demoRaw.srv 0).tunIp := by
    rw [demoRaw_tunIp]; simp [Server.ipDst, demoFrame, Server.beVal]
  obtain ⟨w', h1, _, h3, h4⟩ := raw_up_long_truncated quietRaw_demoRaw (demoFrame 9 4068) (by simp [demoFrame])
    (by simp [demoFrame]) hdst demoRaw_not_due
  exact ⟨w', h1, h3, h4⟩

end Iodine.C02L
