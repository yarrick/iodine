import IodineModel.Lemmas.BytesH
import IodineModel.Lemmas.SrvC04f
/-
What the byte-level server makes of octets.  The question name that `dns_decode(QR_QUERY)` extracts from a datagram made of bytes
is made of bytes and has at most 253 characters, for EVERY datagram (compression pointers, dots inside labels, truncated names,
reserved label types; no legality assumption): every byte `readname_loop` stores is a byte it read at a guarded index
`< packetlen` or one of the constants `0` and `'.'`, so nothing is needed about the residue behind the datagram.  Over that stands
the invariant of the server process under byte-valued inputs, `BytesL.ProcInv P` (static counters, keys of held queries satisfy
`P`, slots, configuration), with its step lemma `procInv_step`; the invariants behind C10 and C05 extend it.
-/
namespace Iodine.C05L
open Iodine Iodine.Server Iodine.Wire Iodine.C10 Iodine.BytesL

/-- bytes of the datagram are bytes, the residue is arbitrary (it is never stored) -/
theorem readname_bytes (b : RxBuf) (hp : ∀ x ∈ b.pkt.toList, x < 256)
    (src length : Nat) {r : Nat × List Nat} (h : readname b src length = .ok r) : IsBytes r.2 := by
  by_cases hl : length < 3
  · simp only [readname, hl, if_true] at h
    cases h
  · have hD : Stored b.pkt (· < 256) := ⟨by omega, by omega, fun i hi => hp _ (by
      simp only [Array.getD, hi, dite_true]
      simp)⟩
    exact ((readname_same (Q := True) (r₁ := b.res) hD src length (by omega)).post r h).2

/-! ### `dns_decode(QR_QUERY)` -/

theorem cstr_bytes {w : List Nat} (h : IsBytes w) : IsBytes (cstr w) :=
  fun x hx => h x ((List.takeWhile_sublist _).subset hx)

theorem dnsDecodeQuery_name (b : RxBuf) (hp : ∀ x ∈ b.pkt.toList, x < 256)
    {d : Decoded} (h : dnsDecodeQuery b = .ok d) (hrv : ¬ d.rv ≤ 0) : IsBytes d.name ∧ d.name.length ≤ 253 := by
  rcases dnsDecodeQuery_ok_cases h with ⟨h0, _⟩ | ⟨dd, w, hrn, hlong, _, _, hname, _⟩
  · exact absurd h0 hrv
  · have hw := readname_bytes b hp 12 255 hrn
    rw [hname]
    refine ⟨isBytes_take _ (isBytes_take _ (cstr_bytes (isBytes_take _ hw))), ?_⟩
    simp only [List.length_take]
    omega

/-! ### `read_dns` -/

theorem toInput_q_bytes {s : Srv} {inp : BInput} {q : Query} (hb : BytesL.ByteInput inp) (h : toInput s inp = .q q) :
    IsBytes q.name ∧ q.name.length ≤ 253 := by
  cases inp with
  | tun f => cases h
  | bind b => cases h
  | tick => cases h
  | dgram src bytes =>
    have h' : decodeInput s src bytes = .q q := h
    rcases decodeInput_cases s src bytes with h1 | h1 | ⟨d, hd, hrv, h1⟩ <;> rw [h1] at h' <;> cases h'
    exact dnsDecodeQuery_name (rxBuf #[] (bytes.take 65536)) (fun x hx => hb x (List.mem_of_mem_take hx)) hd hrv

/-- the session machine's input is made of bytes without any legality hypothesis -/
theorem inputBytes_toInput_any (s : Srv) (inp : BInput) (hb : BytesL.ByteInput inp) : BytesL.InputBytes (toInput s inp) := by
  cases inp with
  | tun f => exact hb
  | bind d => trivial
  | tick => trivial
  | dgram src bytes =>
    show InputBytes (decodeInput s src bytes)
    rcases decodeInput_cases s src bytes with h | h | ⟨d, _, _, h⟩
    · rw [h]; trivial
    · rw [h]; exact isBytes_take _ hb
    · have hq := toInput_q_bytes (s := s) (inp := .dgram src bytes) hb h
      rw [h]
      exact ⟨hq.1, by have := hq.2; omega⟩

end Iodine.C05L

namespace Iodine.BytesL
open Iodine Iodine.Server Iodine.C10 Iodine.C14L

/-! ### the invariant of the process -/

/-- what the byte-level server keeps under byte-valued inputs, whatever is asked of the keys of held queries -/
structure ProcInv (P : Key → Prop) (b : BSrv) : Prop extends BInv P b where
  slots : SlotInv b.srv
  cfg : CfgBound b.srv.cfg

theorem procInv_start (P : Key → Prop) (cfg : Config) (hc : CfgBound cfg) (rnd : List Nat) : ProcInv P (bstart cfg rnd) :=
  ⟨binv_start P cfg rnd, slotInv_start cfg rnd, hc⟩

/-- **one byte-level iteration on a byte-valued input** in which the key of a decoded tunnel-type question inside the tunnel
domain satisfies `P`: the invariant is kept, every `write_dns` goes to a key that satisfies `P` and carries a byte string of
2..4096 bytes or the one byte "x", every other event fits the buffer it is sent from -/
theorem procInv_step {P : Key → Prop} {b : BSrv} (hb : ProcInv P b) (inp : BInput) (hby : ByteInput inp) (now' : Nat)
    (hP : ∀ q, toInput b.srv inp = .q q → TunnelType q.type → Common.queryDatalen q.name b.srv.cfg.topdomain ≠ none →
      P (keyOf q)) :
    ProcInv P (biteration b inp now').1 ∧ AnsInv P (out b.srv ⟨toInput b.srv inp, now'⟩) ∧
      AnsOK (out b.srv ⟨toInput b.srv inp, now'⟩) ∧ C05L.EvOK (out b.srv ⟨toInput b.srv inp, now'⟩) := by
  have hk := binv_step hb.toBInv inp now' hP
  have hs := iteration_slots hb.slots hb.cfg (toInput b.srv inp) (C05L.inputBytes_toInput_any b.srv inp hby) now'
  have hcfg : (biteration b inp now').1.srv.cfg = b.srv.cfg := C04L.iteration_cfg b.srv (toInput b.srv inp) now'
  exact ⟨⟨hk.1, hs.1, hcfg ▸ hb.cfg⟩, hk.2, hs.2⟩

end Iodine.BytesL
