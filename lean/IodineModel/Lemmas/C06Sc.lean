import IodineModel.Lemmas.C06Sa
import IodineModel.Lemmas.CliQ3
/-
C06 for whole client sessions: the tunnel phase cannot be wedged.

Under the invariant `Late` of the tunnel phase (Lemmas/CliQ1.lean: what `main()` + the handshake establish in the range C08 covers),
every host name the senders build is legal, so `dns_encode` succeeds and `send_query` really sends.  Hence: a timeout of
`client_tunnel`'s `select` always sends something (a data chunk, a ping, a raw keepalive) or ends the loop (60 s rule); a timeout
of the `select` of `handshake_lazyoff` sends the next switch request or returns into `client_tunnel`'s loop; and the thread never
parks in `handshake_lazyoff` without having sent.
-/
namespace Iodine.C06L
open Iodine Iodine.Client Iodine.Gen Iodine.CliQ

variable {L : Nat} {td : List Nat}

def Sends (evs : List CEvent) : Prop := ∃ e ∈ evs, C06.IsTx e

theorem sends_append_right {a b : List CEvent} (h : Sends b) : Sends (a ++ b) := by
  obtain ⟨e, he, ht⟩ := h
  exact ⟨e, List.mem_append_right _ he, ht⟩

theorem sends_append_left {a b : List CEvent} (h : Sends a) : Sends (a ++ b) := by
  obtain ⟨e, he, ht⟩ := h
  exact ⟨e, List.mem_append_left _ he, ht⟩

theorem sends_of_tx {evs : List CEvent} (h : ∃ e ∈ evs, (∃ id ty n, e = .query id ty n) ∨ ∃ b, e = .rawtx b) : Sends evs := by
  obtain ⟨e, he, ⟨_, _, _, rfl⟩ | ⟨_, rfl⟩⟩ := h <;> exact ⟨_, he, trivial⟩

theorem sendPing_sends (E : Env L td) (c : Cli) (hl : Late L td c) : Sends (sendPing c).evs :=
  sends_of_tx (sendPing_good E c hl).tx

theorem sendChunk_sends (E : Env L td) (c : Cli) (hl : Late L td c) : Sends (sendChunk c).evs :=
  sends_of_tx (sendChunk_good E c hl).tx

theorem afterSend_sends {s : Sent} {pre : List CEvent} {k : Resume} (hs : Sends s.evs) : Sends (afterSend s pre k).2.1 :=
  ite_both (P := fun r : Cli × List CEvent × Stop => Sends r.2.1) (sends_append_right hs) (sends_append_right hs)

theorem timeoutBranch_sends (E : Env L td) (c : Cli) (hl : Late L td c) : Sends (timeoutBranch c).2.1 := by
  unfold timeoutBranch
  split
  · split
    · exact afterSend_sends (sendChunk_sends E _ (hl.sameW (.of_key rfl)))
    · exact afterSend_sends (sendPing_sends E _ (hl.sameW (.gaveUp rfl)))
  · exact afterSend_sends (sendPing_sends E _ hl)

/-- a timeout of `client_tunnel`'s `select`: the loop ends (60 s without downstream data) or something is sent -/
theorem tunnelStep_tick (E : Env L td) (c : Cli) (hl : Late L td c) :
    ((tunnelStep c .tick).1.ph = .idle ∧ (tunnelStep c .tick).2.2 = .finished 0) ∨ Sends (tunnelStep c .tick).2.1 := by
  have hl1 : Late L td (afterSelect (fire c (selectOf c) .tick).1) :=
    hl.frame ((frame_fire c _ .tick).trans (frame_afterSelect _).book)
  unfold tunnelStep
  simp only
  split
  · exact Or.inl ⟨rfl, rfl⟩
  · right
    simp only [fire]
    rw [settle_evs]
    exact timeoutBranch_sends E _ hl1

theorem loopTop_ph (c : Cli) (evs : List CEvent) : (loopTop c evs).1.ph = .idle ∨ (loopTop c evs).1.ph = .tunnel :=
  ite_both (P := fun o : CState × List CEvent × Next => o.1.ph = .idle ∨ o.1.ph = .tunnel) (Or.inr rfl) (Or.inl rfl)

/-- where `settle` leaves the thread: out of the loop, at its top, or — the handler parked — in `handshake_lazyoff` -/
theorem settle_ph (r : Cli × List CEvent × Stop) :
    (settle r).1.ph = .idle ∨ (settle r).1.ph = .tunnel ∨ (∃ k, r.2.2 = .park k) := by
  unfold settle
  split
  · exact (loopTop_ph _ _).imp_right .inl
  · rename_i k hk
    exact Or.inr (Or.inr ⟨k, hk⟩)

theorem lazyoffIter_parked_sends (E : Env L td) (c : Cli) (i : Nat) (hm : Mid L td c) (hp : (lazyoffIter c i).parked = true) :
    Sends (lazyoffIter c i).evs :=
  let ⟨_, _, _, h⟩ := (lazyoffIter_x E c i hm).2.2 hp
  ⟨_, h, trivial⟩

/-! ### the thread parks in `handshake_lazyoff` only behind a query that was really sent (no hypothesis needed) -/

/-- a sender that parked has sent -/
def PS (s : Sent) : Prop := s.parked = true → Sends s.evs

theorem sendQuery_ps (c : Cli) (h : List Nat) : PS (sendQuery c h) := by
  intro hp
  unfold sendQuery at hp ⊢
  simp only at hp ⊢
  split
  · rename_i hr
    apply sends_append_left
    unfold sendQueryPlain at hr ⊢
    simp only at hr ⊢
    split
    · rename_i hw
      simp [hw] at hr
    · rename_i ev hw
      obtain ⟨id, ty, n, rfl⟩ := wireQuery_query hw
      exact ⟨_, List.mem_cons_self, trivial⟩
  · rename_i hr
    rw [if_neg hr] at hp
    cases hp

theorem sendPing_ps (c : Cli) : PS (sendPing c) := by
  unfold sendPing
  split
  · exact sendQuery_ps _ _
  · intro hp; cases hp

theorem sendChunk_ps (c : Cli) : PS (sendChunk c) := sendQuery_ps _ _

/-- a handler that parked has sent -/
def PG (r : Cli × List CEvent × Stop) : Prop := ∀ k, r.2.2 = .park k → Sends r.2.1

theorem pg_ret (c : Cli) (evs : List CEvent) (rv : Int) : PG (c, evs, .ret rv) := by
  intro k h; cases h

theorem afterSend_pg {s : Sent} {pre : List CEvent} {k : Resume} (hs : PS s) : PG (afterSend s pre k) := by
  unfold afterSend
  by_cases hp : s.parked = true
  · rw [if_pos hp]; exact fun _ _ => sends_append_right (hs hp)
  · rw [if_neg hp]; exact pg_ret _ _ _

theorem timeoutBranch_pg (c : Cli) : PG (timeoutBranch c) :=
  ite_both (ite_both (afterSend_pg (sendChunk_ps _)) (afterSend_pg (sendPing_ps _))) (afterSend_pg (sendPing_ps _))

theorem tunnelTun_pg (c : Cli) (frame : List Nat) : PG (tunnelTun c frame) :=
  ite_both (pg_ret _ _ _) <| ite_both (pg_ret _ _ _) <| ite_both (afterSend_pg (sendChunk_ps _)) (pg_ret _ _ _)

theorem finalPing_pg (c : Cli) (evs : List CEvent) (sn : Bool) (read : Int) : PG (finalPing c evs sn read) :=
  ite_both (afterSend_pg (sendPing_ps _)) (pg_ret _ _ _)

theorem upstream_pg (c : Cli) (h : Hdr) (evs : List CEvent) (sn : Bool) (read : Int) : PG (upstream c h evs sn read) :=
  ite_both (ite_both (finalPing_pg _ _ _ _) (afterSend_pg (sendChunk_ps _))) (finalPing_pg _ _ _ _)

theorem tunnelDns_pg (c : Cli) (rq : Rq) : PG (tunnelDns c rq) :=
  ite_both (pg_ret _ _ _) <| ite_both (pg_ret _ _ _) <| ite_both (pg_ret _ _ _) <|
    ite_both (ite_both (afterSend_pg (sendPing_ps _)) (pg_ret _ _ _)) (upstream_pg _ _ _ _ _)

theorem tunnelDnsInput_pg (c : Cli) (inp : CInput) : PG (tunnelDnsInput c inp) := by
  unfold tunnelDnsInput
  cases inp <;> exact ite_both (tunnelDns_pg _ _) (pg_ret _ _ _)

/-- where a handler leaves the thread: at the top of the loop, out of it, or parked behind a send -/
theorem settle_pg (r : Cli × List CEvent × Stop) (h : PG r) :
    (settle r).1.ph = .idle ∨ (settle r).1.ph = .tunnel ∨ Sends (settle r).2.1 := by
  rcases settle_ph r with h1 | h1 | ⟨k, hk⟩
  · exact Or.inl h1
  · exact Or.inr (Or.inl h1)
  · right; right
    rw [settle_evs]
    exact h k hk

/-- one turn of `client_tunnel`'s loop, ANY input: the thread is in `client_tunnel`'s `select` again, or has left the loop, or
something was sent -/
theorem tunnelStep_phase (c : Cli) (inp : CInput) :
    (tunnelStep c inp).1.ph = .idle ∨ (tunnelStep c inp).1.ph = .tunnel ∨ Sends (tunnelStep c inp).2.1 := by
  -- events in front of a handler's change nothing
  have front : ∀ (evs : List CEvent) (o : CState × List CEvent × Next),
      o.1.ph = .idle ∨ o.1.ph = .tunnel ∨ Sends o.2.1 →
      (after evs o).1.ph = .idle ∨ (after evs o).1.ph = .tunnel ∨ Sends (after evs o).2.1 :=
    fun _ _ h => h.imp id (Or.imp id sends_append_right)
  unfold tunnelStep
  extract_lets f c'
  by_cases hr : (!c'.running) = true
  · rw [if_pos hr]; exact Or.inl rfl
  rw [if_neg hr]
  cases f.2 with
  | timeout => exact settle_pg _ (timeoutBranch_pg _)
  | tun frame => exact front _ _ (settle_pg _ (tunnelTun_pg _ _))
  | dns inp => exact front _ _ (settle_pg _ (tunnelDnsInput_pg _ _))

/-- a timeout of the `select` of `handshake_lazyoff`: the next switch request is sent, or `handshake_lazyoff` returns into
`client_tunnel`'s loop -/
theorem lazyoffStep_tick (E : Env L td) (c : Cli) (i : Nat) (k : Resume) (hl : Late L td c) :
    (lazyoffStep c i k .tick).1.ph = .idle ∨ (lazyoffStep c i k .tick).1.ph = .tunnel ∨ Sends (lazyoffStep c i k .tick).2.1 := by
  have hl0 : Late L td (advanceClock c waitSel) := hl.frame (frame_fire c waitSel .tick)
  have e : lazyoffStep c i k .tick = lazyoffNext (advanceClock c waitSel) i k := by
    unfold lazyoffStep
    simp [fire, waitdnsRound, lazyoffGot]
  rw [e]
  unfold lazyoffNext
  simp only
  split
  · rename_i hp
    exact Or.inr (Or.inr (lazyoffIter_parked_sends E _ _ hl0.1 hp))
  · unfold lazyoffReturn
    rcases loopTop_ph (resume (lazyoffIter (advanceClock c waitSel) (i + 1)).c k).1 (lazyoffIter (advanceClock c waitSel) (i + 1)).evs with h | h
    · exact Or.inl h
    · exact Or.inr (Or.inl h)

/-- how many timeouts the thread can let pass without sending -/
def need : Phase → Nat
  | .idle => 0
  | .tunnel => 1
  | .lazyoff _ _ => 2

theorem need_le_two (p : Phase) : need p ≤ 2 := by cases p <;> simp [need]

/-- **the step lemma of "no wedge"**: a step sends, or the budget of silent timeouts does not grow — and shrinks if the step was a
timeout -/
theorem cstep_need (E : Env L td) (s : CState) (inp : CInput) (hl : Late L td s.c) :
    Sends (cstep s inp).2.1 ∨ need (cstep s inp).1.ph ≤ need s.ph - (isTick inp).toNat := by
  obtain ⟨c, ph⟩ := s
  cases ph with
  | idle => right; simp [cstep, need]
  | tunnel =>
    show Sends (tunnelStep c inp).2.1 ∨ need (tunnelStep c inp).1.ph ≤ 1 - (isTick inp).toNat
    cases inp with
    | tick =>
      rcases tunnelStep_tick E c hl with ⟨h, _⟩ | h
      · right; rw [h]; simp [need]
      · exact Or.inl h
    | rq _ | rawans _ | tun _ =>
      rcases tunnelStep_phase c _ with h | h | h
      · right; rw [h]; simp [need]
      · right; rw [h]; simp [need, isTick]
      · exact Or.inl h
  | lazyoff i k =>
    show Sends (lazyoffStep c i k inp).2.1 ∨ need (lazyoffStep c i k inp).1.ph ≤ 2 - (isTick inp).toNat
    cases inp with
    | tick =>
      rcases lazyoffStep_tick E c i k hl with h | h | h
      · right; rw [h]; simp [need]
      · right; rw [h]; simp [need, isTick]
      · exact Or.inl h
    | rq _ | rawans _ | tun _ => right; exact need_le_two _

end Iodine.C06L
