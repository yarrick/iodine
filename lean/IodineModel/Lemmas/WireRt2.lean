import IodineModel.Lemmas.WireRt
import IodineModel.Lemmas.WirePut
/-
Round trip through the wire: `dnsDecodeAnswer` applied to the closed forms of `dnsEncodeAnswer`
(Lemmas/WirePut.lean).  First the part every answer shares (header, question), then one lemma per answer
format.
-/
namespace Iodine.Wire
open Iodine.Wire.Strict Iodine.Wire.DnsEncode

/-- header of an answer with one question and `an` answer records, as `dnsEncodeAnswer_of` spells it -/
def ansHeader (id an : Nat) : List Nat := be16 id ++ [0x84, 0] ++ be16 1 ++ be16 an ++ be16 0 ++ be16 0

@[simp] theorem ansHeader_length (id an : Nat) : (ansHeader id an).length = 12 := rfl

theorem sshort_small (x : Nat) (h : x < 32768) : sshort x = x := by
  unfold sshort
  rw [if_neg (by omega)]

theorem ansHeader_eq (id an : Nat) :
    ansHeader id an = [id / 256 % 256, id % 256, 0x84, 0, 0, 1, an / 256 % 256, an % 256, 0, 0, 0, 0] := rfl

theorem readHeader_ans {id an : Nat} (hid : id < 65536) (han : an < 32768) (pkt body : List Nat)
    (hpk : pkt = ansHeader id an ++ body) (hl : pkt.length ≤ 65536) :
    readHeader (rx pkt) = .ok { id := id, qr := 1, rcode := 0, qdcount := 1, ancount := an } := by
  rw [readHeader_bytes hl _ _ _ _ _ _ _ _ ([0, 0, 0, 0] ++ body) (by rw [hpk, ansHeader_eq]; rfl)]
  rw [shl8_or _ _ (Nat.mod_lt _ (by decide)), shl8_or _ _ (by decide), shl8_or _ _ (Nat.mod_lt _ (by decide))]
  rw [be16_val id hid, be16_val an (by omega), and_ffff id hid, sshort_small an han]
  rfl

/-- The common front part of `dns_decode(QR_ANSWER)` on a message that consists of `ansHeader`, the question
`qBytes toks ty` and records `rrs`: the decoder arrives at the answer branch with `data` behind the question. -/
theorem dnsDecodeAnswer_front (B id ty an : Nat) (toks : List (List Nat)) (pkt rrs : List Nat)
    (hid : id < 65536) (hty : ty < 65536) (han1 : 1 ≤ an) (han : an < 32768)
    (hok : LabelsOK toks) (hne : toks ≠ []) (hlen : labLen toks ≤ 254)
    (hpk : pkt = ansHeader id an ++ (qBytes toks ty ++ rrs)) (hl : pkt.length ≤ 65536) :
    dnsDecodeAnswer B (rx pkt) =
      (let q : Decoded := { rv := 0, id := id, rcode := 0, name := cstr [(joinDots toks ++ [0]).headD 0] }
       let data := 12 + labLen toks + 5
       if ty = 10 ∨ ty = 65399 then answerNull (rx pkt) B q data
       else if ty = 1 ∨ ty = 5 then answerCname (rx pkt) B q data
       else if ty = 15 ∨ ty = 33 then answerMx (rx pkt) B q data an
       else if ty = 16 then answerTxt (rx pkt) B q data
       else .ok { q with type := ty }) := by
  have hjl := joinDots_length toks hne
  have hat0 : At pkt 12 (encName toks ++ (be16 ty ++ (be16 1 ++ rrs))) := by
    have := at_append' (ansHeader id an) (qBytes toks ty ++ rrs) [] 12 (by simp)
    rw [hpk]
    simpa [qBytes, List.append_assoc] using this
  have hname := readname_labels hl 256 12 toks _ hok hat0 (by omega) (by omega)
  have hat1 : At pkt (12 + labLen toks + 1) (be16 ty ++ (be16 1 ++ rrs)) := by
    have := hat0.right
    simpa [encName, encLabels_length, Nat.add_assoc] using this
  have hle := hat1.le (by simp [be16])
  simp only [List.length_append, Iodine.Wire.Put.be16_length] at hle
  have hty' := readshort_at hl hty hat1
  have hcl := readshort_at hl (show 1 < 65536 by omega) hat1.right
  simp only [Iodine.Wire.Put.be16_length] at hcl
  have h12 : ¬ (rx pkt).plen < 12 := by rw [rx_plen]; omega
  unfold dnsDecodeAnswer
  rw [if_neg h12]
  simp only [readHeader_ans hid han pkt _ hpk hl, bind_ok, hname]
  have hck : checklenFails (rx pkt) 4 (12 + labLen toks + 1) = false := by
    simp only [checklenFails, rx_plen, decide_eq_false_iff_not]; omega
  have han' : ¬ ((an : Int) < 1) := by omega
  have e5 : 12 + labLen toks + 1 + 2 + 2 = 12 + labLen toks + 5 := by omega
  simp only [ne_eq, not_true_eq_false, if_false, Int.lt_irrefl, hck, Bool.false_eq_true, hty', bind_ok, hcl, han',
    Int.toNat_natCast, e5]

/-! ### the record every answer starts with: owner = pointer to the question, fixed part -/

theorem rr_front {pkt : List Nat} (hl : pkt.length ≤ 65536) (h12 : 12 < pkt.length) {p ty : Nat} {rd Y : List Nat}
    (hty : ty < 65536) (hrd : rd.length < 65536) (h : At pkt p (rrBytes namePtr ty 0 rd ++ Y)) :
    (∃ w, readname (rx pkt) p 256 = .ok (p + 2, w)) ∧ checklenFails (rx pkt) 10 (p + 2) = false ∧
      readRRHeader (rx pkt) (p + 2) = .ok (ty, rd.length, p + 12) ∧ At pkt (p + 12) (rd ++ Y) ∧
      p + 12 + rd.length ≤ pkt.length := by
  have h' : At pkt p (0xc0 :: 0x0c :: (rrFixed ty 1 0 rd.length ++ (rd ++ Y))) := by
    simpa [rrBytes, show be16 namePtr = [0xc0, 0x0c] by decide, List.append_assoc] using h
  have h2 : At pkt (p + 2) (rrFixed ty 1 0 rd.length ++ (rd ++ Y)) := h'.tail.tail
  have h3 : At pkt (p + 12) (rd ++ Y) := by
    have := h2.right
    simpa [rrFixed, Nat.add_assoc] using this
  have hle := h2.le (by simp [rrFixed, be16])
  simp only [List.length_append, rrFixed_length] at hle
  refine ⟨readname_ptr hl p _ h12 h', ?_, ?_, h3, by omega⟩
  · simp only [checklenFails, rx_plen, decide_eq_false_iff_not]; omega
  · have := readRRHeader_at hl hty (by omega) hrd h2
    rw [this]

/-! ### NULL / PRIVATE -/

theorem answerNull_rt {pkt : List Nat} (hl : pkt.length ≤ 65536) (h12 : 12 < pkt.length) (B : Nat) (q : Decoded)
    {p ty : Nat} {d Y : List Nat} (hty : ty < 65536) (hd2 : 2 ≤ d.length) (hd : d.length ≤ 4096)
    (h : At pkt p (rrBytes namePtr ty 0 d ++ Y)) :
    answerNull (rx pkt) B q p =
      .ok { q with rv := (min d.length B : Nat), buf := d.take (min d.length B), type := ty } := by
  obtain ⟨⟨w, hw⟩, hck, hrr, hat, hle⟩ := rr_front hl h12 hty (by omega) h
  have hck2 : checklenFails (rx pkt) d.length (p + 12) = false := by
    simp only [checklenFails, rx_plen, decide_eq_false_iff_not]; omega
  have hmin : min d.length rdataSize = d.length := by simp only [rdataSize]; omega
  have hrb := readBytes_at hl d hat
  unfold answerNull
  simp only [hw, bind_ok, hck, Bool.false_eq_true, if_false, hrr, rawRdata, hck2, hmin, readdata,
    show ¬ rdataSize < d.length by simp only [rdataSize]; omega, hrb]
  rw [if_pos (by omega)]
  rfl

/-! ### TXT -/

/-- `readtxtbin` over the character strings `cs`: everything when it fits `dstremain`, else the return value 0 -/
theorem readtxtbinGo_chunks {pkt : List Nat} (hl : pkt.length ≤ 65536) (dstcap : Nat) (cs : List (List Nat)) :
    ∀ (fuel src dstremain : Nat) (out Y : List Nat), (∀ c ∈ cs, c.length ≤ 255) →
      At pkt src (encLabels cs ++ Y) → cs.length ≤ fuel → out.length + dstremain ≤ dstcap →
      ∃ r, readtxtbinGo (rx pkt) dstcap fuel src (labLen cs) dstremain out = .ok r ∧
        (if cs.flatten.length ≤ dstremain then r = ((out ++ cs.flatten).length, src + labLen cs, out ++ cs.flatten)
         else r.1 = 0) := by
  induction cs with
  | nil =>
    intro fuel src dstremain out Y _ _ _ _
    unfold readtxtbinGo
    simp
  | cons c r ih =>
    intro fuel src dstremain out Y hc h hfuel hinv
    have hc0 := hc c (by simp)
    have h0 : At pkt src (c.length :: (c ++ (encLabels r ++ Y))) := by
      simpa [encLabels_cons, List.append_assoc] using h
    cases fuel with
    | zero => simp at hfuel
    | succ fuel =>
      unfold readtxtbinGo
      rw [if_neg (by simp [labLen_cons])]
      simp only [rx_get_at hl h0, bind_ok, labLen_cons]
      rw [if_neg (by omega)]
      by_cases hfit : c.length > dstremain
      · rw [if_pos hfit]
        refine ⟨_, rfl, ?_⟩
        rw [if_neg (by simp only [List.flatten_cons, List.length_append]; omega)]
      · rw [if_neg hfit]
        have h1 : At pkt (src + 1) (c ++ (encLabels r ++ Y)) := h0.tail
        simp only [readBytes_at hl c h1, bind_ok]
        rw [if_neg (by omega)]
        have h2 : At pkt (src + 1 + c.length) (encLabels r ++ Y) := h1.right
        obtain ⟨res, hres, hspec⟩ := ih fuel (src + 1 + c.length) (dstremain - c.length) (out ++ c) Y
          (fun x hx => hc x (by simp [hx])) h2 (by simp only [List.length_cons] at hfuel; omega)
          (by simp; omega)
        have e : c.length + 1 + labLen r - 1 - c.length = labLen r := by omega
        rw [e, hres]
        refine ⟨_, rfl, ?_⟩
        by_cases hf2 : r.flatten.length ≤ dstremain - c.length
        · rw [if_pos hf2] at hspec
          rw [if_pos (by simp only [List.flatten_cons, List.length_append]; omega), hspec]
          simp only [List.flatten_cons, List.append_assoc, Prod.mk.injEq, and_true, true_and]
          omega
        · rw [if_neg hf2] at hspec
          rw [if_neg (by simp only [List.flatten_cons, List.length_append]; omega)]
          exact hspec

theorem answerTxt_rt {pkt : List Nat} (hl : pkt.length ≤ 65536) (h12 : 12 < pkt.length) (B : Nat) (q : Decoded)
    {p ty : Nat} {cs : List (List Nat)} {Y : List Nat} (hty : ty < 65536) (hcs : ∀ c ∈ cs, c.length ≤ 255)
    (hrl : (encLabels cs).length < 65536) (hne : 1 ≤ cs.flatten.length)
    (h : At pkt p (rrBytes namePtr ty 0 (encLabels cs) ++ Y)) :
    answerTxt (rx pkt) B q p =
      .ok (if cs.flatten.length ≤ 4096 then
            { q with rv := (min cs.flatten.length B : Nat), buf := cs.flatten.take (min cs.flatten.length B), type := ty }
          else { q with rv := 0, type := ty }) := by
  obtain ⟨⟨w, hw⟩, hck, hrr, hat, hle⟩ := rr_front hl h12 hty hrl h
  have hlen : (encLabels cs).length = labLen cs := encLabels_length cs
  have hck2 : checklenFails (rx pkt) (encLabels cs).length (p + 12) = false := by
    simp only [checklenFails, rx_plen, decide_eq_false_iff_not]; omega
  obtain ⟨res, hres, hspec⟩ := readtxtbinGo_chunks hl rdataSize cs (labLen cs) (p + 12) rdataSize [] Y hcs hat
    (labLen_ge_length cs) (by simp)
  unfold answerTxt
  simp only [hw, bind_ok, hck, Bool.false_eq_true, if_false, hrr, hck2, readtxtbin]
  rw [hlen, hres]
  simp only [bind_ok]
  by_cases hfit : cs.flatten.length ≤ 4096
  · rw [if_pos (by simpa [rdataSize] using hfit)] at hspec
    rw [if_pos hfit, hspec]
    simp only [List.nil_append]
    rw [if_pos (by omega)]
  · rw [if_neg (by simpa [rdataSize] using hfit)] at hspec
    rw [if_neg hfit]
    obtain ⟨r1, r2, r3⟩ := res
    simp only at hspec
    subst hspec
    rfl

/-! ### CNAME (also the answer to an A question) -/

/-- about the decoder's `Wire.cstr`; the encoder's `DnsEncode.cstr` is a definition of its own with the same body -/
theorem cstr_append_nul (nm t : List Nat) (h : ∀ c ∈ nm, c ≠ 0) : cstr (nm ++ 0 :: t) = nm :=
  DnsEncode.cstr_append_nul nm t h

theorem cstr_self (nm : List Nat) (h : ∀ c ∈ nm, c ≠ 0) : cstr nm = nm := by
  have := List.takeWhile_append_of_pos (p := (· ≠ 0)) (l₂ := []) (show ∀ a ∈ nm, decide (a ≠ 0) = true by simpa using h)
  simpa [cstr] using this

theorem answerCname_rt {pkt : List Nat} (hl : pkt.length ≤ 65536) (h12 : 12 < pkt.length) (B : Nat) (q : Decoded)
    {p : Nat} {toks : List (List Nat)} {Y : List Nat} (hB : 255 ≤ B) (hok : LabelsOK toks)
    (hnz : ∀ c ∈ joinDots toks, c ≠ 0) (hlen : (joinDots toks).length ≤ 253) (hlab : labLen toks ≤ 254)
    (h : At pkt p (rrBytes namePtr 5 0 (encName toks) ++ Y)) :
    answerCname (rx pkt) B q p =
      .ok { q with rv := ((joinDots toks).length : Nat), buf := joinDots toks, type := 5 } := by
  have hel : (encName toks).length = labLen toks + 1 := by simp [encName, encLabels_length]
  obtain ⟨⟨w, hw⟩, hck, hrr, hat, hle⟩ := rr_front hl h12 (by omega) (by omega) h
  have hname := readname_labels hl 255 (p + 12) toks Y hok hat (by omega) (by omega)
  have h1 : (joinDots toks ++ [0]).take 255 = joinDots toks ++ [0] := List.take_of_length_le (by simp; omega)
  have h2 : cstr (joinDots toks ++ [0]) = joinDots toks := cstr_append_nul _ [] hnz
  have h3 : (joinDots toks).take B = joinDots toks := List.take_of_length_le (by omega)
  have h4 : (joinDots toks).take (B - 1) = joinDots toks := List.take_of_length_le (by omega)
  unfold answerCname
  simp only [hw, bind_ok, hck, Bool.false_eq_true, if_false, hrr, if_true, hname, h1, h2, h3, h4,
    cstr_self _ hnz]
  rw [if_neg (by omega)]

end Iodine.Wire
