import IodineModel.Lemmas.C02u1
import IodineModel.Lemmas.C02h
/-
The server's handling of a client ping, on the session slot: the dispatch `tunnel_dns` / `handle_null_request` /
`handle_ping` / duplicate filters for a ping query of user `u` (`tunnelDns_ping`), one loop iteration of a single-client
server with a fresh ping (`iteration_ping`), and what the server reads out of the ping name the client builds, including
the fingerprint `save_to_qmem_pingordata` computes (`PingName`, `pingData_name`).
-/
namespace Iodine.C02L
open Iodine

/-- no entry of the ping fingerprint memory is for this payload and type -/
def PQmemMiss (x : Server.Session) (q : Server.Query) (cmc : List Nat) : Prop :=
  ∀ e ∈ x.qmemping, ¬ (e.type ≠ Gen.T_UNSET ∧ e.type = q.type ∧ e.cmc = cmc)

/-- what `handlePing` unpacks -/
def pingUnpacked (Q : Server.Query) (dlen : Nat) : List Nat :=
  Encoding.unpackData Codec.b32 65536 ((Q.name.take (min dlen 512)).drop 1)

theorem tunnelDns_ping (s : Server.Srv) (Q : Server.Query) (u dlen : Nat)
    (hdl : Common.queryDatalen Q.name s.cfg.topdomain = some dlen) (h2 : 2 ≤ dlen)
    (hc : Q.name.getD 0 0 = 112) (hty : TunnelType Q.type) (hid : Q.id ≠ 0)
    (hlen : 4 ≤ (pingUnpacked Q dlen).length) (huid : Server.charVal ((pingUnpacked Q dlen).getD 0 0) = (u : Int))
    (hchk : Server.checkAuthenticatedUserAndIp s (u : Int) Q = false)
    (hcache : Server.answerFromDnscache s u Q = none)
    (hqmem : Server.answerFromQmem Q (Server.getUser s u).qmemping ((pingUnpacked Q dlen).take 4) u = none)
    (hdup : Server.rememberDuplicate s u Q = none) :
    Server.tunnelDns s Q = Server.pingFresh s u Q (pingUnpacked Q dlen) := by
  rw [tunnelDns_null s Q dlen hdl hty (by rw [hc]; decide)]
  unfold Server.handleNullRequest
  rw [if_neg (by omega)]
  simp only
  rw [getD_zero_take _ _ (by omega), hc]
  iterate 9 rw [if_neg (by omega)]
  rw [if_pos (Or.inr rfl)]
  unfold Server.handlePing
  rw [if_neg hid]
  have hun : Encoding.unpackData Codec.b32 65536 ((Q.name.take (min dlen 512)).drop 1) = pingUnpacked Q dlen := rfl
  simp only [hun]
  rw [if_neg (by omega)]
  simp only [huid, hchk, Int.toNat_natCast, hcache, hqmem, hdup]
  simp

/-- An iteration that receives a fresh (no filter hits) ping of session `u`: the slot is rewritten by the ping handler
and then by the sweep. -/
theorem iteration_ping {u : Nat} {s : Server.Srv} (hs : Solo u s) (Q : Server.Query) (now' dlen : Nat)
    (hdl : Common.queryDatalen Q.name s.cfg.topdomain = some dlen) (h2 : 2 ≤ dlen)
    (hc : Q.name.getD 0 0 = 112) (hty : TunnelType Q.type) (hid : Q.id ≠ 0)
    (hlen : 4 ≤ (pingUnpacked Q dlen).length) (huid : Server.charVal ((pingUnpacked Q dlen).getD 0 0) = (u : Int))
    (hadm : Admitted (entryS s u now') u Q)
    (hcache : CacheMiss (topSess (Server.getUser s u) s.now) Q)
    (hqmem : PQmemMiss (topSess (Server.getUser s u) s.now) Q ((pingUnpacked Q dlen).take 4))
    (hdup1 : (topSess (Server.getUser s u) s.now).q.id = 0 ∨ (topSess (Server.getUser s u) s.now).q.name ≠ Q.name)
    (hdup2 : (topSess (Server.getUser s u) s.now).qs.id = 0 ∨ (topSess (Server.getUser s u) s.now).qs.name ≠ Q.name) :
    Server.iteration s (.q Q) now' =
      (let r := pingSess (topSess (Server.getUser s u) s.now) u Q (Server.charVal ((pingUnpacked Q dlen).getD 1 0) / 16)
                  (Server.charVal ((pingUnpacked Q dlen).getD 1 0) % 16) now'
       ({ putUser s u (sweepSess r.1 u now').1 with now := now' }, r.2 ++ [Server.Event.sweep] ++ (sweepSess r.1 u now').2,
        ((Server.topOfLoop s).2.1, (Server.topOfLoop s).2.2))) := by
  have hs1 := entryS_solo hs now'
  have hg := getUser_entryS hs now'
  apply iteration_solo hs (.q Q) now' _ _ (by intro f hf; cases hf)
  show Server.tunnelDns (entryS s u now') Q = _
  rw [tunnelDns_ping (entryS s u now') Q u dlen hdl h2 hc hty hid hlen huid (checkAuth_admitted hadm)
    (answerFromDnscache_none _ _ _ (by rw [hg]; exact hcache))
    (answerFromQmem_none _ _ _ _ (by rw [hg]; exact hqmem))
    (rememberDuplicate_none _ _ _ (by rw [hg]; exact hdup1) (by rw [hg]; exact hdup2))]
  rw [pingFresh_onSlot _ _ _ _ hs1.lt, hg]
  unfold entryS
  simp only [putUser_withNow, putUser_putUser]

theorem idxOf?_append_cons (a : List Nat) (x : Nat) (rest : List Nat) (h : ∀ ch ∈ a, ch ≠ x) :
    (a ++ x :: rest).idxOf? x = some a.length := by
  induction a with
  | nil => simp [List.idxOf?_cons]
  | cons c cs ih =>
    have hc : c ≠ x := h c (by simp)
    rw [List.cons_append, List.idxOf?_cons, if_neg (by simpa using hc), ih (fun ch hch => h ch (by simp [hch]))]
    rfl

/-- the fingerprint `save_to_qmem_pingordata` computes on a name `p<7 Base32 characters>.<rest>` -/
theorem ping_fingerprint (d rest : List Nat) (h4 : d.length = 4) (hb : Codec.Bytes d) :
    (112 :: (Codec.encFull Codec.b32 d ++ [46] ++ rest)).idxOf? 46 = some 8 ∧
    Codec.dec Codec.b32 8 7 ((112 :: (Codec.encFull Codec.b32 d ++ [46] ++ rest)).drop 1) = d := by
  have hlenE := encFull4_length d h4
  constructor
  · have := idxOf?_append_cons (112 :: Codec.encFull Codec.b32 d) 46 rest (by
      intro ch hch
      rcases List.mem_cons.mp hch with rfl | hch
      · omega
      · exact encFull_b32_nodot d ch hch)
    simp only [List.length_cons, hlenE] at this
    simpa using this
  · simp only [List.drop_succ_cons, List.drop_zero, List.append_assoc]
    unfold Codec.dec Codec.cstr
    rw [List.take_left' hlenE]
    have htw : (Codec.encFull Codec.b32 d).takeWhile (fun ch => ch != 0) = Codec.encFull Codec.b32 d := by
      have := Codec.cstr_of_nonzero _ (Codec.encFull_nonzero C07.wf_b32 d)
      unfold Codec.cstr at this
      rw [List.take_of_length_le (Nat.le_refl _)] at this
      exact this
    rw [htw, Codec.decAll_encFull C07.wf_b32 d hb]
    exact List.take_of_length_le (by omega)

/-- what the server reads out of the name `name` of a ping with the four payload bytes `d`, in domain `td`: the name is legal,
`query_datalen` finds the data part, `handle_ping` unpacks exactly `d`, and `save_to_qmem_pingordata` fingerprints the same
four bytes (Base32-decode of the characters between the 'p' and the FIRST dot) -/
structure PingName (td d name : List Nat) : Prop where
  c0 : name.getD 0 0 = 112
  legal : C10.LegalName name
  read : ∃ dlen, Common.queryDatalen name td = some dlen ∧ 2 ≤ dlen ∧
    ∀ ty id from_ from2 dest, pingUnpacked ⟨name, ty, id, from_, 0, from2, dest⟩ dlen = d
  fp : ∃ cp, name.idxOf? 46 = some cp ∧ (Codec.dec Codec.b32 8 (cp - 1) (name.drop 1)).take 4 = d ∧
    4 ≤ (Codec.dec Codec.b32 8 (cp - 1) (name.drop 1)).length

/-- `'p'` followed by `build_hostname` of four payload bytes is such a name -/
theorem ping_name_facts {cd : Codec.Codec} {L : Nat} {td : List Nat} (S : UpSetting cd L td) (d : List Nat)
    (h4 : d.length = 4) (hb : Codec.Bytes d) :
    PingName td d (112 :: (Client.buildHostname Codec.b32 (L : Int) 4095 112 td d).name) := by
  have hne : d ≠ [] := by intro h; rw [h] at h4; simp at h4
  obtain ⟨hleg, -, -, ⟨dlen, hq, h2, -, hun, -, -, -⟩, hused⟩ := up_hop1 S 112 d (by omega) hne hb
  have hbe : Client.buildHostname Codec.b32 (L : Int) 4095 112 td d = ⟨Codec.encFull Codec.b32 d ++ [46] ++ td, 4⟩ :=
    Client.buildHostname_of_some Codec.b32 L 4095 112 td d _ S.hL.2 (ping_built S 112 d h4)
  refine ⟨rfl, hleg, ⟨dlen, hq, h2, fun _ _ _ _ _ => ?_⟩, ?_⟩
  · show Encoding.unpackData Codec.b32 65536 _ = d
    rw [hun, hused h4, ← h4, List.take_length]
  · obtain ⟨hi, hd⟩ := ping_fingerprint d td h4 hb
    rw [hbe]
    refine ⟨8, hi, ?_, ?_⟩
    · show (Codec.dec Codec.b32 8 7 _).take 4 = d
      rw [hd, ← h4, List.take_length]
    · show 4 ≤ (Codec.dec Codec.b32 8 7 _).length
      rw [hd, h4]
      exact Nat.le_refl 4

/-- the ack byte `seqno << 4 | fragment` is below 128, so the server's `char` reads it back unchanged -/
theorem charVal_ackByte : ∀ a, a < 8 → ∀ f, f < 16 →
    Server.charVal (a * 16 ||| f) / 16 = (a : Int) ∧ Server.charVal (a * 16 ||| f) % 16 = (f : Int) := by decide

theorem charVal_small (n : Nat) (h : n < 128) : Server.charVal n = (n : Int) := by
  unfold Server.charVal Server.sChar
  omega

/-- what `handle_ping` reads out of the first two payload bytes: user id and the acknowledged downstream position -/
theorem pingData_charVal (c : Client.Cli) (hu : 0 ≤ c.userid ∧ c.userid < 16) (hr : c.randSeed < 65536)
    (h3 : 0 ≤ c.inpkt.seqno ∧ c.inpkt.seqno < 8) (h4 : 0 ≤ c.inpkt.fragment ∧ c.inpkt.fragment < 16) :
    Server.charVal ((pingData c).getD 0 0) = c.userid ∧
    Server.charVal ((pingData c).getD 1 0) / 16 = c.inpkt.seqno ∧
    Server.charVal ((pingData c).getD 1 0) % 16 = c.inpkt.fragment := by
  rw [pingData_eq c hu hr h3 h4]
  refine ⟨?_, ?_, ?_⟩
  · rw [List.getD_cons_zero, charVal_small _ (by omega)]
    omega
  · rw [List.getD_cons_succ, List.getD_cons_zero, (charVal_ackByte _ (by omega) _ (by omega)).1]
    omega
  · rw [List.getD_cons_succ, List.getD_cons_zero, (charVal_ackByte _ (by omega) _ (by omega)).2]
    omega

/-- **the name of the client's ping** (`'p'` followed by `build_hostname` of the four payload bytes), as the server reads it.
Independent of how `send_query` sends it. -/
theorem pingData_name (c : Client.Cli) (cd : Codec.Codec) (L : Nat) (td : List Nat)
    (hL : c.hostnameMaxlen = (L : Int)) (htd : c.topdomain = td) (S : UpSetting cd L td) :
    PingName td (pingData c)
      (112 :: (Client.buildHostname Codec.b32 c.hostnameMaxlen 4095 112 c.topdomain (pingData c)).name) := by
  rw [hL, htd]
  exact ping_name_facts S (pingData c) (pingData_length c) (pingData_bytes c)

theorem sendPing_name (c : Client.Cli) (cd : Codec.Codec) (L : Nat) (td : List Nat)
    (hlazy : c.lazymode = false) (hL : c.hostnameMaxlen = (L : Int)) (htd : c.topdomain = td)
    (S : UpSetting cd L td) (hqt : c.doQtype < 65536) (hconn : c.conn = .dnsNull) :
    ∃ name,
      Client.sendPing c =
        ⟨Client.rotateChunkid { c with randSeed := (c.randSeed + 1) % 65536 },
         [.query (Client.rotateChunkid { c with randSeed := (c.randSeed + 1) % 65536 }).chunkid c.doQtype name], false⟩ ∧
      PingName td (pingData c) name :=
  ⟨_, sendPing_imm c cd L td hlazy hL htd S hqt hconn, pingData_name c cd L td hL htd S⟩

/-! ### non-vacuity: the client `exH` of `C02h.lean` (user 3, ack 6/9, CMC 513, domain `t.ab`) -/

example : ∃ id name, (Client.sendPing exH).evs = [.query id 10 name] ∧ name.getD 0 0 = 112 ∧
    (∃ dlen, Common.queryDatalen name [116, 46, 97, 98] = some dlen ∧
      pingUnpacked ⟨name, 10, 7827, Server.Addr.zero, 0, Server.Addr.zero, Server.Addr.zero⟩ dlen = [3, 105, 2, 1]) ∧
    Server.charVal 3 = exH.userid ∧ Server.charVal 105 / 16 = exH.inpkt.seqno ∧
    Server.charVal 105 % 16 = exH.inpkt.fragment := by
  obtain ⟨name, h1, hn⟩ := sendPing_name exH _ 255 [116, 46, 97, 98] rfl rfl rfl exH_setting (by decide) rfl
  obtain ⟨dlen, h4, -, h6⟩ := hn.read
  obtain ⟨h7, h8, h9⟩ := pingData_charVal exH (by decide) (by decide) (by decide) (by decide)
  exact ⟨_, name, by rw [h1]; rfl, hn.c0, ⟨dlen, h4, h6 _ _ _ _ _⟩, h7, h8, h9⟩

/-- the name of that ping and the fingerprint `save_to_qmem_pingordata` takes of it -/
example : [112, 97, 110, 117, 113, 101, 97, 105, 46, 116, 46, 97, 98].idxOf? 46 = some 8 ∧
    (Codec.dec Codec.b32 8 (8 - 1) ([112, 97, 110, 117, 113, 101, 97, 105, 46, 116, 46, 97, 98].drop 1)).take 4 =
      [3, 105, 2, 1] := by decide +kernel

end Iodine.C02L
