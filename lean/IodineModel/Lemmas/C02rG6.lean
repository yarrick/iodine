import IodineModel.Lemmas.C02rG5
import IodineModel.Lemmas.C02qB4
import IodineModel.Lemmas.C02qD9
/-
Downstream blackout: NON-VACUITY of `giveup_run_down_imm`, `giveup_runs_down_imm`,
`blackout_then_clean_downstream_imm(_nopoll)` on the demo session `exW` (fragment size 30, `selecttimeout = 1`), and the
theorems applied.
-/
namespace Iodine.C02L
open Iodine Iodine.Gen Iodine.Server Iodine.World Iodine.C02

theorem exW_fragsizeG : (getUser exW.srv exP.u).fragsize = 30 := by decide +kernel

/-- the frames of the examples are acceptable to the server's `tunnel_tun` -/
theorem rG_frame_ok (n : Nat) (hn : n ≤ 40) :
    24 ≤ (demoFrame 2 n).length ∧ (demoFrame 2 n).length < 65536 ∧ ipDst (demoFrame 2 n) = (getUser exW.srv exP.u).tunIp := by
  have hl : (demoFrame 2 n).length = n + 24 := by simp [demoFrame]
  refine ⟨by omega, by omega, ?_⟩
  have : ipDst (demoFrame 2 n) = 0x0a000002 := by
    unfold ipDst demoFrame
    simp
    decide
  rw [this]
  decide +kernel

/-- ONE fragment (28 bytes): 3 steps, 1 s; the pair is quiescent, desynchronised by 1 downstream, slack still 1 -/
example : DownGaveUp exP 1 exW (runSched blackoutEvDown 3 (step exW (.offerS (demoFrame 2 4)))) 1 ∧
    QuietImmD exP 0 1 (runSched blackoutEvDown 3 (step exW (.offerS (demoFrame 2 4)))) := by
  obtain ⟨h1, h2, h3⟩ := rG_frame_ok 4 (by omega)
  have := giveup_run_down_imm exP_ok exW_quietDS (demoFrame 2 4) (by rw [exW_fragsizeG]; omega) h1 h2 h3 (by decide) (by decide)
    (Nat.le_refl 1) (by omega) (Or.inr (Or.inl (by decide))) (by decide +kernel) (by decide +kernel)
  have hg : downFrags (getUser exW.srv exP.u).fragsize ((demoFrame 2 4).length + 1) ((demoFrame 2 4).length + 1) = 1 := by
    rw [exW_fragsizeG]; decide
  have hT : exW.cs.c.selecttimeout.toNat = 1 := by decide
  rw [hg, hT] at this
  exact ⟨this.1, quietImmDS_one.1 this.2⟩

/-- TWO fragments (54 bytes): 21 steps, 7 s -/
example : DownGaveUp exP 1 exW (runSched blackoutEvDown 21 (step exW (.offerS (demoFrame 2 30)))) 7 ∧
    QuietImmD exP 0 1 (runSched blackoutEvDown 21 (step exW (.offerS (demoFrame 2 30)))) := by
  obtain ⟨h1, h2, h3⟩ := rG_frame_ok 30 (by omega)
  have := giveup_run_down_imm exP_ok exW_quietDS (demoFrame 2 30) (by rw [exW_fragsizeG]; omega) h1 h2 h3 (by decide) (by decide)
    (Nat.le_refl 1) (by omega) (Or.inr (Or.inl (by decide))) (by decide +kernel) (by decide +kernel)
  have hg : downFrags (getUser exW.srv exP.u).fragsize ((demoFrame 2 30).length + 1) ((demoFrame 2 30).length + 1) = 2 := by
    rw [exW_fragsizeG]; decide
  have hT : exW.cs.c.selecttimeout.toNat = 1 := by decide
  rw [hg, hT] at this
  exact ⟨this.1, quietImmDS_one.1 this.2⟩

/-- the frames of the iterated examples -/
def rGbl : List (List Nat) := [demoFrame 2 4, demoFrame 2 30, demoFrame 2 5]

theorem rGbl_ok : ∀ f ∈ rGbl, 24 ≤ f.length ∧ f.length < 65536 ∧ ipDst f = (getUser exW.srv exP.u).tunIp := by
  intro f hf
  simp only [rGbl, List.mem_cons, List.not_mem_nil, or_false] at hf
  rcases hf with rfl | rfl | rfl
  · exact rG_frame_ok 4 (by omega)
  · exact rG_frame_ok 30 (by omega)
  · exact rG_frame_ok 5 (by omega)

/-- THREE frames in a row (1 + 7 + 1 = 9 polls, 9 s): desynchronised by 3, slack 1, `lastdownstreamtime` untouched -/
example : QuietImmD exP 0 3 (giveupRunDown 30 rGbl exW) ∧ (giveupRunDown 30 rGbl exW).cs.c.now = exW.cs.c.now + 9 ∧
    (giveupRunDown 30 rGbl exW).cs.c.lastdownstreamtime = exW.cs.c.lastdownstreamtime ∧
    (giveupRunDown 30 rGbl exW).tunC = [] ∧ (giveupRunDown 30 rGbl exW).cs.c.inpkt = exW.cs.c.inpkt := by
  have := giveup_runs_down_imm exP_ok 30 (by omega) rGbl exW_quietDS exW_fragsizeG rGbl_ok (by decide) (by decide) (Nat.le_refl 1)
    (by omega) (Or.inr (Or.inl (by decide))) (by decide +kernel) (by decide +kernel)
  have hN : rGpollsAll 30 rGbl = 9 := by decide
  have hT : exW.cs.c.selecttimeout.toNat = 1 := by decide
  rw [hN, hT] at this
  exact ⟨quietImmDS_one.1 this.2, this.1.fr.cnow, this.1.fr.ldt, this.1.fr.tunC, this.1.fr.inpkt⟩

theorem rG_down_ok (n : Nat) (hn : n ≤ 40) : DownFrameOk (getUser exW.srv exP.u).tunIp 30 (demoFrame 2 n) := by
  obtain ⟨h1, h2, h3⟩ := rG_frame_ok n hn
  refine ⟨h1, h2, h3, ?_⟩
  have hl : (demoFrame 2 n).length = n + 24 := by simp [demoFrame]
  rw [hl]
  have : ∀ m, m ≤ 40 → downFrags 30 (m + 24 + 1) (m + 24 + 1) ≤ 16 := by decide
  exact this n hn

/-- COMPOSITION, `k = 3`: three frames under the downstream blackout, one idle poll (which resynchronises), then two frames
on the clean path: both arrive -/
example : (offerAllS 0 40 (run (giveupRunDown 30 rGbl exW) [.tickC, .deliverUp, .deliverDown]) [demoFrame 2 31, demoFrame 2 6]).tunC =
    [demoFrame 2 31, demoFrame 2 6] := by
  have hok : ∀ f ∈ [] ++ [demoFrame 2 31, demoFrame 2 6], DownFrameOk (getUser exW.srv exP.u).tunIp 30 f := by
    intro f hf
    simp only [List.nil_append, List.mem_cons, List.not_mem_nil, or_false] at hf
    rcases hf with rfl | rfl
    · exact rG_down_ok 31 (by omega)
    · exact rG_down_ok 6 (by omega)
  have := (blackout_then_clean_downstream_imm exP_ok 40 (by omega) 30 (by omega) rGbl [] [demoFrame 2 31, demoFrame 2 6] exW
    ex_quiescent exW_fragsizeG rGbl_ok hok (by decide) (by decide) (by decide) (by decide) (by decide) (by decide +kernel)
    (by decide +kernel)).2.1
  simp only [List.nil_append] at this
  exact this.trans (by decide +kernel)

/-- five one-fragment frames -/
def rGbl5 : List (List Nat) := [demoFrame 2 4, demoFrame 2 5, demoFrame 2 6, demoFrame 2 7, demoFrame 2 8]

theorem rGbl5_ok : ∀ f ∈ rGbl5, 24 ≤ f.length ∧ f.length < 65536 ∧ ipDst f = (getUser exW.srv exP.u).tunIp := by
  intro f hf
  simp only [rGbl5, List.mem_cons, List.not_mem_nil, or_false] at hf
  rcases hf with rfl | rfl | rfl | rfl | rfl
  · exact rG_frame_ok 4 (by omega)
  · exact rG_frame_ok 5 (by omega)
  · exact rG_frame_ok 6 (by omega)
  · exact rG_frame_ok 7 (by omega)
  · exact rG_frame_ok 8 (by omega)

/-- the demo session with the client's last fragment number 1 (its last downstream packet had two fragments) -/
def exWf : W := withFrag exW 1

theorem exWf_quiet : QuietImm exP exWf :=
  quietImmD_zero.1 (quietImmD_withFrag (quietImmD_zero.2 ex_quiescent) 1 (by decide))

/-- COMPOSITION, `k = 5`, `inpkt.fragment = 1`: five frames under the blackout, the idle poll changes nothing (the server's
number is in the client's window), then five frames on the clean path: the first THREE are lost, the last two arrive -/
example : (offerAllS 0 40 (run (giveupRunDown 30 rGbl5 exWf) [.tickC, .deliverUp, .deliverDown])
      [demoFrame 2 30, demoFrame 2 9, demoFrame 2 31, demoFrame 2 10, demoFrame 2 32]).tunC =
    [demoFrame 2 10, demoFrame 2 32] := by
  have hok : ∀ f ∈ [demoFrame 2 30, demoFrame 2 9, demoFrame 2 31] ++ [demoFrame 2 10, demoFrame 2 32],
      DownFrameOk (getUser exW.srv exP.u).tunIp 30 f := by
    intro f hf
    simp only [List.cons_append, List.nil_append, List.mem_cons, List.not_mem_nil, or_false] at hf
    rcases hf with rfl | rfl | rfl | rfl | rfl
    · exact rG_down_ok 30 (by omega)
    · exact rG_down_ok 9 (by omega)
    · exact rG_down_ok 31 (by omega)
    · exact rG_down_ok 10 (by omega)
    · exact rG_down_ok 32 (by omega)
  have := (blackout_then_clean_downstream_imm exP_ok 40 (by omega) 30 (by omega) rGbl5
    [demoFrame 2 30, demoFrame 2 9, demoFrame 2 31] [demoFrame 2 10, demoFrame 2 32] exWf
    exWf_quiet exW_fragsizeG rGbl5_ok hok (by decide) (by decide) (by decide) (by decide) (fun _ => by decide) (by decide +kernel)
    (by decide +kernel)).2.1
  simp only [List.cons_append, List.nil_append] at this
  exact this.trans (by decide +kernel)

/-- … and without the idle poll, `k = 3`: harmless -/
example : (offerAllS 0 40 (giveupRunDown 30 rGbl exW) [demoFrame 2 31, demoFrame 2 6]).tunC = [demoFrame 2 31, demoFrame 2 6] := by
  have hok : ∀ f ∈ [] ++ [demoFrame 2 31, demoFrame 2 6], DownFrameOk (getUser exW.srv exP.u).tunIp 30 f := by
    intro f hf
    simp only [List.nil_append, List.mem_cons, List.not_mem_nil, or_false] at hf
    rcases hf with rfl | rfl
    · exact rG_down_ok 31 (by omega)
    · exact rG_down_ok 6 (by omega)
  have := (blackout_then_clean_downstream_imm_nopoll exP_ok 40 (by omega) 30 (by omega) rGbl [] [demoFrame 2 31, demoFrame 2 6] exW
    ex_quiescent exW_fragsizeG rGbl_ok hok (by decide) (by decide) (by decide) (by decide) (by decide) (by decide) (by decide +kernel)
    (by decide +kernel)).2.1
  simp only [List.nil_append] at this
  exact this.trans (by decide +kernel)

end Iodine.C02L
