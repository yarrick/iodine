import IodineModel.Lemmas.C02t
import IodineModel.Lemmas.C02qU6
import IodineModel.Lemmas.WorldFastRun
/-
TESTS — the sequence-number window after give-ups (finding c02:seqno-window), evaluated by the kernel on the
executable joined model.  `giveUps k w`: `k` frames offered to the client one after the other while every UPSTREAM datagram
is lost (`blackoutEvUp`; each run goes on until the client is idle again: 3 resends, give-up, ping — all lost); the clean
prompt path from a state six numbers apart; the give-up run in lazy mode.
-/
namespace Iodine.C02L
open Iodine Iodine.World

/-- the blackout schedule until nothing is in flight and the client is idle (at most `fuel` steps) -/
def runBlackoutUp : Nat → W → W
  | 0, w => w
  | n + 1, w =>
    if w.up.isEmpty && w.down.isEmpty && !Client.isSending w.cs.c then w else runBlackoutUp n (step w (blackoutEvUp w))

/-- `k` packets offered and given up during an upstream blackout -/
def giveUps : Nat → W → W
  | 0, w => w
  | k + 1, w => giveUps k (runBlackoutUp 40 (step w (.offerC (demoFrame 9 (4 + k)))))

/-- TEST (immediate mode): one packet offered while every upstream datagram is lost: after `dropUp`, `tickC` ×4 (three resends,
then the give-up with its ping — all lost; 9 events) the client is idle again, its sequence number one ahead of the server's,
nothing was delivered, and the joint state counts as quiescent -/
theorem test_giveup_up_1 :
    (let w := giveUps 1 (demoImmediate .b32 .b32)
     (w.cs.c.outpkt.seqno, (Server.getUser w.srv 0).inpacket.seqno, quiet 0 w, w.tunS, w.cs.c.now)) = (1, 0, true, [], 1004) := by
  rw [show giveUps 1 (demoImmediate .b32 .b32) = runBlackoutUp 40 (step (demoImmediate .b32 .b32) (.offerC (demoFrame 9 (4 + 0)))) from rfl,
    show runBlackoutUp = Wire.iter step (fun w => w.up.isEmpty && w.down.isEmpty && !Client.isSending w.cs.c) blackoutEvUp from
      Wire.iter_unique _ (fun _ => rfl) (fun _ _ => rfl), step_fast]
  decide +kernel

/-- TEST the client's number 6 ahead of the server's (what six give-ups in a row leave behind, `test_giveup_up_1`): on the
clean path the next two packets are lost (the second one silently: the server's own numbers look like its acknowledgement),
the third arrives -/
theorem test_desync_up_6 :
    (offerAllC 0 20 (shiftUp (demoImmediate .b32 .b32) 6) [demoFrame 9 4, demoFrame 9 5, demoFrame 9 6]).tunS = [demoFrame 9 6] := by
  rw [offerAllC_fast]; decide +kernel

/-- the state after the first give-up run from the lazy demo session -/
def lazyGaveUp1 : W := runSched blackoutEvUp 9 (step (demoLazy .b32 .b32) (.offerC (demoFrame 9 4)))

/-- TEST the give-up run in LAZY mode: one packet offered while every upstream datagram is lost.  The same nine events as in
immediate mode (`dropUp`, then `tickC dropUp` four times), 4 s; the server is untouched and still holds the query it held;
the client is still in lazy mode, one sequence number ahead, and has counted 6 queries sent, none answered — the NEXT query
trips `send_query`'s "too few answers" test (`sendcnt > 6 ∧ recvcnt = 0`): first `selecttimeout := 1`, after seven more
unanswered queries lazy mode is switched OFF on the client only (five lazy-off queries at 1 s each, during which no tun frame
is read).  So a second and third give-up in lazy mode are not repetitions of the first. -/
theorem test_giveup_up_lazy_1 :
    (lazyGaveUp1.cs.c.outpkt.seqno == 1 && (Server.getUser lazyGaveUp1.srv 0).inpacket.seqno == 0 && quiet 0 lazyGaveUp1 &&
     lazyGaveUp1.tunS == [] && lazyGaveUp1.cs.c.lazymode && lazyGaveUp1.cs.c.selecttimeout == 4 &&
     lazyGaveUp1.cs.c.sendcnt == 6 && lazyGaveUp1.cs.c.recvcnt == 0 && lazyGaveUp1.cs.c.now == (demoLazy .b32 .b32).cs.c.now + 4 &&
     (Server.getUser lazyGaveUp1.srv 0).q == (Server.getUser (demoLazy .b32 .b32).srv 0).q) = true := by
  unfold lazyGaveUp1 demoLazy; rw [runSched_fast, run_fast, step_fast]; decide +kernel

end Iodine.C02L
