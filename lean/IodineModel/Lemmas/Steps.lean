import IodineModel.Lemmas.HandlerCases
import IodineModel.Lemmas.SrvC04c
/-
What one iteration of the server can do.  A handler is a `Run`: a sequence of primitive steps (`Prim`), each with the
facts the code guarantees at that point (the query a `send_chunk_or_dataless` answers is a held one, a new outpacket
is only started on an empty slot of a live user, …) and, for most steps, with where what it stores or sends comes from
(the arriving query, the datagram or frame of this iteration, a buffer of a slot, one of the texts of the control
answers).  Left open: the bytes and the addressee of a raw frame (`raw`), the fragment an upstream buffer is offered
(`upIn`), the address a relayed reply goes to (`rly`).
A few kinds of step (`Kind`) are taken by some handlers only; `Run inp K` is a run whose special steps are of the
kinds `K` allows (`every`: all of them; `calm`: none but the store of the arriving query).

A property `P : Srv → Res → Prop` that holds of the empty run, is closed under sequencing and holds of every primitive
step (`Closed`) holds of every run (`Run.closed`): an invariant of the session machine is proved by going through the
primitive steps, not through the dispatch tree.  The recipe for an invariant `I` with event condition `E`:
* state `Closed inp every fun s r => I s → I r.1 ∧ E r.2` (one case per step; most are "the fields I read are untouched");
* `run_body`: everything after `select` is a run, so `(run_body _ inp _).closed h` is the step of the invariant;
* `next`/`out` are `body` in the state `{ (topOfLoop s).1 with now := n }`, so `I` also needs its lemma for the top of
  the loop, which clears `q_sendrealsoon_new` and nothing else (`getUser_handlerPhase`, or `slots_topOfLoop` for a
  predicate of every slot; both in `Lemmas/SrvC04a.lean`).
A property that is not closed on every step (it fails, say, where a slot is handed out) takes `class_dispatch` instead:
the handler phase is a calm run, or one of four things (`Handler`: an accepted `V`, an accepted `N`, the upstream data
handler behind its filters, a raw data frame), each spelled out; what follows it is `body_tail`.
-/
namespace Iodine.Server
open Iodine.Gen Iodine.C04L

/-- the writes to the control fields of slot `u` (everything but the stored queries' names, the packet buffers, the
answer cache and the query memories) -/
inductive Ctl (s : Srv) (u : Nat) : (Session → Session) → Prop
  /-- `users[userid].last_pkt = time(NULL)`: login, ping, data and the raw handlers -/
  | touch : Ctl s u fun x => { x with lastPkt := s.now }
  /-- `users[userid].authenticated = 1`: an `L` with the right hash -/
  | auth : Ctl s u fun x => { x with authenticated := true }
  /-- `user_switch_codec`: an accepted `S` -/
  | enc (e : Enc) : Ctl s u fun x => { x with encoder := e }
  /-- `users[userid].downenc = …`: an `O` naming a downstream codec -/
  | downenc (d : Nat) : Ctl s u fun x => { x with downenc := d }
  /-- `users[userid].lazy = …`: an `O` with `L` or `I` -/
  | lazy (l : Bool) : Ctl s u fun x => { x with lazy := l }
  /-- the held query is moved to `q_sendrealsoon` (`q_sendrealsoon_new = 1`, `q.id = 0`): there is one to move -/
  | park : (getUser s u).q.id ≠ 0 → Ctl s u parkQuery
  /-- `user_set_conn_type`: an accepted raw login -/
  | conn (c : Conn) : Ctl s u fun x => { x with conn := c }
  /-- `users[userid].authenticated_raw = 1`: an accepted raw login -/
  | authRaw : Ctl s u fun x => { x with authenticatedRaw := true }

/-- the steps that only some handlers take: handing out a slot (`V`), a new fragment size (`N`), a write to an upstream
reassembly buffer (data handler, raw data), a frame for the tun device, storing the arriving query.  The last is a kind
because a property may count it: the ping and the data handler store the arriving query exactly once (`split_pingFresh`,
`split_dataFresh`), and "every answer consumes a query that was taken" (C14) is closed under the steps of a run without
it, not under the store. -/
inductive Kind where
  | alloc | fragsize | inbuf | tunw | save

/-- where a packet handed to a session comes from, and its length: the compressed tun frame of this iteration, or the
upstream buffer of a session (`data`, `len`) -/
inductive Src (inp : Input) (s : Srv) : List Nat → Nat → Prop
  /-- `tunnel_tun`: the frame read from the tun device, compressed -/
  | tun (f : List Nat) : inp = .tun f → Src inp s (compress (f.take 65536)) (compress (f.take 65536)).length
  /-- `handle_full_packet` for a packet addressed to another client: the sender's `inpacket` as it stands -/
  | up (v : Nat) : Src inp s (getUser s v).inpacket.data (getUser s v).inpacket.len

/-- the downstream packet machinery of slot `u` outside `send_chunk_or_dataless` -/
inductive OutPkt (inp : Input) (s : Srv) (u : Nat) : Srv → Prop
  /-- `start_new_outpacket`: only for a live user with no packet in flight, and never with an empty packet -/
  | start (d : List Nat) (n : Nat) : Src inp s d n → (getUser s u).active = true → (getUser s u).outpacket.len = 0 →
      d.take n ≠ [] → OutPkt inp s u (startNewOutpacket s u d n)
  /-- `save_to_outpacketq`: a packet is in flight, the new one waits in the queue (or is dropped when that is full) -/
  | queue (d : List Nat) (n : Nat) : Src inp s d n → (getUser s u).active = true → (getUser s u).outpacket.len ≠ 0 →
      d.take n ≠ [] → OutPkt inp s u (saveToOutpacketq s u d n).1
  /-- `process_downstream_ack` with the ack fields of a ping or data query -/
  | ack (a b : Int) : OutPkt inp s u (processDownstreamAck s u a b)

/-- the buffer of slot `u` after the sequence bookkeeping and, if the fragment is taken, the copy -/
def upIn (s : Srv) (u a b : Nat) (pl : List Nat) : Srv :=
  setUser s u fun _ =>
    if (dataUpstream (getUser s u) a b).2 then dataStore (dataUpstream (getUser s u) a b).1 pl
    else (dataUpstream (getUser s u) a b).1

/-- the fragment size an `N` request asks for: bytes 1 and 2 of its decoded payload, big endian -/
def fragsizeOf (inb : List Nat) : Nat := ((pingUnpacked inb).getD 1 0 % 256) * 256 + (pingUnpacked inb).getD 2 0 % 256

/-- a `V` the server accepts: the letter, and slot `u` is free -/
structure AcceptedV (s : Srv) (q : Query) (u : Nat) : Prop where
  letter : q.name.getD 0 0 = 86 ∨ q.name.getD 0 0 = 118
  slot : (findAvailableUser s).1 = some u

/-- an `N` the server accepts for the size `n`: the letter, three decoded bytes, a session that may negotiate (the
first byte names it), a size of at least 2 -/
structure AcceptedN (s : Srv) (q : Query) (dlen n : Nat) : Prop where
  datalen : Common.queryDatalen q.name s.cfg.topdomain = some dlen
  letter : q.name.getD 0 0 = 78 ∨ q.name.getD 0 0 = 110
  len : 3 ≤ (pingUnpacked (inbOf q dlen)).length
  check : checkAuthenticatedUserAndIpAndOptions s (pingUid (inbOf q dlen)) q = false
  two : 2 ≤ n
  size : n = fragsizeOf (inbOf q dlen)

/-- what an accepted `N` does: the size is set, the options are locked, the answer cache is emptied; the two size bytes
come back -/
abbrev fragsizeRes (s : Srv) (q : Query) (dlen n : Nat) : Res :=
  (setUser s (pingUid (inbOf q dlen)).toNat fun x =>
      { x with fragsize := n, optionsLocked := true, dnscache := clearDnscache x.dnscache },
    [writeDns q (((pingUnpacked (inbOf q dlen)).drop 1).take 2)
      (getUser s (pingUid (inbOf q dlen)).toNat).downenc])

/-- one primitive step while the input `inp` is handled; `K` says which of the special kinds may occur -/
inductive Prim (inp : Input) (K : Kind → Prop) : Srv → Res → Prop
  /-- a control answer to the arriving query -/
  | ctrl (s : Srv) (q : Query) (d : List Nat) (dn : Nat) : inp = .q q → Ctrl s.cfg q d →
      Prim inp K s (s, [writeDns q d dn])
  /-- a replay from the answer cache -/
  | cached (s : Srv) (u : Nat) (q : Query) (e : Event) : inp = .q q → answerFromDnscache s u q = some e →
      Prim inp K s (s, [e])
  /-- the marker for a query seen before -/
  | seen (s : Srv) (u : Nat) (q : Query) : inp = .q q → Prim inp K s (s, [writeDns q (ascii "x") chT (.qmem u)])
  /-- the response to an NS query or to one of the two A queries goes to the sender of the arriving query -/
  | nsa (s : Srv) (q : Query) : inp = .q q → Prim inp K s (s, [Event.nsa q.from_])
  /-- the marker in front of the sweep -/
  | sweep (s : Srv) : Prim inp K s (s, [Event.sweep])
  /-- the harness's note for a tun frame offered while `tun_fd` was not selected -/
  | tunskip (s : Srv) : Prim inp K s (s, [Event.tunskip])
  /-- a raw frame goes out; nothing is said of its bytes or of whom it goes to -/
  | raw (s : Srv) (b : List Nat) (n u c : Nat) (q : Query) : Prim inp K s (s, [sendRaw b n u c q])
  /-- a reply on the forward socket is relayed -/
  | rly (s : Srv) (a : Addr) (b : List Nat) : inp = .bind b → Prim inp K s (s, [Event.rly a (b.take 65536)])
  /-- the completed upstream packet of slot `u` goes to the tun device -/
  | tunw (s : Srv) (u : Nat) (out : List Nat) : K .tunw →
      uncompress ((getUser s u).inpacket.data.take (getUser s u).inpacket.len) 65536 = some out → 24 ≤ out.length →
      findUserByIp s (ipDst out) = none → Prim inp K s (s, [writeTun out])
  /-- `send_chunk_or_dataless` for a held query -/
  | send (s : Srv) (u : Nat) (w : QSel) : (w.get (getUser s u)).id ≠ 0 → Prim inp K s (sendChunkOrDataless s u w).1
  /-- one of the writes to the control fields of slot `u` -/
  | ctl (s : Srv) (u : Nat) (f : Session → Session) : Ctl s u f → Prim inp K s (setUser s u f, [])
  /-- the arriving query repeats a held one: its id and source are noted in `id2`, `from2` of that one -/
  | dup (s : Srv) (u : Nat) (w : QSel) (q : Query) : inp = .q q → (w.get (getUser s u)).id ≠ 0 →
      q.type = (w.get (getUser s u)).type → q.name = (w.get (getUser s u)).name →
      Prim inp K s (setUser s u fun x => w.set x { w.get x with id2 := q.id, from2 := q.from_ }, [])
  /-- the arriving query is stored -/
  | save (s : Srv) (u : Nat) (q : Query) : K .save → inp = .q q → Prim inp K s (saveQuery s u q, [])
  /-- an accepted raw login stores the all-zero query with the sender's address and binds the slot to it -/
  | rawLogin (s : Srv) (u : Nat) (src : Addr) (bytes : List Nat) : inp = .rawf src bytes →
      Prim inp K s (setUser s u fun x => { x with lastPkt := s.now, q := rawQuery src, host := src }, [])
  /-- a raw ping stores the all-zero query with the sender's address -/
  | rawPing (s : Srv) (u : Nat) (src : Addr) (bytes : List Nat) : inp = .rawf src bytes →
      Prim inp K s (setUser s u fun x => { x with lastPkt := s.now, q := rawQuery src }, [])
  /-- a packet for slot `u` is stored, or an ack of slot `u` is processed -/
  | outpkt (s : Srv) (u : Nat) (s' : Srv) : OutPkt inp s u s' → Prim inp K s (s', [])
  /-- `rand()` is called (the fragsize probe fills its reply with it) -/
  | rand (s : Srv) : Prim inp K s ((popRand s).2, [])
  /-- `forward_query`: a query for another domain goes out on the forward socket, its id and sender are noted -/
  | fwd (s : Srv) (q : Query) : inp = .q q → Prim inp K s (forwardQuery s q)
  /-- an accepted `V`: slot `u` is handed out -/
  | version (s : Srv) (q : Query) (u : Nat) : K .alloc → inp = .q q → AcceptedV s q u → Prim inp K s (versionRes s q u)
  /-- an accepted `N` -/
  | fragsize (s : Srv) (q : Query) (dlen n : Nat) : K .fragsize → inp = .q q → AcceptedN s q dlen n →
      Prim inp K s (fragsizeRes s q dlen n)
  /-- an upstream fragment is looked at -/
  | upIn (s : Srv) (u a b : Nat) (pl : List Nat) : K .inbuf → Prim inp K s (upIn s u a b pl, [])
  /-- `handle_full_packet` empties the buffer -/
  | resetIn (s : Srv) (u : Nat) : K .inbuf →
      Prim inp K s (setUser s u fun y => { y with inpacket := { y.inpacket with len := 0, offset := 0 } }, [])
  /-- a raw data frame is stored -/
  | rawIn (s : Srv) (u : Nat) (src : Addr) (bytes : List Nat) : K .inbuf → inp = .rawf src bytes →
      Prim inp K s (rawStored s u src ((bytes.take 65536).drop RAW_HDR_LEN), [])

/-- a handler: primitive steps in sequence -/
inductive Run (inp : Input) (K : Kind → Prop) : Srv → Res → Prop
  | nil (s : Srv) : Run inp K s (s, [])
  | prim {s : Srv} {r : Res} : Prim inp K s r → Run inp K s r
  | seq {s : Srv} {r1 r2 : Res} : Run inp K s r1 → Run inp K r1.1 r2 → Run inp K s (r2.1, r1.2 ++ r2.2)

/-- what a property has to satisfy to hold of every run; `seq` is also handed the first run, for what every run keeps
(`Run.cfg`, `Run.len`) -/
structure Closed (inp : Input) (K : Kind → Prop) (P : Srv → Res → Prop) : Prop where
  nil : ∀ s, P s (s, [])
  seq : ∀ {s r1 r2}, Run inp K s r1 → P s r1 → P r1.1 r2 → P s (r2.1, r1.2 ++ r2.2)
  prim : ∀ {s r}, Prim inp K s r → P s r

theorem Run.closed {inp : Input} {K : Kind → Prop} {P : Srv → Res → Prop} (h : Closed inp K P) {s : Srv} {r : Res}
    (hr : Run inp K s r) : P s r := by
  induction hr with
  | nil s => exact h.nil s
  | prim hp => exact h.prim hp
  | seq h1 _ ih1 ih2 => exact h.seq h1 ih1 ih2

theorem Prim.mono {inp : Input} {K K' : Kind → Prop} (h : ∀ k, K k → K' k) {s : Srv} {r : Res} (hp : Prim inp K s r) :
    Prim inp K' s r := by
  cases hp with
  | ctrl q d dn hq hd => exact .ctrl s q d dn hq hd
  | cached u q e hq he => exact .cached s u q e hq he
  | seen u q hq => exact .seen s u q hq
  | nsa q hq => exact .nsa s q hq
  | sweep => exact .sweep s
  | tunskip => exact .tunskip s
  | raw b n u c q => exact .raw s b n u c q
  | rly a b hb => exact .rly s a b hb
  | tunw u out hk a b c => exact .tunw s u out (h _ hk) a b c
  | send u w hw => exact .send s u w hw
  | ctl u f hc => exact .ctl s u f hc
  | dup u w q hq a b c => exact .dup s u w q hq a b c
  | save u q hk hq => exact .save s u q (h _ hk) hq
  | rawLogin u src b hq => exact .rawLogin s u src b hq
  | rawPing u src b hq => exact .rawPing s u src b hq
  | outpkt u s' ho => exact .outpkt s u s' ho
  | rand => exact .rand s
  | fwd q hq => exact .fwd s q hq
  | version q u hk a b => exact .version s q u (h _ hk) a b
  | fragsize q dlen n hk a b => exact .fragsize s q dlen n (h _ hk) a b
  | upIn u a b pl hk => exact .upIn s u a b pl (h _ hk)
  | resetIn u hk => exact .resetIn s u (h _ hk)
  | rawIn u src bytes hk hi => exact .rawIn s u src bytes (h _ hk) hi

/-- a step that is not tied to the input (`inp := .tick`: no step that answers, notes, stores or forwards the arriving
query, no relayed reply, no raw login, ping or data frame) is a step whatever the input -/
theorem Prim.of_tick {inp : Input} {K : Kind → Prop} {s : Srv} {r : Res} (hp : Prim .tick K s r) : Prim inp K s r := by
  cases hp with
  | sweep => exact .sweep s
  | tunskip => exact .tunskip s
  | raw b n u c q => exact .raw s b n u c q
  | tunw u out hk a b c => exact .tunw s u out hk a b c
  | send u w hw => exact .send s u w hw
  | ctl u f hc => exact .ctl s u f hc
  | rawLogin u src b hq => cases hq
  | rawPing u src b hq => cases hq
  | outpkt u s' ho =>
    refine .outpkt s u s' ?_
    cases ho with
    | start d n hs ha h0 hd =>
      cases hs with
      | tun f hf => cases hf
      | up v => exact .start _ _ (.up v) ha h0 hd
    | queue d n hs ha h0 hd =>
      cases hs with
      | tun f hf => cases hf
      | up v => exact .queue _ _ (.up v) ha h0 hd
    | ack a b => exact .ack a b
  | rand => exact .rand s
  | fwd q hq => cases hq
  | upIn u a b pl hk => exact .upIn s u a b pl hk
  | resetIn u hk => exact .resetIn s u hk
  | ctrl q d dn hq => cases hq
  | cached u q e hq => cases hq
  | seen u q hq => cases hq
  | nsa q hq => cases hq
  | rly a b hb => cases hb
  | dup u w q hq => cases hq
  | save u q hk hq => cases hq
  | version q u hk hq => cases hq
  | fragsize q dlen n hk hq => cases hq
  | rawIn u src bytes hk hi => cases hi

theorem OutPkt.frame {inp : Input} {s s' : Srv} {u : Nat} (h : OutPkt inp s u s') : Frame erOut (· = u) s s' := by
  cases h with
  | start d n => exact frame_startNewOutpacket s u d n
  | queue d n => exact frame_saveToOutpacketq s u d n
  | ack a b => exact frame_processDownstreamAck s u a b

namespace Run
variable {inp : Input} {K : Kind → Prop}

theorem mono {K' : Kind → Prop} (h : ∀ k, K k → K' k) {s : Srv} {r : Res} (hr : Run inp K s r) : Run inp K' s r := by
  induction hr with
  | nil s => exact .nil s
  | prim hp => exact .prim (hp.mono h)
  | seq _ _ ih1 ih2 => exact .seq ih1 ih2

theorem of_tick {s : Srv} {r : Res} (hr : Run .tick K s r) : Run inp K s r := by
  induction hr with
  | nil s => exact .nil s
  | prim hp => exact .prim hp.of_tick
  | seq _ _ ih1 ih2 => exact .seq ih1 ih2

theorem post {s s' : Srv} {r : Res} (h : Run inp K s r) (hp : Prim inp K r.1 (s', [])) : Run inp K s (s', r.2) := by
  have := Run.seq h (Run.prim hp)
  rwa [List.append_nil] at this

theorem pre {s s' : Srv} {r : Res} (h0 : Run inp K s (s', [])) (h : Run inp K s' r) : Run inp K s r := Run.seq h0 h

theorem ctrl (s : Srv) {q : Query} (hq : inp = .q q) {d : List Nat} (hd : Ctrl s.cfg q d) (dn : Nat) :
    Run inp K s (s, [writeDns q d dn]) := .prim (.ctrl s q d dn hq hd)

theorem ctlCtrl {s : Srv} {u : Nat} {f : Session → Session} (hc : Ctl s u f) {q : Query} (hq : inp = .q q)
    {d : List Nat} (hd : Ctrl s.cfg q d) (dn : Nat) : Run inp K s (setUser s u f, [writeDns q d dn]) :=
  Run.seq (.prim (.ctl s u f hc)) (.prim (.ctrl _ q d dn hq hd))

theorem len {s : Srv} {r : Res} (h : Run inp K s r) : r.1.users.length = s.users.length := by
  refine Run.closed (P := fun s r => r.1.users.length = s.users.length) ⟨fun _ => rfl, fun _ h1 h2 => h2.trans h1, ?_⟩ h
  intro s r hp
  cases hp with
  | send u w _ => exact (frame_sendChunkOrDataless s u w).len
  | ctl u f _ => exact setUser_len s u f
  | dup u w q => exact setUser_len _ _ _
  | save u q => exact setUser_len _ _ _
  | rawLogin u src => exact setUser_len _ _ _
  | rawPing u src => exact setUser_len _ _ _
  | outpkt u s' ho => exact ho.frame.len
  | rand => simp
  | version q u => simp [versionState, versionPre]
  | fragsize q dlen n => exact setUser_len _ _ _
  | upIn u a b pl => exact setUser_len _ _ _
  | resetIn u => exact setUser_len _ _ _
  | rawIn u src bytes => exact setUser_len _ _ _
  | _ => rfl

theorem cfg {s : Srv} {r : Res} (h : Run inp K s r) : r.1.cfg = s.cfg := by
  refine Run.closed (P := fun s r => r.1.cfg = s.cfg) ⟨fun _ => rfl, fun _ h1 h2 => h2.trans h1, ?_⟩ h
  intro s r hp
  cases hp with
  | send u w _ => exact (frame_sendChunkOrDataless s u w).cfg
  | outpkt u s' ho => exact ho.frame.cfg
  | rand => exact popRand_cfg s
  | version q u => exact (setUser_cfg _ _ _).trans ((setUser_cfg _ _ _).trans ((popRand_cfg _).trans (setUser_cfg _ _ _)))
  | ctl u f => exact setUser_cfg _ _ _
  | dup u w q => exact setUser_cfg _ _ _
  | save u q => exact setUser_cfg _ _ _
  | rawLogin u src => exact setUser_cfg _ _ _
  | rawPing u src => exact setUser_cfg _ _ _
  | fragsize q dlen n => exact setUser_cfg _ _ _
  | upIn u a b pl => exact setUser_cfg _ _ _
  | resetIn u => exact setUser_cfg _ _ _
  | rawIn u src bytes => exact setUser_cfg _ _ _
  | _ => rfl

end Run

theorem frame_upIn (s : Srv) (u a b : Nat) (pl : List Nat) : Frame erIn (· = u) s (upIn s u a b pl) :=
  Frame.setv erIn s u _ (ite_both (P := fun x => erIn x = erIn (getUser s u))
    (by rw [erIn_dataStore, erIn_dataUpstream]) (erIn_dataUpstream _ _ _))

variable {inp : Input} {K : Kind → Prop}

theorem run_send {s : Srv} {u : Nat} {w : QSel} (h : (w.get (getUser s u)).id ≠ 0) :
    Run inp K s (sendChunkOrDataless s u w).1 := .prim (.send s u w h)

theorem run_sendWaiting (s : Srv) (u : Nat) : Run inp K s (sendWaiting s u) := by
  unfold sendWaiting
  exact ite_both' (fun h => run_send (w := .qs) h) fun _ => ite_both' (fun h => run_send (w := .q) h) fun _ => .nil s

theorem run_pingQs (s : Srv) (u : Nat) : Run inp K s (pingQs s u) := by
  rw [pingQs]; exact ite_both' (fun h => run_send (w := .qs) h) fun _ => .nil s

/- `dsimp only` first, for the reason given at `dataStepQs_fst`. -/
theorem run_pingQ (s : Srv) (u : Nat) : Run inp K s (pingQ s u).1 := by
  rw [pingQ]
  refine ite_both' (P := fun r : Res × Bool => Run inp K s r.1) (fun h => ?_) fun _ => .nil s
  dsimp only
  exact run_send (w := .q) h

/-- the steps that answer the query just stored -/
theorem run_saved {s : Srv} {u : Nat} {q : Query} (hu : u < s.users.length) (hq : q.id ≠ 0) {c : Prop} [Decidable c] :
    Run inp K (saveQuery s u q) (if c then (sendChunkOrDataless (saveQuery s u q) u .q).1 else (saveQuery s u q, [])) :=
  ite_both (run_send (w := .q) (by show (getUser (saveQuery s u q) u).q.id ≠ 0; rw [saveQuery_q q hu]; exact hq))
    (.nil _)

theorem run_saveQuery (hs : K .save) (s : Srv) (u : Nat) (q : Query) (hi : inp = .q q) :
    Run inp K s (saveQuery s u q, []) := .prim (.save s u q hs hi)

/-- the ping handler behind its filters stores the arriving query once: a run, the store, a run -/
theorem split_pingFresh (s : Srv) (u : Nat) (q : Query) (unp : List Nat) (hu : u < s.users.length) (hq : q.id ≠ 0) :
    ∃ r1 r2 : Res, Run inp K s r1 ∧ Run inp K (saveQuery r1.1 u q) r2 ∧ pingFresh s u q unp = (r2.1, r1.2 ++ r2.2) := by
  rw [pingFresh_eq]
  generalize h0 : processDownstreamAck s u _ _ = s1
  have a0 : Run inp K s (s1, []) := .prim (.outpkt s u s1 (h0 ▸ .ack _ _))
  unfold pingRest
  extract_lets r1 r2 r3
  have h1 : Run inp K s1 r1 := run_pingQs s1 u
  have h2 : Run inp K r1.1 r2.1 := run_pingQ r1.1 u
  have hl : u < r2.1.1.users.length := by rw [h2.len, h1.len, a0.len]; exact hu
  have h3 : Run inp K (saveQuery r2.1.1 u q) r3 := by unfold r3 pingNew; exact run_saved hl hq
  clear_value r1 r2 r3
  exact ⟨_, r3, a0.pre (.seq h1 h2), h3, rfl⟩

theorem run_pingFresh (hs : K .save) (s : Srv) (u : Nat) (q : Query) (unp : List Nat) (hi : inp = .q q)
    (hu : u < s.users.length) (hq : q.id ≠ 0) : Run inp K s (pingFresh s u q unp) := by
  obtain ⟨r1, r2, h1, h2, e⟩ := split_pingFresh (inp := inp) (K := K) s u q unp hu hq
  rw [e]
  exact .seq h1 ((run_saveQuery hs _ u q hi).pre h2)

theorem run_deliverToUser (s : Srv) (t : Nat) (d : List Nat) (n : Nat) (hs : Src inp s d n)
    (ha : (getUser s t).active = true) (hd : d.take n ≠ []) : Run inp K s (deliverToUser s t d n) := by
  unfold deliverToUser
  extract_lets y
  refine ite_both' (fun _ => ite_both' (fun h0 => ?_) fun h0 => ?_) fun _ => ?_
  · exact .seq (.prim (.outpkt s t _ (.start d n hs ha h0 hd))) (run_sendWaiting _ t)
  · exact .prim (.outpkt s t _ (.queue d n hs ha h0 hd))
  · exact .prim (.raw s _ _ _ _ _)

theorem run_tunnelTun (s : Srv) (f : List Nat) (hi : inp = .tun f) : Run inp K s (tunnelTun s (f.take 65536)) := by
  have hsrc : Src inp s (compress (f.take 65536)) (compress (f.take 65536)).length := .tun f hi
  generalize f.take 65536 = frame at hsrc ⊢
  unfold tunnelTun
  refine ite_both (.nil s) <| ite_both' (fun _ => .nil s) fun h24 => ?_
  cases hf : findUserByIp s (ipDst frame) with
  | none => exact .nil s
  | some u =>
    have hd : (compress frame).take (compress frame).length ≠ [] := by simp [compress]
    have := run_deliverToUser (K := K) s u (compress frame) (compress frame).length hsrc (findUserByIp_active hf) hd
    unfold deliverToUser at this
    dsimp only at this ⊢
    by_cases hc : (getUser s u).conn = .dnsNull
    · rw [if_pos hc] at this ⊢
      by_cases hl : (getUser s u).outpacket.len = 0
      · rw [if_pos hl] at this; rw [if_neg (by omega)]; exact this
      · rw [if_neg hl] at this; rw [if_pos (by omega)]; exact this
    · rw [if_neg hc] at this ⊢; exact this

theorem run_handleFullPacket (ht : K .tunw) (hi : K .inbuf) (s : Srv) (u : Nat) :
    Run inp K s (handleFullPacket s u) := by
  unfold handleFullPacket
  extract_lets x r
  refine Run.post (r := r) ?_ (.resetIn _ u hi)
  unfold r
  cases ho : uncompress (x.inpacket.data.take x.inpacket.len) 65536 with
  | none => exact .nil s
  | some out =>
    dsimp only
    refine ite_both' (fun h24 => ?_) fun _ => .nil s
    cases hf : findUserByIp s (ipDst out) with
    | none => exact .prim (.tunw s u out ht ho h24 hf)
    | some t =>
      refine run_deliverToUser s t _ _ (.up u) (findUserByIp_active hf) ?_
      intro hn
      rw [hn] at ho
      cases ho

/-- the data handler behind `handle_full_packet`: the held queries are answered or parked; the arriving one is stored;
it is answered or parked -/
theorem parts_dataRest (p : Srv × Bool × Bool) (u : Nat) (q : Query) (hu : u < p.1.users.length) (hid : q.id ≠ 0) :
    ∃ t1 t2 : Res, Run inp K (if p.2.1 ∧ p.2.2 then handleFullPacket p.1 u else (p.1, [])).1 t1 ∧
      Run inp K (saveQuery t1.1 u q) t2 ∧
      C05N.dataRest p u q =
        (t2.1, (if p.2.1 ∧ p.2.2 then handleFullPacket p.1 u else (p.1, [])).2 ++ t1.2 ++ t2.2) := by
  unfold C05N.dataRest
  extract_lets r3 r4 r5 s6 r7
  have hl3 : r3.1.users.length = p.1.users.length :=
    ite_both (P := fun r : Res => r.1.users.length = p.1.users.length) (frame_handleFullPacket p.1 u).len rfl
  have h4 : Run inp K r3.1 r4.1 := by
    unfold r4; rw [dataStepQs_fst]; exact ite_both' (fun h => run_send (w := .qs) h) fun _ => .nil _
  have h5 : Run inp K r4.1.1 r5.1 := by
    unfold r5; rw [dataStepQ_fst]
    exact ite_both' (fun h => ite_both (run_send (w := .q) h) (.prim (.ctl _ u _ (.park h)))) fun _ => .nil _
  have hl : u < r5.1.1.users.length := by rw [h5.len, h4.len, hl3]; exact hu
  have h7 : Run inp K s6 r7 := by
    have hsv : ∀ {c : Prop} [Decidable c], Run inp K s6
        (if c then (sendChunkOrDataless s6 u .q).1 else (s6, [])) := run_saved hl hid
    have hsend : Run inp K s6 (sendChunkOrDataless s6 u .q).1 := by simpa using hsv (c := True)
    have hq6 : (getUser s6 u).q.id ≠ 0 := by
      show (getUser (saveQuery _ u q) u).q.id ≠ 0; rw [saveQuery_q q hl]; exact hid
    unfold r7 dataStepFinal
    exact ite_both hsend <| ite_both (ite_both (.prim (.ctl _ u _ (.park hq6))) hsend) (.nil _)
  clear_value r4 r5 r7
  exact ⟨_, r7, .seq h4 h5, h7, by simp only [List.append_assoc]; rfl⟩

/-- … as a run, the store of the arriving query, a run -/
theorem split_dataRest (ht : K .tunw) (hi : K .inbuf) (p : Srv × Bool × Bool) (u : Nat) (q : Query)
    (hu : u < p.1.users.length) (hid : q.id ≠ 0) :
    ∃ r1 r2 : Res, Run inp K p.1 r1 ∧ Run inp K (saveQuery r1.1 u q) r2 ∧
      C05N.dataRest p u q = (r2.1, r1.2 ++ r2.2) := by
  obtain ⟨t1, t2, h1, h2, e⟩ := parts_dataRest (inp := inp) (K := K) p u q hu hid
  exact ⟨_, t2, .seq (ite_both (run_handleFullPacket ht hi p.1 u) (.nil p.1)) h1, h2, e⟩

/-- … as `handle_full_packet` and a run that needs no step on a reassembly buffer or to the tun device -/
theorem tail_dataRest (hs : K .save) (p : Srv × Bool × Bool) (u : Nat) (q : Query) (hq : inp = .q q)
    (hu : u < p.1.users.length) (hid : q.id ≠ 0) :
    ∃ t : Res, Run inp K (if p.2.1 ∧ p.2.2 then handleFullPacket p.1 u else (p.1, [])).1 t ∧
      C05N.dataRest p u q = (t.1, (if p.2.1 ∧ p.2.2 then handleFullPacket p.1 u else (p.1, [])).2 ++ t.2) := by
  obtain ⟨t1, t2, h1, h2, e⟩ := parts_dataRest (inp := inp) (K := K) p u q hu hid
  exact ⟨_, .seq h1 ((run_saveQuery hs _ u q hq).pre h2), by rw [e, List.append_assoc]⟩

/-- the sequence bookkeeping and the copy of the data handler, after the downstream ack -/
theorem run_dataPre (hi : K .inbuf) (s : Srv) (u : Nat) (inb : List Nat) : Run inp K s ((C05N.dataPre s u inb).1, []) := by
  rw [C05N.dataPre]
  exact .seq (.prim (.outpkt s u _ (.ack _ _))) (.prim (.upIn _ u _ _ _ hi))

theorem split_dataFresh (ht : K .tunw) (hi : K .inbuf) (s : Srv) (u : Nat) (q : Query) (inb : List Nat)
    (hu : u < s.users.length) (hid : q.id ≠ 0) :
    ∃ r1 r2 : Res, Run inp K s r1 ∧ Run inp K (saveQuery r1.1 u q) r2 ∧ dataFresh s u q inb = (r2.1, r1.2 ++ r2.2) := by
  have hpre := run_dataPre (inp := inp) hi s u inb
  obtain ⟨r1, r2, h1, h2, e⟩ := split_dataRest (inp := inp) ht hi (C05N.dataPre s u inb) u q (by rw [hpre.len]; exact hu) hid
  exact ⟨r1, r2, hpre.pre h1, h2, by rw [C05N.dataFresh_eq, e]⟩

theorem run_dataFresh (ht : K .tunw) (hi : K .inbuf) (hs : K .save) (s : Srv) (u : Nat) (q : Query) (inb : List Nat)
    (hq : inp = .q q) (hu : u < s.users.length) (hid : q.id ≠ 0) : Run inp K s (dataFresh s u q inb) := by
  obtain ⟨r1, r2, h1, h2, e⟩ := split_dataFresh (inp := inp) ht hi s u q inb hu hid
  rw [e]
  exact .seq h1 ((run_saveQuery hs _ u q hq).pre h2)

theorem run_rememberDuplicate {s s' : Srv} {u : Nat} {q : Query} (hq : inp = .q q)
    (h : rememberDuplicate s u q = some s') : Run inp K s (s', []) := by
  rw [rememberDuplicate] at h
  by_cases h1 : (getUser s u).q.id ≠ 0 ∧ q.type = (getUser s u).q.type ∧ q.name = (getUser s u).q.name ∧ (getUser s u).lazy
  · rw [if_pos h1] at h
    exact Option.some.inj h ▸ .prim (.dup s u .q q hq h1.1 h1.2.1 h1.2.2.1)
  rw [if_neg h1] at h
  by_cases h2 : (getUser s u).qs.id ≠ 0 ∧ q.type = (getUser s u).qs.type ∧ q.name = (getUser s u).qs.name
  · rw [if_pos h2] at h
    exact Option.some.inj h ▸ .prim (.dup s u .qs q hq h2.1 h2.2.1 h2.2.2)
  rw [if_neg h2] at h; cases h

theorem run_filter {s : Srv} {q : Query} {uid : Int} {fresh r : Res} (hq : inp = .q q) (h : FilterRes s q uid fresh r)
    (hf : q.id ≠ 0 → uid.toNat < s.users.length → Run inp K s fresh) : Run inp K s r := by
  rcases h with rfl | rfl | ⟨hid, hc, ⟨e, he, rfl⟩ | rfl | ⟨s', hd, rfl⟩ | rfl⟩
  · exact .nil s
  · exact .ctrl s hq (.text .badip) _
  · exact .prim (.cached s _ q e hq he)
  · exact .prim (.seen s _ q hq)
  · exact run_rememberDuplicate hq hd
  · exact hf hid (lt_of_checkAuth hc)

theorem run_handleLogin (s : Srv) (q : Query) (hq : inp = .q q) (inb : List Nat) : Run inp K s (handleLogin s q inb) := by
  rw [handleLogin]
  extract_lets userid u s1 x logindata out
  exact ite_both (.ctrl s hq (.text .badlen) _) <| ite_both (.ctrl s hq (.text .badip) _) <| ite_both
    (.seq (.prim (.ctl s u _ .touch)) (Run.ctlCtrl .auth hq (.login x.tunIp) _))
    (Run.ctlCtrl .touch hq (.text .lnak) _)

theorem run_handleIp (s : Srv) (q : Query) (hq : inp = .q q) (inb : List Nat) : Run inp K s (handleIp s q inb) := by
  unfold handleIp
  extract_lets userid addr
  refine ite_both (.ctrl s hq (.text .badip) _) ?_
  have : Ctrl s.cfg q (73 :: addr) :=
    ite_both (P := fun a => Ctrl s.cfg q (73 :: a)) (ite_both (P := fun a => Ctrl s.cfg q (73 :: a)) (.ip 4 _ (.inl rfl))
      (.ip 4 _ (.inl rfl))) (.ip 16 _ (.inr rfl))
  exact .ctrl s hq this _

theorem run_handleSwitchCodec (s : Srv) (q : Query) (hq : inp = .q q) (dlen : Nat) (inb : List Nat) :
    Run inp K s (handleSwitchCodec s q dlen inb) := by
  rcases handleSwitchCodec_cases s q dlen inb with ⟨t, h⟩ | ⟨_, h | ⟨e, h⟩⟩ <;> rw [h]
  · exact .ctrl s hq (.text t) _
  · exact .ctrl s hq (.text .badcodec) _
  · exact Run.ctlCtrl (.enc e) hq (.codec e) _

theorem run_handleOptions (s : Srv) (q : Query) (hq : inp = .q q) (dlen : Nat) (inb : List Nat) :
    Run inp K s (handleOptions s q dlen inb) := by
  rcases handleOptions_cases s q dlen inb with ⟨t, h⟩ | ⟨_, h | ⟨d, t, h⟩ | ⟨l, t, h⟩⟩ <;> rw [h]
  · exact .ctrl s hq (.text t) _
  · exact .ctrl s hq (.text .badcodec) _
  · exact Run.ctlCtrl (.downenc d) hq (.text t) _
  · exact Run.ctlCtrl (.lazy l) hq (.text t) _

theorem run_handleDownCodecCheck (s : Srv) (q : Query) (hq : inp = .q q) (dlen : Nat) (inb : List Nat) :
    Run inp K s (handleDownCodecCheck s q dlen inb) := by
  rw [handleDownCodecCheck]
  refine ite_both (.ctrl s hq (.text .badlen) _) <| ite_both (.ctrl s hq (.text .badlen) _) ?_
  extract_lets c named rawOk dn
  cases dn
  · exact .ctrl s hq (.text .badcodec) _
  · exact .ctrl s hq .check _

theorem run_handleFragsizeProbe (s : Srv) (q : Query) (hq : inp = .q q) (dlen : Nat) (inb : List Nat) :
    Run inp K s (handleFragsizeProbe s q dlen inb) := by
  rw [handleFragsizeProbe]
  refine ite_both (.ctrl s hq (.text .badlen) _) ?_
  extract_lets b1 userid u req r
  refine ite_both (.ctrl s hq (.text .badip) _) <| ite_both'
    (fun _ => .ctrl s hq (.text .badfrag) _) fun hreq => ?_
  exact .seq (.prim (.rand s)) (.prim (.ctrl _ q _ _ hq (.probe req _ (by omega) (by omega))))

/-- the only special step a calm run takes is storing the arriving query -/
abbrev calm : Kind → Prop := fun k => k = .save

abbrev every : Kind → Prop := fun _ => True

/-- **What the handler phase of an iteration is**: a calm run, or one of four things: an accepted `V`, an accepted `N`,
the upstream data handler behind its filters, a raw data frame. -/
inductive Handler (inp : Input) (s : Srv) (r : Res) : Prop
  | calm : Run inp calm s r → Handler inp s r
  /-- `handle_null_request`, `V`, a free slot `u` -/
  | version (q : Query) (u dlen : Nat) : inp = .q q → Common.queryDatalen q.name s.cfg.topdomain = some dlen →
      2 ≤ dlen → AcceptedV s q u → r = versionRes s q u → Handler inp s r
  /-- `N` from a session that may negotiate, size `n ≥ 2` -/
  | fragsize (q : Query) (dlen n : Nat) : inp = .q q → 2 ≤ dlen → AcceptedN s q dlen n → r = fragsizeRes s q dlen n →
      Handler inp s r
  /-- an upstream data query (first character a hex digit naming slot `u`) that passed the access check and the three
  duplicate filters -/
  | data (q : Query) (u dlen : Nat) : inp = .q q → Common.queryDatalen q.name s.cfg.topdomain = some dlen → 6 ≤ dlen →
      q.id ≠ 0 → hexCode ((inbOf q dlen).getD 0 0) = (u : Int) → u < s.users.length →
      checkAuthenticatedUserAndIp s (u : Int) q = false → r = dataFresh s u q (inbOf q dlen) →
      Handler inp s r
  /-- `handle_raw_data` for the user the header names: the body is stored as its upstream packet and handed to
  `handle_full_packet` -/
  | rawData (src : Addr) (bytes : List Nat) : inp = .rawf src bytes →
      checkAuthenticatedUserAndIp s (((bytes.take 65536).getD 3 0 &&& RAW_HDR_USR_MASK : Nat) : Int) (rawQuery src)
        = false →
      r = handleFullPacket (rawStored s ((bytes.take 65536).getD 3 0 &&& RAW_HDR_USR_MASK) src
        ((bytes.take 65536).drop RAW_HDR_LEN)) ((bytes.take 65536).getD 3 0 &&& RAW_HDR_USR_MASK) →
      Handler inp s r

theorem class_handleVersion (s : Srv) (q : Query) (dlen : Nat) (hq : inp = .q q)
    (hd : Common.queryDatalen q.name s.cfg.topdomain = some dlen) (h2 : 2 ≤ dlen)
    (hv : q.name.getD 0 0 = 86 ∨ q.name.getD 0 0 = 118) (inb : List Nat) : Handler inp s (handleVersion s q inb) := by
  rcases handleVersion_cases s q inb with ⟨u, _, hu, hs, he⟩ | ⟨hs, he | he⟩
  · exact .version q u dlen hq hd h2 ⟨hv, hu⟩ (Prod.ext hs he)
  · rw [show handleVersion s q inb = (_, _) from Prod.ext hs he, sendVersionResponse_eq]
    exact .calm (.ctrl s hq (.vers ..) _)
  · rw [show handleVersion s q inb = (_, _) from Prod.ext hs he, sendVersionResponse_eq]
    exact .calm (.ctrl s hq (.vers ..) _)

theorem class_handleSetFragsize (s : Srv) (q : Query) (dlen : Nat) (hq : inp = .q q)
    (hd : Common.queryDatalen q.name s.cfg.topdomain = some dlen) (h2 : 2 ≤ dlen)
    (hn : q.name.getD 0 0 = 78 ∨ q.name.getD 0 0 = 110) :
    Handler inp s (handleSetFragsize s q (inbOf q dlen)) := by
  rw [handleSetFragsize]
  exact ite_both' (fun _ => .calm (.ctrl s hq (.text .badlen) _)) fun h3 => ite_both'
    (fun _ => .calm (.ctrl s hq (.text .badip) _)) fun hc => ite_both'
    (fun _ => .calm (.ctrl s hq (.text .badfrag) _)) fun hf =>
    .fragsize q dlen _ hq h2 ⟨hd, hn, Nat.le_of_not_lt h3, (Bool.not_eq_true _).mp hc, Nat.le_of_not_lt hf, rfl⟩ rfl

theorem class_handleData (s : Srv) (q : Query) (dlen : Nat) (hq : inp = .q q)
    (hd : Common.queryDatalen q.name s.cfg.topdomain = some dlen) :
    Handler inp s (handleData s q dlen (inbOf q dlen)) := by
  by_cases h6 : dlen < 6
  · rw [handleData, if_pos h6]; exact .calm (.nil s)
  rcases handleData_cases s q dlen (inbOf q dlen) with h | h | ⟨hid, hc, h⟩
  · rw [h]; exact .calm (.nil s)
  · rw [h]; exact .calm (.ctrl s hq (.text .badip) _)
  · have h0 := (checkUserAndIp_false s _ q (checkAuth_false s _ q hc).1).1
    have hcast : hexCode ((inbOf q dlen).getD 0 0)
        = ((hexCode ((inbOf q dlen).getD 0 0)).toNat : Int) := (Int.toNat_of_nonneg h0).symm
    rcases h with h | h | h | h
    · exact .calm (run_filter hq (.inr (.inr ⟨hid, hc, .inl h⟩)) fun _ _ => .nil s)
    · exact .calm (run_filter hq (.inr (.inr ⟨hid, hc, .inr (.inl h)⟩)) fun _ _ => .nil s)
    · exact .calm (run_filter hq (.inr (.inr ⟨hid, hc, .inr (.inr (.inl h))⟩)) fun _ _ => .nil s)
    · exact .data q _ dlen hq hd (Nat.le_of_not_lt h6) hid hcast (lt_of_checkAuth hc) (hcast ▸ hc) h

theorem class_handleNullRequest (s : Srv) (q : Query) (dlen : Nat) (hq : inp = .q q)
    (hd : Common.queryDatalen q.name s.cfg.topdomain = some dlen) : Handler inp s (handleNullRequest s q dlen) := by
  refine handleNullRequest_letter s q dlen (.calm (.nil s)) fun h2 l hl => ?_
  rw [inbOf_getD _ _ 0 (by omega)] at hl
  cases l with
  | V => exact class_handleVersion s q dlen hq hd h2 hl _
  | L => exact .calm (run_handleLogin s q hq _)
  | I => exact .calm (run_handleIp s q hq _)
  | Z => exact .calm (.ctrl s hq (.echo dlen h2 (Nat.le_trans (Common.queryDatalen_some_le hd).1 (Common.queryDatalen_some_le hd).2)) _)
  | S => exact .calm (run_handleSwitchCodec s q hq dlen _)
  | O => exact .calm (run_handleOptions s q hq dlen _)
  | Y => exact .calm (run_handleDownCodecCheck s q hq dlen _)
  | R => exact .calm (run_handleFragsizeProbe s q hq dlen _)
  | N => exact class_handleSetFragsize s q dlen hq hd h2 hl
  | P => exact .calm (run_filter hq (handlePing_cases s q _) fun hid hu => run_pingFresh (K := calm) rfl s _ q _ hq hu hid)
  | D => exact class_handleData s q dlen hq hd

/-- **the handler the input selects** -/
theorem class_dispatch (s : Srv) (inp : Input) (tunsel : Bool) : Handler inp s (dispatch s inp tunsel) := by
  refine dispatch_ind s inp tunsel (.calm (.nil s)) (fun f hf => .calm (run_tunnelTun s f hf)) (fun q hq => ?_)
    (fun src bytes r hi hr => ?_) fun b hb => .calm ?_
  · have nsa : Run inp calm s (s, [Event.nsa q.from_]) := .prim (.nsa s q hq)
    exact tunnelDns_ind s q (.calm (.nil s)) (fun _ => .calm (handleARequest_ind s q _ (.nil s) nsa))
      (fun dlen hd _ => class_handleNullRequest s q dlen hq hd)
      (fun _ => .calm (handleNsRequest_ind s q _ (.nil s) nsa)) (.calm (.prim (.fwd s q hq)))
  · rcases (rawDecode_cases hr).2.2 with ⟨_, rfl⟩ | ⟨_, rfl⟩ | ⟨_, rfl⟩ | rfl
    · refine .calm (handleRawLogin_ind s _ _ _ (.nil s) fun hash => ?_)
      exact .seq (.seq (.seq (.prim (.rawLogin s _ src bytes hi)) (.prim (.ctl _ _ _ (.conn _))))
        (.prim (.ctl _ _ _ .authRaw))) (.prim (.raw ..))
    · exact handleRawData_ind s _ src _ (.calm (.nil s)) fun hc _ => .rawData src bytes hi hc rfl
    · exact .calm (handleRawPing_ind s _ _ (.nil s) (.seq (.prim (.rawPing s _ src bytes hi))
        (.prim (.raw ..))))
    · exact .calm (.nil s)
  · unfold tunnelBind
    refine ite_both (.nil s) ?_
    cases FwQuery.get s.fw (dnsGetId (b.take 65536)) with
    | none => exact .nil s
    | some j => exact .prim (.rly s _ b hb)

theorem Handler.run {s : Srv} {r : Res} (h : Handler inp s r) : Run inp every s r := by
  cases h with
  | calm h => exact h.mono fun _ _ => trivial
  | version q u dlen hq _ _ ha he => rw [he]; exact .prim (.version s q u trivial hq ha)
  | fragsize q dlen n hq _ ha he => rw [he]; exact .prim (.fragsize s q dlen n trivial hq ha)
  | data q u dlen hq _ _ hid _ hu _ he => rw [he]; exact run_dataFresh trivial trivial trivial s u q _ hq hu hid
  | rawData src bytes hi _ he =>
    rw [he]; exact .seq (.prim (.rawIn s _ src bytes trivial hi)) (run_handleFullPacket trivial trivial _ _)

theorem run_sweepFrom (inp : Input) (K : Kind → Prop) : ∀ (n i : Nat) (s : Srv), Run inp K s (sweepFrom n i s)
  | 0, _, s => .nil s
  | n + 1, i, s => by
    unfold sweepFrom
    exact .seq (ite_both' (fun h => run_send (w := .qs) h.2.1) fun _ => .nil s) (run_sweepFrom inp K n (i + 1) _)

/-- what follows the handler phase — the marker, the sweep, the harness's note — is a run that does not look at the
input: only queries held for "real soon" are answered -/
theorem body_tail (s : Srv) (inp : Input) (tunsel : Bool) :
    ∃ t : Res, Run .tick (fun _ => False) (dispatch s inp tunsel).1 t ∧
      body s inp tunsel = (t.1, (dispatch s inp tunsel).2 ++ t.2) ∧ ∃ post, t.2 = Event.sweep :: post := by
  obtain ⟨note, hn, e⟩ := body_eq s inp tunsel
  have h : Run .tick (fun _ => False) (dispatch s inp tunsel).1 ((sweep (dispatch s inp tunsel).1).1,
      Event.sweep :: (sweep (dispatch s inp tunsel).1).2) :=
    Run.seq (.prim (.sweep _)) (run_sweepFrom .tick _ _ _ _)
  refine ⟨(_, Event.sweep :: ((sweep (dispatch s inp tunsel).1).2 ++ note)), ?_, e, _, rfl⟩
  rcases hn with rfl | rfl
  · rw [List.append_nil]; exact h
  · exact Run.seq h (.prim (.tunskip _))

/-- **everything an iteration does after `select` is a run of primitive steps** -/
theorem run_body (s : Srv) (inp : Input) (tunsel : Bool) : Run inp every s (body s inp tunsel) := by
  obtain ⟨t, ht, he, _⟩ := body_tail s inp tunsel
  rw [he]
  exact .seq (class_dispatch s inp tunsel).run (ht.of_tick.mono fun _ h => h.elim)

end Iodine.Server
