import IodineModel.Login
/-
Helper lemmas for C19 (login hash).  MD5 itself stays opaque everywhere: everything here is
about the 32-byte block that is fed to it.
-/
namespace Iodine.Login

/-! ### xor on `Nat` -/

theorem xor_cancel_left {a b c : Nat} (h : a ^^^ b = a ^^^ c) : b = c := by
  have h2 : a ^^^ (a ^^^ b) = a ^^^ (a ^^^ c) := by rw [h]
  rw [← Nat.xor_assoc, ← Nat.xor_assoc, Nat.xor_self, Nat.zero_xor, Nat.zero_xor] at h2
  exact h2

theorem xor_byte (x s j : Nat) :
    (x ^^^ s) / 2 ^ j % 256 = (x / 2 ^ j % 256) ^^^ (s / 2 ^ j % 256) := by
  rw [Nat.xor_div_two_pow]
  exact Nat.xor_mod_two_pow (n := 8)

theorem xor_byte0 (x s : Nat) : (x ^^^ s) % 256 = (x % 256) ^^^ (s % 256) :=
  Nat.xor_mod_two_pow (n := 8)

/-! ### one word: `htonl(ntohl(w) ^ seed)` is the byte-wise xor with the big-endian seed -/

theorem be_val_bytes (a b c d : Nat) (ha : a < 256) (hb : b < 256) (hc : c < 256) (hd : d < 256) :
    (a * 2 ^ 24 + b * 2 ^ 16 + c * 2 ^ 8 + d) / 2 ^ 24 % 256 = a ∧
    (a * 2 ^ 24 + b * 2 ^ 16 + c * 2 ^ 8 + d) / 2 ^ 16 % 256 = b ∧
    (a * 2 ^ 24 + b * 2 ^ 16 + c * 2 ^ 8 + d) / 2 ^ 8 % 256 = c ∧
    (a * 2 ^ 24 + b * 2 ^ 16 + c * 2 ^ 8 + d) % 256 = d := by
  refine ⟨?_, ?_, ?_, ?_⟩ <;> omega

theorem loadLE_four (a b c d : Nat) (ha : a < 256) (hb : b < 256) (hc : c < 256) (hd : d < 256) :
    loadLE [a, b, c, d] = d * 2 ^ 24 + c * 2 ^ 16 + b * 2 ^ 8 + a := by
  simp only [loadLE]
  omega

/-- `ntohl` of four bytes in memory reads them as a big-endian number. -/
theorem bswap32_loadLE (a b c d : Nat) (ha : a < 256) (hb : b < 256) (hc : c < 256) (hd : d < 256) :
    bswap32 (loadLE [a, b, c, d]) = a * 2 ^ 24 + b * 2 ^ 16 + c * 2 ^ 8 + d := by
  obtain ⟨e3, e2, e1, e0⟩ := be_val_bytes d c b a hd hc hb ha
  rw [loadLE_four a b c d ha hb hc hd, bswap32, e3, e2, e1, e0]

/-- `htonl` followed by the store writes the big-endian bytes. -/
theorem storeLE_bswap32 (k : Nat) :
    storeLE (bswap32 k) = [k / 2 ^ 24 % 256, k / 2 ^ 16 % 256, k / 2 ^ 8 % 256, k % 256] := by
  simp only [storeLE, bswap32]
  have h0 : k % 256 < 256 := Nat.mod_lt _ (by omega)
  have h1 : k / 2 ^ 8 % 256 < 256 := Nat.mod_lt _ (by omega)
  have h2 : k / 2 ^ 16 % 256 < 256 := Nat.mod_lt _ (by omega)
  have h3 : k / 2 ^ 24 % 256 < 256 := Nat.mod_lt _ (by omega)
  obtain ⟨e3, e2, e1, e0⟩ := be_val_bytes _ _ _ _ h0 h1 h2 h3
  rw [e3, e2, e1, e0]

theorem xorWord_eq (s a b c d : Nat) (ha : a < 256) (hb : b < 256) (hc : c < 256) (hd : d < 256) :
    xorWord s [a, b, c, d] =
      [a ^^^ (s / 2 ^ 24 % 256), b ^^^ (s / 2 ^ 16 % 256), c ^^^ (s / 2 ^ 8 % 256), d ^^^ (s % 256)] := by
  simp only [xorWord]
  rw [storeLE_bswap32, bswap32_loadLE a b c d ha hb hc hd]
  rw [xor_byte, xor_byte, xor_byte, xor_byte0]
  obtain ⟨e3, e2, e1, e0⟩ := be_val_bytes a b c d ha hb hc hd
  rw [e3, e2, e1, e0]

/-! ### the whole buffer -/

/-- `n` words processed by the C loop = byte-wise xor with `n` repetitions of the big-endian
seed bytes. -/
theorem words_eq (s : Nat) (n : Nat) (p : List Nat) (hlen : p.length = 4 * n)
    (hb : ∀ x ∈ p, x < 256) :
    (chunksN 4 n p).flatMap (xorWord s) =
      List.zipWith (· ^^^ ·) p
        (List.replicate n [s / 2 ^ 24 % 256, s / 2 ^ 16 % 256, s / 2 ^ 8 % 256, s % 256]).flatten := by
  induction n generalizing p with
  | zero => simp [chunksN]
  | succ n ih =>
    match p, hlen, hb with
    | a :: b :: c :: d :: rest, hlen, hb =>
      have hrest : rest.length = 4 * n := by simp only [List.length_cons] at hlen; omega
      have hbr : ∀ x ∈ rest, x < 256 := fun x hx => hb x (by simp [hx])
      simp only [chunksN, List.take_succ_cons, List.take_zero, List.drop_succ_cons, List.drop_zero,
        List.flatMap_cons, List.replicate_succ, List.flatten_cons, List.cons_append, List.nil_append,
        List.zipWith_cons_cons]
      rw [ih rest hrest hbr,
        xorWord_eq s a b c d (hb a (by simp)) (hb b (by simp)) (hb c (by simp)) (hb d (by simp))]
      rfl
    | [], hlen, _ => simp only [List.length_nil] at hlen; omega
    | [_], hlen, _ => simp only [List.length_cons, List.length_nil] at hlen; omega
    | [_, _], hlen, _ => simp only [List.length_cons, List.length_nil] at hlen; omega
    | [_, _, _], hlen, _ => simp only [List.length_cons, List.length_nil] at hlen; omega

/-! ### injectivity of the byte-wise xor -/

theorem zipWith_xor_inj_right (p r r' : List Nat) (h1 : p.length = r.length)
    (h2 : p.length = r'.length)
    (h : List.zipWith (· ^^^ ·) p r = List.zipWith (· ^^^ ·) p r') : r = r' := by
  induction p generalizing r r' with
  | nil =>
    cases r <;> cases r' <;> simp_all
  | cons a p ih =>
    cases r with
    | nil => simp at h1
    | cons x r =>
      cases r' with
      | nil => simp at h2
      | cons y r' =>
        simp only [List.zipWith_cons_cons, List.cons.injEq] at h
        simp only [List.length_cons, Nat.add_right_cancel_iff] at h1 h2
        rw [xor_cancel_left h.1, ih r r' h1 h2 h.2]

theorem zipWith_xor_inj_left (p p' r : List Nat) (h1 : p.length = r.length)
    (h2 : p'.length = r.length)
    (h : List.zipWith (· ^^^ ·) p r = List.zipWith (· ^^^ ·) p' r) : p = p' := by
  have comm : ∀ a b : List Nat, List.zipWith (· ^^^ ·) a b = List.zipWith (· ^^^ ·) b a :=
    fun _ _ => List.zipWith_comm_of_comm Nat.xor_comm
  rw [comm p r, comm p' r] at h
  exact zipWith_xor_inj_right r p p' h1.symm h2.symm h

theorem be_bytes_inj (s s' : Nat) (hs : s < 2 ^ 32) (hs' : s' < 2 ^ 32)
    (h : [s / 2 ^ 24 % 256, s / 2 ^ 16 % 256, s / 2 ^ 8 % 256, s % 256] =
         [s' / 2 ^ 24 % 256, s' / 2 ^ 16 % 256, s' / 2 ^ 8 % 256, s' % 256]) : s = s' := by
  simp only [List.cons.injEq, and_true] at h
  omega

theorem rep_inj (n : Nat) (w w' : List Nat) (hl : w.length = w'.length)
    (h : (List.replicate (n + 1) w).flatten = (List.replicate (n + 1) w').flatten) : w = w' := by
  simp only [List.replicate_succ, List.flatten_cons] at h
  exact (List.append_inj h hl).1

end Iodine.Login
