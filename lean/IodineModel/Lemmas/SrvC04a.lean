import IodineModel.Server.Run
import IodineModel.Lemmas.Ite
/-
The slot table and the one "same except" relation of the server properties.  A read after a write (`getUser_setUser`)
and that a state is its four fields and its slots (`srv_ext`) give every equation of `setUser`; a slot outside the table
reads as the zeroed slot.  `Frame er U`: only the slots in `U` changed, and every slot is unchanged up to the fields the
erasure `er` wipes out.  Each erasure wipes what those before it wipe, and more:
    erOut < erIn < erMem < erData < erId, erLogin < erHost < erTun
(`erId` wipes the negotiated options, `erLogin` wipes `authenticated`: neither is below the other).  A frame is a frame at
every erasure above it (`Frame.coarsen`); "these fields of every slot are the same" follows from a frame whose erasure
keeps them (`Frame.map_eq`).  Also the top of the loop seen through `getUser`, and invariants "every slot satisfies `P`".
-/
namespace Iodine.C04L
open Iodine Iodine.Server

theorem getUser_of_ge (s : Srv) (u : Nat) (h : s.users.length ≤ u) : getUser s u = Session.zero 0 := by
  unfold getUser
  rw [List.getD_eq_getElem?_getD, List.getElem?_eq_none h]
  rfl

theorem getD_modify {α} (l : List α) (i j : Nat) (f : α → α) (d : α) :
    (l.modify i f).getD j d = if j = i ∧ i < l.length then f (l.getD i d) else l.getD j d := by
  simp only [List.getD_eq_getElem?_getD, List.getElem?_modify]
  by_cases h : j = i
  · subst h
    by_cases hl : j < l.length
    · simp [hl]
    · simp [hl]
  · have : ¬ i = j := fun e => h e.symm
    simp [h, this]

theorem getUser_setUser (s : Srv) (u : Nat) (f : Session → Session) (v : Nat) :
    getUser (setUser s u f) v =
      if v = u ∧ u < s.users.length then f (getUser s u) else getUser s v :=
  getD_modify s.users u v f (Session.zero 0)

theorem getUser_setUser_cases (s : Srv) (u v : Nat) (f : Session → Session) :
    getUser (setUser s u f) v = getUser s v ∨ (v = u ∧ getUser (setUser s u f) v = f (getUser s u)) := by
  rw [getUser_setUser]
  split
  · next h => exact .inr ⟨h.1, rfl⟩
  · exact .inl rfl

/-- what holds of the written value and of the zeroed slot holds of the slot after the write -/
theorem getUser_setUser_prop (s : Srv) (u : Nat) (f : Session → Session) (P : Session → Prop)
    (h1 : P (f (getUser s u))) (h2 : P (Session.zero 0)) : P (getUser (setUser s u f) u) := by
  rw [getUser_setUser]
  split
  · exact h1
  · next h => rw [getUser_of_ge s u (Nat.le_of_not_lt fun hl => h ⟨rfl, hl⟩)]; exact h2

theorem getUser_setUser_ne (s : Srv) (u : Nat) (f : Session → Session) (v : Nat) (h : v ≠ u) :
    getUser (setUser s u f) v = getUser s v := by
  rw [getUser_setUser]; simp [h]

theorem getUser_setUser_self (s : Srv) (u : Nat) (f : Session → Session) (h : u < s.users.length) :
    getUser (setUser s u f) u = f (getUser s u) := by
  rw [getUser_setUser]; simp [h]

@[simp] theorem setUser_cfg (s : Srv) (u : Nat) (f : Session → Session) : (setUser s u f).cfg = s.cfg := rfl
@[simp] theorem setUser_now (s : Srv) (u : Nat) (f : Session → Session) : (setUser s u f).now = s.now := rfl
@[simp] theorem setUser_fw (s : Srv) (u : Nat) (f : Session → Session) : (setUser s u f).fw = s.fw := rfl
@[simp] theorem setUser_rand (s : Srv) (u : Nat) (f : Session → Session) : (setUser s u f).rand = s.rand := rfl
@[simp] theorem setUser_len (s : Srv) (u : Nat) (f : Session → Session) :
    (setUser s u f).users.length = s.users.length := by
  unfold setUser; simp

/-- a state is its configuration, forward ring, `rand()` queue, clock and slots: with `getUser_setUser` this is all the
algebra of the slot table needs -/
theorem srv_ext (s t : Srv) (h1 : t.cfg = s.cfg) (h2 : t.fw = s.fw) (h3 : t.rand = s.rand) (h4 : t.now = s.now)
    (h5 : t.users.length = s.users.length) (h6 : ∀ v, getUser t v = getUser s v) : t = s := by
  cases s; cases t
  simp only at h1 h2 h3 h4 h5
  subst h1 h2 h3 h4
  congr 1
  apply List.ext_getElem h5
  intro i hi1 hi2
  have := h6 i
  unfold getUser at this
  simpa [hi1, hi2] using this

theorem setUser_congr (s : Srv) (u : Nat) (f g : Session → Session) (h : f (getUser s u) = g (getUser s u)) :
    setUser s u f = setUser s u g :=
  srv_ext _ _ rfl rfl rfl rfl (by rw [setUser_len, setUser_len]) fun v => by rw [getUser_setUser, getUser_setUser, h]

theorem setUser_eq_const (s : Srv) (u : Nat) (f : Session → Session) :
    setUser s u f = setUser s u fun _ => f (getUser s u) :=
  setUser_congr s u _ _ rfl

theorem setUser_id (s : Srv) (u : Nat) (f : Session → Session) (h : f (getUser s u) = getUser s u) :
    setUser s u f = s :=
  srv_ext _ _ rfl rfl rfl rfl (setUser_len s u f) fun v => by
    rw [getUser_setUser]
    by_cases hc : v = u ∧ u < s.users.length
    · rw [if_pos hc, h, hc.1]
    · rw [if_neg hc]

theorem _root_.Iodine.C16L.setUser_oob (s : Srv) (u : Nat) (f : Session → Session) (h : s.users.length ≤ u) :
    setUser s u f = s :=
  srv_ext _ _ rfl rfl rfl rfl (setUser_len s u f) fun v => by
    rw [getUser_setUser, if_neg fun hc => Nat.not_lt.mpr h hc.2]

theorem _root_.Iodine.C16L.lt_length_of_active (s : Srv) (u : Nat) (h : (getUser s u).active = true) : u < s.users.length :=
  Nat.lt_of_not_le fun hl => by rw [getUser_of_ge s u hl] at h; cases h

theorem setUser_setUser (s : Srv) (u : Nat) (g f : Session → Session) :
    setUser (setUser s u g) u f = setUser s u (fun x => f (g x)) := by
  unfold setUser
  simp only [List.modify_modify_eq]
  rfl

@[simp] theorem andThen_fst (r : Res) (f : Srv → Res) : (andThen r f).1 = (f r.1).1 := rfl
@[simp] theorem andThen_snd (r : Res) (f : Srv → Res) : (andThen r f).2 = r.2 ++ (f r.1).2 := rfl

@[simp] theorem popRand_cfg (s : Srv) : (popRand s).2.cfg = s.cfg := by unfold popRand; split <;> rfl
@[simp] theorem popRand_now (s : Srv) : (popRand s).2.now = s.now := by unfold popRand; split <;> rfl
@[simp] theorem popRand_users (s : Srv) : (popRand s).2.users = s.users := by unfold popRand; split <;> rfl
@[simp] theorem popRand_fw (s : Srv) : (popRand s).2.fw = s.fw := by unfold popRand; split <;> rfl
theorem getUser_popRand (s : Srv) (v : Nat) : getUser (popRand s).2 v = getUser s v := by
  unfold getUser; rw [popRand_users]

/-- `Frame er U s s'`: configuration, clock and table size are unchanged, slots outside `U` are unchanged, and every
slot is unchanged up to the fields the erasure `er` wipes out -/
structure Frame (er : Session → Session) (U : Nat → Prop) (s s' : Srv) : Prop where
  cfg : s'.cfg = s.cfg
  now : s'.now = s.now
  len : s'.users.length = s.users.length
  other : ∀ v, ¬ U v → getUser s' v = getUser s v
  rel : ∀ v, er (getUser s' v) = er (getUser s v)

theorem Frame.refl (er : Session → Session) (U : Nat → Prop) (s : Srv) : Frame er U s s :=
  ⟨rfl, rfl, rfl, fun _ _ => rfl, fun _ => rfl⟩

theorem Frame.trans {er : Session → Session} {U : Nat → Prop} {s s' s'' : Srv}
    (a : Frame er U s s') (b : Frame er U s' s'') : Frame er U s s'' :=
  ⟨b.cfg.trans a.cfg, b.now.trans a.now, b.len.trans a.len,
   fun v hv => (b.other v hv).trans (a.other v hv), fun v => (b.rel v).trans (a.rel v)⟩

theorem Frame.mono {er : Session → Session} {U V : Nat → Prop} {s s' : Srv} (a : Frame er U s s')
    (h : ∀ v, U v → V v) : Frame er V s s' :=
  ⟨a.cfg, a.now, a.len, fun v hv => a.other v (fun hu => hv (h v hu)), a.rel⟩

theorem Frame.coarsen {er er2 : Session → Session} {U : Nat → Prop} {s s' : Srv} (a : Frame er U s s')
    (h : ∀ x, er2 (er x) = er2 x) : Frame er2 U s s' :=
  ⟨a.cfg, a.now, a.len, a.other, fun v => by rw [← h (getUser s' v), a.rel v, h]⟩

theorem Frame.setv (er : Session → Session) (s : Srv) (u : Nat) (f : Session → Session)
    (hf : er (f (getUser s u)) = er (getUser s u)) :
    Frame er (· = u) s (setUser s u f) := by
  refine ⟨rfl, rfl, setUser_len s u f, fun v hv => getUser_setUser_ne s u f v hv, fun v => ?_⟩
  rw [getUser_setUser]
  split
  · next h => rw [h.1]; exact hf
  · rfl

theorem Frame.set (er : Session → Session) (s : Srv) (u : Nat) (f : Session → Session) (hf : ∀ x, er (f x) = er x) :
    Frame er (· = u) s (setUser s u f) := Frame.setv er s u f (hf _)

theorem Frame.popRand (er : Session → Session) (U : Nat → Prop) (s : Srv) : Frame er U s (popRand s).2 :=
  ⟨popRand_cfg s, popRand_now s, by rw [popRand_users], fun v _ => getUser_popRand s v,
   fun v => by rw [getUser_popRand]⟩

/-- forget the downstream packet machinery -/
def erOut (x : Session) : Session :=
  { x with outpacket := Packet.zero, outfragresent := 0, outpacketq := [], oqNext := 0, oqFilled := 0 }

/-- ... and the upstream reassembly buffer -/
def erIn (x : Session) : Session := { erOut x with inpacket := Packet.zero }

/-- ... and the duplicate memories and the answer cache -/
def erMem (x : Session) : Session :=
  { erIn x with qmemping := [], qmempingLast := 0, qmemdata := [], qmemdataLast := 0, dnscache := [], dcLast := 0 }

/-- ... and the stored queries, the clock, the duplicate memories and the answer cache: what is left is the
identity and the negotiated options of the session -/
def erData (x : Session) : Session :=
  { erIn x with q := Query.zero, qs := Query.zero, qsNew := false, lastPkt := 0,
                qmemping := [], qmempingLast := 0, qmemdata := [], qmemdataLast := 0, dnscache := [], dcLast := 0 }

/-- only the identity fields are left: tunIp, disabled, host, seed, active, authenticated, authenticatedRaw, conn -/
def erId (x : Session) : Session :=
  { erData x with optionsLocked := false, encoder := .b32, downenc := 0, fragsize := 0, lazy := false }

/-- what a login leaves alone: everything but the data-path fields and `authenticated` -/
def erLogin (x : Session) : Session := { erData x with authenticated := false }

/-- only the tunnel address, the `disabled` flag and the bound address are left -/
def erHost (x : Session) : Session :=
  { erId x with seed := 0, active := false, authenticated := false, authenticatedRaw := false, conn := .rawUdp }

/-- only the tunnel address and the `disabled` flag are left -/
def erTun (x : Session) : Session := { erHost x with host := Addr.zero }

/- `cases x` first: on a constructor application every field of the nested updates reduces at once, while on a
variable `rfl` goes through structure eta for each of the 29 fields. -/
theorem erHost_erId (x : Session) : erHost (erId x) = erHost x := by cases x; rfl
theorem erHost_erData (x : Session) : erHost (erData x) = erHost x := by cases x; rfl
theorem erHost_erLogin (x : Session) : erHost (erLogin x) = erHost x := by cases x; rfl
theorem erLogin_erData (x : Session) : erLogin (erData x) = erLogin x := by cases x; rfl
theorem erTun_erHost (x : Session) : erTun (erHost x) = erTun x := by cases x; rfl
theorem erTun_erLogin (x : Session) : erTun (erLogin x) = erTun x := by cases x; rfl
theorem erIn_erOut (x : Session) : erIn (erOut x) = erIn x := by cases x; rfl
theorem erMem_erOut (x : Session) : erMem (erOut x) = erMem x := by cases x; rfl
theorem erMem_erIn (x : Session) : erMem (erIn x) = erMem x := by cases x; rfl
theorem erData_erMem (x : Session) : erData (erMem x) = erData x := by cases x; rfl
theorem erData_erOut (x : Session) : erData (erOut x) = erData x := by cases x; rfl
theorem erData_erIn (x : Session) : erData (erIn x) = erData x := by cases x; rfl
theorem erId_erData (x : Session) : erId (erData x) = erId x := by cases x; rfl
theorem erId_erOut (x : Session) : erId (erOut x) = erId x := by cases x; rfl
theorem erId_erIn (x : Session) : erId (erIn x) = erId x := by cases x; rfl
theorem erTun_erId (x : Session) : erTun (erId x) = erTun x := by cases x; rfl
theorem erTun_erData (x : Session) : erTun (erData x) = erTun x := by cases x; rfl

theorem erOut_q {x y : Session} (h : erOut x = erOut y) : x.q = y.q := by
  cases x; cases y; exact (congrArg Session.q h :)
theorem erOut_qs {x y : Session} (h : erOut x = erOut y) : x.qs = y.qs := by
  cases x; cases y; exact (congrArg Session.qs h :)
theorem erHost_host {x y : Session} (h : erHost x = erHost y) : x.host = y.host := by
  cases x; cases y; exact (congrArg Session.host h :)
theorem erTun_tunIp (z : Session) : (erTun z).tunIp = z.tunIp := by cases z; rfl
theorem erIn_toSlot (z : Session) : toSlot (erIn z) = toSlot z := by cases z; rfl
theorem erIn_keeps (z : Session) : (erIn z).fragsize = z.fragsize ∧ (erIn z).dnscache = z.dnscache := by
  cases z; exact ⟨rfl, rfl⟩
theorem erOut_keeps (z : Session) : (erOut z).fragsize = z.fragsize ∧ (erOut z).dnscache = z.dnscache := by
  cases z; exact ⟨rfl, rfl⟩

theorem map_users_eq {s s' : Srv} {β : Type} (g : Session → β) (hl : s'.users.length = s.users.length)
    (h : ∀ v, g (getUser s' v) = g (getUser s v)) : s'.users.map g = s.users.map g := by
  apply List.ext_getElem (by simp [hl])
  intro i h1 h2
  simp only [List.length_map] at h1 h2
  simp only [List.getElem_map]
  have k := h i
  unfold getUser at k
  simpa only [List.getD_eq_getElem?_getD, List.getElem?_eq_getElem h1, List.getElem?_eq_getElem h2,
    Option.getD_some] using k

/-- what does not see the fields `er` wipes has the same value in every slot before and after -/
theorem Frame.field {er : Session → Session} {U : Nat → Prop} {s s' : Srv} (h : Frame er U s s') {β : Type}
    (g : Session → β) (hg : ∀ z, g (er z) = g z) (v : Nat) : g (getUser s' v) = g (getUser s v) := by
  rw [← hg (getUser s' v), h.rel v, hg]

theorem Frame.map_eq {er : Session → Session} {U : Nat → Prop} {s s' : Srv} (h : Frame er U s s') {β : Type}
    (g : Session → β) (hg : ∀ z, g (er z) = g z) : s'.users.map g = s.users.map g :=
  map_users_eq g h.len (h.field g hg)

theorem Frame.toSlot_eq {U : Nat → Prop} {s s' : Srv} (h : Frame erIn U s s') :
    s'.users.map toSlot = s.users.map toSlot :=
  h.map_eq toSlot erIn_toSlot

theorem Frame.findUserByIp_eq {U : Nat → Prop} {s s' : Srv} (h : Frame erIn U s s') (ip : Nat) :
    findUserByIp s' ip = findUserByIp s ip := by
  unfold findUserByIp; rw [h.toSlot_eq, h.now]

end Iodine.C04L

namespace Iodine.Server

/-! ### the table as a list: its members after a write, the top of the loop, the model functions that are one write, and
predicates of every slot (`slots_*`) -/

theorem mem_modify_get {α} {f : α → α} {l : List α} {u : Nat} {y : α} (h : y ∈ l.modify u f) :
    y ∈ l ∨ ∃ x, l[u]? = some x ∧ y = f x := by
  obtain ⟨j, hj⟩ := List.mem_iff_getElem?.1 h
  by_cases hju : u = j
  · subst hju
    rw [List.getElem?_modify_eq] at hj
    cases hu : l[u]? with
    | none => rw [hu] at hj; cases hj
    | some x => rw [hu] at hj; exact Or.inr ⟨x, rfl, (Option.some.inj hj).symm⟩
  · rw [List.getElem?_modify_ne _ _ hju] at hj
    exact Or.inl (List.mem_of_getElem? hj)

theorem mem_modify {α} {f : α → α} {l : List α} {u : Nat} {y : α} (h : y ∈ l.modify u f) : y ∈ l ∨ ∃ x ∈ l, y = f x :=
  (mem_modify_get h).imp_right fun ⟨x, hx, hy⟩ => ⟨x, List.mem_of_getElem? hx, hy⟩

theorem mem_modify' {α} {f : α → α} (d : α) {l : List α} {u : Nat} {y : α} (h : y ∈ l.modify u f) :
    y ∈ l ∨ y = f (l.getD u d) :=
  (mem_modify_get h).imp_right fun ⟨x, hx, hy⟩ => by rw [hy, List.getD_eq_getElem?_getD, hx]; rfl

theorem length_clearNewFrom (now c : Nat) : ∀ (l : List Session) (i : Nat), (clearNewFrom now c l i).length = l.length
  | [], _ => rfl
  | _ :: xs, i => by rw [clearNewFrom, List.length_cons, List.length_cons, length_clearNewFrom now c xs]

theorem getElem?_clearNewFrom (now c : Nat) : ∀ (l : List Session) (i k : Nat),
    (clearNewFrom now c l i)[k]? =
      l[k]?.map (fun x => if i + k < c ∧ live x now then { x with qsNew := false } else x)
  | [], _, _ => rfl
  | _ :: _, _, 0 => rfl
  | _ :: xs, i, k + 1 => by
    rw [clearNewFrom, List.getElem?_cons_succ, List.getElem?_cons_succ, getElem?_clearNewFrom now c xs, Nat.add_right_comm,
      Nat.add_assoc]

theorem getUser_topOfLoop (s : Srv) (k : Nat) :
    getUser (topOfLoop s).1 k =
      if k < s.cfg.createdUsers ∧ live (getUser s k) s.now ∧ k < s.users.length then { getUser s k with qsNew := false }
      else getUser s k := by
  unfold getUser topOfLoop
  simp only [List.getD_eq_getElem?_getD, getElem?_clearNewFrom, Nat.zero_add]
  by_cases hk : k < s.users.length
  · simp only [List.getElem?_eq_getElem hk, Option.map_some, Option.getD_some, hk, and_true]
  · simp [hk]

/-- what the handlers of an iteration see of a slot: the slot as it was, up to `q_sendrealsoon_new` -/
theorem getUser_handlerPhase (s : Srv) (now' k : Nat) :
    ∃ b, getUser { (topOfLoop s).1 with now := now' } k = { getUser s k with qsNew := b } :=
  (getUser_topOfLoop s k).symm ▸ ite_both (P := fun y => ∃ b, y = { getUser s k with qsNew := b }) ⟨_, rfl⟩ ⟨_, rfl⟩

theorem userSwitchCodec_eq (s : Srv) (u : Nat) (e : Enc) :
    userSwitchCodec s u e = setUser s u fun x => { x with encoder := e } := by
  unfold userSwitchCodec
  split
  · next h => exact (C16L.setUser_oob s u _ (by unfold usercount at h; omega)).symm
  · rfl

theorem userSetConnType_eq (s : Srv) (u : Nat) (c : Conn) :
    userSetConnType s u c = setUser s u fun x => { x with conn := c } := by
  unfold userSetConnType
  split
  · next h => exact (C16L.setUser_oob s u _ (by unfold usercount at h; omega)).symm
  · rfl

theorem saveQuery_q {s : Srv} {u : Nat} (q : Query) (hu : u < s.users.length) : (getUser (saveQuery s u q) u).q = q := by
  unfold saveQuery; rw [C04L.getUser_setUser_self _ _ _ hu]

section Slots
variable {P : Session → Prop} {s : Srv}

theorem slots_getUser (h : ∀ x ∈ s.users, P x) (hz : P (Session.zero 0)) (u : Nat) : P (getUser s u) := by
  unfold getUser
  rw [List.getD_eq_getElem?_getD]
  cases hu : s.users[u]? with
  | none => exact hz
  | some x => exact h x (List.mem_of_getElem? hu)

theorem slots_setUser (h : ∀ x ∈ s.users, P x) (u : Nat) (f : Session → Session) (hf : ∀ x, P x → P (f x)) :
    ∀ x ∈ (setUser s u f).users, P x := by
  intro y hy
  unfold setUser at hy
  rcases mem_modify hy with hy | ⟨x, hx, rfl⟩
  · exact h y hy
  · exact hf x (h x hx)

theorem slots_setUser' (h : ∀ x ∈ s.users, P x) (u : Nat) (f : Session → Session) (hf : P (f (getUser s u))) :
    ∀ x ∈ (setUser s u f).users, P x := by
  intro y hy
  unfold setUser at hy
  rcases mem_modify' (Session.zero 0) hy with hy | rfl
  · exact h y hy
  · exact hf

theorem mem_clearNewFrom (now created : Nat) (l : List Session) (i : Nat) (y : Session)
    (hy : y ∈ clearNewFrom now created l i) : ∃ x ∈ l, y = x ∨ y = { x with qsNew := false } := by
  obtain ⟨k, hk⟩ := List.getElem?_of_mem hy
  rw [getElem?_clearNewFrom] at hk
  cases hl : l[k]? with
  | none => rw [hl] at hk; cases hk
  | some x =>
    rw [hl] at hk
    refine ⟨x, List.mem_of_getElem? hl, ?_⟩
    rw [← Option.some.inj hk]
    exact ite_both (P := fun z => z = x ∨ z = { x with qsNew := false }) (.inr rfl) (.inl rfl)

theorem slots_topOfLoop (h : ∀ x ∈ s.users, P x) (hq : ∀ x, P x → P { x with qsNew := false }) (now' : Nat) :
    ∀ x ∈ ({ (topOfLoop s).1 with now := now' } : Srv).users, P x := by
  intro y hy
  obtain ⟨x, hx, hxy⟩ := mem_clearNewFrom _ _ _ _ y hy
  rcases hxy with e | e <;> rw [e]
  · exact h x hx
  · exact hq x (h x hx)

theorem slots_start (hz : ∀ t, P (Session.zero t)) (cfg : Config) (rnd : List Nat) : ∀ x ∈ (start cfg rnd).users, P x := by
  intro x hx
  simp only [start, Srv.init, List.mem_map] at hx
  obtain ⟨t, _, rfl⟩ := hx
  exact hz t

end Slots

end Iodine.Server
