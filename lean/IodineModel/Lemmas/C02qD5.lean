import IodineModel.Lemmas.C02qD3
import IodineModel.Props.C02
import IodineModel.Lemmas.WorldFast
/-
C02 / downstream, immediate mode, desynchronised start — NON-VACUITY and the concrete witness of the finding.

`desyncC w d`: the joint state `w` with the client's downstream sequence number set back by `d`: from a synchronised
quiescent state this gives a state desynchronised by `d`, so every theorem about `QuietImmD P 0 d` has
instances.  `exD d` = the demo session `C02.exW` treated that way.
-/
namespace Iodine.C02L
open Iodine Iodine.Gen Iodine.World

/-- `w` with the client's `inpkt.seqno` set back by `d` (mod 8) -/
def desyncC (w : W) (d : Nat) : W :=
  { w with cs := ⟨{ w.cs.c with inpkt := { w.cs.c.inpkt with seqno := (w.cs.c.inpkt.seqno - (d : Int)) % 8 } }, w.cs.ph⟩ }

theorem quietImmD_desyncC {P : Par} {w : W} (h : QuietImm P w) (d : Nat) : QuietImmD P 0 d (desyncC w d) := by
  have hc := h.cst
  have hi := hc.iseq
  have hsi := h.srv.x.iseq
  refine ⟨h.ph, ⟨hc.running, hc.conn, hc.imm, hc.uid, hc.uch, hc.td, hc.L, hc.enc, hc.ty, hc.cid, hc.cmc, hc.alive, hc.oseq, ?_,
    hc.ifrag, hc.seed⟩, h.idleC, h.up, h.down, h.srv, h.idle, h.oq, ?_, ?_, h.aged, h.paged⟩
  · show 0 ≤ (w.cs.c.inpkt.seqno - (d : Int)) % 8 ∧ (w.cs.c.inpkt.seqno - (d : Int)) % 8 < 8
    omega
  · show w.cs.c.outpkt.seqno = ((Server.getUser w.srv P.u).inpacket.seqno + (0 : Nat)) % 8
    rw [h.syncu]
    have := hc.oseq
    omega
  · show (Server.getUser w.srv P.u).outpacket.seqno = ((w.cs.c.inpkt.seqno - (d : Int)) % 8 + (d : Int)) % 8
    rw [h.syncd]
    omega

theorem roomy_desyncC {P : Par} {w : W} (h : Roomy P w) (d : Nat) : Roomy P (desyncC w d) := ⟨h.to, h.cli, h.srv⟩

/-- the demo session of `Props/C02.lean`, desynchronised by `d` in the downstream direction -/
def exD (d : Nat) : W := desyncC C02.exW d

theorem exD_quiet (d : Nat) : QuietImmD C02.exP 0 d (exD d) := quietImmD_desyncC C02.ex_quiescent d

theorem exD_roomy (d : Nat) : Roomy C02.exP (exD d) := roomy_desyncC C02.ex_roomy d

/-- non-vacuity of `down_packet_imm_desync_drop`, and the theorem applied: on the demo session desynchronised by 4 the
two-fragment frame is lost after exactly 21 scheduler steps, the one-fragment frame after 3 -/
example : ∃ w', promptSteps 0 21 (step (exD 4) (.offerS (demoFrame 2 30))) = some w' ∧ QuietImmD C02.exP 0 5 w' ∧
    w'.tunC = [] ∧ w'.tunS = [] := by
  obtain ⟨w', h1, h2, h3, h4, _⟩ := down_packet_imm_desync_drop C02.exP_ok (exD_quiet 4) (by decide) (demoFrame 2 30)
    (by decide +kernel) (by decide) (by decide) (by decide +kernel) (exD_roomy 4).to (exD_roomy 4).cli (exD_roomy 4).srv
  have hg : downFrags (Server.getUser (exD 4).srv C02.exP.u).fragsize ((demoFrame 2 30).length + 1) ((demoFrame 2 30).length + 1) = 2 := by
    decide +kernel
  rw [hg] at h1
  exact ⟨w', h1, h2, h3, h4⟩

example : ∃ w', promptSteps 0 3 (step (exD 6) (.offerS (demoFrame 2 4))) = some w' ∧ QuietImmD C02.exP 0 7 w' ∧
    w'.tunC = [] ∧ w'.tunS = [] := by
  obtain ⟨w', h1, h2, h3, h4, _⟩ := down_packet_imm_desync_drop C02.exP_ok (exD_quiet 6) (by decide) (demoFrame 2 4)
    (by decide +kernel) (by decide) (by decide) (by decide +kernel) (exD_roomy 6).to (exD_roomy 6).cli (exD_roomy 6).srv
  have hg : downFrags (Server.getUser (exD 6).srv C02.exP.u).fragsize ((demoFrame 2 4).length + 1) ((demoFrame 2 4).length + 1) = 1 := by
    decide +kernel
  rw [hg] at h1
  exact ⟨w', h1, h2, h3, h4⟩

/-- A concrete run (the run of the five frames is evaluated by the kernel).  The demo
session, the server's downstream sequence number 4 ahead of the client's (what four downstream packets given up during a
downstream blackout leave behind), everything delivered promptly from now on:
* the same frame that the synchronised session delivers in 8 steps is LOST (21 steps, nothing written to either tun device);
* of five frames offered one after the other (each after the joint state is quiescent again) the first THREE are lost —
  those numbered 5, 6, 7 ahead —, the fourth (same number as the client's: taken through the "weird situation" clause,
  because the client's `inpkt.fragment` is 0) and the fifth arrive. -/
theorem desync_drops_new_packets_down_imm :
    QuietImmD C02.exP 0 4 (exD 4) ∧ Roomy C02.exP (exD 4) ∧
    runPromptCount 0 40 (step C02.exW (.offerS (demoFrame 2 30))) 0 =
      (runPrompt 0 40 (step C02.exW (.offerS (demoFrame 2 30))), 8) ∧
    (runPrompt 0 40 (step C02.exW (.offerS (demoFrame 2 30)))).tunC = [demoFrame 2 30] ∧
    runPromptCount 0 40 (step (exD 4) (.offerS (demoFrame 2 30))) 0 =
      (runPrompt 0 40 (step (exD 4) (.offerS (demoFrame 2 30))), 21) ∧
    (runPrompt 0 40 (step (exD 4) (.offerS (demoFrame 2 30)))).tunC = [] ∧
    (runPrompt 0 40 (step (exD 4) (.offerS (demoFrame 2 30)))).tunS = [] ∧
    quiet 0 (runPrompt 0 40 (step (exD 4) (.offerS (demoFrame 2 30)))) = true ∧
    (offerAllS 0 40 (exD 4) [demoFrame 2 30, demoFrame 2 4, demoFrame 2 31, demoFrame 2 5, demoFrame 2 32]).tunC =
      [demoFrame 2 5, demoFrame 2 32] := by
  -- the synchronised session: `down_packet_imm`; desynchronised by 4: `down_packet_imm_desync_drop`; only the run of the five
  -- frames, whose fourth is taken through the "weird situation" clause, is evaluated
  obtain ⟨w1, a1, a2, a3, _⟩ := down_packet_imm C02.exP_ok C02.ex_quiescent (demoFrame 2 30) (by decide +kernel)
    C02.ex_acceptable_down.1 C02.ex_roomy.to C02.ex_roomy.cli C02.ex_roomy.srv
  have hg1 : downSteps (downFrags (Server.getUser C02.exW.srv C02.exP.u).fragsize ((demoFrame 2 30).length + 1)
      ((demoFrame 2 30).length + 1)) = 8 := by decide +kernel
  rw [hg1] at a1
  obtain ⟨b1, b2⟩ := run_of_steps (u := 0) (fuel := 40) a1 a2.quiet (by decide)
  obtain ⟨w2, c1, c2, c3, c4, _⟩ := down_packet_imm_desync_drop C02.exP_ok (exD_quiet 4) (by decide) (demoFrame 2 30)
    (by decide +kernel) (by decide) (by decide) (by decide +kernel) (exD_roomy 4).to (exD_roomy 4).cli (exD_roomy 4).srv
  have hg2 : downFrags (Server.getUser (exD 4).srv C02.exP.u).fragsize ((demoFrame 2 30).length + 1) ((demoFrame 2 30).length + 1) = 2 := by
    decide +kernel
  rw [hg2] at c1
  obtain ⟨d1, d2⟩ := run_of_steps (u := 0) (fuel := 40) c1 c2.quiet (by decide)
  have hi : tunImage (demoFrame 2 30) = demoFrame 2 30 := by decide
  refine ⟨exD_quiet 4, exD_roomy 4, b1, ?_, d1, ?_, ?_, ?_, by rw [offerAllS_fast]; decide +kernel⟩
  · rw [b2, a3, hi]; rfl
  · rw [d2, c3]; rfl
  · rw [d2, c4]; rfl
  · rw [d2]; exact c2.quiet

end Iodine.C02L
