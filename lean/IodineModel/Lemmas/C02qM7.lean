import IodineModel.Lemmas.C02qM1
import IodineModel.Lemmas.WorldFastRun
/-
C02 / DOWNSTREAM, LAZY mode, desynchronised — the concrete WITNESS (`desync_drops_new_packets_down_lazy`),
kernel-evaluated runs of the joined model — `k` one-fragment packets offered to the server while every downstream datagram
is lost (`blackoutEvDown`), then the prompt schedule: `k = 5` → the next 2 packets are lost, `k = 6` → 1, `k = 7` → none
("weird situation"), `k = 4` → 3 if the next packet is offered at once, none if one idle ping exchange comes first (the
dataless answer is adopted) — while after `k = 5` that exchange does not help.
-/
namespace Iodine.C02L
open Iodine Iodine.Gen Iodine.World

/-- one packet offered to the server while every downstream datagram is lost: `offerS`, then three steps of the blackout
schedule (`dropDown` — the only fragment is lost, and the server has forgotten the packet —, `tickC` — the client's 4 s
`select` times out, it pings —, `deliverUp` — the server holds the ping) -/
def blackoutS (w : W) (f : List Nat) : W := runSched blackoutEvDown 3 (step w (.offerS f))

/-- the lazy demo session after `k` one-fragment packets were given up that way -/
def exBlack (k : Nat) : W := (List.replicate k (demoFrame 2 4)).foldl blackoutS exWL

/-- Concrete runs, evaluated by the kernel.  After `k` downstream packets were
given up during a blackout of the downstream direction the joint state is quiescent, nothing was delivered, and the server's
`outpacket.seqno` is `k` ahead of the client's `inpkt.seqno`.  Distinct one-fragment frames offered afterwards on a clean
path: `k = 5` — the first TWO are lost, `k = 6` — the first one, `k = 7` — none (the "weird situation" branch takes the
packet); `k = 4` — the first THREE if the next packet is offered at once, none if one idle ping exchange
(`tickC deliverUp deliverDown`: the server's dataless answer names a sequence number outside the window and is adopted)
comes first; after `k = 5` that exchange changes nothing (the number is inside the window: not adopted). -/
theorem desync_drops_new_packets_down_lazy :
    (∀ k ∈ [4, 5, 6, 7], quiet 0 (exBlack k) = true ∧ (exBlack k).tunC = [] ∧
      (Server.getUser (exBlack k).srv 0).outpacket.seqno = (k : Int) ∧ (exBlack k).cs.c.inpkt.seqno = 0 ∧
      (exBlack k).cs.c.lazymode = true) ∧
    (offerAllS 0 40 (exBlack 5) [demoFrame 2 1, demoFrame 2 2, demoFrame 2 3, demoFrame 2 4]).tunC = [demoFrame 2 3, demoFrame 2 4] ∧
    (offerAllS 0 40 (exBlack 6) [demoFrame 2 1, demoFrame 2 2, demoFrame 2 3]).tunC = [demoFrame 2 2, demoFrame 2 3] ∧
    (offerAllS 0 40 (exBlack 7) [demoFrame 2 1, demoFrame 2 2]).tunC = [demoFrame 2 1, demoFrame 2 2] ∧
    (offerAllS 0 40 (exBlack 4) [demoFrame 2 1, demoFrame 2 2, demoFrame 2 3, demoFrame 2 4, demoFrame 2 5]).tunC =
      [demoFrame 2 4, demoFrame 2 5] ∧
    (offerAllS 0 40 (run (exBlack 4) [.tickC, .deliverUp, .deliverDown]) [demoFrame 2 1, demoFrame 2 2]).tunC =
      [demoFrame 2 1, demoFrame 2 2] ∧
    (offerAllS 0 40 (run (exBlack 5) [.tickC, .deliverUp, .deliverDown]) [demoFrame 2 1, demoFrame 2 2, demoFrame 2 3]).tunC =
      [demoFrame 2 3] := by
  unfold exBlack blackoutS; rw [runSched_fast, offerAllS_fast, run_fast, step_fast]; decide +kernel

end Iodine.C02L
