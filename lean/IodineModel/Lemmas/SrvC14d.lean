import IodineModel.Lemmas.SrvC14a
import IodineModel.Lemmas.Steps
/-
Every handler is a `Keeps` or a `Takes` step; the sweep, one whole iteration, start-up.  `Keeps` holds of every primitive
step not tied to an arriving query (`keeps_closed`: such a step keeps the stored queries, answers a held one, or stores a
query without id), hence of every run of such steps: the handler phase for the other inputs, the sweep, and the two parts
of the ping and data handlers around the one place where the arriving query is stored.  The handshake and option handlers
answer the arriving query once and go through their case lists.  Beside the counting: the order of the answers within the
ping and data handlers (`pingFresh_older`, `dataFresh_older`), and NS / A responses go to the asker (`nsa_dst`).
-/
namespace Iodine.C14L
open Iodine Iodine.Server Iodine.Gen

theorem keeps_closed (arr : Query) {inp : Input} (hi : ∀ q, inp ≠ .q q) (K : Kind → Prop) :
    Closed inp K (Keeps arr) where
  nil := keeps_refl arr
  seq _ h1 h2 := h1.seq h2
  prim {s r} hp := by
    cases hp with
    | ctrl q _ _ hq | cached _ q _ hq | seen _ q hq | nsa q hq | save _ q _ hq | version q _ _ hq | fragsize q _ _ _ hq
    | dup _ _ q hq => exact absurd hq (hi q)
    | sweep | tunskip | raw | rly | tunw => exact keeps_same (SameQ.refl s) rfl
    | send u w hw => exact keeps_sc arr s u w hw
    | ctl u f hc =>
      cases hc with
      | park _ => exact keeps_parkQuery arr s u
      | _ => exact keeps_same (sameQ_setUser s u _ fun _ => rfl) rfl
    | rawLogin u src | rawPing u src => exact keeps_q0 s u _ rfl rfl rfl
    | outpkt u s' ho => exact keeps_same (.of_out ho.frame) rfl
    | rand => exact keeps_same (sameQ_popRand s) rfl
    | fwd q => exact keeps_same (sameQ_of_users rfl) rfl
    | upIn u a b pl => exact keeps_same (.of_frame ((frame_upIn s u a b pl).coarsen C04L.erMem_erIn)) rfl
    | resetIn u => exact keeps_same (sameQ_setUser s u _ fun _ => rfl) rfl
    | rawIn u src bytes => exact keeps_q0 s u _ rfl rfl rfl

theorem dispatch_keeps (arr : Query) (s : Srv) (inp : Input) (tunsel : Bool) (h : ∀ q, inp ≠ .q q) :
    Keeps arr s (dispatch s inp tunsel) :=
  (class_dispatch s inp tunsel).run.closed (keeps_closed arr h _)

/-- a run that could be taken on a timeout brings in no key -/
theorem keeps_run (arr : Query) {K : Kind → Prop} {s : Srv} {r : Res} (h : Run .tick K s r) : Keeps arr s r :=
  h.closed (keeps_closed arr (fun _ e => Input.noConfusion e) K)

theorem sweepFrom_keeps (arr : Query) (n i : Nat) (s : Srv) : Keeps arr s (sweepFrom n i s) :=
  keeps_run arr (run_sweepFrom .tick every n i s)

theorem sweepFrom_bal (arr : Query) (x : List Key) (n i : Nat) (s : Srv) : Bal arr s x (sweepFrom n i s) x :=
  Bal.mk' fun k => by have := (sweepFrom_keeps arr n i s).bal.cnt k; simp only [List.count_nil] at this; omega

theorem handleVersion_takes (arr : Query) (s : Srv) (q : Query) (inb : List Nat) :
    Takes arr q s (handleVersion s q inb) := by
  rcases C04L.handleVersion_cases s q inb with ⟨u, _, _, hs, he⟩ | ⟨hs, he | he⟩
  · -- the slot handed out is reset: it holds nothing afterwards
    rw [show handleVersion s q inb = (setUser (setUser (popRand (setUser s u (claim s.now))).2 u _) u resetSession, _) from
      Prod.ext hs he, C04L.setUser_setUser]
    have h1 : SameQ s (popRand (setUser s u (claim s.now))).2 :=
      (sameQ_setUser s u (claim s.now) fun _ => rfl).trans (sameQ_popRand _)
    exact takes_answer (Keeps.pre h1 (keeps_setUser _ u _ (fun k => by simp [resetSession, QQ, pairKeys, qKeys]) rfl))
      rfl fun _ => rfl
  · rw [show handleVersion s q inb = (_, _) from Prod.ext hs he]
    exact takes_answer (keeps_refl arr s) rfl fun _ => rfl
  · rw [show handleVersion s q inb = (_, _) from Prod.ext hs he]
    exact takes_answer (keeps_refl arr s) rfl fun _ => rfl

theorem handleLogin_takes (arr : Query) (s : Srv) (q : Query) (inb : List Nat) :
    Takes arr q s (handleLogin s q inb) := by
  refine handleLogin_ind s q inb (fun _ => takes_ctrl (SameQ.refl s))
    (fun _ => takes_ctrl (sameQ_setUser s _ _ fun _ => rfl)) fun _ _ _ _ _ => takes_ctrl ?_
  refine SameQ.set ?_ _ _ fun _ => rfl
  exact sameQ_setUser s _ _ fun _ => rfl

theorem handleIp_takes (arr : Query) (s : Srv) (q : Query) (inb : List Nat) : Takes arr q s (handleIp s q inb) := by
  obtain ⟨msg, h⟩ := handleIp_cases s q inb
  rw [h]; exact takes_ctrl (SameQ.refl _)

theorem handleSwitchCodec_takes (arr : Query) (s : Srv) (q : Query) (dlen : Nat) (inb : List Nat) :
    Takes arr q s (handleSwitchCodec s q dlen inb) := by
  rcases handleSwitchCodec_cases s q dlen inb with ⟨_, h⟩ | ⟨_, h | ⟨_, h⟩⟩ <;> rw [h]
  · exact takes_ctrl (SameQ.refl s)
  · exact takes_ctrl (SameQ.refl s)
  · exact takes_ctrl (sameQ_setUser _ _ _ fun _ => rfl)

theorem handleOptions_takes (arr : Query) (s : Srv) (q : Query) (dlen : Nat) (inb : List Nat) :
    Takes arr q s (handleOptions s q dlen inb) := by
  rcases handleOptions_cases s q dlen inb with ⟨_, h⟩ | ⟨_, h | ⟨_, _, h⟩ | ⟨_, _, h⟩⟩ <;> rw [h]
  · exact takes_ctrl (SameQ.refl s)
  · exact takes_ctrl (SameQ.refl s)
  · exact takes_ctrl (sameQ_setUser s _ _ fun _ => rfl)
  · exact takes_ctrl (sameQ_setUser s _ _ fun _ => rfl)

theorem handleDownCodecCheck_takes (arr : Query) (s : Srv) (q : Query) (dlen : Nat) (inb : List Nat) :
    Takes arr q s (handleDownCodecCheck s q dlen inb) := by
  obtain ⟨msg, d, h⟩ := handleDownCodecCheck_cases s q dlen inb
  rw [h]; exact takes_ctrl (SameQ.refl _)

theorem handleFragsizeProbe_takes (arr : Query) (s : Srv) (q : Query) (dlen : Nat) (inb : List Nat) :
    Takes arr q s (handleFragsizeProbe s q dlen inb) := by
  obtain ⟨msg, dn, h | h⟩ := handleFragsizeProbe_cases s q dlen inb <;> rw [h]
  · exact takes_ctrl (SameQ.refl s)
  · exact takes_ctrl (sameQ_popRand s)

theorem handleSetFragsize_takes (arr : Query) (s : Srv) (q : Query) (inb : List Nat) :
    Takes arr q s (handleSetFragsize s q inb) :=
  handleSetFragsize_ind s q inb (fun _ _ => takes_ctrl (SameQ.refl s)) fun _ _ _ _ =>
    takes_ctrl (sameQ_setUser s _ _ fun _ => rfl)

/-- the ping and data handlers behind their filters: steps that bring in no key, the arriving query stored, more such
steps -/
theorem pingFresh_takes (arr : Query) (s : Srv) (u : Nat) (q : Query) (unpacked : List Nat)
    (hu : u < s.users.length) (hid : q.id ≠ 0) (h2 : q.id2 = 0) : Takes arr q s (pingFresh s u q unpacked) := by
  obtain ⟨r1, r2, h1, h3, e⟩ := split_pingFresh (inp := .tick) (K := every) s u q unpacked hu hid
  rw [e]
  exact (keeps_run arr h1).save h2 (keeps_run arr h3)

theorem dataFresh_takes (arr : Query) (s : Srv) (u : Nat) (q : Query) (inb : List Nat)
    (hu : u < s.users.length) (hid : q.id ≠ 0) (h2 : q.id2 = 0) : Takes arr q s (dataFresh s u q inb) := by
  obtain ⟨r1, r2, h1, h3, e⟩ := split_dataFresh (inp := .tick) (K := every) trivial trivial s u q inb hu hid
  rw [e]
  exact (keeps_run arr h1).save h2 (keeps_run arr h3)

theorem filter_takes {arr q : Query} {s : Srv} {uid : Int} {fresh r : Res} (h : FilterRes s q uid fresh r)
    (hf : uid.toNat < s.users.length → q.id ≠ 0 → Takes arr q s fresh) : Takes arr q s r := by
  rcases h with rfl | rfl | ⟨hid, hchk, ⟨e, he, rfl⟩ | rfl | ⟨s', hd, rfl⟩ | rfl⟩
  · exact (keeps_refl arr s).takes
  · exact takes_ctrl (SameQ.refl _)
  · obtain ⟨_, _, _, rfl⟩ := answerFromDnscache_some he
    exact takes_answer (keeps_refl arr _) rfl fun _ => rfl
  · exact takes_answer (keeps_refl arr _) rfl fun _ => rfl
  · exact takes_dup hd
  · exact hf (C04L.lt_of_checkAuth hchk) hid

theorem handlePing_takes (arr : Query) (s : Srv) (q : Query) (inb : List Nat) (h2 : q.id2 = 0) :
    Takes arr q s (handlePing s q inb) :=
  filter_takes (handlePing_cases s q inb) fun hu hid => pingFresh_takes arr s _ q _ hu hid h2

theorem handleData_takes (arr : Query) (s : Srv) (q : Query) (dlen : Nat) (inb : List Nat) (h2 : q.id2 = 0) :
    Takes arr q s (handleData s q dlen inb) :=
  filter_takes (handleData_cases s q dlen inb) fun hu hid => dataFresh_takes arr s _ q inb hu hid h2

theorem handleNullRequest_takes (arr : Query) (s : Srv) (q : Query) (dlen : Nat) (h2 : q.id2 = 0) :
    Takes arr q s (handleNullRequest s q dlen) :=
  handleNullRequest_letter s q dlen (keeps_refl arr s).takes fun _ l _ => by
    cases l
    · exact handleVersion_takes arr s q _
    · exact handleLogin_takes arr s q _
    · exact handleIp_takes arr s q _
    · exact takes_ctrl (SameQ.refl _)
    · exact handleSwitchCodec_takes arr s q dlen _
    · exact handleOptions_takes arr s q dlen _
    · exact handleDownCodecCheck_takes arr s q dlen _
    · exact handleFragsizeProbe_takes arr s q dlen _
    · exact handleSetFragsize_takes arr s q _
    · exact handlePing_takes arr s q _ h2
    · exact handleData_takes arr s q dlen _ h2

theorem takes_nsa (s : Srv) (q : Query) : Takes q q s (s, [Event.nsa q.from_]) :=
  takes_answer (keeps_refl q s) rfl fun _ => rfl

theorem tunnelDns_takes (s : Srv) (q : Query) (h2 : q.id2 = 0) : Takes q q s (tunnelDns s q) := by
  refine tunnelDns_ind s q (keeps_refl q s).takes (fun f => ?_) (fun dlen _ _ => handleNullRequest_takes q s q dlen h2)
    (fun dlen => ?_) ?_
  · exact handleARequest_ind s q f (keeps_refl q s).takes (takes_nsa s q)
  · exact handleNsRequest_ind s q dlen (keeps_refl q s).takes (takes_nsa s q)
  · rw [forwardQuery]
    exact Keeps.takes (keeps_same (sameQ_of_users rfl) rfl)

theorem sameQ_topOfLoop (s : Srv) (now' : Nat) : SameQ s { (topOfLoop s).1 with now := now' } :=
  ⟨C04L.map_users_eq QQ (length_clearNewFrom _ _ _ _) fun v => by
    obtain ⟨b, hb⟩ := getUser_handlerPhase s now' v
    rw [hb]; rfl⟩

/-- what follows the handler phase is a run that could be taken on a timeout (`body_tail`) -/
theorem body_keeps {arr : Query} {s : Srv} (inp : Input) (tunsel : Bool) :
    ∃ r, Keeps arr (dispatch s inp tunsel).1 r ∧
      body s inp tunsel = (r.1, (dispatch s inp tunsel).2 ++ r.2) :=
  have ⟨t, ht, he, _⟩ := body_tail s inp tunsel
  ⟨t, keeps_run arr ht, he⟩

theorem iteration_le {arr : Query} {s : Srv} {inp : Input} {now' : Nat} {x : List Key}
    (hd : Bal arr { (topOfLoop s).1 with now := now' } x
      (dispatch { (topOfLoop s).1 with now := now' } inp (topOfLoop s).2.2) []) :
    Le (keysOf arr (out s ⟨inp, now'⟩) ++ held (next s ⟨inp, now'⟩)) (held s ++ x) := by
  obtain ⟨r, hr, he⟩ := body_keeps (arr := arr) (s := { (topOfLoop s).1 with now := now' }) inp (topOfLoop s).2.2
  intro k
  have a := hd.cnt k; have b := hr.bal.cnt k
  rw [(sameQ_topOfLoop s now').held_eq] at a
  unfold out next iteration
  dsimp only
  rw [he]
  simp only [keysOf_append, List.count_append, List.count_nil] at *
  omega

/-- key added to the monitor's pending multiset by an input -/
def inKeys : Input → List Key
  | .q q => [keyOf q]
  | _ => []

theorem iteration_q_le (s : Srv) (q : Query) (now' : Nat) (h2 : q.id2 = 0) :
    Le (keysOf q (out s ⟨.q q, now'⟩) ++ held (next s ⟨.q q, now'⟩)) (held s ++ [keyOf q]) :=
  iteration_le (tunnelDns_takes _ q h2).bal

theorem iteration_other_le (arr : Query) (s : Srv) (inp : Input) (now' : Nat) (hi : ∀ q, inp ≠ .q q) :
    Le (keysOf arr (out s ⟨inp, now'⟩) ++ held (next s ⟨inp, now'⟩)) (held s) := by
  have := iteration_le (dispatch_keeps arr { (topOfLoop s).1 with now := now' } inp (topOfLoop s).2.2 hi).bal
  rwa [List.append_nil] at this

def inArr : Input → List Key
  | .q q => arrKeys q
  | _ => []

theorem iteration_inc (s : Srv) (st : Step) (hwf : ∀ q, st.inp = .q q → q.id2 = 0) :
    Inc (inArr st.inp) s (next s st, out s st) := by
  obtain ⟨inp, now'⟩ := st
  obtain ⟨r, hr, he⟩ := body_keeps (arr := Query.zero) (s := { (topOfLoop s).1 with now := now' }) inp (topOfLoop s).2.2
  have hd : Inc (inArr inp) { (topOfLoop s).1 with now := now' }
      (dispatch { (topOfLoop s).1 with now := now' } inp (topOfLoop s).2.2) := by
    by_cases hq : ∃ q, inp = .q q
    · obtain ⟨q, rfl⟩ := hq
      exact (tunnelDns_takes _ q (hwf q rfl)).inc
    · exact (dispatch_keeps Query.zero _ inp _ fun q h => hq ⟨q, h⟩).inc.mono fun _ hk => nomatch hk
  have := (hd.seq (hr.inc.mono fun _ hk => nomatch hk)).preSameQ (sameQ_topOfLoop s now')
  unfold out next iteration
  dsimp only
  rw [he]
  exact this

theorem heldV_zero : ∀ l : List Nat, heldV ((l.map Session.zero).map QQ) = []
  | [] => rfl
  | a :: l => by
    have := heldV_zero l
    simp only [heldV, List.map_cons, List.flatMap_cons] at *
    rw [this]; rfl

theorem held_start (cfg : Config) (rnd : List Nat) : held (start cfg rnd) = [] := by
  unfold held qview start Srv.init
  exact heldV_zero _

theorem exists_id_bound : ∀ A : List Key, ∃ N, ∀ k ∈ A, k.2.1 < N
  | [] => ⟨0, by simp⟩
  | a :: A => by
    obtain ⟨N, hN⟩ := exists_id_bound A
    refine ⟨max N (a.2.1 + 1), ?_⟩
    intro k hk
    rcases List.mem_cons.1 hk with rfl | hk
    · omega
    · have := hN k hk; omega

/-- If the balance holds whatever query is taken as "the arriving one", no NS/A response was sent. -/
theorem no_nsa_of_forall_le (evs : List Event) (B A : List Key) (h : ∀ arr, Le (keysOf arr evs ++ B) A) :
    ∀ d, Event.nsa d ∉ evs := by
  intro d hd
  obtain ⟨N, hN⟩ := exists_id_bound A
  let arr : Query := { Query.zero with id := N }
  have hk : (d, N, ([] : List Nat), 0) ∈ keysOf arr evs := by
    unfold keysOf
    exact List.mem_flatMap.2 ⟨_, hd, by simp [evKeys, arr, Query.zero]⟩
  have h1 := h arr (d, N, [], 0)
  have h2 : 0 < (keysOf arr evs ++ B).count (d, N, [], 0) :=
    List.count_pos_iff.2 (List.mem_append_left _ hk)
  have h3 : (d, N, ([] : List Nat), 0) ∈ A := List.count_pos_iff.1 (by omega)
  have := hN _ h3
  simp at this

open Iodine.C04L

/-- the first `write_dns` of `send_chunk_or_dataless` for session `u`, answering the stored query `q0` -/
def FirstAns (u : Nat) (q0 : Query) (e : Event) : Prop := ∃ pkt dn, e = writeDns q0 pkt dn (.chunk u)

theorem sc_events_head (s : Srv) (u : Nat) (w : QSel) :
    ∃ e rest, (sendChunkOrDataless s u w).1.2 = e :: rest ∧ FirstAns u (w.get (getUser s u)) e := by
  obtain ⟨s3, pkt, dn, _, _, h5⟩ := sc_shape s u w
  rw [h5, scAnswer]
  exact ite_both (P := fun r : Query × List Event => ∃ e rest, r.2 = e :: rest ∧ FirstAns u (w.get (getUser s u)) e)
    ⟨_, _, rfl, pkt, dn, rfl⟩ ⟨_, _, rfl, pkt, dn, rfl⟩

theorem sc_QV_self (s : Srv) (u : Nat) (w : QSel) (hu : u < s.users.length) :
    ∃ a, QV (sendChunkOrDataless s u w).1.1 u = QQ (w.set (getUser s u) (clearId a)) := by
  obtain ⟨s3, pkt, dn, h3, h4, _⟩ := sc_shape s u w
  refine ⟨(scAnswer (w.get (getUser s u)) pkt dn u).1, ?_⟩
  rw [h4.qv u, QV_setUser, if_pos ⟨rfl, by rw [h3.len]; exact hu⟩]
  have := h3.qq u
  cases w <;> simp only [QSel.set, QQ] at this ⊢
  · rw [Prod.mk.injEq] at this; rw [this.2]
  · rw [Prod.mk.injEq] at this; rw [this.1]

theorem sc_QV_other (s : Srv) (u : Nat) (w : QSel) (v : Nat) (hv : v ≠ u) :
    QV (sendChunkOrDataless s u w).1.1 v = QV s v := by
  obtain ⟨s3, pkt, dn, h3, h4, _⟩ := sc_shape s u w
  rw [h4.qv v, QV_setUser, if_neg (fun h => hv h.1), h3.qv v]

theorem sc_post_qs (s : Srv) (u : Nat) (hu : u < s.users.length) :
    (getUser (sendChunkOrDataless s u .qs).1.1 u).q = (getUser s u).q ∧
    (getUser (sendChunkOrDataless s u .qs).1.1 u).qs.id = 0 := by
  obtain ⟨a, ha⟩ := sc_QV_self s u .qs hu
  rw [QV_eq] at ha
  simp only [QSel.set, QQ, Prod.mk.injEq] at ha
  exact ⟨ha.1, by rw [ha.2]; rfl⟩

theorem sc_post_q (s : Srv) (u : Nat) (hu : u < s.users.length) :
    (getUser (sendChunkOrDataless s u .q).1.1 u).qs = (getUser s u).qs ∧
    (getUser (sendChunkOrDataless s u .q).1.1 u).q.id = 0 := by
  obtain ⟨a, ha⟩ := sc_QV_self s u .q hu
  rw [QV_eq] at ha
  simp only [QSel.set, QQ, Prod.mk.injEq] at ha
  exact ⟨ha.2, by rw [ha.1]; rfl⟩

/-- ping: the held `q_sendrealsoon` is answered first (events `l1`), then the held `q` (events `l2`), then the new
query is stored (and possibly answered at once, events `l3`) -/
theorem pingFresh_older (s : Srv) (u : Nat) (q : Query) (unpacked : List Nat) (hu : u < s.users.length) :
    ∃ l1 l2 l3, (pingFresh s u q unpacked).2 = l1 ++ l2 ++ l3 ∧
      ((getUser s u).qs.id ≠ 0 → ∃ e rest, l1 = e :: rest ∧ FirstAns u (getUser s u).qs e) ∧
      ((getUser s u).q.id ≠ 0 → ∃ e rest, l2 = e :: rest ∧ FirstAns u (getUser s u).q e) := by
  unfold pingFresh
  extract_lets b s1 r1 t r2 didsend s3 x r3
  have hs1 : SameQ s s1 := .of_out (C04L.frame_processDownstreamAck _ _ _ _)
  have hu1 : u < s1.users.length := by rw [hs1.len]; exact hu
  clear_value s1
  refine ⟨r1.2, r2.1.2, r3.2, rfl, ?_, ?_⟩
  · intro hqs
    rw [← hs1.qs u] at hqs ⊢
    simp only [r1, if_pos hqs]
    exact sc_events_head s1 u .qs
  · intro hq
    have hq1 : (getUser r1.1 u).q = (getUser s u).q :=
      ite_both (P := fun r : Res => (getUser r.1 u).q = (getUser s u).q)
        ((sc_post_qs s1 u hu1).1.trans (hs1.q u)) (hs1.q u)
    clear_value r1
    rw [← hq1] at hq ⊢
    simp only [r2, t, if_pos hq]
    exact sc_events_head r1.1 u .q

/-- effect of a step on the two stored queries of slot `u`: nothing, or what `sendWaiting` does (answer the held
`q_sendrealsoon`; if there is none, answer the held `q`) -/
inductive Eff (u : Nat) (s : Srv) (r : Res) : Prop
  | none (h : QV r.1 u = QV s u)
  | qs (hqs : (getUser s u).qs.id ≠ 0) (hev : ∃ e rest, r.2 = e :: rest ∧ FirstAns u (getUser s u).qs e)
       (hq : (getUser r.1 u).q = (getUser s u).q) (h0 : (getUser r.1 u).qs.id = 0)
  | q (hqs : (getUser s u).qs.id = 0) (hq : (getUser s u).q.id ≠ 0)
       (hev : ∃ e rest, r.2 = e :: rest ∧ FirstAns u (getUser s u).q e)
       (hqs' : (getUser r.1 u).qs = (getUser s u).qs) (h0 : (getUser r.1 u).q.id = 0)

theorem Eff.preSameQ {u : Nat} {s s' : Srv} {r : Res} (h : SameQ s s') (he : Eff u s' r) : Eff u s r := by
  have hq := h.q u; have hqs := h.qs u
  cases he with
  | none h1 => exact .none (by rw [h1, h.qv u])
  | qs a b c d => rw [hqs] at a b; rw [hq] at c; exact .qs a b c d
  | q a b c d e => rw [hqs] at a d; rw [hq] at b c; exact .q a b c d e

theorem Eff.postSameQ {u : Nat} {s s' : Srv} {r : Res} (h : SameQ r.1 s') (he : Eff u s r) : Eff u s (s', r.2) := by
  have hq := h.q u; have hqs := h.qs u
  cases he with
  | none h1 => exact .none (by rw [h.qv u, h1])
  | qs a b c d => exact .qs a b (by rw [hq, c]) (by rw [hqs, d])
  | q a b c d e => exact .q a b c (by rw [hqs, d]) (by rw [hq, e])

theorem sendWaiting_eff (s : Srv) (u v : Nat) : Eff v s (sendWaiting s u) := by
  rw [sendWaiting]
  by_cases hv : v = u
  · subst hv
    refine ite_both' (fun h => ?_) fun h => ite_both' (fun h' => ?_) fun _ => .none rfl
    · have hu := lt_of_held s v .qs h
      exact .qs h (sc_events_head s v .qs) (sc_post_qs s v hu).1 (sc_post_qs s v hu).2
    · have hu := lt_of_held s v .q h'
      exact .q (Classical.not_not.1 h) h' (sc_events_head s v .q) (sc_post_q s v hu).1 (sc_post_q s v hu).2
  · exact ite_both (.none (sc_QV_other s u .qs v hv)) <| ite_both (.none (sc_QV_other s u .q v hv)) (.none rfl)

theorem eff_keep {u : Nat} {s s' : Srv} {evs : List Event} (h : SameQ s s') : Eff u s (s', evs) := .none (h.qv u)

theorem deliverToUser_eff (s : Srv) (t : Nat) (data : List Nat) (len : Nat) (v : Nat) :
    Eff v s (deliverToUser s t data len) := by
  rw [deliverToUser]
  exact ite_both (ite_both ((sendWaiting_eff _ t v).preSameQ (.of_out (C04L.frame_startNewOutpacket _ _ _ _)))
    (eff_keep (.of_out (C04L.frame_saveToOutpacketq _ _ _ _)))) (eff_keep (SameQ.refl _))

theorem handleFullPacket_eff (s : Srv) (u v : Nat) : Eff v s (handleFullPacket s u) := by
  obtain ⟨r, h, hr⟩ := handleFullPacket_cases s u
  have e : Eff v s r := by
    rcases hr with rfl | ⟨out, _, _, rfl⟩ | ⟨t, d, n, rfl⟩
    · exact eff_keep (SameQ.refl _)
    · exact eff_keep (SameQ.refl _)
    · exact deliverToUser_eff s t d n v
  rw [h]
  exact e.postSameQ (sameQ_setUser _ _ _ (fun _ => rfl))

theorem dataStepQs_spec (s : Srv) (u : Nat) (hu : u < s.users.length) :
    ((getUser s u).qs.id ≠ 0 → ∃ e rest, (dataStepQs s u).1.2 = e :: rest ∧ FirstAns u (getUser s u).qs e) ∧
    (getUser (dataStepQs s u).1.1 u).q = (getUser s u).q := by
  rw [dataStepQs_fst]
  by_cases h : (getUser s u).qs.id ≠ 0
  · rw [if_pos h]
    exact ⟨fun _ => sc_events_head s u .qs, (sc_post_qs s u hu).1⟩
  · rw [if_neg h]
    exact ⟨fun h' => absurd h' h, rfl⟩

theorem dataStepQ_spec (s : Srv) (u : Nat) (a b c : Bool) (h : (getUser s u).q.id ≠ 0) :
    (∃ e rest, (dataStepQ s u a b c).1.2 = e :: rest ∧ FirstAns u (getUser s u).q e) ∨
    (dataStepQ s u a b c = ((setUser s u parkQuery, []), true) ∧ (getUser s u).lazy = true) := by
  by_cases hc : ((getUser s u).outpacket.len > 0 ∧ !c) ∨ (a ∧ !b ∧ !c) ∨ (!a ∧ !c) ∨ !(getUser s u).lazy
  · left
    rw [dataStepQ_fst, if_pos h, if_pos hc]
    exact sc_events_head s u .q
  · right
    constructor
    · rw [dataStepQ]; dsimp only; rw [if_pos h, if_neg hc]; rfl
    · cases hl : (getUser s u).lazy
      · exact absurd (Or.inr (Or.inr (Or.inr (by simp [hl])))) hc
      · rfl

theorem tail_moved (s : Srv) (u : Nat) (q : Query) (a b : Bool) (hu : u < s.users.length)
    (hl : (getUser s u).lazy = true) :
    dataStepFinal (saveQuery (setUser s u parkQuery) u q) u a b true = (saveQuery (setUser s u parkQuery) u q, []) ∧
    (getUser (saveQuery (setUser s u parkQuery) u q) u).qs = (getUser s u).q := by
  have hx : getUser (saveQuery (setUser s u parkQuery) u q) u
      = { parkQuery (getUser s u) with q := q, lastPkt := (setUser s u parkQuery).now } := by
    unfold saveQuery
    rw [getUser_setUser_self _ _ _ (by rw [C04L.setUser_len]; exact hu), getUser_setUser_self _ _ _ hu]
  constructor
  · unfold dataStepFinal
    simp only [hx]
    simp [parkQuery, hl]
  · rw [hx]; rfl

/-- data: the held `q_sendrealsoon` is answered in `lA`; the held `q` is answered (after it, in `lB`, when both were
held) or moved to `q_sendrealsoon`; then the new query is stored -/
theorem dataFresh_older (s : Srv) (u : Nat) (q : Query) (inb : List Nat) (hu : u < s.users.length) :
    ∃ lA lB lC, (dataFresh s u q inb).2 = lA ++ lB ++ lC ∧
      ((getUser s u).qs.id ≠ 0 → ∃ e ∈ lA, FirstAns u (getUser s u).qs e) ∧
      ((getUser s u).q.id ≠ 0 →
        (∃ e ∈ lA ++ lB, FirstAns u (getUser s u).q e) ∨ (getUser (dataFresh s u q inb).1 u).qs = (getUser s u).q) ∧
      ((getUser s u).q.id ≠ 0 → (getUser s u).qs.id ≠ 0 →
        (∃ e ∈ lB, FirstAns u (getUser s u).q e) ∨ (getUser (dataFresh s u q inb).1 u).qs = (getUser s u).q) := by
  unfold dataFresh
  extract_lets b1 b2 b3 upSeq upFrag dnSeq dnFrag lastfrag s1 up upstreamOk s2 r3 r4 r5 s6 r7
  have hss : SameQ s s2 :=
    .of_frame ((C04L.frame_dataPre s u inb).coarsen C04L.erMem_erIn)
  clear_value s2
  have hr3 : Eff u s r3 ∧ r3.1.users.length = s.users.length :=
    ite_both (P := fun r : Res => Eff u s r ∧ r.1.users.length = s.users.length)
      ⟨(handleFullPacket_eff s2 u u).preSameQ hss, by rw [(frame_handleFullPacket s2 u).len, hss.len]⟩
      ⟨(eff_keep (SameQ.refl _)).preSameQ hss, hss.len⟩
  clear_value r3
  have hu3 : u < r3.1.users.length := by rw [hr3.2]; exact hu
  have h4 := dataStepQs_spec r3.1 u hu3
  have hu4 : u < r4.1.1.users.length := by rw [(frame_step (dataStepQs_cases r3.1 u)).len]; exact hu3
  refine ⟨r3.2 ++ r4.1.2, r5.1.2, r7.2, by simp only [List.append_assoc], ?_⟩
  rcases hr3.1 with h0 | ⟨hqs, hev, hq, hq0⟩ | ⟨hqs, hq, hev, hqs', hq0⟩
  case' q =>
    -- `q` was answered by the delivery of the packet to this very user
    obtain ⟨e, rest, he, hfa⟩ := hev
    have hm : e ∈ r3.2 := by rw [he]; exact List.mem_cons_self
    exact ⟨fun h => absurd hqs h, fun _ => Or.inl ⟨e, List.mem_append_left _ (List.mem_append_left _ hm), hfa⟩,
      fun _ h => absurd hqs h⟩
  all_goals
    -- after the packet delivery: `q` untouched, `q_sendrealsoon` untouched or answered
    have hq3 : (getUser r3.1 u).q = (getUser s u).q := by
      first
        | exact hq
        | (have := h0; rw [QV_eq, QV_eq, Prod.mk.injEq] at this; exact this.1)
    have hqs3 : (getUser s u).qs.id ≠ 0 → (∃ e ∈ r3.2, FirstAns u (getUser s u).qs e) ∨ (getUser r3.1 u).qs = (getUser s u).qs := by
      intro _
      first
        | (obtain ⟨e, rest, he, hfa⟩ := hev; exact Or.inl ⟨e, by rw [he]; exact List.mem_cons_self, hfa⟩)
        | (have := h0; rw [QV_eq, QV_eq, Prod.mk.injEq] at this; exact Or.inr this.2)
    have hC1 : (getUser s u).qs.id ≠ 0 → ∃ e ∈ r3.2 ++ r4.1.2, FirstAns u (getUser s u).qs e := by
      intro hne
      rcases hqs3 hne with ⟨e, he, hfa⟩ | heq
      · exact ⟨e, List.mem_append_left _ he, hfa⟩
      · rw [← heq] at hne
        obtain ⟨e, rest, he, hfa⟩ := h4.1 hne
        rw [heq] at hfa
        exact ⟨e, List.mem_append_right _ (by rw [he]; exact List.mem_cons_self), hfa⟩
    have hq4 : (getUser r4.1.1 u).q = (getUser s u).q := by rw [h4.2, hq3]
    clear_value r4
    have hB : (getUser s u).q.id ≠ 0 →
        (∃ e ∈ r5.1.2, FirstAns u (getUser s u).q e) ∨ (getUser r7.1 u).qs = (getUser s u).q := by
      intro hne
      rw [← hq4] at hne
      rcases dataStepQ_spec r4.1.1 u upstreamOk lastfrag r4.2 hne with ⟨e, rest, he, hfa⟩ | ⟨hmv, hlz⟩
      · rw [hq4] at hfa
        exact Or.inl ⟨e, by simp only [r5]; rw [he]; exact List.mem_cons_self, hfa⟩
      · right
        have t := tail_moved r4.1.1 u q upstreamOk lastfrag hu4 hlz
        simp only [r7, s6, r5, hmv]
        rw [t.1, t.2, hq4]
    exact ⟨hC1, fun hne => (hB hne).imp (fun ⟨e, he, hfa⟩ => ⟨e, List.mem_append_right _ he, hfa⟩) id,
      fun hne _ => hB hne⟩

theorem no_nsa_of_forall_bal {s : Srv} {x : List Key} {r : Res} {y : List Key} (h : ∀ arr, Bal arr s x r y) :
    ∀ d, Event.nsa d ∉ r.2 :=
  no_nsa_of_forall_le r.2 (held r.1 ++ y) (held s ++ x) (fun arr => by
    have := (h arr).le
    rwa [List.append_assoc] at this)

theorem tunnelDns_nsa (s : Srv) (q : Query) (h2 : q.id2 = 0) (d : Addr) :
    Event.nsa d ∈ (tunnelDns s q).2 → d = q.from_ := by
  have nil : Event.nsa d ∈ ((s, []) : Res).2 → d = q.from_ := fun h => nomatch h
  have one : Event.nsa d ∈ ((s, [Event.nsa q.from_]) : Res).2 → d = q.from_ := fun h => by simpa using h
  let P : Res → Prop := fun r => Event.nsa d ∈ r.2 → d = q.from_
  refine tunnelDns_ind (P := P) s q nil (fun f => handleARequest_ind (P := P) s q f nil one) (fun dlen _ _ h => ?_)
    (fun dlen => handleNsRequest_ind (P := P) s q dlen nil one) fun h => ?_
  · exact absurd h (no_nsa_of_forall_bal (fun arr => (handleNullRequest_takes arr s q _ h2).bal) d)
  · rw [forwardQuery] at h; simp at h

theorem nsa_dst (s : Srv) (inp : Input) (now' : Nat) (hwf : ∀ q, inp = .q q → q.id2 = 0) (d : Addr)
    (h : Event.nsa d ∈ out s ⟨inp, now'⟩) : ∃ q, inp = .q q ∧ d = q.from_ := by
  by_cases hq : ∃ q, inp = .q q
  · obtain ⟨q, rfl⟩ := hq
    refine ⟨q, rfl, ?_⟩
    have hout : out s ⟨.q q, now'⟩ =
        (tunnelDns { (topOfLoop s).1 with now := now' } q).2 ++ [Event.sweep] ++
          (sweep (tunnelDns { (topOfLoop s).1 with now := now' } q).1).2 := rfl
    rw [hout] at h
    rcases List.mem_append.1 h with h | h
    · rcases List.mem_append.1 h with h | h
      · exact tunnelDns_nsa _ q (hwf q rfl) d h
      · simp at h
    · exact absurd h (no_nsa_of_forall_bal (fun arr => sweepFrom_bal arr [] _ 0 _) d)
  · have hq' : ∀ q, inp ≠ .q q := fun q h => hq ⟨q, h⟩
    exact absurd h (no_nsa_of_forall_le _ _ _ (fun arr => iteration_other_le arr s inp now' hq') d)

end Iodine.C14L
