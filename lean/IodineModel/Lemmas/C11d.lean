import IodineModel.Lemmas.C11f
/-
C11: the downstream codec check (`DOWNCODECCHECK1`, 48 bytes) against the alphabets, for the 18 maps of
the family, by kernel evaluation (on the `fast` codecs of Lemmas/C11c.lean).
-/
namespace Iodine.C11L
open Iodine Iodine.Gen Iodine.Codec Iodine.Encoding

/-- Base64 (S), Base64u (U), Base128 (V): the relayed encoding of the check is decoded to the 48 bytes only if the map is the
identity on the whole alphabet.  TXT and host-name answers (CNAME / MX / SRV / A) both come down to this decoding
(`family_namedec`, Lemmas/C11f.lean).  (The identity test stands first, so that the evaluation runs only the maps that fail
it through the decoder.) -/
theorem down_check : ∀ dn ∈ [83, 85, 86], ∀ f ∈ familyFns, IdOn f (dnCodec dn).tbl ∨
    dec (dnCodec dn) NAMEDEC_CAP (encFull (dnCodec dn) DOWNCODECCHECK1).length
      ((encFull (dnCodec dn) DOWNCODECCHECK1).map f) ≠ DOWNCODECCHECK1 := by
  intro dn
  rw [← (dnCodec_ok dn).2.2.1]
  revert dn
  decide +kernel

/-- Raw (TXT only): the check passes only if the map is the identity on the bytes of the check string —
which are 36 of the 256 byte values. -/
theorem down_txt_raw : ∀ f ∈ familyFns,
    namedec NAMEDEC_CAP ((txtText 82 DOWNCODECCHECK1).map f) = DOWNCODECCHECK1 → IdOn f DOWNCODECCHECK1 := by
  decide +kernel

/-- without a relay the client decodes the check to the 48 bytes (the hypotheses above are satisfiable) -/
theorem down_clean_128 :
    namedec NAMEDEC_CAP (txtText 86 DOWNCODECCHECK1) = DOWNCODECCHECK1 ∧
    namedec NAMEDEC_CAP (nameenc 86 DOWNCODECCHECK1 97 97).1 = DOWNCODECCHECK1 := by
  decide +kernel

end Iodine.C11L
