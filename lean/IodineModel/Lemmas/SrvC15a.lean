import IodineModel.Lemmas.HandlerCases
import IodineModel.Lemmas.SrvC04b
import IodineModel.Lemmas.Steps
/-
C15, the property: (A) a data answer for a session carries at most the session's negotiated fragment size (plus the two
header bytes), replays from the answer cache included; (B) the fresh fragments of a session are numbered consecutively
and only the last of a packet carries the last-fragment flag.
This file, for (A): the fragment-size / answer-cache invariant `Inv`, what keeps it (`Pres`; from a frame of a function by
`pres_of_frame`) and the step predicate `Ok` (fragment sizes and cache invariant kept, data answers within the size).
Every primitive step but an accepted `V` or `N` satisfies `Ok` (`ok_closed`); `send_chunk_or_dataless` is the one step
that fills the cache and sends data; `V` and `N` change a fragment size, empty the cache and send no data
(`version_spec`, `fragsize_spec`).
-/
namespace Iodine.C15L
open Iodine Iodine.Server Iodine.Gen Iodine.C04L

@[simp] theorem setUser_cfg (s : Srv) (u : Nat) (f : Session → Session) : (setUser s u f).cfg = s.cfg := rfl
@[simp] theorem setUser_now (s : Srv) (u : Nat) (f : Session → Session) : (setUser s u f).now = s.now := rfl
@[simp] theorem setUser_rand (s : Srv) (u : Nat) (f : Session → Session) : (setUser s u f).rand = s.rand := rfl
@[simp] theorem setUser_fw (s : Srv) (u : Nat) (f : Session → Session) : (setUser s u f).fw = s.fw := rfl

/-- the downstream fragment size session `u` has negotiated (0 before the version handshake, then 100 until an `N`) -/
def F (s : Srv) (u : Nat) : Nat := (getUser s u).fragsize

/-- a cached answer may be replayed to a session with fragment size `fs`: header and at most `fs` bytes, and the
stored length is that of the stored answer -/
def EntryOK (fs : Nat) (e : DnsCacheEntry) : Prop :=
  e.answerlen ≤ fs + 2 ∧ e.answerlen ≤ 4096 ∧ (e.answerlen ≠ 0 → e.answer.length = e.answerlen)

def CacheOK (x : Session) : Prop := ∀ e ∈ x.dnscache, EntryOK x.fragsize e

/-- the state invariant of part (A) -/
def Inv (s : Srv) : Prop := ∀ u, CacheOK (getUser s u)

/-- going from session state `x` to `y` changed nothing part (A) cares about: the same fragment size, and a cache
that is still replayable if it was -/
def Keep (x y : Session) : Prop := y.fragsize = x.fragsize ∧ (CacheOK x → CacheOK y)

/-- `Keep` for every slot, with the configuration and the table size: what every function does that neither
negotiates a size nor stores an answer -/
def Pres (s s' : Srv) : Prop :=
  s'.cfg = s.cfg ∧ s'.users.length = s.users.length ∧ ∀ v, Keep (getUser s v) (getUser s' v)

theorem Keep.refl (x : Session) : Keep x x := ⟨rfl, id⟩

theorem Keep.trans {x y z : Session} (h1 : Keep x y) (h2 : Keep y z) : Keep x z :=
  ⟨h2.1.trans h1.1, fun h => h2.2 (h1.2 h)⟩

theorem keep_of_same {x y : Session} (h1 : y.fragsize = x.fragsize) (h2 : y.dnscache = x.dnscache) : Keep x y := by
  refine ⟨h1, ?_⟩
  unfold CacheOK
  rw [h1, h2]
  exact id

theorem Pres.refl (s : Srv) : Pres s s := ⟨rfl, rfl, fun _ => Keep.refl _⟩

theorem Pres.trans {a b c : Srv} (h1 : Pres a b) (h2 : Pres b c) : Pres a c :=
  ⟨h2.1.trans h1.1, h2.2.1.trans h1.2.1, fun v => (h1.2.2 v).trans (h2.2.2 v)⟩

theorem Pres.F {s s' : Srv} (h : Pres s s') (v : Nat) : F s' v = F s v := (h.2.2 v).1

theorem Pres.inv {s s' : Srv} (h : Pres s s') (hi : Inv s) : Inv s' := fun v => (h.2.2 v).2 (hi v)

theorem pres_of_users {s s' : Srv} (hc : s'.cfg = s.cfg) (hu : s'.users = s.users) : Pres s s' := by
  refine ⟨hc, by rw [hu], fun v => ?_⟩
  unfold getUser
  rw [hu]
  exact Keep.refl _

theorem pres_setUser (s : Srv) (u : Nat) (f : Session → Session) (h : Keep (getUser s u) (f (getUser s u))) :
    Pres s (setUser s u f) := by
  refine ⟨rfl, setUser_len s u f, fun v => ?_⟩
  rcases getUser_setUser_cases s u v f with h1 | ⟨rfl, h1⟩
  · rw [h1]; exact Keep.refl _
  · rw [h1]; exact h

theorem pres_setUser_same (s : Srv) (u : Nat) (f : Session → Session)
    (h1 : ∀ x, (f x).fragsize = x.fragsize) (h2 : ∀ x, (f x).dnscache = x.dnscache) :
    Pres s (setUser s u f) :=
  pres_setUser s u f (keep_of_same (h1 _) (h2 _))

theorem Pres.set {s0 s : Srv} (h : Pres s0 s) (u : Nat) (f : Session → Session)
    (h1 : ∀ x, (f x).fragsize = x.fragsize) (h2 : ∀ x, (f x).dnscache = x.dnscache) :
    Pres s0 (setUser s u f) :=
  h.trans (pres_setUser_same s u f h1 h2)

/-- the `data` of an answer carrying tunnel data for session `u` -/
def dataFor (u : Nat) : Event → Option (List Nat)
  | .ans _ _ _ _ _ data tag => if tag = .chunk u ∨ tag = .dupe u ∨ tag = .cached u then some data else none
  | _ => none

/-- the claim of part (A) about a list of events: every data answer among them is within the fragment size its
session has in `s` -/
def Bnd (s : Srv) (evs : List Event) : Prop :=
  ∀ e ∈ evs, ∀ u d, dataFor u e = some d → d.length ≤ F s u + 2 ∧ d.length ≤ 4096

/-- none of the events carries tunnel data (what holds of the handlers that change a fragment size) -/
def NoData (evs : List Event) : Prop := ∀ e ∈ evs, ∀ u, dataFor u e = none

theorem NoData.bnd {evs : List Event} (h : NoData evs) (s : Srv) : Bnd s evs := by
  intro e he u d hd
  rw [h e he u] at hd
  cases hd

@[simp] theorem noData_nil : NoData [] := by intro e he; cases he
@[simp] theorem bnd_nil (s : Srv) : Bnd s [] := by intro e he; cases he

theorem noData_append {a b : List Event} (ha : NoData a) (hb : NoData b) : NoData (a ++ b) := by
  intro e he
  rcases List.mem_append.1 he with h | h
  · exact ha e h
  · exact hb e h

theorem bnd_append {s : Srv} {a b : List Event} (ha : Bnd s a) (hb : Bnd s b) : Bnd s (a ++ b) := by
  intro e he
  rcases List.mem_append.1 he with h | h
  · exact ha e h
  · exact hb e h

theorem Bnd.of_F {s s' : Srv} {evs : List Event} (h : Bnd s evs) (hf : ∀ v, F s' v = F s v) : Bnd s' evs := by
  intro e he u d hd
  rw [hf u]
  exact h e he u d hd

@[simp] theorem dataFor_writeDns_ctrl (u : Nat) (q : Query) (d : List Nat) (dn : Nat) :
    dataFor u (writeDns q d dn) = none := by
  simp [writeDns, dataFor]

@[simp] theorem dataFor_writeDns_qmem (u v : Nat) (q : Query) (d : List Nat) (dn : Nat) :
    dataFor u (writeDns q d dn (.qmem v)) = none := by
  simp [writeDns, dataFor]

theorem noData_single_ctrl (q : Query) (d : List Nat) (dn : Nat) : NoData [writeDns q d dn] := by
  intro e he u
  simp only [List.mem_singleton] at he
  subst he
  simp

theorem noData_single_of {e : Event} (h : ∀ u, dataFor u e = none) : NoData [e] := by
  intro e' he u
  simp only [List.mem_singleton] at he
  subst he
  exact h u

theorem pres_of_frame {er : Session → Session} {U : Nat → Prop} {s s' : Srv} (h : C04L.Frame er U s s')
    (her : ∀ z, (er z).fragsize = z.fragsize ∧ (er z).dnscache = z.dnscache) : Pres s s' :=
  ⟨h.cfg, h.len, fun v => keep_of_same (h.field (·.fragsize) (fun z => (her z).1) v)
    (h.field (·.dnscache) (fun z => (her z).2) v)⟩

theorem pres_getFromOutpacketq (s : Srv) (u : Nat) : Pres s (getFromOutpacketq s u).1 :=
  pres_of_frame (frame_getFromOutpacketq s u) erOut_keeps

theorem pres_saveToQmemPingOrData (s : Srv) (u : Nat) (q : Query) : Pres s (saveToQmemPingOrData s u q) :=
  saveToQmemPingOrData_ind s u q (Pres.refl s) fun g hg =>
    pres_setUser_same s u g (fun x => by obtain ⟨_, _, _, _, h⟩ := hg x; rw [h])
      (fun x => by obtain ⟨_, _, _, _, h⟩ := hg x; rw [h])

theorem pres_dropOut (s : Srv) (u : Nat) : Pres s (setUser s u dropOut) :=
  pres_setUser_same _ _ _ (fun _ => rfl) (fun _ => rfl)

theorem pres_scDropResent (s : Srv) (u : Nat) : Pres s (scDropResent s u) :=
  pres_of_frame (frame_scDropResent s u) erOut_keeps

theorem pres_scPrepare (s : Srv) (u : Nat) : Pres s (scPrepare s u) :=
  pres_of_frame (frame_scPrepare s u) erOut_keeps

theorem pres_saveToDnscache (s : Srv) (u : Nat) (q : Query) (a : List Nat) (h : a.length ≤ F s u + 2) :
    Pres s (saveToDnscache s u q a) := by
  unfold saveToDnscache
  split
  · exact Pres.refl s
  · rename_i hl
    apply pres_setUser
    refine ⟨rfl, fun hc e he => ?_⟩
    dsimp only at he ⊢
    rcases List.mem_or_eq_of_mem_set he with h1 | h1
    · exact hc e h1
    · subst h1
      refine ⟨h, ?_, fun _ => rfl⟩
      simp only [DNSCACHE_ANSWER_SIZE] at hl
      dsimp only
      omega

theorem scPkt_length_le (x : Session) (n : Nat) : (scPkt x n).length ≤ n + 2 := by
  unfold scPkt
  simp only [List.length_append, List.length_cons, List.length_nil, List.length_take]
  omega

theorem pres_qselSet (s : Srv) (u : Nat) (w : QSel) (q : Query) :
    Pres s (setUser s u fun y => w.set y q) := by
  cases w <;> exact pres_setUser_same _ _ _ (fun _ => rfl) (fun _ => rfl)

/-- an answer tagged as data for session `u` counts for `u` alone -/
theorem bnd_writeDns (s : Srv) (q : Query) (d : List Nat) (dn u : Nat) {t : Tag}
    (ht : t = .chunk u ∨ t = .dupe u ∨ t = .cached u) (h : d.length ≤ F s u + 2 ∧ d.length ≤ 4096) :
    Bnd s [writeDns q d dn t] := by
  intro e he v d' hd
  rw [List.mem_singleton.1 he] at hd
  simp only [writeDns, dataFor] at hd
  split at hd
  · next hv =>
    have : v = u := by
      rcases ht with rfl | rfl | rfl <;> rcases hv with hv | hv | hv <;>
        first | (injection hv with hv; exact hv.symm) | cases hv
    subst this
    cases hd
    exact h
  · cases hd

theorem scAnswer_bnd (s : Srv) (q : Query) (pkt : List Nat) (dn u : Nat)
    (h : pkt.length ≤ F s u + 2 ∧ pkt.length ≤ 4096) : Bnd s (scAnswer q pkt dn u).2 := by
  unfold scAnswer
  split
  · exact bnd_append (bnd_writeDns s _ pkt dn u (.inl rfl) h) (bnd_writeDns s _ pkt dn u (.inr (.inl rfl)) h)
  · exact bnd_writeDns s _ pkt dn u (.inl rfl) h

theorem sendChunkOrDataless_spec (s : Srv) (u : Nat) (w : QSel) :
    Pres s (sendChunkOrDataless s u w).1.1 ∧ Bnd s (sendChunkOrDataless s u w).1.2 := by
  have h1 : Pres s (scPrepare (scDropResent s u) u) := (pres_scDropResent s u).trans (pres_scPrepare _ u)
  have hF : F (scPrepare (scDropResent s u) u) u = F s u := h1.F u
  have hlen : (scPkt (getUser (scPrepare (scDropResent s u) u) u)
      (scDatalen (getUser (scPrepare (scDropResent s u) u) u))).length ≤ F s u + 2 ∧
      (scPkt (getUser (scPrepare (scDropResent s u) u) u)
      (scDatalen (getUser (scPrepare (scDropResent s u) u) u))).length ≤ 4096 := by
    have a := scPkt_length_le (getUser (scPrepare (scDropResent s u) u) u)
      (scDatalen (getUser (scPrepare (scDropResent s u) u) u))
    have b := scDatalen_le (getUser (scPrepare (scDropResent s u) u) u)
    unfold F at hF
    unfold F
    omega
  have h2 := pres_saveToQmemPingOrData (scPrepare (scDropResent s u) u) u
    (scAnswer (w.get (getUser (scPrepare (scDropResent s u) u) u))
      (scPkt (getUser (scPrepare (scDropResent s u) u) u) (scDatalen (getUser (scPrepare (scDropResent s u) u) u)))
      (getUser (scPrepare (scDropResent s u) u) u).downenc u).1
  have h12 := h1.trans h2
  have h3 := pres_saveToDnscache _ u
    (scAnswer (w.get (getUser (scPrepare (scDropResent s u) u) u))
      (scPkt (getUser (scPrepare (scDropResent s u) u) u) (scDatalen (getUser (scPrepare (scDropResent s u) u) u)))
      (getUser (scPrepare (scDropResent s u) u) u).downenc u).1
    (scPkt (getUser (scPrepare (scDropResent s u) u) u) (scDatalen (getUser (scPrepare (scDropResent s u) u) u)))
    (by rw [h12.F u]; exact hlen.1)
  have h123 := h12.trans h3
  unfold sendChunkOrDataless
  dsimp only
  split
  · exact ⟨(h123.trans (pres_qselSet _ _ _ _)).trans ((pres_dropOut _ _).trans (pres_getFromOutpacketq _ _)),
      scAnswer_bnd s _ _ _ _ hlen⟩
  · exact ⟨h123.trans (pres_qselSet _ _ _ _), scAnswer_bnd s _ _ _ _ hlen⟩

theorem pres_sendChunk (s : Srv) (u : Nat) (w : QSel) : Pres s (sendChunkOrDataless s u w).1.1 :=
  (sendChunkOrDataless_spec s u w).1

theorem bnd_sendChunk (s : Srv) (u : Nat) (w : QSel) : Bnd s (sendChunkOrDataless s u w).1.2 :=
  (sendChunkOrDataless_spec s u w).2

/-- part (A) for a piece of a handler that negotiates nothing: nothing it does to the state matters (`Pres`) and its
data answers are within the sizes (`Bnd`) -/
def Ok (s : Srv) (r : Res) : Prop := Pres s r.1 ∧ Bnd s r.2

theorem ok_refl (s : Srv) : Ok s (s, []) := ⟨Pres.refl s, bnd_nil s⟩

theorem ok_noData {s s' : Srv} {evs : List Event} (h : Pres s s') (he : NoData evs) : Ok s (s', evs) :=
  ⟨h, he.bnd s⟩

theorem ok_ctrl (s : Srv) (q : Query) (d : List Nat) (dn : Nat) : Ok s (s, [writeDns q d dn]) :=
  ok_noData (Pres.refl s) (noData_single_ctrl q d dn)

theorem Ok.seq {s : Srv} {r1 r2 : Res} (h1 : Ok s r1) (h2 : Ok r1.1 r2) : Ok s (r2.1, r1.2 ++ r2.2) :=
  ⟨h1.1.trans h2.1, bnd_append h1.2 (h2.2.of_F (fun v => (h1.1.F v).symm))⟩

theorem noData_raw (a : Addr) (b : List Nat) : NoData [Event.raw a b] :=
  noData_single_of (fun _ => rfl)

theorem pres_popRand (s : Srv) : Pres s (popRand s).2 := pres_of_users (popRand_cfg s) (popRand_users s)

theorem getD_mem_or {α} (l : List α) (i : Nat) (d : α) : l.getD i d ∈ l ∨ l.getD i d = d := by
  rw [List.getD_eq_getElem?_getD]
  cases hg : l[i]? with
  | none => right; rfl
  | some e => left; exact List.mem_of_getElem? hg

theorem bnd_answerFromDnscache (s : Srv) (u : Nat) (q : Query) (e : Event) (hi : Inv s)
    (h : answerFromDnscache s u q = some e) : Bnd s [e] := by
  obtain ⟨c, hm, _, rfl⟩ := answerFromDnscache_some h
  refine bnd_writeDns s q _ _ u (.inr (.inr rfl)) ?_
  have := hi u c hm
  unfold EntryOK at this
  unfold F
  simp only [List.length_take]
  omega

def bufK : Kind → Prop
  | .inbuf | .tunw | .save => True
  | _ => False

/-- **Every step but an accepted `V` or `N` keeps the fragment sizes and the cache invariant, and its data answers
respect the fragment size.** -/
theorem ok_closed {inp : Input} : Closed inp bufK fun s r => Inv s → Ok s r where
  nil s _ := ok_refl s
  seq _ h1 h2 hi := (h1 hi).seq (h2 ((h1 hi).1.inv hi))
  prim {s r} hp hi := by
    have same : ∀ u (f : Session → Session), (∀ x, (f x).fragsize = x.fragsize ∧ (f x).dnscache = x.dnscache) →
        Ok s (setUser s u f, []) := fun u f h =>
      ok_noData (pres_setUser_same s u f (fun x => (h x).1) fun x => (h x).2) noData_nil
    cases hp with
    | ctrl q d dn => exact ok_ctrl s q d dn
    | cached u q e _ he => exact ⟨Pres.refl s, bnd_answerFromDnscache s u q e hi he⟩
    | seen u q => exact ok_noData (Pres.refl s) (noData_single_of fun _ => by simp)
    | nsa q => exact ok_noData (Pres.refl s) (noData_single_of fun _ => rfl)
    | sweep => exact ok_noData (Pres.refl s) (noData_single_of fun _ => rfl)
    | tunskip => exact ok_noData (Pres.refl s) (noData_single_of fun _ => rfl)
    | raw b n u c q => exact ok_noData (Pres.refl s) (noData_single_of fun _ => rfl)
    | rly a b => exact ok_noData (Pres.refl s) (noData_single_of fun _ => rfl)
    | tunw u out => exact ok_noData (Pres.refl s) (noData_single_of fun _ => rfl)
    | send u w => exact sendChunkOrDataless_spec s u w
    | ctl u f hc => exact same u f fun x => by cases hc <;> exact ⟨rfl, rfl⟩
    | dup u w q => exact same u _ fun x => by cases w <;> exact ⟨rfl, rfl⟩
    | save u q => exact same u _ fun _ => ⟨rfl, rfl⟩
    | rawLogin u src => exact same u _ fun _ => ⟨rfl, rfl⟩
    | rawPing u src => exact same u _ fun _ => ⟨rfl, rfl⟩
    | outpkt u s' ho => exact ok_noData (pres_of_frame ho.frame erOut_keeps) noData_nil
    | rand => exact ok_noData (pres_popRand s) noData_nil
    | fwd q => exact ok_noData (pres_of_users rfl rfl) (noData_single_of fun _ => rfl)
    | upIn u a b pl => exact ok_noData (pres_of_frame (frame_upIn s u a b pl) erIn_keeps) noData_nil
    | resetIn u => exact same u _ fun _ => ⟨rfl, rfl⟩
    | rawIn u src bytes => exact same u _ fun _ => ⟨rfl, rfl⟩
    | version q u hk => exact hk.elim
    | fragsize q dlen n hk => exact hk.elim

/-- what every handler guarantees (fragment sizes may change) -/
structure Ok2 (s : Srv) (r : Res) : Prop where
  cfg : r.1.cfg = s.cfg
  len : r.1.users.length = s.users.length
  inv : Inv s → Inv r.1
  bnd : Bnd r.1 r.2

theorem Ok.ok2 {s : Srv} {r : Res} (h : Ok s r) : Ok2 s r :=
  ⟨h.1.1, h.1.2.1, h.1.inv, h.2.of_F (fun v => h.1.F v)⟩

theorem cacheOK_resetSession (x : Session) : CacheOK (resetSession x) := by
  intro e he
  simp only [resetSession, clearDnscache, List.mem_map] at he
  obtain ⟨e0, _, rfl⟩ := he
  refine ⟨Nat.zero_le _, Nat.zero_le _, fun h => absurd rfl h⟩

/-- state after an accepted `V` for slot `u`: only slot `u` changed, it has fragment size 100 and an empty cache -/
theorem handleVersion_state (s : Srv) (q : Query) (u v : Nat) :
    getUser (versionState s q u) v =
      if v = u ∧ u < s.users.length then
        resetSession { claim s.now (getUser s u) with
          seed := (popRand (setUser s u (claim s.now))).1, host := q.from_, q := q, encoder := .b32, downenc := chT }
      else getUser s v := by
  have hlr : (popRand (setUser s u (claim s.now))).2.users.length = s.users.length := by
    rw [C04L.popRand_users]; exact setUser_len _ _ _
  unfold versionState versionPre
  rw [getUser_setUser, setUser_len, hlr]
  split
  · rename_i h
    rw [getUser_setUser, hlr, if_pos ⟨rfl, h.2⟩, getUser_popRand, getUser_setUser, if_pos ⟨rfl, h.2⟩]
  · rename_i h
    rw [getUser_setUser, hlr, if_neg h, getUser_popRand, getUser_setUser, if_neg h]

/-- `V`: what it does to the fragment sizes -/
def VCase (q : Query) (r : Res) (u : Nat) : Prop :=
  F r.1 u = 100 ∧ ∃ seed dn, writeDns q (ascii "VACK" ++ beBytes 4 seed ++ [u % 256]) dn ∈ r.2

theorem version_spec (s : Srv) (q : Query) (u : Nat) :
    let r := versionRes s q u
    Ok2 s r ∧ NoData r.2 ∧ ∀ v, F r.1 v ≠ F s v → VCase q r v := by
  have hst := handleVersion_state s q u
  have hnd : NoData [sendVersionResponse (versionPre s q u) .ack (popRand (setUser s u (claim s.now))).1 u q] :=
    noData_single_of (fun _ => by simp [sendVersionResponse])
  unfold versionRes versionState versionPre at *
  dsimp only at hst ⊢
  refine ⟨⟨by simp [C04L.popRand_cfg], by simp [C04L.popRand_users], fun hi v => ?_, hnd.bnd _⟩, hnd, fun v hv => ?_⟩
  · rw [hst v]
    exact ite_both (cacheOK_resetSession _) (hi v)
  · unfold F at hv
    rw [hst v] at hv
    by_cases h : v = u ∧ u < s.users.length
    · obtain ⟨rfl, hlt⟩ := h
      refine ⟨?_, _, _, List.mem_singleton.2 rfl⟩
      unfold F
      rw [hst v, if_pos ⟨rfl, hlt⟩]
      rfl
    · rw [if_neg h] at hv; exact absurd rfl hv

theorem cacheOK_clear (x : Session) (n : Nat) (b : Bool) :
    CacheOK { x with fragsize := n, optionsLocked := b, dnscache := clearDnscache x.dnscache } := by
  intro e he
  simp only [clearDnscache, List.mem_map] at he
  obtain ⟨e0, _, rfl⟩ := he
  refine ⟨Nat.zero_le _, Nat.zero_le _, fun h => absurd rfl h⟩

/-- `N` accepted for slot `u` -/
def NCase (s : Srv) (q : Query) (inb : List Nat) (r : Res) (u : Nat) : Prop :=
  3 ≤ (pingUnpacked inb).length ∧ charVal ((pingUnpacked inb).getD 0 0) = (u : Int) ∧
  checkAuthenticatedUserAndIpAndOptions s u q = false ∧
  2 ≤ fragsizeOf inb ∧ F r.1 u = fragsizeOf inb ∧
  writeDns q (((pingUnpacked inb).drop 1).take 2) (getUser s u).downenc ∈ r.2

theorem fragsize_spec (s : Srv) (q : Query) (inb : List Nat) (hlen : 3 ≤ (pingUnpacked inb).length)
    (hchk : checkAuthenticatedUserAndIpAndOptions s (pingUid inb) q = false) (hn : 2 ≤ fragsizeOf inb) :
    let r : Res := (setUser s (pingUid inb).toNat fun x =>
        { x with fragsize := fragsizeOf inb, optionsLocked := true, dnscache := clearDnscache x.dnscache },
      [writeDns q (((pingUnpacked inb).drop 1).take 2) (getUser s (pingUid inb).toNat).downenc])
    Ok2 s r ∧ NoData r.2 ∧ ∀ v, F r.1 v ≠ F s v → NCase s q inb r v := by
  dsimp only
  refine ⟨⟨rfl, setUser_len _ _ _, fun hi v => ?_, (noData_single_ctrl _ _ _).bnd _⟩, noData_single_ctrl _ _ _,
    fun v hv => ?_⟩
  · rcases getUser_setUser_cases s (pingUid inb).toNat v
      (fun x => { x with fragsize := fragsizeOf inb, optionsLocked := true, dnscache := clearDnscache x.dnscache })
      with h1 | ⟨_, h1⟩ <;> rw [h1]
    · exact hi v
    · exact cacheOK_clear _ _ _
  · unfold F at hv
    rw [getUser_setUser] at hv
    by_cases h : v = (pingUid inb).toNat ∧ (pingUid inb).toNat < s.users.length
    · obtain ⟨rfl, hlt⟩ := h
      have h0 := (C04L.checkUserAndIp_false _ _ _ (C04L.checkAuth_false _ _ _ (C04L.checkAuthOpt_false _ _ _ hchk)).1).1
      have hu : (((pingUid inb).toNat : Nat) : Int) = pingUid inb := Int.toNat_of_nonneg h0
      refine ⟨hlen, hu.symm, by rw [hu]; exact hchk, hn, ?_, List.mem_singleton.2 rfl⟩
      unfold F
      rw [getUser_setUser, if_pos ⟨rfl, hlt⟩]
    · rw [if_neg h] at hv; exact absurd rfl hv

end Iodine.C15L
