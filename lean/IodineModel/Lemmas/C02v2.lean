import IodineModel.Lemmas.C02a
import IodineModel.Lemmas.C02p
import IodineModel.Lemmas.C02v1
import IodineModel.Lemmas.C02u1
/-
The client's `tunnel_dns` on an accepted answer: from its normal form in Lemmas/Client (`Client.tunnelDns_eq`, `tdStages`) to
`tunnelDns_via`, which names the result of each stage, each stage on the inputs that select one of its branches, and a dataless
answer that acknowledges the fragment in flight.  Then the vocabulary of the clean-path proofs: the parameters of a session (`Par`),
what stays true of client and server throughout a run (`CStat`, `CStatL`, `XStat`, `SStat`), and the freshness of the server's
duplicate memories with respect to the data-CMC characters the client is going to use next (`Fresh`).
-/
namespace Iodine.C02L
open Iodine Iodine.Client Iodine.Gen Iodine.World

/-! ### `tunnel_dns` on an accepted answer -/

/-- an answer that is data (`notData = false`), has its two header bytes, is not BADIP and answers one of the three
remembered queries goes through the five stages (`Client.tunnelDns_eq` past its four tests) -/
theorem tunnelDns_accepted (c : Cli) (rq : Rq) (hn : notData c rq.name0 = false) (hrv : 2 ≤ rq.rv)
    (hbad : ¬ (rq.rv = 5 ∧ rq.buf.take 5 = ascii "BADIP")) (hid : recentId c rq.id = true) :
    tunnelDns c rq = tdStages c rq := by
  rw [tunnelDns_eq, if_neg (by rw [hn]; decide), if_neg (by omega), if_neg hbad, if_neg (by rw [hid]; decide)]

/-! ### the stages, each on the inputs that select one branch -/

theorem dupeSeqno_keep (c : Cli) (h : Hdr) (rd : Int)
    (hk : rd ≤ 2 ∨ h.dnSeq = c.inpkt.seqno ∨ recentSeqno c.inpkt.seqno h.dnSeq = false) : dupeSeqno c h rd = (c, rd) := by
  unfold dupeSeqno
  rw [if_neg]
  rintro ⟨h1, h2, h3⟩
  rcases hk with hk | hk | hk
  · omega
  · exact h2 hk
  · rw [hk] at h3; exact absurd h3 (by decide)

theorem lazyHint_other (c : Cli) (id : Nat) (h : c.lazymode = false ∨ id ≠ c.chunkid) : lazyHint c id = c := by
  unfold lazyHint
  rw [if_neg]
  rintro ⟨h1, h2⟩
  rcases h with h | h
  · rw [h] at h2; exact Bool.false_ne_true h2
  · exact h h1

theorem lazyHint_cur0 (c : Cli) (id : Nat) (hid : id = c.chunkid) (hlz : c.lazymode = true) (hs : c.sendPingSoon = 0) :
    lazyHint c id = { c with sendPingSoon := 900 } := by
  unfold lazyHint
  rw [if_pos ⟨hid, hlz⟩, if_pos (Or.inl hs)]

theorem datalessAdopt_keep (c : Cli) (h : Hdr) (rd : Int)
    (hk : rd ≠ 2 ∨ h.dnSeq = c.inpkt.seqno ∨ recentSeqno c.inpkt.seqno h.dnSeq = true) : datalessAdopt c h rd = c := by
  unfold datalessAdopt
  rw [if_neg]
  rintro ⟨h1, h2, h3⟩
  rcases hk with hk | hk | hk
  · exact hk h1
  · exact h2 hk
  · rw [hk] at h3; exact absurd h3 (by decide)

theorem downstream_dataless (c : Cli) (h : Hdr) (buf : List Nat) (sn : Bool) : downstream c h buf 2 sn = (c, [], sn) := by
  unfold downstream
  rw [if_neg (by omega)]

theorem sps0_of (c : Cli) (h : c.sendPingSoon = 0) : { c with sendPingSoon := 0 } = c := by
  cases c; simp_all

/-- the normal form with the result of each stage named -/
theorem tunnelDns_via (c : Cli) (rq : Rq) (hn : notData c rq.name0 = false) (hrv : 2 ≤ rq.rv)
    (hbad : ¬ (rq.rv = 5 ∧ rq.buf.take 5 = ascii "BADIP")) (hid : recentId c rq.id = true)
    {c1 c2 c' : Cli} {rd : Int} {evs : List CEvent} {sn : Bool}
    (hd : dupeSeqno { c with sendPingSoon := 0 } (decodeHdr rq.buf) rq.rv = (c1, rd))
    (hb : datalessAdopt (lazyHint (ackBook c1) rq.id) (decodeHdr rq.buf) rd = c2)
    (hds : downstream c2 (decodeHdr rq.buf) rq.buf rd (c.sendPingSoon != 0) = (c', evs, sn)) :
    tunnelDns c rq = upstream c' (decodeHdr rq.buf) evs sn rd := by
  rw [tunnelDns_accepted c rq hn hrv hbad hid]
  unfold tdStages
  simp only [hd, hb, hds]

theorem recentId_cur (c : Cli) : recentId c c.chunkid = true := by unfold recentId; simp

/-- … when no ping was due -/
theorem tunnelDns_via0 (c : Cli) (rq : Rq) (hn : notData c rq.name0 = false) (hrv : 2 ≤ rq.rv)
    (hbad : ¬ (rq.rv = 5 ∧ rq.buf.take 5 = ascii "BADIP")) (hid : recentId c rq.id = true) (hsps : c.sendPingSoon = 0)
    {c1 c2 c' : Cli} {rd : Int} {evs : List CEvent} {sn : Bool}
    (hd : dupeSeqno c (decodeHdr rq.buf) rq.rv = (c1, rd))
    (hb : datalessAdopt (lazyHint (ackBook c1) rq.id) (decodeHdr rq.buf) rd = c2)
    (hds : downstream c2 (decodeHdr rq.buf) rq.buf rd false = (c', evs, sn)) :
    tunnelDns c rq = upstream c' (decodeHdr rq.buf) evs sn rd :=
  tunnelDns_via c rq hn hrv hbad hid (by rw [sps0_of c hsps]; exact hd) hb (by rw [hsps]; exact hds)

/-- the bookkeeping stages when the lazy-mode hint does not apply and nothing is adopted -/
theorem book_other (c1 : Cli) (id : Nat) (h : Hdr) (rd : Int) (hlz : c1.lazymode = false ∨ id ≠ c1.chunkid)
    (hk : rd ≠ 2 ∨ h.dnSeq = c1.inpkt.seqno ∨ recentSeqno c1.inpkt.seqno h.dnSeq = true) :
    datalessAdopt (lazyHint (ackBook c1) id) h rd = ackBook c1 := by
  rw [lazyHint_other (ackBook c1) id hlz]; exact datalessAdopt_keep (ackBook c1) h rd hk

/-- … when the answer is to the most recent query in lazy mode -/
theorem book_cur (c : Cli) (id : Nat) (h : Hdr) (rd : Int) (hid : id = c.chunkid) (hlz : c.lazymode = true)
    (hk : rd ≠ 2 ∨ h.dnSeq = c.inpkt.seqno ∨ recentSeqno c.inpkt.seqno h.dnSeq = true) :
    datalessAdopt (lazyHint (ackBook { c with sendPingSoon := 0 }) id) h rd = hintBook c := by
  rw [lazyHint_cur0 (ackBook { c with sendPingSoon := 0 }) id hid hlz rfl]; exact datalessAdopt_keep (hintBook c) h rd hk

/-- `tunnel_dns` on a two-byte (dataless) answer — to a data query or a ping — to one of the three most recent queries that
announces no new downstream packet, when no ping is due: straight to the upstream-ack code.  In lazy mode the answer must
not be to the MOST recent query (else the hint "we shouldn't get much replies to our most-recent query" applies). -/
theorem tunnelDns_dataless (c : Cli) (rq : Rq) (hnd : notData c rq.name0 = false) (hrv : rq.rv = 2)
    (hid : recentId c rq.id = true) (hsps : c.sendPingSoon = 0) (hlz : c.lazymode = false ∨ rq.id ≠ c.chunkid)
    (hdn : (decodeHdr rq.buf).dnSeq = c.inpkt.seqno) :
    tunnelDns c rq = upstream (ackBook c) (decodeHdr rq.buf) [] false 2 :=
  tunnelDns_via0 c rq hnd (by omega) (by omega) hid hsps (c1 := c) (rd := 2)
    (by rw [hrv]; exact dupeSeqno_keep _ _ _ (Or.inl (by omega)))
    (book_other c _ _ _ hlz (Or.inr (Or.inl hdn))) (downstream_dataless _ _ _ _)

/-- the same through the step machine -/
theorem cstep_rq (c : Cli) (rq : Rq) (hrun : c.running = true) (hexp : ¬ c.lastdownstreamtime + 60 < c.now)
    (hconn : c.conn = .dnsNull) :
    cstep ⟨c, .tunnel⟩ (.rq rq) = settle (tunnelDns c rq) := by
  show tunnelStep c (.rq rq) = _
  have hfire : fire c (selectOf c) (.rq rq) = (c, .dns (.rq rq)) := rfl
  rw [tunnelStep_alive c _ hrun hconn (by rw [hfire]; exact hexp), hfire]
  simp only [tunnelDnsInput, hconn, if_true]

theorem cstep_tun (c : Cli) (f : List Nat) (hrun : c.running = true) (hexp : ¬ c.lastdownstreamtime + 60 < c.now)
    (hs : isSending c = false) (hf : f ≠ []) (hconn : c.conn = .dnsNull) :
    cstep ⟨c, .tunnel⟩ (.tun f) = settle (afterSend (sendChunk (newPacket c f)) [] (.tunChunk ((f.take 65536).length : Nat))) := by
  show tunnelStep c (.tun f) = _
  rw [tunnelStep_tun_accept c f hrun hconn hexp hs hf]

theorem settle_afterSend (s : Sent) (pre : List CEvent) (k : Resume) (hp : s.parked = false) (hr : s.c.running = true) :
    settle (afterSend s pre k) =
      (⟨{ s.c with sendPingSoon := 0 }, .tunnel⟩, pre ++ s.evs, .sel (selectOf { s.c with sendPingSoon := 0 })) := by
  have h1 : (afterSend s pre k) = ((resume s.c k).1, pre ++ s.evs, .ret (resume s.c k).2) := by
    unfold afterSend; simp [hp]
  rw [h1, resume_state]
  simp [settle, loopTop, hr]

/-! ### parameters and standing conditions -/

/-- parameters of a session -/
structure Par where
  u : Nat                 -- user id = slot
  td : List Nat           -- tunnel domain
  L : Nat                 -- host name limit (`-M`)
  ec : Client.Enc         -- upstream codec, client's view
  es : Server.Enc         -- … server's view
  ty : Nat                -- query type

def encMatch : Client.Enc → Server.Enc → Prop
  | .b32, .b32 | .b64, .b64 | .b64u, .b64u | .b128, .b128 => True
  | _, _ => False

theorem codec_of_encMatch {a : Client.Enc} {b : Server.Enc} (h : encMatch a b) : b.codec = a.codec := by
  cases a <;> cases b <;> first | rfl | exact absurd h (by simp [encMatch])

structure Par.Ok (P : Par) : Prop where
  hu : P.u < 16
  set : UpSetting P.ec.codec P.L P.td
  enc : encMatch P.ec P.es
  tty : TunnelType P.ty

theorem tunnelType_lt {ty : Nat} (h : TunnelType ty) : ty < 65536 := by
  unfold TunnelType at h
  rcases h with h | h | h | h | h | h | h <;> subst h <;> decide

/-- what stays true of the client during a run in immediate mode -/
structure CStat (P : Par) (c : Client.Cli) : Prop where
  running : c.running = true
  conn : c.conn = .dnsNull
  imm : c.lazymode = false
  uid : c.userid = (P.u : Int)
  uch : c.useridChar = hexLower P.u
  td : c.topdomain = P.td
  L : c.hostnameMaxlen = (P.L : Int)
  enc : c.dataenc = P.ec
  ty : c.doQtype = P.ty
  cid : c.chunkid < 65536
  cmc : c.datacmc < 36
  alive : ¬ c.lastdownstreamtime + 60 < c.now
  oseq : 0 ≤ c.outpkt.seqno ∧ c.outpkt.seqno < 8
  iseq : 0 ≤ c.inpkt.seqno ∧ c.inpkt.seqno < 8
  ifrag : 0 ≤ c.inpkt.fragment ∧ c.inpkt.fragment < 16
  seed : c.randSeed < 65536

/-- what stays true of the client during a run in lazy mode -/
structure CStatL (P : Par) (c : Client.Cli) : Prop where
  running : c.running = true
  conn : c.conn = .dnsNull
  lz : c.lazymode = true
  uid : c.userid = (P.u : Int)
  uch : c.useridChar = hexLower P.u
  td : c.topdomain = P.td
  L : c.hostnameMaxlen = (P.L : Int)
  enc : c.dataenc = P.ec
  ty : c.doQtype = P.ty
  cid : c.chunkid < 65536
  cmc : c.datacmc < 36
  alive : ¬ c.lastdownstreamtime + 60 < c.now
  oseq : 0 ≤ c.outpkt.seqno ∧ c.outpkt.seqno < 8
  iseq : 0 ≤ c.inpkt.seqno ∧ c.inpkt.seqno < 8
  ifrag : 0 ≤ c.inpkt.fragment ∧ c.inpkt.fragment < 16
  seed : c.randSeed < 65536

/-- what stays true of the server's slot -/
structure XStat (P : Par) (x : Server.Session) : Prop where
  active : x.active = true
  auth : x.authenticated = true
  enabled : x.disabled = false
  conn : x.conn = .dnsNull
  enc : x.encoder = P.es
  oseq : 0 ≤ x.outpacket.seqno ∧ x.outpacket.seqno < 8
  ofrag : 0 ≤ x.outpacket.fragment ∧ x.outpacket.fragment < 16
  iseq : 0 ≤ x.inpacket.seqno ∧ x.inpacket.seqno < 8
  ifrag : 0 ≤ x.inpacket.fragment ∧ x.inpacket.fragment < 16

/-- … and of the server -/
structure SStat (P : Par) (s : Server.Srv) : Prop where
  solo : Solo P.u s
  td : s.cfg.topdomain = P.td
  x : XStat P (Server.getUser s P.u)
  host : s.cfg.checkIp = false ∨ ((Server.getUser s P.u).host.fam = 4 ∧ (Server.getUser s P.u).host.ip = clientAddr.ip)
  live : s.now < (Server.getUser s P.u).lastPkt + 60

/-! ### freshness of the duplicate memories -/

/-- `ch` is one of the next `n` data-CMC characters when the counter is `k` -/
def InWin (k n ch : Nat) : Prop := ∃ i, i < n ∧ ch = cmcChar ((k + i) % 36)

/-- no remembered data query of this session and type carries one of the next `n` data-CMC characters -/
structure Fresh (P : Par) (x : Server.Session) (k n : Nat) : Prop where
  cache : ∀ e ∈ x.dnscache, e.q.type = P.ty → e.q.name.getD 0 0 = hexLower P.u → ¬ InWin k n (e.q.name.getD 4 0)
  qmem : ∀ e ∈ x.qmemdata, e.type = P.ty → ¬ InWin k n (e.cmc.getD 3 0)

theorem InWin.shrink {k n ch : Nat} (h : InWin ((k + 1) % 36) n ch) : InWin k (n + 1) ch := by
  obtain ⟨i, hi, he⟩ := h
  refine ⟨i + 1, by omega, ?_⟩
  rw [he]
  congr 1
  omega

theorem Fresh.mono {P : Par} {x : Server.Session} {k n m : Nat} (h : Fresh P x k n) (hm : m ≤ n) : Fresh P x k m :=
  ⟨fun e he h1 h2 ⟨i, hi, hc⟩ => h.cache e he h1 h2 ⟨i, by omega, hc⟩, fun e he h1 ⟨i, hi, hc⟩ => h.qmem e he h1 ⟨i, by omega, hc⟩⟩

theorem Fresh.next {P : Par} {x : Server.Session} {k n : Nat} (h : Fresh P x k (n + 1)) : Fresh P x ((k + 1) % 36) n :=
  ⟨fun e he h1 h2 hw => h.cache e he h1 h2 hw.shrink, fun e he h1 hw => h.qmem e he h1 hw.shrink⟩

theorem Fresh.cacheMiss {P : Par} {x : Server.Session} {k n : Nat} (h : Fresh P x k (n + 1)) (q : Server.Query)
    (hty : q.type = P.ty) (h0 : q.name.getD 0 0 = hexLower P.u) (h4 : q.name.getD 4 0 = cmcChar k) (hk : k < 36) :
    CacheMiss x q := by
  intro e he ⟨_, _, h3, h5⟩
  apply h.cache e he (h3.trans hty) (by rw [h5]; exact h0)
  refine ⟨0, by omega, ?_⟩
  rw [h5, h4]
  congr 1
  omega

end Iodine.C02L
