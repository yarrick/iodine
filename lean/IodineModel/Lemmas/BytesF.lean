import IodineModel.Server.Run
import IodineModel.Props.C10
import IodineModel.Lemmas.Ite
import IodineModel.Lemmas.SrvC04a
import IodineModel.Lemmas.C05Sb
/-
What a slot stores, through the slot functions one by one.

`SessOK x` (bytes): every byte list the server keeps for later answers — `outpacket.data`, the out-queue entries, `inpacket.data`
(forwarded to other users still compressed), the answer cache — consists of bytes, and a cache entry is at most 4096 bytes long
with `answerlen ≤` its length.  `C05L.SzOK x` (sizes, Lemmas/C05Sb): the lists kept for the C arrays fit them.  `SlotOK` is both,
`SlotInv s` says it of every slot (`DataInv`, `C05L.SzInv` are its two halves: `slotInv_iff`).  Each slot primitive of user.c and each
small helper of iodined.c is walked once, for both halves.  `AnsOK evs`: every `write_dns` among the events carries a byte string
of 2..4096 bytes, or the one byte "x".  In front: byte-list algebra and decimal strings.
-/
namespace Iodine.BytesL
open Iodine Iodine.Server Iodine.Gen Iodine.C10 Iodine.C05L

/-! ### byte lists -/

theorem isBytes_nil : IsBytes [] := fun _ h => by cases h
theorem isBytes_append {a b : List Nat} : IsBytes (a ++ b) ↔ IsBytes a ∧ IsBytes b := List.forall_mem_append
theorem isBytes_cons {a : Nat} {b : List Nat} : IsBytes (a :: b) ↔ a < 256 ∧ IsBytes b := List.forall_mem_cons
theorem isBytes_take {a : List Nat} (n : Nat) (h : IsBytes a) : IsBytes (a.take n) :=
  fun x hx => h x (List.mem_of_mem_take hx)
theorem isBytes_drop {a : List Nat} (n : Nat) (h : IsBytes a) : IsBytes (a.drop n) :=
  fun x hx => h x (List.mem_of_mem_drop hx)

theorem beBytes_bytes : ∀ n v, IsBytes (beBytes n v)
  | 0, _ => isBytes_nil
  | n + 1, v => by
    unfold beBytes
    exact isBytes_cons.2 ⟨Nat.mod_lt _ (by omega), beBytes_bytes n v⟩

/-! ### decimal strings -/

theorem natStr_ok (n k : Nat) (hk : 0 < k) (h : n < 10 ^ k) :
    IsBytes (n.repr.toList.map Char.toNat) ∧ (n.repr.toList.map Char.toNat).length ≤ k := by
  constructor
  · intro b hb
    simp only [List.mem_map] at hb
    obtain ⟨c, hc, rfl⟩ := hb
    rw [Nat.toList_repr] at hc
    have := Nat.isDigit_of_mem_toDigits (by decide) (by decide) hc
    simp only [Char.isDigit, Bool.and_eq_true, decide_eq_true_eq] at this
    have h2 : c.val ≤ 57 := this.2
    show c.val.toNat < 256
    have : c.val.toNat ≤ 57 := by simpa using UInt32.le_iff_toNat_le.mp h2
    omega
  · rw [List.length_map, String.length_toList]
    exact (Nat.length_repr_le_iff hk).2 h

theorem ipStr_ok (a : Nat) : IsBytes (ipStr a) ∧ (ipStr a).length ≤ 15 := by
  have h1 := natStr_ok (a / 2 ^ 24 % 256) 3 (by decide) (by omega)
  have h2 := natStr_ok (a / 2 ^ 16 % 256) 3 (by decide) (by omega)
  have h3 := natStr_ok (a / 2 ^ 8 % 256) 3 (by decide) (by omega)
  have h4 := natStr_ok (a % 256) 3 (by decide) (by omega)
  have hdot : List.map Char.toNat ".".toList = [46] := by decide
  unfold ipStr ascii
  simp only [String.toList_append, List.map_append, toString, hdot, isBytes_append, List.length_append,
    List.length_cons, List.length_nil]
  refine ⟨⟨⟨⟨⟨⟨⟨h1.1, ?_⟩, h2.1⟩, ?_⟩, h3.1⟩, ?_⟩, h4.1⟩, by omega⟩ <;> (intro x hx; simp at hx; omega)

/-! ### the invariant -/

structure SessOK (x : Session) : Prop where
  out : IsBytes x.outpacket.data
  inp : IsBytes x.inpacket.data
  oq : ∀ p ∈ x.outpacketq, IsBytes p.data
  dc : ∀ e ∈ x.dnscache, IsBytes e.answer ∧ e.answerlen ≤ e.answer.length ∧ e.answer.length ≤ 4096 ∧
    (e.answerlen = 0 ∨ 2 ≤ e.answerlen)

def DataInv (s : Srv) : Prop := ∀ x ∈ s.users, SessOK x

def AnsOK (evs : List Event) : Prop :=
  ∀ dst id ty dn name data tag, Event.ans dst id ty dn name data tag ∈ evs →
    IsBytes data ∧ (2 ≤ data.length ∨ data = [120]) ∧ data.length ≤ 4096

/-- what a slot stores consists of bytes and fits the arrays of `struct tun_user` -/
def SlotOK (x : Session) : Prop := SessOK x ∧ SzOK x

def SlotInv (s : Srv) : Prop := ∀ x ∈ s.users, SlotOK x

theorem slotInv_iff {s : Srv} : SlotInv s ↔ DataInv s ∧ SzInv s :=
  ⟨fun h => ⟨fun x hx => (h x hx).1, fun x hx => (h x hx).2⟩, fun h x hx => ⟨h.1 x hx, h.2 x hx⟩⟩

/-- what a handler has to establish: the slots stay good, every `write_dns` carries a byte string of 2..4096 bytes or the one byte "x"
(`AnsOK`), every other event fits the local buffer it is sent from -/
def Good (r : Res) : Prop := SlotInv r.1 ∧ AnsOK r.2 ∧ EvOK r.2

theorem sessOK_zero (t : Nat) : SessOK (Session.zero t) := by
  refine ⟨isBytes_nil, isBytes_nil, ?_, ?_⟩
  · intro p hp
    simp only [Session.zero, List.mem_replicate] at hp
    rw [hp.2]; exact isBytes_nil
  · intro e he
    simp only [Session.zero, List.mem_replicate] at he
    rw [he.2]; exact ⟨isBytes_nil, Nat.le_refl _, by decide, Or.inl rfl⟩

theorem SessOK.congr {x y : Session} (hx : SessOK x) (h1 : y.outpacket.data = x.outpacket.data := by rfl)
    (h2 : y.inpacket.data = x.inpacket.data := by rfl) (h3 : y.outpacketq = x.outpacketq := by rfl)
    (h4 : y.dnscache = x.dnscache := by rfl) : SessOK y :=
  ⟨h1 ▸ hx.out, h2 ▸ hx.inp, h3 ▸ hx.oq, h4 ▸ hx.dc⟩

theorem slotOK_zero (t : Nat) : SlotOK (Session.zero t) := ⟨sessOK_zero t, szOK_zero t⟩

theorem slotOK_getUser {s : Srv} (h : SlotInv s) (u : Nat) : SlotOK (getUser s u) := slots_getUser h (slotOK_zero 0) u

/-- a write to a slot; by default one that leaves alone every field the invariant looks at -/
theorem slotInv_setUser {s : Srv} (h : SlotInv s) (u : Nat) (f : Session → Session)
    (hf : ∀ x, SlotOK x → SlotOK (f x) := by exact fun _ hx => ⟨hx.1.congr, hx.2.congr⟩) : SlotInv (setUser s u f) :=
  slots_setUser h u f hf

theorem dataInv_setUser' {s : Srv} (h : DataInv s) (u : Nat) (f : Session → Session)
    (hf : SessOK (f (getUser s u))) : DataInv (setUser s u f) := slots_setUser' h u f hf

theorem slotInv_users {s s' : Srv} (h : SlotInv s) (hu : s'.users = s.users) : SlotInv s' := by
  unfold SlotInv; rw [hu]; exact h

theorem ansOK_nil : AnsOK [] := fun _ _ _ _ _ _ _ h => by cases h
theorem ansOK_append {a b : List Event} (ha : AnsOK a) (hb : AnsOK b) : AnsOK (a ++ b) := by
  intro dst id ty dn name data tag h
  rcases List.mem_append.1 h with h | h
  · exact ha _ _ _ _ _ _ _ h
  · exact hb _ _ _ _ _ _ _ h
theorem ansOK_writeDns (q : Query) (d : List Nat) (dn : Nat) (tag : Tag) (hb : IsBytes d) (h1 : 2 ≤ d.length ∨ d = [120])
    (h2 : d.length ≤ 4096) : AnsOK [writeDns q d dn tag] := by
  intro dst id ty dn' name data tag' h
  simp only [writeDns, List.mem_singleton, Event.ans.injEq] at h
  obtain ⟨_, _, _, _, _, rfl, _⟩ := h
  exact ⟨hb, h1, h2⟩
theorem ansOK_noans {e : Event} (h : ∀ dst id ty dn name data tag, e ≠ Event.ans dst id ty dn name data tag) : AnsOK [e] :=
  fun dst id ty dn name data tag he => absurd (List.mem_singleton.1 he).symm (h dst id ty dn name data tag)
theorem ansOK_sendRaw (b : List Nat) (l u c : Nat) (q : Query) : AnsOK [sendRaw b l u c q] :=
  ansOK_noans (by intros; simp [sendRaw])

theorem ansOK_const (q : Query) (str : String) (dn : Nat) (tag : Tag)
    (h : IsBytes (ascii str) ∧ (2 ≤ (ascii str).length ∨ ascii str = [120]) ∧ (ascii str).length ≤ 4096 := by decide) :
    AnsOK [writeDns q (ascii str) dn tag] := ansOK_writeDns q _ dn tag h.1 h.2.1 h.2.2

/-! ### user.c and the small helpers -/

theorem slotInv_popRand {s : Srv} (h : SlotInv s) : SlotInv (popRand s).2 := by
  unfold popRand
  split
  · exact h
  · exact slotInv_users h rfl

theorem slotInv_startNewOutpacket {s : Srv} (h : SlotInv s) (u : Nat) (d : List Nat) (n : Nat) (hd : IsBytes d) :
    SlotInv (startNewOutpacket s u d n) := by
  unfold startNewOutpacket
  exact slotInv_setUser h _ _ fun x hx =>
    ⟨⟨isBytes_take _ hd, hx.1.inp, hx.1.oq, hx.1.dc⟩, { hx.2.congr (h7 := rfl) with out := take_min_le d n _ }⟩

theorem slotInv_saveToOutpacketq {s : Srv} (h : SlotInv s) (u : Nat) (d : List Nat) (n : Nat) (hd : IsBytes d) :
    SlotInv (saveToOutpacketq s u d n).1 := by
  unfold saveToOutpacketq
  extract_lets x
  split
  · exact h
  · refine slotInv_setUser h _ _ fun y hy =>
      ⟨⟨hy.1.out, hy.1.inp, ?_, hy.1.dc⟩, { hy.2.congr (h8 := rfl) with oq := ?_ }⟩
    all_goals
      intro p hp
      rcases mem_modify hp with hp | ⟨p0, _, rfl⟩
    · exact hy.1.oq p hp
    · exact isBytes_take _ hd
    · exact hy.2.oq p hp
    · exact take_min_le d n _

theorem slotInv_getFromOutpacketq {s : Srv} (h : SlotInv s) (u : Nat) : SlotInv (getFromOutpacketq s u).1 := by
  unfold getFromOutpacketq
  extract_lets x use p s1 use'
  split
  · exact h
  · have hp : IsBytes p.data := by
      simp only [p]
      rw [List.getD_eq_getElem?_getD]
      cases hq : x.outpacketq[use]? with
      | none => exact isBytes_nil
      | some p0 => exact (slotOK_getUser h u).1.oq p0 (List.mem_of_getElem? hq)
    exact slotInv_setUser (slotInv_startNewOutpacket h u _ _ hp) _ _

/-- the answer cached is a byte string of at least 2 bytes (longer than 4096 it is not stored), under a name that fits -/
theorem slotInv_saveToDnscache {s : Srv} (h : SlotInv s) (u : Nat) (q : Query) (a : List Nat) (ha : IsBytes a)
    (ha2 : 2 ≤ a.length) (hq : q.name.length ≤ 255) : SlotInv (saveToDnscache s u q a) := by
  unfold saveToDnscache
  split
  · exact h
  · rename_i hlen
    refine slotInv_setUser h _ _ fun y hy => ?_
    have hfill : (if y.dcLast + 1 ≥ DNSCACHE_LEN then 0 else y.dcLast + 1) < 4 := by
      by_cases hc : y.dcLast + 1 ≥ DNSCACHE_LEN
      · rw [if_pos hc]; decide
      · rw [if_neg hc]; simp only [DNSCACHE_LEN] at hc; omega
    refine ⟨⟨hy.1.out, hy.1.inp, hy.1.oq, ?_⟩, { hy.2.congr (h3 := rfl) (h4 := rfl) with dcn := ?_, dcl := ?_, dci := hfill }⟩
    · intro e he
      rcases List.mem_or_eq_of_mem_set he with he | rfl
      · exact hy.1.dc e he
      · exact ⟨ha, Nat.le_refl _, by simp only [DNSCACHE_ANSWER_SIZE] at hlen; show a.length ≤ 4096; omega, Or.inr ha2⟩
    · intro e he
      rcases List.mem_or_eq_of_mem_set he with he | rfl
      · exact hy.2.dcn e he
      · exact hq
    · show (y.dnscache.set _ _).length = 4
      rw [List.length_set]; exact hy.2.dcl

theorem slotInv_saveToQmemPingOrData {s : Srv} (h : SlotInv s) (u : Nat) (q : Query) : SlotInv (saveToQmemPingOrData s u q) := by
  unfold saveToQmemPingOrData
  extract_lets c0
  split
  · split
    · exact h
    · extract_lets cmc
      split
      · exact h
      · rename_i hc
        refine slotInv_setUser h _ _ fun x hx => ⟨hx.1.congr, ?_⟩
        have h4 : (cmc.take 4).length = 4 := by rw [List.length_take]; omega
        have := saveToQmem_ok (last := x.qmempingLast) (cmc.take 4) q.type hx.2.qpl hx.2.qpc (by decide) h4
        exact { hx.2.congr (h9 := rfl) (h10 := rfl) with qpl := this.1, qpc := this.2.1, qpi := this.2.2 }
  · split
    · exact h
    · refine slotInv_setUser h _ _ fun x hx => ⟨hx.1.congr, ?_⟩
      have := saveToQmem_ok (last := x.qmemdataLast) (dataCmc q.name) q.type hx.2.qdl hx.2.qdc (by decide) (dataCmc_length _)
      exact { hx.2.congr (h11 := rfl) (h12 := rfl) with qdl := this.1, qdc := this.2.1, qdi := this.2.2 }

theorem slotInv_scDropResent {s : Srv} (h : SlotInv s) (u : Nat) : SlotInv (scDropResent s u) := by
  unfold scDropResent
  extract_lets x
  exact ite_both (slotInv_getFromOutpacketq (slotInv_setUser h u dropOut) u) h

theorem slotInv_scPrepare {s : Srv} (h : SlotInv s) (u : Nat) : SlotInv (scPrepare s u) := by
  unfold scPrepare
  split
  · exact slotInv_setUser h _ _
  · exact h

theorem slotInv_processDownstreamAck {s : Srv} (h : SlotInv s) (u : Nat) (a b : Int) : SlotInv (processDownstreamAck s u a b) := by
  unfold processDownstreamAck
  extract_lets x off s1
  have h1 : SlotInv s1 := slotInv_setUser h _ _
  exact ite_both h <| ite_both h <| ite_both h <| ite_both (slotInv_getFromOutpacketq (slotInv_setUser h1 _ _) u) h1

theorem slotInv_saveQuery {s : Srv} (h : SlotInv s) (u : Nat) (q : Query) (hq : q.name.length ≤ 255) : SlotInv (saveQuery s u q) := by
  unfold saveQuery
  exact slotInv_setUser h _ _ fun x hx => ⟨hx.1.congr, { hx.2.congr (h1 := rfl) with qn := hq }⟩

theorem clearDnscache_answer {c : List DnsCacheEntry}
    (h : ∀ e ∈ c, IsBytes e.answer ∧ e.answerlen ≤ e.answer.length ∧ e.answer.length ≤ 4096 ∧
      (e.answerlen = 0 ∨ 2 ≤ e.answerlen)) :
    ∀ e ∈ clearDnscache c, IsBytes e.answer ∧ e.answerlen ≤ e.answer.length ∧ e.answer.length ≤ 4096 ∧
      (e.answerlen = 0 ∨ 2 ≤ e.answerlen) :=
  List.forall_mem_map.2 fun e he => ⟨(h e he).1, Nat.zero_le _, (h e he).2.2.1, Or.inl rfl⟩

theorem slotOK_resetSession {x : Session} (hx : SlotOK x) : SlotOK (resetSession x) :=
  ⟨⟨hx.1.out, hx.1.inp, hx.1.oq, clearDnscache_answer hx.1.dc⟩, szOK_resetSession hx.2⟩

/-! ### the upstream buffer, the held queries -/

theorem slotOK_dataUpstream {x : Session} (hx : SlotOK x) (a b : Nat) : SlotOK (dataUpstream x a b).1 := by
  unfold dataUpstream
  exact ite_both (P := fun r : Session × Bool => SlotOK r.1) hx <| ite_both (P := fun r : Session × Bool => SlotOK r.1) hx <|
    ite_both (P := fun r : Session × Bool => SlotOK r.1)
      ⟨hx.1.congr, { hx.2.congr (h6 := rfl) with inoff := Nat.zero_le _ }⟩ ⟨hx.1.congr, hx.2.congr⟩

/-- what `unpack_data` decoded consists of bytes; it is cut to what is left of `data[64K]` behind `offset` -/
theorem slotOK_dataStore {x : Session} (hx : SlotOK x) (p : List Nat) : SlotOK (dataStore x p) := by
  unfold dataStore
  extract_lets unpacked chunk
  have hc : chunk.length ≤ 65536 - x.inpacket.offset := by
    simp only [chunk, List.length_take, PACKET_DATA_SIZE]; omega
  have ho := hx.2.inoff
  refine ⟨⟨hx.1.out, ?_, hx.1.oq, hx.1.dc⟩, { hx.2.congr (h5 := rfl) (h6 := rfl) with inp := ?_, inoff := ?_ }⟩
  · exact isBytes_append.2 ⟨isBytes_take _ hx.1.inp, isBytes_take _ (Encoding.unpackData_bytes _ _ _)⟩
  · show (x.inpacket.data.take x.inpacket.offset ++ chunk).length ≤ 65536
    rw [List.length_append, List.length_take]; omega
  · show x.inpacket.offset + chunk.length ≤ 65536
    omega

theorem slotOK_qset {x : Session} (hx : SlotOK x) (w : QSel) (q : Query) (hq : q.name.length ≤ 255) : SlotOK (w.set x q) := by
  cases w
  · exact ⟨hx.1.congr, { hx.2.congr (h1 := rfl) with qn := hq }⟩
  · exact ⟨hx.1.congr, { hx.2.congr (h2 := rfl) with qsn := hq }⟩

end Iodine.BytesL
