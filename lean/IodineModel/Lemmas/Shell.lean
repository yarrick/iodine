import IodineModel.Client.Shell
/-
Helper lemmas about Client/Shell.lean (stated in the model's own terms; the specification
predicates live in Props/C13.lean).
-/
namespace Iodine.Client.Shell

/-! ### `utoa` is Lean's decimal printing -/

theorem digitChar_toNat : ∀ d, d < 10 → (Nat.digitChar d).toNat = 48 + d := by decide

theorem utoaGo_eq_toDigitsCore (fuel n : Nat) (ds : List Char) :
    utoaGo fuel n (ds.map Char.toNat) = (Nat.toDigitsCore 10 fuel n ds).map Char.toNat := by
  induction fuel generalizing n ds with
  | zero => simp [utoaGo, Nat.toDigitsCore]
  | succ f ih =>
    simp only [utoaGo, Nat.toDigitsCore]
    have hd : 48 + n % 10 = (Nat.digitChar (n % 10)).toNat :=
      (digitChar_toNat _ (Nat.mod_lt _ (by decide))).symm
    split
    · simp [hd]
    · rw [hd, ← List.map_cons, ih]

theorem utoa_eq_toDigits (n : Nat) : utoa n = (Nat.toDigits 10 n).map Char.toNat := by
  have := utoaGo_eq_toDigitsCore (n + 1) n []
  simpa [utoa, Nat.toDigits] using this

theorem utoa_digit {d : Nat} (h : d < 10) : utoa d = [48 + d] := by
  rw [utoa_eq_toDigits, Nat.toDigits_of_lt_base h]
  simp [digitChar_toNat d h]

theorem utoa_snoc {c d : Nat} (hc : 0 < c) (hd : d < 10) : utoa (c * 10 + d) = utoa c ++ [48 + d] := by
  rw [utoa_eq_toDigits, utoa_eq_toDigits, Nat.mul_comm,
    ← Nat.toDigits_append_toDigits (by decide) hc hd, Nat.toDigits_of_lt_base hd]
  simp [digitChar_toNat d hd]

/-! ### `inet_pton4` accepts only canonical dotted quads -/

/-- `.x.y.z` … -/
def dotFields (xs : List Nat) : List Nat := xs.flatMap (fun x => 46 :: utoa x)

theorem pton4Go_sound : ∀ (rest : List Nat) (saw : Bool) (oct cur : Nat),
    pton4Go saw oct cur rest = true → cur ≤ 255 → oct ≤ 4 → (saw = false → cur = 0 ∧ oct < 4) →
    ∃ n xs, n ≤ 255 ∧ (∀ x ∈ xs, x ≤ 255) ∧ xs.length + oct + (if saw then 0 else 1) = 4 ∧
      (if saw then utoa cur else []) ++ rest = utoa n ++ dotFields xs := by
  intro rest
  induction rest with
  | nil =>
    intro saw oct cur h hcur hoct hs
    simp only [pton4Go, beq_iff_eq] at h
    cases saw with
    | false => have := (hs rfl).2; omega
    | true => exact ⟨cur, [], hcur, by simp, by simp [h], by simp [dotFields]⟩
  | cons ch rest ih =>
    intro saw oct cur h hcur hoct hs
    rw [pton4Go] at h
    by_cases hdig : 48 ≤ ch ∧ ch ≤ 57
    · -- digit
      rw [if_pos hdig] at h
      have hd : ch - 48 < 10 := by omega
      have hch : 48 + (ch - 48) = ch := by omega
      by_cases hlz : saw = true ∧ cur = 0
      · rw [if_pos hlz] at h; cases h
      rw [if_neg hlz] at h
      by_cases hnew : cur * 10 + (ch - 48) > 255
      · rw [if_pos hnew] at h; cases h
      rw [if_neg hnew] at h
      cases saw with
      | true =>
        rw [if_pos rfl] at h
        have hc0 : 0 < cur := Nat.pos_of_ne_zero fun h0 => hlz ⟨rfl, h0⟩
        obtain ⟨n, xs, hn, hxs, hlen, heq⟩ := ih true oct (cur * 10 + (ch - 48)) h (by omega) hoct (by simp)
        refine ⟨n, xs, hn, hxs, hlen, ?_⟩
        simp only [if_true] at heq ⊢
        rw [← heq, utoa_snoc hc0 hd, hch]
        simp
      | false =>
        have hcur0 := (hs rfl).1
        subst hcur0
        rw [if_neg Bool.false_ne_true] at h
        by_cases h4 : oct + 1 > 4
        · rw [if_pos h4] at h; cases h
        rw [if_neg h4] at h
        obtain ⟨n, xs, hn, hxs, hlen, heq⟩ := ih true (oct + 1) (0 * 10 + (ch - 48)) h (by omega) (by omega) (by simp)
        refine ⟨n, xs, hn, hxs, by simp at hlen ⊢; omega, ?_⟩
        simp only [if_true, Nat.zero_mul, Nat.zero_add] at heq
        rw [utoa_digit hd, hch] at heq
        simpa using heq
    · rw [if_neg hdig] at h
      by_cases hdot : ch = 46 ∧ saw = true
      · -- dot
        rw [if_pos hdot] at h
        obtain ⟨rfl, rfl⟩ := hdot
        by_cases h4 : oct = 4
        · rw [if_pos h4] at h; cases h
        rw [if_neg h4] at h
        obtain ⟨n, xs, hn, hxs, hlen, heq⟩ := ih false oct 0 h (by omega) hoct (by intro _; exact ⟨rfl, by omega⟩)
        refine ⟨cur, n :: xs, hcur, ?_, by simp at hlen ⊢; omega, ?_⟩
        · intro x hx
          rcases List.mem_cons.mp hx with rfl | hx
          · exact hn
          · exact hxs x hx
        · simp only [Bool.false_eq_true, if_false, List.nil_append] at heq
          simp [dotFields, heq]
      · rw [if_neg hdot] at h; cases h

theorem inetPton4_quad {s : List Nat} (h : inetPton4 s = true) :
    ∃ a b c d, a ≤ 255 ∧ b ≤ 255 ∧ c ≤ 255 ∧ d ≤ 255 ∧
      s = utoa a ++ 46 :: (utoa b ++ 46 :: (utoa c ++ 46 :: utoa d)) := by
  obtain ⟨n, xs, hn, hxs, hlen, heq⟩ := pton4Go_sound s false 0 0 h (by omega) (by omega) (by simp)
  simp only [Bool.false_eq_true, if_false, List.nil_append] at heq hlen
  match xs, hlen, hxs with
  | [b, c, d], _, hxs =>
    refine ⟨n, b, c, d, hn, hxs b (by simp), hxs c (by simp), hxs d (by simp), ?_⟩
    simp [heq, dotFields]

/-! ### … and all of them -/

theorem pton4Go_first_digit {d oct : Nat} (hd : d < 10) (ho : oct < 4) (rest : List Nat) :
    pton4Go false oct 0 ((48 + d) :: rest) = pton4Go true (oct + 1) d rest := by
  rw [pton4Go]
  have h1 : 48 ≤ 48 + d ∧ 48 + d ≤ 57 := by omega
  have h2 : 48 + d - 48 = d := by omega
  have h3 : ¬ d > 255 := by omega
  have h4 : ¬ oct + 1 > 4 := by omega
  simp [h1, h2, h3, h4]

theorem pton4Go_next_digit {c d oct : Nat} (hc : 0 < c) (hd : d < 10) (hn : c * 10 + d ≤ 255) (rest : List Nat) :
    pton4Go true oct c ((48 + d) :: rest) = pton4Go true oct (c * 10 + d) rest := by
  rw [pton4Go]
  have h1 : 48 ≤ 48 + d ∧ 48 + d ≤ 57 := by omega
  have h2 : 48 + d - 48 = d := by omega
  have h3 : ¬ c * 10 + d > 255 := by omega
  have h4 : c ≠ 0 := by omega
  simp [h1, h2, h3, h4]

theorem pton4Go_dot {c oct : Nat} (ho : oct ≠ 4) (rest : List Nat) :
    pton4Go true oct c (46 :: rest) = pton4Go false oct 0 rest := by
  rw [pton4Go]
  simp [ho]

theorem pton4Go_field (n : Nat) : ∀ (oct : Nat) (rest : List Nat), n ≤ 255 → oct < 4 →
    pton4Go false oct 0 (utoa n ++ rest) = pton4Go true (oct + 1) n rest := by
  induction n using Nat.strongRecOn with
  | _ n ih =>
    intro oct rest hn ho
    by_cases h10 : n < 10
    · rw [utoa_digit h10]; exact pton4Go_first_digit h10 ho rest
    · have hc : 0 < n / 10 := by omega
      have hd : n % 10 < 10 := by omega
      have hn' : n = n / 10 * 10 + n % 10 := by omega
      rw [hn', utoa_snoc hc hd, List.append_assoc, ih (n / 10) (by omega) oct _ (by omega) ho]
      exact pton4Go_next_digit hc hd (by omega) rest

theorem inetPton4_of_quad {a b c d : Nat} (ha : a ≤ 255) (hb : b ≤ 255) (hc : c ≤ 255) (hd : d ≤ 255) :
    inetPton4 (utoa a ++ 46 :: (utoa b ++ 46 :: (utoa c ++ 46 :: utoa d))) = true := by
  unfold inetPton4
  rw [pton4Go_field a 0 _ ha (by omega), pton4Go_dot (by omega),
    pton4Go_field b 1 _ hb (by omega), pton4Go_dot (by omega),
    pton4Go_field c 2 _ hc (by omega), pton4Go_dot (by omega)]
  have := pton4Go_field d 3 [] hd (by omega)
  rw [List.append_nil] at this
  rw [this]
  simp [pton4Go]

/-- a number below `10 ^ k` prints in at most `k` digits -/
theorem utoa_length_le {n k : Nat} (hk : 0 < k) (h : n < 10 ^ k) : (utoa n).length ≤ k := by
  rw [utoa_eq_toDigits, List.length_map]
  exact (Nat.length_toDigits_le_iff (by decide) hk).mpr h

theorem inetNtoa_quad (m : Nat) :
    ∃ a b c d, a ≤ 255 ∧ b ≤ 255 ∧ c ≤ 255 ∧ d ≤ 255 ∧
      inetNtoa m = utoa a ++ 46 :: (utoa b ++ 46 :: (utoa c ++ 46 :: utoa d)) :=
  ⟨m / 2 ^ 24 % 256, m / 2 ^ 16 % 256, m / 2 ^ 8 % 256, m % 256,
    by omega, by omega, by omega, by omega, by simp [inetNtoa]⟩

/-! ### what the scanners consume -/

theorem of_mem_takeWhile {p : Nat → Bool} {l : List Nat} {c : Nat} (h : c ∈ l.takeWhile p) : p c = true := by
  induction l with
  | nil => simp at h
  | cons x xs ih =>
    simp only [List.takeWhile_cons] at h
    split at h
    · rcases List.mem_cons.mp h with rfl | h
      · assumption
      · exact ih h
    · simp at h

theorem drop_length_takeWhile (p : Nat → Bool) (l : List Nat) :
    l.drop (l.takeWhile p).length = l.dropWhile p := by
  induction l with
  | nil => simp
  | cons x xs ih =>
    simp only [List.takeWhile_cons, List.dropWhile_cons]
    split <;> simp [*]

theorem eq_append_drop_of_prefix {f s : List Nat} (h : f <+: s) : s = f ++ s.drop f.length := by
  obtain ⟨t, rfl⟩ := h; simp

theorem scanSet_some {s f r : List Nat} (h : scanSet s = some (f, r)) :
    s = f ++ r ∧ f ≠ [] ∧ f.length ≤ 64 ∧ ∀ c ∈ f, c ≠ 45 := by
  unfold scanSet at h
  simp only [] at h
  split at h
  · exact absurd h (by simp)
  rename_i hne
  simp only [Option.some.injEq, Prod.mk.injEq] at h
  obtain ⟨rfl, rfl⟩ := h
  refine ⟨?_, ?_, ?_, ?_⟩
  · exact eq_append_drop_of_prefix ((List.take_prefix _ _).trans (List.takeWhile_prefix _))
  · intro h0; exact hne (by rw [h0]; rfl)
  · simp [List.length_take]; omega
  · intro c hc
    have := of_mem_takeWhile (List.mem_of_mem_take hc)
    simpa using this

theorem dropWhile_head (p : Nat → Bool) (l : List Nat) :
    l.dropWhile p = [] ∨ ∃ x t, l.dropWhile p = x :: t ∧ p x = false := by
  induction l with
  | nil => simp
  | cons x xs ih =>
    simp only [List.dropWhile_cons]
    split
    · exact ih
    · rename_i h; exact Or.inr ⟨x, xs, rfl, by simpa using h⟩

theorem scanDash_some {s r : List Nat} (h : scanDash s = some r) : s = 45 :: r := by
  unfold scanDash at h
  split at h
  · simpa using congrArg (45 :: ·) (Option.some.inj h)
  · exact absurd h (by simp)

theorem scanSign_eq (s : List Nat) :
    ∃ sg, (sg = [] ∨ sg = [43] ∨ sg = [45]) ∧ s = sg ++ (scanSign s).2 ∧ (scanSign s).1 = decide (sg = [45]) := by
  unfold scanSign
  split
  · exact ⟨[45], by simp, by simp, by simp⟩
  · exact ⟨[43], by simp, by simp, by simp⟩
  · exact ⟨[], by simp, by simp, by simp⟩

theorem scanInt_some {s r : List Nat} {v : Int} (h : scanInt s = some (v, r)) :
    ∃ ws sg ds, s = ws ++ (sg ++ (ds ++ r)) ∧ (∀ c ∈ ws, isSpace c = true) ∧
      (sg = [] ∨ sg = [43] ∨ sg = [45]) ∧ ds ≠ [] ∧ (∀ c ∈ ds, isDigit c = true) ∧
      v = toInt32 (strtolSat (decide (sg = [45])) (digitsVal ds)) := by
  unfold scanInt at h
  simp only [] at h
  obtain ⟨sg, hsg, hs1, hneg⟩ := scanSign_eq (s.dropWhile isSpace)
  generalize hss : scanSign (s.dropWhile isSpace) = ss at h hs1 hneg
  obtain ⟨neg, s2⟩ := ss
  simp only [] at h hs1 hneg
  split at h
  · exact absurd h (by simp)
  rename_i hne
  simp only [Option.some.injEq, Prod.mk.injEq] at h
  obtain ⟨hv, hr⟩ := h
  refine ⟨s.takeWhile isSpace, sg, s2.takeWhile isDigit, ?_, ?_, hsg, ?_, ?_, ?_⟩
  · rw [← hr, drop_length_takeWhile, List.takeWhile_append_dropWhile, ← hs1,
      List.takeWhile_append_dropWhile]
  · intro c hc; exact of_mem_takeWhile hc
  · intro h0; exact hne (by rw [h0]; rfl)
  · intro c hc; exact of_mem_takeWhile hc
  · rw [← hv, hneg]

theorem scanLogin_some {s : List Nat} {l : Login} (h : scanLogin s = some l) :
    ∃ r3 r4 tail, s = l.server ++ 45 :: (l.client ++ 45 :: r3) ∧
      scanSet s = some (l.server, 45 :: (l.client ++ 45 :: r3)) ∧
      scanSet (l.client ++ 45 :: r3) = some (l.client, 45 :: r3) ∧
      scanInt r3 = some (l.mtu, 45 :: r4) ∧ scanInt r4 = some (l.netmask, tail) := by
  unfold scanLogin at h
  split at h; · exact absurd h (by simp)
  rename_i server r1 h1
  split at h; · exact absurd h (by simp)
  rename_i r2 h2
  split at h; · exact absurd h (by simp)
  rename_i client r3 h3
  split at h; · exact absurd h (by simp)
  rename_i r4 h4
  split at h; · exact absurd h (by simp)
  rename_i mtu r5 h5
  split at h; · exact absurd h (by simp)
  rename_i r6 h6
  split at h; · exact absurd h (by simp)
  rename_i netmask tail h7
  have hl := Option.some.inj h
  subst hl
  have e2 := scanDash_some h2
  have e4 := scanDash_some h4
  have e6 := scanDash_some h6
  subst e2 e4 e6
  have e1 := (scanSet_some h1).1
  have e3 := (scanSet_some h3).1
  subst e3
  exact ⟨r4, r6, tail, e1, h1, h3, h5, h7⟩

/-! ### the command builders -/

theorem tunSetip_cases (dev ip other : List Nat) (nb sysret : Int) :
    tunSetip dev ip other nb sysret = ([], 1) ∨
    (0 ≤ nb ∧ nb ≤ 32 ∧ inetPton4 ip = true ∧ inetPton4 other = true ∧
      tunSetip dev ip other nb sysret =
        ([snprintf512 (ifconfig ++ dev ++ 32 :: ip ++ 32 :: ip ++ sNetmask ++ inetNtoa (maskOf nb.toNat))], sysret)) := by
  unfold tunSetip
  split
  · exact Or.inl rfl
  rename_i hnb
  split
  · exact Or.inl rfl
  rename_i hip
  split
  · exact Or.inl rfl
  rename_i hot
  refine Or.inr ⟨by omega, by omega, by simpa using hip, by simpa using hot, rfl⟩

theorem tunSetmtu_cases (dev : List Nat) (mtu sysret : Int) :
    tunSetmtu dev mtu sysret = ([], 1) ∨
    (200 < (mtu % 2 ^ 32).toNat ∧ (mtu % 2 ^ 32).toNat ≤ 1500 ∧
      tunSetmtu dev mtu sysret = ([snprintf512 (ifconfig ++ dev ++ sMtu ++ utoa (mtu % 2 ^ 32).toNat)], sysret)) := by
  unfold tunSetmtu
  simp only []
  split
  · rename_i h; exact Or.inr ⟨h.1, h.2, rfl⟩
  · exact Or.inl rfl

/-- The ways one reply can end. -/
theorem loginStep_cases (dev reply : List Nat) (sysret : Int) :
    ((loginStep dev reply sysret).commands = [] ∧ (loginStep dev reply sysret).result ≠ .ok) ∨
    ∃ l, scanLogin (cstr reply) = some l ∧ reply ≠ [] ∧
      inetPton4 l.client = true ∧ inetPton4 l.server = true ∧ 0 ≤ l.netmask ∧ l.netmask ≤ 32 ∧
      let ipcmd := snprintf512 (ifconfig ++ dev ++ 32 :: l.client ++ 32 :: l.client ++ sNetmask ++ inetNtoa (maskOf l.netmask.toNat))
      ((loginStep dev reply sysret = ⟨[ipcmd], .errx⟩) ∨
       (sysret = 0 ∧ 200 < (l.mtu % 2 ^ 32).toNat ∧ (l.mtu % 2 ^ 32).toNat ≤ 1500 ∧
        loginStep dev reply sysret =
          ⟨[ipcmd, snprintf512 (ifconfig ++ dev ++ sMtu ++ utoa (l.mtu % 2 ^ 32).toNat)], .ok⟩)) := by
  unfold loginStep
  by_cases he : reply.isEmpty = true
  · rw [if_pos he]; exact Or.inl ⟨rfl, by simp⟩
  rw [if_neg he]
  extract_lets s
  by_cases h4 : s.take 4 = sLNAK
  · rw [if_pos h4]; exact Or.inl ⟨rfl, by simp⟩
  rw [if_neg h4]
  by_cases h5 : s.take 5 = sBADIP
  · rw [if_pos h5]; exact Or.inl ⟨rfl, by simp⟩
  rw [if_neg h5]
  cases scanLogin s with
  | none => exact Or.inl ⟨rfl, by simp⟩
  | some l =>
    rcases tunSetip_cases dev l.client l.server l.netmask sysret with hip | ⟨h0, h32, hc, hs, hip⟩
    · simp only [hip]; exact Or.inl ⟨rfl, by simp⟩
    · refine Or.inr ⟨l, rfl, by intro h; simp [h] at he, hc, hs, h0, h32, ?_⟩
      simp only [hip]
      by_cases hz : sysret = 0
      · rw [if_pos hz]
        rcases tunSetmtu_cases dev l.mtu sysret with hm | ⟨hlo, hhi, hm⟩
        · rw [hm]; exact Or.inl (by simp)
        · rw [hm]; exact Or.inr ⟨hz, hlo, hhi, by simp [hz]⟩
      · rw [if_neg hz]; exact Or.inl rfl

end Iodine.Client.Shell
