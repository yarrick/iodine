import IodineModel.Lemmas.C02L2
import IodineModel.Lemmas.C02sched
/-
Upstream, both DNS modes — the server's side of one query of the session.  The two modes run the same handlers; what differs is
whether the slot HOLDS a query of the client between two queries (lazy mode: the latest one, in `q`) or none (immediate mode): the
query that is answered when `Q` arrives is `ansQ` (the held one, or `Q` itself), `q` holds `holdQ` afterwards, and what is known of
the duplicate memories is `MemM`; `SrvWait P m x cid k sd` is the slot between two queries.
Three iterations: a data query after which no packet is handed on is answered at once with the numbers of the reassembly buffer as
it is then (`srv_answers`); the last fragment (`srv_last`); the 20 ms timeout whose sweep answers the parked query (`srv_tick`).
The fourth, a ping that reaches the waiting server (`srv_ping`), stands in C02up5 beside the give-up that sends it.
Each stands first on what it needs of the memories alone (`…_core`), concludes the per-side fact `SrvDoes` the scheduler rules take,
and says what it leaves of the server in a named record (`SrvAfter`, `Answered`, `Remembers`).  What a handler makes of the slot when
it answers has one form — the slot up to the memories (`core`) and the memories (`MemEq`); `put_answered` writes such a slot back.
-/
namespace Iodine.C02L
open Iodine Iodine.Gen Iodine.Server Iodine.World

/-- The slot is idle downstream and holds no query, or (`held`) exactly one, in `q`.  The data handler looks at the `lazy` flag only
when a query is held (a held query is parked instead of answered when a whole packet has arrived); the ping handler always does, so
its lemmas ask for `x.lazy = held` besides (`pingSess_answers`, C02up5). -/
structure Waits (held : Bool) (x : Session) : Prop where
  out : x.outpacket.len = 0
  qs : x.qs.id = 0
  q : if held then x.q.id ≠ 0 ∧ x.q.id2 = 0 else x.q.id = 0
  lazy : held = true → x.lazy = true

theorem IdleImm.waits {x : Session} (h : IdleImm x) : Waits false x := ⟨h.out, h.qs, h.q, fun e => Bool.noConfusion e⟩
theorem IdleLazy.waits {x : Session} (h : IdleLazy x) : Waits true x := ⟨h.out, h.qs, ⟨h.q, h.q2⟩, fun _ => h.lazy⟩
theorem Waits.idleImm {x : Session} (h : Waits false x) (hl : x.lazy = false) : IdleImm x := ⟨h.out, h.q, h.qs, hl⟩
theorem Waits.idleLazy {x : Session} (h : Waits true x) : IdleLazy x := ⟨h.out, h.q.1, h.q.2, h.qs, h.lazy rfl⟩

theorem Waits.congr {held : Bool} {x y : Session} (h : Waits held x) (h1 : y.outpacket = x.outpacket) (h2 : y.q = x.q)
    (h3 : y.qs = x.qs) (h4 : y.lazy = x.lazy) : Waits held y :=
  ⟨h1 ▸ h.out, h3 ▸ h.qs, h2 ▸ h.q, fun e => h4 ▸ h.lazy e⟩

/-- the query that is answered when `Q` arrives: `Q` itself, or the held one `H` -/
def ansQ (held : Bool) (H Q : Query) : Query := if held then H else Q

/-- what `q` holds afterwards: nothing, or `Q` -/
def holdQ (held : Bool) (Q : Query) : Query := if held then Q else { Q with id := 0 }

/-! ### the data handler on a waiting slot -/

theorem memEq_setQ (z : Session) (q : Query) : MemEq { z with q := q } z := ⟨rfl, rfl, rfl, rfl, rfl, rfl⟩

theorem memEq_setQs (z : Session) (q : Query) : MemEq { z with qs := q } z := ⟨rfl, rfl, rfl, rfl, rfl, rfl⟩

theorem memEq_saveQ (z : Session) (Q : Query) (now : Nat) : MemEq (saveQ z Q now) z := ⟨rfl, rfl, rfl, rfl, rfl, rfl⟩

theorem saveQ_setQ (z : Session) (Q q : Query) (now : Nat) :
    core { saveQ z Q now with q := q } = core { z with q := q, lastPkt := now } := rfl

/-- no query held, and no packet is handed on: the new query is answered at once -/
theorem dataSess_unheld_answer (x y : Session) (ok : Bool) (u : Nat) (Q : Query) (h : UpHdr) (payload : List Nat) (now : Nat)
    (hA : dataASess x h.upSeq h.upFrag h.dnSeq h.dnFrag payload = (y, ok)) (hi : Waits false y) (hid2 : Q.id2 = 0)
    (hnl : ok = true → h.last = false) :
    dataSess x u Q h payload now =
      ({ cacheUpd (qmemUpd (saveQ y Q now) Q) Q (scPkt y 0) with q := { Q with id := 0 } },
       [writeDns Q (scPkt y 0) y.downenc (.chunk u)]) := by
  have h1 := hi.out
  have h2 : y.q.id = 0 := hi.q
  have h3 := hi.qs
  have hb : ¬ (ok = true ∧ h.last = true) := fun ⟨a, b⟩ => by rw [hnl a] at b; cases b
  unfold dataSess
  rw [hA]
  simp only [hb, if_false]
  have e1 : stepQsSess y u = ((y, []), false) := by simp [stepQsSess, h3]
  rw [e1]
  simp only
  have e2 : stepQSess y u ok h.last false = ((y, []), false) := by simp [stepQSess, h2]
  rw [e2]
  simp only
  -- nothing was sent yet (`didsend = false`): the new query is answered whatever the `lazy` flag says
  have e3 : stepFinalSess (saveQ y Q now) u ok h.last false = (scSess (saveQ y Q now) u .q).1 := by
    unfold stepFinalSess
    rw [if_neg (by simp [saveQ, h1]), if_pos (by simp), if_neg hb]
  rw [e3, scSess_dataless _ _ _ (by simp [saveQ, h1]) (by simp [QSel.get, saveQ, hid2])]
  simp [QSel.get, QSel.set, saveQ, scPkt]

/-- the held query answered and remembered, the new query `Q` saved in its place -/
theorem core_swapQ (x : Session) (H Q : Query) (a : List Nat) (now : Nat) :
    core (saveQ { cacheUpd (qmemUpd x H) H a with q := { H with id := 0 } } Q now) = core { x with q := Q, lastPkt := now } := by
  have h := core_memo x H a
  unfold core at h ⊢
  unfold saveQ
  simp only [Session.mk.injEq] at h ⊢
  simp [h]

/-- The data handler after its first stage left the slot `y` (idle, one query held) and does not hand a packet on (the
fragment was dropped, or stored and not the last one): the HELD query is answered at once with a dataless packet and
remembered; the new query is held. -/
theorem dataSess_lazy_answer (x y : Session) (ok : Bool) (u : Nat) (Q : Query) (h : UpHdr) (payload : List Nat) (now : Nat)
    (hA : dataASess x h.upSeq h.upFrag h.dnSeq h.dnFrag payload = (y, ok)) (hi : IdleLazy y)
    (hnl : ok = true → h.last = false) :
    dataSess x u Q h payload now =
      (saveQ { cacheUpd (qmemUpd y y.q) y.q (scPkt y 0) with q := { y.q with id := 0 } } Q now,
       [writeDns y.q (scPkt y 0) y.downenc (.chunk u)]) := by
  obtain ⟨h1, h2, h2', h3, h4⟩ := hi
  unfold dataSess
  rw [hA]
  have hb : ¬ (ok = true ∧ h.last = true) := by
    intro ⟨a, b⟩
    rw [hnl a] at b
    cases b
  simp only [hb, if_false]
  have e1 : stepQsSess y u = ((y, []), false) := by
    simp [stepQsSess, h3]
  rw [e1]
  simp only
  have e2 : stepQSess y u ok h.last false = ((scSess y u .q).1, !(scSess y u .q).2) := by
    unfold stepQSess
    rw [if_pos h2, if_pos (by
      cases ok
      · simp
      · simp [hnl rfl])]
  rw [e2, scSess_dataless _ _ _ h1 (by simp [QSel.get, h2'])]
  simp only [QSel.get, QSel.set, Bool.not_false]
  generalize hY : ({ cacheUpd (qmemUpd y y.q) y.q (scPkt y 0) with q := { y.q with id := 0 } } : Session) = Y
  have hYc : core Y = core { y with q := { y.q with id := 0 } } := hY ▸ core_setQ (core_memo y y.q (scPkt y 0)) _
  have hYl : Y.lazy = true := (core_lazy hYc).trans h4
  have hYo : Y.outpacket.len = 0 := (congrArg Packet.len (core_outpacket hYc)).trans h1
  have e3 : stepFinalSess (saveQ Y Q now) u ok h.last true = (saveQ Y Q now, []) := by
    simp [stepFinalSess, saveQ, hYl, hYo]
  rw [e3]
  simp

/-- The first stage of the data handler left the waiting slot `y` and no packet is handed on.  The query `ansQ` is answered at
once with the dataless packet `scPkt y 0` and remembered; `q` becomes `holdQ`; nothing else of the slot moves. -/
theorem dataSess_answers (held : Bool) (x y : Session) (ok : Bool) (u : Nat) (Q : Query) (h : UpHdr) (payload : List Nat) (now : Nat)
    (hA : dataASess x h.upSeq h.upFrag h.dnSeq h.dnFrag payload = (y, ok)) (hi : Waits held y) (hid2 : Q.id2 = 0)
    (hnl : ok = true → h.last = false) :
    ∃ Y, dataSess x u Q h payload now = (Y, [writeDns (ansQ held y.q Q) (scPkt y 0) y.downenc (.chunk u)]) ∧
      core Y = core { y with q := holdQ held Q, lastPkt := now } ∧
      MemEq Y (cacheUpd (qmemUpd y (ansQ held y.q Q)) (ansQ held y.q Q) (scPkt y 0)) := by
  cases held
  · exact ⟨_, dataSess_unheld_answer x y ok u Q h payload now hA hi hid2 hnl,
      (core_setQ (core_memo (saveQ y Q now) Q (scPkt y 0)) _).trans (saveQ_setQ y Q _ now),
      (memEq_setQ _ _).trans (MemEq.memo (memEq_saveQ y Q now) Q _)⟩
  · exact ⟨_, dataSess_lazy_answer x y ok u Q h payload now hA hi.idleLazy hnl, core_swapQ y y.q Q _ now,
      (memEq_saveQ _ Q now).trans (memEq_setQ _ _)⟩

/-- no query held: the last fragment is stored, the packet handed on, the new query parked -/
theorem dataSess_unheld_last (x : Session) (u : Nat) (Q : Query) (h : UpHdr) (payload : List Nat) (now : Nat) (I : Packet)
    (hi : Waits false x) (hlast : h.last = true) (hup : dataUpstream x h.upSeq h.upFrag = ({ x with inpacket := I }, true)) :
    dataSess x u Q h payload now =
      ({ x with inpacket := { (stored x I payload).inpacket with len := 0, offset := 0 }, qs := Q, qsNew := true,
                q := { Q with id := 0 }, lastPkt := now }, fullEvs (stored x I payload)) := by
  have h1 := hi.out
  have h2 : x.q.id = 0 := hi.q
  have h3 := hi.qs
  unfold dataSess
  rw [dataASess_accept x h payload I h1 hup]
  simp only [hlast, and_self, if_true]
  have e1 : stepQsSess (fullSess (stored x I payload)) u = ((fullSess (stored x I payload), []), false) := by
    simp [stepQsSess, fullSess, stored, dataStore, h3]
  rw [e1]
  simp only
  have e2 : stepQSess (fullSess (stored x I payload)) u true true false = ((fullSess (stored x I payload), []), false) := by
    simp [stepQSess, fullSess, stored, dataStore, h2]
  rw [e2]
  simp only
  have e3 : stepFinalSess (saveQ (fullSess (stored x I payload)) Q now) u true true false =
      (Server.parkQuery (saveQ (fullSess (stored x I payload)) Q now), []) := by
    simp [stepFinalSess, saveQ, fullSess, stored, dataStore, h1]
  rw [e3]
  simp only [Server.parkQuery, saveQ, fullSess, stored, dataStore, List.append_nil]

theorem stored_eta (x : Session) (I : Packet) (payload : List Nat) :
    stored x I payload = { x with inpacket := (stored x I payload).inpacket } := rfl

theorem saveQ_parkQ_fullSess (x : Session) (I : Packet) (Q : Query) (now : Nat) :
    saveQ (Server.parkQuery (fullSess { x with inpacket := I })) Q now =
      { x with inpacket := { I with len := 0, offset := 0 }, qs := x.q, qsNew := true, q := Q, lastPkt := now } := by
  simp only [saveQ, Server.parkQuery, fullSess]

/-- the last fragment: stored, the packet handed on; the HELD query is moved to `q_sendrealsoon` (answered by the next
iteration's sweep), the new query is held; nothing is sent -/
theorem dataSess_lazy_last (x : Session) (u : Nat) (Q : Query) (h : UpHdr) (payload : List Nat) (now : Nat) (I : Packet)
    (hi : IdleLazy x) (hlast : h.last = true)
    (hup : dataUpstream x h.upSeq h.upFrag = ({ x with inpacket := I }, true)) :
    dataSess x u Q h payload now =
      ({ x with inpacket := { (stored x I payload).inpacket with len := 0, offset := 0 }, qs := x.q, qsNew := true, q := Q,
                lastPkt := now },
       fullEvs (stored x I payload)) := by
  obtain ⟨h1, h2, h2', h3, h4⟩ := hi
  unfold dataSess
  rw [dataASess_accept x h payload I h1 hup]
  simp only [hlast, and_self, if_true]
  have e1 : stepQsSess (fullSess (stored x I payload)) u = ((fullSess (stored x I payload), []), false) := by
    simp [stepQsSess, fullSess, stored, dataStore, h3]
  rw [e1]
  simp only
  have e2 : stepQSess (fullSess (stored x I payload)) u true true false = ((Server.parkQuery (fullSess (stored x I payload)), []), true) := by
    unfold stepQSess
    rw [if_pos (by exact h2), if_neg (by simp [fullSess, stored, dataStore, h1, h4])]
  rw [e2]
  simp only
  have e3 : stepFinalSess (saveQ (Server.parkQuery (fullSess (stored x I payload))) Q now) u true true true =
      (saveQ (Server.parkQuery (fullSess (stored x I payload))) Q now, []) := by
    simp [stepFinalSess, saveQ, Server.parkQuery, fullSess, stored, dataStore, h4]
  have e4 := saveQ_parkQ_fullSess x (stored x I payload).inpacket Q now
  rw [← stored_eta] at e4
  rw [e3, e4]
  simp only [List.append_nil]

/-- The last fragment on a waiting slot: stored, the packet handed on; the query to be answered (`ansQ`) goes to
`q_sendrealsoon`, to be answered by the next iteration's sweep; `q` becomes `holdQ`; nothing is sent. -/
theorem dataSess_last (held : Bool) (x : Session) (u : Nat) (Q : Query) (h : UpHdr) (payload : List Nat) (now : Nat) (I : Packet)
    (hi : Waits held x) (hlast : h.last = true) (hup : dataUpstream x h.upSeq h.upFrag = ({ x with inpacket := I }, true)) :
    dataSess x u Q h payload now =
      ({ x with inpacket := { (stored x I payload).inpacket with len := 0, offset := 0 }, qs := ansQ held x.q Q, qsNew := true,
                q := holdQ held Q, lastPkt := now }, fullEvs (stored x I payload)) := by
  cases held
  · exact dataSess_unheld_last x u Q h payload now I hi hlast hup
  · exact dataSess_lazy_last x u Q h payload now I hi.idleLazy hlast hup

/-! ### the duplicate memories, by mode -/

/-- what is known of the duplicate memories (`H`: the query held, lazy mode; `k`, `sd`: the client's two counters) -/
def MemM (P : Par) : Mode → Session → Query → Nat → Nat → Prop
  | .imm sl sp, x, _, k, sd => Aged P x k sl ∧ PAged P x sd sp
  | .lazy, x, H, k, sd => HeldBase P H ∧ HeldMem P x H k sd

section
variable {P : Par} {m : Mode} {x : Session} {H : Query} {k sd : Nat}

theorem MemM.fresh (h : MemM P m x H k sd) (hm : m.Ok) (hk : k < 36) : Fresh P x k 1 := by
  cases m with
  | imm sl sp => exact h.1.fresh hk hm.2
  | lazy => exact h.2.fresh hk

theorem MemM.memEq (h : MemM P m x H k sd) {y : Session} (e : MemEq y x) : MemM P m y H k sd := by
  cases m with
  | imm sl sp => exact ⟨h.1.memEq e, h.2.memEq e⟩
  | lazy => exact ⟨h.1, h.2.congr e.q e.ql e.c e.cl e.p e.pl⟩

/-- the query that is answered when a query `Q` of the session — a data query or a ping — arrives -/
theorem MemM.ans (h : MemM P m x H k sd) {Q : Query} (hQ : HeldBase P Q)
    (hc0 : Q.name.getD 0 0 = hexLower P.u ∨ Q.name.getD 0 0 = 112) :
    (ansQ m.lz H Q).from_ = clientAddr ∧ (ansQ m.lz H Q).id ≠ 0 ∧ (ansQ m.lz H Q).id2 = 0 ∧
    ((ansQ m.lz H Q).name.getD 0 0 = hexLower P.u ∨ (ansQ m.lz H Q).name.getD 0 0 = 112) := by
  cases m with
  | imm sl sp => exact ⟨hQ.from_, hQ.id, hQ.id2, hc0⟩
  | lazy => exact ⟨h.1.from_, h.1.id, h.1.id2, h.2.c0⟩

/-- the data query that carries the counter value `k` is no repetition of the held one -/
theorem MemM.name_ne (hu : P.u < 16) (h : MemM P m x H k sd) (hlz : m.lz = true) (hk : k < 36) (Q : Query)
    (h0 : Q.name.getD 0 0 = hexLower P.u) (h4 : Q.name.getD 4 0 = cmcChar k) : H.name ≠ Q.name := by
  cases m with
  | imm sl sp => cases hlz
  | lazy => exact h.2.name_ne hu hk Q h0 h4

/-- The step of the memories: the data query `Q` (counter value `k`) has arrived, and the answer to `ansQ` — `Q` itself, or the
query `H` held so far — is remembered. -/
theorem MemM.remember (hP : P.Ok) (hm : m.Ok) (h : MemM P m x H k sd) (hk : k < 36) {Q : Query} {hdr : UpHdr} {chunk : List Nat}
    (hQ : UpQ P Q hdr k chunk) {ans : List Nat} (hans : ans.length ≤ DNSCACHE_ANSWER_SIZE) :
    MemM P m (cacheUpd (qmemUpd x (ansQ m.lz H Q)) (ansQ m.lz H Q) ans) Q ((k + 1) % 36) sd := by
  cases m with
  | imm sl sp => exact aged_memo_data hP h.1 h.2 hk hm Q ans hans hQ.c0 hQ.c4 hQ.len5
  | lazy => exact ⟨hQ.heldBase, h.2.memo hP.hu hk ans hans Q (hQ.heldData hk)⟩

end

/-! ### the slot between two queries of the session -/

/-- the slot between two queries of the session in mode `m`: it waits, holding the client's latest query (id `cid`) in lazy mode
and none in immediate mode; the memories are as they must be for the client's counters `k`, `sd` -/
structure SrvWait (P : Par) (m : Mode) (x : Session) (cid k sd : Nat) : Prop where
  waits : Waits m.lz x
  lazy : x.lazy = m.lz
  held : m.lz = true → x.q.id = cid
  mem : MemM P m x x.q k sd

section
variable {P : Par} {m : Mode} {x : Session} {cid k sd : Nat}

theorem SrvWait.fresh (h : SrvWait P m x cid k sd) (hm : m.Ok) (hk : k < 36) : Fresh P x k 1 := h.mem.fresh hm hk

theorem SrvWait.nodup (h : SrvWait P m x cid k sd) {Q : Query} (hne : m.lz = true → x.q.name ≠ Q.name) :
    x.q.id = 0 ∨ x.q.name ≠ Q.name := by
  cases hlz : m.lz
  · have := h.waits.q; rw [hlz] at this; exact Or.inl this
  · exact Or.inr (hne hlz)

theorem SrvWait.ans (h : SrvWait P m x cid k sd) {Q : Query} (hQ : HeldBase P Q)
    (hc0 : Q.name.getD 0 0 = hexLower P.u ∨ Q.name.getD 0 0 = 112) :
    (ansQ m.lz x.q Q).from_ = clientAddr ∧ (ansQ m.lz x.q Q).id = (if m.lz then cid else Q.id) ∧
    ((ansQ m.lz x.q Q).name.getD 0 0 = hexLower P.u ∨ (ansQ m.lz x.q Q).name.getD 0 0 = 112) := by
  obtain ⟨a, _, _, d⟩ := h.mem.ans hQ hc0
  refine ⟨a, ?_, d⟩
  cases hlz : m.lz
  · rfl
  · exact h.held hlz

theorem waits_holdQ {held : Bool} {Y : Session} {Q : Query} (e1 : Y.outpacket.len = 0) (e2 : Y.qs.id = 0)
    (e3 : held = true → Y.lazy = true) (e4 : Y.q = holdQ held Q) (hid : Q.id ≠ 0) (hid2 : Q.id2 = 0) : Waits held Y := by
  refine ⟨e1, e2, ?_, e3⟩
  rw [e4]
  cases held
  · exact rfl
  · exact ⟨hid, hid2⟩

end

/-! ### an iteration that answers at once -/

/-- what an iteration on the session's slot leaves of the server `s`: the standing facts, what is kept of the slot, the clock;
`t` is the time of the last query of the session -/
structure SrvAfter (P : Par) (s s' : Srv) (t : Nat) : Prop where
  stat : SStat P s'
  kept : Kept (getUser s' P.u) (getUser s P.u)
  now : s'.now = s.now
  last : (getUser s' P.u).lastPkt = t

/-- the server after an iteration that answered a query of the session at once with the dataless packet `pkt`: the reassembly
buffer of the slot is `J`, and `pkt` carries `J`'s numbers as the upstream ack -/
structure Answered (P : Par) (s s' : Srv) (J : Packet) (pkt : List Nat) : Prop extends SrvAfter P s s' s.now where
  inp : (getUser s' P.u).inpacket = J
  pkt : ∃ y : Session, pkt = scPkt y 0 ∧ y.outpacket = (getUser s P.u).outpacket ∧ y.inpacket = J

/-- the memories of `s'` are those of `s` with the answer `pkt` to the query `A` remembered -/
def Remembers (P : Par) (s s' : Srv) (A : Query) (pkt : List Nat) : Prop :=
  ∃ y, MemEq y (getUser s P.u) ∧ pkt.length ≤ DNSCACHE_ANSWER_SIZE ∧ MemEq (getUser s' P.u) (cacheUpd (qmemUpd y A) A pkt)

/-- A handler answered at once from the waiting slot `y` — the slot as the top of the loop leaves it, with the reassembly
buffer `J` — and left `Y` (`dataSess_answers`, `pingSess_answers`); the iteration writes `Y` back. -/
theorem put_answered {P : Par} {held : Bool} {s : Srv} (hS : SStat P s) {J : Packet} {y Y : Session} {Q A : Query}
    (hy : ({ getUser s P.u with qsNew := false, inpacket := J } : Session) = y) (hwy : Waits held y)
    (hc : core Y = core { y with q := holdQ held Q, lastPkt := s.now })
    (hmem : MemEq Y (cacheUpd (qmemUpd y A) A (scPkt y 0)))
    (hJs : 0 ≤ J.seqno ∧ J.seqno < 8) (hJf : 0 ≤ J.fragment ∧ J.fragment < 16) (hid : Q.id ≠ 0) (hid2 : Q.id2 = 0) :
    Answered P s { putUser s P.u Y with now := s.now } J (scPkt y 0) ∧
      Waits held (getUser { putUser s P.u Y with now := s.now } P.u) ∧
      (getUser { putUser s P.u Y with now := s.now } P.u).q = holdQ held Q ∧
      Remembers P s { putUser s P.u Y with now := s.now } A (scPkt y 0) := by
  have hyo : y.outpacket = (getUser s P.u).outpacket := by subst hy; rfl
  have hyi : y.inpacket = J := by subst hy; rfl
  obtain ⟨hp, hg⟩ := putL hS hc (by subst hy; rfl) (by show 0 ≤ y.inpacket.seqno ∧ _; rw [hyi]; exact hJs)
    (by show 0 ≤ y.inpacket.fragment ∧ _; rw [hyi]; exact hJf) (by show s.now < s.now + 60; omega)
  refine ⟨⟨⟨hp.stat, hp.kept, hp.now, hp.last⟩, hp.inp.trans hyi, y, rfl, hyo, hyi⟩, ?_, hp.q, y,
    by subst hy; exact ⟨rfl, rfl, rfl, rfl, rfl, rfl⟩, scPkt0_len y, ?_⟩
  all_goals rw [hg]
  · exact waits_holdQ (by rw [core_outpacket hc]; exact hwy.out) (by rw [core_qs hc]; exact hwy.qs)
      (fun e => by rw [core_lazy hc]; exact hwy.lazy e) (core_q hc) hid hid2
  · exact hmem

/-- **A data query reaches the waiting server and no packet is handed on**: the fragment is a duplicate, or it is stored and not
the last one (`recvPkt`).  A query of the session (`ansQ`) is answered at once with a dataless packet that carries the numbers of
the reassembly buffer as it is NOW, and remembered; the server waits again.  Of the
memories only this is needed: the query is not remembered (`hfr`) and no repetition of a held one (`hnd`). -/
theorem srv_answers_core {P : Par} (hP : P.Ok) {held : Bool} {s : Srv} (hS : SStat P s) {k : Nat} (hk : k < 36)
    (hw : Waits held (getUser s P.u)) (hfr : Fresh P (getUser s P.u) k 1)
    {Q : Query} {sq fr : Nat} {dsq dfr : Int} {lst : Bool} {chunk : List Nat} (hQ : UpQ P Q ⟨sq, fr, dsq, dfr, lst⟩ k chunk)
    (hnd : (getUser s P.u).q.id = 0 ∨ (getUser s P.u).q.name ≠ Q.name)
    (hfrom : (ansQ held (getUser s P.u).q Q).from_ = clientAddr)
    {I : Packet} {ok : Bool} (hup : recvPkt (getUser s P.u).inpacket sq fr = (I, ok)) (hnl : ok = true → lst = false)
    (hIs : 0 ≤ I.seqno ∧ I.seqno < 8) (hIf : 0 ≤ I.fragment ∧ I.fragment < 16) :
    ∃ s' payload pkt, Encoding.unpackData P.ec.codec 65536 payload = chunk ∧
      SrvDoes s (.q Q) 0 s' [.ans (ansQ held (getUser s P.u).q Q).id (ansQ held (getUser s P.u).q Q).type
        (ansQ held (getUser s P.u).q Q).name pkt] [] ∧
      Answered P s s' (if ok then (stored (getUser s P.u) I payload).inpacket else I) pkt ∧
      Waits held (getUser s' P.u) ∧ (getUser s' P.u).q = holdQ held Q ∧
      Remembers P s s' (ansQ held (getUser s P.u).q Q) pkt := by
  obtain ⟨payload, hpl, hit⟩ := iteration_upq hP hS hk hfr hQ hnd (Or.inl hw.qs)
  generalize hJ : (if ok then (stored (getUser s P.u) I payload).inpacket else I) = J
  have hJs : J.seqno = I.seqno ∧ J.fragment = I.fragment := by subst hJ; cases ok <;> exact ⟨rfl, rfl⟩
  -- the first stage leaves the slot with the reassembly buffer `J`
  have hda : dataASess { getUser s P.u with qsNew := false } sq fr dsq dfr payload =
      ({ getUser s P.u with qsNew := false, inpacket := J }, ok) := by
    unfold dataASess
    have : ackSess { getUser s P.u with qsNew := false } dsq dfr = { getUser s P.u with qsNew := false } :=
      ackSess_other _ _ _ (Or.inl hw.out)
    rw [this, dataUpstream_eq, show ({ getUser s P.u with qsNew := false } : Session).inpacket = (getUser s P.u).inpacket from rfl, hup]
    subst hJ
    cases ok <;> rfl
  generalize hy : ({ getUser s P.u with qsNew := false, inpacket := J } : Session) = y at hda
  have hyq : y.q = (getUser s P.u).q := by subst hy; rfl
  have hwy : Waits held y := hw.congr (by subst hy; rfl) hyq (by subst hy; rfl) (by subst hy; rfl)
  obtain ⟨Y, hds, hc, hmem⟩ := dataSess_answers held _ y ok P.u Q ⟨sq, fr, dsq, dfr, lst⟩ payload s.now hda hwy hQ.id2 hnl
  rw [hyq] at hds hmem
  have hit := hit Y _ hds (Or.inl (by rw [core_qs hc]; exact hwy.qs)) (fun h1 h2 => by rw [hda] at h1; rw [hnl h1] at h2; cases h2)
  refine ⟨_, payload, scPkt y 0, hpl, SrvDoes.mk hit ?_ ?_, ?_⟩
  · simp only [List.append_nil, downOfEvents_append, downOfEvents_sweep, downOfEvents_writeDns _ _ _ _ hfrom]
  · simp only [List.append_nil, tunOfSEvents_append, tunOfSEvents_writeDns, tunOfSEvents_sweep]
  · rw [hJ]
    exact put_answered hS hy hwy hc hmem (by rw [hJs.1]; exact hIs) (by rw [hJs.2]; exact hIf) hQ.id hQ.id2

/-- … in mode `m`, with what is known of the memories: they are as they must be for the next counter value -/
theorem srv_answers {P : Par} (hP : P.Ok) {m : Mode} (hm : m.Ok) {s : Srv} (hS : SStat P s) {cid k sd : Nat} (hk : k < 36)
    (hW : SrvWait P m (getUser s P.u) cid k sd)
    {Q : Query} {sq fr : Nat} {dsq dfr : Int} {lst : Bool} {chunk : List Nat} (hQ : UpQ P Q ⟨sq, fr, dsq, dfr, lst⟩ k chunk)
    {I : Packet} {ok : Bool} (hup : recvPkt (getUser s P.u).inpacket sq fr = (I, ok)) (hnl : ok = true → lst = false)
    (hIs : 0 ≤ I.seqno ∧ I.seqno < 8) (hIf : 0 ≤ I.fragment ∧ I.fragment < 16) :
    ∃ s' payload pkt, Encoding.unpackData P.ec.codec 65536 payload = chunk ∧
      SrvDoes s (.q Q) 0 s' [.ans (ansQ m.lz (getUser s P.u).q Q).id (ansQ m.lz (getUser s P.u).q Q).type
        (ansQ m.lz (getUser s P.u).q Q).name pkt] [] ∧
      Answered P s s' (if ok then (stored (getUser s P.u) I payload).inpacket else I) pkt ∧
      SrvWait P m (getUser s' P.u) Q.id ((k + 1) % 36) sd ∧ (getUser s' P.u).q = holdQ m.lz Q := by
  obtain ⟨hfrom, -, -⟩ := hW.ans hQ.heldBase (Or.inl hQ.c0)
  obtain ⟨s', payload, pkt, hpl, hdoes, hans, hw', hq', y, hym, hlen, hmem⟩ :=
    srv_answers_core hP hS hk hW.waits (hW.fresh hm hk) hQ (hW.nodup fun hlz => hW.mem.name_ne hP.hu hlz hk Q hQ.c0 hQ.c4) hfrom hup
      hnl hIs hIf
  refine ⟨s', payload, pkt, hpl, hdoes, hans, ⟨hw', by rw [hans.kept.lazy]; exact hW.lazy,
    fun hlz => by rw [hq', holdQ, hlz]; rfl, ?_⟩, hq'⟩
  have := ((hW.mem.memEq hym).remember hP hm hk hQ hlen).memEq hmem
  rw [hq']
  cases m <;> exact this

/-! ### the last fragment: the packet is handed on, the query to be answered is parked -/

/-- the slot after the last fragment of a packet: the query to be answered (`A`) is parked in `q_sendrealsoon` and will be
answered by the sweep of the 20 ms timeout iteration; `q` holds nothing / the new query `Q` -/
structure Parked (held : Bool) (x : Session) (A Q : Query) : Prop where
  out : x.outpacket.len = 0
  q : x.q = holdQ held Q
  qs : x.qs = A
  abase : A.from_ = clientAddr ∧ A.id ≠ 0 ∧ A.id2 = 0

/-- **The last fragment of an upstream "packet" whose assembled bytes are `T` reaches the waiting server**: `handle_full_packet`
writes `junkUp T` (for `T = 0x5a :: frame` that is the frame, `junkUp_marker`); nothing is sent; the query to be answered is
parked.  Of the memories only this is needed: the query is not remembered (`hfr`) and no repetition of a held one (`hnd`); they
are not touched. -/
theorem srv_last_core {P : Par} (hP : P.Ok) {held : Bool} {s : Srv} (hS : SStat P s) {k : Nat} (hk : k < 36)
    (hw : Waits held (getUser s P.u)) (hfr : Fresh P (getUser s P.u) k 1)
    {Q : Query} {sq fr : Nat} {dsq dfr : Int} {T : List Nat} {o n : Nat}
    (hQ : UpQ P Q ⟨sq, fr, dsq, dfr, true⟩ k ((T.drop o).take n))
    (hnd : (getUser s P.u).q.id = 0 ∨ (getUser s P.u).q.name ≠ Q.name)
    (hA : (ansQ held (getUser s P.u).q Q).from_ = clientAddr ∧ (ansQ held (getUser s P.u).q Q).id ≠ 0 ∧
      (ansQ held (getUser s P.u).q Q).id2 = 0)
    (hE : Expect (getUser s P.u) T sq o fr) (hsq : sq < 8) (hfr' : fr < 16)
    (hn : o + n = T.length) (h64 : T.length ≤ 65536)
    (hns : ∀ out, uncompress T 65536 = some out → 24 ≤ out.length → ipDst out ≠ (getUser s P.u).tunIp) :
    ∃ s', SrvDoes s (.q Q) 0 s' [] (junkUp T) ∧ SrvAfter P s s' s.now ∧
      (getUser s' P.u).inpacket.seqno = (sq : Int) ∧ (getUser s' P.u).inpacket.fragment = (fr : Int) ∧
      Parked held (getUser s' P.u) (ansQ held (getUser s P.u).q Q) Q ∧ MemEq (getUser s' P.u) (getUser s P.u) := by
  obtain ⟨payload, hpl, hit⟩ := iteration_upq hP hS hk hfr hQ hnd (Or.inl hw.qs)
  have hx0w : Waits held { getUser s P.u with qsNew := false } := hw.congr rfl rfl rfl rfl
  obtain ⟨I, hup, hI⟩ := accept_of_expect (x := { getUser s P.u with qsNew := false }) hE hS.x.iseq
  obtain ⟨e1, e2, _, e4, e5, _⟩ := expect_stored hP (sq := sq) (f := fr) (x := getUser s P.u) hS.x.enc payload hpl hI
    (Nat.le_of_eq hn) h64
  have hsi : (stored { getUser s P.u with qsNew := false } I payload).inpacket = (stored (getUser s P.u) I payload).inpacket := rfl
  have hds := dataSess_last held _ P.u Q ⟨sq, fr, dsq, dfr, true⟩ payload s.now I hx0w rfl hup
  rw [hsi] at hds
  generalize (stored (getUser s P.u) I payload).inpacket = J at hsi hds e1 e2 e4 e5
  have hun : J.data.take J.len = T := by rw [e5, e4, hn, List.take_take, Nat.min_self, List.take_length]
  have hit := hit _ _ hds (Or.inr rfl) (by
    intro _ _
    rw [dataASess_accept _ _ _ I hx0w.out hup]
    rintro ⟨out, h1, h2, _, _, _, _, h7⟩
    rw [hsi, hun] at h1
    exact hns out h1 h2 h7)
  have hfe := fullEvs_junkUp (st := stored { getUser s P.u with qsNew := false } I payload) (by rw [hsi, hun])
  refine ⟨_, SrvDoes.mk hit ?_ ?_, ⟨?_, ?_, rfl, ?_⟩, ?_, ?_, ?_, ?_⟩
  · rw [downOfEvents_append, hfe.1]; rfl
  · rw [tunOfSEvents_append, hfe.2]; exact List.append_nil _
  · exact hS.put ⟨rfl, rfl, rfl, rfl, rfl, rfl, rfl, rfl, rfl, rfl, rfl⟩ (by show 0 ≤ J.seqno ∧ J.seqno < 8; rw [e1]; omega)
      (by show 0 ≤ J.fragment ∧ J.fragment < 16; rw [e2]; omega) (by show s.now < s.now + 60; omega)
  all_goals rw [getUser_put hS]
  · exact ⟨rfl, rfl, rfl, rfl, rfl, rfl, rfl, rfl, rfl, rfl, rfl⟩
  · exact e1
  · exact e2
  · exact ⟨hw.out, rfl, rfl, hA⟩
  · exact ⟨rfl, rfl, rfl, rfl, rfl, rfl⟩

/-- The sweep on a slot whose parked query `A` is due: `A` is answered with the dataless packet `scPkt x 0` and remembered, `qs` is
emptied; nothing else of the slot moves. -/
theorem sweepSess_parked (x : Session) (u now : Nat) {A : Query} (hqs : x.qs = A) (hlive : live x now = true)
    (hconn : x.conn = .dnsNull) (hnew : x.qsNew = false) (hout : x.outpacket.len = 0) (hid : A.id ≠ 0) (hid2 : A.id2 = 0) :
    ∃ Y, sweepSess x u now = (Y, [writeDns A (scPkt x 0) x.downenc (.chunk u)]) ∧
      core Y = core { x with qs := { A with id := 0 } } ∧ MemEq Y (cacheUpd (qmemUpd x A) A (scPkt x 0)) := by
  refine ⟨{ cacheUpd (qmemUpd x A) A (scPkt x 0) with qs := { A with id := 0 } }, ?_, core_setQs (core_memo x A (scPkt x 0)) _,
    memEq_setQs _ _⟩
  unfold sweepSess
  rw [if_pos ⟨hlive, by rw [hqs]; exact hid, hconn, by rw [hnew]; rfl⟩,
    scSess_dataless x u .qs hout (by show x.qs.id2 = 0; rw [hqs]; exact hid2)]
  simp only [QSel.get, QSel.set, hqs]

/-- **The sweep of the 20 ms timeout iteration answers the parked query** with a dataless packet, whatever the memories hold,
and remembers it; the server waits again. -/
theorem srv_tick_core {P : Par} {held : Bool} {s : Srv} (hS : SStat P s) {A Q : Query} (hp : Parked held (getUser s P.u) A Q)
    (hl : held = true → (getUser s P.u).lazy = true) (hid : Q.id ≠ 0) (hid2 : Q.id2 = 0) :
    ∃ s', (topOfLoop s).2.1 = 20000 ∧ SrvDoes s .tick 0 s' [.ans A.id A.type A.name (scPkt (getUser s P.u) 0)] [] ∧
      SrvAfter P s s' (getUser s P.u).lastPkt ∧ (getUser s' P.u).inpacket = (getUser s P.u).inpacket ∧
      Waits held (getUser s' P.u) ∧ (getUser s' P.u).q = holdQ held Q ∧
      Remembers P s s' A (scPkt (getUser s P.u) 0) := by
  have hlive : live (getUser s P.u) s.now = true := by simp [live, hS.x.active, hS.x.enabled, hS.live]
  have hit := iteration_tick hS.solo s.now
  have hto : (topOfLoop s).2.1 = 20000 := by
    rw [topOfLoop_timeout hS.solo, if_pos ⟨hlive, by rw [hp.qs]; exact hp.abase.2.1⟩]
  rw [hto, topSess_live hS] at hit
  have hpk : scPkt ({ getUser s P.u with qsNew := false } : Session) 0 = scPkt (getUser s P.u) 0 := rfl
  generalize hx0 : ({ getUser s P.u with qsNew := false } : Session) = x0 at hit hpk
  have ht := topSlot_facts hx0
  obtain ⟨Y, hsw, hYc, hYm⟩ := sweepSess_parked x0 P.u s.now (ht.qs.trans hp.qs) (by subst hx0; exact hlive)
    (by subst hx0; exact hS.x.conn) (by subst hx0; rfl) (by rw [ht.outpacket]; exact hp.out) hp.abase.2.1 hp.abase.2.2
  rw [hsw] at hit
  obtain ⟨hpl, hg⟩ := putL hS hYc (by subst hx0; rfl) (by subst hx0; exact hS.x.iseq) (by subst hx0; exact hS.x.ifrag)
    (by subst hx0; exact hS.live)
  have hYq : Y.q = holdQ held Q := (core_q hYc).trans (ht.q.trans hp.q)
  refine ⟨_, hto, SrvDoes.mk hit ?_ ?_, ⟨hpl.stat, hpl.kept, hpl.now, hpl.last.trans ht.lastPkt⟩, hpl.inp.trans ht.inpacket,
    ?_, ?_, x0, ht.mem, by rw [← hpk]; exact scPkt0_len x0, ?_⟩
  · simp only [downOfEvents_append, downOfEvents_sweep, downOfEvents_writeDns _ _ _ _ hp.abase.1, List.nil_append, hpk]
  · simp only [tunOfSEvents_append, tunOfSEvents_writeDns, tunOfSEvents_sweep, List.append_nil]
  · rw [hg]
    exact waits_holdQ (by rw [core_outpacket hYc]; show x0.outpacket.len = 0; rw [ht.outpacket]; exact hp.out) (by rw [core_qs hYc])
      (fun e => by rw [core_lazy hYc]; show x0.lazy = true; rw [ht.lazy]; exact hl e) hYq hid hid2
  · rw [hg]; exact hYq
  · rw [hg, ← hpk]; exact hYm

/-- `Parked`, with what is known of the memories in mode `m` -/
structure SrvParked (P : Par) (m : Mode) (x : Session) (A Q : Query) (k sd : Nat) : Prop where
  ctl : Parked m.lz x A Q
  lazy : x.lazy = m.lz
  aq : m.lz = false → A = Q
  mem : MemM P m x A k sd

theorem srv_last {P : Par} (hP : P.Ok) {m : Mode} (hm : m.Ok) {s : Srv} (hS : SStat P s) {cid k sd : Nat} (hk : k < 36)
    (hW : SrvWait P m (getUser s P.u) cid k sd)
    {Q : Query} {sq fr : Nat} {dsq dfr : Int} {T : List Nat} {o n : Nat}
    (hQ : UpQ P Q ⟨sq, fr, dsq, dfr, true⟩ k ((T.drop o).take n))
    (hE : Expect (getUser s P.u) T sq o fr) (hsq : sq < 8) (hfr : fr < 16)
    (hn : o + n = T.length) (h64 : T.length ≤ 65536)
    (hns : ∀ out, uncompress T 65536 = some out → 24 ≤ out.length → ipDst out ≠ (getUser s P.u).tunIp) :
    ∃ s', SrvDoes s (.q Q) 0 s' [] (junkUp T) ∧ SrvAfter P s s' s.now ∧
      (getUser s' P.u).inpacket.seqno = (sq : Int) ∧ (getUser s' P.u).inpacket.fragment = (fr : Int) ∧
      SrvParked P m (getUser s' P.u) (ansQ m.lz (getUser s P.u).q Q) Q k sd := by
  obtain ⟨hAfrom, hAid, hAid2, _⟩ := hW.mem.ans hQ.heldBase (Or.inl hQ.c0)
  obtain ⟨s', hdoes, haft, h6, h7, hp, hme⟩ := srv_last_core hP hS hk hW.waits (hW.fresh hm hk) hQ
    (hW.nodup fun hlz => hW.mem.name_ne hP.hu hlz hk Q hQ.c0 hQ.c4) ⟨hAfrom, hAid, hAid2⟩ hE hsq hfr hn h64 hns
  refine ⟨s', hdoes, haft, h6, h7, hp, by rw [haft.kept.lazy]; exact hW.lazy, fun e => by rw [ansQ, e]; rfl, ?_⟩
  have := hW.mem.memEq hme
  cases m <;> exact this

theorem srv_tick {P : Par} (hP : P.Ok) {m : Mode} (hm : m.Ok) {s : Srv} (hS : SStat P s) {A Q : Query} {k sd : Nat} (hk : k < 36)
    (hp : SrvParked P m (getUser s P.u) A Q k sd) {hdr : UpHdr} {chunk : List Nat} (hQ : UpQ P Q hdr k chunk) :
    ∃ s', (topOfLoop s).2.1 = 20000 ∧ SrvDoes s .tick 0 s' [.ans A.id A.type A.name (scPkt (getUser s P.u) 0)] [] ∧
      SrvAfter P s s' (getUser s P.u).lastPkt ∧ (getUser s' P.u).inpacket = (getUser s P.u).inpacket ∧
      SrvWait P m (getUser s' P.u) Q.id ((k + 1) % 36) sd := by
  obtain ⟨s', hto, hdoes, haft, hin, hw, hq, x0, hm0, hlen, hm1⟩ := srv_tick_core hS hp.ctl (fun e => by rw [hp.lazy]; exact e)
    hQ.id hQ.id2
  refine ⟨s', hto, hdoes, haft, hin, hw, by rw [haft.kept.lazy]; exact hp.lazy, fun hlz => by rw [hq, holdQ, hlz]; rfl, ?_⟩
  -- the parked query is the one `MemM.remember` speaks of
  have hA : A = ansQ m.lz A Q := by
    cases hlz : m.lz
    · exact hp.aq hlz
    · rfl
  have := (hp.mem.memEq hm0).remember hP hm hk hQ hlen
  rw [← hA] at this
  rw [hq]
  have := this.memEq hm1
  cases m <;> exact this

end Iodine.C02L
