import IodineModel.World
import IodineModel.Lemmas.WorldFast
/-
TESTS (not theorems about all runs): concrete runs of the joined model `World` under the prompt scheduler, evaluated by the
kernel (`decide +kernel`).  A login-free pre-established session (`World.demoImmediate`, `World.demoRaw`; the same runs from
`World.demoLazy`: C02t2) delivers packets of 1, 2 and 5 fragments in both directions exactly once, unchanged, and the joint state is quiescent
again afterwards; a sequence of packets is delivered in order.
-/
namespace Iodine.C02L
open Iodine Iodine.World

/-- offer `f` on the client's (`up = true`) or the server's tun device and follow the prompt schedule: the run ends
quiescent after exactly `steps` scheduler events, the peer's tun device received exactly `f`, the own one nothing -/
def deliversOnce (w0 : W) (up : Bool) (f : List Nat) (steps : Nat) : Bool :=
  let r := runPromptCount 0 60 (step w0 (if up then .offerC f else .offerS f)) 0
  quiet 0 w0 && quiet 0 r.1 && r.2 == steps &&
  (if up then r.1.tunS == w0.tunS ++ [f] && r.1.tunC == w0.tunC else r.1.tunC == w0.tunC ++ [f] && r.1.tunS == w0.tunS)

/-- the packets `fs` offered one after the other (each after the previous one was delivered) arrive in order -/
def deliversInOrder (w0 : W) (up : Bool) (fs : List (List Nat)) : Bool :=
  let w := if up then offerAllC 0 60 w0 fs else offerAllS 0 60 w0 fs
  quiet 0 w && (if up then w.tunS == w0.tunS ++ fs && w.tunC == w0.tunC else w.tunC == w0.tunC ++ fs && w.tunS == w0.tunS)

/-! Upstream fragments carry 30 bytes (Base32, 60-character names), downstream fragments 30 bytes; a frame of `24 + n` bytes is
`25 + n` bytes compressed: n = 4 → 1 fragment, n = 30 → 2 fragments, n = 100 → 5 fragments in both directions.
Upstream (immediate and lazy) and downstream lazy: `2·k + 1` scheduler events for `k` fragments. -/

/-- TEST immediate mode, upstream: 1 fragment, and a sequence of three packets.  The sequence begins with the one-fragment
packet, so the two are decided together: the kernel then runs that packet once. -/
theorem test_imm_up_1_seq :
    deliversOnce (demoImmediate .b32 .b32) true (demoFrame 9 4) 3 = true ∧
    deliversInOrder (demoImmediate .b32 .b32) true [demoFrame 9 4, demoFrame 9 40, demoFrame 9 10] = true := by
  unfold deliversOnce deliversInOrder
  rw [runPromptCount_fast, offerAllC_fast, step_fast]
  decide +kernel

/-- TEST immediate mode, upstream, 1 / 2 / 5 fragments -/
theorem test_imm_up_1 : deliversOnce (demoImmediate .b32 .b32) true (demoFrame 9 4) 3 = true := test_imm_up_1_seq.1
theorem test_imm_up_2 : deliversOnce (demoImmediate .b32 .b32) true (demoFrame 9 30) 5 = true := by
  unfold deliversOnce; rw [runPromptCount_fast, step_fast]; decide +kernel
theorem test_imm_up_5 : deliversOnce (demoImmediate .b32 .b32) true (demoFrame 9 100) 11 = true := by
  unfold deliversOnce; rw [runPromptCount_fast, step_fast]; decide +kernel

/-- TEST immediate mode, downstream (the client polls once per second), 1 / 2 / 5 fragments -/
theorem test_imm_down_1 : deliversOnce (demoImmediate .b32 .b32) false (demoFrame 2 4) 3 = true := by decide +kernel
theorem test_imm_down_2 : deliversOnce (demoImmediate .b32 .b32) false (demoFrame 2 30) 8 = true := by decide +kernel
theorem test_imm_down_5 : deliversOnce (demoImmediate .b32 .b32) false (demoFrame 2 100) 14 = true := by
  unfold deliversOnce; rw [runPromptCount_fast, step_fast]; decide +kernel

/-- TEST raw UDP mode, both directions -/
theorem test_raw_up : deliversOnce demoRaw true (demoFrame 9 100) 1 = true := by decide +kernel
theorem test_raw_down : deliversOnce demoRaw false (demoFrame 2 100) 1 = true := by decide +kernel

/-- TEST sequences in immediate mode -/
theorem test_seq_imm_up : deliversInOrder (demoImmediate .b32 .b32) true [demoFrame 9 4, demoFrame 9 40, demoFrame 9 10] = true :=
  test_imm_up_1_seq.2
theorem test_seq_imm_down : deliversInOrder (demoImmediate .b32 .b32) false [demoFrame 2 4, demoFrame 2 40, demoFrame 2 10] = true := by
  unfold deliversInOrder; rw [offerAllS_fast]; decide +kernel

end Iodine.C02L
