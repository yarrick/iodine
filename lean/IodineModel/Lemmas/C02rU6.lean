import IodineModel.Props.C02
import IodineModel.Lemmas.C02rU3
/-
Upstream, immediate mode: NON-VACUITY of `up_packet_imm_desync7_multi`, `up_packet_imm_desync_false_ack`,
`recovery_after_giveups_up_imm_full` on the demo session `exW` (`Props/C02.lean`), and the finding as concrete witnesses.

`staleUp u w d pre`: the client's upstream number moved on by `d`, the server's reassembly buffer holding `pre` below the write
offset with last fragment number 0 — the state after fragment 0 (`pre`) of a longer packet was stored and acknowledged, the
rest of that packet and `d` (mod 8) further packets given up during an upstream blackout.  Every `QuietImm` state gives
`QuietImmD … d 0` states this way (`quietImmD_staleUp`).
-/
namespace Iodine.C02L
open Iodine Iodine.Gen Iodine.World

def staleUp (u : Nat) (w : W) (d : Nat) (pre : List Nat) : W :=
  { w with
    cs := { w.cs with c := { w.cs.c with outpkt := { w.cs.c.outpkt with seqno := (w.cs.c.outpkt.seqno + d) % 8 } } },
    srv := putUser w.srv u
      { Server.getUser w.srv u with inpacket := { (Server.getUser w.srv u).inpacket with
          fragment := 0, data := pre, len := pre.length, offset := pre.length } } }

theorem staleUp_user {P : Par} {w : W} (hq : QuietImm P w) (d : Nat) (pre : List Nat) :
    Server.getUser (staleUp P.u w d pre).srv P.u =
      { Server.getUser w.srv P.u with inpacket := { (Server.getUser w.srv P.u).inpacket with
          fragment := 0, data := pre, len := pre.length, offset := pre.length } } :=
  getUser_putUser_self _ _ _ hq.srv.solo.lt

theorem quietImmD_staleUp {P : Par} {w : W} (hq : QuietImm P w) (d : Nat) (pre : List Nat) :
    QuietImmD P d 0 (staleUp P.u w d pre) := by
  have hg := staleUp_user hq d pre
  have hc := hq.cst
  have hx := hq.srv.x
  refine ⟨hq.ph, ?_, hq.idleC, hq.up, hq.down, ?_, ?_, ?_, ?_, ?_, ?_, ?_⟩
  · exact ⟨hc.running, hc.conn, hc.imm, hc.uid, hc.uch, hc.td, hc.L, hc.enc, hc.ty, hc.cid, hc.cmc, hc.alive,
      by show 0 ≤ (w.cs.c.outpkt.seqno + (d : Int)) % 8 ∧ (w.cs.c.outpkt.seqno + (d : Int)) % 8 < 8; omega,
      hc.iseq, hc.ifrag, hc.seed⟩
  · refine ⟨hq.srv.solo.putUser _, hq.srv.td, ?_, ?_, ?_⟩
    · rw [hg]
      exact ⟨hx.active, hx.auth, hx.enabled, hx.conn, hx.enc, hx.oseq, hx.ofrag, hx.iseq,
        by show (0 : Int) ≤ 0 ∧ (0 : Int) < 16; omega⟩
    · rw [hg]; exact hq.srv.host
    · rw [hg]; exact hq.srv.live
  · rw [hg]; exact ⟨hq.idle.out, hq.idle.q, hq.idle.qs, hq.idle.lazy⟩
  · rw [hg]; exact hq.oq
  · rw [hg]
    show (w.cs.c.outpkt.seqno + (d : Int)) % 8 = ((Server.getUser w.srv P.u).inpacket.seqno + (d : Int)) % 8
    rw [hq.syncu]
  · rw [hg]
    show (Server.getUser w.srv P.u).outpacket.seqno = (w.cs.c.inpkt.seqno + ((0 : Nat) : Int)) % 8
    rw [hq.syncd]
    have := hc.iseq
    omega
  · rw [hg]; exact hq.aged.congr rfl rfl rfl rfl
  · rw [hg]; exact hq.paged.congr rfl rfl rfl rfl

theorem staleUp_tun (u : Nat) (w : W) (d : Nat) (pre : List Nat) :
    (staleUp u w d pre).tunS = w.tunS ∧ (staleUp u w d pre).tunC = w.tunC := ⟨rfl, rfl⟩

/-! ### the demo session -/

open Iodine.C02 (exP exW exP_ok ex_quiescent ex_acceptable)

theorem exW_tuns_rU : exW.tunS = [] ∧ exW.tunC = [] := by decide +kernel

theorem exW_tunIp_rU : (Server.getUser exW.srv exP.u).tunIp = 0x0a000002 := by decide +kernel

/-- the 2-fragment demo frame: 55 compressed bytes, fragments of 54 and 1 -/
theorem ex30_frags_rU : fragLen exP (0x5a :: demoFrame 9 30) = 54 ∧ upFrags exP ((demoFrame 9 30).length + 1) (0x5a :: demoFrame 9 30) = 2 := by
  decide +kernel

/-- the one-fragment demo frame -/
theorem ex4_frags_rU : fragLen exP (0x5a :: demoFrame 9 4) = (0x5a :: demoFrame 9 4).length := by decide +kernel

/-- **(a) empty buffer** (`staleUp … []` = `shiftUp exW 7`'s server): the 2-fragment frame is falsely acknowledged and swallowed
in the 5 steps of a clean transfer; nothing is written (the byte after the first fragment is 206, not the marker); in step. -/
example : ∃ w', promptSteps 0 5 (step (staleUp 0 exW 7 []) (.offerC (demoFrame 9 30))) = some w' ∧ QuietImm exP w' ∧
    w'.tunS = [] ∧ w'.tunC = [] := by
  have hq := quietImmD_staleUp ex_quiescent 7 []
  have hu := staleUp_user ex_quiescent 7 []
  obtain ⟨w', h1, h2, h3, h4, _⟩ := up_packet_imm_desync7_multi_empty exP_ok hq (by rw [hu]) (by rw [hu]; rfl) (by rw [hu]; rfl)
    (demoFrame 9 30) (by decide) (by decide) (by unfold Codec.Bytes; decide) (by rw [ex30_frags_rU.1]; decide)
    (by rw [ex30_frags_rU.2]; decide) (by rw [ex30_frags_rU.1]; decide)
  rw [ex30_frags_rU.2] at h1
  exact ⟨w', h1, h2, by rw [h3, (staleUp_tun _ _ _ _).1, exW_tuns_rU.1], by rw [h4, (staleUp_tun _ _ _ _).2, exW_tuns_rU.2]⟩

/-- **(b) one fragment**: lost silently in 2 steps. -/
example : ∃ w', promptSteps 0 2 (step (staleUp 0 exW 7 []) (.offerC (demoFrame 9 4))) = some w' ∧ QuietImm exP w' ∧
    w'.tunS = [] ∧ w'.tunC = [] := by
  have hq := quietImmD_staleUp ex_quiescent 7 []
  have hu := staleUp_user ex_quiescent 7 []
  obtain ⟨w', h1, h2, h3, h4, _⟩ := up_packet_imm_desync_false_ack exP_ok hq (by rw [hu]) (demoFrame 9 4) (by decide) (by decide)
    (by unfold Codec.Bytes; decide) ex4_frags_rU
  exact ⟨w', h1, h2, by rw [h3, (staleUp_tun _ _ _ _).1, exW_tuns_rU.1], by rw [h4, (staleUp_tun _ _ _ _).2, exW_tuns_rU.2]⟩

/-- the first fragment (54 bytes) of the compressed 3-fragment frame `demoFrame 9 100` -/
def stalePre : List Nat := (0x5a :: demoFrame 9 100).take 54

/-- what the server writes when the tail of `demoFrame 9 30` is appended to `stalePre`: the tun header, then bytes 4 … 52 of
the OLD frame (its IP header announces 120 bytes) and the last byte of the NEW one -/
def chimeraFrame : List Nat := [0, 0, 8, 0] ++ ((demoFrame 9 100).take 53).drop 4 ++ [206]

theorem ex_chimera_rU (I : Server.Packet) (hd : I.data = stalePre) (ho : I.offset = 54) :
    chimeraUp exP I (demoFrame 9 30) = 0x5a :: ((demoFrame 9 100).take 53 ++ [206]) ∧
    junkUp (chimeraUp exP I (demoFrame 9 30)) = [chimeraFrame] := by
  have h : chimeraUp exP I (demoFrame 9 30) = 0x5a :: ((demoFrame 9 100).take 53 ++ [206]) := by
    unfold chimeraUp
    rw [hd, ho, ex30_frags_rU.1]
    decide
  refine ⟨h, ?_⟩
  rw [h, junkUp_marker _ (by decide) (by decide)]
  decide

/-- **(d) THE CHIMERA**: the buffer holds the first fragment of an abandoned packet; the 2-fragment frame offered at distance 7
is falsely acknowledged, its second fragment is appended to the stale bytes, and after the 5 steps of a clean transfer the
server has written ONE frame that nobody sent: the head of the old packet with the tail of the new one.  Both ends are
quiescent and in step; the client believes `demoFrame 9 30` delivered. -/
theorem desync7_chimera_delivered :
    ∃ w', promptSteps 0 5 (step (staleUp 0 exW 7 stalePre) (.offerC (demoFrame 9 30))) = some w' ∧ QuietImm exP w' ∧
      w'.tunS = [chimeraFrame] ∧ w'.tunC = [] ∧ chimeraFrame ≠ tunImage (demoFrame 9 30) ∧ chimeraFrame ≠ tunImage (demoFrame 9 100) := by
  have hq := quietImmD_staleUp ex_quiescent 7 stalePre
  have hu := staleUp_user ex_quiescent 7 stalePre
  have hlen : stalePre.length = 54 := by decide
  have hch := ex_chimera_rU (Server.getUser (staleUp exP.u exW 7 stalePre).srv exP.u).inpacket (by rw [hu]) (by rw [hu]; exact hlen)
  obtain ⟨w', h1, h2, h3, h4, _⟩ := up_packet_imm_desync7_multi exP_ok hq (by rw [hu]) ⟨by rw [hu], by rw [hu]; exact Nat.le_refl _⟩
    (demoFrame 9 30) (by decide) (by decide) (by unfold Codec.Bytes; decide) (by rw [ex30_frags_rU.1]; decide)
    (by rw [ex30_frags_rU.2]; decide)
    ⟨by rw [hu, ex30_frags_rU.1]; show stalePre.length + _ ≤ _; rw [hlen]; decide, by
      intro fr hfr _
      rw [hch.1] at hfr
      have : fr = (demoFrame 9 100).take 53 ++ [206] := by
        simp only [Server.uncompress] at hfr
        split at hfr
        · exact (Option.some.inj hfr).symm
        · cases hfr
      subst this
      rw [hu]
      show _ ≠ (Server.getUser exW.srv exP.u).tunIp
      rw [exW_tunIp_rU]
      decide⟩
  rw [ex30_frags_rU.2] at h1
  rw [hch.2] at h3
  refine ⟨w', h1, h2, by rw [h3, (staleUp_tun _ _ _ _).1, exW_tuns_rU.1]; rfl, by rw [h4, (staleUp_tun _ _ _ _).2, exW_tuns_rU.2],
    by decide, by decide⟩

/-- **(c) recovery, every case**: four packets given up (`d = 4`), the server's last fragment number 0, empty buffer.  Of five
packets offered next, three are dropped with resends (`d = 4, 5, 6`), the fourth — two fragments — is FALSELY ACKNOWLEDGED at
`d = 7` and swallowed, the fifth is delivered; quiescent and in step. -/
theorem desync_recovery_with_false_ack :
    (offerAllC 0 40 (staleUp 0 exW 4 []) [demoFrame 9 4, demoFrame 9 5, demoFrame 9 6, demoFrame 9 30, demoFrame 9 30]).tunS =
      [demoFrame 9 30] ∧
    QuietImm exP (offerAllC 0 40 (staleUp 0 exW 4 []) [demoFrame 9 4, demoFrame 9 5, demoFrame 9 6, demoFrame 9 30, demoFrame 9 30]) := by
  have hq := quietImmD_staleUp ex_quiescent 4 []
  have hu := staleUp_user ex_quiescent 4 []
  have hip : (Server.getUser (staleUp exP.u exW 4 []).srv exP.u).tunIp = (Server.getUser exW.srv exP.u).tunIp := by rw [hu]
  have hok : ∀ f ∈ [demoFrame 9 4, demoFrame 9 5, demoFrame 9 6, demoFrame 9 30, demoFrame 9 30],
      UpFrameOk exP (Server.getUser exW.srv exP.u).tunIp f := by
    intro f hf
    simp only [List.mem_cons, List.not_mem_nil, or_false] at hf
    rcases hf with rfl | rfl | rfl | rfl | rfl
    · exact ⟨by decide, by decide, by unfold Codec.Bytes; decide, by decide +kernel, by decide +kernel⟩
    · exact ⟨by decide, by decide, by unfold Codec.Bytes; decide, by decide +kernel, by decide +kernel⟩
    · exact ⟨by decide, by decide, by unfold Codec.Bytes; decide, by decide +kernel, by decide +kernel⟩
    · exact ex_acceptable.1
    · exact ex_acceptable.1
  have hrec := recovery_after_giveups_up_imm_full exP_ok 40 (by omega)
    [demoFrame 9 4, demoFrame 9 5, demoFrame 9 6, demoFrame 9 30, demoFrame 9 30] 4 (staleUp exP.u exW 4 []) hq (by omega)
    (by intro f hf; rw [hip]; exact hok f hf)
    (by
      intro _ _
      refine ⟨⟨by rw [hu], by rw [hu]; exact Nat.le_refl _⟩, ?_⟩
      intro f hf _
      have : f = demoFrame 9 30 := by simpa using hf.symm
      subst this
      have hch : chimeraUp exP (Server.getUser (staleUp exP.u exW 4 []).srv exP.u).inpacket (demoFrame 9 30) = [206] := by
        rw [chimeraUp_empty _ _ _ (by rw [hu]; rfl), ex30_frags_rU.1]; decide
      refine ⟨by rw [hu, ex30_frags_rU.1]; decide, ?_⟩
      intro fr hfr
      rw [hch] at hfr
      simp [Server.uncompress] at hfr)
  have hj : junkAt exP (Server.getUser (staleUp exP.u exW 4 []).srv exP.u).inpacket 4
      [demoFrame 9 4, demoFrame 9 5, demoFrame 9 6, demoFrame 9 30, demoFrame 9 30] = [] := by
    apply junkAt_nil_of_empty (by rw [hu]; rfl)
    intro f hf
    have : f = demoFrame 9 30 := by simpa using hf.symm
    subst this
    rw [ex30_frags_rU.1]; decide
  have hl4 : lostUp 4 = 4 := by decide
  have hi : tunImage (demoFrame 9 30) = demoFrame 9 30 := by decide
  refine ⟨?_, hrec.2.2 (by rw [hl4]; decide)⟩
  have h1 := hrec.1
  rw [hj, hl4, (staleUp_tun _ _ _ _).1, exW_tuns_rU.1] at h1
  exact h1.trans (by show [tunImage (demoFrame 9 30)] = _; rw [hi])

end Iodine.C02L
