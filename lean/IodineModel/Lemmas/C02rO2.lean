import IodineModel.Lemmas.C02qO5
import IodineModel.Lemmas.C02qO2
/-
Endings of the overlap in lazy mode: the invariant of the upstream REMAINDER after the downstream packet is complete
(`UpFlightNQ`): an upstream fragment is in flight and the server holds NO query (the one it held went out with a downstream
fragment), so — unlike in `InFlight` (C02up2) in lazy mode — every data query is answered AT ONCE with a dataless acknowledgement,
as in immediate mode, and the last one is parked in `q_sendrealsoon` and answered by the server's 20 ms timer.  `UpFlightA` is what
the step lemmas need of it, so that they also serve `UpFlightNQP` (the server still has the last downstream fragment unacknowledged).
-/
namespace Iodine.C02L
open Iodine Iodine.Gen Iodine.World

/-- fragment `f` (offset `o`) of the upstream packet `out` is in flight towards the server, which holds NO query and has
nothing to send downstream (`c0` = the client state `send_chunk` was called in) -/
structure UpFlightNQ (P : Par) (out : List Nat) (w : W) (c0 : Client.Cli) (o f : Nat) : Prop extends UpSentL P out w c0 o f where
  cnt0 : CntOk c0 0
  down : w.down = []
  srv : NoQSrv P true w.srv
  op : (Server.getUser w.srv P.u).outpacket.len = 0
  expect : Expect (Server.getUser w.srv P.u) out c0.outpkt.seqno.toNat o f
  syncd : (Server.getUser w.srv P.u).outpacket.seqno = c0.inpkt.seqno
  aged : Aged P (Server.getUser w.srv P.u) c0.datacmc 1
  paged : PAged P (Server.getUser w.srv P.u) c0.randSeed 1

/-- What the step lemmas of the upstream remainder need of the server: it holds no query and, once the acknowledgement
carried by the data query in flight (`c0.inpkt`) has been processed, has nothing to send downstream — because it had nothing
(`UpFlightNQ`), or because that acknowledgement is for the last fragment of its outpacket (`UpFlightNQP`). -/
structure UpFlightA (P : Par) (out : List Nat) (w : W) (c0 : Client.Cli) (o f : Nat) : Prop extends UpSentL P out w c0 o f where
  cnt0 : CntOk c0 0
  down : w.down = []
  srv : NoQSrv P true w.srv
  ack : AckedIdle (Server.getUser w.srv P.u) w.srv.now c0.inpkt.seqno c0.inpkt.fragment
  expect : Expect (Server.getUser w.srv P.u) out c0.outpkt.seqno.toNat o f
  aged : Aged P (Server.getUser w.srv P.u) c0.datacmc 1
  paged : PAged P (Server.getUser w.srv P.u) c0.randSeed 1

theorem UpFlightNQ.toA {P : Par} {out : List Nat} {w : W} {c0 : Client.Cli} {o f : Nat} (h : UpFlightNQ P out w c0 o f) :
    UpFlightA P out w c0 o f :=
  ⟨h.toUpSentL, h.cnt0, h.down, h.srv,
    AckedIdle.of_idle h.srv.stat h.op h.syncd, h.expect, h.aged, h.paged⟩

/- The state right after the downstream packet (of at least two fragments) is complete at the CLIENT while upstream continues:
`UpFlightNQ` except that the server still has the LAST downstream fragment unacknowledged; the upstream data query in flight
carries the acknowledgement, so the server drops the packet as soon as that query arrives. -/
structure UpFlightNQP (P : Par) (out outD : List Nat) (w : W) (c0 : Client.Cli) (o f : Nat) (sq : Int) (od D fd : Nat) : Prop where
  ph : w.cs.ph = .tunnel
  ready : CReadyL P c0 out o f
  cnt0 : CntOk c0 0
  cli : w.cs.c = { sentStateL c0 with sendPingSoon := 0 }
  up : w.up = upOfEvents (Client.sendChunk c0).evs
  down : w.down = []
  sstat : SStat P w.srv
  q0 : (Server.getUser w.srv P.u).q.id = 0
  qs0 : (Server.getUser w.srv P.u).qs.id = 0
  lz : (Server.getUser w.srv P.u).lazy = true
  oq : (Server.getUser w.srv P.u).oqFilled = 0
  op : (Server.getUser w.srv P.u).outpacket = ⟨outD.length, D, od, outD, sq, (fd : Int)⟩
  hD : 0 < D
  heq : od + D = outD.length
  hfd : fd < 16
  hsq : 0 ≤ sq ∧ sq < 8
  ack : c0.inpkt.seqno = sq ∧ c0.inpkt.fragment = (fd : Int)
  expect : Expect (Server.getUser w.srv P.u) out c0.outpkt.seqno.toNat o f
  aged : Aged P (Server.getUser w.srv P.u) c0.datacmc 1
  paged : PAged P (Server.getUser w.srv P.u) c0.randSeed 1

theorem UpFlightNQP.toA {P : Par} {out outD : List Nat} {w : W} {c0 : Client.Cli} {o f : Nat} {sq : Int} {od D fd : Nat}
    (h : UpFlightNQP P out outD w c0 o f sq od D fd) : UpFlightA P out w c0 o f :=
  ⟨⟨h.ph, h.ready, h.cli, h.up⟩, h.cnt0, h.down, ⟨h.sstat, h.q0, h.qs0, h.lz, h.oq⟩,
    by rw [h.ack.1, h.ack.2]; exact AckedIdle.of_last h.sstat h.oq h.op h.hD h.heq h.hfd, h.expect, h.aged, h.paged⟩

/-- the answer counting after `send_chunk` from a state in which NOTHING was outstanding -/
theorem sentStateL_cnt0 (c : Client.Cli) (hc : CntOk c 0) : CntOk { sentStateL c with sendPingSoon := 0 } 1 := by
  have h1 : CntOk (sentState c) 0 := by
    unfold CntOk at *
    unfold sentState Client.rotateChunkid
    exact hc
  show CntOk (bumpCnt (sentState c)) 1
  unfold CntOk bumpCnt at *
  split
  · show (sentState c).sendcnt + 1 < 0 ∨ 100 ≤ (sentState c).sendcnt + 1 ∨ (sentState c).sendcnt + 1 ≤ ((sentState c).recvcnt : Int) + ((1 : Nat) : Int)
    omega
  · omega

/-- `tunnel_dns` on a two-byte (dataless) answer to the MOST RECENT query in lazy mode that announces no new downstream
packet: the lazy-mode hint fires (`send_ping_soon = 900`), then straight to the upstream-ack code; `send_something_now`
starts as "a ping was due" -/
theorem tunnelDns_dataless_cur (c : Client.Cli) (rq : Client.Rq) (hn : Client.notData c rq.name0 = false) (hrv : rq.rv = 2)
    (hid : rq.id = c.chunkid) (hlz : c.lazymode = true)
    (hdn : (Client.decodeHdr rq.buf).dnSeq = c.inpkt.seqno) :
    Client.tunnelDns c rq = Client.upstream (hintBook c) (Client.decodeHdr rq.buf) [] (c.sendPingSoon != 0) 2 :=
  tunnelDns_via c rq hn (by omega) (by omega) (hid ▸ recentId_cur c) (c1 := { c with sendPingSoon := 0 }) (rd := 2)
    (by rw [hrv]; exact dupeSeqno_keep _ _ _ (Or.inl (by omega)))
    (book_cur c _ _ _ hid hlz (Or.inr (Or.inl hdn))) (downstream_dataless _ _ _ _)

end Iodine.C02L
