import IodineModel.Wire.Put
import IodineModel.Wire.DnsEncode
import IodineModel.Lemmas.Strict
/-
Closed forms of the model of read.c `put*` / dns.c `dns_encode*` on their success paths: under "labels
are 1..63 bytes" and "the buffer is large enough" hypotheses every emitter appends an explicit byte string
(written with the reference encodings `encLabels`, `encName`, `be16`, … of Lemmas/Strict.lean).

Second half (`Pre`): for ANY input, what has been written stays written — every emitter only appends, or patches bytes it
skipped itself (`putname_pre` … `ansBranch_pre`); this is what makes the echo of id and question independent of the data
(`C10.echo_any`).
-/
namespace Iodine.Wire.Put
open Iodine.Wire

def Buf.app (b : Buf) (l : List Nat) : Buf := ⟨b.bytes ++ l.toArray, b.cap⟩

@[simp] theorem app_pos (b : Buf) (l : List Nat) : (b.app l).pos = b.pos + l.length := by
  simp [Buf.app, Buf.pos]
@[simp] theorem app_cap (b : Buf) (l : List Nat) : (b.app l).cap = b.cap := rfl
@[simp] theorem app_app (b : Buf) (l m : List Nat) : (b.app l).app m = b.app (l ++ m) := by
  simp [Buf.app]
@[simp] theorem app_toList (b : Buf) (l : List Nat) : (b.app l).bytes.toList = b.bytes.toList ++ l := by
  simp [Buf.app]
theorem app_nil (b : Buf) : b.app [] = b := by
  simp [Buf.app]

theorem putbyte_ok (b : Buf) (v : Nat) (h : b.pos < b.cap) : putbyte b v = .ok (b.app [v % 256]) := by
  unfold putbyte Buf.app
  simp only [Buf.pos] at h
  simp [h]

/-- `f` appends the bytes `l` to every buffer that has room for them -/
def Appends (f : Buf → R Buf) (l : List Nat) : Prop :=
  ∀ b : Buf, b.pos + l.length ≤ b.cap → f b = .ok (b.app l)

theorem Appends.bind {f g : Buf → R Buf} {l m : List Nat} (hf : Appends f l) (hg : Appends g m) :
    Appends (fun b => f b >>= g) (l ++ m) := by
  intro b h
  simp only [List.length_append] at h
  show f b >>= g = _
  rw [hf b (by omega), R.ok_bind, hg _ (by simp; omega), app_app]

theorem putbyte_app (v : Nat) : Appends (putbyte · v) [v % 256] := fun b h => putbyte_ok b v h

theorem putshort_app (v : Nat) : Appends (putshort · v) (be16 v) := (putbyte_app _).bind (putbyte_app _)

theorem putshort_ok (b : Buf) (v : Nat) (h : b.pos + 2 ≤ b.cap) : putshort b v = .ok (b.app (be16 v)) :=
  putshort_app v b h

theorem putlong_app (v : Nat) : Appends (putlong · v) (be32 v) :=
  (putbyte_app _).bind ((putbyte_app _).bind ((putbyte_app _).bind (putbyte_app _)))

theorem putdata_ok (b : Buf) (d : List Nat) (h : b.pos + d.length ≤ b.cap) : putdata b d = .ok (b.app d) := by
  unfold putdata Buf.app
  simp only [Buf.pos] at h
  simp [h]

theorem skip_eq (b : Buf) (n : Nat) : b.skip n = b.app (List.replicate n 0) := rfl

theorem set_set_append (p : List Nat) (x y a c : Nat) (l : List Nat) :
    ((p ++ x :: y :: l).set p.length a).set (p.length + 1) c = p ++ a :: c :: l := by
  induction p with
  | nil => simp
  | cons q p ih => simp

theorem set_append2 (A pre : List Nat) (x y c : Nat) (l : List Nat) :
    (A ++ (pre ++ x :: y :: l)).set (A.length + pre.length + 1) c = A ++ (pre ++ x :: c :: l) := by
  have := set_set_append (A ++ pre) x y x c l
  simp only [List.length_append, List.append_assoc] at this
  rw [← this]
  congr 1
  rw [← List.append_assoc, ← List.length_append, List.set_append_right _ _ (Nat.le_refl _)]
  simp

/-- back-patching the two placeholder bytes that follow `pre` (the buffer, the position and the value are given up to
equations, which is how they arise in the encoders) -/
theorem patchShort_ok (b : Buf) (pre : List Nat) (x y : Nat) (l L : List Nat) (at_ v v' : Nat)
    (hL : L = pre ++ x :: y :: l) (hat : at_ = b.pos + pre.length) (hv : v = v')
    (h : b.pos + pre.length + 2 ≤ b.cap) :
    patchShort (b.app L) at_ v = .ok (b.app (pre ++ be16 v' ++ l)) := by
  subst hL hat hv
  unfold patchShort
  have h1 : b.pos + pre.length + 1 < (b.app (pre ++ x :: y :: l)).cap := by simp; omega
  rw [if_pos h1]
  have key : ((b.app (pre ++ x :: y :: l)).bytes.setIfInBounds (b.pos + pre.length) (v / 256 % 256)).setIfInBounds
      (b.pos + pre.length + 1) (v % 256) = (b.app (pre ++ be16 v ++ l)).bytes := by
    apply Array.ext'
    have := set_append2 b.bytes.toList pre (v / 256 % 256) y (v % 256) l
    simp only [Array.length_toList] at this
    simp [Buf.app, Buf.pos, be16, this]
  rw [key]
  rfl

@[simp] theorem be16_length (v : Nat) : (be16 v).length = 2 := rfl
@[simp] theorem be32_length (v : Nat) : (be32 v).length = 4 := rfl

/-! ### putname -/

theorem putLabels_ok (ls : List (List Nat)) : ∀ (left : Int) (b : Buf),
    (∀ l ∈ ls, l.length ≤ 63) → (left < 0 ∨ (labLen ls : Int) - 1 ≤ left) → b.pos + labLen ls ≤ b.cap →
    putLabels left b ls = .ok (some (left - labLen ls, b.app (encLabels ls))) := by
  induction ls with
  | nil => intro left b _ _ _; simp [putLabels, app_nil]
  | cons l ls ih =>
    intro left b h63 hleft hcap
    have hl := h63 l (by simp)
    simp only [labLen_cons] at hleft hcap
    unfold putLabels
    rw [if_neg (by omega)]
    rw [putbyte_ok b _ (by omega)]
    simp only [R.ok_bind]
    rw [putdata_ok _ _ (by simp; omega)]
    simp only [R.ok_bind, app_app]
    rw [ih _ _ (fun x hx => h63 x (by simp [hx])) (by omega) (by simp; omega)]
    simp only [app_app, encLabels_cons, labLen_cons]
    have : l.length % 256 = l.length := by omega
    rw [this]
    simp
    omega

/-- `putname` on a host whose `strtok` pieces are all ≤ 63 bytes, with a bound that is large enough (or
"negative") and a buffer that has the room: labels and root byte are appended -/
theorem putname_ok (b : Buf) (left : Int) (host : List Nat)
    (h63 : ∀ l ∈ tokens host, l.length ≤ 63) (hleft : left < 0 ∨ (labLen (tokens host) : Int) - 1 ≤ left)
    (hcap : b.pos + labLen (tokens host) + 1 ≤ b.cap) :
    putname b left host = .ok ((labLen (tokens host) : Int), b.app (encName (tokens host))) := by
  unfold putname
  rw [putLabels_ok _ left b h63 hleft (by omega)]
  simp only [R.ok_bind]
  rw [putbyte_ok _ _ (by simp; omega)]
  simp [encName]
  omega

/-- every piece of `splitDot` accounts for its bytes and one separator -/
theorem splitDot_labLen (s : List Nat) : labLen ((splitDot s).1 :: (splitDot s).2) = s.length + 1 := by
  induction s with
  | nil => simp [splitDot]
  | cons c r ih =>
    simp only [splitDot]
    split
    · simp only [labLen_cons] at ih ⊢; simp; omega
    · simp only [labLen_cons] at ih ⊢; simp; omega

theorem tokens_eq_split (s : List Nat) (h : ∀ l ∈ (splitDot s).1 :: (splitDot s).2, l ≠ []) :
    tokens s = (splitDot s).1 :: (splitDot s).2 := by
  unfold tokens
  rw [List.filter_eq_self]
  intro l hl
  have := h l hl
  cases l with
  | nil => exact absurd rfl this
  | cons a l => rfl

/-! ### puttxtbin -/

/-- the data cut into pieces of 252 bytes (`fuel` ≥ number of pieces) -/
def chunks252 : Nat → List Nat → List (List Nat)
  | 0, _ => []
  | fuel + 1, d => if d.isEmpty then [] else d.take 252 :: chunks252 fuel (d.drop 252)

theorem chunks252_le (fuel : Nat) (d : List Nat) : ∀ s ∈ chunks252 fuel d, s.length ≤ 252 := by
  induction fuel generalizing d with
  | zero => simp [chunks252]
  | succ f ih =>
    intro s hs
    simp only [chunks252] at hs
    split at hs
    · simp at hs
    · simp only [List.mem_cons] at hs
      rcases hs with rfl | hs
      · simp; omega
      · exact ih _ s hs

theorem chunks252_flatten (fuel : Nat) (d : List Nat) (h : d.length ≤ fuel) :
    (chunks252 fuel d).flatten = d := by
  induction fuel generalizing d with
  | zero => simp at h; simp [chunks252, h]
  | succ f ih =>
    simp only [chunks252]
    split
    · rename_i he; simp at he; simp [he]
    · rename_i hne
      have hpos : 0 < d.length := by
        cases d with
        | nil => simp at hne
        | cons a d => simp
      simp only [List.flatten_cons]
      rw [ih _ (by simp; omega), List.take_append_drop]

theorem chunks252_ne_nil (fuel : Nat) (d : List Nat) (h : d ≠ []) : chunks252 (fuel + 1) d ≠ [] := by
  simp only [chunks252]
  cases d with
  | nil => exact absurd rfl h
  | cons a d => simp

theorem chunks252_mem (fuel : Nat) (d : List Nat) : ∀ s ∈ chunks252 fuel d, ∀ x ∈ s, x ∈ d := by
  induction fuel generalizing d with
  | zero => simp [chunks252]
  | succ f ih =>
    intro s hs x hx
    simp only [chunks252] at hs
    split at hs
    · simp at hs
    · simp only [List.mem_cons] at hs
      rcases hs with rfl | hs
      · exact List.mem_of_mem_take hx
      · exact List.mem_of_mem_drop (ih _ s hs x hx)

/-- bytes on the wire: the data and one length byte per started piece of 252 -/
theorem chunks252_labLen (fuel : Nat) (d : List Nat) (h : d.length ≤ fuel) :
    labLen (chunks252 fuel d) = d.length + (d.length + 251) / 252 := by
  induction fuel generalizing d with
  | zero => simp at h; simp [chunks252, h]
  | succ f ih =>
    simp only [chunks252]
    split
    · rename_i he; simp at he; simp [he]
    · rename_i hne
      have hpos : 0 < d.length := by
        cases d with
        | nil => simp at hne
        | cons a d => simp
      simp only [labLen_cons, List.length_take]
      rw [ih _ (by simp; omega)]
      simp only [List.length_drop]
      omega

theorem txtLoop_ok (fuel : Nat) : ∀ (b : Buf) (remain : Int) (d : List Nat) (used : Nat),
    d.length ≤ fuel → (remain < 0 ∨ (labLen (chunks252 fuel d) : Int) ≤ remain) →
    b.pos + labLen (chunks252 fuel d) ≤ b.cap →
    txtLoop fuel b remain d used =
      .ok ((used + labLen (chunks252 fuel d) : Nat), b.app (encLabels (chunks252 fuel d))) := by
  induction fuel with
  | zero =>
    intro b remain d used hd _ _
    simp [txtLoop, chunks252, app_nil]
  | succ f ih =>
    intro b remain d used hd hrem hcap
    unfold txtLoop
    simp only [chunks252] at hrem hcap ⊢
    by_cases he : d.isEmpty
    · simp [he, app_nil]
    · simp only [he] at hrem hcap ⊢
      simp only [Bool.false_eq_true, if_false, labLen_cons, List.length_take] at hrem hcap ⊢
      have hpos : 0 < d.length := by
        cases d with
        | nil => simp at he
        | cons a d => simp
      have hmin : min d.length 252 = min 252 d.length := Nat.min_comm _ _
      rw [hmin]
      have hdrop : d.drop (min 252 d.length) = d.drop 252 := by
        by_cases hle : d.length ≤ 252
        · rw [Nat.min_eq_right hle, List.drop_eq_nil_of_le (Nat.le_refl _), List.drop_eq_nil_of_le hle]
        · rw [Nat.min_eq_left (by omega)]
      have htake : d.take (min 252 d.length) = d.take 252 := by
        by_cases hle : d.length ≤ 252
        · rw [Nat.min_eq_right hle, List.take_of_length_le (Nat.le_refl _), List.take_of_length_le hle]
        · rw [Nat.min_eq_left (by omega)]
      rw [hdrop, htake]
      rw [if_neg (by omega)]
      rw [putbyte_ok b _ (by omega)]
      simp only [R.ok_bind]
      rw [putdata_ok _ _ (by simp; omega)]
      simp only [R.ok_bind, app_app]
      rw [ih _ _ _ _ (by simp; omega) (by omega) (by simp; omega)]
      simp only [app_app, encLabels_cons, List.length_take]
      have : min 252 d.length % 256 = min 252 d.length := by omega
      rw [this]
      simp
      omega

theorem puttxtbin_ok (b : Buf) (remain : Int) (d : List Nat)
    (hrem : remain < 0 ∨ (labLen (chunks252 d.length d) : Int) ≤ remain)
    (hcap : b.pos + labLen (chunks252 d.length d) ≤ b.cap) :
    puttxtbin b remain d =
      .ok ((labLen (chunks252 d.length d) : Nat), b.app (encLabels (chunks252 d.length d))) := by
  unfold puttxtbin
  rw [txtLoop_ok d.length b remain d 0 (Nat.le_refl _) hrem hcap]
  simp

end Iodine.Wire.Put

namespace Iodine.Wire.DnsEncode
open Iodine.Wire Iodine.Wire.Put Iodine.Wire.Strict

theorem checklen_ok (buflen : Nat) (b : Buf) (x : Nat) (h : x + b.pos ≤ buflen) :
    checklen buflen b x = .ok () := by
  unfold checklen
  rw [if_neg (by omega)]

theorem cstr_append_nul (nm t : List Nat) (h : ∀ c ∈ nm, c ≠ 0) : cstr (nm ++ 0 :: t) = nm := by
  unfold cstr
  rw [List.takeWhile_append_of_pos (by simpa using h), List.takeWhile_cons_of_neg (by simp), List.append_nil]

/-- owner (16-bit value), type, class IN, ttl -/
def rrHeadBytes (name ty ttl : Nat) : List Nat := be16 name ++ (be16 ty ++ (be16 1 ++ be32 ttl))

@[simp] theorem rrHeadBytes_length (name ty ttl : Nat) : (rrHeadBytes name ty ttl).length = 10 := rfl

theorem rrHead_ok (b : Buf) (name ty ttl : Nat) (h : b.pos + 10 ≤ b.cap) :
    rrHead b name ty ttl = .ok (b.app (rrHeadBytes name ty ttl)) :=
  (putshort_app name).bind ((putshort_app ty).bind ((putshort_app C_IN).bind (putlong_app ttl))) b h

/-- a record as the encoders emit it: pointer (or other 16-bit value) as owner, fixed part, RDATA -/
def rrBytes (name ty ttl : Nat) (rd : List Nat) : List Nat :=
  be16 name ++ (rrFixed ty 1 ttl rd.length ++ rd)

theorem rrBytes_eq (name ty ttl : Nat) (rd : List Nat) :
    rrBytes name ty ttl rd = rrHeadBytes name ty ttl ++ be16 rd.length ++ rd := by
  simp [rrBytes, rrHeadBytes, rrFixed]

@[simp] theorem rrBytes_length (name ty ttl : Nat) (rd : List Nat) :
    (rrBytes name ty ttl rd).length = 12 + rd.length := by
  simp [rrBytes]; omega

theorem ansNull_ok (buflen ty : Nat) (b : Buf) (data : List Nat) (hcap : b.cap = buflen)
    (hfit : b.pos + 12 + data.length ≤ buflen) :
    ansNull buflen ty b data data.length = .ok (b.app (rrBytes namePtr ty 0 data), 1) := by
  unfold ansNull
  rw [checklen_ok _ _ _ (by omega)]
  simp only [R.ok_bind]
  rw [rrHead_ok _ _ _ _ (by omega)]
  simp only [R.ok_bind]
  have hmin : min data.length (buflen - (b.app (rrHeadBytes namePtr ty 0)).pos) = data.length := by
    simp; omega
  rw [hmin, checklen_ok _ _ _ (by simp; omega)]
  simp only [R.ok_bind]
  rw [putshort_ok _ _ (by simp; omega)]
  simp only [R.ok_bind]
  rw [checklen_ok _ _ _ (by simp; omega)]
  simp only [R.ok_bind, List.take_length]
  rw [putdata_ok _ _ (by simp; omega)]
  simp only [R.ok_bind]
  rw [checklen_ok _ _ _ (by simp; omega)]
  simp [rrBytes_eq]

/-- CNAME/A: the answer is a CNAME record whose RDATA is the encoded name `cstr data` -/
theorem ansCname_ok (buflen ty : Nat) (b : Buf) (data : List Nat) (hcap : b.cap = buflen)
    (h63 : ∀ l ∈ tokens (cstr data), l.length ≤ 63)
    (hfit : b.pos + 12 + labLen (tokens (cstr data)) + 1 ≤ buflen) :
    ansCname buflen ty b data =
      .ok (b.app (rrBytes namePtr (if ty = T_A then T_CNAME else ty) 0 (encName (tokens (cstr data)))), 1) := by
  unfold ansCname
  rw [checklen_ok _ _ _ (by omega)]
  simp only [R.ok_bind]
  rw [rrHead_ok _ _ _ _ (by omega)]
  simp only [R.ok_bind, skip_eq, app_app]
  rw [putname_ok _ _ _ h63 (by simp; omega) (by simp; omega)]
  simp only [R.ok_bind, app_app]
  rw [checklen_ok _ _ _ (by simp; omega)]
  simp only [R.ok_bind]
  rw [patchShort_ok b (rrHeadBytes namePtr (if ty = T_A then T_CNAME else ty) 0) 0 0
    (encName (tokens (cstr data))) _ _ _ (encName (tokens (cstr data))).length
    (by simp [List.replicate]) (by simp) (by simp; omega) (by simp; omega)]
  simp [rrBytes_eq]

theorem ansTxt_ok (buflen ty : Nat) (b : Buf) (data : List Nat) (hcap : b.cap = buflen)
    (hfit : b.pos + 12 + labLen (chunks252 data.length data) ≤ buflen) :
    ansTxt buflen ty b data data.length =
      .ok (b.app (rrBytes namePtr ty 0 (encLabels (chunks252 data.length data))), 1) := by
  unfold ansTxt
  rw [checklen_ok _ _ _ (by omega)]
  simp only [R.ok_bind]
  rw [rrHead_ok _ _ _ _ (by omega)]
  simp only [R.ok_bind, skip_eq, app_app, List.take_length]
  rw [puttxtbin_ok _ _ _ (by simp; omega) (by simp; omega)]
  simp only [R.ok_bind, app_app]
  rw [checklen_ok _ _ _ (by simp; omega)]
  simp only [R.ok_bind]
  rw [patchShort_ok b (rrHeadBytes namePtr ty 0) 0 0
    (encLabels (chunks252 data.length data)) _ _ _ (encLabels (chunks252 data.length data)).length
    (by simp [List.replicate]) (by simp) (by simp; omega) (by simp; omega)]
  simp [rrBytes_eq]

def mxRData (ty ancnt : Nat) (target : List (List Nat)) : List Nat :=
  be16 (10 * ancnt) ++ ((if ty = T_SRV then be16 10 ++ be16 5060 else []) ++ encName target)

theorem mxRData_length (ty ancnt : Nat) (target : List (List Nat)) :
    (mxRData ty ancnt target).length = (if ty = T_SRV then 6 else 2) + labLen target + 1 := by
  unfold mxRData
  split <;> simp <;> omega

/-- the records of the MX/SRV loop, numbered from `ancnt` -/
def mxRecs (ty : Nat) : Nat → List (List (List Nat)) → List Nat
  | _, [] => []
  | a, t :: r => rrBytes namePtr ty 0 (mxRData ty a t) ++ mxRecs ty (a + 1) r

/-- weight and port, which only an SRV record has -/
theorem srvExtra_ok (buflen ty : Nat) (b : Buf) (hcap : b.cap = buflen) (e : List Nat)
    (he : e = if ty = T_SRV then be16 10 ++ be16 5060 else []) (h : b.pos + e.length ≤ buflen) :
    (if ty = T_SRV then do
        checklen buflen b 4
        let b ← putshort b 10
        putshort b 5060
      else pure b) = .ok (b.app e) := by
  subst he
  by_cases hsrv : ty = T_SRV
  · simp only [hsrv, if_true] at h ⊢
    have h4 : b.pos + 4 ≤ buflen := h
    rw [checklen_ok _ _ _ (by omega), R.ok_bind]
    exact (putshort_app 10).bind (putshort_app 5060) b (by rw [hcap]; exact h4)
  · simp only [hsrv, if_false, app_nil]
    rfl

theorem mxLoop_ok (buflen ty : Nat) (names : List (List Nat)) : ∀ (ancnt : Nat) (b : Buf), b.cap = buflen →
    (∀ nm ∈ names, ∀ l ∈ tokens nm, l.length ≤ 63) →
    b.pos + (mxRecs ty ancnt (names.map tokens)).length ≤ buflen →
    mxLoop buflen ty names ancnt b = .ok (b.app (mxRecs ty ancnt (names.map tokens))) := by
  induction names with
  | nil => intro ancnt b _ _ _; simp [mxLoop, mxRecs, app_nil]
  | cons nm rest ih =>
    intro ancnt b hcap h63 hfit
    have h63n := h63 nm (by simp)
    simp only [List.map_cons, mxRecs, List.length_append, rrBytes_length, mxRData_length] at hfit
    obtain ⟨e, he⟩ : ∃ e, e = if ty = T_SRV then be16 10 ++ be16 5060 else [] := ⟨_, rfl⟩
    have hel : (if ty = T_SRV then 6 else 2) = 2 + e.length := by rw [he]; split <;> rfl
    have hrd : mxRData ty ancnt (tokens nm) = be16 (10 * ancnt) ++ (e ++ encName (tokens nm)) := by rw [he]; rfl
    rw [hel] at hfit
    unfold mxLoop
    rw [checklen_ok _ _ _ (by omega)]
    simp only [R.ok_bind]
    rw [rrHead_ok _ _ _ _ (by omega)]
    simp only [R.ok_bind, skip_eq, app_app]
    rw [checklen_ok _ _ _ (by simp; omega)]
    simp only [R.ok_bind]
    rw [putshort_ok _ _ (by simp; omega)]
    simp only [R.ok_bind, app_app]
    rw [srvExtra_ok buflen ty _ (by simpa using hcap) e he (by simp; omega)]
    simp only [R.ok_bind, app_app]
    rw [putname_ok _ _ _ h63n (by simp; omega) (by simp; omega)]
    simp only [R.ok_bind, app_app]
    rw [checklen_ok _ _ _ (by simp; omega)]
    simp only [R.ok_bind]
    rw [patchShort_ok b (rrHeadBytes namePtr ty 0) 0 0
      (mxRData ty ancnt (tokens nm)) _ _ _ (mxRData ty ancnt (tokens nm)).length
      (by simp [List.replicate, hrd]) (by simp) (by simp [hrd]; omega) (by simp; omega)]
    simp only [R.ok_bind]
    rw [ih (ancnt + 1) _ (by simpa using hcap) (fun n hn => h63 n (by simp [hn]))
      (by simp [hrd]; omega)]
    simp [rrBytes_eq, mxRecs]

/-- question section: name, type, class IN -/
def qBytes (toks : List (List Nat)) (ty : Nat) : List Nat := encName toks ++ (be16 ty ++ be16 1)

@[simp] theorem qBytes_length (toks : List (List Nat)) (ty : Nat) : (qBytes toks ty).length = labLen toks + 5 := by
  simp [qBytes]

/-- the buffer right after the `memset` and the header assignments -/
def buf0 (hdr : List Nat) (buflen : Nat) : Buf := ⟨hdr.toArray, buflen⟩

@[simp] theorem buf0_cap (hdr : List Nat) (buflen : Nat) : (buf0 hdr buflen).cap = buflen := rfl
@[simp] theorem buf0_pos (id f : Nat) (buflen : Nat) : (buf0 (header id f) buflen).pos = 12 := rfl
@[simp] theorem buf0_pos' (id f o v : Nat) (buflen : Nat) : (buf0 (setCount (header id f) o v) buflen).pos = 12 := by
  simp [buf0, Buf.pos, setCount, header]
@[simp] theorem buf0_toList (hdr : List Nat) (buflen : Nat) : (buf0 hdr buflen).bytes.toList = hdr := rfl

theorem setCount_an (id f an : Nat) (body : List Nat) :
    setCount (header id f ++ body) 6 an = be16 id ++ [f, 0] ++ be16 1 ++ be16 an ++ be16 0 ++ be16 0 ++ body := by
  simp [setCount, header, be16]

theorem setCount_ar (id f an ar : Nat) (body : List Nat) :
    setCount (setCount (header id f) 6 an ++ body) 10 ar =
      be16 id ++ [f, 0] ++ be16 1 ++ be16 an ++ be16 0 ++ be16 ar ++ body := by
  simp [setCount, header, be16]

theorem setCount_ar0 (id f ar : Nat) (body : List Nat) :
    setCount (header id f ++ body) 10 ar = be16 id ++ [f, 0] ++ be16 1 ++ be16 0 ++ be16 0 ++ be16 ar ++ body := by
  simp [setCount, header, be16]

/-- header and question of every answer (`dns_encode(QR_ANSWER)`, the A and the NS response; the query passes another length to
`putname`): after them the buffer is `b0.app (qBytes …)` -/
theorem question_ok {buflen : Nat} (b0 : Buf) (hpos : b0.pos = 12) (hcap : b0.cap = buflen) (ty : Nat)
    (qn : List Nat) (h63 : ∀ l ∈ tokens qn, l.length ≤ 63) (hfit : 12 + labLen (tokens qn) + 5 ≤ buflen)
    {α} (f : Buf → R α) :
    (do
      let (_, b) ← putname b0 ((buflen : Int) - b0.pos) qn
      checklen buflen b 4
      let b ← putshort b ty
      let b ← putshort b C_IN
      f b) = f (b0.app (qBytes (tokens qn) ty)) := by
  rw [putname_ok _ _ _ h63 (by rw [hpos]; omega) (by rw [hpos, hcap]; omega)]
  simp only [R.ok_bind]
  rw [checklen_ok _ _ _ (by simp [hpos]; omega)]
  simp only [R.ok_bind]
  rw [putshort_ok _ _ (by simp [hpos]; omega)]
  simp only [R.ok_bind, app_app]
  rw [putshort_ok _ _ (by simp [hpos]; omega)]
  simp [qBytes, C_IN]

/-- `dns_encode(QR_ANSWER)` once the answer branch is known to append `rrs` -/
theorem dnsEncodeAnswer_of (buflen id ty : Nat) (qn data : List Nat) (datalen : Nat)
    (h63 : ∀ l ∈ tokens qn, l.length ≤ 63) (hfit : 12 + labLen (tokens qn) + 5 ≤ buflen)
    (rrs : List Nat) (an : Nat)
    (hbr : ∀ b : Buf, b.cap = buflen → b.pos = 12 + labLen (tokens qn) + 5 →
      ansBranch buflen ty b data datalen = .ok (b.app rrs, an)) :
    dnsEncodeAnswer buflen id ty qn data datalen =
      .ok (be16 id ++ [0x84, 0] ++ be16 1 ++ be16 an ++ be16 0 ++ be16 0 ++ (qBytes (tokens qn) ty ++ rrs)) := by
  unfold dnsEncodeAnswer
  rw [if_neg (by omega)]
  rw [question_ok _ rfl rfl ty qn h63 hfit]
  rw [hbr _ (by simp) (by rw [app_pos, qBytes_length]; simp only [Buf.pos, header]; simp; omega)]
  simp only [R.ok_bind, R.pure_eq, app_app, app_toList]
  rw [setCount_an]

/-- `strtok` drops pieces, so the labels never take more than the string and one separator -/
theorem labLen_tokens_le (s : List Nat) : labLen (tokens s) ≤ s.length + 1 := by
  have h := splitDot_labLen s
  have : ∀ l : List (List Nat), labLen (l.filter (fun w => !w.isEmpty)) ≤ labLen l := by
    intro l
    induction l with
    | nil => simp
    | cons x l ih =>
      simp only [List.filter_cons]
      split
      · simp; omega
      · simp; omega
  have := this ((splitDot s).1 :: (splitDot s).2)
  unfold tokens
  omega

/-- the OPT pseudo-record of the queries: root owner, type 41, class = 4096, ttl = 0x8000, no data -/
def optBytes : List Nat := [0] ++ (rrFixed 41 4096 0x8000 0)

theorem putOpt_ok (b : Buf) (h : b.pos + 11 ≤ b.cap) : putOpt b = .ok (b.app optBytes) :=
  (putbyte_app 0).bind ((putshort_app 0x0029).bind ((putshort_app 0x1000).bind ((putshort_app 0x0000).bind
    ((putshort_app 0x8000).bind (putshort_app 0x0000))))) b h

/-- `dns_encode(QR_QUERY)` as the client calls it -/
theorem dnsEncodeQuery_ok (buflen id ty : Nat) (edns : Bool) (host : List Nat)
    (h63 : ∀ l ∈ tokens host, l.length ≤ 63)
    (hfit : 12 + (host.length + 2) + 4 + (if edns then 11 else 0) ≤ buflen) :
    dnsEncodeQuery buflen id ty edns host =
      .ok (be16 id ++ [0x01, 0] ++ be16 1 ++ be16 0 ++ be16 0 ++ be16 (if edns then 1 else 0) ++
        (qBytes (tokens host) ty ++ (if edns then optBytes else []))) := by
  have hle := labLen_tokens_le host
  unfold dnsEncodeQuery dnsEncodeQueryL
  rw [if_neg (by omega)]
  have hpos : (⟨(header id 0x01).toArray, buflen⟩ : Buf).pos = 12 := rfl
  simp only [hpos]
  have hmin : min host.length (buflen - 12) = host.length := by omega
  simp only [hmin]
  rw [putname_ok _ _ _ h63 (by omega) (by simp [hpos]; omega)]
  simp only [R.ok_bind]
  rw [checklen_ok _ _ _ (by simp [hpos]; omega)]
  simp only [R.ok_bind]
  rw [putshort_ok _ _ (by simp [hpos]; omega)]
  simp only [R.ok_bind, app_app]
  rw [putshort_ok _ _ (by simp [hpos]; omega)]
  simp only [R.ok_bind, app_app]
  cases edns with
  | false =>
    simp only [Bool.false_eq_true, if_false, R.pure_eq, app_toList]
    simp [header, qBytes, C_IN, be16]
  | true =>
    simp only [if_true] at hfit ⊢
    rw [checklen_ok _ _ _ (by simp [hpos]; omega)]
    simp only [R.ok_bind]
    rw [putOpt_ok _ (by simp [hpos]; omega)]
    simp only [R.ok_bind, R.pure_eq, app_app, app_toList]
    have := setCount_ar0 id 0x01 1 (encName (tokens host) ++ be16 ty ++ be16 C_IN ++ optBytes)
    simp only [List.append_assoc] at this ⊢
    rw [this]
    simp [qBytes, C_IN]

theorem putAddr_ok (b : Buf) (a0 a1 a2 a3 : Nat) (h : b.pos + 4 ≤ b.cap) :
    putAddr b [a0, a1, a2, a3] = .ok (b.app [a0 % 256, a1 % 256, a2 % 256, a3 % 256]) :=
  (putbyte_app a0).bind ((putbyte_app a1).bind ((putbyte_app a2).bind (putbyte_app a3))) b h

/-- an A record whose owner is the 16-bit value `name`: the answer of the A response and the additional record of the NS response -/
theorem aRecord_ok (buflen : Nat) (b : Buf) (hcap : b.cap = buflen) (name ty a0 a1 a2 a3 : Nat)
    (hfit : b.pos + 16 ≤ buflen) {α} (f : Buf → R α) :
    (do checklen buflen b 12
        let b ← rrHead b name ty 3600
        let b ← putshort b 4
        checklen buflen b 4
        let b ← putAddr b [a0, a1, a2, a3]
        f b) = f (b.app (rrBytes name ty 3600 [a0 % 256, a1 % 256, a2 % 256, a3 % 256])) := by
  rw [checklen_ok _ _ _ (by omega)]
  simp only [R.ok_bind]
  rw [rrHead_ok _ _ _ _ (by omega)]
  simp only [R.ok_bind]
  rw [putshort_ok _ _ (by simp; omega)]
  simp only [R.ok_bind, app_app]
  rw [checklen_ok _ _ _ (by simp; omega)]
  simp only [R.ok_bind]
  rw [putAddr_ok _ _ _ _ _ (by simp; omega)]
  simp [rrBytes_eq]

theorem dnsEncodeAResponse_ok (buflen id ty : Nat) (qn : List Nat) (a0 a1 a2 a3 : Nat)
    (h63 : ∀ l ∈ tokens qn, l.length ≤ 63) (hfit : 12 + labLen (tokens qn) + 5 + 16 ≤ buflen) :
    dnsEncodeAResponse buflen id ty qn (some [a0, a1, a2, a3]) =
      .ok (be16 id ++ [0x84, 0] ++ be16 1 ++ be16 1 ++ be16 0 ++ be16 0 ++
        (qBytes (tokens qn) ty ++ rrBytes namePtr ty 3600 [a0 % 256, a1 % 256, a2 % 256, a3 % 256])) := by
  unfold dnsEncodeAResponse
  simp only []
  rw [if_neg (by omega)]
  have hpos : (⟨(setCount (header id 0x84) 6 1).toArray, buflen⟩ : Buf).pos = 12 := by
    simp [Buf.pos, setCount, header]
  have hcap : (⟨(setCount (header id 0x84) 6 1).toArray, buflen⟩ : Buf).cap = buflen := rfl
  rw [question_ok _ hpos rfl ty qn h63 (by omega)]
  rw [aRecord_ok buflen _ rfl namePtr ty a0 a1 a2 a3 (by simp [hpos]; omega)]
  simp only [R.pure_eq, app_app, app_toList]
  simp [setCount, header, be16]

/-- RDATA of the NS answer: label "ns" and a pointer to offset `12 + dl` -/
def nsRData (dl : Nat) : List Nat := [2, 110, 115] ++ be16 (0xc000 + (12 + dl) % 16384)

/-- the guards of `dns_encode_ns_response` for a name of the form `sub.topdomain` (or `topdomain`) -/
structure NsGuards (qn top : List Nat) : Prop where
  len : top.length ≤ qn.length
  ne1 : qn.length ≠ top.length + 1
  ci : (qn.drop (qn.length - top.length)).map Iodine.Common.toLower = top.map Iodine.Common.toLower
  dot : qn.length - top.length = 0 ∨ qn[qn.length - top.length - 1]? = some 46

/-- common part of `dns_encode_ns_response`: up to and including the NS record -/
theorem nsResponse_prefix (buflen id ty : Nat) (qn top : List Nat) (dest : Option (List Nat))
    (g : NsGuards qn top) (h63 : ∀ l ∈ tokens qn, l.length ≤ 63)
    (hfit : 12 + labLen (tokens qn) + 5 + 17 ≤ buflen) :
    dnsEncodeNsResponse buflen id ty qn top dest =
      (let b := (buf0 (setCount (header id 0x84) 6 1) buflen).app
          (qBytes (tokens qn) ty ++ rrBytes namePtr ty 3600 (nsRData (qn.length - top.length)))
       match dest with
       | none => pure b.bytes.toList
       | some addr => do
         checklen buflen b 12
         let b ← rrHead b (0xc000 + (12 + labLen (tokens qn) + 5 + 12) % 16384) T_A 3600
         let b ← putshort b 4
         checklen buflen b 4
         let b ← putAddr b addr
         pure (setCount b.bytes.toList 10 1)) := by
  unfold dnsEncodeNsResponse
  rw [if_neg (by omega), if_neg (by have := g.len; have := g.ne1; omega)]
  simp only []
  rw [if_neg (by simpa using g.ci),
    if_neg (by rintro ⟨h1, h2⟩; rcases g.dot with h | h; · omega
               · exact h2 h)]
  have hpos : (⟨(setCount (header id 0x84) 6 1).toArray, buflen⟩ : Buf).pos = 12 := by
    simp [Buf.pos, setCount, header]
  have hcap : (⟨(setCount (header id 0x84) 6 1).toArray, buflen⟩ : Buf).cap = buflen := rfl
  rw [question_ok _ hpos rfl ty qn h63 (by omega)]
  rw [checklen_ok _ _ _ (by simp [hpos]; omega)]
  simp only [R.ok_bind]
  rw [rrHead_ok _ _ _ _ (by simp [hpos]; omega)]
  simp only [R.ok_bind, app_app]
  rw [putshort_ok _ _ (by simp [hpos]; omega)]
  simp only [R.ok_bind, app_app]
  rw [checklen_ok _ _ _ (by simp [hpos]; omega)]
  simp only [R.ok_bind]
  rw [putbyte_ok _ _ (by simp [hpos]; omega)]
  simp only [R.ok_bind, app_app]
  rw [putbyte_ok _ _ (by simp [hpos]; omega)]
  simp only [R.ok_bind, app_app]
  rw [putbyte_ok _ _ (by simp [hpos]; omega)]
  simp only [R.ok_bind, app_app]
  rw [putshort_ok _ _ (by simp [hpos]; omega)]
  simp only [R.ok_bind, app_app, app_pos, hpos, qBytes_length, rrHeadBytes_length, be16_length, buf0,
    List.length_append]
  have hl : qBytes (tokens qn) ty ++ rrHeadBytes namePtr ty 3600 ++ be16 5 ++ [2 % 256] ++ [110 % 256] ++
      [115 % 256] ++ be16 (49152 + (12 + (qn.length - top.length)) % 16384) =
      qBytes (tokens qn) ty ++ rrBytes namePtr ty 3600 (nsRData (qn.length - top.length)) := by
    simp [rrBytes_eq, nsRData]
  rw [hl]
  have hn : 12 + (labLen (tokens qn) + 5 + 10 + 2) = 12 + labLen (tokens qn) + 5 + 12 := by omega
  rw [hn]
  rfl

end Iodine.Wire.DnsEncode

/-! ### `Pre` -/

namespace Iodine.Wire.Put
open Iodine.Wire

theorem R.bind_eq_ok {α β} (x : R α) (f : α → R β) (r : β) :
    (x >>= f) = .ok r ↔ ∃ a, x = .ok a ∧ f a = .ok r := by
  cases x with
  | ok a => simp
  | ret rv => simp
  | fault e => simp

def Pre (p : List Nat) (b : Buf) : Prop := p <+: b.bytes.toList

theorem Pre.len {p : List Nat} {b : Buf} (h : Pre p b) : p.length ≤ b.pos := by
  have := List.IsPrefix.length_le h
  simpa [Buf.pos] using this

theorem Pre.app {p : List Nat} {b : Buf} (h : Pre p b) (l : List Nat) :
    Pre p ⟨b.bytes ++ l.toArray, b.cap⟩ := by
  unfold Pre at *
  simp only [Array.toList_append]
  exact List.IsPrefix.trans h (List.prefix_append _ _)

theorem putbyte_pre {p} {b b' : Buf} {v} (h : putbyte b v = .ok b') (hp : Pre p b) : Pre p b' := by
  unfold putbyte at h
  split at h
  · cases h
    have := hp.app [v % 256]
    simpa [Pre] using this
  · cases h

theorem putshort_pre {p} {b b' : Buf} {v} (h : putshort b v = .ok b') (hp : Pre p b) : Pre p b' := by
  unfold putshort at h
  simp only [R.bind_eq_ok] at h
  obtain ⟨b1, h1, h2⟩ := h
  exact putbyte_pre h2 (putbyte_pre h1 hp)

theorem putlong_pre {p} {b b' : Buf} {v} (h : putlong b v = .ok b') (hp : Pre p b) : Pre p b' := by
  unfold putlong at h
  simp only [R.bind_eq_ok] at h
  obtain ⟨b1, h1, b2, h2, b3, h3, h4⟩ := h
  exact putbyte_pre h4 (putbyte_pre h3 (putbyte_pre h2 (putbyte_pre h1 hp)))

theorem putdata_pre {p} {b b' : Buf} {d} (h : putdata b d = .ok b') (hp : Pre p b) : Pre p b' := by
  unfold putdata at h
  split at h
  · cases h; exact hp.app d
  · cases h

theorem skip_pre {p} {b : Buf} (n : Nat) (hp : Pre p b) : Pre p (b.skip n) := hp.app _

theorem patchShort_pre {p} {b b' : Buf} {at_ v} (h : patchShort b at_ v = .ok b') (hp : Pre p b)
    (hat : p.length ≤ at_) : Pre p b' := by
  unfold patchShort at h
  split at h
  · cases h
    unfold Pre at *
    simp only [Array.toList_setIfInBounds]
    obtain ⟨t, ht⟩ := hp
    rw [← ht, List.set_append_right _ _ hat, List.set_append_right _ _ (by omega)]
    exact List.prefix_append _ _
  · cases h

theorem putLabels_pre {p} (ls : List (List Nat)) : ∀ {left : Int} {b : Buf} {left' : Int} {b' : Buf},
    putLabels left b ls = .ok (some (left', b')) → Pre p b → Pre p b' := by
  induction ls with
  | nil => intro left b left' b' h hp; simp only [putLabels] at h; cases h; exact hp
  | cons w ws ih =>
    intro left b left' b' h hp
    unfold putLabels at h
    split at h
    · cases h
    · simp only [R.bind_eq_ok] at h
      obtain ⟨b1, h1, b2, h2, h3⟩ := h
      exact ih h3 (putdata_pre h2 (putbyte_pre h1 hp))

theorem putname_pre {p} {b : Buf} {left : Int} {host} {rv : Int} {b' : Buf}
    (h : putname b left host = .ok (rv, b')) (hp : Pre p b) : Pre p b' := by
  unfold putname at h
  simp only [R.bind_eq_ok] at h
  obtain ⟨r, h1, h2⟩ := h
  cases r with
  | none => simp only at h2; cases h2; exact hp
  | some lb =>
    obtain ⟨l, b1⟩ := lb
    simp only [R.bind_eq_ok] at h2
    obtain ⟨b2, h3, h4⟩ := h2
    cases h4
    exact putbyte_pre h3 (putLabels_pre _ h1 hp)

theorem txtLoop_pre {p} (fuel : Nat) : ∀ {b : Buf} {remain : Int} {d : List Nat} {used : Nat} {rv : Int} {b' : Buf},
    txtLoop fuel b remain d used = .ok (rv, b') → Pre p b → Pre p b' := by
  induction fuel with
  | zero => intro b remain d used rv b' h hp; simp only [txtLoop] at h; cases h; exact hp
  | succ f ih =>
    intro b remain d used rv b' h hp
    unfold txtLoop at h
    split at h
    · cases h; exact hp
    · simp only at h
      split at h
      · cases h; exact hp
      · simp only [R.bind_eq_ok] at h
        obtain ⟨b1, h1, b2, h2, h3⟩ := h
        exact ih h3 (putdata_pre h2 (putbyte_pre h1 hp))

theorem puttxtbin_pre {p} {b : Buf} {remain : Int} {d} {rv : Int} {b' : Buf}
    (h : puttxtbin b remain d = .ok (rv, b')) (hp : Pre p b) : Pre p b' :=
  txtLoop_pre _ h hp

end Iodine.Wire.Put

namespace Iodine.Wire.DnsEncode
open Iodine.Wire Iodine.Wire.Put

theorem rrHead_pre {p} {b b' : Buf} {name ty ttl} (h : rrHead b name ty ttl = .ok b') (hp : Pre p b) :
    Pre p b' := by
  unfold rrHead at h
  simp only [R.bind_eq_ok] at h
  obtain ⟨b1, h1, b2, h2, b3, h3, h4⟩ := h
  exact putlong_pre h4 (putshort_pre h3 (putshort_pre h2 (putshort_pre h1 hp)))

theorem ansCname_pre {p} {buflen ty} {b : Buf} {data} {r : Buf × Nat}
    (h : ansCname buflen ty b data = .ok r) (hp : Pre p b) : Pre p r.1 := by
  unfold ansCname at h
  simp only [R.bind_eq_ok] at h
  obtain ⟨_, _, b1, h1, ⟨rv, b2⟩, h2, _, _, b3, h3, h4⟩ := h
  cases h4
  have hp1 := rrHead_pre h1 hp
  exact patchShort_pre h3 (putname_pre h2 (skip_pre 2 hp1)) hp1.len

theorem ansTxt_pre {p} {buflen ty} {b : Buf} {data datalen} {r : Buf × Nat}
    (h : ansTxt buflen ty b data datalen = .ok r) (hp : Pre p b) : Pre p r.1 := by
  unfold ansTxt at h
  simp only [R.bind_eq_ok] at h
  obtain ⟨_, _, b1, h1, ⟨rv, b2⟩, h2, _, _, b3, h3, h4⟩ := h
  cases h4
  have hp1 := rrHead_pre h1 hp
  exact patchShort_pre h3 (puttxtbin_pre h2 (skip_pre 2 hp1)) hp1.len

theorem ansNull_pre {p} {buflen ty} {b : Buf} {data datalen} {r : Buf × Nat}
    (h : ansNull buflen ty b data datalen = .ok r) (hp : Pre p b) : Pre p r.1 := by
  unfold ansNull at h
  simp only [R.bind_eq_ok] at h
  obtain ⟨_, _, b1, h1, _, _, b2, h2, _, _, b3, h3, _, _, h4⟩ := h
  cases h4
  exact putdata_pre h3 (putshort_pre h2 (rrHead_pre h1 hp))

theorem mxLoop_pre {p} {buflen ty} (names : List (List Nat)) : ∀ {ancnt : Nat} {b b' : Buf},
    mxLoop buflen ty names ancnt b = .ok b' → Pre p b → Pre p b' := by
  induction names with
  | nil => intro ancnt b b' h hp; simp only [mxLoop] at h; cases h; exact hp
  | cons nm rest ih =>
    intro ancnt b b' h hp
    unfold mxLoop at h
    simp only [R.bind_eq_ok] at h
    obtain ⟨_, _, b1, h1, _, _, b2, h2, b3, h3, ⟨rv, b4⟩, h4, _, _, b5, h5, h6⟩ := h
    have hp1 := rrHead_pre h1 hp
    have hp2 := putshort_pre h2 (skip_pre 2 hp1)
    have hp3 : Pre p b3 := by
      split at h3
      · simp only [R.bind_eq_ok] at h3
        obtain ⟨_, _, c1, g1, g2⟩ := h3
        exact putshort_pre g2 (putshort_pre g1 hp2)
      · cases h3; exact hp2
    exact ih h6 (patchShort_pre h5 (putname_pre h4 hp3) hp1.len)

theorem ansBranch_pre {p} {buflen ty} {b : Buf} {data datalen} {r : Buf × Nat}
    (h : ansBranch buflen ty b data datalen = .ok r) (hp : Pre p b) : Pre p r.1 := by
  unfold ansBranch at h
  split at h
  · exact ansCname_pre h hp
  · split at h
    · unfold ansMx at h
      simp only [R.bind_eq_ok] at h
      obtain ⟨b1, h1, h2⟩ := h
      cases h2
      exact mxLoop_pre _ h1 hp
    · split at h
      · exact ansTxt_pre h hp
      · exact ansNull_pre h hp

end Iodine.Wire.DnsEncode

