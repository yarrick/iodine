import IodineModel.Server.Run
import IodineModel.Lemmas.SrvC04b
import IodineModel.Lemmas.Steps
/-
C01: the SERVER.  Every step of a calm run of the session machine (`inert_closed`) — every
step but those of the upstream-data path, of a raw data frame and of the slot allocation of the version handshake — is
INERT: it touches nobody's upstream reassembly buffer (`inpacket`) and writes nothing to the tun device.
-/
namespace Iodine.C01L
open Iodine Iodine.Server Iodine.Gen
open Iodine.C04L (getUser_setUser getUser_setUser_ne getUser_setUser_self)

/-- the frames written to the tun device among a list of server events -/
def stunws : List Event → List (List Nat)
  | [] => []
  | .tunw f :: es => f :: stunws es
  | _ :: es => stunws es

@[simp] theorem stunws_nil : stunws [] = [] := rfl

theorem stunws_append (a b : List Event) : stunws (a ++ b) = stunws a ++ stunws b := by
  induction a with
  | nil => rfl
  | cons e es ih => cases e <;> simp [stunws, ih]

theorem stunws_writeDns (q : Query) (d : List Nat) (dn : Nat) (t : Tag) : stunws [writeDns q d dn t] = [] := rfl
theorem stunws_sendRaw (b : List Nat) (n u c : Nat) (q : Query) : stunws [sendRaw b n u c q] = [] := rfl

structure SameIn (s s' : Srv) : Prop where
  eq : ∀ v, (getUser s' v).inpacket = (getUser s v).inpacket

theorem SameIn.refl (s : Srv) : SameIn s s := ⟨fun _ => rfl⟩
theorem SameIn.trans {a b c : Srv} (h1 : SameIn a b) (h2 : SameIn b c) : SameIn a c :=
  ⟨fun v => (h2.eq v).trans (h1.eq v)⟩

theorem SameIn.set (s : Srv) (u : Nat) (f : Session → Session) (hf : ∀ x, (f x).inpacket = x.inpacket) :
    SameIn s (setUser s u f) := by
  refine ⟨fun v => ?_⟩
  rw [getUser_setUser]
  split
  · next h => rw [h.1]; exact hf _
  · rfl

theorem SameIn.of_users {s s' : Srv} (h : s'.users = s.users) : SameIn s s' := by
  refine ⟨fun v => ?_⟩; unfold getUser; rw [h]

theorem SameIn.of_out {U : Nat → Prop} {s s' : Srv} (h : C04L.Frame C04L.erOut U s s') : SameIn s s' :=
  ⟨fun v => (congrArg Session.inpacket (h.rel v) :)⟩

/-- a handler result that leaves all reassembly buffers alone and writes nothing to tun -/
structure Inert (s : Srv) (r : Res) : Prop where
  same : SameIn s r.1
  quiet : stunws r.2 = []

theorem Inert.nil (s : Srv) : Inert s (s, []) := ⟨SameIn.refl s, rfl⟩

theorem Inert.state {s s' : Srv} (h : SameIn s s') : Inert s (s', []) := ⟨h, rfl⟩

theorem Inert.ev {s s' : Srv} (h : SameIn s s') {evs : List Event} (he : stunws evs = []) : Inert s (s', evs) := ⟨h, he⟩

theorem Inert.seq {s : Srv} {r1 r2 : Res} (h1 : Inert s r1) (h2 : Inert r1.1 r2) : Inert s (r2.1, r1.2 ++ r2.2) :=
  ⟨h1.same.trans h2.same, by rw [stunws_append, h1.quiet, h2.quiet]; rfl⟩

theorem same_saveToDnscache (s : Srv) (u : Nat) (q : Query) (a : List Nat) : SameIn s (saveToDnscache s u q a) :=
  saveToDnscache_ind s u q a (SameIn.refl s)
    (fun g hg => SameIn.set _ _ g fun x => by obtain ⟨_, _, h⟩ := hg x; rw [h])

theorem same_saveToQmemPingOrData (s : Srv) (u : Nat) (q : Query) : SameIn s (saveToQmemPingOrData s u q) :=
  saveToQmemPingOrData_ind s u q (SameIn.refl s)
    (fun g hg => SameIn.set _ _ g fun x => by obtain ⟨_, _, _, _, h⟩ := hg x; rw [h])

theorem stunws_scAnswer (q : Query) (pkt : List Nat) (dn u : Nat) : stunws (scAnswer q pkt dn u).2 = [] := by
  unfold scAnswer
  split <;> rfl

theorem inert_sendChunkOrDataless (s : Srv) (u : Nat) (w : QSel) : Inert s (sendChunkOrDataless s u w).1 := by
  unfold sendChunkOrDataless
  dsimp only
  have h1 : SameIn s (scPrepare (scDropResent s u) u) := SameIn.of_out (C04L.frame_sc_prep s u)
  have h4 : ∀ qq q2 pk, SameIn s (setUser (saveToDnscache (saveToQmemPingOrData
      (scPrepare (scDropResent s u) u) u q2) u q2 pk) u fun y => w.set y qq) := by
    intro qq q2 pk
    refine SameIn.trans ?_ (SameIn.set _ _ _ ?_)
    · refine SameIn.trans ?_ (same_saveToDnscache _ u _ _)
      exact h1.trans (same_saveToQmemPingOrData _ u _)
    · intro x; cases w <;> rfl
  split
  · exact ⟨((h4 _ _ _).trans (.of_out (C04L.frame_dropOut _ u))).trans (.of_out (C04L.frame_getFromOutpacketq _ u)), stunws_scAnswer _ _ _ _⟩
  · exact ⟨h4 _ _ _, stunws_scAnswer _ _ _ _⟩

theorem Inert.pre {s s' : Srv} {r : Res} (h : SameIn s s') (i : Inert s' r) : Inert s r := ⟨h.trans i.same, i.quiet⟩

theorem same_saveQuery (s : Srv) (u : Nat) (q : Query) : SameIn s (saveQuery s u q) :=
  SameIn.set _ _ _ (fun _ => rfl)

/-- **no step of a calm run touches a reassembly buffer or the tun device** -/
theorem inert_closed {inp : Input} : Closed inp calm Inert where
  nil := Inert.nil
  seq _ := Inert.seq
  prim {s r} hp := by
    cases hp with
    | ctrl q d dn => exact ⟨SameIn.refl s, rfl⟩
    | cached u q e _ he =>
      obtain ⟨_, _, _, rfl⟩ := answerFromDnscache_some he
      exact ⟨SameIn.refl s, rfl⟩
    | seen u q => exact ⟨SameIn.refl s, rfl⟩
    | nsa q => exact ⟨SameIn.refl s, rfl⟩
    | sweep => exact ⟨SameIn.refl s, rfl⟩
    | tunskip => exact ⟨SameIn.refl s, rfl⟩
    | raw b n u c q => exact ⟨SameIn.refl s, rfl⟩
    | rly a b => exact ⟨SameIn.refl s, rfl⟩
    | send u w => exact inert_sendChunkOrDataless s u w
    | ctl u f hc => exact .state (SameIn.set s u f fun x => by cases hc <;> rfl)
    | dup u w q => exact .state (SameIn.set s u _ fun x => by cases w <;> rfl)
    | save u q => exact .state (same_saveQuery s u q)
    | rawLogin u src => exact .state (SameIn.set s u _ fun _ => rfl)
    | rawPing u src => exact .state (SameIn.set s u _ fun _ => rfl)
    | outpkt u s' ho => exact .state (.of_out ho.frame)
    | rand => exact .state (SameIn.of_users (C04L.popRand_users s))
    | fwd q => exact ⟨SameIn.of_users rfl, rfl⟩
    | tunw u out hk => cases hk
    | version q u hk => cases hk
    | fragsize q dlen n hk => cases hk
    | upIn u a b pl hk => cases hk
    | resetIn u hk => cases hk
    | rawIn u src bytes hk => cases hk

theorem inert_sweep (s : Srv) : Inert s (sweep s) := (run_sweepFrom .tick calm _ _ s).closed inert_closed

theorem inert_deliverToUser (s : Srv) (t : Nat) (d : List Nat) (n : Nat) : Inert s (deliverToUser s t d n) := by
  have hw : ∀ s', Inert s' (sendWaiting s' t) := fun s' => (run_sendWaiting (inp := .tick) s' t).closed inert_closed
  rw [deliverToUser]
  exact ite_both (ite_both (.pre (.of_out (C04L.frame_startNewOutpacket _ _ _ _)) (hw _))
      (Inert.state (.of_out (C04L.frame_saveToOutpacketq _ _ _ _))))
    (Inert.ev (SameIn.refl s) (stunws_sendRaw _ _ _ _ _))

end Iodine.C01L
