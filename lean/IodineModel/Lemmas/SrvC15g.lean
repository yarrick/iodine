import IodineModel.Lemmas.SrvC15e
import IodineModel.Lemmas.SrvC04f
/-
C15 (B): the data handler behind its filters and the version handler, then the handler phase (a version request
selects only `V`; every other input by the classification of the handlers), a raw data frame, the loop and whole runs
are simulated by the fragment-numbering monitor.  `Monotone` of a concrete run is decidable (`Server.decMonotone`: the
example runs of Props/C15 are checked with it).
-/
namespace Iodine.C15L
open Iodine Iodine.Server Iodine.Gen

theorem sm_dataUpstream {w : Prop} {mo : MSt} {x : Session} (h : SM w mo x) (a b : Nat) :
    SM w mo (dataUpstream x a b).1 := by
  obtain ⟨⟨a1, a2, a3, a4, a5, a6, a7, a8, a9, a10, a11, a12, a13⟩, hb, ⟨c1, c2, c3⟩⟩ := h
  unfold dataUpstream
  refine ite_both' (P := fun r : Session × Bool => SM w mo r.1) ?_ ?_
  · intro _; exact ⟨⟨a1, a2, a3, a4, a5, a6, a7, a8, a9, a10, a11, a12, a13⟩, hb, ⟨c1, c2, c3⟩⟩
  intro _; refine ite_both' (P := fun r : Session × Bool => SM w mo r.1) ?_ ?_
  · intro _; exact ⟨⟨a1, a2, a3, a4, a5, a6, a7, a8, a9, a10, a11, a12, a13⟩, hb, ⟨c1, c2, c3⟩⟩
  intro _; refine ite_both' (P := fun r : Session × Bool => SM w mo r.1) ?_ ?_
  · intro _
    exact ⟨⟨a1, a2, a3, a4, a5, a6, Nat.zero_le _, a8, a9, a10, a11, a12, a13⟩, Or.inr (Nat.le_refl 0), ⟨c1, c2, c3⟩⟩
  · intro _
    exact ⟨⟨a1, a2, a3, a4, a5, a6, a7, a8, a9, a10, a11, a12, a13⟩, hb, ⟨c1, c2, c3⟩⟩

theorem sm_dataStore {mo : MSt} {x : Session} (h : SM False mo x) (p : List Nat) : SM False mo (dataStore x p) := by
  obtain ⟨⟨a1, a2, a3, a4, a5, a6, a7, a8, a9, a10, a11, a12, a13⟩, hb, ⟨c1, c2, c3⟩⟩ := h
  have hin : x.inpacket.len ≤ x.inpacket.offset := hb.resolve_left id
  refine ⟨⟨a1, a2, a3, a4, a5, a6, ?_, a8, a9, a10, a11, a12, a13⟩, Or.inr ?_, ⟨c1, c2, c3⟩⟩
  · simp only [dataStore, List.length_append, List.length_take]
    omega
  · simp only [In2, dataStore]
    omega

theorem sim_handleFullPacket0 (isV : Bool) (s : Srv) (u : Nat) : Sim isV W0 s (handleFullPacket s u) := by
  intro m hG
  obtain ⟨m', h1, h2, h3⟩ := sim_handleFullPacket isV W0 s u m hG
  exact ⟨m', h1, g_mono h2 (fun _ h => h.1), h3⟩

theorem stay_dataPre (s : Srv) (u : Nat) (inb : List Nat) : Stay W0 s (C05N.dataPre s u inb).1 := by
  rw [C05N.dataPre]
  refine (stay_processDownstreamAck W0 s u _ _).trans fun m hG => g_setUser hG u _ fun h => ?_
  have hup := sm_dataUpstream h ((b32_8to5 (inb.getD 1 0) >>> 2) &&& 7)
    (((b32_8to5 (inb.getD 1 0) &&& 3) <<< 2) ||| ((b32_8to5 (inb.getD 2 0) >>> 3) &&& 3))
  exact ite_both (sm_dataStore hup _) hup

theorem sim_dataFresh {inp : Input} (s : Srv) (u : Nat) (q : Query) (inb : List Nat) (hq : inp = .q q)
    (hu : u < s.users.length) (hid : q.id ≠ 0) : Sim false W0 s (dataFresh s u q inb) := by
  obtain ⟨t, ht, he⟩ := tail_dataRest (inp := inp) (K := calm) rfl (C05N.dataPre s u inb) u q hq
    (by rw [(C04L.frame_dataPre s u inb).len]; exact hu) hid
  rw [C05N.dataFresh_eq, he]
  refine Sim.pre (stay_dataPre s u inb) (Sim.seq ?_ (ht.closed (sim_closed false W0 fun _ _ => rfl)))
  exact ite_both (sim_handleFullPacket0 false _ u) (sim_refl false W0 _)

theorem ascii_VNAK : ascii "VNAK" = [86, 78, 65, 75] := by decide
theorem ascii_VFUL : ascii "VFUL" = [86, 70, 85, 76] := by decide

theorem vackSlot_ack (seed u : Nat) : vackSlot (ascii "VACK" ++ beBytes 4 seed ++ [u % 256]) = some (u % 256) := by
  rw [ascii_VACK]
  simp [vackSlot, beBytes]

theorem vackSlot_nak (p u : Nat) : vackSlot (ascii "VNAK" ++ beBytes 4 p ++ [u % 256]) = none := by
  rw [ascii_VNAK]
  simp [vackSlot, beBytes]

theorem vackSlot_ful (p u : Nat) : vackSlot (ascii "VFUL" ++ beBytes 4 p ++ [u % 256]) = none := by
  rw [ascii_VFUL]
  simp [vackSlot, beBytes]

theorem sm_reset {w : Prop} {mo : MSt} {x : Session} (h : SM w mo x) (now seed : Nat) (q : Query) :
    SM w none (resetSession ({ claim now x with seed := seed, host := q.from_, q := q, encoder := .b32, downenc := chT })) := by
  obtain ⟨⟨a1, a2, a3, a4, a5, a6, a7, a8, a9, a10, a11, a12, a13⟩, hb, ⟨c1, c2, c3⟩⟩ := h
  refine ⟨⟨?_, ?_, ?_, ?_, ?_, ?_, ?_, a8, a9, ?_, ?_, ?_, ?_⟩, Or.inr ?_, ⟨?_, ?_, ?_⟩⟩
  · exact Nat.le_refl 0
  · intro h; exact absurd rfl h
  · exact Nat.zero_le _
  · intro h; exact absurd rfl h
  · intro _; show 2 ≤ 100; omega
  · intro h; exact absurd rfl h
  · exact Nat.zero_le _
  · exact Nat.zero_lt_succ 3
  · exact Nat.zero_le 4
  · intro h; exact absurd rfl h
  · intro i hi; exact absurd hi (Nat.not_lt_zero _)
  · exact Nat.le_refl 0
  · intro _; left; rfl
  · intro h; exact absurd rfl h
  · intro h; exact absurd rfl h

theorem sim_handleVersion (W : Nat → Prop) (s : Srv) (q : Query) (inb : List Nat) (hlen : s.users.length ≤ 256) :
    Sim true W s (handleVersion s q inb) := by
  have refusal : ∀ k p, k ≠ VersionAck.ack → Sim true W s (s, [sendVersionResponse s k p 0 q]) := fun k p hk => by
    refine sim_quiet (Stay.refl W _) (quiet_single (fun m => ?_) (by unfold sendVersionResponse writeDns; not_chunk))
    cases k
    · exact absurd rfl hk
    · simp only [sendVersionResponse, writeDns, monEvent, if_true, vackSlot_nak]
    · simp only [sendVersionResponse, writeDns, monEvent, if_true, vackSlot_ful]
  rcases C04L.handleVersion_cases s q inb with ⟨u, _, hu, hs, he⟩ | ⟨hs, he | he⟩ <;>
    rw [show handleVersion s q inb = (_, _) from Prod.ext hs he]
  · -- slot `u` is handed out: the VACK starts a new session in the monitor, `resetSession` in the state
    have hlt := ((C04L.findAvailableUser_some_iff s u).mp hu).1
    have hst := handleVersion_state s q u
    intro m hG
    refine ⟨upd m u none, ?_, fun v => ?_, (quiet_single (isV := false) (fun _ => rfl)
        (by unfold sendVersionResponse writeDns; not_chunk)).chunkOK⟩
    · have hu : u % 256 = u := Nat.mod_eq_of_lt (by omega)
      have hv := vackSlot_ack (popRand (setUser s u (claim s.now))).1 u
      rw [hu] at hv
      simp only [runMon, sendVersionResponse, writeDns, monEvent, if_true, hu, hv, Option.bind_some]
    · show SM _ _ (getUser (versionState s q u) v)
      rw [hst v]
      unfold upd
      by_cases hv : v = u
      · subst hv
        rw [if_pos rfl, if_pos ⟨rfl, hlt⟩]
        exact sm_reset (hG v) _ _ _
      · rw [if_neg hv, if_neg (fun h => hv h.1)]
        exact hG v
  · exact refusal _ _ nofun
  · exact refusal _ _ nofun

open Iodine.C04L

def qIsV (q : Query) : Bool := decide (q.name.getD 0 0 = 86 ∨ q.name.getD 0 0 = 118)

def inpIsV : Input → Bool
  | .q q => qIsV q
  | _ => false

theorem sim_handleNsRequest (isV : Bool) (W : Nat → Prop) (s : Srv) (q : Query) (dlen : Nat) :
    Sim isV W s (handleNsRequest s q dlen) := by
  unfold handleNsRequest
  apply ite_both'
  · intro _; exact sim_refl isV W s
  · intro _; exact sim_quiet (Stay.refl W s) (quiet_single (fun _ => rfl) (by not_chunk))

theorem sim_handleARequest (isV : Bool) (W : Nat → Prop) (s : Srv) (q : Query) (b : Bool) :
    Sim isV W s (handleARequest s q b) := by
  unfold handleARequest
  extract_lets dest
  apply ite_both'
  · intro _; exact sim_refl isV W s
  · intro _; exact sim_quiet (Stay.refl W s) (quiet_single (fun _ => rfl) (by not_chunk))

theorem sim_forwardQuery (isV : Bool) (W : Nat → Prop) (s : Srv) (q : Query) : Sim isV W s (forwardQuery s q) :=
  sim_quiet (stay_of_users rfl) (quiet_single (fun _ => rfl) (by not_chunk))

/-- a version request selects no command but `V` -/
theorem sim_tunnelDns_version (s : Srv) (q : Query) (hv : qIsV q = true) (hlen : s.users.length ≤ 256) :
    Sim true W0 s (tunnelDns s q) := by
  refine tunnelDns_ind s q (sim_refl _ W0 s) (sim_handleARequest _ W0 s q) (fun dlen _ _ => ?_)
    (sim_handleNsRequest _ W0 s q) (sim_forwardQuery _ W0 s q)
  refine handleNullRequest_letter s q dlen (sim_refl _ W0 s) fun h2 l hl => ?_
  have hc : Letter.V.codes ((C04L.inbOf q dlen).getD 0 0) := by
    rw [C04L.inbOf_getD _ _ 0 (by omega)]
    exact (of_decide_eq_true hv : q.name.getD 0 0 = 86 ∨ q.name.getD 0 0 = 118)
  cases Option.some.inj ((letterOf_of_codes hl).symm.trans (letterOf_of_codes hc))
  exact sim_handleVersion W0 s q _ hlen

/-- a raw data frame: the buffer is exempt from `In2` between the store and `handle_full_packet`, which empties it -/
theorem sim_rawData (isV : Bool) (s : Srv) (u : Nat) (src : Addr) (body : List Nat) :
    Sim isV W0 s (handleFullPacket (rawStored s u src body) u) := by
  intro m hG
  have h1 : G (fun v => v = u) m (rawStored s u src body) := by
    intro v
    unfold rawStored
    rcases getUser_setUser_cases s u v
      (fun x => { x with lastPkt := s.now, q := rawQuery src,
                         inpacket := { x.inpacket with offset := 0, data := body, len := body.length } })
      with h | ⟨hv, h⟩ <;> rw [h]
    · obtain ⟨a, b, c⟩ := hG v
      exact ⟨a, b.imp (fun f => f.elim) id, c⟩
    · subst hv
      obtain ⟨⟨a1, a2, a3, a4, a5, a6, a7, a8, a9, a10, a11, a12, a13⟩, b, ⟨c1, c2, c3⟩⟩ := hG v
      exact ⟨⟨a1, a2, a3, a4, a5, a6, Nat.le_refl _, a8, a9, a10, a11, a12, a13⟩, Or.inl rfl, ⟨c1, c2, c3⟩⟩
  obtain ⟨m', hr, hG', hck⟩ := sim_handleFullPacket isV (fun v => v = u) _ u m h1
  exact ⟨m', hr, g_mono hG' (fun v h => h.2 h.1), hck⟩

theorem stay_topOfLoop (W : Nat → Prop) (s : Srv) : Stay W s (topOfLoop s).1 := by
  intro m hG v
  obtain ⟨b, h⟩ := getUser_handlerPhase s s.now v
  have h' : getUser (topOfLoop s).1 v = { getUser s v with qsNew := b } := h
  rw [h']; exact sm_same (hG v) rfl rfl rfl rfl rfl rfl rfl rfl

theorem stay_setNow (W : Nat → Prop) (s : Srv) (n : Nat) : Stay W s { s with now := n } := stay_of_users rfl

theorem sim_dispatch (s : Srv) (inp : Input) (tunsel : Bool) (hlen : s.users.length ≤ 256) :
    Sim (inpIsV inp) W0 s (dispatch s inp tunsel) := by
  cases hV : inpIsV inp with
  | true =>
    cases inp with
    | q q => exact sim_tunnelDns_version s q hV hlen
    | _ => cases hV
  | false =>
    cases class_dispatch s inp tunsel with
    | calm h => exact h.closed (sim_closed false W0 fun _ _ => rfl)
    | version q u dlen hq _ _ ha =>
      subst hq
      rw [inpIsV, qIsV, decide_eq_true ha.letter] at hV
      cases hV
    | fragsize q dlen n _ _ ha he =>
      rw [he]
      exact sim_quiet (stay_setUser W0 s _ _ fun w mo h => sm_setFragsize h n ha.two) (quiet_ctrl_false _ _ _)
    | data q u dlen hq _ _ hid _ hu _ he => rw [he]; exact sim_dataFresh s u q _ hq hu hid
    | rawData src bytes _ _ he => rw [he]; exact sim_rawData false s _ src _

theorem sim_body (s : Srv) (inp : Input) (tunsel : Bool) (hlen : s.users.length ≤ 256) :
    Sim (inpIsV inp) W0 s (body s inp tunsel) := by
  obtain ⟨t, ht, he, _⟩ := body_tail s inp tunsel
  rw [he]
  exact (sim_dispatch s inp tunsel hlen).seq ((ht.mono fun _ h => h.elim).closed (sim_closed_tick _ W0))

theorem sim_iteration (s : Srv) (inp : Input) (now' : Nat) (hlen : s.users.length ≤ 256) (m : Nat → MSt)
    (hG : G W0 m s) :
    ∃ m', runMon (inpIsV inp) m (iteration s inp now').2.1 = some m' ∧ G W0 m' (iteration s inp now').1 ∧
      AllChunkOK (iteration s inp now').2.1 := by
  have h0 : G W0 m (handlerState s now') := stay_setNow W0 _ _ m (stay_topOfLoop W0 s m hG)
  have hl : (handlerState s now').users.length ≤ 256 := by
    have : (handlerState s now').users.length = s.users.length := (pres_topOfLoop s).2.1
    omega
  exact sim_body (handlerState s now') inp (topOfLoop s).2.2 hl m h0

/-- the monitor over a trace (lemma-side copy) -/
def monTrace (m : Nat → MSt) : List TraceStep → Option (Nat → MSt)
  | [] => some m
  | t :: ts => (runMon (inpIsV t.step.inp) m t.events).bind (fun m' => monTrace m' ts)

theorem start_length (cfg : Config) (rnd : List Nat) : (start cfg rnd).users.length ≤ 16 := by
  unfold start Srv.init Users.initUsers
  simp only [List.length_map, Users.length_initLoop, Users.userCount, USERS]
  omega

theorem g_start (cfg : Config) (rnd : List Nat) : G W0 (fun _ => none) (start cfg rnd) := by
  intro v
  exact slots_getUser (P := SM (W0 v) none) (slots_start (sm_zero _) cfg rnd) (sm_zero _ 0) v

theorem monTrace_run : ∀ (steps : List Step) (s : Srv) (m : Nat → MSt), Inv s → s.users.length ≤ 256 → G W0 m s →
    ∃ m', monTrace m (traceFrom s steps) = some m' := by
  intro steps
  induction steps with
  | nil => intro s m _ _ _; exact ⟨m, rfl⟩
  | cons st rest ih =>
    intro s m hi hlen hG
    obtain ⟨m1, h1, hG1, _⟩ := sim_iteration s st.inp st.now hlen m hG
    have hi1 : Inv (next s st) := (iteration_spec s st.inp st.now hi).1
    have hl1 : (next s st).users.length ≤ 256 := by rw [(C04L.next_base s st).2.2]; exact hlen
    obtain ⟨m', h'⟩ := ih (next s st) m1 hi1 hl1 hG1
    refine ⟨m', ?_⟩
    simp only [traceFrom, monTrace]
    have : runMon (inpIsV st.inp) m (out s st) = some m1 := h1
    rw [this]
    exact h'

theorem reachable_g {cfg : Config} {s : Srv} (h : Reachable cfg s) :
    Inv s ∧ s.users.length ≤ 256 ∧ ∃ m, G W0 m s := by
  induction h with
  | init rnd =>
    exact ⟨inv_start cfg rnd, by have := start_length cfg rnd; omega, _, g_start cfg rnd⟩
  | step st _ _ ih =>
    obtain ⟨hi, hl, m, hG⟩ := ih
    obtain ⟨m1, _, hG1, _⟩ := sim_iteration _ st.inp st.now hl m hG
    exact ⟨(iteration_spec _ st.inp st.now hi).1, by rw [(C04L.next_base _ st).2.2]; exact hl, m1, hG1⟩

/-- every fresh data answer of an iteration from a reachable state is cut from a well-formed session state -/
theorem chunk_ok_of_reachable {cfg : Config} {s : Srv} (h : Reachable cfg s) (st : Step) :
    AllChunkOK (out s st) := by
  obtain ⟨_, hl, m, hG⟩ := reachable_g h
  obtain ⟨_, _, _, hck⟩ := sim_iteration s st.inp st.now hl m hG
  exact hck

/-- what a packet cut by `send_chunk_or_dataless` from a well-formed session state looks like -/
theorem scPkt_shape {x : Session} (hw : SessW x) :
    (scPkt x (scDatalen x)).length = scDatalen x + 2 ∧
    (scPkt x (scDatalen x)).drop 2 = (x.outpacket.data.drop x.outpacket.offset).take (scDatalen x) ∧
    (scPkt x (scDatalen x)).getD 1 0 / 32 = hSeq x ∧ (scPkt x (scDatalen x)).getD 1 0 / 2 % 16 = hFrag x ∧
    ((scPkt x (scDatalen x)).getD 1 0 % 2 = 1 ↔
      x.outpacket.len > 0 ∧ x.outpacket.offset + scDatalen x = x.outpacket.len) ∧
    (x.outpacket.len ≠ 0 → 1 ≤ scDatalen x) := by
  have hd := hw.data
  have hdl : x.outpacket.offset + scDatalen x ≤ x.outpacket.data.length := by
    by_cases hl : x.outpacket.len = 0
    · have : scDatalen x = 0 := by unfold scDatalen; rw [if_neg (by omega)]
      have := hw.sent
      omega
    · have := (scDatalen_pos hw hl).2
      omega
  have hb : (scPkt x (scDatalen x)).getD 1 0 = hSeq x <<< 5 ||| hFrag x <<< 1 |||
      (if x.outpacket.len > 0 ∧ x.outpacket.len = x.outpacket.offset + scDatalen x then 1 else 0) := by
    unfold scPkt; rfl
  have ha : hSeq x < 8 := by unfold hSeq; omega
  have hf : hFrag x < 16 := by unfold hFrag; omega
  have hl2 : (if x.outpacket.len > 0 ∧ x.outpacket.len = x.outpacket.offset + scDatalen x then 1 else 0) < 2 := by
    split <;> omega
  obtain ⟨e1, e2, e3⟩ := hdr_decode _ ha _ hf _ hl2
  refine ⟨?_, ?_, ?_, ?_, ?_, fun hl => (scDatalen_pos hw hl).1⟩
  · unfold scPkt
    simp only [List.length_append, List.length_cons, List.length_nil, List.length_take, List.length_drop]
    omega
  · unfold scPkt; rfl
  · rw [hb, e1]
  · rw [hb, e2]
  · rw [hb, e3]
    constructor
    · intro h
      split at h
      · rename_i hc; exact ⟨hc.1, hc.2.symm⟩
      · cases h
    · intro h
      rw [if_pos ⟨h.1, h.2.symm⟩]

instance _root_.Iodine.Server.decMonotone : (s : Srv) → (steps : List Step) → Decidable (Monotone s steps)
  | _, [] => isTrue trivial
  | s, st :: rest => @instDecidableAnd _ _ _ (Server.decMonotone (next s st) rest)

theorem monotone_take : ∀ (steps : List Step) (s : Srv) (n : Nat), Monotone s steps → Monotone s (steps.take n) := by
  intro steps
  induction steps with
  | nil => intro s n h; simp [Monotone]
  | cons st rest ih =>
    intro s n h
    cases n with
    | zero => simp [Monotone]
    | succ n => exact ⟨h.1, ih _ n h.2⟩

end Iodine.C15L
