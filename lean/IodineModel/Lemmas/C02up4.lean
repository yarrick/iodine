import IodineModel.Lemmas.C02up2
/-
Upstream, both DNS modes — the FALSE ACKNOWLEDGEMENT.  The client is 7 packets ahead and the server's last fragment number is 0:
fragment 0 of the next packet carries the server's CURRENT `(seqno, 0)`.  The server drops it as a repeat and answers with its own
numbers — the acknowledgement the client waits for.  A one-fragment packet is thereby lost silently (`QuietMD.false_ack_done`); of
a longer one the client goes on with fragment 1, which the server takes for the continuation of the packet it believes it is still
receiving: it appends it to whatever its buffer held (`chimeraUp`), and from there on the steps are those of the clean path
(`QuietMD.false_ack_more`, `QuietMD.up_packet_desync7_multi`).
-/
namespace Iodine.C02L
open Iodine Iodine.Gen Iodine.World

/-- what the server assembles when fragment 0 of the compressed packet `0x5a :: frame` is falsely acknowledged: the part of
its buffer `I` below the write offset, then the packet WITHOUT its first fragment -/
def chimeraUp (P : Par) (I : Server.Packet) (frame : List Nat) : List Nat :=
  I.data.take I.offset ++ (0x5a :: frame).drop (fragLen P (0x5a :: frame))

/-- the server's reassembly buffer is in the state `handle_data_upstream` leaves it in: `len = offset`, inside the data -/
structure BufOk (I : Server.Packet) : Prop where
  len : I.len = I.offset
  data : I.offset ≤ I.data.length

/-- the chimera fits the buffer and, should it decompress to an IP-sized frame, is not addressed to the session itself -/
structure ChimeraOk (P : Par) (I : Server.Packet) (tunIp : Nat) (frame : List Nat) : Prop where
  cap : I.offset + ((0x5a :: frame).length - fragLen P (0x5a :: frame)) ≤ 65536
  ns : ∀ fr, Server.uncompress (chimeraUp P I frame) 65536 = some fr → 24 ≤ fr.length → Server.ipDst fr ≠ tunIp

section
variable {P : Par} {m : Mode} {w : W}

/-- `offerC` at distance 7 with the server's last fragment number 0: fragment 0 of the new packet carries the server's own
`(seqno, 0)` and falls into its duplicate window -/
theorem QuietMD.offer7 (hP : P.Ok) (hq : QuietMD P m 7 0 w) (h0 : (Server.getUser w.srv P.u).inpacket.fragment = 0)
    (frame : List Nat) (hne : frame ≠ []) (hl : frame.length < 65536) (hb : Codec.Bytes frame) :
    ∃ w1, step w (.offerC frame) = w1 ∧ InFlight P m (0x5a :: frame) w1 (newPacket w.cs.c frame) 0 0 ∧
      w1.tunS = w.tunS ∧ w1.tunC = w.tunC ∧ w1.srv = w.srv ∧
      (Server.getUser w.srv P.u).inpacket.seqno = (newPacket w.cs.c frame).outpkt.seqno ∧
      Dup (Server.getUser w.srv P.u).inpacket (newPacket w.cs.c frame).outpkt.seqno.toNat 0 := by
  obtain ⟨w1, hw1, hfl, t1, t2, hsrv, hseq⟩ := hq.offer hP frame hne hl hb
  have hiseq := hq.srv.x.iseq
  have hs : (Server.getUser w.srv P.u).inpacket.seqno = (newPacket w.cs.c frame).outpkt.seqno := by rw [hseq]; omega
  exact ⟨w1, hw1, hfl, t1, t2, hsrv, hs, Or.inl ⟨by rw [← hs]; omega, by rw [h0]; exact Int.le_refl _⟩⟩

/-- **the false acknowledgement, packet of several fragments** (2 steps after the offer): the client goes on with fragment 1; the
server will append it to the first `inpacket.offset` bytes of its buffer -/
theorem QuietMD.false_ack_more (hP : P.Ok) (hm : m.Ok) (hq : QuietMD P m 7 0 w)
    (h0 : (Server.getUser w.srv P.u).inpacket.fragment = 0) (hbuf : BufOk (Server.getUser w.srv P.u).inpacket)
    (frame : List Nat) (hne : frame ≠ []) (hl : frame.length < 65536) (hb : Codec.Bytes frame)
    (hmulti : fragLen P (0x5a :: frame) < (0x5a :: frame).length) :
    ∃ w2 c1, promptSteps P.u 2 (step w (.offerC frame)) = some w2 ∧
      InFlight P m (0x5a :: frame) w2 c1 (fragLen P (0x5a :: frame)) 1 ∧
      Expect (Server.getUser w2.srv P.u) (chimeraUp P (Server.getUser w.srv P.u).inpacket frame) c1.outpkt.seqno.toNat
        (Server.getUser w.srv P.u).inpacket.offset 1 ∧
      (chimeraUp P (Server.getUser w.srv P.u).inpacket frame).drop (Server.getUser w.srv P.u).inpacket.offset =
        (0x5a :: frame).drop (fragLen P (0x5a :: frame)) ∧
      Exchanged P w w2 (newPacket w.cs.c frame) c1 := by
  obtain ⟨w1, hw1, hfl, t1, t2, hsrv, hs, hdup⟩ := hq.offer7 hP h0 frame hne hl hb
  have hoseq := hfl.ready.stat.oseq
  obtain ⟨w2, c1, _, h1, hfl2, _, hinp, hex⟩ := hfl.acked_more hP hm
    (recvPkt_dup (by rw [hsrv]; exact hdup)) (by rw [hsrv]; exact hs) (by rw [hsrv, h0]; rfl) (by simpa using hmulti) (by omega)
  simp only [List.drop_zero, Nat.zero_add] at hfl2
  have hinp' : (Server.getUser w2.srv P.u).inpacket = (Server.getUser w.srv P.u).inpacket := by rw [hinp, hsrv]; rfl
  have hk := hsrv ▸ hex.kept
  have hdata := hbuf.data
  have hlen : ((Server.getUser w.srv P.u).inpacket.data.take (Server.getUser w.srv P.u).inpacket.offset).length =
      (Server.getUser w.srv P.u).inpacket.offset := by rw [List.length_take]; omega
  rw [hw1]
  refine ⟨w2, c1, h1, hfl2, Or.inr ⟨by omega, ?_, ?_, ?_, ?_, ?_⟩, ?_,
    ⟨hex.tunS.trans t1, hex.tunC.trans t2, hk, hex.acked, hex.selto, by rw [hex.now, hsrv]⟩⟩
  · rw [hinp', hex.acked.oseq, hs]; omega
  · rw [hinp', h0]; rfl
  · rw [hinp']
  · rw [hinp']; exact hbuf.len
  · unfold chimeraUp
    rw [hinp', List.take_append_of_le_length (by omega), List.take_take, Nat.min_self]
  · unfold chimeraUp
    rw [List.drop_append_of_le_length (by omega), List.drop_of_length_le (by omega)]
    rfl

/-- **`d = 7`, the server's last fragment number 0, a packet of `g ≥ 2` fragments.**  After the clean-path `2·g + 1` prompt steps —
no resend, no delay — the joint state is quiescent and IN STEP; the client wrote nothing; the server wrote
`junkUp (chimeraUp …)`: the frame `handle_full_packet` makes of "what its buffer held below the write offset, followed by the packet
without its first fragment". -/
theorem QuietMD.up_packet_desync7_multi (hP : P.Ok) (hm : m.Ok) (hq : QuietMD P m 7 0 w)
    (h0 : (Server.getUser w.srv P.u).inpacket.fragment = 0) (hbuf : BufOk (Server.getUser w.srv P.u).inpacket)
    (frame : List Nat) (hne : frame ≠ []) (hl : frame.length < 65536) (hb : Codec.Bytes frame)
    (hmulti : fragLen P (0x5a :: frame) < (0x5a :: frame).length)
    (hg16 : upFrags P (frame.length + 1) (0x5a :: frame) ≤ 16)
    (hok : ChimeraOk P (Server.getUser w.srv P.u).inpacket (Server.getUser w.srv P.u).tunIp frame) :
    ∃ w', promptSteps P.u (2 * upFrags P (frame.length + 1) (0x5a :: frame) + 1) (step w (.offerC frame)) = some w' ∧
      QuietMD P m 0 0 w' ∧
      w'.tunS = w.tunS ++ junkUp (chimeraUp P (Server.getUser w.srv P.u).inpacket frame) ∧
      1 ≤ (Server.getUser w'.srv P.u).inpacket.fragment ∧ 2 ≤ upFrags P (frame.length + 1) (0x5a :: frame) ∧
      Completed P w w' (newPacket w.cs.c frame) := by
  obtain ⟨w2, c1, hs2, hfl, hE, htail, hex⟩ := hq.false_ack_more hP hm h0 hbuf frame hne hl hb hmulti
  have hTlen : (chimeraUp P (Server.getUser w.srv P.u).inpacket frame).length ≤ 65536 := by
    have := hok.cap
    unfold chimeraUp
    rw [List.length_append, List.length_take, List.length_drop]
    have := hbuf.data
    omega
  have hu := upFrags_step P frame.length (d := 0x5a :: frame) (List.cons_ne_nil _ _)
  have hm1 : 1 ≤ fragLen P (0x5a :: frame) := by
    obtain ⟨_, _, h, _, _⟩ := (newPacket_readyM hq.cst hq.cnt frame hl hb).query hP
    simpa using h
  have hfl0 : frame.length ≠ 0 := by intro h; rw [List.length_cons, h] at hmulti; omega
  have hg1 := upFrags_pos P hfl0 (drop_ne_nil hmulti)
  obtain ⟨w', h1, h2, h3, h6, h5⟩ := InFlight.run hP hm hTlen frame.length w2 c1 _ _ 1 hfl hE htail
    (by simp only [List.length_drop, List.length_cons]; omega)
    (by rw [hu] at hg16; omega) (by rw [hex.kept.tunIp]; exact hok.ns)
  refine ⟨w', ?_, h2, by rw [h3, hex.tunS], by omega, by omega, h5.after hex⟩
  rw [hu, show 2 * (1 + upFrags P frame.length ((0x5a :: frame).drop (fragLen P (0x5a :: frame)))) + 1 =
    2 + (2 * upFrags P frame.length ((0x5a :: frame).drop (fragLen P (0x5a :: frame))) + 1) from by omega,
    promptSteps_add P.u 2 _ _ w2 hs2, h1]

/-- **`d = 7`, the server's last fragment number 0, a ONE-fragment packet**: lost silently in 2 steps; quiescent and in step
afterwards; the server untouched but for its clock-free bookkeeping. -/
theorem QuietMD.false_ack_done (hP : P.Ok) (hm : m.Ok) (hq : QuietMD P m 7 0 w)
    (h0 : (Server.getUser w.srv P.u).inpacket.fragment = 0) (frame : List Nat)
    (hne : frame ≠ []) (hl : frame.length < 65536) (hb : Codec.Bytes frame)
    (hone : fragLen P (0x5a :: frame) = (0x5a :: frame).length) :
    ∃ w', promptSteps P.u 2 (step w (.offerC frame)) = some w' ∧ QuietMD P m 0 0 w' ∧ Idled P w w' 0 ∧
      w'.cs.c.selecttimeout = w.cs.c.selecttimeout ∧ w'.cs.c.sendPingSoon = 20 := by
  obtain ⟨w1, hw1, hfl, t1, t2, hsrv, hs, hdup⟩ := hq.offer7 hP h0 frame hne hl hb
  obtain ⟨w', h1, h2, hi, h8, h9⟩ := hfl.acked_done hP hm (by rw [hsrv]; exact hdup) (by rw [hsrv]; exact hs)
    (by rw [hsrv, h0]; rfl) (by simpa using hone)
  rw [hw1]
  exact ⟨w', h1, h2, ⟨hi.tunS.trans t1, hi.tunC.trans t2, hsrv ▸ hi.inp, hsrv ▸ hi.kept, by rw [hi.srvNow, hsrv],
    by rw [hi.cliNow, hfl.cli]; exact congrArg (· + 0) (sentFactsL _).now⟩, h8, h9⟩

end

end Iodine.C02L
