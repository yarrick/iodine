import IodineModel.Lemmas.C02L2
import IodineModel.Lemmas.C02v8
/-
DESYNCHRONISED quiescent states, the vocabulary the recovery theorems share: as `QuietImm` / `QuietLazy`, but the SENDER's
3-bit packet sequence number of a direction is `d` ahead of the receiver's (`du`: the client's `outpkt.seqno` against the
server's `inpacket.seqno`; `dd`: the server's `outpacket.seqno` against the client's `inpkt.seqno`).  `d = 0` is the
synchronised state of the clean-path theorems.  Such a state arises when `d` packets in a row were given up by the sender
without the receiver having seen any fragment of them (every datagram of one direction lost for a while).
-/
namespace Iodine.C02L
open Iodine Iodine.World

/-- The quiescent joint state of immediate mode with the two sequence-number distances `du`, `dd` and the freshness slacks of the
server's duplicate memories as parameters: `sl` for the data-CMC counter (`Aged`),
`sp` for the ping seed (`PAged`) — how many queries the client may have sent that never reached the server (+1) -/
structure QuietImmDS (P : Par) (du dd sl sp : Nat) (w : W) : Prop where
  ph : w.cs.ph = .tunnel
  cst : CStat P w.cs.c
  idleC : Client.isSending w.cs.c = false
  up : w.up = []
  down : w.down = []
  srv : SStat P w.srv
  idle : IdleImm (Server.getUser w.srv P.u)
  oq : (Server.getUser w.srv P.u).oqFilled = 0
  syncu : w.cs.c.outpkt.seqno = ((Server.getUser w.srv P.u).inpacket.seqno + du) % 8
  syncd : (Server.getUser w.srv P.u).outpacket.seqno = (w.cs.c.inpkt.seqno + dd) % 8
  aged : Aged P (Server.getUser w.srv P.u) w.cs.c.datacmc sl
  paged : PAged P (Server.getUser w.srv P.u) w.cs.c.randSeed sp

theorem QuietImmDS.quiet {P : Par} {du dd sl sp : Nat} {w : W} (h : QuietImmDS P du dd sl sp w) : quiet P.u w = true :=
  quiet_of_idle h.up h.down h.idleC h.idle.out h.oq h.idle.qs (Or.inr ⟨h.idle.lazy, h.idle.q⟩)

/-- slack 1: the desynchronised version of the clean path's quiescent state -/
abbrev QuietImmD (P : Par) (du dd : Nat) (w : W) : Prop := QuietImmDS P du dd 1 1 w

theorem quietImmDS_zero {P : Par} {sl sp : Nat} {w : W} : QuietImmDS P 0 0 sl sp w ↔ QuietImmS P sl sp w := by
  constructor <;> intro h
  all_goals
    have h1 := h.srv.x.iseq
    have h2 := h.cst.iseq
    exact ⟨h.ph, h.cst, h.idleC, h.up, h.down, h.srv, h.idle, h.oq, by have := h.syncu; omega, by have := h.syncd; omega,
      h.aged, h.paged⟩

theorem quietImmD_zero {P : Par} {w : W} : QuietImmD P 0 0 w ↔ QuietImm P w := quietImmDS_zero

structure QuietLazyD (P : Par) (du dd : Nat) (w : W) : Prop where
  ph : w.cs.ph = .tunnel
  cst : CStatL P w.cs.c
  cnt : CntOk w.cs.c 1
  idleC : Client.isSending w.cs.c = false
  up : w.up = []
  down : w.down = []
  srv : SStat P w.srv
  idle : IdleLazy (Server.getUser w.srv P.u)
  oq : (Server.getUser w.srv P.u).oqFilled = 0
  held : HeldBase P (Server.getUser w.srv P.u).q
  heldid : (Server.getUser w.srv P.u).q.id = w.cs.c.chunkid
  syncu : w.cs.c.outpkt.seqno = ((Server.getUser w.srv P.u).inpacket.seqno + du) % 8
  syncd : (Server.getUser w.srv P.u).outpacket.seqno = (w.cs.c.inpkt.seqno + dd) % 8
  mem : HeldMem P (Server.getUser w.srv P.u) (Server.getUser w.srv P.u).q w.cs.c.datacmc w.cs.c.randSeed

theorem QuietLazyD.quiet {P : Par} {du dd : Nat} {w : W} (h : QuietLazyD P du dd w) : quiet P.u w = true :=
  quiet_of_idle h.up h.down h.idleC h.idle.out h.oq h.idle.qs (Or.inl ⟨h.idle.lazy, h.idle.q⟩)

theorem quietLazyD_zero {P : Par} {w : W} : QuietLazyD P 0 0 w ↔ QuietLazy P w := by
  constructor <;> intro h
  all_goals
    have h1 := h.srv.x.iseq
    have h2 := h.cst.iseq
    exact ⟨h.ph, h.cst, h.cnt, h.idleC, h.up, h.down, h.srv, h.idle, h.oq, h.held, h.heldid, by have := h.syncu; omega,
      by have := h.syncd; omega, h.mem⟩

end Iodine.C02L
