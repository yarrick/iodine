import IodineModel.Lemmas.WireRt2
/-
Round trip through the wire, MX / SRV: the decoder's record loop over the records `mxRecs` the encoder emits,
and its output loop `mxOut` as a pure function.
-/
namespace Iodine.Wire
open Iodine.Wire.Strict Iodine.Wire.DnsEncode

theorem overwrite_nil (w : List Nat) : overwrite [] w = w := by simp [overwrite]

theorem set_pre_replicate (pre : List (List Nat)) (m : Nat) (hm : 1 ≤ m) (w : List Nat) :
    (pre ++ List.replicate m []).set pre.length w = (pre ++ [w]) ++ List.replicate (m - 1) [] := by
  obtain ⟨m', rfl⟩ : ∃ m', m = m' + 1 := ⟨m - 1, by omega⟩
  rw [List.set_append_right _ _ (Nat.le_refl _)]
  simp [List.replicate_succ]

theorem getD_pre_replicate (pre : List (List Nat)) (m : Nat) :
    (pre ++ List.replicate m ([] : List Nat)).getD pre.length [] = [] := by
  rw [List.getD_eq_getElem?_getD, List.getElem?_append_right (Nat.le_refl _)]
  simp only [Nat.sub_self]
  cases m with
  | zero => rfl
  | succ m => simp [List.replicate_succ]

/-- the decoder's loop over the records of the MX/SRV answer: the target names land in `names[a-1 …]` -/
theorem mxLoop_rt {pkt : List Nat} (hl : pkt.length ≤ 65536) (h12 : 12 < pkt.length) (ty : Nat)
    (hty : ty = 15 ∨ ty = 33) (ts : List (List (List Nat))) :
    ∀ (pre : List (List Nat)) (m p ty0 : Nat) (Y : List Nat),
      At pkt p (mxRecs ty (pre.length + 1) ts ++ Y) → ts.length ≤ m → pre.length + ts.length ≤ 249 →
      (∀ t ∈ ts, LabelsOK t ∧ (joinDots t).length ≤ 253 ∧ labLen t ≤ 254) →
      mxLoop (rx pkt) ts.length p (pre ++ List.replicate m []) ty0 =
        .ok (some (pre ++ ts.map (fun t => joinDots t ++ [0]) ++ List.replicate (m - ts.length) [],
          if ts = [] then ty0 else ty)) := by
  induction ts with
  | nil => intro pre m p ty0 Y _ _ _ _; simp [mxLoop]
  | cons t r ih =>
    intro pre m p ty0 Y h hm hpre hts
    obtain ⟨htok, htl, htlab⟩ := hts t (by simp)
    simp only [List.length_cons] at hm hpre
    have h' : At pkt p (rrBytes namePtr ty 0 (mxRData ty (pre.length + 1) t) ++
        (mxRecs ty (pre.length + 1 + 1) r ++ Y)) := by
      simpa [mxRecs, List.append_assoc] using h
    have hrdl := mxRData_length ty (pre.length + 1) t
    have hrd6 : (mxRData ty (pre.length + 1) t).length < 65536 := by rw [hrdl]; split <;> omega
    have hty' : ty < 65536 := by rcases hty with h | h <;> omega
    obtain ⟨⟨w, hw⟩, hck, hrr, hat, hle⟩ := rr_front hl h12 hty' hrd6 h'
    have hck12 : checklenFails (rx pkt) 12 (p + 2) = false := by
      simp only [checklenFails, rx_plen, decide_eq_false_iff_not]
      have : 3 ≤ (mxRData ty (pre.length + 1) t).length := by rw [hrdl]; split <;> omega
      omega
    -- weight and port, which only an SRV record has, are skipped
    obtain ⟨e, he⟩ : ∃ e, e = if ty = T_SRV then be16 10 ++ be16 5060 else [] := ⟨_, rfl⟩
    have hel : (if ty = T_SRV then 6 else 2) = 2 + e.length := by rw [he]; split <;> rfl
    have hpos : (if ty = 33 then p + 12 + 2 + 4 else p + 12 + 2) = p + 12 + 2 + e.length := by
      by_cases h33 : ty = 33 <;> simp [he, T_SRV, h33]
    rw [hel] at hrdl
    have hat1 : At pkt (p + 12) (be16 (10 * (pre.length + 1)) ++
        (e ++ (encName t ++ (mxRecs ty (pre.length + 1 + 1) r ++ Y)))) := by
      simpa [mxRData, List.append_assoc, he] using hat
    have hpref := readshort_at hl (show 10 * (pre.length + 1) < 65536 by omega) hat1
    have hnext : At pkt (p + 12 + (mxRData ty (pre.length + 1) t).length) (mxRecs ty (pre.length + 1 + 1) r ++ Y) := hat.right
    have hckend : checklenFails (rx pkt) 0 (p + 12 + (mxRData ty (pre.length + 1) t).length) = false := by
      simp only [checklenFails, rx_plen, decide_eq_false_iff_not]; omega
    have hck0 : checklenFails (rx pkt) 0 (p + 12 + 2 + e.length) = false := by
      simp only [checklenFails, rx_plen, decide_eq_false_iff_not]
      rw [hrdl] at hle; omega
    have hcond : (10 * (pre.length + 1)) % 10 = 0 ∧ 10 * (pre.length + 1) ≥ 10 ∧ 10 * (pre.length + 1) < 2500 := by omega
    have hk : 10 * (pre.length + 1) / 10 - 1 = pre.length := by omega
    have hw255 : (joinDots t ++ [0]).take 255 = joinDots t ++ [0] := List.take_of_length_le (by simp; omega)
    have hih := ih (pre ++ [joinDots t ++ [0]]) (m - 1) (p + 12 + (mxRData ty (pre.length + 1) t).length) ty Y
      (by simpa using hnext) (by omega) (by simp; omega) (fun x hx => hts x (by simp [hx]))
    have hatn : At pkt (p + 12 + 2 + e.length) (encName t ++ (mxRecs ty (pre.length + 1 + 1) r ++ Y)) := by
      have := hat1.right.right
      simpa [Nat.add_assoc] using this
    have hname := readname_labels hl 255 (p + 12 + 2 + e.length) t _ htok hatn (by omega) (by omega)
    simp only [List.length_cons, mxLoop, hw, bind_ok, hck12, Bool.false_eq_true, if_false, hrr, hpref, hpos, hck0,
      and_false, hcond, and_self, if_true, hk]
    rw [if_neg (by omega)]
    simp only [bind_ok, hname, getD_pre_replicate, overwrite_nil, hw255, set_pre_replicate pre m (by omega),
      hckend, Bool.false_eq_true, if_false]
    rw [hih]
    simp
    omega

/-! ### the output loop -/

/-- `mxOut` as a pure function of the names (C strings): what is in `buf` before the final NUL -/
def mxOutPure (B : Nat) : List (List Nat) → List Nat → List Nat
  | [], out => out
  | nm :: rest, out =>
    if out.length + 2 ≥ B then out
    else mxOutPure B rest (out ++ nm.take (min nm.length (B - (out.length + 2))) ++ [0])

theorem mxOutPure_lt (B : Nat) (ns : List (List Nat)) : ∀ out, out.length < B → (mxOutPure B ns out).length < B := by
  induction ns with
  | nil => intro out h; exact h
  | cons nm rest ih =>
    intro out h
    simp only [mxOutPure]
    split
    · exact h
    · apply ih
      simp only [List.length_append, List.length_take, List.length_cons, List.length_nil]
      omega

theorem mxOutPure_prefix (B : Nat) (ns : List (List Nat)) : ∀ out, out <+: mxOutPure B ns out := by
  induction ns with
  | nil => intro out; exact List.prefix_refl _
  | cons nm rest ih =>
    intro out
    simp only [mxOutPure]
    split
    · exact List.prefix_refl _
    · refine List.IsPrefix.trans ?_ (ih _)
      rw [List.append_assoc]
      exact List.prefix_append _ _

theorem mxOut_rt (B : Nat) (hB : B ≤ 65536) (ns : List (List Nat)) :
    ∀ (out : List Nat) (tail : List (List Nat)), (∀ n ∈ ns, n ≠ [] ∧ ∀ c ∈ n, c ≠ 0) → out.length < B →
      mxOut B (ns.map (fun n => n ++ [0]) ++ [] :: tail) out =
        .ok ((mxOutPure B ns out).length, mxOutPure B ns out ++ [0]) := by
  induction ns with
  | nil =>
    intro out tail _ ho
    simp [mxOut, cstr, mxOutPure, push_ok 0 ho]
  | cons nm rest ih =>
    intro out tail hns ho
    obtain ⟨hne, hnz⟩ := hns nm (by simp)
    have hc : cstr (nm ++ [0]) = nm := cstr_append_nul nm [] hnz
    have hpos : 0 < nm.length := List.length_pos_iff.mpr hne
    simp only [List.map_cons, List.cons_append, mxOut, hc, mxOutPure]
    rw [if_neg hne]
    by_cases hroom : out.length + 2 ≥ B
    · rw [if_pos hroom, if_pos hroom]
      simp [push_ok 0 ho]
    · rw [if_neg hroom, if_neg hroom]
      rw [subSizeT_eq B (out.length + 2) (by omega) (by omega)]
      rw [if_neg (by omega), if_neg (by omega)]
      rw [push_ok 0 (by simp only [List.length_append, List.length_take]; omega)]
      simp only [bind_ok]
      exact ih _ tail (fun n hn => hns n (by simp [hn]))
        (by simp only [List.length_append, List.length_take, List.length_cons, List.length_nil]; omega)

/-- The MX/SRV branch of the decoder on the encoder's records: the target names, cut to the caller's buffer. -/
theorem answerMx_rt {pkt : List Nat} (hl : pkt.length ≤ 65536) (h12 : 12 < pkt.length) (B : Nat) (hB1 : 1 ≤ B)
    (hB : B ≤ 65536) (q : Decoded) (ty : Nat) (hty : ty = 15 ∨ ty = 33) (ts : List (List (List Nat))) (p : Nat) (Y : List Nat)
    (h : At pkt p (mxRecs ty 1 ts ++ Y)) (hn0 : ts ≠ []) (hn : ts.length ≤ 249)
    (hts : ∀ t ∈ ts, LabelsOK t ∧ (joinDots t).length ≤ 253 ∧ labLen t ≤ 254 ∧ joinDots t ≠ [] ∧ ∀ c ∈ joinDots t, c ≠ 0) :
    answerMx (rx pkt) B q p ts.length =
      .ok { q with rv := ((mxOutPure B (ts.map joinDots) []).length : Nat),
                   buf := mxOutPure B (ts.map joinDots) [] ++ [0], type := ty } := by
  have hloop := mxLoop_rt hl h12 ty hty ts [] 250 p 0 Y (by simpa using h) (by omega) (by simpa using hn)
    (fun t ht => ⟨(hts t ht).1, (hts t ht).2.1, (hts t ht).2.2.1⟩)
  have hinit : namesInit = [] ++ List.replicate 250 [] := rfl
  unfold answerMx
  rw [hinit, hloop]
  simp only [bind_ok, List.nil_append, if_neg hn0]
  have hrep : List.replicate (250 - ts.length) ([] : List Nat) = [] :: List.replicate (250 - ts.length - 1) [] := by
    obtain ⟨k, hk⟩ : ∃ k, 250 - ts.length = k + 1 := ⟨250 - ts.length - 1, by omega⟩
    rw [hk]; simp [List.replicate_succ]
  have hmap : ts.map (fun t => joinDots t ++ [0]) = (ts.map joinDots).map (fun n => n ++ [0]) := by
    rw [List.map_map]; rfl
  rw [hrep, hmap, mxOut_rt B hB (ts.map joinDots) [] _ (by
    intro n hn'
    simp only [List.mem_map] at hn'
    obtain ⟨t, ht, rfl⟩ := hn'
    exact ⟨(hts t ht).2.2.2.1, (hts t ht).2.2.2.2⟩) (by simp only [List.length_nil]; omega)]
  rfl

end Iodine.Wire
