import IodineModel.Lemmas.C02rO2
/-
Endings of the overlap in lazy mode: the steps of the upstream remainder (`UpFlightA`, C02rO2: an upstream fragment is
in flight and the server holds NO query).  A fragment that is not the last one takes two scheduler events: the server stores it and
answers the data query AT ONCE with a dataless acknowledgement, the client takes it as the answer to its MOST RECENT query and sends
the next fragment (`upflight_mid_step`).  The last one takes five: the packet goes to the server's tun device and the query is parked
in `q_sendrealsoon`; the server's 20 ms timer answers it (`srv_tick_parked_noq`); the client's packet is complete; its 20 ms timer
sends a ping, which the server holds: quiescent (`upflight_last_step`).
-/
namespace Iodine.C02L
open Iodine Iodine.Gen Iodine.World

section tick
open Iodine.Server

/-- the sweep of the 20 ms timeout iteration answers the parked data query `H` (data-CMC counter value `k`) with a
dataless packet and remembers it; no query is held in `q`, so afterwards the server holds no query at all -/
theorem srv_tick_parked_noq {P : Par} (hP : P.Ok) {s : Srv} (hS : SStat P s) {H : Query} {k sd : Nat} (hk : k < 36)
    (hA : Aged P (getUser s P.u) k 1) (hPA : PAged P (getUser s P.u) sd 1)
    (hB : HeldBase P H) (hHD : HeldData P H k)
    (hq : (getUser s P.u).q = { H with id := 0 }) (hqs : (getUser s P.u).qs = H) (hlz : (getUser s P.u).lazy = true)
    (hout : (getUser s P.u).outpacket.len = 0) (hoq : (getUser s P.u).oqFilled = 0) :
    ∃ s' evs tunsel, iteration s .tick s.now = (s', evs, (20000, tunsel)) ∧
      downOfEvents evs = [.ans H.id H.type H.name (scPkt (getUser s P.u) 0)] ∧ tunOfSEvents evs = [] ∧
      NoQSrv P true s' ∧ Kept (getUser s' P.u) (getUser s P.u) ∧
      (getUser s' P.u).inpacket = (getUser s P.u).inpacket ∧ s'.now = s.now ∧
      Aged P (getUser s' P.u) ((k + 1) % 36) 1 ∧ PAged P (getUser s' P.u) sd 1 := by
  obtain ⟨s', hto, ⟨evs, ts, h1, h2, h3⟩, ⟨hS', hk', hnow, _⟩, hin, hw, _, x0, hm0, hlen0, hm1⟩ :=
    srv_tick_core (held := false) hS ⟨hout, hq, hqs, hB.from_, hB.id, hB.id2⟩ (fun e => nomatch e) hB.id hB.id2
  obtain rfl : ((topOfLoop s).2.1, (topOfLoop s).2.2) = ts := congrArg (fun r => r.2.2) h1
  rw [hto] at h1
  obtain ⟨a, p⟩ := aged_memo_data hP (hA.memEq hm0) (hPA.memEq hm0) hk ⟨Nat.le_refl 1, by decide⟩ H _ hlen0
    hHD.c0 hHD.c4 hHD.len5
  exact ⟨s', evs, _, h1, h2, h3, ⟨hS', hw.q, hw.qs, hk'.lazy.trans hlz, hk'.oqFilled.trans hoq⟩, hk', hin, hnow,
    a.memEq hm1, p.memEq hm1⟩

#print axioms srv_tick_parked_noq

end tick

theorem upflight_mid_step {P : Par} (hP : P.Ok) {out : List Nat} {w : W} {c0 : Client.Cli} {o f : Nat}
    (h : UpFlightA P out w c0 o f) (h64 : out.length ≤ 65536)
    (hlt : o + fragLen P (out.drop o) < out.length) (hf1 : f + 1 < 16) :
    ∃ w' c0', promptSteps P.u 2 w = some w' ∧ UpFlightNQ P out w' c0' (o + fragLen P (out.drop o)) (f + 1) ∧
      w'.tunS = w.tunS ∧ w'.tunC = w.tunC ∧ c0'.outpkt.seqno = c0.outpkt.seqno ∧
      (Server.getUser w'.srv P.u).tunIp = (Server.getUser w.srv P.u).tunIp ∧
      (Server.getUser w'.srv P.u).fragsize = (Server.getUser w.srv P.u).fragsize := by
  obtain ⟨cs, srv, up, down, tC, tS⟩ := w
  obtain ⟨name, rfl, rfl, hsend, hm1, hm2, hQ⟩ := h.toUpSentL.query hP
  obtain rfl : down = [] := h.down
  generalize hm : fragLen P (out.drop o) = m at *
  rw [show (m == out.length - o) = false by rw [beq_eq_false_iff_ne]; omega] at hQ
  have hsf := sentFactsL c0
  have hsi := sentIdsL c0
  have hcst := cstat_sentL h.ready
  have hoseq := h.ready.stat.oseq
  -- the server stores the fragment and, holding no query, answers the data query at once (dataless)
  obtain ⟨op1, r1, hack, hlen1, hseq1, hfrag1⟩ := h.ack
  obtain ⟨s', evs, t, pkt, hit, hdown, htun, hps', hout', hE', htip', hfrs', hnow', hlen2, hdn, hus, huf, hA', hPA'⟩ :=
    srv_recv_mid_noq_ack hP h.srv h.ready.stat.cmc h.aged h.paged hQ hack hlen1
      (by rw [hseq1]; exact h.ready.stat.iseq) hfrag1 h.expect (by omega) h.ready.hf hm2 h64
  simp only [upQuery] at hdown
  -- the client takes the dataless answer to its most recent query, whose header acknowledges the fragment in flight
  have hcnt2 : CntOk { sentStateL c0 with sendPingSoon := 0 } 2 := hsi.cnt h.ready.cnt
  have hcnt1 : CntOk { sentStateL c0 with sendPingSoon := 0 } 1 := sentStateL_cnt0 c0 h.cnt0
  have hcid : ({ sentStateL c0 with sendPingSoon := 0 } : Client.Cli).chunkid = (sentState c0).chunkid := hsi.cid
  generalize ({ sentStateL c0 with sendPingSoon := 0 } : Client.Cli) = c at hsf hcst hcnt2 hcnt1 hcid ⊢
  generalize (sentState c0).chunkid = id1 at hcid hdown hit hQ ⊢
  have hdl := tunnelDns_dataless_cur c ⟨(pkt.length : Int), id1, answerType P.ty, 0, name.headD 0, pkt⟩
    (by rw [headD_eq_getD]; exact notData_held (hsf.useridChar.trans h.ready.stat.uch) _ (Or.inl hQ.c0))
    hlen2 hcid.symm hcst.lz (by rw [hdn, hsf.inpkt]; exact hseq1)
  rw [hsf.sps] at hdl
  have hnext := acked_next h.ready hsf (cstatL_hintBook hcst) (cntOk_book (d := 1) hcnt2 900) (hintBook_outpkt c) hus huf
    (hm ▸ hlt) hf1 [] false 2
  rw [hm] at hnext
  obtain ⟨hmore, hready'⟩ := hnext
  have hbf : BookFacts c (ackNext (hintBook c)) := (BookFacts.refl c).hintBook.ackNext
  have hcli := cliDoes_next hP hcst (id := id1) (ty := P.ty) (name := name) (hdl.trans hmore) hready'
  refine ⟨⟨⟨{ sentStateL (ackNext (hintBook c)) with sendPingSoon := 0 }, .tunnel⟩, s',
      upOfEvents (Client.sendChunk (ackNext (hintBook c))).evs, [], tC, tS⟩, ackNext (hintBook c), ?_,
    ⟨⟨rfl, hready', rfl, rfl⟩, cntOk_book (d := 0) hcnt1 900, rfl, hps', by rw [hout']; exact hlen1,
      by rw [hbf.oseq, hsf.oseq]; exact hE', by rw [hout', hseq1, ackNext_inpkt, hintBook_inpkt, hsf.inpkt],
      by rw [hbf.cmc, hsf.cmc36 h.ready.stat.cmc]; exact hA', by rw [hbf.seed, hsf.seed]; exact hPA'⟩,
    rfl, rfl, by rw [hbf.oseq, hsf.oseq], htip', hfrs'⟩
  rw [ps_up0 (SrvDoes.mk hit hdown htun), ps_down0 hcli ((sentFactsL _).now.trans hbf.now)]
  simp only [promptSteps, List.append_nil]

#print axioms upflight_mid_step

/-- **The last upstream fragment under `UpFlightNQ` or `UpFlightNQP`** (five scheduler steps): quiescent again, the frame
is out on the server's tun device. -/
theorem upflight_last_step {P : Par} (hP : P.Ok) {frame : List Nat} {w : W} {c0 : Client.Cli} {o f : Nat}
    (h : UpFlightA P (0x5a :: frame) w c0 o f) (h64 : (0x5a :: frame).length ≤ 65536)
    (heq : o + fragLen P ((0x5a :: frame).drop o) = (0x5a :: frame).length) (h24 : 24 ≤ frame.length)
    (hdst : Server.ipDst frame ≠ (Server.getUser w.srv P.u).tunIp) :
    ∃ w', promptSteps P.u 5 w = some w' ∧ QuietLazy P w' ∧ w'.tunS = w.tunS ++ [[0, 0, 8, 0] ++ frame.drop 4] ∧
      w'.tunC = w.tunC ∧
      (Server.getUser w'.srv P.u).tunIp = (Server.getUser w.srv P.u).tunIp ∧
      (Server.getUser w'.srv P.u).fragsize = (Server.getUser w.srv P.u).fragsize := by
  obtain ⟨cs, srv, up, down, tC, tS⟩ := w
  obtain ⟨name, rfl, rfl, hsend, hm1, hm2, hQ⟩ := h.toUpSentL.query hP
  obtain rfl : down = [] := h.down
  rw [show (fragLen P ((0x5a :: frame).drop o) == (0x5a :: frame).length - o) = true by rw [beq_iff_eq]; omega] at hQ
  have hsf := sentFactsL c0
  have hsi := sentIdsL c0
  have hcst := cstat_sentL h.ready
  have hoseq := h.ready.stat.oseq
  have hcmc := h.ready.stat.cmc
  -- 1. the server writes the packet to its tun device and parks the data query
  obtain ⟨op1, r1, hack, hlen1, hseq1, hfrag1⟩ := h.ack
  obtain ⟨s', evs, t, hit, hdown, htun, hS', hq', hqs', hlz', hout', hoq', htip', hfr', hiseq', hifrag', hnow', hmem⟩ :=
    srv_recv_last_noq_ack hP h.srv hcmc h.aged hQ hack hlen1 (by rw [hseq1]; exact h.ready.stat.iseq) hfrag1
      h.expect (by omega) h.ready.hf heq h64 h24 hdst
  have hA1 : Aged P (Server.getUser s' P.u) c0.datacmc 1 := h.aged.memEq hmem
  have hPA1 : PAged P (Server.getUser s' P.u) c0.randSeed 1 := h.paged.memEq hmem
  have hsending : Client.isSending ({ sentStateL c0 with sendPingSoon := 0 } : Client.Cli) = true := by
    unfold Client.isSending
    rw [hsf.olen, h.ready.len]
    simp
  -- 2. its 20 ms timer answers the parked query
  obtain ⟨s'', evs2, tunsel, hit2, hdown2, htun2, hP2, hk2, hin2, hnow2, hA2, hPA2⟩ :=
    srv_tick_parked_noq hP hS' (H := upQuery (sentState c0).chunkid P.ty name) hcmc hA1 hPA1 hQ.heldBase (hQ.heldData hcmc) hq' hqs'
      hlz' (by rw [hout']; exact hlen1) (by rw [hoq']; exact h.srv.oq)
  have htoS : (Server.topOfLoop s').2.1 = 20000 := congrArg (fun r => r.2.2.1) hit2
  simp only [upQuery] at hdown2
  -- 3. the client's packet is complete
  generalize hpkt : Server.scPkt (Server.getUser s' P.u) 0 = pkt at hdown2
  obtain ⟨hlen2, hdn, hus, huf⟩ := ack_hdr (x := Server.getUser s' P.u) (y := Server.getUser s' P.u) hpkt.symm
    hS'.x.iseq hS'.x.ifrag rfl hS'.x.oseq hS'.x.ofrag
  have hcnt1 : CntOk { sentStateL c0 with sendPingSoon := 0 } 1 := sentStateL_cnt0 c0 h.cnt0
  have hcid : ({ sentStateL c0 with sendPingSoon := 0 } : Client.Cli).chunkid = (sentState c0).chunkid := hsi.cid
  generalize ({ sentStateL c0 with sendPingSoon := 0 } : Client.Cli) = c at hsf hcst hcnt1 hsending hcid ⊢
  generalize (sentState c0).chunkid = id1 at hcid hdown2 hit hit2 hQ ⊢
  have hbf : BookFacts c (ackDone (hintBook c)) := (BookFacts.refl c).hintBook.ackDone
  have hcdstat : CStatL P (ackDone (hintBook c)) := cstatL_ackDone (cstatL_hintBook hcst)
  have hdl := tunnelDns_dataless_cur c ⟨(pkt.length : Int), id1, answerType P.ty, 0, name.headD 0, pkt⟩
    (by rw [headD_eq_getD]; exact notData_held (hsf.useridChar.trans h.ready.stat.uch) _ (Or.inl hQ.c0))
    hlen2 hcid.symm hcst.lz (by rw [hdn, hout', hsf.inpkt]; exact hseq1)
  rw [hsf.sps] at hdl
  have hdone := upstream_ack_done_of (hintBook_outpkt c) (Client.decodeHdr pkt) [] false 2 hsending
    (by rw [hus, hiseq', hsf.oseq]; omega) (by rw [huf, hifrag', hsf.ofrag, h.ready.frag])
    (by rw [hsf.ooff, hsf.osent, hsf.olen, cFragLen_readyL h.ready, h.ready.off, h.ready.len]; omega)
  have hcli : CliDoes ⟨c, .tunnel⟩ (cliInput (.ans id1 P.ty name pkt)) ⟨ackDone (hintBook c), .tunnel⟩ [] [] :=
    cliDoes_quiet hcst (show _ = (ackDone (hintBook c), [], .ret 2) from (hdl.trans hdone).trans (by simp [Client.finalPing]))
      hcdstat.running
  have hcdcnt : CntOk (ackDone (hintBook c)) 0 := cntOk_book (d := 0) hcnt1 900
  generalize hcd : ackDone (hintBook c) = cd at hbf hcdstat hcli hcdcnt
  have hcdidle : Client.isSending cd = false := by rw [← hcd]; rfl
  have hcdsps : cd.sendPingSoon = 20 := by rw [← hcd]; rfl
  have hcdi : cd.inpkt = c0.inpkt := by rw [← hcd]; exact ((ackDone_inpkt _).trans (hintBook_inpkt c)).trans hsf.inpkt
  -- 4. the client's 20 ms timer sends a ping
  obtain ⟨name', hping, hpq⟩ := cliDoes_poll0 hP hcdstat.toM (Or.inr (hcdcnt.mono (by omega))) hcdidle (by simp [Client.selectOf, hcdsps])
  -- 5. the server has nothing to send and holds no query: it holds the ping
  have hlen2' : (Server.getUser s'' P.u).outpacket.len = 0 := by rw [hk2.outpacket, hout']; exact hlen1
  obtain ⟨w6, hs5, hQL0, _, htC6, htS6, hfr6, htip6, _⟩ :=
    hold_step hP (w3 := ⟨⟨pingStateL cd, .tunnel⟩, s'', [.query (pingStateL cd).chunkid P.ty name'], [], tC,
        tS ++ [[0, 0, 8, 0] ++ frame.drop 4]⟩) (c2 := cd)
      (a := cd.inpkt.seqno) (b := cd.inpkt.fragment) (name' := name') (dd := 0)
      (x1 := { Server.getUser s'' P.u with qsNew := false }) rfl hcdstat hcdcnt hcdidle rfl rfl hpq hP2
      (by show (Server.getUser s'' P.u).inpacket.seqno = _; rw [hin2, hiseq', hbf.oseq, hsf.oseq]; omega)
      (by rw [hbf.cmc, hsf.cmc36 hcmc]; exact hA2) (by rw [hbf.seed, hsf.seed]; exact hPA2)
      (ackSess_idle _ _ _ hlen2') hlen2' hP2.stat.x.oseq hP2.stat.x.ofrag
      (by show (Server.getUser s'' P.u).outpacket.seqno = _; rw [hk2.outpacket, hout', hseq1, hcdi]; have := h.ready.stat.iseq; omega)
  refine ⟨w6, ?_, quietLazyD_zero.1 hQL0, by rw [htS6], by rw [htC6], by rw [htip6]; exact hk2.tunIp.trans htip',
    by rw [hfr6]; exact hk2.fragsize.trans hfr'⟩
  rw [ps_up0 (SrvDoes.mk hit hdown htun),
    ps_tickS0 (quiet_false_of_sending hsending) htoS (by decide)
      (by intro t ht; cases ht; simp [Client.selectOf, hsf.sps, hsending]) (SrvDoes.mk hit2 hdown2 htun2),
    ps_down0 hcli hbf.now,
    ps_tickC (t := 20000) (quiet_false_noq hP2) (by simp [timeoutC, Client.pending, Client.selectOf, hcdsps])
      (by rw [show (Server.topOfLoop s'').2.1 = 10000000 from topOfLoop_noq hP2]; decide)
      hping,
    srvAt_same (by show (pingStateL cd).now = cd.now; exact (pingFactsL cd).now)]
  simp only [List.append_nil]
  rw [hs5]
  rfl

#print axioms upflight_last_step

end Iodine.C02L
