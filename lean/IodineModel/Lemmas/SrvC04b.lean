import IodineModel.Lemmas.SrvC04a
import IodineModel.Lemmas.HandlerCases
/-
The frames of the data path.  Every function of it writes only slot `u` (`Frame … (· = u)`), each at the lowest
erasure that holds: the outpacket machinery at `erOut`, the reassembly buffer at `erIn`, the caches at `erMem`, the
stored queries at `erData`; then `send_chunk_or_dataless`, `sendWaiting`, `deliverToUser`, `tunnelTun` and
`handleFullPacket` from these.  The events of the data path go to the addresses stored in the slot (`ToSess`).
-/
namespace Iodine.C04L
open Iodine Iodine.Server Iodine.Gen

theorem frame_startNewOutpacket (s : Srv) (u : Nat) (d : List Nat) (n : Nat) :
    Frame erOut (· = u) s (startNewOutpacket s u d n) :=
  Frame.set erOut s u _ (fun _ => rfl)

theorem frame_saveToOutpacketq (s : Srv) (u : Nat) (d : List Nat) (n : Nat) :
    Frame erOut (· = u) s (saveToOutpacketq s u d n).1 := by
  rw [saveToOutpacketq]
  exact ite_both (P := fun r : Srv × Bool => Frame erOut (· = u) s r.1) (Frame.refl _ _ _)
    (Frame.set erOut s u _ fun _ => rfl)

theorem frame_getFromOutpacketq (s : Srv) (u : Nat) :
    Frame erOut (· = u) s (getFromOutpacketq s u).1 := by
  rw [getFromOutpacketq]
  exact ite_both (P := fun r : Srv × Bool => Frame erOut (· = u) s r.1) (Frame.refl _ _ _)
    ((frame_startNewOutpacket s u _ _).trans (Frame.set erOut _ u _ fun _ => rfl))

theorem frame_dropOut (s : Srv) (u : Nat) : Frame erOut (· = u) s (setUser s u dropOut) :=
  Frame.set erOut s u _ (fun _ => rfl)

theorem frame_scDropResent (s : Srv) (u : Nat) : Frame erOut (· = u) s (scDropResent s u) := by
  rw [scDropResent]
  exact ite_both ((frame_dropOut s u).trans (frame_getFromOutpacketq _ u)) (Frame.refl _ _ _)

theorem frame_scPrepare (s : Srv) (u : Nat) : Frame erOut (· = u) s (scPrepare s u) := by
  rw [scPrepare]
  exact ite_both (Frame.set erOut s u _ fun _ => rfl) (Frame.refl _ _ _)

theorem frame_processDownstreamAck (s : Srv) (u : Nat) (a b : Int) :
    Frame erOut (· = u) s (processDownstreamAck s u a b) := by
  unfold processDownstreamAck
  extract_lets x off s1
  have h1 : Frame erOut (· = u) s s1 := Frame.set erOut _ u _ fun _ => rfl
  refine ite_both (Frame.refl _ _ _) <| ite_both (Frame.refl _ _ _) <| ite_both (Frame.refl _ _ _) <| ite_both ?_ h1
  refine Frame.trans ?_ (frame_getFromOutpacketq _ u)
  exact h1.trans (Frame.set erOut _ u _ fun _ => rfl)

theorem frame_saveToDnscache (s : Srv) (u : Nat) (q : Query) (a : List Nat) :
    Frame erMem (· = u) s (saveToDnscache s u q a) :=
  saveToDnscache_ind (P := Frame erMem (· = u) s) s u q a (Frame.refl _ _ _) fun g hg =>
    Frame.set erMem s u g fun x => by obtain ⟨c, l, h⟩ := hg x; rw [h]; cases x; rfl

theorem frame_saveToQmemPingOrData (s : Srv) (u : Nat) (q : Query) :
    Frame erMem (· = u) s (saveToQmemPingOrData s u q) :=
  saveToQmemPingOrData_ind (P := Frame erMem (· = u) s) s u q (Frame.refl _ _ _) fun g hg =>
    Frame.set erMem s u g fun x => by obtain ⟨a, b, c, d, h⟩ := hg x; rw [h]; cases x; rfl

theorem frame_saveQuery (s : Srv) (u : Nat) (q : Query) : Frame erData (· = u) s (saveQuery s u q) :=
  Frame.set erData s u _ (fun _ => rfl)

theorem frame_rememberDuplicate (s s' : Srv) (u : Nat) (q : Query) (h : rememberDuplicate s u q = some s') :
    Frame erData (· = u) s s' := by
  obtain ⟨w, _, _, rfl⟩ := rememberDuplicate_some h
  exact Frame.set erData s u _ fun x => by cases w <;> rfl

theorem erIn_dataUpstream (x : Session) (a b : Nat) : erIn (dataUpstream x a b).1 = erIn x := by
  rw [dataUpstream]
  exact ite_both (P := fun r : Session × Bool => erIn r.1 = erIn x) rfl <|
    ite_both (P := fun r : Session × Bool => erIn r.1 = erIn x) rfl <|
    ite_both (P := fun r : Session × Bool => erIn r.1 = erIn x) rfl rfl

theorem erIn_dataStore (x : Session) (p : List Nat) : erIn (dataStore x p) = erIn x := rfl

/-- the data handler in front of `handle_full_packet`: the downstream ack, then the fragment goes into the reassembly
buffer -/
theorem frame_dataPre (s : Srv) (u : Nat) (inb : List Nat) : Frame erIn (· = u) s (C05N.dataPre s u inb).1 := by
  unfold C05N.dataPre
  extract_lets b1 b2 b3 upSeq upFrag dnSeq dnFrag lastfrag s1 up upstreamOk s2
  refine ((frame_processDownstreamAck s u dnSeq dnFrag).coarsen erIn_erOut).trans (Frame.setv erIn s1 u _ ?_)
  exact ite_both (P := fun y => erIn y = erIn (getUser s1 u)) ((erIn_dataStore _ _).trans (erIn_dataUpstream _ _ _))
    (erIn_dataUpstream _ _ _)

theorem frame_sc_prep (s : Srv) (u : Nat) : Frame erOut (· = u) s (scPrepare (scDropResent s u) u) :=
  (frame_scDropResent s u).trans (frame_scPrepare _ u)

theorem frame_sendChunkOrDataless (s : Srv) (u : Nat) (w : QSel) :
    Frame erData (· = u) s (sendChunkOrDataless s u w).1.1 := by
  have h0 : Frame erData (· = u) s (scPrepare (scDropResent s u) u) := (frame_sc_prep s u).coarsen erData_erOut
  unfold sendChunkOrDataless
  have hset : ∀ (s' : Srv) (qq : Query), Frame erData (· = u) s' (setUser s' u fun y => w.set y qq) := by
    intro s' qq
    apply Frame.set erData s' u
    intro x; cases w <;> rfl
  have h4 : ∀ qq q2 pk, Frame erData (· = u) s (setUser (saveToDnscache (saveToQmemPingOrData
      (scPrepare (scDropResent s u) u) u q2) u q2 pk) u fun y => w.set y qq) := by
    intro qq q2 pk
    refine Frame.trans ?_ (hset _ qq)
    refine Frame.trans ?_ ((frame_saveToDnscache _ u _ _).coarsen erData_erMem)
    exact Frame.trans h0 ((frame_saveToQmemPingOrData _ u _).coarsen erData_erMem)
  dsimp only
  split
  · refine Frame.trans ?_ ((frame_getFromOutpacketq _ u).coarsen erData_erOut)
    refine Frame.trans ?_ ((frame_dropOut _ u).coarsen erData_erOut)
    exact h4 _ _ _
  · exact h4 _ _ _

theorem sc_prep_q (s : Srv) (u : Nat) (w : QSel) :
    w.get (getUser (scPrepare (scDropResent s u) u) u) = w.get (getUser s u) := by
  have h := (frame_sc_prep s u).rel u
  cases w
  · exact erOut_q h
  · exact erOut_qs h

theorem sendChunkOrDataless_events (s : Srv) (u : Nat) (w : QSel) :
    ∃ pkt dn, (sendChunkOrDataless s u w).1.2 = (scAnswer (w.get (getUser s u)) pkt dn u).2 := by
  refine ⟨scPkt (getUser (scPrepare (scDropResent s u) u) u) (scDatalen (getUser (scPrepare (scDropResent s u) u) u)),
    (getUser (scPrepare (scDropResent s u) u) u).downenc, ?_⟩
  rw [← sc_prep_q s u w]
  unfold sendChunkOrDataless
  dsimp only
  split <;> rfl

theorem scAnswer_events (q : Query) (pkt : List Nat) (dn u : Nat) :
    ∀ e ∈ (scAnswer q pkt dn u).2,
      e = Event.ans q.from_ q.id q.type dn q.name pkt (.chunk u) ∨
      (q.id2 ≠ 0 ∧ e = Event.ans q.from2 q.id2 q.type dn q.name pkt (.dupe u)) := by
  intro e he
  unfold scAnswer at he
  split at he
  · next h =>
    simp only [List.mem_cons, List.not_mem_nil, or_false] at he
    rcases he with rfl | rfl
    · left; rfl
    · right; exact ⟨h, rfl⟩
  · simp only [List.mem_cons, List.not_mem_nil, or_false] at he
    left; exact he

/-- model-level shape of the events of the data path towards session `t` whose stored queries are those of `x` -/
def ToSess (x : Session) (t : Nat) (e : Event) : Prop :=
  (∃ id ty dn nm pkt, e = Event.ans x.q.from_ id ty dn nm pkt (.chunk t)) ∨
  (∃ id ty dn nm pkt, e = Event.ans x.qs.from_ id ty dn nm pkt (.chunk t)) ∨
  (∃ id ty dn nm pkt, e = Event.ans x.q.from2 id ty dn nm pkt (.dupe t)) ∨
  (∃ id ty dn nm pkt, e = Event.ans x.qs.from2 id ty dn nm pkt (.dupe t)) ∨
  (∃ bytes, e = Event.raw x.q.from_ bytes)

theorem sendChunkOrDataless_toSess (s : Srv) (u : Nat) (w : QSel) :
    ∀ e ∈ (sendChunkOrDataless s u w).1.2, ToSess (getUser s u) u e := by
  obtain ⟨pkt, dn, h⟩ := sendChunkOrDataless_events s u w
  rw [h]
  intro e he
  rcases scAnswer_events _ pkt dn u e he with rfl | ⟨_, rfl⟩
  · cases w
    · exact Or.inl ⟨_, _, _, _, _, rfl⟩
    · exact Or.inr (Or.inl ⟨_, _, _, _, _, rfl⟩)
  · cases w
    · exact Or.inr (Or.inr (Or.inl ⟨_, _, _, _, _, rfl⟩))
    · exact Or.inr (Or.inr (Or.inr (Or.inl ⟨_, _, _, _, _, rfl⟩)))

theorem ToSess.congr {x y : Session} {t : Nat} {e : Event} (h : ToSess x t e) (hq : y.q = x.q) (hqs : y.qs = x.qs) :
    ToSess y t e := by
  unfold ToSess at *
  rw [hq, hqs]; exact h

theorem frame_step {s : Srv} {u : Nat} {r : Res} (h : StepRes s u r) : Frame erData (· = u) s r.1 :=
  h.elim (P := fun r => Frame erData (· = u) s r.1) (Frame.refl _ _ _) (frame_sendChunkOrDataless s u)
    (Frame.set erData s u _ fun _ => rfl)

theorem step_toSess {s : Srv} {u : Nat} {r : Res} (h : StepRes s u r) : ∀ e ∈ r.2, ToSess (getUser s u) u e :=
  h.elim (P := fun r => ∀ e ∈ r.2, ToSess (getUser s u) u e) nofun (sendChunkOrDataless_toSess s u) nofun

theorem frame_sendWaiting (s : Srv) (u : Nat) : Frame erData (· = u) s (sendWaiting s u).1 :=
  frame_step (sendWaiting_cases s u)

theorem sendWaiting_toSess (s : Srv) (u : Nat) : ∀ e ∈ (sendWaiting s u).2, ToSess (getUser s u) u e :=
  step_toSess (sendWaiting_cases s u)

theorem start_sendWaiting_toSess (s : Srv) (u : Nat) (d : List Nat) (n : Nat) :
    ∀ e ∈ (sendWaiting (startNewOutpacket s u d n) u).2, ToSess (getUser s u) u e := by
  intro e he
  have h := (frame_startNewOutpacket s u d n).rel u
  exact (sendWaiting_toSess _ u e he).congr (erOut_q h).symm (erOut_qs h).symm

/-- the part of `tunnel_tun` / `handle_full_packet` after the owner `t` of the destination was found -/
theorem frame_deliverToUser (s : Srv) (t : Nat) (d : List Nat) (n : Nat) :
    Frame erData (· = t) s (deliverToUser s t d n).1 := by
  rw [deliverToUser]
  exact ite_both (P := fun r : Res => Frame erData (· = t) s r.1)
    (ite_both (P := fun r : Res => Frame erData (· = t) s r.1)
      (((frame_startNewOutpacket s t d n).coarsen erData_erOut).trans (frame_sendWaiting _ t))
      ((frame_saveToOutpacketq s t d n).coarsen erData_erOut)) (Frame.refl _ _ _)

theorem deliverToUser_toSess (s : Srv) (t : Nat) (d : List Nat) (n : Nat) :
    ∀ e ∈ (deliverToUser s t d n).2, ToSess (getUser s t) t e := by
  rw [deliverToUser]
  refine ite_both (P := fun r : Res => ∀ e ∈ r.2, ToSess (getUser s t) t e)
    (ite_both (P := fun r : Res => ∀ e ∈ r.2, ToSess (getUser s t) t e) (start_sendWaiting_toSess s t d n) nofun) ?_
  intro e he
  rw [List.mem_singleton.1 he]
  exact .inr (.inr (.inr (.inr ⟨_, rfl⟩)))

theorem tunnelTun_none (s : Srv) (frame : List Nat) (h : findUserByIp s (ipDst frame) = none) :
    tunnelTun s frame = (s, []) := by
  rw [tunnelTun_eq, h]
  exact ite_both (P := fun r : Res => r = (s, [])) rfl (ite_both (P := fun r : Res => r = (s, [])) rfl rfl)

theorem tunnelTun_some_frame (s : Srv) (frame : List Nat) (t : Nat) (h : findUserByIp s (ipDst frame) = some t) :
    Frame erData (· = t) s (tunnelTun s frame).1 := by
  rw [tunnelTun_eq, h]
  exact ite_both (P := fun r : Res => Frame erData (· = t) s r.1) (Frame.refl _ _ _)
    (ite_both (P := fun r : Res => Frame erData (· = t) s r.1) (Frame.refl _ _ _) (frame_deliverToUser s t _ _))

theorem tunnelTun_some_events (s : Srv) (frame : List Nat) (t : Nat) (h : findUserByIp s (ipDst frame) = some t) :
    ∀ e ∈ (tunnelTun s frame).2, ToSess (getUser s t) t e := by
  rw [tunnelTun_eq, h]
  exact ite_both (P := fun r : Res => ∀ e ∈ r.2, ToSess (getUser s t) t e) nofun
    (ite_both (P := fun r : Res => ∀ e ∈ r.2, ToSess (getUser s t) t e) nofun (deliverToUser_toSess s t _ _))

/-- the three outcomes of `handle_full_packet` -/
inductive FullPacketCase (s : Srv) (u : Nat) : Type where
  | dropped
  | toTun (out : List Nat)
  | forward (out : List Nat) (t : Nat)

/-- the decompressed packet of user `u`, if it is a well-formed IP packet -/
def fullPacketOut (s : Srv) (u : Nat) : Option (List Nat) :=
  let x := getUser s u
  match uncompress (x.inpacket.data.take x.inpacket.len) 65536 with
  | some out => if out.length ≥ 4 + 20 then some out else none
  | none => none

theorem handleFullPacket_dropped (s : Srv) (u : Nat) (h : fullPacketOut s u = none) :
    handleFullPacket s u =
      (setUser s u fun y => { y with inpacket := { y.inpacket with len := 0, offset := 0 } }, []) := by
  unfold fullPacketOut at h
  unfold handleFullPacket
  dsimp only at h ⊢
  generalize uncompress (List.take (getUser s u).inpacket.len (getUser s u).inpacket.data) 65536 = r at h ⊢
  cases r with
  | none => rfl
  | some out =>
    dsimp only at h ⊢
    split at h
    · cases h
    · next h2 => rw [if_neg h2]

theorem handleFullPacket_toTun (s : Srv) (u : Nat) (out : List Nat) (h : fullPacketOut s u = some out)
    (hn : findUserByIp s (ipDst out) = none) :
    handleFullPacket s u =
      (setUser s u (fun y => { y with inpacket := { y.inpacket with len := 0, offset := 0 } }), [writeTun out]) := by
  unfold fullPacketOut at h
  unfold handleFullPacket
  dsimp only at h ⊢
  generalize uncompress (List.take (getUser s u).inpacket.len (getUser s u).inpacket.data) 65536 = r at h ⊢
  cases r with
  | none => cases h
  | some out' =>
    dsimp only at h ⊢
    split at h
    · next h2 => cases h; rw [if_pos h2, hn]
    · cases h

theorem handleFullPacket_forward (s : Srv) (u : Nat) (out : List Nat) (t : Nat) (h : fullPacketOut s u = some out)
    (hn : findUserByIp s (ipDst out) = some t) :
    handleFullPacket s u =
      (setUser (deliverToUser s t (getUser s u).inpacket.data (getUser s u).inpacket.len).1 u
        (fun y => { y with inpacket := { y.inpacket with len := 0, offset := 0 } }),
       (deliverToUser s t (getUser s u).inpacket.data (getUser s u).inpacket.len).2) := by
  unfold fullPacketOut at h
  unfold handleFullPacket
  dsimp only at h ⊢
  generalize uncompress (List.take (getUser s u).inpacket.len (getUser s u).inpacket.data) 65536 = r at h ⊢
  cases r with
  | none => cases h
  | some out' =>
    dsimp only at h ⊢
    split at h
    · next h2 => cases h; rw [if_pos h2, hn]
    · cases h

theorem fullPacketOut_len (s : Srv) (u : Nat) (out : List Nat) (h : fullPacketOut s u = some out) : 24 ≤ out.length := by
  unfold fullPacketOut at h
  dsimp only at h
  generalize uncompress (List.take (getUser s u).inpacket.len (getUser s u).inpacket.data) 65536 = r at h
  cases r with
  | none => cases h
  | some out' =>
    dsimp only at h
    split at h
    · next h2 => cases h; exact h2
    · cases h

theorem frame_handleFullPacket (s : Srv) (u : Nat) :
    Frame erData (fun v => v = u ∨ ∃ out, fullPacketOut s u = some out ∧ findUserByIp s (ipDst out) = some v) s
      (handleFullPacket s u).1 := by
  have hr : ∀ s', Frame erData (· = u) s'
      (setUser s' u fun y => { y with inpacket := { y.inpacket with len := 0, offset := 0 } }) :=
    fun s' => Frame.set erData s' u _ fun _ => rfl
  cases h : fullPacketOut s u with
  | none =>
    rw [handleFullPacket_dropped s u h]
    exact (hr s).mono (fun v hv => Or.inl hv)
  | some out =>
    cases hn : findUserByIp s (ipDst out) with
    | none =>
      rw [handleFullPacket_toTun s u out h hn]
      exact (hr s).mono (fun v hv => Or.inl hv)
    | some t =>
      rw [handleFullPacket_forward s u out t h hn]
      exact ((frame_deliverToUser s t _ _).mono (fun v hv => Or.inr ⟨out, rfl, hv ▸ hn⟩)).trans
        ((hr _).mono (fun v hv => Or.inl hv))

end Iodine.C04L
