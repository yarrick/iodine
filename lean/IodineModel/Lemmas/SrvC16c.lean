import IodineModel.Lemmas.SrvC16a
import IodineModel.Lemmas.SrvC04b
import IodineModel.Lemmas.Steps
/-
C16: the monitor that follows the answer cache and the query memories of one session through a run, the invariant `K`
tying it to the state, and the rules that push it through a step and a sequence of steps (`Keeps`, `step_*`).  Monitor
and state stay in step through every primitive step (`keeps_closed`): all steps are "cache and memories of the slot
untouched, no fresh answer of the slot" but three — an accepted `V` for the slot (`keeps_version`: the VACK empties the
monitor, `resetSession` the cache and memories), an accepted `N` naming it (`keeps_fragsize`: the acknowledgement empties
the monitor's cache list), and `send_chunk_or_dataless` (`step_sendChunk`), the one place where they are filled.
-/
namespace Iodine.C16L
open Iodine Iodine.Server Iodine.Gen

/-- name, type and payload of a fresh answer -/
abbrev CEntry := List Nat × Nat × List Nat
/-- fingerprint and type of a fresh answer -/
abbrev QEntry := List Nat × Nat

/-- what the monitor knows about session `u` (most recent first): the fresh answers since the cache was last
emptied, the ping fingerprints and the data fingerprints saved since the query memories were last emptied -/
structure Mon where
  cache : List CEntry
  ping : List QEntry
  data : List QEntry

def Mon.empty : Mon := ⟨[], [], []⟩

/-- the answer is the VACK that hands out slot `u` -/
def isVack (u : Nat) : Event → Bool
  | .ans _ _ _ _ _ data .ctrl => data.take 4 == ascii "VACK" && data.getD 8 0 == u % 256
  | _ => false

/-- the user id an `N` query names -/
def nUser (td : List Nat) (q : Query) : Int :=
  charVal ((Encoding.unpackData Codec.b32 65536
    ((q.name.take (min ((Common.queryDatalen q.name td).getD 0) 512)).drop 1)).getD 0 0)

/-- the answer is the two-byte acknowledgement of an `N` query naming slot `u` -/
def isNack (td : List Nat) (u : Nat) : Input → Event → Bool
  | .q q, .ans _ _ _ _ _ data .ctrl =>
    (q.name.getD 0 0 == 78 || q.name.getD 0 0 == 110) && data.length == 2 && nUser td q == (u : Int)
  | _, _ => false

def isChunk (u : Nat) : Event → Bool
  | .ans _ _ _ _ _ _ (.chunk v) => v == u
  | _ => false

def isPingName (n : List Nat) : Bool := n.getD 0 0 == 80 || n.getD 0 0 == 112

/-- the fingerprint `save_to_qmem_pingordata` stores for a ping name, if it stores one -/
def pingSaved (n : List Nat) : Option (List Nat) :=
  match n.idxOf? 46 with
  | none => none
  | some cp =>
    let cmc := Codec.dec Codec.b32 8 (cp - 1) (n.drop 1)
    if cmc.length < 4 then none else some (cmc.take 4)

def Mon.push (m : Mon) (n : List Nat) (t : Nat) (d : List Nat) : Mon :=
  { cache := (n, t, d) :: m.cache,
    ping := if isPingName n then (match pingSaved n with | some c => (c, t) :: m.ping | none => m.ping) else m.ping,
    data := if isPingName n then m.data else if n.length < 5 then m.data else (dataCmc n, t) :: m.data }

def monStep (td : List Nat) (u : Nat) (inp : Input) (m : Mon) (ev : Event) : Mon :=
  if isVack u ev then Mon.empty
  else if isNack td u inp ev then { m with cache := [] }
  else match ev with
    | .ans _ _ t _ n d (.chunk v) => if v = u then m.push n t d else m
    | _ => m

/-- the monitor at a fresh answer: it is no control answer, so neither of the two that empty a list -/
theorem monStep_chunk (td : List Nat) (u : Nat) (inp : Input) (m : Mon) (a : Addr) (i t dn : Nat) (n d : List Nat)
    (v : Nat) : monStep td u inp m (.ans a i t dn n d (.chunk v)) = if v = u then m.push n t d else m := by
  cases inp <;> rfl

def monEvents (td : List Nat) (u : Nat) (inp : Input) (m : Mon) (evs : List Event) : Mon :=
  evs.foldl (monStep td u inp) m

theorem monEvents_append (td : List Nat) (u : Nat) (inp : Input) (m : Mon) (a b : List Event) :
    monEvents td u inp m (a ++ b) = monEvents td u inp (monEvents td u inp m a) b := by
  simp [monEvents, List.foldl_append]

def CacheOk (x : Session) (l : List CEntry) : Prop :=
  x.dnscache.length = DNSCACHE_LEN ∧ x.dcLast < DNSCACHE_LEN ∧
  ∀ i, i < DNSCACHE_LEN → ∀ n t p, l[i]? = some (n, t, p) →
    (cacheAt x i).q.name = n ∧ (cacheAt x i).q.type = t ∧ (cacheAt x i).q.id ≠ 0 ∧
    (cacheAt x i).answerlen ≠ 0 ∧ (cacheAt x i).answer.take (cacheAt x i).answerlen = p

def QmemOk (mem : List QmemEntry) (last L : Nat) (l : List QEntry) : Prop :=
  mem.length = L ∧ last < L ∧
  ∀ i, i < L → ∀ c t, l[i]? = some (c, t) → mem.getD (ringPos L last i) QmemEntry.zero = ⟨c, t⟩

def Inv (m : Mon) (x : Session) : Prop :=
  CacheOk x m.cache ∧ QmemOk x.qmemping x.qmempingLast QMEMPING_LEN m.ping ∧
  QmemOk x.qmemdata x.qmemdataLast QMEMDATA_LEN m.data

/-- the part of a session the invariant reads -/
def memOf (x : Session) :=
  (x.dnscache, x.dcLast, x.qmemping, x.qmempingLast, x.qmemdata, x.qmemdataLast)

theorem Inv_congr {m : Mon} {x x' : Session} (h : memOf x' = memOf x) : Inv m x → Inv m x' := by
  simp only [memOf, Prod.mk.injEq] at h
  obtain ⟨h1, h2, h3, h4, h5, h6⟩ := h
  unfold Inv CacheOk cacheAt
  rw [h1, h2, h3, h4, h5, h6]
  exact id

/-- `m'` knows less than `m`: each list is the same or empty -/
def Mon.le (m' m : Mon) : Prop :=
  (m'.cache = m.cache ∨ m'.cache = []) ∧ (m'.ping = m.ping ∨ m'.ping = []) ∧ (m'.data = m.data ∨ m'.data = [])

theorem Mon.le_refl (m : Mon) : m.le m := ⟨Or.inl rfl, Or.inl rfl, Or.inl rfl⟩

theorem same_or_nil_trans {α : Type} {a b c : List α} (h1 : a = b ∨ a = []) (h2 : b = c ∨ b = []) : a = c ∨ a = [] := by
  rcases h1 with h1 | h1
  · rcases h2 with h2 | h2
    · exact Or.inl (h1.trans h2)
    · exact Or.inr (h1.trans h2)
  · exact Or.inr h1

theorem Mon.le_trans {a b c : Mon} (h1 : a.le b) (h2 : b.le c) : a.le c :=
  ⟨same_or_nil_trans h1.1 h2.1, same_or_nil_trans h1.2.1 h2.2.1, same_or_nil_trans h1.2.2 h2.2.2⟩

theorem cacheOk_nil {x : Session} (h1 : x.dnscache.length = DNSCACHE_LEN) (h2 : x.dcLast < DNSCACHE_LEN) : CacheOk x [] :=
  ⟨h1, h2, fun _ _ _ _ _ hh => nomatch hh⟩

theorem qmemOk_nil {mem : List QmemEntry} {last L : Nat} (h1 : mem.length = L) (h2 : last < L) : QmemOk mem last L [] :=
  ⟨h1, h2, fun _ _ _ _ hh => nomatch hh⟩

theorem Inv_le {m' m : Mon} {x : Session} (h : m'.le m) : Inv m x → Inv m' x := by
  obtain ⟨h1, h2, h3⟩ := h
  rintro ⟨a, b, c⟩
  refine ⟨?_, ?_, ?_⟩
  · rcases h1 with h1 | h1 <;> rw [h1]
    · exact a
    · exact cacheOk_nil a.1 a.2.1
  · rcases h2 with h2 | h2 <;> rw [h2]
    · exact b
    · exact qmemOk_nil b.1 b.2.1
  · rcases h3 with h3 | h3 <;> rw [h3]
    · exact c
    · exact qmemOk_nil c.1 c.2.1

/-- an event that is not a fresh answer of session `u` can only make the monitor forget -/
theorem monStep_calm (td : List Nat) (u : Nat) (inp : Input) (m : Mon) (ev : Event)
    (h : isChunk u ev = false) : (monStep td u inp m ev).le m := by
  unfold monStep
  split
  · exact ⟨Or.inr rfl, Or.inr rfl, Or.inr rfl⟩
  · split
    · exact ⟨Or.inr rfl, Or.inl rfl, Or.inl rfl⟩
    · split
      · rename_i v
        split
        · rename_i hv; subst hv; simp [isChunk] at h
        · exact Mon.le_refl m
      · exact Mon.le_refl m

theorem monEvents_calm (td : List Nat) (u : Nat) (inp : Input) (evs : List Event) :
    ∀ (m : Mon), (∀ e ∈ evs, isChunk u e = false) → (monEvents td u inp m evs).le m := by
  induction evs with
  | nil => intro m _; exact Mon.le_refl m
  | cons e rest ih =>
    intro m h
    have h1 := monStep_calm td u inp m e (h e (List.mem_cons_self))
    have h2 := ih (monStep td u inp m e) (fun e' he' => h e' (List.mem_cons_of_mem _ he'))
    exact Mon.le_trans h2 h1

/-- the invariant of slot `u` in state `s` -/
def K (u : Nat) (m : Mon) (s : Srv) : Prop := u < s.users.length ∧ Inv m (getUser s u)

def Same (u : Nat) (s s' : Srv) : Prop :=
  s'.users.length = s.users.length ∧ memOf (getUser s' u) = memOf (getUser s u)

theorem Same.refl (u : Nat) (s : Srv) : Same u s s := ⟨rfl, rfl⟩

theorem Same.trans {u : Nat} {a b c : Srv} (h1 : Same u a b) (h2 : Same u b c) : Same u a c :=
  ⟨h2.1.trans h1.1, h2.2.trans h1.2⟩

theorem K_same {u : Nat} {m : Mon} {s s' : Srv} (h : Same u s s') : K u m s → K u m s' := by
  rintro ⟨a, b⟩
  exact ⟨by rw [h.1]; exact a, Inv_congr h.2 b⟩

theorem K_le {u : Nat} {m m' : Mon} {s : Srv} (h : m'.le m) : K u m s → K u m' s :=
  fun ⟨a, b⟩ => ⟨a, Inv_le h b⟩

theorem same_setUser (u v : Nat) (s : Srv) (g : Session → Session) (hg : ∀ x, memOf (g x) = memOf x) :
    Same u s (setUser s v g) := by
  refine ⟨C04L.setUser_len s v g, ?_⟩
  rw [C04L.getUser_setUser]
  split
  · rename_i h; rw [h.1]; exact hg _
  · rfl

theorem same_setUser_ne (u v : Nat) (s : Srv) (g : Session → Session) (h : u ≠ v) :
    Same u s (setUser s v g) :=
  ⟨C04L.setUser_len s v g, by rw [C04L.getUser_setUser_ne s v g u h]⟩

theorem same_of_users {u : Nat} {s s' : Srv} (h : s'.users = s.users) : Same u s s' :=
  ⟨by rw [h], by unfold getUser; rw [h]⟩

theorem same_of_frame {er : Session → Session} {U : Nat → Prop} {u : Nat} {s s' : Srv}
    (her : ∀ x, memOf (er x) = memOf x) (h : C04L.Frame er U s s') : Same u s s' :=
  ⟨h.len, h.field memOf her u⟩

theorem same_out {U : Nat → Prop} {u : Nat} {s s' : Srv} (h : C04L.Frame C04L.erOut U s s') : Same u s s' :=
  same_of_frame (er := C04L.erOut) (fun _ => rfl) h

section
variable (td : List Nat) (u : Nat) (inp : Input)

/-- running a piece of the handler from `s` with result `r` keeps the table size, and keeps monitor and state
in step -/
def Keeps (s : Srv) (r : Res) : Prop :=
  r.1.users.length = s.users.length ∧ ∀ m, K u m s → K u (monEvents td u inp m r.2) r.1

variable {td u inp}

theorem step_refl (s : Srv) : Keeps td u inp s (s, []) := ⟨rfl, fun _ h => h⟩

theorem step_quiet {s : Srv} {r : Res} (h1 : Same u s r.1) (h2 : ∀ e ∈ r.2, isChunk u e = false) :
    Keeps td u inp s r := ⟨h1.1, fun m h => K_le (monEvents_calm td u inp r.2 m h2) (K_same h1 h)⟩

theorem step_one {s s' : Srv} {e : Event} (h : Same u s s') (he : isChunk u e = false) :
    Keeps td u inp s (s', [e]) :=
  step_quiet h (by intro e' h'; rw [List.mem_singleton.mp h']; exact he)

theorem step_none {s s' : Srv} (h : Same u s s') : Keeps td u inp s (s', []) :=
  step_quiet h (fun _ h' => nomatch h')

theorem step_seq {s : Srv} {r1 r2 : Res} (h1 : Keeps td u inp s r1) (h2 : Keeps td u inp r1.1 r2) :
    Keeps td u inp s (r2.1, r1.2 ++ r2.2) := by
  refine ⟨h2.1.trans h1.1, ?_⟩
  intro m h
  show K u (monEvents td u inp m (r1.2 ++ r2.2)) r2.1
  rw [monEvents_append]
  exact h2.2 _ (h1.2 m h)

theorem step_pre {s s' : Srv} {r : Res} (h1 : Same u s s') (h2 : Keeps td u inp s' r) : Keeps td u inp s r :=
  ⟨h2.1.trans h1.1, fun m h => h2.2 m (K_same h1 h)⟩

theorem step_post {s s' : Srv} {r : Res} (h1 : Keeps td u inp s r) (h2 : Same u r.1 s') :
    Keeps td u inp s (s', r.2) :=
  ⟨h2.1.trans h1.1, fun m h => K_same h2 (h1.2 m h)⟩

theorem step_eq {s : Srv} {r r' : Res} (h : Keeps td u inp s r) (e : r' = r) : Keeps td u inp s r' := e ▸ h

end

theorem same_saveQuery (u : Nat) (s : Srv) (v : Nat) (q : Query) : Same u s (saveQuery s v q) :=
  same_setUser u v s _ (fun _ => rfl)

theorem same_findAvailableUser (u : Nat) (s : Srv) : Same u s (findAvailableUser s).2 := by
  unfold findAvailableUser
  split
  · exact same_setUser u _ s _ (fun _ => rfl)
  · exact Same.refl u s

theorem same_popRand (u : Nat) (s : Srv) : Same u s (popRand s).2 := same_of_users (C04L.popRand_users s)

theorem calm_writeDns_ctrl (u : Nat) (q : Query) (d : List Nat) (dn : Nat) :
    isChunk u (writeDns q d dn) = false := rfl

theorem calm_writeDns_cached (u v : Nat) (q : Query) (d : List Nat) (dn : Nat) :
    isChunk u (writeDns q d dn (.cached v)) = false := rfl

theorem calm_writeDns_qmem (u v : Nat) (q : Query) (d : List Nat) (dn : Nat) :
    isChunk u (writeDns q d dn (.qmem v)) = false := rfl

theorem calm_writeDns_dupe (u v : Nat) (q : Query) (d : List Nat) (dn : Nat) :
    isChunk u (writeDns q d dn (.dupe v)) = false := rfl

theorem calm_sendRaw (u : Nat) (b : List Nat) (n a c : Nat) (q : Query) :
    isChunk u (sendRaw b n a c q) = false := rfl

theorem step_ctrl {td : List Nat} {u : Nat} {inp : Input} {s s' : Srv} (h : Same u s s') (q : Query)
    (d : List Nat) (dn : Nat) : Keeps td u inp s (s', [writeDns q d dn]) :=
  step_one h rfl

/-- the session after `save_to_dnscache` -/
def cachePut (x : Session) (qa : Query) (pkt : List Nat) : Session :=
  { x with dnscache := x.dnscache.set (ringFill DNSCACHE_LEN x.dcLast) ⟨qa, pkt, pkt.length⟩,
           dcLast := ringFill DNSCACHE_LEN x.dcLast }

theorem cacheAt_put_zero (x : Session) (qa : Query) (pkt : List Nat) (h1 : x.dnscache.length = DNSCACHE_LEN) :
    cacheAt (cachePut x qa pkt) 0 = ⟨qa, pkt, pkt.length⟩ := by
  unfold cacheAt cachePut
  exact ring_push_zero x.dnscache DNSCACHE_LEN x.dcLast h1 (by decide) _ _

theorem cacheAt_put_succ (x : Session) (qa : Query) (pkt : List Nat) (i : Nat) (h2 : x.dcLast < DNSCACHE_LEN)
    (hi : i + 1 < DNSCACHE_LEN) : cacheAt (cachePut x qa pkt) (i + 1) = cacheAt x i := by
  unfold cacheAt cachePut
  exact ring_push_succ x.dnscache DNSCACHE_LEN x.dcLast i h2 hi _ _

theorem cacheOk_save (x : Session) (l : List CEntry) (qa : Query) (pkt : List Nat) (h : CacheOk x l)
    (hid : qa.id ≠ 0) (hp : pkt ≠ []) : CacheOk (cachePut x qa pkt) ((qa.name, qa.type, pkt) :: l) := by
  obtain ⟨h1, h2, h3⟩ := h
  refine ⟨by simp [cachePut, h1], ringFill_lt _ _ (by decide), ?_⟩
  intro i hi n t p hl
  cases i with
  | zero =>
    simp only [List.getElem?_cons_zero, Option.some.injEq, Prod.mk.injEq] at hl
    obtain ⟨rfl, rfl, rfl⟩ := hl
    rw [cacheAt_put_zero x qa pkt h1]
    refine ⟨rfl, rfl, hid, ?_, ?_⟩
    · simp only [ne_eq, List.length_eq_zero_iff]; exact hp
    · simp
  | succ i =>
    simp only [List.getElem?_cons_succ] at hl
    rw [cacheAt_put_succ x qa pkt i h2 hi]
    exact h3 i (by omega) n t p hl

theorem qmemOk_save (mem : List QmemEntry) (last L : Nat) (l : List QEntry) (c : List Nat) (t : Nat)
    (hL : 0 < L) (h : QmemOk mem last L l) :
    QmemOk (saveToQmem mem last L c t).1 (saveToQmem mem last L c t).2 L ((c, t) :: l) := by
  obtain ⟨h1, h2, h3⟩ := h
  unfold saveToQmem
  show QmemOk (mem.set (ringFill L last) ⟨c, t⟩) (ringFill L last) L ((c, t) :: l)
  refine ⟨by simp [h1], ringFill_lt _ _ hL, ?_⟩
  intro i hi c' t' hl
  cases i with
  | zero =>
    simp only [List.getElem?_cons_zero, Option.some.injEq, Prod.mk.injEq] at hl
    obtain ⟨rfl, rfl⟩ := hl
    exact ring_push_zero mem L last h1 hL _ _
  | succ i =>
    simp only [List.getElem?_cons_succ] at hl
    rw [ring_push_succ mem L last i h2 hi]
    exact h3 i (by omega) c' t' hl

theorem K_qmemsave {u : Nat} {m : Mon} {s : Srv} (qa : Query) (pkt : List Nat) (h : K u m s) :
    K u { m with ping := (m.push qa.name qa.type pkt).ping, data := (m.push qa.name qa.type pkt).data }
      (saveToQmemPingOrData s u qa) := by
  obtain ⟨hb, hc, hpi, hda⟩ := h
  by_cases hpn : isPingName qa.name = true
  · have hc0 : qa.name.getD 0 0 = 80 ∨ qa.name.getD 0 0 = 112 := by
      simpa [isPingName] using hpn
    unfold saveToQmemPingOrData Mon.push pingSaved
    simp only [hpn, if_true]
    rw [if_pos hc0]
    cases hidx : qa.name.idxOf? 46 with
    | none => exact ⟨hb, hc, hpi, hda⟩
    | some cp =>
      simp only []
      by_cases hl : (Codec.dec Codec.b32 8 (cp - 1) (qa.name.drop 1)).length < 4
      · rw [if_pos hl, if_pos hl]; exact ⟨hb, hc, hpi, hda⟩
      · rw [if_neg hl, if_neg hl]
        refine ⟨by rw [C04L.setUser_len]; exact hb, ?_⟩
        rw [C04L.getUser_setUser_self _ _ _ hb]
        exact ⟨hc, qmemOk_save _ _ _ _ _ _ (by decide) hpi, hda⟩
  · have hc0 : ¬ (qa.name.getD 0 0 = 80 ∨ qa.name.getD 0 0 = 112) := by
      simpa [isPingName] using hpn
    unfold saveToQmemPingOrData Mon.push
    simp only [hpn, Bool.false_eq_true, if_false]
    rw [if_neg hc0]
    by_cases hl : qa.name.length < 5
    · rw [if_pos hl, if_pos hl]; exact ⟨hb, hc, hpi, hda⟩
    · rw [if_neg hl, if_neg hl]
      refine ⟨by rw [C04L.setUser_len]; exact hb, ?_⟩
      rw [C04L.getUser_setUser_self _ _ _ hb]
      exact ⟨hc, hpi, qmemOk_save _ _ _ _ _ _ (by decide) hda⟩

/-- the two saves of `send_chunk_or_dataless` in slot `u` -/
theorem K_saves {u : Nat} {m : Mon} {s : Srv} (qa : Query) (pkt : List Nat) (h : K u m s)
    (hid : qa.id ≠ 0) (hp : pkt ≠ []) (hlen : pkt.length ≤ DNSCACHE_ANSWER_SIZE) :
    K u (m.push qa.name qa.type pkt) (saveToDnscache (saveToQmemPingOrData s u qa) u qa pkt) := by
  obtain ⟨hb1, hc1, hp1, hd1⟩ := K_qmemsave qa pkt h
  generalize saveToQmemPingOrData s u qa = s1 at *
  unfold saveToDnscache
  rw [if_neg (by omega)]
  refine ⟨by rw [C04L.setUser_len]; exact hb1, ?_⟩
  rw [C04L.getUser_setUser_self _ _ _ hb1]
  exact ⟨cacheOk_save _ _ qa pkt hc1 hid hp, hp1, hd1⟩

theorem scPkt_ne_nil (x : Session) (n : Nat) : scPkt x n ≠ [] := by
  unfold scPkt; simp

theorem scPkt_length (x : Session) : (scPkt x (scDatalen x)).length ≤ DNSCACHE_ANSWER_SIZE := by
  have := (scDatalen_le x).2
  unfold scPkt
  simp only [List.length_append, List.length_cons, List.length_nil, List.length_take, DNSCACHE_ANSWER_SIZE]
  omega

theorem scAnswer_type (q : Query) (pkt : List Nat) (dn u : Nat) : (scAnswer q pkt dn u).1.type = q.type := by
  unfold scAnswer; split <;> simp

theorem scAnswer_id (q : Query) (pkt : List Nat) (dn u : Nat) (h : q.id ≠ 0) : (scAnswer q pkt dn u).1.id ≠ 0 := by
  unfold scAnswer; split
  · rename_i h2; exact h2
  · exact h

theorem monEvents_scAnswer (td : List Nat) (u : Nat) (inp : Input) (m : Mon) (q : Query) (pkt : List Nat)
    (dn : Nat) : monEvents td u inp m (scAnswer q pkt dn u).2 = m.push q.name q.type pkt := by
  unfold scAnswer
  split
  · simp [monEvents, monStep, writeDns, isVack, isNack]
  · simp [monEvents, monStep, writeDns, isVack, isNack]

theorem calm_scAnswer (u v : Nat) (h : u ≠ v) (q : Query) (pkt : List Nat) (dn : Nat) :
    ∀ e ∈ (scAnswer q pkt dn v).2, isChunk u e = false := by
  have hv : (v == u) = false := by simp; exact fun e => h e.symm
  unfold scAnswer
  split
  · intro e he
    simp only [List.mem_cons, List.not_mem_nil, or_false] at he
    rcases he with rfl | rfl
    · exact hv
    · rfl
  · intro e he
    simp only [List.mem_cons, List.not_mem_nil, or_false] at he
    subst he
    exact hv

theorem same_scTail (u v : Nat) (s : Srv) (w : QSel) (qa : Query) :
    Same u s (setUser s v fun y => w.set y qa) := by
  refine same_setUser u v s _ ?_
  intro x; cases w <;> rfl

theorem wget_scPrepare_scDropResent (s : Srv) (v : Nat) (w : QSel) :
    w.get (getUser (scPrepare (scDropResent s v) v) v) = w.get (getUser s v) := by
  have h := (C04L.frame_sc_prep s v).rel v
  cases w
  · exact C04L.erOut_q h
  · exact C04L.erOut_qs h

/-- the middle of `send_chunk_or_dataless`: build the packet, answer, save -/
def scSaves (s1 : Srv) (v : Nat) (w : QSel) : Res :=
  let x := getUser s1 v
  let pkt := scPkt x (scDatalen x)
  let a := scAnswer (w.get x) pkt x.downenc v
  (saveToDnscache (saveToQmemPingOrData s1 v a.1) v a.1 pkt, a.2)

/-- the end of `send_chunk_or_dataless`: mark the query answered, move on to the next packet -/
def scFinish (s3 : Srv) (v : Nat) (w : QSel) (qa : Query) (c : Bool) : Srv :=
  if c then (getFromOutpacketq (setUser (setUser s3 v fun y => w.set y qa) v dropOut) v).1
  else setUser s3 v fun y => w.set y qa

theorem scFinish_true (s3 : Srv) (v : Nat) (w : QSel) (qa : Query) :
    scFinish s3 v w qa true = (getFromOutpacketq (setUser (setUser s3 v fun y => w.set y qa) v dropOut) v).1 := rfl

theorem scFinish_false (s3 : Srv) (v : Nat) (w : QSel) (qa : Query) :
    scFinish s3 v w qa false = setUser s3 v fun y => w.set y qa := rfl

def scQa (s1 : Srv) (v : Nat) (w : QSel) : Query :=
  let x := getUser s1 v
  { (scAnswer (w.get x) (scPkt x (scDatalen x)) x.downenc v).1 with id := 0 }

def scCond (s1 : Srv) (v : Nat) : Bool :=
  let x := getUser s1 v
  decide (scDatalen x > 0 ∧ scDatalen x = x.outpacket.len)

theorem sendChunk_eq (s : Srv) (v : Nat) (w : QSel) :
    (sendChunkOrDataless s v w).1 =
      (scFinish (scSaves (scPrepare (scDropResent s v) v) v w).1 v w
          (scQa (scPrepare (scDropResent s v) v) v w) (scCond (scPrepare (scDropResent s v) v) v),
       (scSaves (scPrepare (scDropResent s v) v) v w).2) := by
  unfold sendChunkOrDataless scSaves scQa scCond
  simp only []
  split
  · rename_i h
    rw [decide_eq_true h, scFinish_true]
  · rename_i h
    rw [decide_eq_false h, scFinish_false]

theorem same_scFinish (u : Nat) (s3 : Srv) (v : Nat) (w : QSel) (qa : Query) (c : Bool) :
    Same u s3 (scFinish s3 v w qa c) := by
  unfold scFinish
  split
  · refine Same.trans ?_ (same_out (C04L.frame_getFromOutpacketq _ v))
    refine Same.trans ?_ (same_setUser u v _ _ (fun _ => rfl))
    exact same_scTail u v s3 w qa
  · exact same_scTail u v s3 w qa

theorem step_scSaves {td : List Nat} {u : Nat} {inp : Input} (s1 : Srv) (v : Nat) (w : QSel)
    (hid : v = u → (w.get (getUser s1 v)).id ≠ 0) : Keeps td u inp s1 (scSaves s1 v w) := by
  -- the two saves write slot `v` only
  have fr : ∀ qa pkt, C04L.Frame C04L.erMem (· = v) s1 (saveToDnscache (saveToQmemPingOrData s1 v qa) v qa pkt) :=
    fun _ _ => (C04L.frame_saveToQmemPingOrData s1 v _).trans (C04L.frame_saveToDnscache _ v _ _)
  unfold scSaves
  simp only []
  by_cases hv : v = u
  · subst hv
    have hid' := hid rfl
    generalize getUser s1 v = x at hid' ⊢
    refine ⟨(fr _ _).len, ?_⟩
    intro m hk
    show K v (monEvents td v inp m (scAnswer _ _ _ v).2) _
    rw [monEvents_scAnswer]
    have := K_saves (scAnswer (w.get x) (scPkt x (scDatalen x)) x.downenc v).1 (scPkt x (scDatalen x))
      hk (scAnswer_id _ _ _ _ hid') (scPkt_ne_nil _ _) (scPkt_length x)
    rw [scAnswer_name, scAnswer_type] at this
    exact this
  · have hne : u ≠ v := fun e => hv e.symm
    exact step_quiet ⟨(fr _ _).len, congrArg memOf ((fr _ _).other u hne)⟩ (calm_scAnswer u v hne _ _ _)

/-- `send_chunk_or_dataless(…, v, &users[v].<w>)`; when it is slot `u`'s own, the query it answers must be a
held one (`id ≠ 0`) — true at every call site -/
theorem step_sendChunk {td : List Nat} {u : Nat} {inp : Input} (s : Srv) (v : Nat) (w : QSel)
    (hid : v = u → (w.get (getUser s v)).id ≠ 0) :
    Keeps td u inp s (sendChunkOrDataless s v w).1 := by
  rw [sendChunk_eq s v w]
  have hs1 : Same u s (scPrepare (scDropResent s v) v) :=
    Same.trans (same_out (C04L.frame_scDropResent s v)) (same_out (C04L.frame_scPrepare _ v))
  have hid1 : v = u → (w.get (getUser (scPrepare (scDropResent s v) v) v)).id ≠ 0 := by
    intro h; rw [wget_scPrepare_scDropResent]; exact hid h
  exact step_post (step_pre hs1 (step_scSaves _ v w hid1)) (same_scFinish u _ v w _ _)

variable {td : List Nat} {u : Nat} {inp : Input}

theorem isVack_ack (s : Srv) (seed a : Nat) (q : Query) :
    isVack a (sendVersionResponse s .ack seed a q) = true := by
  simp [sendVersionResponse, writeDns, isVack, ascii_VACK, beBytes]

theorem monEvents_vack (td : List Nat) (u : Nat) (inp : Input) (m : Mon) (e : Event) (h : isVack u e = true) :
    monEvents td u inp m [e] = Mon.empty := by
  simp [monEvents, monStep, h]

theorem inv_reset {m : Mon} {x : Session} (h : Inv m x) : Inv Mon.empty (resetSession x) := by
  obtain ⟨⟨a1, _⟩, ⟨b1, _⟩, ⟨c1, _⟩⟩ := h
  exact ⟨cacheOk_nil (by simp [resetSession, clearDnscache, a1]) (by simp [resetSession, DNSCACHE_LEN]),
    qmemOk_nil (by simp [resetSession, b1]) (by simp [resetSession, QMEMPING_LEN]),
    qmemOk_nil (by simp [resetSession, c1]) (by simp [resetSession, QMEMDATA_LEN])⟩

theorem inv_clear {m : Mon} {x : Session} (f : Nat) (h : Inv m x) :
    Inv { m with cache := [] }
      { x with fragsize := f, optionsLocked := true, dnscache := clearDnscache x.dnscache } := by
  obtain ⟨⟨a1, a2, _⟩, hb, hc⟩ := h
  exact ⟨cacheOk_nil (by simp [clearDnscache, a1]) a2, hb, hc⟩

theorem keeps_version (s : Srv) (q : Query) (a : Nat) : Keeps td u inp s (versionRes s q a) := by
  show Keeps td u inp s (versionState s q a, [sendVersionResponse (versionPre s q a) .ack _ a q])
  have hpre : ∀ v, Same v s (versionPre s q a) := fun v =>
    ((same_setUser v a s (claim s.now) (fun _ => rfl)).trans (same_popRand v _)).trans
      (by unfold versionPre; exact same_setUser v a _ _ (fun _ => rfl))
  by_cases ha : a = u
  · subst ha
    refine ⟨(C04L.setUser_len _ _ _).trans (hpre a).1, fun m hk => ?_⟩
    show K a (monEvents td a inp m [_]) _
    rw [monEvents_vack td a inp m _ (isVack_ack _ _ a q)]
    obtain ⟨hb, hi⟩ := K_same (hpre a) hk
    exact ⟨by rw [versionState, C04L.setUser_len]; exact hb,
      by rw [versionState, C04L.getUser_setUser_self _ _ _ hb]; exact inv_reset hi⟩
  · exact step_one ((hpre u).trans (same_setUser_ne u a _ _ (fun e => ha e.symm))) rfl

theorem keeps_fragsize (s : Srv) (q : Query) (dlen f : Nat) (htd : s.cfg.topdomain = td) (ha : AcceptedN s q dlen f) :
    Keeps td u (.q q) s (fragsizeRes s q dlen f) := by
  obtain ⟨hd, hc, hlen, hchk, _, _⟩ := ha
  rw [htd] at hd
  simp only [fragsizeRes, pingUid, pingUnpacked, C04L.inbOf] at hlen hchk ⊢
  generalize hun : Encoding.unpackData Codec.b32 65536 ((q.name.take (min dlen 512)).drop 1) = unpacked
    at hlen hchk ⊢
  by_cases hv : (charVal (unpacked.getD 0 0)).toNat = u
  · -- the `N` query names slot `u`: the answer is the two-byte acknowledgement, and the cache is emptied
    have hnn : 0 ≤ charVal (unpacked.getD 0 0) :=
      (C04L.checkUserAndIp_false _ _ _ (C04L.checkAuth_false _ _ _ (C04L.checkAuthOpt_false _ _ _ hchk)).1).1
    have hnu : nUser td q = (u : Int) := by
      unfold nUser
      rw [hd, Option.getD_some, hun]
      omega
    rw [hv]
    refine ⟨C04L.setUser_len _ _ _, fun m hk => ?_⟩
    have hk' : K u { m with cache := [] } (setUser s u fun x =>
        { x with fragsize := f, optionsLocked := true, dnscache := clearDnscache x.dnscache }) := by
      obtain ⟨hb, hi⟩ := hk
      exact ⟨by rw [C04L.setUser_len]; exact hb, by rw [C04L.getUser_setUser_self _ _ _ hb]; exact inv_clear _ hi⟩
    show K u (monEvents td u (.q q) m [_]) _
    have hnack : isNack td u (.q q) (writeDns q ((unpacked.drop 1).take 2) (getUser s u).downenc) = true := by
      have hl : ((unpacked.drop 1).take 2).length = 2 := by
        simp only [List.length_take, List.length_drop]; omega
      simp only [isNack, writeDns, hl, hnu, beq_self_eq_true, Bool.and_true, Bool.or_eq_true, beq_iff_eq]
      exact hc
    by_cases hva : isVack u (writeDns q ((unpacked.drop 1).take 2) (getUser s u).downenc) = true
    · rw [monEvents_vack td u _ m _ hva]
      exact K_le ⟨Or.inr rfl, Or.inr rfl, Or.inr rfl⟩ hk'
    · have : monEvents td u (.q q) m [writeDns q ((unpacked.drop 1).take 2) (getUser s u).downenc]
          = { m with cache := [] } := by
        simp only [monEvents, List.foldl, monStep]
        rw [if_neg hva, if_pos hnack]
      rw [this]
      exact hk'
  · exact step_one (same_setUser_ne u _ s _ (fun e => hv e.symm)) rfl

theorem memOf_ctl {s : Srv} {v : Nat} {f : Session → Session} (h : Ctl s v f) (x : Session) : memOf (f x) = memOf x := by
  cases h <;> rfl

/-- **monitor and state stay in step through every step of the session machine** -/
theorem keeps_closed (td : List Nat) (u : Nat) (inp : Input) :
    Closed inp every fun s r => s.cfg.topdomain = td → Keeps td u inp s r where
  nil s _ := step_refl s
  seq hr h1 h2 htd := step_seq (h1 htd) (h2 (by rw [hr.cfg]; exact htd))
  prim {s r} hp htd := by
    cases hp with
    | ctrl q d dn => exact step_one (Same.refl u s) rfl
    | cached v q e _ he =>
      obtain ⟨_, _, _, rfl⟩ := answerFromDnscache_some he
      exact step_one (Same.refl u s) rfl
    | seen v q => exact step_one (Same.refl u s) rfl
    | nsa q => exact step_one (Same.refl u s) rfl
    | sweep => exact step_one (Same.refl u s) rfl
    | tunskip => exact step_one (Same.refl u s) rfl
    | raw b n v c q => exact step_one (Same.refl u s) rfl
    | rly a b => exact step_one (Same.refl u s) rfl
    | tunw v out => exact step_one (Same.refl u s) rfl
    | send v w h => exact step_sendChunk s v w fun _ => h
    | ctl v f hc => exact step_none (same_setUser u v s f (memOf_ctl hc))
    | dup v w q => exact step_none (same_setUser u v s _ fun x => by cases w <;> rfl)
    | save v q => exact step_none (same_saveQuery u s v q)
    | rawLogin v src => exact step_none (same_setUser u v s _ fun _ => rfl)
    | rawPing v src => exact step_none (same_setUser u v s _ fun _ => rfl)
    | outpkt v s' ho => exact step_none (same_out ho.frame)
    | rand => exact step_none (same_popRand u s)
    | fwd q => exact step_one (same_of_users rfl) rfl
    | version q a => exact keeps_version s q a
    | fragsize q dlen f _ hq ha => subst hq; exact keeps_fragsize s q dlen f htd ha
    | upIn v a b pl => exact step_none (same_of_frame (er := C04L.erIn) (fun _ => rfl) (frame_upIn s v a b pl))
    | resetIn v => exact step_none (same_setUser u v s _ fun _ => rfl)
    | rawIn v src bytes => exact step_none (same_setUser u v s _ fun _ => rfl)

end Iodine.C16L
