import IodineModel.Lemmas.C05Sa
import IodineModel.Lemmas.C05Sb
import IodineModel.Lemmas.C05Sn
import IodineModel.Lemmas.SrvC15g
/-
The invariant of the server PROCESS (for C05, whole sessions) under ARBITRARY byte-valued inputs, and
what one byte-level iteration guarantees from it:

* `BytesL.ProcInv` (Lemmas/C05Sn) at "the name fits `name[256]`": the static counters of `write_dns_nameenc` stay in range, every
  held query has such a name (from the multiset balance of C14), every slot stores bytes within its arrays (Lemmas/BytesF–H)
  — WITHOUT any legality hypothesis on the question names (what `dns_decode` extracts from bytes are at most 253 bytes);
* the packet bookkeeping invariant of C15 (`SessW`);
* `created_users = usercount ≤ 16`;
* every encoder call made for an event of the iteration is no fault (Lemmas/C05Sa).
-/
namespace Iodine.C05L
open Iodine Iodine.Server Iodine.Gen Iodine.C10 Iodine.Wire.Put Iodine.Wire.DnsEncode Iodine.Downstream

/-! ### the encoder calls behind the events -/

/-- the encoder `handle_ns_request` / `handle_a_request` run for `q` (mirror of `Server.nsaBytes` without the `sendto`) -/
def nsaCall (cfg : Config) (q : Query) : Option (R (List Nat)) :=
  match Common.queryDatalen q.name cfg.topdomain with
  | none => none
  | some dlen =>
    let n (i : Nat) := q.name.getD i 0
    if dlen = 3 ∧ q.type = Gen.T_A ∧ (n 0 = 110 ∨ n 0 = 78) ∧ (n 1 = 115 ∨ n 1 = 83) ∧ n 2 = 46 then
      some (dnsEncodeAResponse 65536 q.id q.type q.name (nsDest cfg q))
    else if dlen = 4 ∧ q.type = Gen.T_A ∧ (n 0 = 119 ∨ n 0 = 87) ∧ (n 1 = 119 ∨ n 1 = 87)
              ∧ (n 2 = 119 ∨ n 2 = 87) ∧ n 3 = 46 then
      some (dnsEncodeAResponse 65536 q.id q.type q.name (some [127, 0, 0, 1]))
    else if q.type = Gen.T_NS then some (dnsEncodeNsResponse 65536 q.id q.type q.name (q.name.drop dlen) (nsDest cfg q))
    else none

theorem nsaBytes_eq (cfg : Config) (q : Query) : nsaBytes cfg q = (nsaCall cfg q).bind sent := by
  unfold nsaBytes nsaCall
  cases Common.queryDatalen q.name cfg.topdomain with
  | none => rfl
  | some dlen =>
    simp only []
    by_cases h1 : dlen = 3 ∧ q.type = Gen.T_A ∧ (q.name.getD 0 0 = 110 ∨ q.name.getD 0 0 = 78) ∧
        (q.name.getD 1 0 = 115 ∨ q.name.getD 1 0 = 83) ∧ q.name.getD 2 0 = 46
    · rw [if_pos h1, if_pos h1]; rfl
    · rw [if_neg h1, if_neg h1]
      by_cases h2 : dlen = 4 ∧ q.type = Gen.T_A ∧ (q.name.getD 0 0 = 119 ∨ q.name.getD 0 0 = 87) ∧
          (q.name.getD 1 0 = 119 ∨ q.name.getD 1 0 = 87) ∧ (q.name.getD 2 0 = 119 ∨ q.name.getD 2 0 = 87) ∧
          q.name.getD 3 0 = 46
      · rw [if_pos h2, if_pos h2]; rfl
      · rw [if_neg h2, if_neg h2]
        by_cases h3 : q.type = Gen.T_NS
        · rw [if_pos h3, if_pos h3]; rfl
        · rw [if_neg h3, if_neg h3]; rfl

/-- the encoder call behind one event and the static counters after it -/
def encCall (cfg : Config) (q? : Option Query) (td : WriteDns.Td) : Event → WriteDns.Td × Option (R (List Nat))
  | .ans _ id ty dn name data _ => ((WriteDns.writeDnsR td id ty name data dn).1, some (WriteDns.writeDnsR td id ty name data dn).2)
  | .fwd _ => (td, q?.map fun q => dnsEncodeQuery 65536 q.id q.type true q.name)
  | .nsa _ => (td, q?.bind (nsaCall cfg))
  | _ => (td, none)

/-- all encoder calls for the events of an iteration, in order, the counters threaded through -/
def encCalls (cfg : Config) (q? : Option Query) : WriteDns.Td → List Event → List (R (List Nat))
  | _, [] => []
  | td, e :: rest =>
    match (encCall cfg q? td e).2 with
    | some r => r :: encCalls cfg q? (encCall cfg q? td e).1 rest
    | none => encCalls cfg q? (encCall cfg q? td e).1 rest

/-- the datagrams a call result stands for -/
def sentAs (mk : List Nat → BEvent) (r : Option (R (List Nat))) : List BEvent :=
  match r.bind sent with
  | some pkt => [mk pkt]
  | none => []

/-- `encodeEvent` IS the encoder call followed by `sendto` when the encoder returned `len ≥ 1` -/
theorem encodeEvent_eq (cfg : Config) (q? : Option Query) (td : WriteDns.Td) (e : Event) :
    encodeEvent cfg q? td e =
      ((encCall cfg q? td e).1,
        match e with
        | .ans dst _ _ _ _ _ _ => sentAs (BEvent.tx dst) (encCall cfg q? td e).2
        | .fwd dst => sentAs (BEvent.fwd dst) (encCall cfg q? td e).2
        | .nsa dst => sentAs (BEvent.nsa dst) (encCall cfg q? td e).2
        | .raw dst b => [BEvent.raw dst b]
        | .tunw f => [BEvent.tunw f]
        | .rly dst b => [BEvent.rly dst b]
        | .sweep => []
        | .tunskip => []) := by
  cases e with
  | ans dst id ty dn name data tag =>
    simp only [encodeEvent, encCall, sentAs, WriteDns.writeDns, Option.bind_some]
    generalize WriteDns.writeDnsR td id ty name data dn = r
    obtain ⟨td', x⟩ := r
    cases x with
    | ok pkt =>
      simp only [sent]
      by_cases hl : pkt.length < 1
      · simp only [if_pos hl]
      · simp only [if_neg hl]
    | ret rv => simp [sent]
    | fault f => simp [sent]
  | fwd dst =>
    simp only [encodeEvent, encCall, sentAs]
    cases q? with
    | none => rfl
    | some q => rfl
  | nsa dst =>
    simp only [encodeEvent, encCall, sentAs]
    cases q? with
    | none => rfl
    | some q => simp only [Option.bind_some, nsaBytes_eq]; rfl
  | raw dst b => rfl
  | tunw f => rfl
  | rly dst b => rfl
  | sweep => rfl
  | tunskip => rfl

/-! ### no encoder call faults -/

theorem nsaCall_nf (cfg : Config) (q : Query) (hq : q.name.length ≤ 255) : ∀ r, nsaCall cfg q = some r → NoFault r := by
  intro r hr
  unfold nsaCall at hr
  split at hr
  · cases hr
  · extract_lets n at hr
    split at hr
    · cases hr; exact dnsEncodeAResponse_nf _ _ _ _ hq
    · split at hr
      · cases hr; exact dnsEncodeAResponse_nf _ _ _ _ hq
      · split at hr
        · cases hr; exact dnsEncodeNsResponse_nf _ _ _ _ _ hq
        · cases hr

/-- what an `ans` event must satisfy for `write_dns` to be safe -/
def AnsFits (evs : List Event) : Prop :=
  ∀ dst id ty dn name data tag, Event.ans dst id ty dn name data tag ∈ evs →
    name.length ≤ 255 ∧ IsBytes data ∧ 1 ≤ data.length ∧ data.length ≤ 4096

theorem encCalls_nf (cfg : Config) (q? : Option Query) (hq : ∀ q, q? = some q → q.name.length ≤ 255) :
    ∀ (evs : List Event) (td : WriteDns.Td), TdOk td → AnsFits evs → ∀ r ∈ encCalls cfg q? td evs, NoFault r
  | [], _, _, _, r, hr => by simp [encCalls] at hr
  | e :: rest, td, htd, hfit, r, hr => by
    have htd' : TdOk (encCall cfg q? td e).1 := by
      have := BytesL.encodeEvent_tdOk cfg q? htd e
      rwa [encodeEvent_eq] at this
    have hrest : AnsFits rest := fun dst id ty dn name data tag h => hfit dst id ty dn name data tag (List.mem_cons_of_mem _ h)
    have ih := encCalls_nf cfg q? hq rest (encCall cfg q? td e).1 htd' hrest
    unfold encCalls at hr
    split at hr
    · rename_i r0 hr0
      simp only [List.mem_cons] at hr
      rcases hr with rfl | hr
      · cases e with
        | ans dst id ty dn name data tag =>
          simp only [encCall, Option.some.injEq] at hr0
          subst hr0
          obtain ⟨h1, h2, h3, h4⟩ := hfit dst id ty dn name data tag List.mem_cons_self
          exact writeDnsR_nf td htd id ty name data dn h1 h2 h3 h4
        | fwd dst =>
          simp only [encCall] at hr0
          cases q? with
          | none => simp at hr0
          | some q =>
            simp only [Option.map_some, Option.some.injEq] at hr0
            subst hr0
            exact dnsEncodeQuery_nf _ _ _ _ (hq q rfl)
        | nsa dst =>
          simp only [encCall] at hr0
          cases q? with
          | none => simp at hr0
          | some q =>
            simp only [Option.bind_some] at hr0
            exact nsaCall_nf cfg q (hq q rfl) _ hr0
        | raw _ _ => simp [encCall] at hr0
        | tunw _ => simp [encCall] at hr0
        | rly _ _ => simp [encCall] at hr0
        | sweep => simp [encCall] at hr0
        | tunskip => simp [encCall] at hr0
      · exact ih r hr
    · exact ih r hr

/-! ### the invariant of the process -/

/-- a held query's name fits `name[256]` -/
def NameFits (k : C14L.Key) : Prop := k.2.2.1.length ≤ 255

structure RunInv (b : BSrv) : Prop extends BytesL.ProcInv NameFits b where
  c15 : C15L.Inv b.srv
  sessw : ∃ m, C15L.G C15L.W0 m b.srv
  cnt : b.srv.cfg.createdUsers = b.srv.users.length ∧ b.srv.users.length ≤ 16

theorem runInv_start (cfg : Config) (hc : BytesL.CfgBound cfg) (rnd : List Nat) : RunInv (bstart cfg rnd) where
  toProcInv := BytesL.procInv_start _ cfg hc rnd
  c15 := C15L.inv_start cfg rnd
  sessw := ⟨_, C15L.g_start cfg rnd⟩
  cnt := ⟨rfl, C15L.start_length cfg rnd⟩

/-- **one byte-level iteration on ANY byte-valued input**: the invariant is kept, every `write_dns` of the iteration has a name
that fits and a payload of 1..4096 bytes, the events fit the local buffers they are sent from, and no encoder call faults -/
theorem runInv_step {b : BSrv} (hb : RunInv b) (inp : BInput) (hby : BytesL.ByteInput inp) (now' : Nat) :
    RunInv (biteration b inp now').1 ∧
    AnsFits (out b.srv ⟨toInput b.srv inp, now'⟩) ∧
    EvOK (out b.srv ⟨toInput b.srv inp, now'⟩) ∧
    ∀ r ∈ encCalls b.srv.cfg (queryOf (toInput b.srv inp)) b.td (out b.srv ⟨toInput b.srv inp, now'⟩), NoFault r := by
  have hq : ∀ q, toInput b.srv inp = .q q → q.name.length ≤ 255 := fun q h => by
    have := toInput_q_bytes hby h; omega
  obtain ⟨hp, hk, hd, hs⟩ := BytesL.procInv_step hb.toProcInv inp hby now' fun q h _ _ => hq q h
  have hcfg : (biteration b inp now').1.srv.cfg = b.srv.cfg := C04L.iteration_cfg b.srv (toInput b.srv inp) now'
  have hlen : (biteration b inp now').1.srv.users.length = b.srv.users.length :=
    (C04L.next_base b.srv ⟨toInput b.srv inp, now'⟩).2.2
  obtain ⟨m, hG⟩ := hb.sessw
  obtain ⟨m1, _, hG1, _⟩ := C15L.sim_iteration b.srv (toInput b.srv inp) now' (by have := hb.cnt.2; omega) m hG
  have hfit : AnsFits (out b.srv ⟨toInput b.srv inp, now'⟩) := by
    intro dst id ty dn name data tag he
    obtain ⟨h2, h3, h4⟩ := hd dst id ty dn name data tag he
    refine ⟨hk dst id ty dn name data tag he, h2, ?_, h4⟩
    rcases h3 with h3 | h3
    · omega
    · rw [h3]; decide
  refine ⟨⟨hp, (C15L.iteration_spec b.srv _ now' hb.c15).1, ⟨m1, hG1⟩, by rw [hcfg, hlen]; exact hb.cnt⟩, hfit, hs, ?_⟩
  apply encCalls_nf _ _ _ _ _ hb.td hfit
  intro q hq'
  exact hq q (BytesL.queryOf_eq_some hq')

theorem RunInv.sessW {b : BSrv} (h : RunInv b) (u : Nat) : C15L.SessW (getUser b.srv u) := by
  obtain ⟨m, hG⟩ := h.sessw
  exact (hG u).wf

theorem RunInv.slotOK {b : BSrv} (h : RunInv b) (u : Nat) : BytesL.SlotOK (getUser b.srv u) := BytesL.slotOK_getUser h.slots u

end Iodine.C05L
