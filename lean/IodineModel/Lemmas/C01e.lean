import IodineModel.Lemmas.C01b
import IodineModel.Lemmas.C01d
/-
C01: the server's reassembly machine `sxStep` fed with the fragments of one image in order,
duplicates in between.
-/
namespace Iodine.C01L
open Iodine Iodine.Server Iodine.Gen

/-- the state of `inpacket` after `k` fragments of the image have been taken -/
def SxInv (s : Nat) (fs : List (List Nat)) (k : Nat) (p : Packet) : Prop :=
  if k = 0 then p.seqno ≠ (s : Int) ∧ recentSeqno p.seqno (s : Int) = false
  else p.seqno = (s : Int) ∧ p.fragment = ((k - 1 : Nat) : Int) ∧
    (if k < fs.length then p.len = (pre fs k).length ∧ p.offset = (pre fs k).length ∧ p.data.take p.offset = pre fs k
     else p.len = 0 ∧ p.offset = 0)

/-- a header the sequence bookkeeping refuses: the current seqno with a fragment number not above the current one, or
one of the three seqnos before the current one -/
def OldUp (p : Packet) (a b : Nat) : Prop :=
  ((a : Int) = p.seqno ∧ (b : Int) ≤ p.fragment) ∨ ((a : Int) ≠ p.seqno ∧ recentSeqno p.seqno a = true)

theorem sxUp_old {p : Packet} {a b : Nat} (h : OldUp p a b) : sxUp p a b = (p, false) := by
  unfold sxUp
  rcases h with h | h
  · rw [if_pos h]
  · rw [if_neg (fun h' => h.1 h'.1), if_pos ⟨h.1, h.2⟩]

theorem sxStep_old {p : Packet} {a b : Nat} (h : OldUp p a b) (last : Bool) (unp : List Nat) :
    sxStep p a b last unp = (p, none) := by
  unfold sxStep sxTake
  rw [sxUp_old h]
  simp

theorem sxTake_next {s : Nat} {fs : List (List Nat)} (hc : Cut s fs) {k : Nat} {p : Packet}
    (hk : k < fs.length) (hinv : SxInv s fs k p) :
    (sxUp p s k).2 = true ∧
    sxTake p s k (fs.getD k []) =
      { p with seqno := (s : Int), fragment := (k : Int), data := pre fs (k + 1), len := (pre fs (k + 1)).length,
               offset := (pre fs (k + 1)).length } := by
  have hsz := hc.size
  have hpl := pre_length_le fs (k + 1)
  rw [pre_succ fs k hk, List.length_append] at hpl
  unfold SxInv at hinv
  by_cases hk0 : k = 0
  · subst hk0
    simp only [if_true] at hinv
    obtain ⟨hne, hnr⟩ := hinv
    have hup : sxUp p s 0 = ({ p with seqno := (s : Int), fragment := ((0 : Nat) : Int), len := 0, offset := 0 }, true) := by
      unfold sxUp
      rw [if_neg (fun h => hne h.1.symm), if_neg (by rw [hnr]; simp), if_pos (Ne.symm hne)]
    refine ⟨by rw [hup], ?_⟩
    unfold sxTake
    rw [hup]
    simp only [if_true]
    unfold sxStore
    have h1 := pre_succ fs 0 hk
    simp only [pre, List.take_zero, List.flatten_nil, List.nil_append, List.length_nil, Nat.zero_add] at h1 hpl
    simp only [List.take_zero, List.nil_append, Nat.sub_zero, Nat.zero_add]
    rw [List.take_of_length_le (by omega)]
    unfold pre; rw [h1]
  · simp only [hk0, if_false, hk, if_true] at hinv
    obtain ⟨hseq, hfrag, hlen, hoff, hdata⟩ := hinv
    have hup : sxUp p s k = ({ p with fragment := (k : Int) }, true) := by
      have c1 : ¬ ((s : Int) = p.seqno ∧ (k : Int) ≤ p.fragment) := by rw [hfrag]; omega
      have c2 : ¬ ((s : Int) ≠ p.seqno ∧ recentSeqno p.seqno s = true) := by rw [hseq]; simp
      have c3 : ¬ ((s : Int) ≠ p.seqno) := by rw [hseq]; simp
      unfold sxUp
      rw [if_neg c1, if_neg c2, if_neg c3]
    refine ⟨by rw [hup], ?_⟩
    unfold sxTake
    rw [hup]
    simp only [if_true]
    unfold sxStore
    simp only [hdata]
    simp only [hoff, hlen]
    rw [List.take_of_length_le (by omega), pre_succ fs k hk, List.length_append, ← hseq]

theorem sxStep_next {s : Nat} {fs : List (List Nat)} (hc : Cut s fs) {k : Nat} {p : Packet}
    (hk : k < fs.length) (hinv : SxInv s fs k p) :
    (sxStep p s k (decide (k + 1 = fs.length)) (fs.getD k [])).2 =
      (if k + 1 = fs.length then some fs.flatten else none) ∧
    SxInv s fs (k + 1) (sxStep p s k (decide (k + 1 = fs.length)) (fs.getD k [])).1 := by
  obtain ⟨hup, htk⟩ := sxTake_next hc hk hinv
  unfold sxStep
  rw [htk, hup]
  by_cases hlast : k + 1 = fs.length
  · simp only [hlast, decide_true, and_self, if_true]
    refine ⟨?_, ?_⟩
    · rw [List.take_of_length_le (Nat.le_refl _), pre_all]
    · unfold SxInv
      rw [if_neg (by omega), if_neg (by omega)]
      exact ⟨rfl, by show (k : Int) = _; omega, rfl, rfl⟩
  · simp only [hlast, decide_false, Bool.false_eq_true, and_false, if_false]
    refine ⟨trivial, ?_⟩
    unfold SxInv
    have hlt : k + 1 < fs.length := by omega
    rw [if_neg (by omega), if_pos hlt]
    exact ⟨rfl, by simp, rfl, rfl, List.take_of_length_le (Nat.le_refl _)⟩

theorem oldUp_of_dup {s : Nat} {fs : List (List Nat)} {k j : Nat} {p : Packet} (hj : j < k) (hinv : SxInv s fs k p) :
    OldUp p s j := by
  unfold SxInv at hinv
  rw [if_neg (by omega)] at hinv
  left
  rw [hinv.1, hinv.2.1]
  exact ⟨rfl, by omega⟩

/-- the data part of a query name as `handle_null_request` gets it (`in[]`) -/
def inbOfQ (e : Srv) (q : Query) : List Nat :=
  q.name.take (min ((Common.queryDatalen q.name e.cfg.topdomain).getD 0) 512)

theorem hexCode_86 : hexCode 86 = -1 := by decide
theorem hexCode_118 : hexCode 118 = -1 := by decide
theorem hexCode_80 : hexCode 80 = -1 := by decide
theorem hexCode_112 : hexCode 112 = -1 := by decide

/-- a query that neither names `u` as a data query nor can allocate slot `u` leaves `u`'s buffer alone -/
theorem keep_q (e : Srv) (q : Query) (ts : Bool) (u : Nat)
    (h1 : hexCode ((inbOfQ e q).getD 0 0) ≠ (u : Int))
    (h2 : ((inbOfQ e q).getD 0 0 = 86 ∨ (inbOfQ e q).getD 0 0 = 118) → (findAvailableUser e).1 ≠ some u) :
    (getUser (dispatch e (.q q) ts).1 u).inpacket = (getUser e u).inpacket := by
  rcases dispatch_inert_or_data e (.q q) ts with h | ⟨q', a, dlen, hq, hd, hv, ha, he⟩ |
      ⟨q', u', dlen, hq, hd, _, hid, hu, hlt, _, he⟩ | ⟨_, _, hq, _⟩
  · exact h.same.eq u
  · cases hq
    unfold inbOfQ at h2
    rw [hd] at h2
    rw [he]
    exact versionState_in e q a u fun h => h2 hv (h ▸ ha)
  · cases hq
    unfold inbOfQ at h1
    rw [hd] at h1
    have hne : u ≠ u' := fun h => h1 (by rw [h]; exact hu)
    rw [he]
    exact (dataFresh_sx e u' q _ hlt hid).2.1 u hne
  · cases hq

theorem keep_raw (e : Srv) (src : Addr) (bytes : List Nat) (ts : Bool) (u : Nat)
    (h : (bytes.take 65536).getD 3 0 &&& RAW_HDR_USR_MASK ≠ u) :
    (getUser (dispatch e (.rawf src bytes) ts).1 u).inpacket = (getUser e u).inpacket := by
  rcases dispatch_inert_or_data e (.rawf src bytes) ts with h' | ⟨_, _, _, hq, _⟩ | ⟨_, _, _, hq, _⟩ | ⟨src', bytes', hq, _, he⟩
  · exact h'.same.eq u
  · cases hq
  · cases hq
  · cases hq
    rw [he, handleFullPacket_in, if_neg (fun hh => h hh.1.symm)]
    unfold rawStored
    rw [C04L.getUser_setUser_ne _ _ _ _ (Ne.symm h)]

theorem keep_quiet (e : Srv) (inp : Input) (ts : Bool) (u : Nat)
    (h : match inp with | .q _ => False | .rawf _ _ => False | _ => True) :
    (getUser (dispatch e inp ts).1 u).inpacket = (getUser e u).inpacket := by
  rcases dispatch_inert_or_data e inp ts with h' | ⟨_, _, _, hq, _⟩ | ⟨_, _, _, hq, _⟩ | ⟨_, _, hq, _⟩
  · exact h'.same.eq u
  all_goals (subst hq; exact h.elim)

/-- a ping (of any session) is inert -/
theorem own_ping (e : Srv) (q : Query) (ts : Bool)
    (h : (inbOfQ e q).getD 0 0 = 80 ∨ (inbOfQ e q).getD 0 0 = 112) : Inert e (dispatch e (.q q) ts) := by
  rcases dispatch_inert_or_data e (.q q) ts with h' | ⟨q', _, dlen, hq, hd, hv, _⟩ | ⟨q', u', dlen, hq, hd, _, _, hu, _⟩ |
      ⟨_, _, hq, _⟩
  · exact h'
  · cases hq
    unfold inbOfQ at h; rw [hd] at h
    simp only [Option.getD_some] at h
    omega
  · cases hq
    unfold inbOfQ at h; rw [hd] at h
    simp only [Option.getD_some] at h
    rcases h with h | h <;> rw [h] at hu
    · rw [hexCode_80] at hu; omega
    · rw [hexCode_112] at hu; omega
  · cases hq

/-- a data query of `u` whose header the sequence bookkeeping refuses: `u`'s buffer stays, nothing goes to tun -/
theorem own_old (e : Srv) (q : Query) (ts : Bool) (u : Nat)
    (h1 : hexCode ((inbOfQ e q).getD 0 0) = (u : Int))
    (h2 : OldUp (getUser e u).inpacket (upHdr (inbOfQ e q)).1 (upHdr (inbOfQ e q)).2.1) :
    (getUser (dispatch e (.q q) ts).1 u).inpacket = (getUser e u).inpacket ∧ stunws (dispatch e (.q q) ts).2 = [] := by
  rcases dispatch_inert_or_data e (.q q) ts with h' | ⟨q', _, dlen, hq, hd, hv, _⟩ |
      ⟨q', u', dlen, hq, hd, _, hid, hu, hlt, _, he⟩ | ⟨_, _, hq, _⟩
  · exact ⟨h'.same.eq u, h'.quiet⟩
  · cases hq
    unfold inbOfQ at h1; rw [hd] at h1
    simp only [Option.getD_some] at h1
    rcases hv with hv | hv <;> rw [hv] at h1
    · rw [hexCode_86] at h1; omega
    · rw [hexCode_118] at h1; omega
  · cases hq
    unfold inbOfQ at h1 h2; rw [hd] at h1 h2
    simp only [Option.getD_some] at h1 h2
    have hu' : u' = u := by
      have := hu.symm.trans h1
      exact Int.ofNat_inj.mp this
    subst hu'
    obtain ⟨a, _, c⟩ := dataFresh_sx e u' q _ hlt hid
    rw [he, a, c, sxStep_old h2]
    exact ⟨rfl, rfl⟩
  · cases hq

/-- what `handle_full_packet` does with a buffer that holds exactly `img`: drop it (does not decompress to an IP
header), write the decompressed packet to tun, or hand the still compressed image `img` to the client that owns the
destination address (`deliverToUser`: new outpacket, outpacket queue, or raw frame) -/
def handOn (s : Srv) (img : List Nat) : Res :=
  match uncompress img 65536 with
  | some out =>
    if out.length ≥ 4 + 20 then
      match findUserByIp s (ipDst out) with
      | none => (s, [writeTun out])
      | some t => deliverToUser s t img img.length
    else (s, [])
  | none => (s, [])

theorem deliverToUser_img (s : Srv) (t : Nat) (D : List Nat) (L : Nat) (img : List Nat)
    (h : D.take L = img) (hL : L = img.length) (h64 : L ≤ PACKET_DATA_SIZE) :
    deliverToUser s t D L = deliverToUser s t img img.length := by
  subst h
  rw [← hL]
  have hm : min L PACKET_DATA_SIZE = L := by omega
  have ht : (List.take L D).take L = List.take L D := by rw [List.take_take, Nat.min_self]
  have e1 : startNewOutpacket s t D L = startNewOutpacket s t (List.take L D) L := by
    unfold startNewOutpacket
    simp only [hm, ht]
  have e2 : saveToOutpacketq s t D L = saveToOutpacketq s t (List.take L D) L := by
    unfold saveToOutpacketq
    simp only [hm, ht]
  have e3 : ∀ q, sendRaw D L t RAW_HDR_CMD_DATA q = sendRaw (List.take L D) L t RAW_HDR_CMD_DATA q := by
    intro q
    unfold sendRaw
    dsimp only
    have : D.take (min (4096 - RAW_HDR_LEN) L) = (List.take L D).take (min (4096 - RAW_HDR_LEN) L) := by
      rw [List.take_take]
      congr 1
      omega
    rw [this]
  unfold deliverToUser
  dsimp only
  rw [e1, e2, e3]

theorem handleFullPacket_handOn (s : Srv) (u : Nat) (img : List Nat)
    (h : (getUser s u).inpacket.data.take (getUser s u).inpacket.len = img)
    (hL : (getUser s u).inpacket.len = img.length) (h64 : img.length ≤ PACKET_DATA_SIZE) :
    handleFullPacket s u =
      (setUser (handOn s img).1 u fun y => { y with inpacket := { y.inpacket with len := 0, offset := 0 } },
       (handOn s img).2) := by
  unfold handleFullPacket handOn
  dsimp only
  rw [h]
  cases uncompress img 65536 with
  | none => rfl
  | some out =>
    dsimp only
    split
    · cases findUserByIp s (ipDst out) with
      | none => rfl
      | some t =>
        dsimp only
        rw [deliverToUser_img s t _ _ img h hL (by omega)]
    · rfl

end Iodine.C01L
