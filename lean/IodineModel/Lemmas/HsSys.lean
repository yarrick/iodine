import IodineModel.Lemmas.Hs
/-
Lemmas about the handshake step machine: where `system()` is called.  Every continuation function of
`Client/Handshake.lean` only APPENDS queries / raw frames to the events it is handed (`AddsNoSys`, through `Leaf` of
Lemmas/HsPos.lean: `evs_of_leaf`); the one place that produces `sys` events is the loop body of `handshake_login`
(`loginGot`), and there they are the commands `Shell.loginStep` builds from the reply just received.
-/
namespace Iodine.Client
open Iodine Iodine.Gen

def isSys : CEvent → Bool
  | .sys _ => true
  | _ => false

def NoSys (l : List CEvent) : Prop := ∀ e ∈ l, isSys e = false

theorem nosys_nil : NoSys [] := fun _ h => nomatch h

theorem nosys_append {a b : List CEvent} (ha : NoSys a) (hb : NoSys b) : NoSys (a ++ b) :=
  List.forall_mem_append.mpr ⟨ha, hb⟩

/-- the events of `o` are `evs` followed by events that are not `system()` calls -/
def AddsNoSys (evs : List CEvent) (o : HOut) : Prop := ∃ l, o.2.1 = evs ++ l ∧ NoSys l

theorem AddsNoSys.park (s : HState) {r : Res} (evs : List CEvent) (p : HPos) (h : NoSys r.2) : AddsNoSys evs (s.park r evs p) :=
  ⟨r.2, rfl, h⟩

theorem nosys_parks {l : Bool} {s : HState} {r : Res} {p : HPos} (h : Parks l s r p) : NoSys r.2 := by
  intro e he
  rcases parks_events h with hq | ⟨seed, rfl⟩
  · obtain ⟨_, _, _, rfl⟩ := hq e he; rfl
  · rw [sendRawUdpLogin, List.mem_singleton] at he; subst he; rfl

/-- no way out of a continuation function adds a `system()` call -/
theorem evs_of_leaf {l : Bool} {B : Nat} {s : HState} {evs : List CEvent} {o : HOut} (h : Leaf l B s evs o) : AddsNoSys evs o := by
  cases h with
  | stop s' nx _ => exact ⟨[], (List.append_nil _).symm, nosys_nil⟩
  | park s' r p _ hs _ => exact AddsNoSys.park _ _ _ (nosys_parks hs)

theorem evs_hsStart (c : Cli) (args : HsArgs) (pw dev : List Nat) : AddsNoSys [] (hsStart c args pw dev) :=
  evs_of_leaf (leaf_hsStart c args pw dev)

theorem AddsNoSys.sys_mem {evs : List CEvent} {o : HOut} (h : AddsNoSys evs o) {cmd : List Nat} (hc : CEvent.sys cmd ∈ o.2.1) :
    CEvent.sys cmd ∈ evs := by
  obtain ⟨l, h1, h2⟩ := h
  rw [h1] at hc
  rcases List.mem_append.mp hc with hc | hc
  · exact hc
  · have := h2 _ hc
    simp [isSys] at this

/-- the events of one step: the commands of ONE login reply (possibly none), then queries / raw frames -/
theorem hstep_events (s : HState) (inp : CInput) :
    ∃ cmds l, (hstep s inp).2.1 = cmds.map CEvent.sys ++ l ∧ NoSys l ∧
      (cmds = [] ∨ ((∃ seed i, s.pos = some (.login seed i)) ∧ ∃ reply, cmds = (Shell.loginStep s.dev reply 0).commands)) := by
  cases hp : s.pos with
  | none => exact ⟨[], [], by rw [hstep_idle s inp hp]; rfl, nosys_nil, .inl rfl⟩
  | some p =>
    obtain ⟨n, x, _, ⟨_, h⟩ | ⟨read, _, h⟩ | ⟨seed, i, d, rfl, h⟩⟩ := hstep_cases s inp p hp
    · exact ⟨[], [], by rw [h]; rfl, nosys_nil, .inl rfl⟩
    · obtain ⟨l, h1, h2⟩ := h ▸ evs_of_leaf (leaf_hsGot (l := false) (s.woken n x) p read nofun)
      refine ⟨_, l, h1, h2, ?_⟩
      cases p with
      | login seed i =>
        by_cases hr : read > 0
        · exact .inr ⟨⟨seed, i, rfl⟩, _, if_pos hr⟩
        · exact .inl (if_neg hr)
      | _ => exact .inl rfl
    · obtain ⟨l, h1, h2⟩ := h ▸ evs_of_leaf (leaf_rawLoginGot (l := false) _ seed i d)
      exact ⟨[], l, h1, h2, .inl rfl⟩

/-- every `system()` call of a handshake step: the thread was waiting for the login reply, and the command is one of
those `Shell.loginStep` builds from some reply (that it is the reply at hand: `leaf_loginGot`, with `loginCommands`) -/
theorem hstep_sys (s : HState) (inp : CInput) (cmd : List Nat) (hc : CEvent.sys cmd ∈ (hstep s inp).2.1) :
    (∃ seed i, s.pos = some (.login seed i)) ∧ ∃ reply, cmd ∈ (Shell.loginStep s.dev reply 0).commands := by
  obtain ⟨cmds, l, h1, h2, h3⟩ := hstep_events s inp
  have hm : CEvent.sys cmd ∈ cmds.map CEvent.sys := AddsNoSys.sys_mem (o := hstep s inp) ⟨l, h1, h2⟩ hc
  rcases h3 with rfl | ⟨hpos, reply, rfl⟩
  · cases hm
  · exact ⟨hpos, reply, by simpa using hm⟩

end Iodine.Client
