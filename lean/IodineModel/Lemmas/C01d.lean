import IodineModel.Lemmas.C01c
import IodineModel.Lemmas.SrvC04e
import IodineModel.Lemmas.SrvC03a
/-
C01: the server's upstream reassembly.  `handle_full_packet`, the data handler as a machine on
`inpacket` alone (`sxStep`), and the classification of what one `dispatch` can do to a reassembly buffer.
-/
namespace Iodine.C01L
open Iodine Iodine.Server Iodine.Gen
open Iodine.C04L (getUser_setUser getUser_setUser_ne getUser_setUser_self Frame)

/-- the frames `handle_full_packet` writes to tun when the reassembled buffer is `b` (state `s` decides whether the
destination is another client) -/
def fullTun (s : Srv) (b : List Nat) : List (List Nat) :=
  match uncompress b 65536 with
  | some out =>
    if out.length ≥ 4 + 20 then
      match findUserByIp s (ipDst out) with
      | none => [[0, 0, 8, 0] ++ out.drop 4]
      | some _ => []
    else []
  | none => []

theorem handleFullPacket_tun (s : Srv) (u : Nat) :
    stunws (handleFullPacket s u).2 = fullTun s ((getUser s u).inpacket.data.take (getUser s u).inpacket.len) := by
  unfold handleFullPacket fullTun
  dsimp only
  cases uncompress (List.take (getUser s u).inpacket.len (getUser s u).inpacket.data) 65536 with
  | none => rfl
  | some out =>
    dsimp only
    split
    · cases findUserByIp s (ipDst out) with
      | none => rfl
      | some t => exact (inert_deliverToUser s t _ _).quiet
    · rfl

/-- `handle_full_packet(u)` empties `u`'s buffer and touches nobody else's -/
theorem handleFullPacket_in (s : Srv) (u v : Nat) :
    (getUser (handleFullPacket s u).1 v).inpacket =
      if v = u ∧ u < s.users.length then { (getUser s u).inpacket with len := 0, offset := 0 }
      else (getUser s v).inpacket := by
  unfold handleFullPacket
  dsimp only
  have key : ∀ s', SameIn s s' → s'.users.length = s.users.length →
      (getUser (setUser s' u fun y => { y with inpacket := { y.inpacket with len := 0, offset := 0 } }) v).inpacket =
      if v = u ∧ u < s.users.length then { (getUser s u).inpacket with len := 0, offset := 0 }
      else (getUser s v).inpacket := by
    intro s' h hl
    rw [getUser_setUser, hl]
    split
    · next hc => rw [h.eq u]
    · exact h.eq v
  cases uncompress (List.take (getUser s u).inpacket.len (getUser s u).inpacket.data) 65536 with
  | none => exact key s (SameIn.refl s) rfl
  | some out =>
    dsimp only
    split
    · cases findUserByIp s (ipDst out) with
      | none => exact key s (SameIn.refl s) rfl
      | some t =>
        refine key _ (inert_deliverToUser s t _ _).same ?_
        exact ((C04L.frame_deliverToUser s t _ _).len)
    · exact key s (SameIn.refl s) rfl

/-- the upstream half of the data header: `(up_seq, up_frag, lastfrag)` -/
def upHdr (inb : List Nat) : Nat × Nat × Bool :=
  ((b32_8to5 (inb.getD 1 0) >>> 2) &&& 7,
   ((b32_8to5 (inb.getD 1 0) &&& 3) <<< 2) ||| ((b32_8to5 (inb.getD 2 0) >>> 3) &&& 3),
   decide ((b32_8to5 (inb.getD 3 0) &&& 1) = 1))

/-- `dataUpstream` on the packet -/
def sxUp (p : Packet) (upSeq upFrag : Nat) : Packet × Bool :=
  if (upSeq : Int) = p.seqno ∧ (upFrag : Int) ≤ p.fragment then (p, false)
  else if (upSeq : Int) ≠ p.seqno ∧ recentSeqno p.seqno upSeq then (p, false)
  else if (upSeq : Int) ≠ p.seqno then ({ p with seqno := upSeq, fragment := upFrag, len := 0, offset := 0 }, true)
  else ({ p with fragment := upFrag }, true)

/-- `dataStore` on the packet, given the decoded bytes -/
def sxStore (p : Packet) (unp : List Nat) : Packet :=
  { p with data := p.data.take p.offset ++ unp.take (PACKET_DATA_SIZE - p.offset),
           len := p.len + (unp.take (PACKET_DATA_SIZE - p.offset)).length,
           offset := p.offset + (unp.take (PACKET_DATA_SIZE - p.offset)).length }

/-- the buffer after the sequence bookkeeping and (if the fragment is taken) the copy -/
def sxTake (p : Packet) (upSeq upFrag : Nat) (unp : List Nat) : Packet :=
  if (sxUp p upSeq upFrag).2 then sxStore (sxUp p upSeq upFrag).1 unp else (sxUp p upSeq upFrag).1

/-- the data handler on `inpacket`: new buffer, and the bytes handed to `handle_full_packet` if it is called -/
def sxStep (p : Packet) (upSeq upFrag : Nat) (last : Bool) (unp : List Nat) : Packet × Option (List Nat) :=
  if (sxUp p upSeq upFrag).2 ∧ last then
    ({ sxTake p upSeq upFrag unp with len := 0, offset := 0 },
     some ((sxTake p upSeq upFrag unp).data.take (sxTake p upSeq upFrag unp).len))
  else (sxTake p upSeq upFrag unp, none)

theorem dataUpstream_sx (x : Session) (a b : Nat) :
    (dataUpstream x a b).1 = { x with inpacket := (sxUp x.inpacket a b).1 } ∧
    (dataUpstream x a b).2 = (sxUp x.inpacket a b).2 := by
  unfold dataUpstream sxUp
  split
  · exact ⟨rfl, rfl⟩
  · split
    · exact ⟨rfl, rfl⟩
    · split <;> exact ⟨rfl, rfl⟩

theorem dataStore_sx (x : Session) (pl : List Nat) :
    (dataStore x pl).inpacket = sxStore x.inpacket (Encoding.unpackData x.encoder.codec 65536 pl) := rfl

/-- the data handler: the ack and the write to the buffer of `u`, `handle_full_packet` if the packet is complete, and
a tail that is inert -/
theorem dataFresh_parts (s : Srv) (u : Nat) (q : Query) (inb : List Nat) (hu : u < s.users.length) (hid : q.id ≠ 0) :
    ∃ (s2 : Srv) (tail : Res),
      Frame C04L.erIn (· = u) s s2 ∧
      (getUser s2 u).inpacket =
        sxTake (getUser s u).inpacket (upHdr inb).1 (upHdr inb).2.1
          (Encoding.unpackData (getUser s u).encoder.codec 65536 (inb.drop 5)) ∧
      (let r3 : Res := if (sxUp (getUser s u).inpacket (upHdr inb).1 (upHdr inb).2.1).2 ∧ (upHdr inb).2.2
          then handleFullPacket s2 u else (s2, [])
       Inert r3.1 tail ∧ dataFresh s u q inb = (tail.1, r3.2 ++ tail.2)) := by
  have f1 : Frame C04L.erIn (· = u) s (C05N.dataPre s u inb).1 := C04L.frame_dataPre s u inb
  obtain ⟨s1, f0, e⟩ : ∃ s1, Frame C04L.erOut (· = u) s s1 ∧ C05N.dataPre s u inb =
      (upIn s1 u (upHdr inb).1 (upHdr inb).2.1 (inb.drop 5),
        (dataUpstream (getUser s1 u) (upHdr inb).1 (upHdr inb).2.1).2, (upHdr inb).2.2) :=
    ⟨_, C04L.frame_processDownstreamAck s u _ _, rfl⟩
  have hin : (getUser s1 u).inpacket = (getUser s u).inpacket := (congrArg Session.inpacket (f0.rel u) :)
  have henc : (getUser s1 u).encoder = (getUser s u).encoder := (congrArg Session.encoder (f0.rel u) :)
  obtain ⟨hu1, hu2⟩ := dataUpstream_sx (getUser s1 u) (upHdr inb).1 (upHdr inb).2.1
  have hok : (C05N.dataPre s u inb).2.1 = (sxUp (getUser s u).inpacket (upHdr inb).1 (upHdr inb).2.1).2 := by
    rw [e]; exact hu2.trans (by rw [hin])
  have hlast : (C05N.dataPre s u inb).2.2 = (upHdr inb).2.2 := by rw [e]
  have h2 : (getUser (C05N.dataPre s u inb).1 u).inpacket =
      sxTake (getUser s u).inpacket (upHdr inb).1 (upHdr inb).2.1
        (Encoding.unpackData (getUser s u).encoder.codec 65536 (inb.drop 5)) := by
    rw [e]
    show (getUser (upIn s1 u _ _ _) u).inpacket = _
    rw [upIn, getUser_setUser_self s1 u _ (by rw [f0.len]; exact hu), sxTake, ← hin, ← henc, ← hu2]
    cases (dataUpstream (getUser s1 u) (upHdr inb).1 (upHdr inb).2.1).2
    · simp only [Bool.false_eq_true, if_false]; rw [hu1]
    · simp only [if_true]; rw [dataStore_sx, hu1]
  obtain ⟨t, ht, he⟩ := tail_dataRest (inp := .q q) (K := calm) rfl (C05N.dataPre s u inb) u q rfl
    (by rw [f1.len]; exact hu) hid
  refine ⟨_, t, f1, h2, ?_⟩
  rw [hok, hlast] at ht he
  exact ⟨ht.closed inert_closed, by rw [C05N.dataFresh_eq]; exact he⟩

theorem fullTun_congr {s s' : Srv} (h : ∀ ip, findUserByIp s' ip = findUserByIp s ip) (b : List Nat) :
    fullTun s' b = fullTun s b := by
  unfold fullTun
  cases uncompress b 65536 with
  | none => rfl
  | some out => dsimp only; rw [h]

/-- **the data handler projects onto `sxStep`**: the buffer of `u` afterwards, nobody else's buffer touched, and the
tun writes are those of `handle_full_packet` on the completed buffer -/
theorem dataFresh_sx (s : Srv) (u : Nat) (q : Query) (inb : List Nat) (hu : u < s.users.length) (hid : q.id ≠ 0) :
    (getUser (dataFresh s u q inb).1 u).inpacket =
      (sxStep (getUser s u).inpacket (upHdr inb).1 (upHdr inb).2.1 (upHdr inb).2.2
        (Encoding.unpackData (getUser s u).encoder.codec 65536 (inb.drop 5))).1 ∧
    (∀ v, v ≠ u → (getUser (dataFresh s u q inb).1 v).inpacket = (getUser s v).inpacket) ∧
    stunws (dataFresh s u q inb).2 =
      (match (sxStep (getUser s u).inpacket (upHdr inb).1 (upHdr inb).2.1 (upHdr inb).2.2
          (Encoding.unpackData (getUser s u).encoder.codec 65536 (inb.drop 5))).2 with
        | some b => fullTun s b
        | none => []) := by
  obtain ⟨s2, tail, f1, h2, hrest⟩ := dataFresh_parts s u q inb hu hid
  dsimp only at hrest
  unfold sxStep
  by_cases hc : (sxUp (getUser s u).inpacket (upHdr inb).1 (upHdr inb).2.1).2 = true ∧ (upHdr inb).2.2 = true
  · rw [if_pos hc] at hrest ⊢
    obtain ⟨it, he⟩ := hrest
    rw [he]
    dsimp only
    refine ⟨?_, ?_, ?_⟩
    · rw [it.same.eq u, handleFullPacket_in, if_pos ⟨rfl, by rw [f1.len]; exact hu⟩, h2]
    · intro v hv
      rw [it.same.eq v, handleFullPacket_in, if_neg (fun h => hv h.1), f1.other v hv]
    · rw [stunws_append, it.quiet, List.append_nil, handleFullPacket_tun, h2]
      exact fullTun_congr (fun ip => f1.findUserByIp_eq ip) _
  · rw [if_neg hc] at hrest ⊢
    obtain ⟨it, he⟩ := hrest
    rw [he]
    dsimp only
    refine ⟨?_, ?_, ?_⟩
    · rw [it.same.eq u, h2]
    · intro v hv
      rw [it.same.eq v, f1.other v hv]
    · rw [List.nil_append, it.quiet]

theorem stunws_sendVersionResponse (s : Srv) (k : VersionAck) (p u : Nat) (q : Query) :
    stunws [sendVersionResponse s k p u q] = [] := rfl

/-- the version handshake touches the buffer of no slot but the one it hands out -/
theorem versionState_in (s : Srv) (q : Query) (u v : Nat) (h : v ≠ u) :
    (getUser (versionState s q u) v).inpacket = (getUser s v).inpacket := by
  rw [versionState, versionPre, getUser_setUser_ne _ _ _ _ h, getUser_setUser_ne _ _ _ _ h, C04L.getUser_popRand,
    getUser_setUser_ne _ _ _ _ h]

/-- **What one handler phase can do to reassembly buffers and the tun device**: nothing (inert), the version handshake
(resets the slot it hands out), the upstream data handler for slot `u` (got past all filters), or a raw-mode data frame
for slot `u`. -/
theorem dispatch_inert_or_data (s : Srv) (inp : Input) (tunsel : Bool) :
    Inert s (dispatch s inp tunsel) ∨
    (∃ q u dlen, inp = .q q ∧ Common.queryDatalen q.name s.cfg.topdomain = some dlen ∧
        ((q.name.take (min dlen 512)).getD 0 0 = 86 ∨ (q.name.take (min dlen 512)).getD 0 0 = 118) ∧
        (findAvailableUser s).1 = some u ∧
        dispatch s inp tunsel = (versionState s q u, [sendVersionResponse (versionPre s q u) .ack
          (popRand (setUser s u (claim s.now))).1 u q])) ∨
    (∃ (q : Query) (u dlen : Nat), inp = .q q ∧ Common.queryDatalen q.name s.cfg.topdomain = some dlen ∧ 6 ≤ dlen ∧ q.id ≠ 0 ∧
        hexCode ((q.name.take (min dlen 512)).getD 0 0) = (u : Int) ∧ u < s.users.length ∧
        checkAuthenticatedUserAndIp s (u : Int) q = false ∧
        dispatch s inp tunsel = dataFresh s u q (q.name.take (min dlen 512))) ∨
    (∃ src bytes, inp = .rawf src bytes ∧
        checkAuthenticatedUserAndIp s (((bytes.take 65536).getD 3 0 &&& RAW_HDR_USR_MASK : Nat) : Int) (rawQuery src)
          = false ∧
        dispatch s inp tunsel =
          handleFullPacket (rawStored s ((bytes.take 65536).getD 3 0 &&& RAW_HDR_USR_MASK) src
            ((bytes.take 65536).drop RAW_HDR_LEN)) ((bytes.take 65536).getD 3 0 &&& RAW_HDR_USR_MASK)) := by
  cases class_dispatch s inp tunsel with
  | calm h => exact .inl (h.closed inert_closed)
  | version q u dlen hq hd h2 ha he =>
    exact .inr (.inl ⟨q, u, dlen, hq, hd, by rw [getD_take_lt _ _ 0 (by omega)]; exact ha.letter, ha.slot, he⟩)
  | fragsize q dlen n _ _ _ he => exact .inl (he ▸ ⟨SameIn.set _ _ _ (fun _ => rfl), rfl⟩)
  | data q u dlen hq hd h6 hid hu hlt hc he => exact .inr (.inr (.inl ⟨q, u, dlen, hq, hd, h6, hid, hu, hlt, hc, he⟩))
  | rawData src bytes hq hc he => exact .inr (.inr (.inr ⟨src, bytes, hq, hc, he⟩))

open Iodine.C03L (entry)

theorem entry_in (s : Srv) (now' v : Nat) : (getUser (entry s now') v).inpacket = (getUser s v).inpacket := by
  obtain ⟨b, hb⟩ := C03L.getUser_entry s now' v; rw [hb]

theorem out_tunws (s : Srv) (st : Step) :
    stunws (out s st) = stunws (dispatch (entry s st.now) st.inp (topOfLoop s).2.2).2 := by
  obtain ⟨note, hn, e⟩ := body_eq (entry s st.now) st.inp (topOfLoop s).2.2
  have hnote : stunws note = [] := by rcases hn with rfl | rfl <;> rfl
  have hs : ∀ l, stunws (Event.sweep :: l) = stunws l := fun _ => rfl
  show stunws (body (entry s st.now) st.inp (topOfLoop s).2.2).2 = _
  rw [e, stunws_append, hs, stunws_append, (inert_sweep _).quiet, hnote, List.append_nil, List.append_nil]

theorem next_in (s : Srv) (st : Step) (v : Nat) :
    (getUser (next s st) v).inpacket =
      (getUser (dispatch (entry s st.now) st.inp (topOfLoop s).2.2).1 v).inpacket := by
  rw [C03L.next_eq]
  exact (inert_sweep _).same.eq v

end Iodine.C01L
