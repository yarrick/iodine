import IodineModel.Lemmas.C05N1
import IodineModel.Lemmas.C02s2
/-
For C05 "established sessions continue".  First what the model-level predicates `fwdTo` and `rawLoginFor` mean in terms the
specification can talk about (the destination address of the completed packet is the tunnel address of `u`; the frame carries
`u`'s login hash).  Then OWN steps: the ping handler for userid `u` (`handle_null_request` case 'P') reads and writes slot `u`,
the clock and the configuration only, so on two states that `Agree u` it produces the same events and states that `Agree u`
again.  `Est` (the model-side copy of `C05.Established`) survives every iteration whose handler phase changes slot `u` only in
its data-path fields; `mixed_iteration` is one step of a run of foreign steps and own pings.
-/
namespace Iodine.C05N
open Iodine Iodine.Server Iodine.Gen Iodine.C04L

theorem cmdOf_data (c : Nat) (h : cmdOf c = some .data) : isHexDigit c = true := by
  by_cases hx : isHexDigit c = true
  · exact hx
  · -- without a hex digit every branch of `cmdOf` is another command or none
    refine absurd h ?_
    have k {p : Prop} [Decidable p] {a b : Option Cmd} (ha : a ≠ some .data) (hb : b ≠ some .data) :
        (if p then a else b) ≠ some .data := ite_both (P := (· ≠ some Cmd.data)) ha hb
    rw [cmdOf, if_neg hx]
    exact k nofun <| k nofun <| k nofun <| k nofun <| k nofun <| k nofun <| k nofun <| k nofun <| k nofun <| k nofun nofun

theorem erIn_tunIp {x y : Session} (h : erIn x = erIn y) : x.tunIp = y.tunIp := by
  have := congrArg Session.tunIp h; exact this

theorem findUserByIp_tunIp (s : Srv) (A v : Nat) (h : findUserByIp s A = some v) : (getUser s v).tunIp = A :=
  ((findUserByIp_some_iff s A v).1 h).2.1.2.2.2.2

/-- what a passed access check means (this is `C04.Accepted`, unfolded) -/
theorem accepted_of_check (s : Srv) (q : Query) (uid : Int) (w : Nat) (hw : uid.toNat = w)
    (h : checkUserAndIp s uid q = false) :
    w < s.cfg.createdUsers ∧ (getUser s w).active = true ∧ (getUser s w).disabled = false ∧
    ¬ (getUser s w).lastPkt + 60 < s.now ∧
    (s.cfg.checkIp = true → q.from_.fam = (getUser s w).host.fam ∧ q.from_.ip = (getUser s w).host.ip) := by
  obtain ⟨c0, c1, c2, c3, c4, c5⟩ := checkUserAndIp_false s uid q h
  rw [hw] at c2 c3 c4 c5
  exact ⟨by omega, c2, c3, c4, c5⟩

/-- a DNS data request that hands a packet to `u`: it is an accepted data request of some session `w`, it completes
`w`'s upstream packet, and the packet's destination is `u`'s tunnel address -/
theorem fwdTo_q_elim {s : Srv} {q : Query} {u : Nat} (h : fwdTo s (.q q) u) :
    ∃ (dlen w : Nat) (out : List Nat), Common.queryDatalen q.name s.cfg.topdomain = some dlen ∧
      isHexDigit ((inbOf q dlen).getD 0 0) = true ∧ hexCode ((inbOf q dlen).getD 0 0) = (w : Int) ∧
      (dataPre s w (inbOf q dlen)).2 = (true, true) ∧
      fullPacketOut (dataPre s w (inbOf q dlen)).1 w = some out ∧ ipDst out = (getUser s u).tunIp ∧
      (w < s.cfg.createdUsers ∧ (getUser s w).active = true ∧ (getUser s w).disabled = false ∧
        ¬ (getUser s w).lastPkt + 60 < s.now ∧
        (s.cfg.checkIp = true → q.from_.fam = (getUser s w).host.fam ∧ q.from_.ip = (getUser s w).host.ip)) := by
  obtain ⟨dlen, hd, _, hc, hrej, ⟨hp1, hp2⟩, out, hout, hfind⟩ := h
  have hpos := (checkUserAndIp_false s _ q (rejected_false s q _ .data hrej).1).1
  have hcast : (((uidOf q dlen .data).toNat : Nat) : Int) = hexCode ((inbOf q dlen).getD 0 0) := by
    have : uidOf q dlen .data = hexCode ((inbOf q dlen).getD 0 0) := rfl
    rw [← this]; omega
  refine ⟨dlen, (uidOf q dlen .data).toNat, out, hd, cmdOf_data _ hc, hcast.symm, ?_, hout, ?_,
    accepted_of_check s q _ _ rfl (rejected_false s q _ .data hrej).1⟩
  · exact Prod.ext hp1 hp2
  · have e1 := findUserByIp_tunIp _ _ _ hfind
    rw [← e1]
    exact erIn_tunIp ((frame_dataPre s _ (inbOf q dlen)).rel u)

theorem fullPacketOut_elim (s : Srv) (w : Nat) (out : List Nat) (h : fullPacketOut s w = some out) :
    uncompress ((getUser s w).inpacket.data.take (getUser s w).inpacket.len) 65536 = some out ∧ 24 ≤ out.length := by
  unfold fullPacketOut at h
  dsimp only at h
  generalize uncompress (List.take (getUser s w).inpacket.len (getUser s w).inpacket.data) 65536 = r at h ⊢
  cases r with
  | none => cases h
  | some o =>
    dsimp only at h
    split at h
    · next h2 => cases h; exact ⟨rfl, h2⟩
    · cases h

/-- a raw data frame that hands a packet to `u`: its payload decompresses to an IP frame whose destination is `u`'s
tunnel address -/
theorem fwdTo_raw_elim {s : Srv} {src : Addr} {bytes : List Nat} {u : Nat} (h : fwdTo s (.rawf src bytes) u) :
    (bytes.take 65536).take 3 = [16, 209, 158] ∧ (bytes.take 65536).getD 3 0 &&& 240 = 32 ∧
    (∃ out, uncompress ((bytes.take 65536).drop 4) 65536 = some out ∧ 24 ≤ out.length ∧
      ipDst out = (getUser s u).tunIp) ∧
    (((bytes.take 65536).getD 3 0 &&& 15) < s.cfg.createdUsers ∧
      (getUser s ((bytes.take 65536).getD 3 0 &&& 15)).active = true ∧
      (getUser s ((bytes.take 65536).getD 3 0 &&& 15)).disabled = false ∧
      ¬ (getUser s ((bytes.take 65536).getD 3 0 &&& 15)).lastPkt + 60 < s.now ∧
      (s.cfg.checkIp = true → src.fam = (getUser s ((bytes.take 65536).getD 3 0 &&& 15)).host.fam ∧
        src.ip = (getUser s ((bytes.take 65536).getD 3 0 &&& 15)).host.ip)) := by
  obtain ⟨_, h2, h3, hchk, out, hout, hfind⟩ := h
  refine ⟨h2, h3, ⟨out, ?_⟩,
    accepted_of_check s (rawQuery src) _ _ (by simp; rfl) (checkAuth_false s _ _ hchk).1⟩
  generalize hw : (List.take 65536 bytes).getD 3 0 &&& RAW_HDR_USR_MASK = w at hout hfind
  generalize hbody : List.drop RAW_HDR_LEN (List.take 65536 bytes) = body at hout hfind
  have hbody' : List.drop 4 (List.take 65536 bytes) = body := hbody
  rw [hbody']
  have e1 := findUserByIp_tunIp _ _ _ hfind
  have e2 : (getUser (setUser s w (rawStore s (rawQuery src) body)) u).tunIp = (getUser s u).tunIp := by
    rw [getUser_setUser]; split
    · next hc => rw [hc.1]; rfl
    · rfl
  obtain ⟨k1, k2⟩ := fullPacketOut_elim _ _ _ hout
  refine ⟨?_, k2, by rw [← e1, e2]⟩
  by_cases hl : w < s.users.length
  · rw [getUser_setUser_self _ _ _ hl] at k1
    simpa [rawStore] using k1
  · rw [C16L.setUser_oob _ _ _ (Nat.le_of_not_lt hl), getUser_of_ge s w (Nat.le_of_not_lt hl)] at k1
    simp [Session.zero, Packet.zero, uncompress] at k1

/-- an accepted raw login for `u` carries the hash of the password and `seed_u + 1` -/
theorem rawLoginFor_elim {s : Srv} {src : Addr} {bytes : List Nat} {u : Nat} (h : rawLoginFor s (.rawf src bytes) u) :
    (bytes.take 65536).take 3 = [16, 209, 158] ∧ (bytes.take 65536).getD 3 0 &&& 240 = 16 ∧
    (bytes.take 65536).getD 3 0 &&& 15 = u ∧ 20 ≤ (bytes.take 65536).length ∧
    ((bytes.take 65536).drop 4).take 16 = Login.loginCalcC s.cfg.password ((getUser s u).seed + 1) := by
  obtain ⟨_, h2, h3, h4, h5, _, _, _, _, _, h11⟩ := h
  refine ⟨h2, h3, h4, ?_, h11⟩
  have : (List.drop RAW_HDR_LEN (List.take 65536 bytes)).length = (List.take 65536 bytes).length - 4 := by
    simp [RAW_HDR_LEN]
  omega

section Own
variable {u : Nat} {s t : Srv}

theorem agree_checkUserAndIp (h : Agree u s t) (uid : Int) (hu : uid.toNat = u) (q : Query) :
    checkUserAndIp s uid q = checkUserAndIp t uid q := by
  unfold checkUserAndIp
  rw [hu, h.user, h.now, h.cfg]

theorem agree_checkAuth (h : Agree u s t) (uid : Int) (hu : uid.toNat = u) (q : Query) :
    checkAuthenticatedUserAndIp s uid q = checkAuthenticatedUserAndIp t uid q := by
  unfold checkAuthenticatedUserAndIp
  rw [agree_checkUserAndIp h uid hu q, hu, h.user]

theorem agree_answerFromDnscache (h : Agree u s t) (q : Query) :
    answerFromDnscache s u q = answerFromDnscache t u q := by
  unfold answerFromDnscache
  rw [h.user]

theorem agree_rememberDuplicate (h : Agree u s t) (q : Query) :
    (rememberDuplicate s u q = none ∧ rememberDuplicate t u q = none) ∨
    ∃ s' t', rememberDuplicate s u q = some s' ∧ rememberDuplicate t u q = some t' ∧ Agree u s' t' := by
  unfold rememberDuplicate
  dsimp only
  rw [h.user]
  let R (a b : Option Srv) : Prop := (a = none ∧ b = none) ∨ ∃ s' t', a = some s' ∧ b = some t' ∧ Agree u s' t'
  have hit : ∀ f, R (some (setUser s u f)) (some (setUser t u f)) := fun f => Or.inr ⟨_, _, rfl, rfl, h.setf f⟩
  exact ite_both₂ (R := R) (hit _) (ite_both₂ (R := R) (hit _) (Or.inl ⟨rfl, rfl⟩))

/-- the ping handler behind the duplicate filters is slot-local: it is `C02L.pingSess` on slot `u` and the clock -/
theorem agree_pingFresh (h : Agree u s t) (q : Query) (unp : List Nat) :
    Agree u (pingFresh s u q unp).1 (pingFresh t u q unp).1 ∧ (pingFresh s u q unp).2 = (pingFresh t u q unp).2 := by
  rw [C02L.pingFresh_onSlot s u q unp h.l1, C02L.pingFresh_onSlot t u q unp h.l2, h.user, h.now]
  exact ⟨h.put _, rfl⟩

theorem agree_handlePing (h : Agree u s t) (q : Query) (inb : List Nat)
    (hu : (charVal ((Encoding.unpackData Codec.b32 65536 (inb.drop 1)).getD 0 0)).toNat = u) :
    Agree u (handlePing s q inb).1 (handlePing t q inb).1 ∧ (handlePing s q inb).2 = (handlePing t q inb).2 := by
  unfold handlePing
  by_cases h0 : q.id = 0
  · rw [if_pos h0, if_pos h0]; exact ⟨h, rfl⟩
  rw [if_neg h0, if_neg h0]
  dsimp only
  by_cases h1 : (Encoding.unpackData Codec.b32 65536 (List.drop 1 inb)).length < 4
  · rw [if_pos h1, if_pos h1]; exact ⟨h, rfl⟩
  rw [if_neg h1, if_neg h1]
  rw [agree_checkAuth h _ hu q, hu]
  by_cases h2 : checkAuthenticatedUserAndIp t (charVal ((Encoding.unpackData Codec.b32 65536 (List.drop 1 inb)).getD 0 0)) q = true
  · rw [if_pos h2, if_pos h2]; exact ⟨h, rfl⟩
  rw [if_neg h2, if_neg h2]
  rw [agree_answerFromDnscache h q, h.user]
  cases answerFromDnscache t u q with
  | some e => exact ⟨h, rfl⟩
  | none =>
    dsimp only
    cases answerFromQmem q (getUser t u).qmemping (List.take 4 (Encoding.unpackData Codec.b32 65536 (List.drop 1 inb))) u with
    | some e => exact ⟨h, rfl⟩
    | none =>
      dsimp only
      rcases agree_rememberDuplicate h q with ⟨e1, e2⟩ | ⟨s', t', e1, e2, k⟩
      · rw [e1, e2]; exact agree_pingFresh h q _
      · rw [e1, e2]; exact ⟨k, rfl⟩

/-- a DNS query that `tunnel_dns` hands to the ping handler with userid `u` -/
def pingFor (cfg : Config) (q : Query) (u : Nat) : Prop :=
  ∃ dlen, Common.queryDatalen q.name cfg.topdomain = some dlen ∧ ¬ isNsA q dlen ∧ ¬ isWwwA q dlen ∧
    C16L.TunnelType q.type ∧ 2 ≤ dlen ∧ cmdOf ((inbOf q dlen).getD 0 0) = some .ping ∧ (uidOf q dlen .ping).toNat = u

theorem tunnelDns_pingFor (s : Srv) (q : Query) (dlen : Nat)
    (hd : Common.queryDatalen q.name s.cfg.topdomain = some dlen) (hns : ¬ isNsA q dlen) (hwww : ¬ isWwwA q dlen)
    (hty : C16L.TunnelType q.type) (h2 : 2 ≤ dlen) (hc : cmdOf ((inbOf q dlen).getD 0 0) = some .ping) :
    tunnelDns s q = handlePing s q (inbOf q dlen) := by
  rw [tunnelDns_null s q dlen hd hns hwww hty, handleNullRequest_cmd s q dlen .ping h2 hc]; rfl

/-- **own step**: the handler phase of a ping naming `u` is slot-local, and changes slot `u` in its data-path fields only -/
theorem own_ping_dispatch (h : Agree u s t) (q : Query) (hp : pingFor s.cfg q u) (ts tt : Bool) :
    (Agree u (dispatch s (.q q) ts).1 (dispatch t (.q q) tt).1 ∧
      dataOf u (dispatch s (.q q) ts).2 = dataOf u (dispatch t (.q q) tt).2) ∧
    erData (getUser (dispatch s (.q q) ts).1 u) = erData (getUser s u) := by
  obtain ⟨dlen, hd, hns, hwww, hty, h2, hc, hu⟩ := hp
  have hd' : Common.queryDatalen q.name t.cfg.topdomain = some dlen := by rw [← h.cfg]; exact hd
  show (Agree u (tunnelDns s q).1 (tunnelDns t q).1 ∧ dataOf u (tunnelDns s q).2 = dataOf u (tunnelDns t q).2) ∧
    erData (getUser (tunnelDns s q).1 u) = erData (getUser s u)
  rw [tunnelDns_pingFor s q dlen hd hns hwww hty h2 hc, tunnelDns_pingFor t q dlen hd' hns hwww hty h2 hc]
  have k := agree_handlePing h q (inbOf q dlen) hu
  exact ⟨⟨k.1, by rw [k.2]⟩, (frame_handlePing s q dlen).rel u⟩

end Own

/-! ### `Established` survives -/

/-- model-side copy of `C05.Established` -/
structure Est (s : Srv) (u : Nat) (a : Addr) : Prop where
  ck : s.cfg.checkIp = true
  cr : u < s.cfg.createdUsers
  ln : u < s.users.length
  act : (getUser s u).active = true
  en : (getUser s u).disabled = false
  au : (getUser s u).authenticated = true
  fam : (getUser s u).host.fam = a.fam
  ip : (getUser s u).host.ip = a.ip

theorem Est.bound {s : Srv} {u : Nat} {a : Addr} (h : Est s u a) : Bound s u a := ⟨h.ck, h.act, h.fam, h.ip⟩

theorem est_next {s : Srv} {u : Nat} {a : Addr} (he : Est s u a) (inp : Input) (n : Nat)
    (hk : erData (getUser (dispatch (pre s n) inp (tunsel s)).1 u) = erData (getUser (pre s n) u)) :
    Est (next s ⟨inp, n⟩) u a := by
  have hs := ((frame_sweep (dispatch (pre s n) inp (tunsel s)).1).rel u).trans hk
  have e0 : getUser (next s ⟨inp, n⟩) u = getUser (sweep (dispatch (pre s n) inp (tunsel s)).1).1 u := by
    rw [next_eq, body_fst]
  have p : (getUser (pre s n) u).active = (getUser s u).active ∧ (getUser (pre s n) u).disabled = (getUser s u).disabled ∧
      (getUser (pre s n) u).authenticated = (getUser s u).authenticated ∧ (getUser (pre s n) u).host = (getUser s u).host := by
    rw [getUser_pre]; split <;> exact ⟨rfl, rfl, rfl, rfl⟩
  obtain ⟨hc, _, hl⟩ := C04L.next_base s ⟨inp, n⟩
  refine ⟨by rw [hc]; exact he.ck, by rw [hc]; exact he.cr, by rw [hl]; exact he.ln, ?_, ?_, ?_, ?_, ?_⟩
  · rw [e0, erData_active hs, p.1]; exact he.act
  · rw [e0, erData_disabled hs, p.2.1]; exact he.en
  · rw [e0, erData_authenticated hs, p.2.2.1]; exact he.au
  · rw [e0, erData_host hs, p.2.2.2]; exact he.fam
  · rw [e0, erData_host hs, p.2.2.2]; exact he.ip

/-! ### mixed runs -/

/-- a step of a mixed run: a foreign step satisfying the hypotheses, or a ping from anywhere that names `u` (own step;
if it does not come from `a` it is refused on both sides alike) -/
def MixedStep (u : Nat) (a : Addr) (s : Srv) (st : Step) : Prop :=
  (foreign a st.inp ∧ ¬ (getUser s u).lastPkt + 60 < st.now ∧ ¬ rawLoginFor (pre s st.now) st.inp u ∧
      ¬ fwdTo (pre s st.now) st.inp u) ∨
  (¬ foreign a st.inp ∧ ∃ q, st.inp = .q q ∧ pingFor s.cfg q u)

def MixedRun (u : Nat) (a : Addr) : Srv → List Step → Prop
  | _, [] => True
  | s, st :: rest => MixedStep u a s st ∧ MixedRun u a (next s st) rest

/-- one step of a mixed run against its masked counterpart -/
theorem mixed_iteration {s t : Srv} {u : Nat} {a : Addr} (h : Agree u s t) (he : Est s u a) (st st' : Step)
    (hst : (foreign a st.inp → st' = ⟨.tick, st.now⟩) ∧ (¬ foreign a st.inp → st' = st))
    (hm : MixedStep u a s st) :
    Agree u (next s st) (next t st') ∧ dataOf u (out s st) = dataOf u (out t st') ∧ Est (next s st) u a := by
  rcases hm with ⟨hf, hl, hlog, hw⟩ | ⟨hnf, q, hq, hp⟩
  · rw [hst.1 hf]
    have k := foreign_iteration h he.bound st.inp st.now hl hf hlog hw
    have hk := (foreign_dispatch (bound_pre he.bound st.now) (by rw [lastPkt_pre]; exact hl) st.inp (tunsel s) hf hlog hw).1
    exact ⟨k.1, k.2, est_next he st.inp st.now (by rw [hk])⟩
  · rw [hst.2 hnf]
    obtain ⟨inp, n⟩ := st
    simp only at hq
    subst hq
    have hp' : pingFor (pre s n).cfg q u := hp
    have k := own_ping_dispatch (agree_pre h n) q hp' (tunsel s) (tunsel t)
    have r := agree_iteration (s := s) (t := t) (.q q) (.q q) n k.1
    exact ⟨r.1, r.2, est_next he (.q q) n k.2⟩

end Iodine.C05N
