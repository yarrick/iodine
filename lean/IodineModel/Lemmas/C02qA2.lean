import IodineModel.Lemmas.C02qA1
/-
Freshness of the duplicate memories under loss, slot level.  `RingWF` is the structural part of `Aged`/`PAged` (lengths and
fill pointers of the three ring memories), kept by every function of the server model that writes one of them.  `AgedTo` is
`Aged` for the newest positions only; one more position per clean cycle is known to be aged, so from ANY well-formed slot,
whatever its memories hold, 15 clean data query/answer cycles (pings in between do not matter) restore `Aged … 1`
(`CleanSess.renew`, `CleanSess.renewed`).
-/
namespace Iodine.C02L
open Iodine Iodine.Gen Iodine.Server
open Iodine.C16L (ringFill_lt)

/-- lengths and fill pointers of the three duplicate memories of a slot -/
structure RingWF (x : Session) : Prop where
  qlen : x.qmemdata.length = QMEMDATA_LEN
  qlast : x.qmemdataLast < QMEMDATA_LEN
  plen : x.qmemping.length = QMEMPING_LEN
  plast : x.qmempingLast < QMEMPING_LEN
  clen : x.dnscache.length = DNSCACHE_LEN
  clast : x.dcLast < DNSCACHE_LEN

theorem Aged.wf {P : Par} {x : Session} {k sl k' sl' : Nat} (h : Aged P x k sl) (h' : PAged P x k' sl') : RingWF x :=
  ⟨h.qlen, h.qlast, h'.plen, h'.plast, h.clen, h.clast⟩

theorem RingWF.cacheUpd {x : Session} (h : RingWF x) (q : Query) (ans : List Nat) : RingWF (cacheUpd x q ans) := by
  unfold C02L.cacheUpd
  split
  · exact h
  · exact ⟨h.qlen, h.qlast, h.plen, h.plast, by simp [h.clen], ringFill_lt DNSCACHE_LEN x.dcLast (by decide)⟩

theorem RingWF.qmemUpd {x : Session} (h : RingWF x) (q : Query) : RingWF (qmemUpd x q) := by
  unfold C02L.qmemUpd
  simp only
  split
  · cases List.idxOf? 46 q.name with
    | none => exact h
    | some cp =>
      simp only
      split
      · exact h
      · exact ⟨h.qlen, h.qlast, by simp [saveToQmem, h.plen], ringFill_lt QMEMPING_LEN x.qmempingLast (by decide),
          h.clen, h.clast⟩
  · split
    · exact h
    · exact ⟨by simp [saveToQmem, h.qlen], ringFill_lt QMEMDATA_LEN x.qmemdataLast (by decide), h.plen, h.plast,
        h.clen, h.clast⟩

theorem RingWF.resetSession {x : Session} (h : RingWF x) : RingWF (resetSession x) :=
  ⟨by simp [Server.resetSession, h.qlen], by simp [Server.resetSession, QMEMDATA_LEN],
   by simp [Server.resetSession, h.plen], by simp [Server.resetSession, QMEMPING_LEN],
   by simp [Server.resetSession, clearDnscache, h.clen], by simp [Server.resetSession, DNSCACHE_LEN]⟩

/-- the `N` handler's cache flush keeps them well-formed -/
theorem RingWF.clearCache {x : Session} (h : RingWF x) (f : Nat) (b : Bool) :
    RingWF { x with fragsize := f, optionsLocked := b, dnscache := clearDnscache x.dnscache } :=
  ⟨h.qlen, h.qlast, h.plen, h.plast, by simp [clearDnscache, h.clen], h.clast⟩

theorem RingWF.congr {x y : Session} (h : RingWF x) (h1 : y.qmemdata = x.qmemdata) (h2 : y.qmemdataLast = x.qmemdataLast)
    (h3 : y.qmemping = x.qmemping) (h4 : y.qmempingLast = x.qmempingLast) (h5 : y.dnscache = x.dnscache)
    (h6 : y.dcLast = x.dcLast) : RingWF y :=
  ⟨h1 ▸ h.qlen, h2 ▸ h.qlast, h3 ▸ h.plen, h4 ▸ h.plast, h5 ▸ h.clen, h6 ▸ h.clast⟩

/-- `Aged` for the `nq` newest positions of `qmemdata` and the `nc` newest of `dnscache` only; `AgedTo … 15 4` is `Aged`,
`AgedTo … 0 0` is just `RingWF` -/
structure AgedTo (P : Par) (x : Session) (k nq nc sl : Nat) : Prop where
  wf : RingWF x
  qmem : RingAgedTo nq QMEMDATA_LEN x.qmemdata x.qmemdataLast QmemEntry.zero (QRel P) k 36 sl
  cache : RingAgedTo nc DNSCACHE_LEN x.dnscache x.dcLast DnsCacheEntry.zero (CRel P) k 36 sl

theorem AgedTo.of_wf {P : Par} {x : Session} (h : RingWF x) (k sl : Nat) : AgedTo P x k 0 0 sl :=
  ⟨h, RingAgedTo.zero _ _ _ _ _ _ _ _, RingAgedTo.zero _ _ _ _ _ _ _ _⟩

theorem AgedTo.aged {P : Par} {x : Session} {k nq nc sl : Nat} (h : AgedTo P x k nq nc sl) (hq : 15 ≤ nq) (hc : 4 ≤ nc) :
    Aged P x k sl :=
  ⟨h.wf.qlen, h.wf.qlast, h.wf.clen, h.wf.clast, h.qmem.full hq, h.cache.full hc⟩

theorem Aged.to {P : Par} {x : Session} {k sl : Nat} (h : Aged P x k sl) (hp : x.qmemping.length = QMEMPING_LEN)
    (hl : x.qmempingLast < QMEMPING_LEN) (nq nc : Nat) : AgedTo P x k nq nc sl :=
  ⟨⟨h.qlen, h.qlast, hp, hl, h.clen, h.clast⟩, h.qmem.to nq, h.cache.to nc⟩

theorem AgedTo.mono {P : Par} {x : Session} {k nq nc nq' nc' sl sl' : Nat} (h : AgedTo P x k nq nc sl) (hq : nq' ≤ nq)
    (hc : nc' ≤ nc) (hs : sl ≤ sl') : AgedTo P x k nq' nc' sl' :=
  ⟨h.wf, h.qmem.mono hq hs, h.cache.mono hc hs⟩

/-- the client sent a data query (its counter advanced) -/
theorem AgedTo.step {P : Par} {x : Session} {k nq nc sl : Nat} (h : AgedTo P x k nq nc sl) (hk : k < 36) (hsl : sl ≤ 21) :
    AgedTo P x ((k + 1) % 36) nq nc (sl + 1) := by
  rw [← nxt_eq_mod hk]
  exact ⟨h.wf, h.qmem.step hk (by simp [QMEMDATA_LEN]; omega), h.cache.step hk (by simp [DNSCACHE_LEN]; omega)⟩

/-- the answer to a data query whose counter value is `a0 ≤ sl` steps behind is remembered: one more position of each ring
is known -/
theorem AgedTo.memo {P : Par} {x : Session} {k nq nc sl : Nat} (h : AgedTo P x k nq nc (sl + 1)) (q : Query) (ans : List Nat)
    (hans : ans.length ≤ DNSCACHE_ANSWER_SIZE) (k0 a0 : Nat) (ha : 1 ≤ a0 ∧ a0 ≤ sl) (hb : Behind 36 k k0 a0) (hk0 : k0 < 36)
    (h4 : q.name.getD 4 0 = cmcChar k0) (h5 : 5 ≤ q.name.length)
    (h0 : q.name.getD 0 0 ≠ 80 ∧ q.name.getD 0 0 ≠ 112) :
    AgedTo P (cacheUpd (qmemUpd x q) q ans) k (nq + 1) (nc + 1) sl := by
  have hwf : RingWF (cacheUpd (qmemUpd x q) q ans) := (h.wf.qmemUpd q).cacheUpd q ans
  rw [cacheUpd_eq _ _ _ hans, qmemUpd_data x q h5 h0] at hwf ⊢
  exact ⟨hwf, h.qmem.push h.wf.qlen h.wf.qlast _ (qrel_data q ha hb hk0 h4),
    h.cache.push h.wf.clen h.wf.clast _ (crel_data q ans ha hb hk0 h4)⟩

/-- the answer to a ping is remembered: one more position of `dnscache` is known -/
theorem AgedTo.memo_ping {P : Par} (hu : P.u < 16) {x : Session} {k nq nc sl : Nat} (h : AgedTo P x k nq nc sl) (q : Query)
    (ans : List Nat) (hans : ans.length ≤ DNSCACHE_ANSWER_SIZE) (h0 : q.name.getD 0 0 = 112) (cp : Nat)
    (hcp : q.name.idxOf? 46 = some cp) (hl : 4 ≤ (Codec.dec Codec.b32 8 (cp - 1) (q.name.drop 1)).length) :
    AgedTo P (cacheUpd (qmemUpd x q) q ans) k nq (nc + 1) sl := by
  have hwf : RingWF (cacheUpd (qmemUpd x q) q ans) := (h.wf.qmemUpd q).cacheUpd q ans
  rw [cacheUpd_eq _ _ _ hans, qmemUpd_ping x q h0 cp hcp hl] at hwf ⊢
  exact ⟨hwf, h.qmem, h.cache.push_irrel h.wf.clen h.wf.clast _ (crel_ping hu q ans h0)⟩

/-- clean query/answer cycles on a slot `x` with the client's data-CMC counter `k`: `nd` data cycles (the client sends the
data query that carries `k`, the server remembers it with its answer) and `nc − nd` ping cycles, in any order -/
inductive CleanSess : Nat → Nat → Session × Nat → Session × Nat → Prop
  | nil (s : Session × Nat) : CleanSess 0 0 s s
  | data {nd nc : Nat} {s : Session × Nat} {x : Session} {k : Nat} (h : CleanSess nd nc s (x, k)) (q : Query) (ans : List Nat)
      (hans : ans.length ≤ DNSCACHE_ANSWER_SIZE) (h4 : q.name.getD 4 0 = cmcChar k) (h5 : 5 ≤ q.name.length)
      (h0 : q.name.getD 0 0 ≠ 80 ∧ q.name.getD 0 0 ≠ 112) :
      CleanSess (nd + 1) (nc + 1) s (cacheUpd (qmemUpd x q) q ans, (k + 1) % 36)
  | ping {nd nc : Nat} {s : Session × Nat} {x : Session} {k : Nat} (h : CleanSess nd nc s (x, k)) (q : Query) (ans : List Nat)
      (hans : ans.length ≤ DNSCACHE_ANSWER_SIZE) (h0 : q.name.getD 0 0 = 112) (cp : Nat) (hcp : q.name.idxOf? 46 = some cp)
      (hl : 4 ≤ (Codec.dec Codec.b32 8 (cp - 1) (q.name.drop 1)).length) :
      CleanSess nd (nc + 1) s (cacheUpd (qmemUpd x q) q ans, k)

/-- **RENEWAL, slot level.**  From ANY well-formed slot and counter value: after `nd` data cycles and `nc − nd` ping cycles the
`nd` newest entries of `qmemdata` and the `nc` newest of `dnscache` are aged with slack 1. -/
theorem CleanSess.renew {P : Par} (hu : P.u < 16) {nd nc : Nat} {x0 x : Session} {k0 k : Nat}
    (h : CleanSess nd nc (x0, k0) (x, k)) (hwf : RingWF x0) (hk : k0 < 36) : k < 36 ∧ AgedTo P x k nd nc 1 := by
  generalize hs : (x0, k0) = s at h
  generalize ht : (x, k) = t at h
  induction h generalizing x k with
  | nil s =>
    subst hs
    cases ht
    exact ⟨hk, AgedTo.of_wf hwf _ _⟩
  | data h q ans hans h4 h5 h0 ih =>
    cases ht
    obtain ⟨h1, h2⟩ := ih hs rfl
    exact ⟨Nat.mod_lt _ (by decide),
      (h2.step h1 (by decide)).memo q ans hans _ 1 ⟨Nat.le_refl 1, Nat.le_refl 1⟩ (behind_succ_mod h1) h1 h4 h5 h0⟩
  | ping h q ans hans h0 cp hcp hl ih =>
    cases ht
    obtain ⟨h1, h2⟩ := ih hs rfl
    exact ⟨h1, h2.memo_ping hu q ans hans h0 cp hcp hl⟩

/-- … hence after 15 data cycles `Aged … 1` holds again, whatever the memories held before (the `dnscache` ring is renewed
after 4 cycles of either kind already). -/
theorem CleanSess.renewed {P : Par} (hu : P.u < 16) {nd nc : Nat} {x0 x : Session} {k0 k : Nat}
    (h : CleanSess nd nc (x0, k0) (x, k)) (hwf : RingWF x0) (hk : k0 < 36) (hnd : 15 ≤ nd) (hnc : 4 ≤ nc) :
    k < 36 ∧ Aged P x k 1 :=
  ⟨(h.renew (P := P) hu hwf hk).1, (h.renew hu hwf hk).2.aged hnd hnc⟩

theorem CleanSess.le {nd nc : Nat} {s t : Session × Nat} (h : CleanSess nd nc s t) : nd ≤ nc := by
  induction h <;> omega

end Iodine.C02L
