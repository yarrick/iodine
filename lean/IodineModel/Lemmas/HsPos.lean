import IodineModel.Client.Handshake
import IodineModel.Lemmas.CliFrame
import IodineModel.Lemmas.Ite
/-
What the invariants of the handshake machine (`Client/Handshake.lean`) are built on: the `_cases` lemmas, which take the nested
conditionals of the larger continuation functions apart once; the rank of a place (`hsRank`); and `Leaf`, the ways out of a
continuation function (see the section of that name), with one `leaf_*` lemma per function.  Termination, "no `system()`", the
buffers and the query invariant each follow from one lemma about `Leaf`.
-/
namespace Iodine.Client
open Iodine Iodine.Gen

theorem fragFinish_cases (s : HState) (evs : List CEvent) (m : Int) :
    fragFinish s evs m = s.done evs 1 ∨ ∃ f, fragFinish s evs m = setFragEnter s evs f := by
  rw [fragFinish]
  exact ite_both (P := fun o => o = s.done evs 1 ∨ ∃ f, o = setFragEnter s evs f) (.inl rfl) (.inr ⟨_, rfl⟩)

/-- the thread parks for try `i` of the same size, or — the tries used up — for the first try of the next size, with half
the range, or the search is over -/
theorem fragHead_cases (s : HState) (evs : List CEvent) (pr rg : Nat) (m : Int) (i : Nat) :
    (i < 3 ∧ fragHead s evs pr rg m i = s.park (sendFragsizeProbe s.c pr) evs (.frag pr rg m i)) ∨
    (3 ≤ i ∧ 0 < rg / 2 ∧
      ∃ pr', fragHead s evs pr rg m i = s.park (sendFragsizeProbe s.c pr') evs (.frag pr' (rg / 2) m 0)) ∨
    fragHead s evs pr rg m i = fragFinish s evs m := by
  rw [fragHead]
  by_cases h : s.c.running = true ∧ i < 3
  · rw [if_pos h]; exact .inl ⟨h.2, rfl⟩
  rw [if_neg h]
  by_cases hm : m < 0
  · rw [if_pos hm]; exact .inr (.inr rfl)
  rw [if_neg hm]
  by_cases hc : s.c.running = true ∧ rg / 2 > 0 ∧ (rg / 2 ≥ 8 ∨ m < 300)
  · rw [if_pos hc]; exact .inr (.inl ⟨Nat.le_of_not_lt fun hi => h ⟨hc.1, hi⟩, hc.2.1, _, rfl⟩)
  · rw [if_neg hc]; exact .inr (.inr rfl)

theorem fragGot_cases (s : HState) (pr rg : Nat) (m : Int) (i : Nat) (read : Int) :
    ∃ m' i', (i' = i + 1 ∨ i' = 3) ∧ fragGot s pr rg m i read = fragHead s [] pr rg m' i' := by
  rw [fragGot]
  by_cases h : read > 0
  · rw [if_pos h]
    extract_lets r
    by_cases hb : r.2 = true
    · rw [if_pos hb]; exact ⟨_, _, .inr rfl, rfl⟩
    · rw [if_neg hb]; exact ⟨_, _, .inl rfl, rfl⟩
  · rw [if_neg h]; exact ⟨_, _, .inl rfl, rfl⟩

/-- the values of `downenc`: ' ' (the default, Base32), `T`, `S`, `U`, `V`, `R`.  (This and `DnCodec` belong to the vocabulary of
the query invariant, namespace `CliQ`; they stand here because `Upd` and `Parks` below are stated with them.) -/
def _root_.Iodine.CliQ.DownencOk (d : Nat) : Prop := d = 32 ∨ d = 84 ∨ d = 83 ∨ d = 85 ∨ d = 86 ∨ d = 82

/-- the codec letters `handshake_downenctest` is called with -/
def _root_.Iodine.CliQ.DnCodec (codec : Nat) : Prop := codec = 83 ∨ codec = 85 ∨ codec = 86 ∨ codec = 82 ∨ codec = 84

/-- … are the values of `downenc` but the default -/
theorem _root_.Iodine.CliQ.dnCodec_iff (codec : Nat) : CliQ.DnCodec codec ↔ CliQ.DownencOk codec ∧ codec ≠ 32 := by
  unfold CliQ.DnCodec CliQ.DownencOk; omega

theorem downencFinish_cases (s : HState) (evs : List CEvent) (b64ok b64uok b128ok : Bool) :
    ∃ d, CliQ.DownencOk d ∧ downencFinish s evs b64ok b64uok b128ok = downencRet s evs d := by
  rw [downencFinish]
  cases s.c.running <;> cases b128ok <;> cases b64ok <;> cases b64uok <;>
    exact ⟨_, by unfold CliQ.DownencOk; omega, rfl⟩

/-- behind one codec test: the first try of a test later in the order S, U, V, R, or the end of the detection -/
def DownencTestRes (s : HState) (evs : List CEvent) (codec : Nat) (o : HOut) : Prop :=
  (∃ c' b', ((codec = 83 ∧ (c' = 85 ∨ c' = 86)) ∨ (codec = 85 ∧ c' = 86) ∨ (codec = 86 ∧ c' = 82)) ∧
    o = ({ s with inb := [] }).park (sendDownenctest s.c c') evs (.downenc c' b' 0)) ∨
  (∃ a b c, o = downencFinish s evs a b c) ∨ o = downencRet s evs 82

theorem downencTestRet_cases (s : HState) (evs : List CEvent) (codec : Nat) (b64 ok : Bool) :
    DownencTestRes s evs codec (downencTestRet s evs codec b64 ok) := by
  rw [downencTestRet]
  have fin : ∀ a b c, DownencTestRes s evs codec (downencFinish s evs a b c) := fun a b c => .inr (.inl ⟨a, b, c, rfl⟩)
  by_cases h83 : codec = 83
  · rw [if_pos h83]
    exact ite_both (ite_both (.inl ⟨86, true, .inl ⟨h83, .inr rfl⟩, rfl⟩) (fin _ _ _))
      (ite_both (.inl ⟨85, false, .inl ⟨h83, .inl rfl⟩, rfl⟩) (fin _ _ _))
  rw [if_neg h83]
  by_cases h85 : codec = 85
  · rw [if_pos h85]
    exact ite_both (.inl ⟨86, false, .inr (.inl ⟨h85, rfl⟩), rfl⟩) (fin _ _ _)
  rw [if_neg h85]
  by_cases h86 : codec = 86
  · rw [if_pos h86]
    exact ite_both (.inl ⟨82, b64, .inr (.inr ⟨h86, rfl⟩), rfl⟩) (fin _ _ _)
  · rw [if_neg h86]
    exact ite_both (.inr (.inr rfl)) (fin _ _ _)

theorem upencRet_cases (s : HState) (evs : List CEvent) (u : Nat) :
    upencRet s evs u = s.done evs (-1) ∨ (∃ bits, upencRet s evs u = switchCodecHead { s with inb := [] } evs bits 0) ∨
    upencRet s evs u = afterSwitchCodec s evs := by
  rw [upencRet]
  by_cases hr : (!s.c.running) = true
  · rw [if_pos hr]; exact .inl rfl
  rw [if_neg hr]
  by_cases h1 : u = 1
  · rw [if_pos h1]; exact .inr (.inl ⟨_, rfl⟩)
  rw [if_neg h1]
  by_cases h2 : u = 2
  · rw [if_pos h2]; exact .inr (.inl ⟨_, rfl⟩)
  rw [if_neg h2]
  by_cases h3 : u = 3
  · rw [if_pos h3]; exact .inr (.inl ⟨_, rfl⟩)
  · rw [if_neg h3]; exact .inr (.inr rfl)

/-- behind the test of probe string `p`: the detection returns, or the first try of a later probe string -/
def UpencTestRes (s : HState) (evs : List CEvent) (p : Nat) (o : HOut) : Prop :=
  (∃ s' u, (s' = s ∨ s' = { s with inb := [] }) ∧ o = upencRet s' evs u) ∨
  (∃ q, p < q ∧ q ≤ 6 ∧ o = ({ s with inb := [] }).park (sendUpenctest s.c (upPattern q)) evs (.upenc q 0))

theorem upencTestRet_cases (s : HState) (evs : List CEvent) (p : Nat) (res : Int) :
    UpencTestRes s evs p (upencTestRet s evs p res) := by
  rw [upencTestRet]
  have ret : ∀ u, UpencTestRes s evs p (upencRet s evs u) := fun u => .inl ⟨s, u, .inl rfl, rfl⟩
  -- the entry of the next `handshake_upenctest`
  have en : ∀ {c : Prop} [Decidable c] (q : Nat), p < q → q ≤ 6 → UpencTestRes s evs p
      (if c then ({ s with inb := [] }).park (sendUpenctest s.c (upPattern q)) evs (.upenc q 0)
       else upencRet { s with inb := [] } evs 0) :=
    fun q h1 h2 => ite_both (.inr ⟨q, h1, h2, rfl⟩) (.inl ⟨_, 0, .inr rfl, rfl⟩)
  by_cases h5 : p < 5
  · rw [if_pos h5]
    exact ite_both (ret 0) <| ite_both (en 5 h5 (by omega)) <| ite_both (ret 3) (en (p + 1) (by omega) (by omega))
  rw [if_neg h5]
  by_cases h : p = 5
  · rw [if_pos h]
    exact ite_both (ret 0) <| ite_both (ret 1) (en 6 (by omega) (by omega))
  · rw [if_neg h]
    exact ite_both (ret 0) <| ite_both (ret 2) (ret 0)

def UpencGotRes (s : HState) (p i : Nat) (o : HOut) : Prop :=
  (∃ res, o = upencTestRet s [] p res) ∨ o = upencTestHead s [] p (i + 1)

theorem upencTestGot_cases (s : HState) (p i : Nat) (read : Int) : UpencGotRes s p i (upencTestGot s p i read) := by
  rw [upencTestGot]
  have ret : ∀ res, UpencGotRes s p i (upencTestRet s [] p res) := fun res => .inl ⟨res, rfl⟩
  exact ite_both (ret 0) <| ite_both (ret 0) <|
    ite_both (ite_both (ret (-1)) <| ite_both (ret (-1)) <| ite_both (ret 1) (ret 0)) (.inr rfl)

/-- the commands `handshake_login` runs on a reply of `read` bytes -/
def loginCommands (s : HState) (read : Int) : List (List Nat) :=
  if read > 0 then (Shell.loginStep s.dev (s.inb.take read.toNat) 0).commands else []

/-- every way out of the loop body of `handshake_login` carries the commands of the reply as its events -/
theorem loginGot_cases (s : HState) (seed i : Nat) (read : Int) :
    loginGot s seed i read = afterLogin s ((loginCommands s read).map CEvent.sys) seed ∨
    loginGot s seed i read = s.done ((loginCommands s read).map CEvent.sys) 1 ∨
    loginGot s seed i read = ({ s with pos := none }, (loginCommands s read).map CEvent.sys, .errx 4) ∨
    loginGot s seed i read = loginHead s ((loginCommands s read).map CEvent.sys) seed (i + 1) := by
  rw [loginGot, loginCommands]
  by_cases h : read > 0
  · rw [if_pos h, if_pos h]
    extract_lets o evs
    cases hr : o.result <;> simp only [hr]
    · exact .inl rfl
    · exact .inr (.inl rfl)
    · exact .inr (.inl rfl)
    · exact .inr (.inr (.inr rfl))
    · exact .inr (.inr (.inl rfl))
  · rw [if_neg h, if_neg h]; exact .inr (.inr (.inr rfl))

/-- a VACK reply sets the user id and its two hex digits and enters `handshake_login`; VNAK and VFUL end the handshake -/
theorem versionGot_cases (s : HState) (i : Nat) (read : Int) :
    (∃ u seed, versionGot s i read =
      loginHead { s with c := { s.c with userid := u, useridChar := hexLower.getD (maskI u 16) 0,
                                         useridChar2 := hexUpper.getD (maskI u 16) 0 }, inb := [] } [] seed 0) ∨
    versionGot s i read = s.done [] 1 ∨ versionGot s i read = versionHead s [] (i + 1) := by
  rw [versionGot]
  by_cases h : read ≥ 9
  · rw [if_pos h]
    by_cases h1 : s.inIs "VACK" = true
    · rw [if_pos h1]; exact .inl ⟨_, _, rfl⟩
    rw [if_neg h1]
    by_cases h2 : s.inIs "VNAK" = true
    · rw [if_pos h2]; exact .inr (.inl rfl)
    rw [if_neg h2]
    by_cases h3 : s.inIs "VFUL" = true
    · rw [if_pos h3]; exact .inr (.inl rfl)
    · rw [if_neg h3]; exact .inr (.inr rfl)
  · rw [if_neg h]; exact .inr (.inr rfl)

/-- number of halvings until `n` is 0 -/
def halvings (n : Nat) : Nat := if n = 0 then 0 else halvings (n / 2) + 1
decreasing_by omega

theorem halvings_pos {n : Nat} (h : n ≠ 0) : halvings n = halvings (n / 2) + 1 := by
  rw [halvings]; simp [h]

theorem halvings_le {n k : Nat} (h : n < 2 ^ k) : halvings n ≤ k := by
  induction k generalizing n with
  | zero =>
    have h0 : n = 0 := by simpa using h
    rw [h0, halvings, if_pos rfl]; exact Nat.le_refl 0
  | succ k ih =>
    by_cases hn : n = 0
    · rw [hn, halvings, if_pos rfl]; exact Nat.zero_le _
    · rw [halvings_pos hn]
      exact Nat.succ_le_succ (ih (by rw [Nat.pow_succ] at h; omega))

/-- probe strings still ahead of pattern `p` -/
def upW (p : Nat) : Nat := 6 - p

/-- codec tests still ahead of codec letter `codec` (S, U, V, then R) -/
def dnW (codec : Nat) : Nat := if codec = 83 then 3 else if codec = 85 then 2 else if codec = 86 then 1 else 0

/-- The rank of a place: the phases of `client_handshake` in reverse order of execution, each on a stretch of its own above all
that follow it (set fragsize from 0, fragsize search 6, lazy switch 50, downstream switch 56, downstream codec tests 62, upstream
switch 78, upstream codec tests 84, EDNS0 112, raw login 116, raw ip request 121, login 125, version 131, query type 137), and inside
a stretch one less with every try.  The bound `B` of a `leaf_*` lemma below is such a start plus what is left of the stretch: a
function that enters a phase is bounded by the start of the next stretch above (`leaf_afterLazy` enters the fragsize search: 50,
`leaf_afterSwitchDown` the lazy switch: 56, …), `hsStart` by 162 (`leaf_hsStart`). -/
def hsRank : HPos → Nat
  | .setFrag _ i => 5 - i
  | .frag _ range _ i => 6 + halvings range * 4 + (3 - i)
  | .lazy i => 50 + (5 - i)
  | .switchDown i => 56 + (5 - i)
  | .downenc codec _ i => 62 + dnW codec * 4 + (3 - i)
  | .switchCodec _ i => 78 + (5 - i)
  | .upenc p i => 84 + upW p * 4 + (3 - i)
  | .edns i => 112 + (3 - i)
  | .rawLogin _ i => 116 + (4 - i)
  | .rawIp _ i => 121 + (3 - i)
  | .login _ i => 125 + (5 - i)
  | .version i => 131 + (5 - i)
  | .qtype t q _ => 137 + (3 - t) * 8 + (7 - q)

/-! ### the ways out of a continuation function

Every continuation function ends in one of two ways: the handshake is over (returned, or `errx`), or the thread parks behind
one of thirteen senders (`Parks`); and the state it ends in differs from the one it started in only in the negotiated statics
and `in[]` (`Upd`).  `Leaf l B s evs o` says that `o` is such an end, with events appended to `evs`; a parked end is at a
place of rank below `B` (`hsRank`: the places in the order of the C text, later = smaller, with the retries left).  An
invariant of the machine that `Upd` preserves and every sender respects is proved once, for `Leaf`; that every function comes
with a bound is what makes the handshake end.

The flag `l` ("late"): the code from `handshake_login` on leaves the query type and the user-id character alone and only
tests codecs it knows; that is what the legality of the queries rests on (`l = true`).  The version handshake and the
query-type detection in front of it set these two, so their lemmas hold for `l = false` only; the lemmas from the login on
hold for both. -/

/-- What the handshake code may do to the state.  The equations are the fields it leaves alone; `ty` and `uc` (query type, user-id
character) are left alone only from the login on (`l = true`); `dn` and `inb` allow a change: `downenc` to a codec letter, `in[]`
to at most `sizeof(in)` bytes.  Not mentioned, so free to change: `dataenc`, `lazymode`, `selecttimeout`, `edns0`, `conn`, the
clock, the ids and — before the login — `userid`. -/
structure Upd (l : Bool) (s s' : HState) : Prop where
  td : s'.c.topdomain = s.c.topdomain
  ml : s'.c.hostnameMaxlen = s.c.hostnameMaxlen
  cmc : s'.c.datacmc = s.c.datacmc
  outpkt : s'.c.outpkt = s.c.outpkt
  inpkt : s'.c.inpkt = s.c.inpkt
  ty : l = true → s'.c.doQtype = s.c.doQtype
  uc : l = true → s'.c.useridChar = s.c.useridChar
  dn : s'.c.downenc = s.c.downenc ∨ CliQ.DownencOk s'.c.downenc
  dev : s'.dev = s.dev
  inb : s'.inb = s.inb ∨ s'.inb.length ≤ 4096

variable {l : Bool}

theorem Upd.refl (s : HState) : Upd l s s := ⟨rfl, rfl, rfl, rfl, rfl, fun _ => rfl, fun _ => rfl, .inl rfl, rfl, .inl rfl⟩

theorem Upd.trans {a b c : HState} (h1 : Upd l a b) (h2 : Upd l b c) : Upd l a c :=
  ⟨h2.td.trans h1.td, h2.ml.trans h1.ml, h2.cmc.trans h1.cmc, h2.outpkt.trans h1.outpkt, h2.inpkt.trans h1.inpkt,
   fun h => (h2.ty h).trans (h1.ty h), fun h => (h2.uc h).trans (h1.uc h), h2.dn.elim (fun h => h ▸ h1.dn) .inr,
   h2.dev.trans h1.dev, h2.inb.elim (fun h => h ▸ h1.inb) .inr⟩

theorem Upd.neutral (s : HState) (e : Enc) (m : Bool) (t : Int) (b : Bool) (k : Conn) (n : Nat) {x : List Nat}
    (hx : x.length ≤ 4096) :
    Upd l s { s with c := { s.c with dataenc := e, lazymode := m, selecttimeout := t, edns0 := b, conn := k, now := n },
                     inb := x } :=
  ⟨rfl, rfl, rfl, rfl, rfl, fun _ => rfl, fun _ => rfl, .inl rfl, rfl, .inr hx⟩

theorem Upd.inb0 (s : HState) : Upd l s { s with inb := [] } := .neutral s _ _ _ _ _ _ (Nat.zero_le _)

theorem Upd.statics (s : HState) (e : Enc) (m : Bool) (t : Int) (b : Bool) (k : Conn) :
    Upd l s { s with c := { s.c with dataenc := e, lazymode := m, selecttimeout := t, edns0 := b, conn := k } } :=
  ⟨rfl, rfl, rfl, rfl, rfl, fun _ => rfl, fun _ => rfl, .inl rfl, rfl, .inl rfl⟩

/-- the query (or raw frame) the thread parks behind at `p`, sent from the state `s` -/
inductive Parks (l : Bool) (s : HState) : Res → HPos → Prop
  | setFrag (f : Int) (i : Nat) : Parks l s (sendSetFragsize s.c f) (.setFrag f i)
  | frag (pr rg : Nat) (m : Int) (i : Nat) : Parks l s (sendFragsizeProbe s.c pr) (.frag pr rg m i)
  | lazy (i : Nat) : Parks l s (sendLazySwitch s.c) (.lazy i)
  | switchDown (i : Nat) : Parks l s (sendHandshakeQuery s.c (switchDownPrefix s.c)) (.switchDown i)
  | downenc (codec : Nat) (b64 : Bool) (i : Nat)
      (h : l = true → CliQ.DnCodec codec) :
      Parks l s (sendDownenctest s.c codec) (.downenc codec b64 i)
  | switchCodec (bits i : Nat) :
      Parks l s (sendHandshakeQuery s.c [115, b32_5to8 s.c.userid, b32_5to8 (bits : Int)]) (.switchCodec bits i)
  | upenc (q i : Nat) : Parks l s (sendUpenctest s.c (upPattern q)) (.upenc q i)
  | edns (i : Nat) : Parks l s (sendDownenctest s.c (ednsCodec s.c)) (.edns i)
  | rawLogin (seed i : Nat) : Parks l s (sendRawUdpLogin s seed) (.rawLogin seed i)
  | rawIp (seed i : Nat) : Parks l s (sendHandshakeQuery s.c [105, b32_5to8 s.c.userid]) (.rawIp seed i)
  | login (seed i : Nat) : Parks l s (sendLogin s.c (Login.loginCalcC s.pw seed)) (.login seed i)
  | version (i : Nat) : Parks l s (sendVersion s.c) (.version i)
  | qtype (codec t q h : Nat) (hl : l = false) : Parks l s (sendDownenctest s.c codec) (.qtype t q h)

/-- what the thread parks behind writes only the ids and the CMC seed … -/
theorem parks_frame {s : HState} {r : Res} {p : HPos} (h : Parks l s r p) : CFrame erIds s.c r.1 := by
  cases h with
  | setFrag => exact frame_sendSetFragsize _ _
  | frag => exact frame_sendFragsizeProbe _ _
  | lazy => exact frame_sendLazySwitch _
  | switchDown => exact frame_sendHandshakeQuery _ _
  | downenc => exact frame_sendDownenctest _ _
  | switchCodec => exact frame_sendHandshakeQuery _ _
  | upenc => exact frame_sendUpenctest _ _
  | edns => exact frame_sendDownenctest _ _
  | rawLogin => exact .refl _ _
  | rawIp => exact frame_sendHandshakeQuery _ _
  | login => exact frame_sendLogin _ _
  | version => exact frame_sendVersion _
  | qtype => exact frame_sendDownenctest _ _

/-- … and emits queries only, or is the raw login frame -/
theorem parks_events {s : HState} {r : Res} {p : HPos} (h : Parks l s r p) :
    OnlyQ r.2 ∨ ∃ seed, r = sendRawUdpLogin s seed := by
  cases h with
  | rawLogin seed => exact .inr ⟨seed, rfl⟩
  | setFrag => exact .inl (onlyQ_sendSetFragsize _ _)
  | login => exact .inl (onlyQ_sendLogin _ _)
  | version => exact .inl (onlyQ_sendVersion _)
  | frag => exact .inl (onlyQ_sendFragsizeProbe _ _)
  | upenc => exact .inl (onlyQ_sendUpenctest _ _)
  | lazy => exact .inl (onlyQ_sendLazySwitch _)
  | downenc | edns | qtype => exact .inl (onlyQ_sendDownenctest _ _)
  | switchDown | switchCodec | rawIp => exact .inl (onlyQ_sendHandshakeQuery _ _)

inductive Leaf (l : Bool) (B : Nat) (s : HState) (evs : List CEvent) : HOut → Prop
  | stop (s' : HState) (nx : Next) : Upd l s s' → Leaf l B s evs ({ s' with pos := none }, evs, nx)
  | park (s' : HState) (r : Res) (p : HPos) : Upd l s s' → Parks l s' r p → hsRank p < B → Leaf l B s evs (s'.park r evs p)

theorem Leaf.done (B : Nat) (s : HState) (evs : List CEvent) (rv : Int) : Leaf l B s evs (s.done evs rv) := .stop s _ (.refl s)

theorem Leaf.parked {B : Nat} {s : HState} {r : Res} {p : HPos} (evs : List CEvent) (h : Parks l s r p) (hB : hsRank p < B) :
    Leaf l B s evs (s.park r evs p) :=
  .park s r p (.refl s) h hB

theorem Leaf.mono {B B' : Nat} {s s1 : HState} {evs : List CEvent} {o : HOut} (h : Leaf l B s1 evs o) (hu : Upd l s s1)
    (hB : B ≤ B' := by omega) : Leaf l B' s evs o := by
  cases h with
  | stop s' nx h => exact .stop s' nx (hu.trans h)
  | park s' r p h hs hp => exact .park s' r p (hu.trans h) hs (Nat.lt_of_lt_of_le hp hB)

theorem Leaf.le {B B' : Nat} {s : HState} {evs : List CEvent} {o : HOut} (h : Leaf l B s evs o) (hB : B ≤ B' := by omega) :
    Leaf l B' s evs o :=
  h.mono (.refl s) hB

theorem Leaf.enter {B B' : Nat} {s : HState} {evs : List CEvent} {o : HOut} (h : Leaf l B { s with inb := [] } evs o)
    (hB : B ≤ B' := by omega) : Leaf l B' s evs o :=
  h.mono (.inb0 s) hB

/-- the head of a retry loop: the thread parks at `p` while the loop condition holds -/
theorem Leaf.head {c : Prop} [Decidable c] {B : Nat} {s : HState} {r : Res} {p : HPos} {evs : List CEvent} {o : HOut}
    (hs : Parks l s r p) (hp : c → hsRank p < B) (ho : Leaf l B s evs o) : Leaf l B s evs (if c then s.park r evs p else o) := by
  by_cases h : c
  · rw [if_pos h]; exact .parked evs hs (hp h)
  · rw [if_neg h]; exact ho

theorem leaf_hsEnd (s : HState) (evs : List CEvent) : Leaf l 0 s evs (hsEnd s evs) := .done 0 s evs _

theorem leaf_setFragHead (s : HState) (evs : List CEvent) (f : Int) (i : Nat) : Leaf l (6 - i) s evs (setFragHead s evs f i) := by
  rw [setFragHead]
  exact .head (.setFrag f i) (fun h => by simp only [hsRank]; omega) (leaf_hsEnd s evs).le

theorem leaf_setFragGot (s : HState) (f : Int) (i : Nat) (read : Int) : Leaf l (5 - i) s [] (setFragGot s f i read) := by
  rw [setFragGot]
  exact ite_both (leaf_hsEnd s []).le (leaf_setFragHead s [] f (i + 1)).le

theorem leaf_setFragEnter (s : HState) (evs : List CEvent) (f : Int) : Leaf l 6 s evs (setFragEnter s evs f) :=
  (leaf_setFragHead _ evs f 0).enter

theorem leaf_fragFinish (s : HState) (evs : List CEvent) (m : Int) : Leaf l 6 s evs (fragFinish s evs m) := by
  rcases fragFinish_cases s evs m with h | ⟨f, h⟩ <;> rw [h]
  · exact .done 6 s evs 1
  · exact leaf_setFragEnter s evs f

/-- the tries for one size used up: what follows is ranked by the halvings of `range` left -/
theorem leaf_fragHead_ge (s : HState) (evs : List CEvent) (pr rg : Nat) (m : Int) (i : Nat) (hi : 3 ≤ i) :
    Leaf l (6 + halvings rg * 4) s evs (fragHead s evs pr rg m i) := by
  rcases fragHead_cases s evs pr rg m i with ⟨hlt, _⟩ | ⟨_, hr, pr', h⟩ | h
  · omega
  · rw [h]
    refine .parked evs (.frag pr' (rg / 2) m 0) ?_
    simp only [hsRank]
    rw [halvings_pos (n := rg) (by omega)]
    omega
  · rw [h]; exact (leaf_fragFinish s evs m).le

theorem leaf_fragHead (s : HState) (evs : List CEvent) (pr rg : Nat) (m : Int) (i : Nat) :
    Leaf l (6 + halvings rg * 4 + (4 - i)) s evs (fragHead s evs pr rg m i) := by
  rcases fragHead_cases s evs pr rg m i with ⟨hlt, h⟩ | ⟨h3, _⟩ | h
  · rw [h]; exact .parked evs (.frag pr rg m i) (by simp only [hsRank]; omega)
  · exact (leaf_fragHead_ge s evs pr rg m i h3).le
  · rw [h]; exact (leaf_fragFinish s evs m).le

theorem leaf_fragGot (s : HState) (pr rg : Nat) (m : Int) (i : Nat) (read : Int) :
    Leaf l (6 + halvings rg * 4 + (3 - i)) s [] (fragGot s pr rg m i read) := by
  obtain ⟨m', i', hi, h⟩ := fragGot_cases s pr rg m i read
  rw [h]
  rcases hi with rfl | rfl
  · exact (leaf_fragHead s [] pr rg m' (i + 1)).le
  · exact (leaf_fragHead_ge s [] pr rg m' 3 (Nat.le_refl _)).le

theorem leaf_fragEnter (s : HState) (evs : List CEvent) : Leaf l 50 s evs (fragEnter s evs) := by
  rw [fragEnter]
  exact ite_both ((leaf_fragHead _ evs 768 768 0 0).enter (by have := halvings_le (n := 768) (k := 10) (by decide); omega)) (leaf_fragFinish _ evs 0).enter

theorem leaf_afterLazy (s : HState) (evs : List CEvent) : Leaf l 50 s evs (afterLazy s evs) := by
  rw [afterLazy]
  exact ite_both (.done 50 s evs _) <| ite_both (leaf_fragEnter s evs) (leaf_setFragEnter s evs _).le

theorem leaf_lazyHead (s : HState) (evs : List CEvent) (i : Nat) : Leaf l (50 + (6 - i)) s evs (lazyHead s evs i) := by
  rw [lazyHead]
  exact .head (.lazy i) (fun h => by simp only [hsRank]; omega) <|
    ite_both (leaf_afterLazy s evs).le ((leaf_afterLazy (lazyRevert s) evs).mono (.statics s _ _ _ _ _))

theorem leaf_lazyGot (s : HState) (i : Nat) (read : Int) : Leaf l (50 + (5 - i)) s [] (lazyGot s i read) := by
  rw [lazyGot]
  exact ite_both (ite_both ((leaf_afterLazy (lazyRevert s) []).mono (.statics s _ _ _ _ _)) <|
    ite_both ((leaf_afterLazy _ []).mono (.statics s _ true _ _ _)) (leaf_lazyHead s [] (i + 1)).le) (leaf_lazyHead s [] (i + 1)).le

theorem leaf_afterSwitchDown (s : HState) (evs : List CEvent) : Leaf l 56 s evs (afterSwitchDown s evs) := by
  rw [afterSwitchDown]
  exact ite_both (.done 56 s evs _) <| ite_both (leaf_lazyHead _ evs 0).enter (leaf_afterLazy s evs).le

theorem leaf_switchDownHead (s : HState) (evs : List CEvent) (i : Nat) : Leaf l (56 + (6 - i)) s evs (switchDownHead s evs i) := by
  rw [switchDownHead]
  exact .head (.switchDown i) (fun h => by simp only [hsRank]; omega) (leaf_afterSwitchDown s evs).le

theorem leaf_switchDownGot (s : HState) (i : Nat) (read : Int) : Leaf l (56 + (5 - i)) s [] (switchDownGot s i read) := by
  rw [switchDownGot]
  exact ite_both (leaf_afterSwitchDown s []).le (leaf_switchDownHead s [] (i + 1)).le

theorem leaf_afterDownenc (s : HState) (evs : List CEvent) : Leaf l 62 s evs (afterDownenc s evs) := by
  rw [afterDownenc]
  exact ite_both (.done 62 s evs _) <| ite_both (leaf_switchDownHead _ evs 0).enter (leaf_afterSwitchDown s evs).le

theorem leaf_downencRet (s : HState) (evs : List CEvent) (d : Nat) (hd : CliQ.DownencOk d) :
    Leaf l 62 s evs (downencRet s evs d) :=
  (leaf_afterDownenc _ evs).mono ⟨rfl, rfl, rfl, rfl, rfl, fun _ => rfl, fun _ => rfl, .inr hd, rfl, .inl rfl⟩

theorem leaf_downencFinish (s : HState) (evs : List CEvent) (a b c : Bool) : Leaf l 62 s evs (downencFinish s evs a b c) := by
  obtain ⟨d, hd, h⟩ := downencFinish_cases s evs a b c
  rw [h]; exact leaf_downencRet s evs d hd

theorem leaf_downencTestRet (s : HState) (evs : List CEvent) (codec : Nat) (b64 ok : Bool) :
    Leaf l (62 + dnW codec * 4) s evs (downencTestRet s evs codec b64 ok) := by
  rcases downencTestRet_cases s evs codec b64 ok with ⟨c', b', hc, h⟩ | ⟨a, b, c, h⟩ | h <;> rw [h]
  · refine (Leaf.parked evs (.downenc c' b' 0 (fun _ => by unfold CliQ.DnCodec; omega)) ?_).enter (Nat.le_refl _)
    simp only [hsRank]
    rcases hc with ⟨rfl, rfl | rfl⟩ | ⟨rfl, rfl⟩ | ⟨rfl, rfl⟩ <;> decide
  · exact (leaf_downencFinish s evs a b c).le
  · exact (leaf_downencRet s evs 82 (by unfold CliQ.DownencOk; omega)).le

theorem leaf_downencTestHead (s : HState) (evs : List CEvent) (codec : Nat) (b64 : Bool) (i : Nat)
    (hc : l = true → CliQ.DnCodec codec) :
    Leaf l (62 + dnW codec * 4 + (4 - i)) s evs (downencTestHead s evs codec b64 i) := by
  rw [downencTestHead]
  exact .head (.downenc codec b64 i hc) (fun h => by simp only [hsRank]; omega) (leaf_downencTestRet s evs codec b64 false).le

theorem leaf_downencTestGot (s : HState) (codec : Nat) (b64 : Bool) (i : Nat) (read : Int)
    (hc : l = true → CliQ.DnCodec codec) :
    Leaf l (62 + dnW codec * 4 + (3 - i)) s [] (downencTestGot s codec b64 i read) := by
  rw [downencTestGot]
  cases checkReply s read with
  | some ok => exact (leaf_downencTestRet s [] codec b64 ok).le
  | none => exact (leaf_downencTestHead s [] codec b64 (i + 1) hc).le

theorem leaf_afterSwitchCodec (s : HState) (evs : List CEvent) : Leaf l 78 s evs (afterSwitchCodec s evs) := by
  rw [afterSwitchCodec]
  exact ite_both (.done 78 s evs _) <| ite_both
    (ite_both (leaf_downencRet s evs 32 (.inl rfl)).le ((leaf_downencTestHead _ evs 83 false 0 (fun _ => .inl rfl)).enter (by decide)))
    (leaf_afterDownenc s evs).le

theorem leaf_switchCodecHead (s : HState) (evs : List CEvent) (bits i : Nat) :
    Leaf l (78 + (6 - i)) s evs (switchCodecHead s evs bits i) := by
  rw [switchCodecHead]
  exact .head (.switchCodec bits i) (fun h => by simp only [hsRank]; omega) (leaf_afterSwitchCodec s evs).le

theorem leaf_switchCodecGot (s : HState) (bits i : Nat) (read : Int) : Leaf l (78 + (5 - i)) s [] (switchCodecGot s bits i read) := by
  rw [switchCodecGot]
  exact ite_both (ite_both (leaf_afterSwitchCodec s []).le ((leaf_afterSwitchCodec _ []).mono (.statics s (encOfBits bits) _ _ _ _)))
    (leaf_switchCodecHead s [] bits (i + 1)).le

theorem leaf_upencRet (s : HState) (evs : List CEvent) (u : Nat) : Leaf l 84 s evs (upencRet s evs u) := by
  rcases upencRet_cases s evs u with h | ⟨bits, h⟩ | h <;> rw [h]
  · exact .done 84 s evs _
  · exact (leaf_switchCodecHead _ evs bits 0).enter
  · exact (leaf_afterSwitchCodec s evs).le

theorem leaf_upencTestRet (s : HState) (evs : List CEvent) (p : Nat) (res : Int) :
    Leaf l (84 + upW p * 4) s evs (upencTestRet s evs p res) := by
  rcases upencTestRet_cases s evs p res with ⟨s', u, hs, h⟩ | ⟨q, _, _, h⟩ <;> rw [h]
  · rcases hs with rfl | rfl
    · exact (leaf_upencRet _ evs u).le
    · exact (leaf_upencRet _ evs u).enter
  · exact (Leaf.parked evs (.upenc q 0) (by simp only [hsRank, upW]; omega)).enter (Nat.le_refl _)

theorem leaf_upencTestHead (s : HState) (evs : List CEvent) (p i : Nat) :
    Leaf l (84 + upW p * 4 + (4 - i)) s evs (upencTestHead s evs p i) := by
  rw [upencTestHead]
  exact .head (.upenc p i) (fun h => by simp only [hsRank]; omega) (leaf_upencTestRet s evs p _).le

theorem leaf_upencTestGot (s : HState) (p i : Nat) (read : Int) :
    Leaf l (84 + upW p * 4 + (3 - i)) s [] (upencTestGot s p i read) := by
  rcases upencTestGot_cases s p i read with ⟨res, h⟩ | h <;> rw [h]
  · exact (leaf_upencTestRet s [] p res).le
  · exact (leaf_upencTestHead s [] p (i + 1)).le

theorem leaf_ednsRet (s : HState) (evs : List CEvent) (ok : Bool) : Leaf l 112 s evs (ednsRet s evs ok) := by
  rw [ednsRet]
  exact ite_both ((leaf_upencTestHead _ evs 0 0).enter (by decide)) <| ite_both (.done 112 s evs _)
    ((leaf_upencTestHead _ evs 0 0).mono (.neutral s _ _ _ _ _ _ (Nat.zero_le _)) (by decide))

theorem leaf_ednsHead (s : HState) (evs : List CEvent) (i : Nat) : Leaf l (112 + (4 - i)) s evs (ednsHead s evs i) := by
  rw [ednsHead]
  exact .head (.edns i) (fun h => by simp only [hsRank]; omega) (leaf_ednsRet s evs false).le

theorem leaf_ednsGot (s : HState) (i : Nat) (read : Int) : Leaf l (112 + (3 - i)) s [] (ednsGot s i read) := by
  rw [ednsGot]
  cases checkReply s read with
  | some ok => exact (leaf_ednsRet s [] ok).le
  | none => exact (leaf_ednsHead s [] (i + 1)).le

theorem leaf_dnsBranch (s : HState) (evs : List CEvent) : Leaf l 116 s evs (dnsBranch s evs) :=
  (leaf_ednsHead _ evs 0).mono (.neutral s _ _ _ _ _ _ (Nat.zero_le _))

theorem leaf_rawRet (s : HState) (evs : List CEvent) (ok : Bool) : Leaf l 116 s evs (rawRet s evs ok) := by
  rw [rawRet]
  exact ite_both ((Leaf.done 116 _ evs 0).mono (.statics s _ _ 20 _ .rawUdp)) (leaf_dnsBranch s evs)

theorem leaf_rawLoginHead (s : HState) (evs : List CEvent) (seed i : Nat) :
    Leaf l (116 + (5 - i)) s evs (rawLoginHead s evs seed i) := by
  rw [rawLoginHead]
  exact .head (.rawLogin seed i) (fun h => by simp only [hsRank]; omega) (leaf_rawRet s evs false).le

/-- the raw login's own `select` returned: the code runs on the datagram just received, cut at `sizeof(in)` -/
theorem leaf_rawLoginGot (s : HState) (seed i : Nat) (d : Option (List Nat)) :
    Leaf l (116 + (4 - i)) s [] (rawLoginGot s seed i d) := by
  cases d with
  | none => exact (leaf_rawLoginHead _ [] seed (i + 1)).enter
  | some d =>
    exact (ite_both (leaf_rawRet _ [] true).le (leaf_rawLoginHead _ [] seed (i + 1)).le :
      Leaf l (116 + (4 - i)) { s with inb := d.take 4096 } [] _).mono
        (.neutral s _ _ _ _ _ _ (List.length_take_le _ _))

theorem leaf_rawIpDone (s : HState) (evs : List CEvent) (seed : Nat) (g : Bool) : Leaf l 121 s evs (rawIpDone s evs seed g) := by
  rw [rawIpDone]
  exact ite_both (leaf_rawRet s evs false).le <| ite_both (leaf_rawRet s evs false).le (leaf_rawLoginHead s evs seed 0).le

theorem leaf_rawIpHead (s : HState) (evs : List CEvent) (seed i : Nat) : Leaf l (121 + (4 - i)) s evs (rawIpHead s evs seed i) := by
  rw [rawIpHead]
  exact .head (.rawIp seed i) (fun h => by simp only [hsRank]; omega) (leaf_rawIpDone s evs seed false).le

theorem leaf_rawIpGot (s : HState) (seed i : Nat) (read : Int) : Leaf l (121 + (3 - i)) s [] (rawIpGot s seed i read) := by
  rw [rawIpGot]
  exact ite_both (leaf_rawIpDone s [] seed true).le (leaf_rawIpHead s [] seed (i + 1)).le

theorem leaf_afterLogin (s : HState) (evs : List CEvent) (seed : Nat) : Leaf l 125 s evs (afterLogin s evs seed) := by
  rw [afterLogin]
  exact ite_both (leaf_rawIpHead _ evs seed 0).enter (leaf_dnsBranch s evs).le

theorem leaf_loginHead (s : HState) (evs : List CEvent) (seed i : Nat) : Leaf l (125 + (6 - i)) s evs (loginHead s evs seed i) := by
  rw [loginHead]
  exact .head (.login seed i) (fun h => by simp only [hsRank]; omega) (.done _ s evs 1)

theorem leaf_loginGot (s : HState) (seed i : Nat) (read : Int) :
    Leaf l (125 + (5 - i)) s ((loginCommands s read).map CEvent.sys) (loginGot s seed i read) := by
  rcases loginGot_cases s seed i read with h | h | h | h <;> rw [h]
  · exact (leaf_afterLogin s _ seed).le
  · exact .done _ s _ 1
  · exact .stop s _ (.refl s)
  · exact (leaf_loginHead s _ seed (i + 1)).le

/-! ### the version handshake and the query-type detection

They set the user id and the query type, so their ways out are `Leaf false`. -/

theorem leaf_versionHead (s : HState) (evs : List CEvent) (i : Nat) :
    Leaf false (131 + (6 - i)) s evs (versionHead s evs i) := by
  rw [versionHead]
  exact .head (.version i) (fun h => by simp only [hsRank]; omega) (.done _ s evs 1)

theorem Upd.early (s : HState) (u : Int) (a b q : Nat) :
    Upd false s { s with c := { s.c with userid := u, useridChar := a, useridChar2 := b, doQtype := q }, inb := [] } :=
  ⟨rfl, rfl, rfl, rfl, rfl, nofun, nofun, .inl rfl, rfl, .inr (Nat.zero_le _)⟩

theorem leaf_versionGot (s : HState) (i : Nat) (read : Int) : Leaf false (131 + (5 - i)) s [] (versionGot s i read) := by
  rcases versionGot_cases s i read with ⟨u, seed, h⟩ | h | h <;> rw [h]
  · exact (leaf_loginHead _ [] seed 0).mono (.early s u _ _ _)
  · exact .done _ s [] 1
  · exact (leaf_versionHead s [] (i + 1)).le

theorem leaf_afterQtype (s : HState) (evs : List CEvent) : Leaf false 137 s evs (afterQtype s evs) :=
  (leaf_versionHead _ evs 0).enter

theorem Upd.qtype (s : HState) (q : Nat) : Upd false s { s with c := { s.c with doQtype := q } } :=
  ⟨rfl, rfl, rfl, rfl, rfl, nofun, nofun, .inl rfl, rfl, .inl rfl⟩

theorem leaf_qtypeFinish (s : HState) (evs : List CEvent) (h : Nat) : Leaf false 137 s evs (qtypeFinish s evs h) := by
  rw [qtypeFinish]
  exact ite_both (.done _ s evs 1) <|
    ite_both ((Leaf.done 137 _ evs 1).mono (.qtype s _)) ((leaf_afterQtype _ evs).mono (.qtype s _))

theorem leaf_qtypeTest (s : HState) (evs : List CEvent) (t q h : Nat) (hq : q ≤ 6) :
    Leaf false (137 + (3 - t) * 8 + (8 - q)) s evs (qtypeTest s evs t q h) :=
  (Leaf.parked (l := false) evs (.qtype _ t q h rfl) (by simp only [hsRank]; omega)).enter (Nat.le_refl _)

theorem leaf_qtypeOuterHead (s : HState) (evs : List CEvent) (t h : Nat) :
    Leaf false (137 + (4 - t) * 8) s evs (qtypeOuterHead s evs t h) := by
  rw [qtypeOuterHead]
  by_cases ht : s.c.running = true ∧ t ≤ 3
  · rw [if_pos ht]
    exact ite_both ((leaf_qtypeTest _ evs t 0 h (Nat.zero_le _)).mono (.qtype s _)) (leaf_qtypeFinish s evs h).le
  · rw [if_neg ht]; exact (leaf_qtypeFinish s evs h).le

theorem leaf_qtypeAfterInner (s : HState) (evs : List CEvent) (t h : Nat) :
    Leaf false (137 + (3 - t) * 8) s evs (qtypeAfterInner s evs t h) := by
  rw [qtypeAfterInner]
  exact ite_both (leaf_qtypeFinish s evs h).le (leaf_qtypeOuterHead s evs (t + 1) h).le

theorem qtypeNumcvt_set {q : Nat} (h : qtypeNumcvt q ≠ T_UNSET) : q ≤ 6 := by
  unfold qtypeNumcvt at h
  split at h <;> first | omega | exact absurd rfl h

theorem leaf_qtypeInnerHead (s : HState) (evs : List CEvent) (t q h : Nat) :
    Leaf false (137 + (3 - t) * 8 + (8 - q)) s evs (qtypeInnerHead s evs t q h) := by
  rw [qtypeInnerHead]
  refine ite_both ?_ (leaf_qtypeAfterInner s evs t h).le
  by_cases hq : qtypeNumcvt q = T_UNSET
  · rw [if_pos hq]; exact (leaf_qtypeAfterInner _ evs t h).mono (.qtype s _)
  · rw [if_neg hq]; exact (leaf_qtypeTest _ evs t q h (qtypeNumcvt_set hq)).mono (.qtype s _)

theorem leaf_qtypeGot (s : HState) (t q h : Nat) (read : Int) :
    Leaf false (137 + (3 - t) * 8 + (7 - q)) s [] (qtypeGot s t q h read) := by
  rw [qtypeGot]
  exact ite_both (leaf_qtypeAfterInner s [] t q).le (leaf_qtypeInnerHead s [] t (q + 1) h).le

/-- `client_handshake` up to its first `select`, from the state `s0` it builds of the statics and its arguments -/
theorem leaf_hsStart (c : Cli) (args : HsArgs) (pw dev : List Nat) :
    Leaf false 162 { c := { c with edns0 := false }, pos := none, inb := [], args := args, pw := pw, dev := dev } []
      (hsStart c args pw dev) := by
  rw [hsStart]
  exact ite_both (leaf_qtypeOuterHead _ [] 1 100).le (leaf_afterQtype _ []).le

/-- the `system()` calls of the loop body at `p`: those of `handshake_login` on the reply -/
def gotCommands (s : HState) (p : HPos) (read : Int) : List (List Nat) :=
  match p with
  | .login _ _ => loginCommands s read
  | _ => []

/-- the places from the login on, with a codec letter the code tests -/
def HPos.late : HPos → Prop
  | .qtype _ _ _ => False
  | .version _ => False
  | .downenc cd _ _ => CliQ.DnCodec cd
  | _ => True

/-- whatever `handshake_waitdns` returns, the loop body of the function the thread is parked in ends strictly lower -/
theorem leaf_hsGot (s : HState) (p : HPos) (read : Int) (hl : l = true → p.late) :
    Leaf l (hsRank p) s ((gotCommands s p read).map CEvent.sys) (hsGot s p read) := by
  cases p with
  | qtype t q h =>
    cases l with
    | false => exact leaf_qtypeGot s t q h read
    | true => exact (hl rfl).elim
  | version i =>
    cases l with
    | false => exact leaf_versionGot s i read
    | true => exact (hl rfl).elim
  | login seed i => exact leaf_loginGot s seed i read
  | rawIp seed i => exact leaf_rawIpGot s seed i read
  | rawLogin seed i => exact leaf_rawLoginGot s seed i none
  | edns i => exact leaf_ednsGot s i read
  | upenc p i => exact leaf_upencTestGot s p i read
  | switchCodec b i => exact leaf_switchCodecGot s b i read
  | downenc cd b i => exact leaf_downencTestGot s cd b i read hl
  | switchDown i => exact leaf_switchDownGot s i read
  | lazy i => exact leaf_lazyGot s i read
  | frag pr r m i => exact leaf_fragGot s pr r m i read
  | setFrag f i => exact leaf_setFragGot s f i read

end Iodine.Client
