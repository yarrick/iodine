import IodineModel.Lemmas.C02qO3
import IodineModel.Lemmas.C02up1
/-
Overlapping transfers in lazy mode, server side: a data query arrives while the server holds NO query and, once
`process_downstream_ack` has run, has no outpacket (it had none, or the query acknowledges the last fragment of it: `AckedIdle`).
The data handler reads the outpacket only through `process_downstream_ack` (`iteration_acked`), so the iteration is the one of the
server whose slot is acknowledged already, and that server waits without a query held (`Waits false`, C02up1): the LAST fragment is
written to tun and its query parked in `q_sendrealsoon` (`srv_recv_last_noq_ack`); any other fragment is stored and its query
answered at once with a DATALESS packet that acknowledges it (`srv_recv_mid_noq_ack`).
-/
namespace Iodine.C02L
open Iodine Iodine.Gen Iodine.Server Iodine.World

/-- the data handler looks at the slot only through `process_downstream_ack`: if the acknowledged slot has no outpacket,
the handler may as well start from it -/
theorem dataASess_acked (x x1 : Session) (h : UpHdr) (payload : List Nat)
    (h1 : ackSess x h.dnSeq h.dnFrag = x1) (hlen : x1.outpacket.len = 0) :
    dataASess x h.upSeq h.upFrag h.dnSeq h.dnFrag payload = dataASess x1 h.upSeq h.upFrag h.dnSeq h.dnFrag payload := by
  have h2 : ackSess x1 h.dnSeq h.dnFrag = x1 := by
    unfold ackSess
    rw [if_pos hlen]
  unfold dataASess
  rw [h1, h2]

theorem dataSess_acked (x x1 : Session) (u : Nat) (Q : Query) (h : UpHdr) (payload : List Nat) (now : Nat)
    (h1 : ackSess x h.dnSeq h.dnFrag = x1) (hlen : x1.outpacket.len = 0) :
    dataSess x u Q h payload now = dataSess x1 u Q h payload now := by
  unfold dataSess
  rw [dataASess_acked x x1 h payload h1 hlen]

theorem SStat.acked {P : Par} {s : Srv} (hS : SStat P s) {op1 : Packet} (r1 : Nat) (hoseq : 0 ≤ op1.seqno ∧ op1.seqno < 8)
    (hofrag : 0 ≤ op1.fragment ∧ op1.fragment < 16) :
    SStat P (putUser s P.u { getUser s P.u with outpacket := op1, outfragresent := r1 }) ∧
    getUser (putUser s P.u { getUser s P.u with outpacket := op1, outfragresent := r1 }) P.u =
      { getUser s P.u with outpacket := op1, outfragresent := r1 } := by
  have hg := getUser_putUser_self s P.u { getUser s P.u with outpacket := op1, outfragresent := r1 } hS.solo.lt
  refine ⟨⟨hS.solo.putUser _, hS.td, ?_, ?_, ?_⟩, hg⟩
  · rw [hg]
    exact ⟨hS.x.active, hS.x.auth, hS.x.enabled, hS.x.conn, hS.x.enc, hoseq, hofrag, hS.x.iseq, hS.x.ifrag⟩
  · rw [hg]; exact hS.host
  · rw [hg]; exact hS.live

/-- the packet completed by the last fragment is not addressed to the session itself -/
theorem notSelf_of_expect {P : Par} (hP : P.Ok) {x : Session} {T : List Nat} {sq o fr n : Nat} (henc : x.encoder = P.es)
    (hout : x.outpacket.len = 0) (hE : Expect x T sq o fr) (hseq : 0 ≤ x.inpacket.seqno ∧ x.inpacket.seqno < 8)
    (hn : o + n = T.length) (h64 : T.length ≤ 65536)
    (hns : ∀ out, uncompress T 65536 = some out → 24 ≤ out.length → ipDst out ≠ x.tunIp) (dsq dfr : Int) (now : Nat)
    (payload : List Nat) (hpl : Encoding.unpackData P.ec.codec 65536 payload = (T.drop o).take n) :
    ¬ selfAddressed (dataASess x sq fr dsq dfr payload).1 now := by
  obtain ⟨I, hup, hI⟩ := accept_of_expect hE hseq
  obtain ⟨_, _, _, e4, e5, hstc⟩ := expect_stored hP (sq := sq) (f := fr) henc payload hpl hI (Nat.le_of_eq hn) h64
  rw [dataASess_accept x ⟨sq, fr, dsq, dfr, true⟩ payload I hout hup]
  rintro ⟨out, h1, h2, _, _, _, _, h7⟩
  rw [e5, e4, hn, List.take_take, Nat.min_self, List.take_length] at h1
  have h9 := core_tunIp hstc
  exact hns out h1 h2 (h7.trans h9)

/-- The data handler reads the slot's outpacket only through `process_downstream_ack`.  When that leaves the slot without an
outpacket (it had none, or the query acknowledges its last fragment), the iteration is the one of the server whose slot is
acknowledged already. -/
theorem iteration_acked {P : Par} (hP : P.Ok) {s : Srv} (hS : SStat P s) {k : Nat} (hk : k < 36)
    (hf : Fresh P (getUser s P.u) k 1) {Q : Query} {hdr : UpHdr} {chunk : List Nat} (hQ : UpQ P Q hdr k chunk)
    (hq : (getUser s P.u).q.id = 0 ∨ (getUser s P.u).q.name ≠ Q.name)
    (hqs : (getUser s P.u).qs.id = 0 ∨ (getUser s P.u).qs.name ≠ Q.name)
    {op1 : Packet} {r1 : Nat}
    (hack : ackSess (topSess (getUser s P.u) s.now) hdr.dnSeq hdr.dnFrag =
      { topSess (getUser s P.u) s.now with outpacket := op1, outfragresent := r1 })
    (hlen : op1.len = 0) (hoseq : 0 ≤ op1.seqno ∧ op1.seqno < 8) (hofrag : 0 ≤ op1.fragment ∧ op1.fragment < 16)
    (hns : hdr.last = true → ∀ payload, Encoding.unpackData P.ec.codec 65536 payload = chunk →
      ¬ selfAddressed (dataASess { getUser s P.u with qsNew := false, outpacket := op1, outfragresent := r1 }
        hdr.upSeq hdr.upFrag hdr.dnSeq hdr.dnFrag payload).1 s.now) :
    iteration s (.q Q) s.now =
      iteration (putUser s P.u { getUser s P.u with outpacket := op1, outfragresent := r1 }) (.q Q) s.now := by
  obtain ⟨dlen, hdl, h6, hparse, hpl⟩ := hQ.parse
  obtain ⟨hS1, hg1⟩ := hS.acked r1 hoseq hofrag
  have htop := topSess_live hS
  rw [htop] at hack
  generalize hx0 : ({ getUser s P.u with qsNew := false } : Session) = x0 at htop hack
  generalize hx1 : ({ ({ getUser s P.u with outpacket := op1, outfragresent := r1 } : Session) with qsNew := false } : Session) = x1
  generalize hs1 : putUser s P.u { getUser s P.u with outpacket := op1, outfragresent := r1 } = s1 at hS1 hg1 ⊢
  have hnow1 : s1.now = s.now := by rw [← hs1]; rfl
  have htop1 : topSess (getUser s1 P.u) s.now = x1 := by
    have := topSess_live hS1
    rw [hnow1] at this
    rw [this, hg1, hx1]
  have hx01 : ({ x0 with outpacket := op1, outfragresent := r1 } : Session) = x1 := by rw [← hx0, ← hx1]
  rw [hx01] at hack
  have hx1len : x1.outpacket.len = 0 := by rw [← hx1]; exact hlen
  have hx1f : Fresh P x1 k (0 + 1) := by rw [← hx1]; exact ⟨hf.cache, hf.qmem⟩
  have hx0f : Fresh P x0 k (0 + 1) := by rw [← hx0]; exact ⟨hf.cache, hf.qmem⟩
  have hns1 : hdr.last = true → ∀ payload, Encoding.unpackData P.ec.codec 65536 payload = chunk →
      ¬ selfAddressed (dataASess x1 hdr.upSeq hdr.upFrag hdr.dnSeq hdr.dnFrag payload).1 s.now := by
    rw [← hx1]; exact hns
  have hit := iteration_data hS.solo Q s.now dlen hP.hu (by rw [hS.td]; exact hdl) h6 hQ.c0 (hQ.ty ▸ hP.tty) hQ.id
    (admitted_entry hS Q hQ.from_)
    (by rw [htop]; exact hx0f.cacheMiss Q hQ.ty hQ.c0 hQ.c4 hk) (by rw [htop]; exact hx0f.qmemMiss Q hQ.ty hQ.c4 hk)
    (by rw [htop, ← hx0]; exact hq) (by rw [htop, ← hx0]; exact hqs)
    (by rw [htop, hparse]; intro _ hl; rw [dataASess_acked x0 x1 hdr _ hack hx1len]; exact hns1 hl _ hpl)
  have hit1 := iteration_data hS1.solo Q s.now dlen hP.hu (by rw [hS1.td]; exact hdl) h6 hQ.c0 (hQ.ty ▸ hP.tty) hQ.id
    (hnow1 ▸ admitted_entry hS1 Q hQ.from_)
    (by rw [hnow1, htop1]; exact hx1f.cacheMiss Q hQ.ty hQ.c0 hQ.c4 hk)
    (by rw [hnow1, htop1]; exact hx1f.qmemMiss Q hQ.ty hQ.c4 hk)
    (by rw [hnow1, htop1, ← hx1]; exact hq) (by rw [hnow1, htop1, ← hx1]; exact hqs)
    (by rw [hnow1, htop1, hparse]; intro _ hl; exact hns1 hl _ hpl)
  rw [hit, hit1, hnow1, htop, htop1, hparse, dataSess_acked x0 x1 P.u Q hdr _ s.now hack hx1len]
  have htl : (topOfLoop s1).2 = (topOfLoop s).2 := by
    rw [← hs1]; exact topOfLoop_snd_putUser hS.solo _ rfl rfl rfl rfl
  have hput : ∀ Z, putUser s1 P.u Z = putUser s P.u Z := fun Z => by rw [← hs1]; exact putUser_putUser _ _ _ _
  simp only [hput, show (topOfLoop s1).2.1 = (topOfLoop s).2.1 from congrArg Prod.fst htl,
    show (topOfLoop s1).2.2 = (topOfLoop s).2.2 from congrArg Prod.snd htl]

/-- Once the acknowledgement `(a, b)` has been processed on the slot `x` at the top of the loop, nothing is left to send
downstream: the slot is left with an EMPTY outpacket `op1` numbered `a` (and some resend counter `r1`).  Either it had none
(`AckedIdle.of_idle`), or `(a, b)` names the last fragment of its outpacket (`AckedIdle.of_last`). -/
def AckedIdle (x : Session) (now : Nat) (a b : Int) : Prop :=
  ∃ op1 r1, ackSess (topSess x now) a b = { topSess x now with outpacket := op1, outfragresent := r1 } ∧
    op1.len = 0 ∧ op1.seqno = a ∧ (0 ≤ op1.fragment ∧ op1.fragment < 16)

theorem ackSess_top_idle {P : Par} {s : Srv} (hS : SStat P s) (a b : Int) (hout : (getUser s P.u).outpacket.len = 0) :
    ackSess (topSess (getUser s P.u) s.now) a b =
      { topSess (getUser s P.u) s.now with
        outpacket := (getUser s P.u).outpacket, outfragresent := (getUser s P.u).outfragresent } := by
  rw [topSess_live hS]
  exact ackSess_idle _ a b hout

/-- `process_downstream_ack` on the slot at the top of the loop when the LAST fragment of its outpacket is acknowledged:
the packet is complete and dropped -/
theorem ackSess_top_last {P : Par} {s : Srv} (hS : SStat P s) (hoq : (getUser s P.u).oqFilled = 0)
    {outD : List Nat} {sqd : Int} {od D fd : Nat}
    (hop : (getUser s P.u).outpacket = ⟨outD.length, D, od, outD, sqd, (fd : Int)⟩)
    (hD : 0 < D) (heq : od + D = outD.length) (hfd : fd < 16) :
    ackSess (topSess (getUser s P.u) s.now) sqd (fd : Int) =
      { topSess (getUser s P.u) s.now with outpacket := ⟨0, 0, 0, outD, sqd, (fd : Int)⟩, outfragresent := 0 } := by
  rw [topSess_live hS]
  generalize hx : ({ getUser s P.u with qsNew := false } : Session) = x
  have hxo : x.outpacket = ⟨outD.length, D, od, outD, sqd, (fd : Int)⟩ := by subst hx; exact hop
  have hsf : sChar (sChar ((fd : Int) + 1) - 1) = (fd : Int) := by unfold sChar; omega
  rw [ackSess_complete x sqd fd (by rw [hxo]; show outD.length ≠ 0; omega) (by rw [hxo]) (by rw [hxo]) (by rw [hxo]; show D ≠ 0; omega)
    (by rw [hxo]; show outD.length ≤ od + D; omega) (by subst hx; exact hoq)]
  rw [hxo]
  simp only [hsf]

/-- The last fragment of an upstream packet arrives while the server holds no query and, once `process_downstream_ack` has
run on the slot at the top of the loop (leaving outpacket `op1`, resend counter `r1`), has nothing to send downstream. -/
theorem srv_recv_last_noq_ack {P : Par} (hP : P.Ok) {s : Srv} (hn : NoQSrv P true s)
    {k : Nat} (hk : k < 36) (hA : Aged P (getUser s P.u) k 1)
    {Q : Query} {sq fr : Nat} {dsq dfr : Int} {frame : List Nat} {o m : Nat}
    (hQ : UpQ P Q ⟨sq, fr, dsq, dfr, true⟩ k (((0x5a :: frame).drop o).take m))
    {op1 : Packet} {r1 : Nat}
    (hack : ackSess (topSess (getUser s P.u) s.now) dsq dfr =
      { topSess (getUser s P.u) s.now with outpacket := op1, outfragresent := r1 })
    (hlen : op1.len = 0) (hoseq : 0 ≤ op1.seqno ∧ op1.seqno < 8) (hofrag : 0 ≤ op1.fragment ∧ op1.fragment < 16)
    (hE : Expect (getUser s P.u) (0x5a :: frame) sq o fr) (hsq : sq < 8) (hfr : fr < 16)
    (hm : o + m = (0x5a :: frame).length) (h64 : (0x5a :: frame).length ≤ 65536) (h24 : 24 ≤ frame.length)
    (hdst : ipDst frame ≠ (getUser s P.u).tunIp) :
    ∃ s' evs t, iteration s (.q Q) s.now = (s', evs, t) ∧ downOfEvents evs = [] ∧
      tunOfSEvents evs = [[0, 0, 8, 0] ++ frame.drop 4] ∧
      SStat P s' ∧ (getUser s' P.u).q = { Q with id := 0 } ∧ (getUser s' P.u).qs = Q ∧ (getUser s' P.u).lazy = true ∧
      (getUser s' P.u).outpacket = op1 ∧ (getUser s' P.u).oqFilled = (getUser s P.u).oqFilled ∧
      (getUser s' P.u).tunIp = (getUser s P.u).tunIp ∧ (getUser s' P.u).fragsize = (getUser s P.u).fragsize ∧
      (getUser s' P.u).inpacket.seqno = (sq : Int) ∧ (getUser s' P.u).inpacket.fragment = (fr : Int) ∧ s'.now = s.now ∧
      MemEq (getUser s' P.u) (getUser s P.u) := by
  obtain ⟨hS, hq, hqs, hlz, hoq⟩ := hn
  have hfresh := hA.fresh hk (by omega)
  have h64' : frame.length ≤ 65536 := by simp at h64; omega
  obtain ⟨hS1, hg1⟩ := hS.acked r1 hoseq hofrag
  rw [iteration_acked hP hS hk hfresh hQ (Or.inl hq) (Or.inl hqs) hack hlen hoseq hofrag
    (fun _ => notSelf_of_expect hP (x := { getUser s P.u with qsNew := false, outpacket := op1, outfragresent := r1 })
      hS.x.enc hlen hE hS.x.iseq hm h64 (notSelf_compress hdst h64') dsq dfr s.now)]
  obtain ⟨s', ⟨evs, t, hit, hd, ht⟩, ⟨hS', hk', hnow', _⟩, hsq', hfr', hp, hme⟩ :=
    srv_last_core hP (held := false) hS1 hk (by rw [hg1]; exact ⟨hlen, hqs, hq, fun e => nomatch e⟩)
      (by rw [hg1]; exact ⟨hfresh.cache, hfresh.qmem⟩) hQ (by rw [hg1]; exact Or.inl hq) ⟨hQ.from_, hQ.id, hQ.id2⟩
      (by rw [hg1]; exact hE) hsq hfr hm h64 (by rw [hg1]; exact notSelf_compress hdst h64')
  rw [hg1] at hk' hme
  refine ⟨s', evs, t, hit, hd, by rw [ht, junkUp_marker frame h24 h64']; rfl, hS', hp.q, hp.qs, hk'.lazy.trans hlz,
    hk'.outpacket, hk'.oqFilled, hk'.tunIp, hk'.fragsize, hsq', hfr', hnow', hme.q, hme.ql, hme.p, hme.pl, hme.c, hme.cl⟩

#print axioms srv_recv_last_noq_ack

/-- A fragment that is not the last one arrives while the server holds no query and, once `process_downstream_ack` has run,
has nothing to send downstream: stored, and the query is answered at once with a dataless packet that acknowledges it. -/
theorem srv_recv_mid_noq_ack {P : Par} (hP : P.Ok) {s : Srv} (hn : NoQSrv P true s)
    {k sd : Nat} (hk : k < 36) (hA : Aged P (getUser s P.u) k 1) (hPA : PAged P (getUser s P.u) sd 1)
    {Q : Query} {sq fr : Nat} {dsq dfr : Int} {out : List Nat} {o m : Nat}
    (hQ : UpQ P Q ⟨sq, fr, dsq, dfr, false⟩ k ((out.drop o).take m))
    {op1 : Packet} {r1 : Nat}
    (hack : ackSess (topSess (getUser s P.u) s.now) dsq dfr =
      { topSess (getUser s P.u) s.now with outpacket := op1, outfragresent := r1 })
    (hlen : op1.len = 0) (hoseq : 0 ≤ op1.seqno ∧ op1.seqno < 8) (hofrag : 0 ≤ op1.fragment ∧ op1.fragment < 16)
    (hE : Expect (getUser s P.u) out sq o fr) (hsq : sq < 8) (hfr : fr < 16)
    (hm : o + m ≤ out.length) (h64 : out.length ≤ 65536) :
    ∃ s' evs t pkt, iteration s (.q Q) s.now = (s', evs, t) ∧
      downOfEvents evs = [.ans Q.id Q.type Q.name pkt] ∧ tunOfSEvents evs = [] ∧
      NoQSrv P true s' ∧ (getUser s' P.u).outpacket = op1 ∧
      Expect (getUser s' P.u) out sq (o + m) (fr + 1) ∧
      (getUser s' P.u).tunIp = (getUser s P.u).tunIp ∧ (getUser s' P.u).fragsize = (getUser s P.u).fragsize ∧ s'.now = s.now ∧
      (pkt.length : Int) = 2 ∧ (Client.decodeHdr pkt).dnSeq = op1.seqno ∧
      (Client.decodeHdr pkt).upSeq = (sq : Int) ∧ (Client.decodeHdr pkt).upFrag = (fr : Int) ∧
      Aged P (getUser s' P.u) ((k + 1) % 36) 1 ∧ PAged P (getUser s' P.u) sd 1 := by
  obtain ⟨hS, hq, hqs, hlz, hoq⟩ := hn
  have hfresh := hA.fresh hk (by omega)
  obtain ⟨hS1, hg1⟩ := hS.acked r1 hoseq hofrag
  rw [iteration_acked hP hS hk hfresh hQ (Or.inl hq) (Or.inl hqs) hack hlen hoseq hofrag (fun h => nomatch h)]
  -- the acknowledged server `s1`: all that is used of its slot
  generalize hX : ({ getUser s P.u with outpacket := op1, outfragresent := r1 } : Session) = X at hS1 hg1 ⊢
  have hXE : Expect X out sq o fr := by rw [← hX]; exact hE
  have hXw : Waits false X := by rw [← hX]; exact ⟨hlen, hqs, hq, fun e => nomatch e⟩
  have hXf : Fresh P X k 1 := by rw [← hX]; exact ⟨hfresh.cache, hfresh.qmem⟩
  have hXA : Aged P X k 1 ∧ PAged P X sd 1 := by rw [← hX]; exact ⟨hA.congr rfl rfl rfl rfl, hPA.congr rfl rfl rfl rfl⟩
  obtain ⟨hXo, hXlz, hXoq, hXtun, hXfs⟩ : X.outpacket = op1 ∧ X.lazy = true ∧ X.oqFilled = 0 ∧
      X.tunIp = (getUser s P.u).tunIp ∧ X.fragsize = (getUser s P.u).fragsize := by
    rw [← hX]; exact ⟨rfl, hlz, hoq, rfl, rfl⟩
  generalize hs1 : putUser s P.u X = s1 at hS1 hg1 ⊢
  have hnow1 : s1.now = s.now := by rw [← hs1]; rfl
  subst hg1
  rw [← hnow1]
  obtain ⟨I, hup, hI⟩ := recvPkt_expect hXE hS1.x.iseq
  obtain ⟨s', payload, pkt, hpl, ⟨evs, t, hit, hd, ht⟩, hans, hw', hq', y, hym, hlen', hmem⟩ :=
    srv_answers_core hP (held := false) hS1 hk hXw hXf hQ (Or.inl hXw.q) hQ.from_ hup (fun _ => rfl)
      (by rw [hI.1]; omega) (by rw [hI.2.1]; omega)
  have hk' := hans.kept
  have hinp : (getUser s' P.u).inpacket = (stored (getUser s1 P.u) I payload).inpacket := hans.inp
  obtain ⟨y', hp, hyo, hyi⟩ := hans.pkt
  replace hyi : y'.inpacket = (stored (getUser s1 P.u) I payload).inpacket := hyi
  obtain ⟨e1, e2, e3, e4, e5, -⟩ := expect_stored hP (sq := sq) (f := fr) hS1.x.enc payload hpl hI hm h64
  obtain ⟨a1, a2, a3, a4⟩ := ack_hdr hp (by rw [hyi, e1]; omega) (by rw [hyi, e2]; omega) hyo hS1.x.oseq hS1.x.ofrag
  obtain ⟨hA', hPA'⟩ := aged_memo_data hP (hXA.1.memEq hym) (hXA.2.memEq hym) hk ⟨Nat.le_refl 1, by decide⟩ Q pkt hlen'
    hQ.c0 hQ.c4 hQ.len5
  refine ⟨s', evs, t, pkt, hit, hd, ht, ⟨hans.stat, by rw [hq']; rfl, hw'.qs, hk'.lazy.trans hXlz, hk'.oqFilled.trans hXoq⟩,
    hk'.outpacket.trans hXo, Or.inr ?_, hk'.tunIp.trans hXtun, hk'.fragsize.trans hXfs, hans.now, a1,
    a2.trans (congrArg Packet.seqno hXo), by rw [a3, hyi, e1], by rw [a4, hyi, e2], hA'.memEq hmem, hPA'.memEq hmem⟩
  rw [hinp]
  exact ⟨by omega, e1, by rw [e2]; omega, e3, e4, by rw [e5]; exact List.take_take .. |>.trans (by simp)⟩

#print axioms srv_recv_mid_noq_ack

theorem AckedIdle.of_idle {P : Par} {s : Srv} (hS : SStat P s) {a b : Int} (hout : (getUser s P.u).outpacket.len = 0)
    (hseq : (getUser s P.u).outpacket.seqno = a) : AckedIdle (getUser s P.u) s.now a b :=
  ⟨_, _, ackSess_top_idle hS _ _ hout, hout, hseq, hS.x.ofrag⟩

theorem AckedIdle.of_last {P : Par} {s : Srv} (hS : SStat P s) (hoq : (getUser s P.u).oqFilled = 0)
    {outD : List Nat} {sqd : Int} {od D fd : Nat}
    (hop : (getUser s P.u).outpacket = ⟨outD.length, D, od, outD, sqd, (fd : Int)⟩)
    (hD : 0 < D) (heq : od + D = outD.length) (hfd : fd < 16) : AckedIdle (getUser s P.u) s.now sqd (fd : Int) :=
  ⟨_, _, ackSess_top_last hS hoq hop hD heq hfd, rfl, rfl, by show (0 : Int) ≤ (fd : Int) ∧ (fd : Int) < 16; omega⟩

end Iodine.C02L
