import IodineModel.Lemmas.C02v5
import IodineModel.Lemmas.C02h
/-
Client side of an upstream transfer: the query `send_chunk` emits from a state that is ready to send fragment `f` (`CSend`: what
`send_chunk` looks at, either mode; `CReady`: such a state in immediate mode), with what the server reads out of it (`CSend.sends`);
the number of fragments of a packet (`upFrags`, `UpFrameOk`); the state the send leaves (`sentState`, `SentFacts`); the
acknowledgement of the fragment in flight as the client reads it (`ack_hdr`) and what the upstream-ack code then does
(`CSend.upstream_more`, `CSend.upstream_done`, `CSend.next`).
-/
namespace Iodine.C02L
open Iodine Iodine.Gen Iodine.World

/-- a client state from which `send_chunk` is about to send fragment `f` (offset `o`) of the compressed packet `out` -/
structure CReady (P : Par) (c : Client.Cli) (out : List Nat) (o f : Nat) : Prop where
  stat : CStat P c
  data : c.outpkt.data = out
  len : c.outpkt.len = out.length
  off : c.outpkt.offset = o
  frag : c.outpkt.fragment = (f : Int)
  ho : o < out.length
  hf : f < 16
  bytes : Codec.Bytes out

/-- the query as the server's `read_dns` delivers it -/
def upQuery (id ty : Nat) (name : List Nat) : Server.Query :=
  { name := name, type := ty, id := id, from_ := clientAddr, id2 := 0, from2 := Server.Addr.zero, dest := serverAddr }

theorem upQuery_id (id ty : Nat) (name : List Nat) : (upQuery id ty name).id = id := rfl

theorem srvInput_query (id ty : Nat) (name : List Nat) : srvInput (.query id ty name) = .q (upQuery id ty name) := rfl

theorem parseUpHdr_congr (a b : List Nat) (h : ∀ i, i < 5 → a.getD i 0 = b.getD i 0) : parseUpHdr a = parseUpHdr b := by
  unfold parseUpHdr
  rw [h 1 (by omega), h 2 (by omega), h 3 (by omega)]

/-- what `send_chunk` looks at in the client state `c` when it sends fragment `f` (offset `o`) of `out`: common to both modes
(immediate: nothing is counted; lazy: the answer counting is in balance) -/
structure CSend (P : Par) (c : Client.Cli) (out : List Nat) (o f : Nat) : Prop where
  cnt : c.lazymode = false ∨ CntOk c 1
  uch : c.useridChar = hexLower P.u
  td : c.topdomain = P.td
  L : c.hostnameMaxlen = (P.L : Int)
  enc : c.dataenc = P.ec
  ty : c.doQtype = P.ty
  cmc : c.datacmc < 36
  oseq : 0 ≤ c.outpkt.seqno ∧ c.outpkt.seqno < 8
  iseq : 0 ≤ c.inpkt.seqno ∧ c.inpkt.seqno < 8
  ifrag : 0 ≤ c.inpkt.fragment ∧ c.inpkt.fragment < 16
  data : c.outpkt.data = out
  len : c.outpkt.len = out.length
  off : c.outpkt.offset = o
  frag : c.outpkt.fragment = (f : Int)
  ho : o < out.length
  hf : f < 16
  bytes : Codec.Bytes out

theorem CSend.outRest {P : Par} {c : Client.Cli} {out : List Nat} {o f : Nat} (h : CSend P c out o f) :
    Client.outRest c.outpkt = out.drop o := by
  unfold Client.outRest
  rw [h.data, h.len, h.off, List.take_length]

theorem drop_ne_nil {l : List Nat} {o : Nat} (h : o < l.length) : l.drop o ≠ [] := by
  intro hc
  have := congrArg List.length hc
  simp only [List.length_drop, List.length_nil] at this
  omega

/-- the number of bytes the next fragment will carry -/
def fragLen (P : Par) (d : List Nat) : Nat := (Client.buildHostname P.ec.codec (P.L : Int) 4091 0 P.td d).used

/-- the same, read off the client state -/
def cFragLen (c : Client.Cli) : Nat :=
  (Client.buildHostname c.dataenc.codec c.hostnameMaxlen 4091 0 c.topdomain (Client.outRest c.outpkt)).used

theorem CSend.fragLen_eq {P : Par} {c : Client.Cli} {out : List Nat} {o f : Nat} (h : CSend P c out o f) :
    cFragLen c = fragLen P (out.drop o) := by
  unfold cFragLen fragLen
  rw [h.outRest, h.enc, h.L, h.td]

/-- the state `send_chunk` leaves behind (before `send_ping_soon = 0`) -/
def sentState (c : Client.Cli) : Client.Cli :=
  Client.rotateChunkid
    { c with outpkt := { c.outpkt with sentlen := cFragLen c },
             datacmc := if c.datacmc + 1 ≥ 36 then 0 else c.datacmc + 1 }

/-- **`send_chunk` from a state that is ready to send**, either mode: the query it emits, the state it leaves (in lazy mode
the send is counted: `bumpCnt`), and what the server reads out of the query. -/
theorem CSend.sends {P : Par} (hP : P.Ok) {c : Client.Cli} {out : List Nat} {o f : Nat} (h : CSend P c out o f) :
    ∃ name,
      Client.sendChunk c = ⟨bumpCnt (sentState c), [.query (sentState c).chunkid P.ty name], false⟩ ∧
      1 ≤ fragLen P (out.drop o) ∧ o + fragLen P (out.drop o) ≤ out.length ∧
      UpQ P (upQuery (sentState c).chunkid P.ty name)
        ⟨c.outpkt.seqno.toNat, f, c.inpkt.seqno, c.inpkt.fragment, fragLen P (out.drop o) == out.length - o⟩
        c.datacmc ((out.drop o).take (fragLen P (out.drop o))) := by
  have hS : UpSetting c.dataenc.codec P.L P.td := by rw [h.enc]; exact hP.set
  have hrest := h.outRest
  have hne : out.drop o ≠ [] := drop_ne_nil h.ho
  have hby : Codec.Bytes (out.drop o) := fun b hb => h.bytes b (List.mem_of_mem_drop hb)
  have hqt : c.doQtype < 65536 := by rw [h.ty]; exact tunnelType_lt hP.tty
  have hsend := sendChunk_bump c P.L P.td P.u h.cnt h.L h.td hS hP.hu h.uch h.cmc hqt
    (by rw [hrest]; exact hne) (by rw [hrest]; exact hby)
  have hfl := h.fragLen_eq
  generalize hc2 : ({ c with outpkt := { c.outpkt with sentlen := cFragLen c } } : Client.Cli) = c2
  generalize hlast : (cFragLen c == c.outpkt.len - c.outpkt.offset) = last
  have hlast' : (fragLen P (out.drop o) == out.length - o) = last := by rw [← hlast, hfl, h.len, h.off]
  have hhop := up_hop5 hP.set (Client.chunkHeader c2 last) (out.drop o) (chunkHeader_length c2 last)
    (chunkHeader_chars c2 last P.u hP.hu (by subst hc2; exact h.uch) (by subst hc2; exact h.cmc)) hne hby
  obtain ⟨_, hu1, hu2, dlen, hq, h6, _, hun, hget, hg0, hg4, hl5⟩ := hhop
  have hbn : (Client.buildHostname P.ec.codec (P.L : Int) 4091 0 P.td (out.drop o)) =
      (Client.buildHostname c.dataenc.codec c.hostnameMaxlen 4091 0 c.topdomain (Client.outRest c.outpkt)) := by
    rw [hrest, h.enc, h.L, h.td]
  refine ⟨Client.chunkHeader c2 last ++ (Client.buildHostname P.ec.codec (P.L : Int) 4091 0 P.td (out.drop o)).name, ?_, ?_, ?_, ?_⟩
  · have h1 : Client.sendChunk c = ⟨bumpCnt (sentState c), [.query (sentState c).chunkid c.doQtype
        (Client.chunkHeader c2 last ++ (Client.buildHostname P.ec.codec (P.L : Int) 4091 0 P.td (out.drop o)).name)], false⟩ := by
      rw [hsend, hbn]
      subst hc2; subst hlast
      rfl
    rw [h.ty] at h1
    exact h1
  · exact hu1
  · have : (out.drop o).length = out.length - o := List.length_drop
    have hu2' : fragLen P (out.drop o) ≤ (out.drop o).length := hu2
    rw [this] at hu2'
    have := h.ho
    omega
  · rw [hlast']
    refine ⟨rfl, rfl, ?_, rfl, ?_, ?_, hl5, dlen, hq, h6, ?_, ?_⟩
    · rw [upQuery_id]
      unfold sentState
      exact Client.rotateChunkid_ne_zero _
    · show (Client.chunkHeader c2 last ++ _).getD 0 0 = hexLower P.u
      rw [hg0, chunkHeader_getD0]; subst hc2; exact h.uch
    · show (Client.chunkHeader c2 last ++ _).getD 4 0 = cmcChar c.datacmc
      rw [hg4, chunkHeader_getD4]; subst hc2; rfl
    · show parseUpHdr ((Client.chunkHeader c2 last ++ _).take (min dlen 512)) = _
      rw [parseUpHdr_congr _ (Client.chunkHeader c2 last ++ []) (by intro i hi; rw [hget i hi, List.append_nil])]
      rw [parseUpHdr_chunkHeader c2 last [] (by subst hc2; exact h.oseq)
        (by subst hc2; show 0 ≤ c.outpkt.fragment ∧ c.outpkt.fragment < 16; rw [h.frag]; have := h.hf; omega)
        (by subst hc2; exact h.iseq) (by subst hc2; exact h.ifrag)]
      subst hc2
      simp only [h.frag, Int.toNat_natCast]
    · show Encoding.unpackData P.ec.codec 65536 (((Client.chunkHeader c2 last ++ _).take (min dlen 512)).drop 5) = _
      rw [hun]
      rfl

/-! ### the fragments of a packet -/

/-- the number of fragments `send_chunk` cuts the bytes `d` into (`fuel` ≥ `d.length` suffices) -/
def upFrags (P : Par) : Nat → List Nat → Nat
  | 0, _ => 0
  | fuel + 1, d => if d = [] then 0 else 1 + upFrags P fuel (d.drop (fragLen P d))

theorem upFrags_nil (P : Par) (fuel : Nat) : upFrags P fuel [] = 0 := by
  cases fuel <;> simp [upFrags]

theorem upFrags_step (P : Par) (fuel : Nat) {d : List Nat} (hne : d ≠ []) :
    upFrags P (fuel + 1) d = 1 + upFrags P fuel (d.drop (fragLen P d)) := by
  rw [upFrags, if_neg hne]

theorem upFrags_pos (P : Par) {fuel : Nat} {d : List Nat} (hf : fuel ≠ 0) (hne : d ≠ []) : 1 ≤ upFrags P fuel d := by
  cases fuel with
  | zero => exact absurd rfl hf
  | succ k => rw [upFrags_step P k hne]; omega

theorem upFrags_eq_zero (P : Par) : ∀ (k : Nat) (d : List Nat), upFrags P k d = 0 → k = 0 ∨ d = [] := by
  intro k d h
  cases k with
  | zero => exact Or.inl rfl
  | succ n =>
    right
    by_cases hd : d = []
    · exact hd
    · simp [upFrags, hd] at h

/-- One fragment of the remainder `d` of an upstream packet goes out, `d` within the fuel and its fragments within the sixteen
fragment numbers from `f` on: the rest is within the fuel, its fragments within the numbers from `f + 1` on, and if anything is
left `f + 1` is a fragment number. -/
theorem upFrags_send (P : Par) {fuel f : Nat} {d : List Nat} (hne : d ≠ []) (hm : 1 ≤ fragLen P d) (hl : d.length ≤ fuel + 1)
    (hb : f + upFrags P (fuel + 1) d ≤ 16) :
    (d.drop (fragLen P d)).length ≤ fuel ∧ f + 1 + upFrags P fuel (d.drop (fragLen P d)) ≤ 16 ∧
      (d.drop (fragLen P d) ≠ [] → f + 1 < 16) := by
  rw [upFrags_step P fuel hne] at hb
  have h1 : (d.drop (fragLen P d)).length ≤ fuel := by rw [List.length_drop]; omega
  refine ⟨h1, by omega, fun hr => ?_⟩
  have hf : fuel ≠ 0 := fun e => hr (List.eq_nil_of_length_eq_zero (Nat.le_zero.1 (e ▸ h1)))
  have := upFrags_pos P hf hr
  omega

/-- what a frame must satisfy to be carried upstream as one packet of at most 16 fragments and be written to the
server's tun device: an IP packet (at least the 4-byte tun header and a 20-byte IP header), shorter than 64 KiB, made of
bytes, not addressed to the client's own tunnel address -/
structure UpFrameOk (P : Par) (tunIp : Nat) (frame : List Nat) : Prop where
  h24 : 24 ≤ frame.length
  hl : frame.length < 65536
  bytes : Codec.Bytes frame
  dst : Server.ipDst frame ≠ tunIp
  frags : upFrags P (frame.length + 1) (0x5a :: frame) ≤ 16

theorem fuel_covers {g fuel : Nat} (hg : g ≤ 16) (hfuel : 33 ≤ fuel) : 2 * g + 1 ≤ fuel := by omega

/-! ### what `sentState` keeps -/

theorem headD_eq_getD (l : List Nat) : l.headD 0 = l.getD 0 0 := by cases l <;> rfl

/-- what `sentState` keeps and what it changes -/
structure SentFacts (c c' : Client.Cli) : Prop where
  running : c'.running = c.running
  conn : c'.conn = c.conn
  lazymode : c'.lazymode = c.lazymode
  userid : c'.userid = c.userid
  useridChar : c'.useridChar = c.useridChar
  topdomain : c'.topdomain = c.topdomain
  hostnameMaxlen : c'.hostnameMaxlen = c.hostnameMaxlen
  dataenc : c'.dataenc = c.dataenc
  doQtype : c'.doQtype = c.doQtype
  ldt : c'.lastdownstreamtime = c.lastdownstreamtime
  now : c'.now = c.now
  inpkt : c'.inpkt = c.inpkt
  olen : c'.outpkt.len = c.outpkt.len
  ooff : c'.outpkt.offset = c.outpkt.offset
  odata : c'.outpkt.data = c.outpkt.data
  oseq : c'.outpkt.seqno = c.outpkt.seqno
  ofrag : c'.outpkt.fragment = c.outpkt.fragment
  osent : c'.outpkt.sentlen = cFragLen c
  cid : c'.chunkid < 65536
  cmc : c'.datacmc = if c.datacmc + 1 ≥ 36 then 0 else c.datacmc + 1
  sps : c'.sendPingSoon = 0
  seed : c'.randSeed = c.randSeed
  selto : c'.selecttimeout = c.selecttimeout

theorem sentState_chunkid_lt (c : Client.Cli) : (sentState c).chunkid < 65536 := by
  unfold sentState
  exact Client.rotateChunkid_lt _

theorem sentFacts (c : Client.Cli) : SentFacts c { sentState c with sendPingSoon := 0 } := by
  constructor
  case cid => simpa using sentState_chunkid_lt c
  all_goals simp [sentState, Client.rotateChunkid]

theorem SentFacts.cmc36 {c c' : Client.Cli} (h : SentFacts c c') (hk : c.datacmc < 36) : c'.datacmc = (c.datacmc + 1) % 36 := by
  rw [h.cmc]; split <;> omega

/-- a 3-bit sequence number as the natural number the query header carries -/
theorem seqno_toNat {z : Int} (h : 0 ≤ z ∧ z < 8) : z.toNat < 8 ∧ ((z.toNat : Nat) : Int) = z := by omega

/-! ### the client's side of an acknowledgement -/

/-- the client's view of a dataless answer to the query in flight -/
theorem ack_hdr {x y : Server.Session} {pkt : List Nat} (hp : pkt = Server.scPkt y 0)
    (h1 : 0 ≤ y.inpacket.seqno ∧ y.inpacket.seqno < 8) (h2 : 0 ≤ y.inpacket.fragment ∧ y.inpacket.fragment < 16)
    (ho : y.outpacket = x.outpacket) (h3 : 0 ≤ x.outpacket.seqno ∧ x.outpacket.seqno < 8)
    (h4 : 0 ≤ x.outpacket.fragment ∧ x.outpacket.fragment < 16) :
    (pkt.length : Int) = 2 ∧ (Client.decodeHdr pkt).dnSeq = x.outpacket.seqno ∧
    (Client.decodeHdr pkt).upSeq = y.inpacket.seqno ∧ (Client.decodeHdr pkt).upFrag = y.inpacket.fragment := by
  subst hp
  have hd := decodeHdr_scPkt y 0 h1 h2 (ho ▸ h3) (ho ▸ h4)
  rw [hd]
  refine ⟨?_, by rw [ho], rfl, rfl⟩
  rw [scPkt_length]
  simp

theorem isSending_of_len {c : Client.Cli} {n : Nat} (h : c.outpkt.len = n) (hn : n ≠ 0) : Client.isSending c = true := by
  unfold Client.isSending
  rw [h]
  simpa using hn

/-! ### the upstream-ack code on the acknowledgement of the fragment in flight

`c`: the client state after `send_chunk` from `c0` (either mode), `hdr`: an answer header that acknowledges fragment `f`. -/

theorem CSend.sending {P : Par} {c0 c : Client.Cli} {out : List Nat} {o f : Nat} (h : CSend P c0 out o f) (hsf : SentFacts c0 c) :
    Client.isSending (ackBook c) = true :=
  isSending_of_len (c := ackBook c) (hsf.olen.trans h.len) (by have := h.ho; omega)

/-- more is to be sent: the next fragment goes out -/
theorem CSend.upstream_more {P : Par} {c0 c : Client.Cli} {out : List Nat} {o f : Nat} (h : CSend P c0 out o f)
    (hsf : SentFacts c0 c) (hdr : Client.Hdr) (hus : hdr.upSeq = c0.outpkt.seqno) (huf : hdr.upFrag = (f : Int))
    (hlt : o + fragLen P (out.drop o) < out.length) :
    Client.upstream (ackBook c) hdr [] false 2 = Client.afterSend (Client.sendChunk (ackNext (ackBook c))) [] (.dnsChunk 2) := by
  have hbk : (ackBook c).outpkt = c.outpkt := rfl
  exact upstream_ack_more (ackBook c) hdr [] false 2 (h.sending hsf) (by rw [hus, hbk, hsf.oseq]) (by rw [huf, hbk, hsf.ofrag, h.frag])
    (by rw [hbk, hsf.ooff, hsf.osent, hsf.olen, h.fragLen_eq, h.off, h.len]; exact hlt)

/-- the fragment was the last one -/
theorem CSend.upstream_done {P : Par} {c0 c : Client.Cli} {out : List Nat} {o f : Nat} (h : CSend P c0 out o f)
    (hsf : SentFacts c0 c) (hdr : Client.Hdr) (hus : hdr.upSeq = c0.outpkt.seqno) (huf : hdr.upFrag = (f : Int))
    (heq : o + fragLen P (out.drop o) = out.length) :
    Client.upstream (ackBook c) hdr [] false 2 = Client.finalPing (ackDone (ackBook c)) [] false 2 := by
  have hbk : (ackBook c).outpkt = c.outpkt := rfl
  exact upstream_ack_done (ackBook c) hdr [] false 2 (h.sending hsf) (by rw [hus, hbk, hsf.oseq]) (by rw [huf, hbk, hsf.ofrag, h.frag])
    (by rw [hbk, hsf.ooff, hsf.osent, hsf.olen, h.fragLen_eq, h.off, h.len]; omega)

/-- the packet fields of the state the next fragment is sent from -/
theorem CSend.next {P : Par} {c0 c : Client.Cli} {out : List Nat} {o f : Nat} (h : CSend P c0 out o f) (hsf : SentFacts c0 c)
    (hf1 : f + 1 < 16) :
    (ackNext (ackBook c)).outpkt.data = out ∧ (ackNext (ackBook c)).outpkt.len = out.length ∧
    (ackNext (ackBook c)).outpkt.offset = o + fragLen P (out.drop o) ∧
    (ackNext (ackBook c)).outpkt.fragment = ((f + 1 : Nat) : Int) := by
  refine ⟨?_, ?_, ?_, ?_⟩
  · show c.outpkt.data = out; rw [hsf.odata]; exact h.data
  · show c.outpkt.len = out.length; rw [hsf.olen]; exact h.len
  · show c.outpkt.offset + c.outpkt.sentlen = _
    rw [hsf.ooff, hsf.osent, h.fragLen_eq, h.off]
  · show Client.sChar (c.outpkt.fragment + 1) = ((f + 1 : Nat) : Int)
    rw [hsf.ofrag, h.frag, sChar_small _ (by omega)]
    omega

end Iodine.C02L
