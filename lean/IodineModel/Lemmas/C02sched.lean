import IodineModel.Lemmas.C02v1
/-
The prompt run as a calculus.  What ONE side does on one input is a per-side fact (`SrvDoes`, `CliDoes`: new state, the datagrams
it sends, the frames it writes); the joint model only moves datagrams between the two.  With the joint state written as its
six components `⟨cs, srv, up, down, tunC, tunS⟩`, each event a scheduler can choose is one rewriting rule — `ps_*` for
`promptSteps`, `upLost_*` / `downLost_*` for `runSched` over the two blackout schedules, all over `step_*_mk` (one event on the
six components; the `_of` forms are for a state known by equations on its components) — so a chain of scheduler steps is the
list of per-side facts it is made of.
The rule set is NOT complete, it holds the rules the step lemmas need: under the upstream blackout there is no rule for an
answer that reaches the client and none for the server's timer, under the downstream blackout none for the server's timer (no
run the theorems follow lets the server's timer fire during a blackout); there are none for the events that duplicate or
reorder datagrams (`dup*`, `reorder*`): no theorem follows such a schedule step by step.
-/
namespace Iodine.C02L
open Iodine Iodine.World

/-- one iteration of the server on `inp`, `dt` seconds having passed in `select`: new state, answers for the client, tun frames -/
def SrvDoes (s : Server.Srv) (inp : Server.Input) (dt : Nat) (s' : Server.Srv) (down : List DownD) (tun : List (List Nat)) : Prop :=
  ∃ evs t, Server.iteration s inp (s.now + dt) = (s', evs, t) ∧ downOfEvents evs = down ∧ tunOfSEvents evs = tun

/-- one step of the client thread on `inp`: new state, queries sent, tun frames -/
def CliDoes (cs : Client.CState) (inp : Client.CInput) (cs' : Client.CState) (up : List UpD) (tun : List (List Nat)) : Prop :=
  ∃ evs nx, Client.cstep cs inp = (cs', evs, nx) ∧ upOfEvents evs = up ∧ tunOfCEvents evs = tun

theorem SrvDoes.mk {s s' : Server.Srv} {inp : Server.Input} {evs : List Server.Event} {t : Nat × Bool} {down : List DownD}
    {tun : List (List Nat)} (h : Server.iteration s inp s.now = (s', evs, t)) (hd : downOfEvents evs = down)
    (ht : tunOfSEvents evs = tun) : SrvDoes s inp 0 s' down tun :=
  ⟨evs, t, h, hd, ht⟩

theorem CliDoes.mk {cs cs' : Client.CState} {inp : Client.CInput} {evs : List Client.CEvent} {nx : Client.Next} {up : List UpD}
    {tun : List (List Nat)} (h : Client.cstep cs inp = (cs', evs, nx)) (hu : upOfEvents evs = up) (ht : tunOfCEvents evs = tun) :
    CliDoes cs inp cs' up tun :=
  ⟨evs, nx, h, hu, ht⟩

/-- the server's clock after the client's step took `cs'.c.now - cs.c.now` seconds -/
abbrev srvAt (srv : Server.Srv) (cs cs' : Client.CState) : Server.Srv := { srv with now := srv.now + (cs'.c.now - cs.c.now) }

/-- the client's clock after the server's `select` took `dt` seconds -/
abbrev cliAt (cs : Client.CState) (dt : Nat) : Client.CState := { cs with c := { cs.c with now := cs.c.now + dt } }

theorem srvAt_same {srv : Server.Srv} {cs cs' : Client.CState} (h : cs'.c.now = cs.c.now) : srvAt srv cs cs' = srv := by
  simp [srvAt, h]

theorem cstate_eta (cs : Client.CState) (h : cs.ph = .tunnel) : cs = ⟨cs.c, .tunnel⟩ := by
  cases cs; simp_all

theorem W.eq_of {w : W} {c : Client.Cli} {up : List UpD} {down : List DownD} (hcs : w.cs = ⟨c, .tunnel⟩) (hup : w.up = up)
    (hdown : w.down = down) : w = ⟨⟨c, .tunnel⟩, w.srv, up, down, w.tunC, w.tunS⟩ := by
  obtain ⟨cs, srv, u, d, tC, tS⟩ := w
  simp only at hcs hup hdown
  subst hcs hup hdown
  rfl

/-- `quiet`, spelled out: nothing in flight, the client not sending, the slot with nothing to send and no query but, in lazy
mode, the one it holds -/
theorem quiet_of_idle {u : Nat} {w : W} (hup : w.up = []) (hdown : w.down = []) (hc : Client.isSending w.cs.c = false)
    (hout : (Server.getUser w.srv u).outpacket.len = 0) (hoq : (Server.getUser w.srv u).oqFilled = 0)
    (hqs : (Server.getUser w.srv u).qs.id = 0)
    (hq : ((Server.getUser w.srv u).lazy = true ∧ (Server.getUser w.srv u).q.id ≠ 0) ∨
      ((Server.getUser w.srv u).lazy = false ∧ (Server.getUser w.srv u).q.id = 0)) : quiet u w = true := by
  unfold World.quiet
  rcases hq with ⟨hl, hq⟩ | ⟨hl, hq⟩ <;> simp [hup, hdown, hc, hout, hoq, hqs, hl, hq]

theorem stepS_mk {cs : Client.CState} {srv s' : Server.Srv} {up : List UpD} {down : List DownD} {tC tS : List (List Nat)}
    {inp : Server.Input} {dt : Nat} {evs : List Server.Event} {t : Nat × Bool}
    (h : Server.iteration srv inp (srv.now + dt) = (s', evs, t)) :
    stepS ⟨cs, srv, up, down, tC, tS⟩ inp dt = ⟨cliAt cs dt, s', up, down ++ downOfEvents evs, tC, tS ++ tunOfSEvents evs⟩ := by
  simp only [stepS, h]

theorem stepC_mk {cs cs' : Client.CState} {srv : Server.Srv} {up : List UpD} {down : List DownD} {tC tS : List (List Nat)}
    {inp : Client.CInput} {evs : List Client.CEvent} {nx : Client.Next} (h : Client.cstep cs inp = (cs', evs, nx)) :
    stepC ⟨cs, srv, up, down, tC, tS⟩ inp = ⟨cs', srvAt srv cs cs', up ++ upOfEvents evs, down, tC ++ tunOfCEvents evs, tS⟩ := by
  simp only [stepC, h]

theorem step_deliverUp_mk {cs : Client.CState} {srv s' : Server.Srv} {d : UpD} {r : List UpD} {down dn : List DownD}
    {tC tS tn : List (List Nat)} (h : SrvDoes srv (srvInput d) 0 s' dn tn) :
    step ⟨cs, srv, d :: r, down, tC, tS⟩ .deliverUp = ⟨cs, s', r, down ++ dn, tC, tS ++ tn⟩ := by
  obtain ⟨evs, t, hit, rfl, rfl⟩ := h
  show stepS ⟨cs, srv, r, down, tC, tS⟩ (srvInput d) 0 = _
  rw [stepS_mk hit]
  rfl

theorem step_deliverDown_mk {cs cs' : Client.CState} {srv : Server.Srv} {up ups : List UpD} {a : DownD} {r : List DownD}
    {tC tS tn : List (List Nat)} (h : CliDoes cs (cliInput a) cs' ups tn) :
    step ⟨cs, srv, up, a :: r, tC, tS⟩ .deliverDown = ⟨cs', srvAt srv cs cs', up ++ ups, r, tC ++ tn, tS⟩ := by
  obtain ⟨evs, nx, hst, rfl, rfl⟩ := h
  show stepC ⟨cs, srv, up, r, tC, tS⟩ (cliInput a) = _
  rw [stepC_mk hst]

theorem step_tickS_mk {cs : Client.CState} {srv s' : Server.Srv} {up : List UpD} {down dn : List DownD}
    {tC tS tn : List (List Nat)} (h : SrvDoes srv .tick ((Server.topOfLoop srv).2.1 / 1000000) s' dn tn) :
    step ⟨cs, srv, up, down, tC, tS⟩ .tickS =
      ⟨cliAt cs ((Server.topOfLoop srv).2.1 / 1000000), s', up, down ++ dn, tC, tS ++ tn⟩ := by
  obtain ⟨evs, t, hit, rfl, rfl⟩ := h
  show stepS ⟨cs, srv, up, down, tC, tS⟩ .tick ((Server.topOfLoop srv).2.1 / 1000000) = _
  rw [stepS_mk hit]

theorem step_tickC_mk {cs cs' : Client.CState} {srv : Server.Srv} {up ups : List UpD} {down : List DownD}
    {tC tS tn : List (List Nat)} (h : CliDoes cs .tick cs' ups tn) :
    step ⟨cs, srv, up, down, tC, tS⟩ .tickC = ⟨cs', srvAt srv cs cs', up ++ ups, down, tC ++ tn, tS⟩ := by
  obtain ⟨evs, nx, hst, rfl, rfl⟩ := h
  show stepC ⟨cs, srv, up, down, tC, tS⟩ .tick = _
  rw [stepC_mk hst]

theorem step_offerC_mk {cs cs' : Client.CState} {srv : Server.Srv} {up ups : List UpD} {down : List DownD}
    {tC tS tn : List (List Nat)} {f : List Nat} (hsel : tunSelC ⟨cs, srv, up, down, tC, tS⟩ = true)
    (h : CliDoes cs (.tun f) cs' ups tn) :
    step ⟨cs, srv, up, down, tC, tS⟩ (.offerC f) = ⟨cs', srvAt srv cs cs', up ++ ups, down, tC ++ tn, tS⟩ := by
  obtain ⟨evs, nx, hst, rfl, rfl⟩ := h
  show (if tunSelC ⟨cs, srv, up, down, tC, tS⟩ = true then stepC ⟨cs, srv, up, down, tC, tS⟩ (.tun f) else _) = _
  rw [if_pos hsel, stepC_mk hst]

/-- an offer to the server whose `select` has the tun device in its read set -/
theorem step_offerS_mk {cs : Client.CState} {srv s' : Server.Srv} {up : List UpD} {down dn : List DownD}
    {tC tS tn : List (List Nat)} {f : List Nat} (hsel : (Server.topOfLoop srv).2.2 = true)
    (h : SrvDoes srv (.tun f) 0 s' dn tn) :
    step ⟨cs, srv, up, down, tC, tS⟩ (.offerS f) = ⟨cs, s', up, down ++ dn, tC, tS ++ tn⟩ := by
  obtain ⟨evs, t, hit, rfl, rfl⟩ := h
  show (if (Server.topOfLoop srv).2.2 = true then stepS ⟨cs, srv, up, down, tC, tS⟩ (.tun f) 0 else _) = _
  rw [if_pos hsel, stepS_mk hit]
  rfl

/-- with nothing in flight the three schedulers choose by the two timeouts, the server's on a tie -/
def tickChoice (cs : Client.CState) (srv : Server.Srv) : Ev :=
  match Client.pending cs with
  | .sel s => if ((Server.topOfLoop srv).2.1 : Int) ≤ s.to then .tickS else .tickC
  | _ => .tickS

theorem tickChoice_tickS {cs : Client.CState} {srv : Server.Srv} {tC tS : List (List Nat)}
    (hto : ∀ t, timeoutC ⟨cs, srv, [], [], tC, tS⟩ = some t → ((Server.topOfLoop srv).2.1 : Int) ≤ t) :
    tickChoice cs srv = .tickS := by
  unfold tickChoice
  unfold timeoutC at hto
  cases hp : Client.pending cs with
  | sel s => rw [hp] at hto; exact if_pos (hto s.to rfl)
  | _ => rfl

theorem tickChoice_tickC {cs : Client.CState} {srv : Server.Srv} {tC tS : List (List Nat)} {t : Int}
    (htc : timeoutC ⟨cs, srv, [], [], tC, tS⟩ = some t) (hlt : t < ((Server.topOfLoop srv).2.1 : Int)) :
    tickChoice cs srv = .tickC := by
  unfold tickChoice
  unfold timeoutC at htc
  cases hp : Client.pending cs with
  | sel s => rw [hp] at htc; cases htc; exact if_neg (by omega)
  | _ => rw [hp] at htc; cases htc

theorem promptEv_idle (cs : Client.CState) (srv : Server.Srv) (tC tS : List (List Nat)) :
    promptEv ⟨cs, srv, [], [], tC, tS⟩ = tickChoice cs srv := by
  unfold promptEv tickChoice timeoutC timeoutS
  cases Client.pending cs <;> rfl

/-- `deliverUp`: the oldest query reaches the server -/
theorem ps_up {u k : Nat} {cs : Client.CState} {srv s' : Server.Srv} {d : UpD} {r : List UpD} {down dn : List DownD}
    {tC tS tn : List (List Nat)} (h : SrvDoes srv (srvInput d) 0 s' dn tn) :
    promptSteps u (k + 1) ⟨cs, srv, d :: r, down, tC, tS⟩ = promptSteps u k ⟨cs, s', r, down ++ dn, tC, tS ++ tn⟩ := by
  rw [promptSteps_succ (by simp [quiet]), show promptEv ⟨cs, srv, d :: r, down, tC, tS⟩ = .deliverUp from rfl,
    step_deliverUp_mk h]

theorem ps_up0 {u k : Nat} {cs : Client.CState} {srv s' : Server.Srv} {d : UpD} {r : List UpD} {dn : List DownD}
    {tC tS tn : List (List Nat)} (h : SrvDoes srv (srvInput d) 0 s' dn tn) :
    promptSteps u (k + 1) ⟨cs, srv, d :: r, [], tC, tS⟩ = promptSteps u k ⟨cs, s', r, dn, tC, tS ++ tn⟩ := by
  rw [ps_up h, List.nil_append]

/-- `deliverDown`: nothing is on its way up, the oldest answer reaches the client -/
theorem ps_down {u k : Nat} {cs cs' : Client.CState} {srv : Server.Srv} {a : DownD} {r : List DownD} {ups : List UpD}
    {tC tS tn : List (List Nat)} (h : CliDoes cs (cliInput a) cs' ups tn) :
    promptSteps u (k + 1) ⟨cs, srv, [], a :: r, tC, tS⟩ = promptSteps u k ⟨cs', srvAt srv cs cs', ups, r, tC ++ tn, tS⟩ := by
  rw [promptSteps_succ (by simp [quiet]), show promptEv ⟨cs, srv, [], a :: r, tC, tS⟩ = .deliverDown from rfl,
    step_deliverDown_mk h, List.nil_append]

/-- … when the client's step takes no time (every step on an answer) -/
theorem ps_down0 {u k : Nat} {cs cs' : Client.CState} {srv : Server.Srv} {a : DownD} {r : List DownD} {ups : List UpD}
    {tC tS tn : List (List Nat)} (h : CliDoes cs (cliInput a) cs' ups tn) (hn : cs'.c.now = cs.c.now) :
    promptSteps u (k + 1) ⟨cs, srv, [], a :: r, tC, tS⟩ = promptSteps u k ⟨cs', srv, ups, r, tC ++ tn, tS⟩ := by
  rw [ps_down h, srvAt_same hn]

/-- `tickS`: nothing in flight, not quiescent, and the server's `select` expires first -/
theorem ps_tickS {u k : Nat} {cs : Client.CState} {srv s' : Server.Srv} {dn : List DownD} {tC tS tn : List (List Nat)}
    (hq : quiet u ⟨cs, srv, [], [], tC, tS⟩ = false)
    (hto : ∀ t, timeoutC ⟨cs, srv, [], [], tC, tS⟩ = some t → ((Server.topOfLoop srv).2.1 : Int) ≤ t)
    (h : SrvDoes srv .tick ((Server.topOfLoop srv).2.1 / 1000000) s' dn tn) :
    promptSteps u (k + 1) ⟨cs, srv, [], [], tC, tS⟩ =
      promptSteps u k ⟨cliAt cs ((Server.topOfLoop srv).2.1 / 1000000), s', [], dn, tC, tS ++ tn⟩ := by
  rw [promptSteps_succ hq, promptEv_idle, tickChoice_tickS hto, step_tickS_mk h, List.nil_append]

/-- … a timer below one second (the 20 ms of a parked query): no clock moves -/
theorem ps_tickS0 {u k n : Nat} {cs : Client.CState} {srv s' : Server.Srv} {dn : List DownD} {tC tS tn : List (List Nat)}
    (hq : quiet u ⟨cs, srv, [], [], tC, tS⟩ = false) (hn : (Server.topOfLoop srv).2.1 = n) (hlt : n < 1000000)
    (hto : ∀ t, timeoutC ⟨cs, srv, [], [], tC, tS⟩ = some t → (n : Int) ≤ t) (h : SrvDoes srv .tick 0 s' dn tn) :
    promptSteps u (k + 1) ⟨cs, srv, [], [], tC, tS⟩ = promptSteps u k ⟨cs, s', [], dn, tC, tS ++ tn⟩ := by
  have h0 : (Server.topOfLoop srv).2.1 / 1000000 = 0 := by rw [hn]; omega
  rw [ps_tickS hq (by rw [hn]; exact hto) (by rw [h0]; exact h), h0]
  rfl

/-- `tickC`: nothing in flight, not quiescent, and the client's `select` expires first -/
theorem ps_tickC {u k : Nat} {cs cs' : Client.CState} {srv : Server.Srv} {ups : List UpD} {tC tS tn : List (List Nat)} {t : Int}
    (hq : quiet u ⟨cs, srv, [], [], tC, tS⟩ = false) (htc : timeoutC ⟨cs, srv, [], [], tC, tS⟩ = some t)
    (hlt : t < ((Server.topOfLoop srv).2.1 : Int)) (h : CliDoes cs .tick cs' ups tn) :
    promptSteps u (k + 1) ⟨cs, srv, [], [], tC, tS⟩ = promptSteps u k ⟨cs', srvAt srv cs cs', ups, [], tC ++ tn, tS⟩ := by
  rw [promptSteps_succ hq, promptEv_idle, tickChoice_tickC htc hlt, step_tickC_mk h, List.nil_append]

/-- the prompt schedule with every UPSTREAM datagram lost -/
def blackoutEvUp (w : W) : Ev :=
  if !w.up.isEmpty then .dropUp
  else if !w.down.isEmpty then .deliverDown
  else
    match timeoutC w with
    | some t => if (timeoutS w : Int) ≤ t then .tickS else .tickC
    | none => .tickS

/-- the prompt schedule with every DOWNSTREAM datagram lost -/
def blackoutEvDown (w : W) : Ev :=
  if !w.up.isEmpty then .deliverUp
  else if !w.down.isEmpty then .dropDown
  else
    match timeoutC w with
    | some t => if (timeoutS w : Int) ≤ t then .tickS else .tickC
    | none => .tickS

/-- `k` events of the joint model, each chosen from the state it is applied to by the schedule `ev` (`promptEv`: nothing is lost;
`blackoutEvUp`, `blackoutEvDown`: every datagram of one direction is) -/
def runSched (ev : W → Ev) : Nat → W → W
  | 0, w => w
  | k + 1, w => runSched ev k (step w (ev w))

theorem runSched_add (ev : W → Ev) (a b : Nat) (w : W) : runSched ev (a + b) w = runSched ev b (runSched ev a w) := by
  induction a generalizing w with
  | zero => simp [runSched]
  | succ a ih => rw [Nat.add_right_comm, runSched, runSched, ih]

theorem blackoutEvUp_idle (cs : Client.CState) (srv : Server.Srv) (tC tS : List (List Nat)) :
    blackoutEvUp ⟨cs, srv, [], [], tC, tS⟩ = tickChoice cs srv := by
  unfold blackoutEvUp tickChoice timeoutC timeoutS
  cases Client.pending cs <;> rfl

theorem blackoutEvDown_idle (cs : Client.CState) (srv : Server.Srv) (tC tS : List (List Nat)) :
    blackoutEvDown ⟨cs, srv, [], [], tC, tS⟩ = tickChoice cs srv := by
  unfold blackoutEvDown tickChoice timeoutC timeoutS
  cases Client.pending cs <;> rfl

theorem upLost_drop {k : Nat} {cs : Client.CState} {srv : Server.Srv} {d : UpD} {r : List UpD} {down : List DownD}
    {tC tS : List (List Nat)} :
    runSched blackoutEvUp (k + 1) ⟨cs, srv, d :: r, down, tC, tS⟩ = runSched blackoutEvUp k ⟨cs, srv, r, down, tC, tS⟩ := rfl

theorem upLost_tickC {k : Nat} {cs cs' : Client.CState} {srv : Server.Srv} {ups : List UpD} {tC tS tn : List (List Nat)} {t : Int}
    (htc : timeoutC ⟨cs, srv, [], [], tC, tS⟩ = some t) (hlt : t < ((Server.topOfLoop srv).2.1 : Int))
    (h : CliDoes cs .tick cs' ups tn) :
    runSched blackoutEvUp (k + 1) ⟨cs, srv, [], [], tC, tS⟩ =
      runSched blackoutEvUp k ⟨cs', srvAt srv cs cs', ups, [], tC ++ tn, tS⟩ := by
  rw [runSched, blackoutEvUp_idle, tickChoice_tickC htc hlt, step_tickC_mk h, List.nil_append]

theorem downLost_up {k : Nat} {cs : Client.CState} {srv s' : Server.Srv} {d : UpD} {r : List UpD} {down dn : List DownD}
    {tC tS tn : List (List Nat)} (h : SrvDoes srv (srvInput d) 0 s' dn tn) :
    runSched blackoutEvDown (k + 1) ⟨cs, srv, d :: r, down, tC, tS⟩ =
      runSched blackoutEvDown k ⟨cs, s', r, down ++ dn, tC, tS ++ tn⟩ := by
  rw [runSched, show blackoutEvDown ⟨cs, srv, d :: r, down, tC, tS⟩ = .deliverUp from rfl, step_deliverUp_mk h]

theorem downLost_drop {k : Nat} {cs : Client.CState} {srv : Server.Srv} {a : DownD} {r : List DownD} {tC tS : List (List Nat)} :
    runSched blackoutEvDown (k + 1) ⟨cs, srv, [], a :: r, tC, tS⟩ = runSched blackoutEvDown k ⟨cs, srv, [], r, tC, tS⟩ := rfl

theorem downLost_tickC {k : Nat} {cs cs' : Client.CState} {srv : Server.Srv} {ups : List UpD} {tC tS tn : List (List Nat)} {t : Int}
    (htc : timeoutC ⟨cs, srv, [], [], tC, tS⟩ = some t) (hlt : t < ((Server.topOfLoop srv).2.1 : Int))
    (h : CliDoes cs .tick cs' ups tn) :
    runSched blackoutEvDown (k + 1) ⟨cs, srv, [], [], tC, tS⟩ =
      runSched blackoutEvDown k ⟨cs', srvAt srv cs cs', ups, [], tC ++ tn, tS⟩ := by
  rw [runSched, blackoutEvDown_idle, tickChoice_tickC htc hlt, step_tickC_mk h, List.nil_append]

theorem timeoutC_tunnel {c : Client.Cli} {srv : Server.Srv} {up : List UpD} {down : List DownD} {tC tS : List (List Nat)} :
    timeoutC ⟨⟨c, .tunnel⟩, srv, up, down, tC, tS⟩ = some (Client.selectOf c).to := rfl

theorem tunSelC_idle {c : Client.Cli} {srv : Server.Srv} {up : List UpD} {down : List DownD} {tC tS : List (List Nat)}
    (h : Client.isSending c = false) : tunSelC ⟨⟨c, .tunnel⟩, srv, up, down, tC, tS⟩ = true := by
  simp [tunSelC, Client.pending, Client.selectOf, h]

theorem quiet_false_of_sending {u : Nat} {c : Client.Cli} {ph : Client.Phase} {srv : Server.Srv} {up : List UpD}
    {down : List DownD} {tC tS : List (List Nat)} (h : Client.isSending c = true) :
    quiet u ⟨⟨c, ph⟩, srv, up, down, tC, tS⟩ = false := by
  simp [quiet, h]

theorem quiet_false_of_out {u : Nat} {w : W} (h : (Server.getUser w.srv u).outpacket.len ≠ 0) : quiet u w = false := by
  unfold World.quiet
  simp [h]

theorem ps_down_of {u k : Nat} {w : W} {c c' : Client.Cli} {a : DownD} {ups : List UpD} {tn : List (List Nat)}
    (hcs : w.cs = ⟨c, .tunnel⟩) (hup : w.up = []) (hdown : w.down = [a])
    (h : CliDoes ⟨c, .tunnel⟩ (cliInput a) ⟨c', .tunnel⟩ ups tn) (hn : c'.now = c.now) :
    promptSteps u (k + 1) w = promptSteps u k ⟨⟨c', .tunnel⟩, w.srv, ups, [], w.tunC ++ tn, w.tunS⟩ := by
  rw [W.eq_of hcs hup hdown]
  exact ps_down0 h hn

theorem ps_up_of {u k : Nat} {w : W} {s' : Server.Srv} {d : UpD} {dn : List DownD} {tn : List (List Nat)}
    (hup : w.up = [d]) (hdown : w.down = []) (h : SrvDoes w.srv (srvInput d) 0 s' dn tn) :
    promptSteps u (k + 1) w = promptSteps u k ⟨w.cs, s', [], dn, w.tunC, w.tunS ++ tn⟩ := by
  obtain ⟨cs, srv, up, down, tC, tS⟩ := w
  simp only at hup hdown h ⊢
  subst hup hdown
  exact ps_up0 h

theorem step_offerS_of {w : W} {s' : Server.Srv} {dn : List DownD} {tn : List (List Nat)} {f : List Nat}
    (hsel : (Server.topOfLoop w.srv).2.2 = true) (h : SrvDoes w.srv (.tun f) 0 s' dn tn) :
    step w (.offerS f) = ⟨w.cs, s', w.up, w.down ++ dn, w.tunC, w.tunS ++ tn⟩ := by
  obtain ⟨cs, srv, up, down, tC, tS⟩ := w
  exact step_offerS_mk hsel h

end Iodine.C02L
