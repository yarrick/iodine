import IodineModel.Lemmas.C02up4
import IodineModel.Lemmas.C02up5
/-
Upstream, both DNS modes — BOUNDED RECOVERY from desynchronised sequence numbers: a sequence of frames offered one after the other
while the client's number is `d` ahead of the server's.  The first `lostUp d` frames are lost (none if `d ≤ 3`, else `8 − d`: each
lost frame moves `d` on by one, at `8 ≡ 0` the two ends agree again), every later one is delivered, in order.  A frame is lost by
three resends and a give-up (`QuietMD.up_packet_drop`), or — at distance 7 with the server's last fragment number 0 — by a false
acknowledgement (`QuietMD.false_ack_done`, `QuietMD.up_packet_desync7_multi`: then a packet of several fragments leaves one
garbage frame on the server's tun device, `junkAt`).  The induction over the frames is made here and not through the scheme for
lossy sequences downstream (`offerAllS_lossy`, C02v1): there a lost frame writes nothing and the run is only followed while
frames are lost, here a lost frame may write the garbage frame, which depends on the server's buffer at the start and on the
position of the frame in the list, and the statement also says where a run ends that is too short to resynchronise.
-/
namespace Iodine.C02L
open Iodine Iodine.Gen Iodine.World

/-- how many of the next packets are lost when the sender is `d` ahead (the lazy-mode statements call the same number `lost`,
C02qL1; downstream it is `lostDown`, C02qM1) -/
def lostUp (d : Nat) : Nat := if d ≤ 3 then 0 else 8 - d

/-- enough frames were offered for the two ends to agree again -/
def Resync (d n : Nat) : Prop := d = 0 ∨ (d ≤ 3 ∧ 1 ≤ n) ∨ (4 ≤ d ∧ 8 - d ≤ n)

/-- one more frame lost at distance `d ≥ 4`: the distance moves on by one (modulo 8) -/
theorem lostUp_step {d : Nat} (h4 : 4 ≤ d) (hd : d < 8) (n : Nat) :
    lostUp d = lostUp ((d + 1) % 8) + 1 ∧ (Resync d (n + 1) → Resync ((d + 1) % 8) n) ∧
    (n + 1 < lostUp d → (d + 1) % 8 = d + 1 ∧ n < lostUp ((d + 1) % 8)) := by
  unfold lostUp Resync
  by_cases h7 : d = 7
  · subst h7
    exact ⟨rfl, fun _ => Or.inl rfl, fun h => absurd h (by show ¬ n + 1 < 1; omega)⟩
  · have e : (d + 1) % 8 = d + 1 := by omega
    rw [e, if_neg (by omega), if_neg (by omega)]
    exact ⟨by omega, fun hr => Or.inr (Or.inr (by omega)), fun h => ⟨rfl, by omega⟩⟩

theorem resync_of_lostUp_lt {d n : Nat} (h : lostUp d < n) : Resync d n := by
  unfold lostUp at h
  unfold Resync
  by_cases h3 : d ≤ 3
  · rw [if_pos h3] at h; omega
  · rw [if_neg h3] at h; omega

/-- the (at most one) garbage frame written while `frames` are offered from distance `d`; `I` is the server's `inpacket` at
the start: only when `d ≥ 4`, the server's last fragment number is 0, and the packet that meets distance 7 — number `7 − d` —
exists and has more than one fragment -/
def junkAt (P : Par) (I : Server.Packet) (d : Nat) (frames : List (List Nat)) : List (List Nat) :=
  if d ≤ 3 ∨ 1 ≤ I.fragment then []
  else
    match frames[7 - d]? with
    | none => []
    | some f => if fragLen P (0x5a :: f) < (0x5a :: f).length then junkUp (chimeraUp P I f) else []

/-- no garbage frame unless the packet that meets distance 7 has several fragments and its chimera makes a frame -/
theorem junkAt_nil {P : Par} {I : Server.Packet} {d : Nat} {frames : List (List Nat)}
    (h : ∀ f, frames[7 - d]? = some f → fragLen P (0x5a :: f) < (0x5a :: f).length → junkUp (chimeraUp P I f) = []) :
    junkAt P I d frames = [] := by
  unfold junkAt
  split
  · rfl
  · cases hf : frames[7 - d]? with
    | none => rfl
    | some f =>
      simp only
      split
      · exact h f hf ‹_›
      · rfl

/-- a frame that is dropped at distance `d` is not the one that meets distance 7 -/
theorem junkAt_drop (P : Par) {x : Server.Session} {d : Nat} (hd : DropsUp x d) (f : List Nat) (fs : List (List Nat)) :
    junkAt P x.inpacket d (f :: fs) = junkAt P x.inpacket ((d + 1) % 8) fs := by
  unfold junkAt
  rcases hd with hd | ⟨rfl, hfr⟩
  · have h1 : ¬ d ≤ 3 := by omega
    have h2 : ¬ d + 1 ≤ 3 := by omega
    have h3 : 7 - d = (7 - (d + 1)) + 1 := by omega
    rw [show (d + 1) % 8 = d + 1 by omega]
    simp only [h1, h2, false_or, h3, List.getElem?_cons_succ]
  · rw [if_pos (Or.inr hfr), if_pos (Or.inl (by decide))]

section
variable {P : Par} {m : Mode}

/-- **Bounded recovery, upstream.**  Hypotheses beyond `UpFrameOk` only where a packet of several fragments is falsely
acknowledged (`4 ≤ d`, the server's last fragment number 0, packet number `7 − d`): the server's buffer is in a state
`handle_data_upstream` leaves behind (`BufOk`), and the chimera fits and is not self-addressed (`ChimeraOk`). -/
theorem QuietMD.recovery (hP : P.Ok) (hm : m.Ok) (hmP : m.OkP) (fuel : Nat) (hfuel : 33 ≤ fuel) :
    ∀ (frames : List (List Nat)) (d : Nat) (w : W), QuietMD P m d 0 w → d < 8 →
      (∀ f ∈ frames, UpFrameOk P (Server.getUser w.srv P.u).tunIp f) →
      (4 ≤ d → (Server.getUser w.srv P.u).inpacket.fragment = 0 →
        ∀ f, frames[7 - d]? = some f → fragLen P (0x5a :: f) < (0x5a :: f).length →
          BufOk (Server.getUser w.srv P.u).inpacket ∧
          ChimeraOk P (Server.getUser w.srv P.u).inpacket (Server.getUser w.srv P.u).tunIp f) →
      (offerAllC P.u fuel w frames).tunS =
        w.tunS ++ junkAt P (Server.getUser w.srv P.u).inpacket d frames ++ (frames.drop (lostUp d)).map tunImage ∧
      (offerAllC P.u fuel w frames).tunC = w.tunC ∧
      (Resync d frames.length → QuietMD P m 0 0 (offerAllC P.u fuel w frames)) ∧
      (frames.length < lostUp d → QuietMD P m (d + frames.length) 0 (offerAllC P.u fuel w frames)) := by
  intro frames
  induction frames with
  | nil =>
    intro d w hq _ _ _
    refine ⟨?_, rfl, fun hr => ?_, fun _ => hq⟩
    · rw [junkAt_nil (fun f hf => by simp at hf)]; simp [offerAllC]
    · have : d = 0 := by
        unfold Resync at hr
        simp only [List.length_nil] at hr
        omega
      subst this
      exact hq
  | cons f fs ih =>
    intro d w hq hd8 hok hch
    have hf := hok f List.mem_cons_self
    have hne : f ≠ [] := by intro hc; have := hf.h24; rw [hc] at this; simp at this
    -- after a step that leaves the two ends in step, the rest is the clean path
    have clean : ∀ {w' : W} {k : Nat} {junk : List (List Nat)}, promptSteps P.u k (step w (.offerC f)) = some w' → k ≤ fuel →
        QuietMD P m 0 0 w' → w'.tunS = w.tunS ++ junk → w'.tunC = w.tunC →
        (Server.getUser w'.srv P.u).tunIp = (Server.getUser w.srv P.u).tunIp →
        (offerAllC P.u fuel w (f :: fs)).tunS = w.tunS ++ junk ++ fs.map tunImage ∧
        (offerAllC P.u fuel w (f :: fs)).tunC = w.tunC ∧ QuietMD P m 0 0 (offerAllC P.u fuel w (f :: fs)) := by
      intro w' k junk h1 hk h2 h3 h4 h5
      have hseq := h2.up_sequence hP hm fuel hfuel fs (fun g hg => by rw [h5]; exact hok g (List.mem_cons_of_mem _ hg))
      rw [offerAllC_first fs h1 h2.quiet hk]
      exact ⟨by rw [hseq.2.1, h3], by rw [hseq.2.2, h4], hseq.1⟩
    by_cases hd3 : d ≤ 3
    · obtain ⟨w', h1, h2, h3, _, h5⟩ := hq.up_packet hP hm hd3 f hf.h24 hf.hl hf.bytes hf.dst hf.frags
      obtain ⟨c1, c2, c3⟩ := clean h1 (fuel_covers hf.frags hfuel) h2 h3 h5.tunC h5.kept.tunIp
      have hj : junkAt P (Server.getUser w.srv P.u).inpacket d (f :: fs) = [] := if_pos (Or.inl hd3)
      rw [show lostUp d = 0 from if_pos hd3, hj]
      exact ⟨by rw [c1]; simp, c2, fun _ => c3, fun h => absurd h (Nat.not_lt_zero _)⟩
    · have hd4 : 4 ≤ d := by omega
      obtain ⟨hl1, hrs, hlt⟩ := lostUp_step hd4 hd8 fs.length
      by_cases hfa : d = 7 ∧ (Server.getUser w.srv P.u).inpacket.fragment = 0
      · -- the false acknowledgement
        obtain ⟨rfl, hfr0⟩ := hfa
        have hnj : ¬ ((7 : Nat) ≤ 3 ∨ 1 ≤ (Server.getUser w.srv P.u).inpacket.fragment) := by rw [hfr0]; decide
        rw [show lostUp 7 = 1 from rfl]
        by_cases hmulti : fragLen P (0x5a :: f) < (0x5a :: f).length
        · obtain ⟨hbuf, hchim⟩ := hch hd4 hfr0 f rfl hmulti
          obtain ⟨w', h1, h2, h3, _, _, hc⟩ := hq.up_packet_desync7_multi hP hm hfr0 hbuf f hne hf.hl hf.bytes hmulti hf.frags hchim
          have h4 := hc.tunC
          have h5 := hc.kept.tunIp
          obtain ⟨c1, c2, c3⟩ := clean h1 (fuel_covers hf.frags hfuel) h2 h3 h4 h5
          have hj : junkAt P (Server.getUser w.srv P.u).inpacket 7 (f :: fs) =
              junkUp (chimeraUp P (Server.getUser w.srv P.u).inpacket f) := by
            unfold junkAt
            rw [if_neg hnj]
            exact if_pos hmulti
          rw [hj]
          exact ⟨c1, c2, fun _ => c3, fun h => absurd h (by simp)⟩
        · have hone : fragLen P (0x5a :: f) = (0x5a :: f).length := by
            obtain ⟨_, _, _, hm2, _⟩ := (newPacket_readyM hq.cst hq.cnt f hf.hl hf.bytes).query hP
            have : fragLen P (0x5a :: f) ≤ (0x5a :: f).length := by simpa using hm2
            omega
          obtain ⟨w', h1, h2, hi, _⟩ := hq.false_ack_done hP hm hfr0 f hne hf.hl hf.bytes hone
          have h3 := hi.tunS
          have h4 := hi.tunC
          have h6 := hi.kept.tunIp
          obtain ⟨c1, c2, c3⟩ := clean (junk := []) h1 (Nat.le_trans (by decide) hfuel) h2 (by rw [h3, List.append_nil]) h4 h6
          rw [junkAt_nil (fun g hg hmu => by cases hg; exact absurd hmu hmulti)]
          exact ⟨c1, c2, fun _ => c3, fun h => absurd h (by simp)⟩
      · -- dropped: one further out of step, the server's `inpacket` untouched
        have hdrop : DropsUp (Server.getUser w.srv P.u) d := by
          by_cases h7 : d = 7
          · have := hq.srv.x.ifrag.1
            exact Or.inr ⟨h7, by omega⟩
          · exact Or.inl ⟨hd4, by omega⟩
        obtain ⟨w', h1, h2, hi, _⟩ := hq.up_packet_drop hP hm hmP hdrop f hne hf.hl hf.bytes
        have h5 := hi.inp
        have h6 := hi.kept.tunIp
        obtain ⟨i1, i2, i3, i4⟩ := ih ((d + 1) % 8) w' h2 (Nat.mod_lt _ (by omega))
          (fun g hg => by rw [h6]; exact hok g (List.mem_cons_of_mem _ hg))
          (fun h4' hz g hg hmu => by
            have e : (d + 1) % 8 = d + 1 := by omega
            rw [h5, h6]
            rw [h5] at hz
            refine hch hd4 hz g ?_ hmu
            rw [show 7 - d = (7 - (d + 1)) + 1 by omega, List.getElem?_cons_succ, ← e]
            exact hg)
        rw [offerAllC_first fs h1 h2.quiet (Nat.le_trans (by decide) hfuel), hl1, junkAt_drop P hdrop f fs]
        refine ⟨by rw [i1, hi.tunS, h5]; rfl, by rw [i2, hi.tunC], fun hr => i3 (hrs hr), fun h => ?_⟩
        obtain ⟨e, hlt'⟩ := hlt (by rw [hl1]; exact h)
        have := i4 hlt'
        rw [e] at this
        rw [List.length_cons, show d + (fs.length + 1) = d + 1 + fs.length from by omega]
        exact this

end

end Iodine.C02L
