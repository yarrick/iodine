import IodineModel.Lemmas.C02qM7
/-
The downstream give-up run under a downstream blackout in LAZY mode, described by kernel-evaluated runs on the
lazy demo session `exWL` (`selecttimeout = 4`, fragment size 30).  No general theorem.

The server holds one ping of the client.  `offerS` answers the held ping with fragment 0 at once; under the downstream blackout
every round is `dropDown` (the answer is lost), `tickC` (the client's 4 s `select` times out: it pings), `deliverUp`.
* ONE fragment: the packet is forgotten as it is sent; the next ping is simply held: 3 steps, 4 s (`blackoutS`, `C02qM7`).
* `g ≥ 2` fragments: each ping is answered at once with fragment 0 again (`outfragresent` 1 … 6); the seventh ping makes the
  server drop the packet, it is answered without data (lost), and the ping after that is held: 21 steps again.
* The CLIENT: every poll is a query that gets no answer (`send_query_sendcnt` up, `send_query_recvcnt = 0`).  When the seventh
  such query is sent the "Receiving too few answers" alarm of `send_query` FIRES: `selecttimeout := 1`, counters reset — in the
  two-fragment run on the seventh poll (so the run takes 6·4 + 1 = 25 s), with one-fragment packets during the sixth run.
  Seven unanswered queries later (`selecttimeout` is 1 already) the alarm fires again and the client starts
  `handshake_lazyoff`: `lazymode := false`, phase `lazyoff` (`exBlack 13`, time +31 s: seen with `#eval` only).  Both changes
  outlive the blackout.
-/
namespace Iodine.C02L
open Iodine Iodine.Gen Iodine.Server Iodine.World

/-- what the tests check of the state `w` reached from `w0`: quiescent (the server holds a ping), nothing delivered, the
server's downstream number one further, its outpacket gone -/
def downGaveUpL (w0 w : W) (secs : Nat) (selto : Int) : Bool :=
  quiet 0 w0 && quiet 0 w && w.tunC == w0.tunC && w.tunS == w0.tunS &&
  w.cs.c.inpkt == w0.cs.c.inpkt && w.cs.c.outpkt.seqno == w0.cs.c.outpkt.seqno &&
  (getUser w.srv 0).outpacket.seqno == ((getUser w0.srv 0).outpacket.seqno + 1) % 8 &&
  (getUser w.srv 0).outpacket.len == 0 && (getUser w.srv 0).outfragresent == 0 &&
  (getUser w.srv 0).inpacket == (getUser w0.srv 0).inpacket &&
  w.cs.c.now == w0.cs.c.now + secs && (getUser w.srv 0).lastPkt == w0.srv.now + secs &&
  w.cs.c.lastdownstreamtime == w0.cs.c.lastdownstreamtime &&
  w.cs.c.lazymode && (getUser w.srv 0).lazy && w.cs.c.selecttimeout == selto && w.cs.c.recvcnt == 0

/-- the two-fragment run, evaluated once: the resend counter after 15 steps, not quiescent after 18, given up after 21 -/
theorem lazy2_run :
    (getUser (runSched blackoutEvDown 15 (step exWL (.offerS (demoFrame 2 30)))).srv 0).outfragresent = 6 ∧
    quiet 0 (runSched blackoutEvDown 3 (runSched blackoutEvDown 15 (step exWL (.offerS (demoFrame 2 30))))) = false ∧
    downGaveUpL exWL (runSched blackoutEvDown 3 (runSched blackoutEvDown 3 (runSched blackoutEvDown 15
      (step exWL (.offerS (demoFrame 2 30)))))) 25 1 = true := by
  rw [runSched_fast, step_fast]; decide +kernel

/-- TEST lazy, two fragments: 21 steps, 25 s, and the client's poll interval is 1 s afterwards (it was 4 s) -/
theorem test_giveup_down_lazy_2 :
    downGaveUpL exWL (runSched blackoutEvDown 21 (step exWL (.offerS (demoFrame 2 30)))) 25 1 = true ∧ exWL.cs.c.selecttimeout = 4 := by
  rw [show (21 : Nat) = 15 + 3 + 3 from rfl, runSched_add, runSched_add]
  exact ⟨lazy2_run.2.2, by decide +kernel⟩

/-- … not quiescent three steps earlier: the server has just dropped the packet, its dataless answer is in flight -/
theorem test_giveup_down_lazy_2_exact :
    quiet 0 (runSched blackoutEvDown 18 (step exWL (.offerS (demoFrame 2 30)))) = false ∧
    (getUser (runSched blackoutEvDown 15 (step exWL (.offerS (demoFrame 2 30)))).srv 0).outfragresent = 6 := by
  rw [show (18 : Nat) = 15 + 3 from rfl, runSched_add]
  exact ⟨lazy2_run.2.1, lazy2_run.1⟩

/-- TEST lazy, one-fragment packets in a row: after five runs (20 s) the interval is still 4 s, the sixth run fires the alarm -/
theorem test_giveup_down_lazy_alarm :
    (exBlack 5).cs.c.selecttimeout = 4 ∧ (exBlack 5).cs.c.sendcnt = 6 ∧ (exBlack 5).cs.c.now = exWL.cs.c.now + 20 ∧
    (exBlack 6).cs.c.selecttimeout = 1 ∧ (exBlack 6).cs.c.sendcnt = 0 ∧ (exBlack 6).cs.c.now = exWL.cs.c.now + 24 ∧
    (exBlack 6).cs.c.lazymode = true ∧ quiet 0 (exBlack 6) = true := by
  unfold exBlack blackoutS; rw [runSched_fast, step_fast]; decide +kernel

end Iodine.C02L
