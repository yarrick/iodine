import IodineModel.Lemmas.C02d2
import IodineModel.Lemmas.C02d1
import IodineModel.Lemmas.C02mode
import IodineModel.Lemmas.C02sched
/-
Downstream transfer, the two sides each on its own.  The client: reassembly of the fragment it expects (`CExpect`; `CExpectW` adds
the "weird situation" of `tunnel_dns`), and its ping in either mode (`pingStateL`; `sendPing_pingQ`: what the server reads out of
it).  A poll: `cliDoes_poll` (the client's `select` times out, a ping goes out) and `srvDoes_ping` (the server answers it at once).
-/
namespace Iodine.C02L
open Iodine Iodine.Gen Iodine.World Iodine.Client

/-- the client has the first `o` bytes of the downstream packet `out` (seqno `sq`) and expects fragment `f` -/
def CExpect (c : Cli) (out : List Nat) (sq : Int) (o f : Nat) : Prop :=
  (f = 0 ∧ o = 0 ∧ ∃ j : Nat, 1 ≤ j ∧ j ≤ 4 ∧ sq = (c.inpkt.seqno + j) % 8) ∨
  (f ≠ 0 ∧ c.inpkt.seqno = sq ∧ c.inpkt.fragment = (f : Int) - 1 ∧ c.inpkt.len = o ∧ c.inpkt.data.take o = out.take o)

/-- `inpkt` after fragment `f` with the bytes `(out.drop o).take m` was appended -/
def inAfter (c : Cli) (out : List Nat) (sq : Int) (o m f : Nat) : Packet :=
  { c.inpkt with seqno := sq, fragment := (f : Int), data := out.take (o + m), len := o + m }

/-- the "weird situation": the client's current downstream number is `sq` and nothing of it has been stored -/
def CWeird (c : Client.Cli) (sq : Int) : Prop := c.inpkt.seqno = sq ∧ c.inpkt.fragment = 0 ∧ c.inpkt.len = 0

/-- `CExpect`, or the first fragment in the weird situation.  (`CExpect` itself is not extended by that clause: the lemmas on
a downstream fragment that crosses an upstream data query derive "the query's acknowledgement is stale" from `CExpect`, and
in the weird situation that query acknowledges `(sq, 0)`, which IS the server's fragment in flight.) -/
def CExpectW (c : Client.Cli) (out : List Nat) (sq : Int) (o f : Nat) : Prop :=
  CExpect c out sq o f ∨ (f = 0 ∧ o = 0 ∧ CWeird c sq)

theorem CExpect.toW {c : Client.Cli} {out : List Nat} {sq : Int} {o f : Nat} (h : CExpect c out sq o f) :
    CExpectW c out sq o f := Or.inl h

theorem CWeird.toW {c : Client.Cli} {sq : Int} (h : CWeird c sq) (out : List Nat) : CExpectW c out sq 0 0 :=
  Or.inr ⟨rfl, rfl, h⟩

theorem CWeird.congr {c c' : Client.Cli} {sq : Int} (h : CWeird c sq) (he : c'.inpkt = c.inpkt) : CWeird c' sq := by
  unfold CWeird at *
  rw [he]; exact h

theorem CExpectW.congrW {c c' : Client.Cli} {out : List Nat} {sq : Int} {o f : Nat} (h : CExpectW c out sq o f)
    (he : c'.inpkt = c.inpkt) : CExpectW c' out sq o f := by
  rcases h with h | ⟨h1, h2, h3⟩
  · left
    unfold CExpect at *
    rw [he]; exact h
  · exact Or.inr ⟨h1, h2, h3.congr he⟩

/-- the client accepts the fragment it expects and appends its bytes: a new sequence number 1..4 ahead (the buffer is reset), the
next fragment of the current packet, or the first fragment in the weird situation -/
theorem append_expectedW (c : Client.Cli) (h : Client.Hdr) (buf out : List Nat) (sq : Int) (o m f : Nat)
    (hE : CExpectW c out sq o f) (hs : 0 ≤ c.inpkt.seqno ∧ c.inpkt.seqno < 8) (hsq : 0 ≤ sq ∧ sq < 8) (hf : f < 16)
    (hh : h.dnSeq = sq ∧ h.dnFrag = (f : Int))
    (hbl : buf.length = 2 + m) (hbd : buf.drop 2 = (out.drop o).take m) (hm : 1 ≤ m) (hom : o + m ≤ out.length)
    (h64 : out.length ≤ 65536) :
    ∃ c2, Client.acceptFragment c h = some c2 ∧
      Client.appendFragment c2 h buf ((2 + m : Nat) : Int) = { c with inpkt := inAfter c out sq o m f } := by
  have hchunk : ((buf.take ((2 + m : Nat) : Int).toNat).drop 2) = (out.drop o).take m := by
    rw [Int.toNat_natCast, List.take_of_length_le (by omega), hbd]
  have hcl : ((out.drop o).take m).length = m := by rw [List.length_take, List.length_drop]; omega
  rcases hE with (⟨h1, h2, j, hj1, hj4, h3⟩ | ⟨h1, h2, h3, h4, h5⟩) | ⟨h1, h2, h3, h4, h5⟩
  · subst h1; subst h2
    have hne : h.dnSeq ≠ c.inpkt.seqno := by rw [hh.1, h3]; omega
    refine ⟨{ c with inpkt := { c.inpkt with seqno := sChar h.dnSeq, fragment := sChar h.dnFrag, len := 0 } }, ?_, ?_⟩
    · unfold acceptFragment
      rw [if_pos hne]
    · unfold appendFragment inAfter
      simp only [hchunk, Gen.PACKET_DATA_SIZE, Nat.sub_zero, List.take_zero, List.nil_append, Nat.zero_add]
      rw [List.take_of_length_le (by rw [hcl]; omega), hcl, hh.1, hh.2, sChar_small sq (by omega), sChar_small _ (by omega)]
      simp
  · refine ⟨c, ?_, ?_⟩
    · unfold acceptFragment
      rw [if_neg (by rw [hh.1, h2]; simp), if_neg (by rw [hh.2]; intro hc; omega), if_neg (by rw [hh.2, h3]; omega),
        if_neg (by rw [hh.2, h3]; omega)]
    · unfold appendFragment inAfter
      simp only [hchunk, Gen.PACKET_DATA_SIZE, h4]
      rw [List.take_of_length_le (by rw [hcl]; omega), hcl, hh.2, sChar_small _ (by omega), h5, List.take_add]
      simp [h2]
  · subst h1; subst h2; subst h3
    refine ⟨c, ?_, ?_⟩
    · unfold acceptFragment
      rw [if_neg (by rw [hh.1]; simp), if_pos ⟨h4, hh.2, h5⟩]
    · unfold appendFragment inAfter
      simp only [hchunk, Gen.PACKET_DATA_SIZE, h5, Nat.sub_zero, List.take_zero, List.nil_append, Nat.zero_add]
      rw [List.take_of_length_le (by rw [hcl]; omega), hcl, hh.2, sChar_small _ (by omega)]
      simp

/-- an expected fragment that is not the last one, whatever `send_something_now` was: appended, a ping is to go out -/
theorem downstream_midW' (c : Client.Cli) (h : Client.Hdr) (buf out : List Nat) (sq : Int) (o m f : Nat) (sn : Bool)
    (hE : CExpectW c out sq o f) (hs : 0 ≤ c.inpkt.seqno ∧ c.inpkt.seqno < 8) (hsq : 0 ≤ sq ∧ sq < 8) (hf : f < 16)
    (hh : h.dnSeq = sq ∧ h.dnFrag = (f : Int)) (hl : h.last = false)
    (hbl : buf.length = 2 + m) (hbd : buf.drop 2 = (out.drop o).take m) (hm : 1 ≤ m) (hom : o + m ≤ out.length)
    (h64 : out.length ≤ 65536) :
    Client.downstream c h buf ((2 + m : Nat) : Int) sn = ({ c with inpkt := inAfter c out sq o m f }, [], true) := by
  obtain ⟨c2, ha, hap⟩ := append_expectedW c h buf out sq o m f hE hs hsq hf hh hbl hbd hm hom h64
  unfold Client.downstream
  rw [if_pos (by omega), ha]
  simp only [hap, hl, Bool.false_eq_true, if_false]
  rw [if_neg (by show ¬ (o + m = 0); omega)]

/-- the last fragment, whatever `send_something_now` was (it is passed on): the packet is delivered -/
theorem downstream_lastW' (c : Client.Cli) (h : Client.Hdr) (buf : List Nat) (frame : List Nat) (sq : Int) (o m f : Nat) (sn : Bool)
    (hE : CExpectW c (0x5a :: frame) sq o f) (hs : 0 ≤ c.inpkt.seqno ∧ c.inpkt.seqno < 8) (hsq : 0 ≤ sq ∧ sq < 8) (hf : f < 16)
    (hh : h.dnSeq = sq ∧ h.dnFrag = (f : Int)) (hl : h.last = true)
    (hbl : buf.length = 2 + m) (hbd : buf.drop 2 = ((0x5a :: frame).drop o).take m) (hm : 1 ≤ m)
    (hom : o + m = (0x5a :: frame).length) (h64 : (0x5a :: frame).length ≤ 65536) :
    Client.downstream c h buf ((2 + m : Nat) : Int) sn =
      ({ c with inpkt := { inAfter c (0x5a :: frame) sq o m f with len := 0 }, sendPingSoon := 5 }, [Client.writeTun frame], sn) := by
  obtain ⟨c2, ha, hap⟩ := append_expectedW c h buf (0x5a :: frame) sq o m f hE hs hsq hf hh hbl hbd hm (by omega) h64
  have hun : Client.uncompress ((inAfter c (0x5a :: frame) sq o m f).data.take (inAfter c (0x5a :: frame) sq o m f).len) 65536 = some frame := by
    unfold inAfter
    simp only
    rw [hom, List.take_take, Nat.min_self, List.take_length]
    unfold Client.uncompress
    simp only [List.length_cons] at h64
    simp
    omega
  unfold Client.downstream
  rw [if_pos (by omega), ha]
  simp only [hap, hl, if_true]
  unfold Client.deliver
  simp only [hun]
  rfl

/-! ### the client's ping -/

/-- the state `send_ping` + the end of the handler leave behind in either mode: as `pingState`, and in lazy mode the send is
counted -/
def pingStateL (c : Cli) : Cli :=
  { bumpCnt (rotateChunkid { c with randSeed := (c.randSeed + 1) % 65536 }) with sendPingSoon := 0 }

theorem pingStateL_eta (c : Cli) :
    pingStateL c = { rotateChunkid { c with randSeed := (c.randSeed + 1) % 65536 } with
                       sendcnt := (pingStateL c).sendcnt, sendPingSoon := 0 } := by
  unfold pingStateL
  have := bumpCnt_eta (rotateChunkid { c with randSeed := (c.randSeed + 1) % 65536 })
  generalize bumpCnt (rotateChunkid { c with randSeed := (c.randSeed + 1) % 65536 }) = z at this
  rw [this]

theorem pingStateL_chunkid (c : Cli) :
    (pingStateL c).chunkid = (rotateChunkid { c with randSeed := (c.randSeed + 1) % 65536 }).chunkid := by
  rw [pingStateL_eta]

theorem pingFactsL (c : Cli) : PingFacts c (pingStateL c) := by
  obtain ⟨v, e⟩ : ∃ v, pingStateL c = { rotateChunkid { c with randSeed := (c.randSeed + 1) % 65536 } with
      sendcnt := v, sendPingSoon := 0 } := ⟨_, pingStateL_eta c⟩
  rw [e]
  constructor
  case cid =>
    have := rotateChunkid_lt { c with randSeed := (c.randSeed + 1) % 65536 }
    simpa using this
  all_goals simp [rotateChunkid]

theorem pingStateL_ids (c : Cli) :
    (pingStateL c).chunkidPrev = c.chunkid ∧ (c.chunkid < 65536 → (pingStateL c).chunkid ≠ c.chunkid) ∧
    (∀ d, CntOk c d → CntOk (pingStateL c) (d + 1)) := by
  obtain ⟨v, e⟩ : ∃ v, pingStateL c = { rotateChunkid { c with randSeed := (c.randSeed + 1) % 65536 } with
      sendcnt := v, sendPingSoon := 0 } := ⟨_, pingStateL_eta c⟩
  refine ⟨?_, ?_, ?_⟩
  · rw [e]; simp [rotateChunkid]
  · intro hc
    rw [pingStateL_chunkid]
    exact rotateChunkid_ne { c with randSeed := (c.randSeed + 1) % 65536 } hc
  · intro d hd
    have h1 : CntOk (rotateChunkid { c with randSeed := (c.randSeed + 1) % 65536 }) d := by
      unfold CntOk at *
      unfold rotateChunkid
      exact hd
    have h2 := bumpCnt_cnt _ d h1
    unfold CntOk at *
    exact h2

attribute [irreducible] pingStateL

theorem cstatM_pingStateL {P : Par} {lz : Bool} {c : Client.Cli} (hc : CStatM P lz c) : CStatM P lz (pingStateL c) :=
  hc.after_ping (pingFactsL c) (by rw [(pingFactsL c).seed]; exact Nat.mod_lt _ (by omega))

theorem CntM.pinged {lz : Bool} {c : Client.Cli} {d : Nat} (h : CntM lz c d) : CntM lz (pingStateL c) (d + 1) :=
  h.imp id fun h => (pingStateL_ids c).2.2 d h

/-- the client's ping as the server reads it, either mode -/
theorem sendPing_pingQ {P : Par} (hP : P.Ok) {lz : Bool} {c : Client.Cli} (hc : CStatM P lz c) (hcnt : CntM lz c 1) :
    ∃ name, Client.sendPing c =
        ⟨bumpCnt (Client.rotateChunkid { c with randSeed := (c.randSeed + 1) % 65536 }),
         [.query (pingStateL c).chunkid P.ty name], false⟩ ∧
      PingQ P (upQuery (pingStateL c).chunkid P.ty name) c.inpkt.seqno c.inpkt.fragment c.randSeed := by
  have hqt : c.doQtype < 65536 := by rw [hc.ty]; exact tunnelType_lt hP.tty
  have hur : 0 ≤ c.userid ∧ c.userid < 16 := by rw [hc.uid]; have := hP.hu; omega
  have hsend := sendPing_bump c P.ec.codec P.L P.td (hcnt.send hc) hc.L hc.td hP.set hqt hc.conn
  have hpn := pingData_name c P.ec.codec P.L P.td hc.L hc.td hP.set
  obtain ⟨hu0, hu1, hu2⟩ := pingData_charVal c hur hc.seed hc.iseq hc.ifrag
  have h0 := hpn.c0
  obtain ⟨dlen, hq, h2, hun⟩ := hpn.read
  obtain ⟨cp, hcp, hfp, hfl⟩ := hpn.fp
  clear hpn
  generalize (112 :: (Client.buildHostname Codec.b32 c.hostnameMaxlen 4095 112 c.topdomain (pingData c)).name) = name at *
  have hpd := pingData_eq c hur hc.seed hc.iseq hc.ifrag
  have hlen4 : (pingData c).length = 4 := pingData_length c
  rw [← pingStateL_chunkid] at hsend
  have hun' := hun P.ty (pingStateL c).chunkid clientAddr Server.Addr.zero serverAddr
  have hd2 : ((pingData c).take 4).getD 2 0 = c.randSeed / 256 := by rw [hpd]; rfl
  have hd3 : ((pingData c).take 4).getD 3 0 = c.randSeed % 256 := by rw [hpd]; rfl
  refine ⟨name, ?_, ?_⟩
  · rw [hsend, hc.ty]
  · refine ⟨rfl, rfl, ?_, rfl, h0, hc.seed, ⟨dlen, hq, h2, ?_, ?_, ?_, ?_, ?_, ?_⟩, ?_, ⟨cp, hcp, hfl, ?_, ?_⟩⟩
    · rw [upQuery_id, pingStateL_chunkid]; exact Client.rotateChunkid_ne_zero _
    · show 4 ≤ (pingUnpacked (upQuery _ P.ty name) dlen).length
      unfold upQuery; rw [hun', hlen4]; omega
    · show Server.charVal ((pingUnpacked (upQuery _ P.ty name) dlen).getD 0 0) = _
      unfold upQuery; rw [hun', hu0, hc.uid]
    · show Server.charVal ((pingUnpacked (upQuery _ P.ty name) dlen).getD 1 0) / 16 = _
      unfold upQuery; rw [hun', hu1]
    · show Server.charVal ((pingUnpacked (upQuery _ P.ty name) dlen).getD 1 0) % 16 = _
      unfold upQuery; rw [hun', hu2]
    · show ((pingUnpacked (upQuery _ P.ty name) dlen).take 4).getD 2 0 = _
      unfold upQuery; rw [hun', hd2]
    · show ((pingUnpacked (upQuery _ P.ty name) dlen).take 4).getD 3 0 = _
      unfold upQuery; rw [hun', hd3]
    · show seedOfName P.td name = c.randSeed
      unfold seedOfName
      rw [hq]
      simp only
      have hun2 : Encoding.unpackData Codec.b32 65536 ((name.take (min dlen 512)).drop 1) = pingData c := hun'
      rw [hun2, hpd]
      show c.randSeed / 256 * 256 + c.randSeed % 256 = c.randSeed
      omega
    · show ((Codec.dec Codec.b32 8 (cp - 1) (name.drop 1)).take 4).getD 2 0 = _
      rw [hfp, hpd]; rfl
    · show ((Codec.dec Codec.b32 8 (cp - 1) (name.drop 1)).take 4).getD 3 0 = _
      rw [hfp, hpd]; rfl

/-- a ping goes out from `c`, after the events `pre`, whatever the client resumes with -/
theorem settle_ping {P : Par} (hP : P.Ok) {lz : Bool} {c : Client.Cli} (hc : CStatM P lz c) (hcnt : CntM lz c 1)
    (pre : List Client.CEvent) (k : Client.Resume) :
    ∃ name, Client.settle (Client.afterSend (Client.sendPing c) pre k) =
        (⟨pingStateL c, .tunnel⟩, pre ++ [.query (pingStateL c).chunkid P.ty name], .sel (Client.selectOf (pingStateL c))) ∧
      PingQ P (upQuery (pingStateL c).chunkid P.ty name) c.inpkt.seqno c.inpkt.fragment c.randSeed := by
  obtain ⟨name, hsend, hpq⟩ := sendPing_pingQ hP hc hcnt
  have e : ({ bumpCnt (Client.rotateChunkid { c with randSeed := (c.randSeed + 1) % 65536 }) with sendPingSoon := 0 } : Client.Cli) =
      pingStateL c := by unfold pingStateL; rfl
  refine ⟨name, ?_, hpq⟩
  have hrun : (bumpCnt (Client.rotateChunkid { c with randSeed := (c.randSeed + 1) % 65536 })).running = true := by
    have h1 : (pingStateL c).running = c.running := (pingFactsL c).running
    rw [← e] at h1
    exact h1.trans hc.running
  rw [settle_afterSend _ _ _ (by rw [hsend]) (by rw [hsend]; exact hrun), hsend]
  simp only
  rw [e]

/-- … at the end of `tunnel_dns` -/
theorem settle_ping_now {P : Par} (hP : P.Ok) {lz : Bool} {c3 : Client.Cli} (hc3st : CStatM P lz c3) (hc3cnt : CntM lz c3 1)
    (pre : List Client.CEvent) (read : Int) :
    ∃ name, Client.settle (Client.finalPing c3 pre true read) =
        (⟨pingStateL c3, .tunnel⟩, pre ++ [.query (pingStateL c3).chunkid P.ty name], .sel (Client.selectOf (pingStateL c3))) ∧
      PingQ P (upQuery (pingStateL c3).chunkid P.ty name) c3.inpkt.seqno c3.inpkt.fragment c3.randSeed := by
  have hfp : Client.finalPing c3 pre true read = Client.afterSend (Client.sendPing c3) pre (.dnsPing read) := by
    simp [Client.finalPing]
  rw [hfp]
  exact settle_ping hP hc3st hc3cnt pre (.dnsPing read)

/-! ### the server's side -/

section
open Iodine.Server

/-- the server's side of a downstream transfer: the outpacket is `out` with seqno `sq`; `m` bytes at offset `o`
(fragment `f`) were sent and are not yet acknowledged (`m = 0`: nothing sent yet) -/
structure DownSrv (P : Par) (s : Srv) (out : List Nat) (sq : Int) (o m f : Nat) : Prop where
  stat : SStat P s
  q : (getUser s P.u).q.id = 0
  qs : (getUser s P.u).qs.id = 0
  lz : (getUser s P.u).lazy = false
  oq : (getUser s P.u).oqFilled = 0
  op : (getUser s P.u).outpacket = ⟨out.length, m, o, out, sq, (f : Int)⟩
  res : (getUser s P.u).outfragresent ≤ 1
  frag : 0 < (getUser s P.u).fragsize

/-- the server conditions under which a ping is answered at once, without a bound on the resend counter -/
structure PingSrvG (P : Par) (s : Srv) : Prop where
  stat : SStat P s
  q : (getUser s P.u).q.id = 0
  qs : (getUser s P.u).qs.id = 0
  lz : (getUser s P.u).lazy = false
  oq : (getUser s P.u).oqFilled = 0

theorem afterPing_frame {P : Par} {s s' : Srv} {Q : Query} {a b : Int} {pkt : List Nat} (hS : SStat P s)
    (hoq : (getUser s P.u).oqFilled = 0) (hid2 : Q.id2 = 0) (hap : AfterPing P s s' Q a b pkt)
    (hos : 0 ≤ (getUser s' P.u).outpacket.seqno ∧ (getUser s' P.u).outpacket.seqno < 8)
    (hof : 0 ≤ (getUser s' P.u).outpacket.fragment ∧ (getUser s' P.u).outpacket.fragment < 16) :
    SStat P s' ∧ rest (getUser s' P.u) = rest (getUser s P.u) ∧ (getUser s' P.u).q.id = 0 ∧
    (getUser s' P.u).lastPkt = s'.now ∧ s'.now = s.now := by
  obtain ⟨hr, hqq1, hqq2⟩ := pingZ_rest { getUser s P.u with qsNew := false } P.u Q a b s.now hid2 hoq
  rw [← show getUser s' P.u = pingZ { getUser s P.u with qsNew := false } P.u Q a b s.now from hap.slot] at hr hqq1 hqq2
  have hr' : rest (getUser s' P.u) = rest (getUser s P.u) := hr
  refine ⟨⟨hap.solo, hap.td, ?_, ?_, ?_⟩, hr', by rw [hqq1], by rw [hqq2, hap.now], hap.now⟩
  · exact hS.x.of_rest hr' hos hof
  · rw [hap.cfg, rest_host hr']; exact hS.host
  · rw [hap.now, hqq2]; omega

end

theorem SStat.advance {P : Par} {s : Server.Srv} (h : SStat P s) (dt : Nat)
    (hl : s.now + dt < (Server.getUser s P.u).lastPkt + 60) : SStat P { s with now := s.now + dt } :=
  ⟨h.solo.withNow _, h.td, h.x, h.host, hl⟩

/-! ### the two sides of a poll, each on its own -/

theorem selectOf_pingSoon (c : Client.Cli) (h : c.sendPingSoon ≠ 0) : (Client.selectOf c).to = (c.sendPingSoon : Int) * 1000 := by
  unfold Client.selectOf
  simp only []
  rw [if_pos h]

theorem cli_now_zero (c : Client.Cli) : ({ c with now := c.now + 0 } : Client.Cli) = c := by
  cases c; rfl

/-- The client's `select` times out with nothing being sent (either mode): a ping with the client's downstream position goes
out from `c1`, the state with the whole seconds of the timeout added to the clock. -/
theorem cliDoes_poll {P : Par} (hP : P.Ok) {lz : Bool} {c : Client.Cli} (hc : CStatM P lz c) (hcnt : CntM lz c 1)
    (hs : Client.isSending c = false)
    (hexp : ¬ c.lastdownstreamtime + 60 < c.now + ((Client.selectOf c).to / 1000000).toNat) :
    ∃ name c1, c1 = Client.advanceClock c (Client.selectOf c) ∧ CStatM P lz c1 ∧
      CliDoes ⟨c, .tunnel⟩ .tick ⟨pingStateL c1, .tunnel⟩ [.query (pingStateL c1).chunkid P.ty name] [] ∧
      PingQ P (upQuery (pingStateL c1).chunkid P.ty name) c.inpkt.seqno c.inpkt.fragment c.randSeed := by
  generalize hc1 : Client.advanceClock c (Client.selectOf c) = c1
  have hfr : c1 = { c with now := c1.now } := by rw [← hc1]; rfl
  have hnow : c1.now = c.now + ((Client.selectOf c).to / 1000000).toNat := by rw [← hc1]; rfl
  have hc1st : CStatM P lz c1 := by
    rw [hfr]
    exact ⟨hc.running, hc.conn, hc.mode, hc.uid, hc.uch, hc.td, hc.L, hc.enc, hc.ty, hc.cid, hc.cmc,
      by show ¬ c.lastdownstreamtime + 60 < c1.now; rw [hnow]; exact hexp, hc.oseq, hc.iseq, hc.ifrag, hc.seed⟩
  have hcnt1 : CntM lz c1 1 := by rw [hfr]; exact hcnt
  obtain ⟨name, hsend, hpq⟩ := sendPing_pingQ hP hc1st hcnt1
  have e : ({ bumpCnt (Client.rotateChunkid { c1 with randSeed := (c1.randSeed + 1) % 65536 }) with sendPingSoon := 0 } : Client.Cli) =
      pingStateL c1 := by unfold pingStateL; rfl
  have e1 : c1.inpkt = c.inpkt := by rw [hfr]
  have e2 : c1.randSeed = c.randSeed := by rw [hfr]
  rw [e1, e2] at hpq
  refine ⟨name, c1, rfl, hc1st,
    CliDoes.mk (evs := [.query (pingStateL c1).chunkid P.ty name]) (nx := .sel (Client.selectOf (pingStateL c1))) ?_ rfl rfl, hpq⟩
  show Client.tunnelStep c .tick = _
  rw [tunnelStep_tick c hc.running (by rw [advanceClock_now]; exact hexp), hc1, timeoutBranch_idle c1 (by rw [hfr]; exact hs),
    settle_afterSend _ _ _ (by rw [hsend]) (by rw [hsend]; exact (e ▸ (pingFactsL c1).running).trans hc1st.running), hsend]
  simp only [List.nil_append]
  rw [e]

/-- … after less than a second: no clock advances -/
theorem cliDoes_poll0 {P : Par} (hP : P.Ok) {lz : Bool} {c : Client.Cli} (hc : CStatM P lz c) (hcnt : CntM lz c 1)
    (hs : Client.isSending c = false) (hto : 0 ≤ (Client.selectOf c).to ∧ (Client.selectOf c).to < 1000000) :
    ∃ name, CliDoes ⟨c, .tunnel⟩ .tick ⟨pingStateL c, .tunnel⟩ [.query (pingStateL c).chunkid P.ty name] [] ∧
      PingQ P (upQuery (pingStateL c).chunkid P.ty name) c.inpkt.seqno c.inpkt.fragment c.randSeed := by
  have hT : ((Client.selectOf c).to / 1000000).toNat = 0 := by omega
  obtain ⟨name, c1, hc1, _, hcli, hpq⟩ := cliDoes_poll hP hc hcnt hs (by rw [hT]; exact hc.alive)
  have : c1 = c := by
    rw [hc1]
    unfold Client.advanceClock
    rw [hT]
    exact cli_now_zero _
  rw [this] at hcli hpq
  exact ⟨name, hcli, hpq⟩

/-- The ping reaches a server that holds no query and has nothing queued, in immediate mode or with something left to send
(`hmode`): it is answered at once and remembered (`AfterPing`; the freshness slacks `sl`, `sp` of the two memories are kept). -/
theorem srvDoes_ping {P : Par} (hP : P.Ok) {s : Server.Srv} (hS : SStat P s) {a b : Int}
    (hq : (Server.getUser s P.u).q.id = 0) (hqs : (Server.getUser s P.u).qs.id = 0)
    (hmode : (Server.getUser s P.u).lazy = false ∨
      0 < (ackSess { Server.getUser s P.u with qsNew := false } a b).outpacket.len)
    (hoq : (Server.getUser s P.u).oqFilled = 0) {name : List Nat} {id sd k sl sp : Nat}
    (hQ : PingQ P (upQuery id P.ty name) a b sd) (hsp1 : 1 ≤ sp) (hsp : sp ≤ 1000)
    (hA : Aged P (Server.getUser s P.u) k sl) (hPA : PAged P (Server.getUser s P.u) sd sp) :
    ∃ s' pkt, SrvDoes s (srvInput (.query id P.ty name)) 0 s' [.ans id P.ty name pkt] [] ∧
      AfterPing P s s' (upQuery id P.ty name) a b pkt ∧
      Aged P (Server.getUser s' P.u) k sl ∧ PAged P (Server.getUser s' P.u) ((sd + 1) % 65536) sp := by
  obtain ⟨s', evs, t, pkt, hit, hd, ht, hap, hA', hP'⟩ := srv_ping_answered hP hS hq hqs hmode hoq hQ hsp1 hsp hA hPA
  exact ⟨s', pkt, SrvDoes.mk hit hd ht, hap, hA', hP'⟩

end Iodine.C02L
