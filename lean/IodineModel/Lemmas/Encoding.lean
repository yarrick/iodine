import IodineModel.Encoding
import IodineModel.Lemmas.Codec
/-
Facts about the text of the name builders (IodineModel/Encoding.lean), in five parts.  The scanner: `scan` is the counter of the
label automaton `legalAux` after a string.  `inline_dotify` and `closeDot` (one more '.' unless the text ends in one): they add
nothing but dots.  `inner k s`, the text both builders (`build_hostname` of the client, `write_dns_nameenc` of the server) make
of a dot-free string, without its final dot: what the two builders need is said about `inner` once (`closeDot_dotifyAux` ties it
to the code).  The client's builder in closed form (`buildHostname_eq`).  The decode side: `inline_undotify` and `unpack_data`.
-/
namespace Iodine.Encoding
open Iodine.Codec

def NoDot (s : List Nat) : Prop := ∀ c ∈ s, c ≠ DOT

theorem NoDot.cons {c : Nat} {s : List Nat} (hc : c ≠ DOT) (hs : NoDot s) : NoDot (c :: s) := fun x hx => by
  rcases List.mem_cons.mp hx with rfl | hx
  · exact hc
  · exact hs x hx

/-- Label scanner: the counter after reading `s`, `none` if a label of bad length was closed. -/
def scan : Nat → List Nat → Option Nat
  | n, [] => some n
  | n, c :: cs => if c = DOT then (if 1 ≤ n ∧ n ≤ 63 then scan 0 cs else none) else scan (n + 1) cs

theorem legalAux_append (n : Nat) (a b : List Nat) :
    legalAux n (a ++ b) = match scan n a with
      | none => false
      | some m => legalAux m b := by
  induction a generalizing n with
  | nil => simp [scan]
  | cons c cs ih =>
    simp only [List.cons_append, legalAux, scan]
    by_cases hc : c = DOT
    · by_cases hn : 1 ≤ n ∧ n ≤ 63
      · simp [hc, hn, ih]
      · simp [hc, hn]
    · simp [hc, ih]

theorem scan_append (n : Nat) (a b : List Nat) :
    scan n (a ++ b) = (scan n a).bind (fun m => scan m b) := by
  induction a generalizing n with
  | nil => simp [scan]
  | cons c cs ih =>
    simp only [List.cons_append, scan]
    by_cases hc : c = DOT
    · by_cases hn : 1 ≤ n ∧ n ≤ 63
      · simp [hc, hn, ih]
      · simp [hc, hn]
    · simp [hc, ih]

theorem scan_nodot (n : Nat) (a : List Nat) (h : NoDot a) : scan n a = some (n + a.length) := by
  induction a generalizing n with
  | nil => simp [scan]
  | cons c cs ih =>
    have hc : c ≠ DOT := h c (by simp)
    simp only [scan, hc, if_false, List.length_cons]
    rw [ih _ (fun x hx => h x (by simp [hx]))]
    congr 1; omega

theorem dotifyAux_ne_nil (k : Nat) (s : List Nat) (h : s ≠ []) : dotifyAux k s ≠ [] := by
  cases s with
  | nil => exact absurd rfl h
  | cons c cs => simp only [dotifyAux]; split <;> simp

theorem mem_dotifyAux (s : List Nat) : ∀ k, ∀ x ∈ dotifyAux k s, x = DOT ∨ x ∈ s := by
  induction s with
  | nil => intro k x hx; simp [dotifyAux] at hx
  | cons c cs ih =>
    intro k x hx
    simp only [dotifyAux] at hx
    split at hx
    · rcases List.mem_cons.mp hx with rfl | hx
      · exact Or.inr List.mem_cons_self
      · rcases List.mem_cons.mp hx with rfl | hx
        · exact Or.inl rfl
        · exact (ih 0 x hx).imp id (List.mem_cons_of_mem _)
    · rcases List.mem_cons.mp hx with rfl | hx
      · exact Or.inr List.mem_cons_self
      · exact (ih (k + 1) x hx).imp id (List.mem_cons_of_mem _)

/-- `inline_dotify` followed by `if (last != '.') append '.'` (`prev`: the byte in front of an empty text) -/
def closeDot (prev : Nat) (t : List Nat) : List Nat := if t.getLast?.getD prev = DOT then t else t ++ [DOT]

theorem mem_closeDot_dotify (prev : Nat) (s : List Nat) : ∀ x ∈ closeDot prev (dotify s), x = DOT ∨ x ∈ s := by
  intro x hx
  unfold closeDot at hx
  split at hx
  · exact mem_dotifyAux s 0 x hx
  · rcases List.mem_append.mp hx with hx | hx
    · exact mem_dotifyAux s 0 x hx
    · exact Or.inl (List.mem_singleton.mp hx)

/-- the dotified text without a dot at its end: a '.' after every 57th character that has a successor -/
def inner : Nat → List Nat → List Nat
  | _, [] => []
  | k, c :: cs => c :: (if cs = [] then [] else if k + 1 = 57 then DOT :: inner 0 cs else inner (k + 1) cs)

theorem inner_single (k c : Nat) : inner k [c] = [c] := by simp [inner]

theorem inner_cons2 (k c c' : Nat) (cs : List Nat) :
    inner k (c :: c' :: cs) = c :: (if k + 1 = 57 then DOT :: inner 0 (c' :: cs) else inner (k + 1) (c' :: cs)) := by
  rw [inner, if_neg (by simp)]

theorem inner_short (s : List Nat) : ∀ k, k + s.length ≤ 57 → inner k s = s := by
  induction s with
  | nil => intro k _; rfl
  | cons c cs ih =>
    intro k hk
    simp only [List.length_cons] at hk
    rw [inner]
    by_cases he : cs = []
    · rw [if_pos he, he]
    · have : 0 < cs.length := List.length_pos_iff.mpr he
      rw [if_neg he, if_neg (by omega), ih (k + 1) (by omega)]

/-- the one fact that ties `inner` to the code: dotify, then close with a dot -/
theorem closeDot_dotifyAux (prev : Nat) (s : List Nat) (hs : NoDot s) : ∀ k, (s ≠ [] ∨ prev ≠ DOT) →
    closeDot prev (dotifyAux k s) = inner k s ++ [DOT] := by
  induction s with
  | nil =>
    intro k h
    have hp : prev ≠ DOT := h.resolve_left (fun h => h rfl)
    simp [closeDot, dotifyAux, inner, hp]
  | cons c r ih =>
    intro k _
    have hc : c ≠ DOT := hs c (by simp)
    have hr : NoDot r := fun x hx => hs x (by simp [hx])
    cases r with
    | nil =>
      by_cases h57 : k + 1 = 57 <;> simp [closeDot, dotifyAux, inner, h57, hc]
    | cons c' r' =>
      have key : ∀ (pre : List Nat) (k' : Nat), closeDot prev (pre ++ dotifyAux k' (c' :: r')) =
          pre ++ closeDot prev (dotifyAux k' (c' :: r')) := by
        intro pre k'
        have hne : dotifyAux k' (c' :: r') ≠ [] := dotifyAux_ne_nil _ _ (by simp)
        unfold closeDot
        rw [List.getLast?_append]
        cases hgl : (dotifyAux k' (c' :: r')).getLast? with
        | none => exact absurd (List.getLast?_eq_none_iff.mp hgl) hne
        | some v => simp only [Option.some_or, Option.getD_some]; split <;> simp [*]
      rw [inner_cons2]
      by_cases h57 : k + 1 = 57
      · rw [if_pos h57, show dotifyAux k (c :: c' :: r') = [c, DOT] ++ dotifyAux 0 (c' :: r') by simp [dotifyAux, h57],
          key, ih hr 0 (Or.inl (by simp))]
        rfl
      · rw [if_neg h57, show dotifyAux k (c :: c' :: r') = [c] ++ dotifyAux (k + 1) (c' :: r') by simp [dotifyAux, h57],
          key, ih hr (k + 1) (Or.inl (by simp))]
        rfl

theorem mem_inner (s : List Nat) : ∀ k, ∀ x ∈ inner k s, x = DOT ∨ x ∈ s := by
  induction s with
  | nil => intro k x hx; simp [inner] at hx
  | cons c r ih =>
    intro k x hx
    rw [inner] at hx
    rcases List.mem_cons.mp hx with rfl | hx
    · exact Or.inr List.mem_cons_self
    · split at hx
      · cases hx
      · split at hx
        · rcases List.mem_cons.mp hx with rfl | hx
          · exact Or.inl rfl
          · exact (ih 0 x hx).imp id (List.mem_cons_of_mem _)
        · exact (ih (k + 1) x hx).imp id (List.mem_cons_of_mem _)

theorem inner_end (s : List Nat) : ∀ k, s ≠ [] → ∃ X c, c ∈ s ∧ inner k s = X ++ [c] := by
  induction s with
  | nil => intro k h; exact absurd rfl h
  | cons c r ih =>
    intro k _
    cases r with
    | nil => exact ⟨[], c, by simp, by rw [inner_single]; rfl⟩
    | cons c' r' =>
      rw [inner_cons2]
      by_cases h57 : k + 1 = 57
      · obtain ⟨X, x, hx, h⟩ := ih 0 (by simp)
        exact ⟨c :: DOT :: X, x, List.mem_cons_of_mem _ hx, by rw [if_pos h57, h]; rfl⟩
      · obtain ⟨X, x, hx, h⟩ := ih (k + 1) (by simp)
        exact ⟨c :: X, x, List.mem_cons_of_mem _ hx, by rw [if_neg h57, h]; rfl⟩

/-- one dot after every 57th character but the last: the dots stand strictly inside the text -/
theorem inner_length (s : List Nat) : ∀ k, k < 57 → s ≠ [] →
    (inner k s).length = s.length + (k + s.length - 1) / 57 := by
  induction s with
  | nil => intro k _ h; exact absurd rfl h
  | cons c r ih =>
    intro k hk _
    cases r with
    | nil => rw [inner_single]; simp only [List.length_cons, List.length_nil]; omega
    | cons c' r' =>
      rw [inner_cons2]
      by_cases h57 : k + 1 = 57
      · rw [if_pos h57]
        simp only [List.length_cons, ih 0 (by omega) (by simp)]
        omega
      · rw [if_neg h57]
        simp only [List.length_cons, ih (k + 1) (by omega) (by simp)]
        omega

/-- why the builders encode into `space0 - space0 / 57` characters: the dots then fit into `space0` -/
theorem inner_fits (s : List Nat) (hne : s ≠ []) (space0 : Nat) (h : s.length ≤ space0 - space0 / 57) :
    (inner 0 s).length ≤ space0 := by
  rw [inner_length s 0 (by omega) hne]
  omega

/-- closed by its dot, the text is made of whole labels of at most 62 characters — also when up to 5 characters
(the header of the client's queries) stand in front of it -/
theorem scan_inner (s : List Nat) (hs : NoDot s) : ∀ k n, k < 57 → n ≤ k + 5 → s ≠ [] →
    scan n (inner k s ++ [DOT]) = some 0 := by
  induction s with
  | nil => intro k n _ _ h; exact absurd rfl h
  | cons c r ih =>
    intro k n hk hn _
    have hc : c ≠ DOT := hs c (by simp)
    have hr : NoDot r := fun x hx => hs x (by simp [hx])
    cases r with
    | nil =>
      have : 1 ≤ n + 1 ∧ n + 1 ≤ 63 := by omega
      simp [inner_single, scan, hc, this]
    | cons c' r' =>
      rw [inner_cons2]
      by_cases h57 : k + 1 = 57
      · have : 1 ≤ n + 1 ∧ n + 1 ≤ 63 := by omega
        rw [if_pos h57]
        simp only [List.cons_append, scan, hc, if_false, if_true, this, and_self]
        exact ih hr 0 0 (by omega) (by omega) (by simp)
      · rw [if_neg h57]
        simp only [List.cons_append, scan, hc, if_false]
        exact ih hr (k + 1) (n + 1) (by omega) (by omega) (by simp)

/-- characters `build_hostname` encodes into: room for the domain, 8 more bytes, and the dots -/
def hostSpace (m t : Nat) : Nat := m - t - 8 - (m - t - 8) / 57

theorem buildHostname_closeDot (c : Codec) (maxlen buflen prev : Nat) (td d : List Nat) :
    buildHostname c maxlen buflen prev td d =
      if min maxlen buflen < td.length + 8 then none
      else some ⟨closeDot prev (dotify (enc c (hostSpace (min maxlen buflen) td.length) d).chars) ++ td,
        (enc c (hostSpace (min maxlen buflen) td.length) d).used⟩ := rfl

/-- closed form of `build_hostname` for an alphabet without '.': the dotted text of the encoding, ".", the domain -/
theorem buildHostname_eq (c : Codec) (maxlen buflen prev : Nat) (td d : List Nat) (hroom : td.length + 8 ≤ min maxlen buflen)
    (hnd : NoDot (enc c (hostSpace (min maxlen buflen) td.length) d).chars)
    (hne : (enc c (hostSpace (min maxlen buflen) td.length) d).chars ≠ [] ∨ prev ≠ DOT) :
    buildHostname c maxlen buflen prev td d =
      some ⟨inner 0 (enc c (hostSpace (min maxlen buflen) td.length) d).chars ++ [DOT] ++ td,
        (enc c (hostSpace (min maxlen buflen) td.length) d).used⟩ := by
  rw [buildHostname_closeDot, if_neg (by omega), dotify, closeDot_dotifyAux prev _ hnd 0 hne]

theorem undotify_append (a b : List Nat) : undotify (a ++ b) = undotify a ++ undotify b := by
  simp [undotify]

theorem undotify_inner (s : List Nat) (hs : NoDot s) : ∀ k, undotify (inner k s) = s := by
  induction s with
  | nil => intro k; rfl
  | cons c r ih =>
    intro k
    have hc : c ≠ DOT := hs c (by simp)
    have hr : NoDot r := fun x hx => hs x (by simp [hx])
    have i0 := ih hr 0
    have i1 := ih hr (k + 1)
    unfold undotify at i0 i1 ⊢
    rw [inner]
    by_cases he : r = []
    · simp [he, hc]
    · by_cases h57 : k + 1 = 57 <;> simp [he, h57, hc, i0, i1]

theorem undotify_append_dot (a : List Nat) : undotify (a ++ [DOT]) = undotify a := by
  rw [undotify_append]
  exact List.append_nil _

theorem unpackData_nil (c : Codec) (cap : Nat) : unpackData c cap [] = [] := by
  simp [unpackData, undotify, dec, cstr, decAll, decBits, chunksN]

theorem unpackData_bytes (c : Codec) (cap : Nat) (d : List Nat) : Bytes (unpackData c cap d) := by
  unfold unpackData dec
  exact fun b hb => decAll_bytes c _ b (List.mem_of_mem_take hb)

end Iodine.Encoding
