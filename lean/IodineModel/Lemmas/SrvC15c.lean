import IodineModel.Lemmas.SrvC15a
/-
C15: the handler phase (`dispatch_spec`, from the classification of the handlers), the loop (`body_spec`,
`iteration_spec`) and reachable states for the fragment-size invariant of part (A); a rejected `N` request.
Then, for part (B), the fragment-numbering monitor (lemma-side copy), the session invariant that ties `outpacket` to
what was sent (`SM`, `G`), and its preservation by the small functions and by `send_chunk_or_dataless`.
-/
namespace Iodine.C15L
open Iodine Iodine.Server Iodine.Gen

/-- why the fragment size of slot `v` may differ after the handler of query `q` (data part `inb`): an accepted `N`
naming `v`, or a `V` that handed out `v` -/
def ChgQ (s : Srv) (q : Query) (inb : List Nat) (r : Res) (v : Nat) : Prop :=
  ((q.name.getD 0 0 = 78 ∨ q.name.getD 0 0 = 110) ∧ NCase s q inb r v) ∨
  ((q.name.getD 0 0 = 86 ∨ q.name.getD 0 0 = 118) ∧ VCase q r v)

/-- the fragment size of slot `v` changed because of the query `q` -/
def QChange (s : Srv) (q : Query) (r : Res) (v : Nat) : Prop :=
  ∃ dlen, Common.queryDatalen q.name s.cfg.topdomain = some dlen ∧ 2 ≤ dlen ∧
    ChgQ s q (q.name.take (min dlen 512)) r v

theorem pres_topOfLoop (s : Srv) : Pres s (topOfLoop s).1 := by
  refine ⟨rfl, length_clearNewFrom _ _ _ _, fun v => ?_⟩
  obtain ⟨b, hb⟩ := getUser_handlerPhase s s.now v
  exact hb ▸ keep_of_same rfl rfl

theorem ok_sweep (s : Srv) (hi : Inv s) : Ok s (sweep s) := (run_sweepFrom .tick bufK _ _ s).closed ok_closed hi

/-- part (A) for the handler phase: the invariant and the size bound are kept, and a fragment size changes only by an
accepted `N` or `V` of the arriving query, whose handler sends no data -/
def DSpec (s : Srv) (inp : Input) (r : Res) : Prop :=
  Ok2 s r ∧ ∀ v, F r.1 v ≠ F s v → ∃ q, inp = .q q ∧ QChange s q r v ∧ NoData r.2

theorem dspec_ok {s : Srv} {inp : Input} {r : Res} (h : Ok s r) : DSpec s inp r :=
  ⟨h.ok2, fun v hv => absurd (h.1.F v) hv⟩

/-- the handler phase keeps the cache invariant, its data answers respect the fragment sizes, and a fragment size
changes only in an accepted `V` or `N`, which send no data -/
theorem dispatch_spec (s : Srv) (inp : Input) (tunsel : Bool) (hi : Inv s) : DSpec s inp (dispatch s inp tunsel) := by
  cases class_dispatch s inp tunsel with
  | calm h => exact dspec_ok ((h.mono fun _ h => by subst h; trivial).closed ok_closed hi)
  | version q u dlen hq hd h2 ha he =>
    obtain ⟨a, b, c⟩ := version_spec s q u
    rw [he]
    exact ⟨a, fun v hv' => ⟨q, hq, ⟨dlen, hd, h2, .inr ⟨ha.letter, c v hv'⟩⟩, b⟩⟩
  | fragsize q dlen n hq h2 ha he =>
    obtain ⟨hd, hc, h3, hchk, hn, hv⟩ := ha
    subst hv
    obtain ⟨a, b, c⟩ := fragsize_spec s q _ h3 hchk hn
    rw [he]
    exact ⟨a, fun v hv' => ⟨q, hq, ⟨dlen, hd, h2, .inl ⟨hc, c v hv'⟩⟩, b⟩⟩
  | data q u dlen hq _ _ hid _ hu _ he =>
    exact he ▸ dspec_ok ((run_dataFresh (K := bufK) trivial trivial trivial s u q _ hq hu hid).closed ok_closed hi)
  | rawData src bytes hq _ he =>
    exact he ▸ dspec_ok ((Run.seq (K := bufK) (.prim (.rawIn s _ src bytes trivial hq))
      (run_handleFullPacket trivial trivial _ _)).closed ok_closed hi)

theorem mem_subset_append_left {α} {a b : List α} {x : α} (h : x ∈ a) : x ∈ a ++ b := List.mem_append_left b h

theorem ChgQ.mono {s : Srv} {q : Query} {inb : List Nat} {r r' : Res} {v : Nat} (h : ChgQ s q inb r v)
    (hf : F r'.1 v = F r.1 v) (he : ∀ e ∈ r.2, e ∈ r'.2) : ChgQ s q inb r' v := by
  rcases h with ⟨hc, h⟩ | ⟨hc, h⟩
  · exact Or.inl ⟨hc, h.1, h.2.1, h.2.2.1, h.2.2.2.1, hf.trans h.2.2.2.2.1, he _ h.2.2.2.2.2⟩
  · obtain ⟨h1, seed, dn, h2⟩ := h
    exact Or.inr ⟨hc, hf.trans h1, seed, dn, he _ h2⟩

theorem QChange.mono {s : Srv} {q : Query} {r r' : Res} {v : Nat} (h : QChange s q r v)
    (hf : F r'.1 v = F r.1 v) (he : ∀ e ∈ r.2, e ∈ r'.2) : QChange s q r' v := by
  obtain ⟨dlen, h1, h2, h3⟩ := h
  exact ⟨dlen, h1, h2, h3.mono hf he⟩

/-- the same for everything after `select` (handlers, marker, sweep): data may follow the marker -/
def BSpec (s : Srv) (inp : Input) (r : Res) : Prop :=
  Ok2 s r ∧ ∀ v, F r.1 v ≠ F s v → ∃ q, inp = .q q ∧ QChange s q r v ∧
    ∃ pre post, r.2 = pre ++ Event.sweep :: post ∧ NoData pre

theorem body_spec (s : Srv) (inp : Input) (tunsel : Bool) (hi : Inv s) : BSpec s inp (body s inp tunsel) := by
  have hd := dispatch_spec s inp tunsel hi
  have hsw := ok_sweep (dispatch s inp tunsel).1 (hd.1.inv hi)
  obtain ⟨note, hn, e⟩ := body_eq s inp tunsel
  have hnote : NoData note := by
    rcases hn with rfl | rfl
    · exact noData_nil
    · exact noData_single_of fun _ => rfl
  rw [e]
  refine ⟨⟨hsw.1.1.trans hd.1.cfg, hsw.1.2.1.trans hd.1.len, fun h => hsw.1.inv (hd.1.inv h), ?_⟩, fun v hv => ?_⟩
  · exact bnd_append (hd.1.bnd.of_F fun v => hsw.1.F v) <| bnd_append (a := [Event.sweep])
      ((noData_single_of fun _ => rfl).bnd _) (bnd_append (hsw.2.of_F fun v => hsw.1.F v) (hnote.bnd _))
  · have hv' : F (dispatch s inp tunsel).1 v ≠ F s v := fun h => hv ((hsw.1.F v).trans h)
    obtain ⟨q, hq, hc, hn'⟩ := hd.2 v hv'
    exact ⟨q, hq, hc.mono (hsw.1.F v) fun e he => List.mem_append_left _ he, _, _, rfl, hn'⟩

theorem iteration_spec (s : Srv) (inp : Input) (now' : Nat) (hi : Inv s) :
    Inv (iteration s inp now').1 ∧ Bnd (iteration s inp now').1 (iteration s inp now').2.1 ∧
    (iteration s inp now').1.cfg = s.cfg ∧
    ∀ v, F (iteration s inp now').1 v ≠ F s v →
      ∃ q, inp = .q q ∧ QChange { (topOfLoop s).1 with now := now' } q
        ((iteration s inp now').1, (iteration s inp now').2.1) v ∧
        ∃ pre post, (iteration s inp now').2.1 = pre ++ Event.sweep :: post ∧ NoData pre := by
  have h0 : Pres s { (topOfLoop s).1 with now := now' } := (pres_topOfLoop s).trans (pres_of_users rfl rfl)
  have hb := body_spec { (topOfLoop s).1 with now := now' } inp (topOfLoop s).2.2 (h0.inv hi)
  refine ⟨hb.1.inv (h0.inv hi), hb.1.bnd, hb.1.cfg.trans h0.1, fun v hv => ?_⟩
  apply hb.2 v
  intro h
  apply hv
  exact h.trans (h0.F v)

theorem decAll_length (c : Codec.Codec) (s : List Nat) : (Codec.decAll c s).length = c.k * s.length / 8 := by
  unfold Codec.decAll Codec.decBits
  simp only [List.length_map, chunksN_length]
  congr 1
  induction s with
  | nil => simp
  | cons a s ih => simp only [List.flatMap_cons, List.length_append, bitsBE_length, ih, List.length_cons]; rw [Nat.mul_succ]; omega

theorem cstr_length_le (n : Nat) (s : List Nat) : (Codec.cstr n s).length ≤ s.length :=
  Nat.le_trans (List.takeWhile_sublist _).length_le (List.length_take_le' _ _)

theorem unpackData_b32_length_le (cap : Nat) (d : List Nat) :
    (Encoding.unpackData Codec.b32 cap d).length ≤ 5 * d.length / 8 := by
  unfold Encoding.unpackData Codec.dec
  dsimp only
  have h1 : (Encoding.undotify d).length ≤ d.length := by
    unfold Encoding.undotify
    exact List.length_filter_le _ _
  have h2 := cstr_length_le (Encoding.undotify d).length (Encoding.undotify d)
  have h3 := decAll_length Codec.b32 (Codec.cstr (Encoding.undotify d).length (Encoding.undotify d))
  have h4 : Codec.b32.k = 5 := rfl
  rw [h4] at h3
  have h5 := List.length_take_le' cap (Codec.decAll Codec.b32 (Codec.cstr (Encoding.undotify d).length (Encoding.undotify d)))
  have h6 : 5 * (Codec.cstr (Encoding.undotify d).length (Encoding.undotify d)).length / 8 ≤ 5 * d.length / 8 :=
    Nat.div_le_div_right (Nat.mul_le_mul_left 5 (Nat.le_trans h2 h1))
  omega

theorem handleSetFragsize_badfrag (s : Srv) (q : Query) (inb : List Nat) (u : Nat)
    (hlen : 3 ≤ (pingUnpacked inb).length) (hu : charVal ((pingUnpacked inb).getD 0 0) = (u : Int))
    (hchk : checkAuthenticatedUserAndIpAndOptions s u q = false) (hn : fragsizeOf inb < 2) :
    handleSetFragsize s q inb = (s, [writeDns q (ascii "BADFRAG") (getUser s u).downenc]) := by
  unfold handleSetFragsize
  unfold pingUnpacked at hlen hu
  unfold fragsizeOf pingUnpacked at hn
  dsimp only
  rw [if_neg (by omega), hu, if_neg (by rw [hchk]; simp), if_pos hn]
  simp

theorem tunnelDns_badfrag (s : Srv) (q : Query) (dlen u : Nat)
    (hq : Common.queryDatalen q.name s.cfg.topdomain = some dlen) (hd : 2 ≤ dlen)
    (hty : C16L.TunnelType q.type) (hc : q.name.getD 0 0 = 78 ∨ q.name.getD 0 0 = 110)
    (hlen : 3 ≤ (pingUnpacked (C04L.inbOf q dlen)).length)
    (hu : charVal ((pingUnpacked (C04L.inbOf q dlen)).getD 0 0) = (u : Int))
    (hchk : checkAuthenticatedUserAndIpAndOptions s u q = false) (hn : fragsizeOf (C04L.inbOf q dlen) < 2) :
    tunnelDns s q = (s, [writeDns q (ascii "BADFRAG") (getUser s u).downenc]) := by
  -- three data characters do not decode to three bytes, so this is not the `ns.` query
  have h3 : dlen ≠ 3 := by
    intro h
    subst h
    have := unpackData_b32_length_le 65536 ((C04L.inbOf q 3).drop 1)
    unfold pingUnpacked at hlen
    simp only [C04L.inbOf, List.length_drop, List.length_take] at this hlen
    omega
  rw [C04L.tunnelDns_null s q dlen hq (fun h => h3 h.1) (fun h => by have := h.2.2.1; omega) hty,
    handleNullRequest_eq, if_neg (by omega), letterOf_of_codes (l := .N) (by rw [C04L.inbOf_getD _ _ 0 (by omega)]; exact hc)]
  exact handleSetFragsize_badfrag s q _ u hlen hu hchk hn

/-- the state the handlers of an iteration run in -/
def handlerState (s : Srv) (now' : Nat) : Srv := { (topOfLoop s).1 with now := now' }

theorem out_q (s : Srv) (q : Query) (now' : Nat) :
    out s ⟨.q q, now'⟩ = (tunnelDns (handlerState s now') q).2 ++ [Event.sweep] ++
      (sweep (tunnelDns (handlerState s now') q).1).2 := rfl

theorem getUser_handlerState (s : Srv) (now' v : Nat) :
    ∃ b, getUser (handlerState s now') v = { getUser s v with qsNew := b } :=
  getUser_handlerPhase s now' v

theorem handlerState_cfg (s : Srv) (now' : Nat) : (handlerState s now').cfg = s.cfg := rfl
theorem handlerState_now (s : Srv) (now' : Nat) : (handlerState s now').now = now' := rfl

theorem check_handlerState (s : Srv) (now' : Nat) (uid : Int) (q : Query) :
    checkAuthenticatedUserAndIpAndOptions (handlerState s now') uid q =
    checkAuthenticatedUserAndIpAndOptions { s with now := now' } uid q := by
  have hg : ∀ v, getUser { s with now := now' } v = getUser s v := fun v => rfl
  have hf : ∀ v, (getUser (handlerState s now') v).active = (getUser s v).active ∧
      (getUser (handlerState s now') v).disabled = (getUser s v).disabled ∧
      (getUser (handlerState s now') v).lastPkt = (getUser s v).lastPkt ∧
      (getUser (handlerState s now') v).host = (getUser s v).host ∧
      (getUser (handlerState s now') v).authenticated = (getUser s v).authenticated ∧
      (getUser (handlerState s now') v).optionsLocked = (getUser s v).optionsLocked := by
    intro v
    obtain ⟨b, h⟩ := getUser_handlerState s now' v
    rw [h]; exact ⟨rfl, rfl, rfl, rfl, rfl, rfl⟩
  unfold checkAuthenticatedUserAndIpAndOptions checkAuthenticatedUserAndIp checkUserAndIp
  simp only [hg, handlerState_cfg, handlerState_now, (hf _).1, (hf _).2.1, (hf _).2.2.1, (hf _).2.2.2.1,
    (hf _).2.2.2.2.1, (hf _).2.2.2.2.2]

theorem downenc_handlerState (s : Srv) (now' v : Nat) :
    (getUser (handlerState s now') v).downenc = (getUser s v).downenc := by
  obtain ⟨b, h⟩ := getUser_handlerState s now' v
  rw [h]

theorem cacheOK_zero (ip : Nat) : CacheOK (Session.zero ip) := by
  intro e he
  simp only [Session.zero, List.mem_replicate] at he
  rw [he.2]
  exact ⟨Nat.zero_le _, Nat.zero_le _, fun h => absurd rfl h⟩

theorem inv_start (cfg : Config) (rnd : List Nat) : Inv (start cfg rnd) :=
  slots_getUser (slots_start cacheOK_zero cfg rnd) (cacheOK_zero 0)

theorem reachable_inv {cfg : Config} {s : Srv} (h : Reachable cfg s) : Inv s ∧ s.cfg.topdomain = cfg.topdomain := by
  induction h with
  | init rnd => exact ⟨inv_start cfg rnd, rfl⟩
  | step st _ _ ih =>
    have := iteration_spec _ st.inp st.now ih.1
    refine ⟨this.1, ?_⟩
    unfold next
    rw [this.2.2.1]
    exact ih.2

open Iodine.C04L

/-- (seq, frag, last) of the previous fragment-carrying fresh data answer of a session -/
abbrev MSt := Option (Nat × Nat × Nat)

/-- header byte 1 of a data answer that carries a fragment -/
def fragHeader (d : List Nat) : Option (Nat × Nat × Nat) :=
  if d.length > 2 then some (d.getD 1 0 / 32, d.getD 1 0 / 2 % 16, d.getD 1 0 % 2) else none

/-- may a fragment with header `cur` follow `prev`? -/
def accepts : MSt → Nat × Nat × Nat → Bool
  | none, (_, fr, _) => fr == 0
  | some (sq, fr, la), (sq', fr', _) =>
    (sq' == sq && fr' == fr) || (sq' == sq && la == 0 && fr' == (fr + 1) % 16) || (sq' != sq && fr' == 0)

def upd (m : Nat → MSt) (u : Nat) (v : MSt) : Nat → MSt := fun w => if w = u then v else m w

/-- slot named by a `VACK` answer -/
def vackSlot (d : List Nat) : Option Nat :=
  if d.take 4 = [86, 65, 67, 75] ∧ d.length = 9 then some (d.getD 8 0) else none

def monEvent (isV : Bool) (m : Nat → MSt) : Event → Option (Nat → MSt)
  | .ans _ _ _ _ _ data (.chunk u) =>
    match fragHeader data with
    | some h => if accepts (m u) h then some (upd m u (some h)) else none
    | none => some m
  | .ans _ _ _ _ _ data .ctrl =>
    if isV then
      match vackSlot data with
      | some u => some (upd m u none)
      | none => some m
    else some m
  | _ => some m

def runMon (isV : Bool) (m : Nat → MSt) : List Event → Option (Nat → MSt)
  | [] => some m
  | e :: es => (monEvent isV m e).bind (fun m' => runMon isV m' es)

theorem runMon_append (isV : Bool) (m : Nat → MSt) (a b : List Event) :
    runMon isV m (a ++ b) = (runMon isV m a).bind (fun m' => runMon isV m' b) := by
  induction a generalizing m with
  | nil => rfl
  | cons e es ih =>
    simp only [List.cons_append, runMon]
    cases monEvent isV m e with
    | none => rfl
    | some m' => simp only [Option.bind_some]; exact ih m'

def NotChunk (e : Event) : Prop := ∀ a b c d n dt u, e ≠ Event.ans a b c d n dt (.chunk u)

/-- `NotChunk` for an event whose constructor / tag differs -/
macro "not_chunk" : tactic => `(tactic| (intro _ _ _ _ _ _ _ h; cases h))

def Quiet (isV : Bool) (evs : List Event) : Prop := (∀ m, runMon isV m evs = some m) ∧ ∀ e ∈ evs, NotChunk e

theorem quiet_nil (isV : Bool) : Quiet isV [] := ⟨fun _ => rfl, fun _ h => by cases h⟩

theorem quiet_append {isV : Bool} {a b : List Event} (ha : Quiet isV a) (hb : Quiet isV b) : Quiet isV (a ++ b) := by
  refine ⟨fun m => ?_, fun e he => ?_⟩
  · rw [runMon_append, ha.1 m]
    exact hb.1 m
  · rcases List.mem_append.1 he with h | h
    · exact ha.2 e h
    · exact hb.2 e h

theorem quiet_single {isV : Bool} {e : Event} (h : ∀ m, monEvent isV m e = some m) (hc : NotChunk e) :
    Quiet isV [e] := by
  refine ⟨fun m => ?_, fun e' he => ?_⟩
  · simp [runMon, h m]
  · rw [List.mem_singleton.1 he]; exact hc

theorem quiet_ctrl_false (q : Query) (d : List Nat) (dn : Nat) : Quiet false [writeDns q d dn] :=
  quiet_single (fun _ => rfl) (by unfold writeDns; not_chunk)

/-- an answer that is neither a control answer nor a fresh fragment (a replay from the cache, the marker for a query
seen before, the copy to a remembered duplicate) leaves the monitor where it is -/
theorem quiet_tagged (isV : Bool) (q : Query) (d : List Nat) (dn : Nat) {t : Tag} (hc : t ≠ .ctrl)
    (hk : ∀ u, t ≠ .chunk u) : Quiet isV [writeDns q d dn t] := by
  cases t with
  | ctrl => exact absurd rfl hc
  | chunk u => exact absurd rfl (hk u)
  | _ => exact quiet_single (fun _ => rfl) (by unfold writeDns; not_chunk)

theorem quiet_dupe (isV : Bool) (q : Query) (d : List Nat) (dn u : Nat) : Quiet isV [writeDns q d dn (.dupe u)] :=
  quiet_tagged isV q d dn nofun fun _ => nofun

/-- position `k` of the 4-entry ring `outpacketq` -/
def ring (k : Nat) : Nat := if k ≥ 4 then k - 4 else k

/-- well-formedness of the packet bookkeeping of a session -/
structure SessW (x : Session) : Prop where
  sent : x.outpacket.offset + x.outpacket.sentlen ≤ x.outpacket.len
  off : x.outpacket.len ≠ 0 → x.outpacket.offset < x.outpacket.len
  data : x.outpacket.len ≤ x.outpacket.data.length
  fsz : x.outpacket.len ≠ 0 → 2 ≤ x.fragsize
  act : x.active = true → 2 ≤ x.fragsize
  resent : x.outpacket.len ≠ 0 → x.outpacket.sentlen = 0 → x.outfragresent = 0
  inlen : x.inpacket.len ≤ x.inpacket.data.length
  oq : ∀ pk ∈ x.outpacketq, pk.len ≤ pk.data.length
  oqlen : x.outpacketq.length = 4
  oqn : x.oqNext < 4
  oqf : x.oqFilled ≤ 4
  oqfs : x.oqFilled ≠ 0 → 2 ≤ x.fragsize
  oqpos : ∀ i, i < x.oqFilled → 1 ≤ (x.outpacketq.getD (ring (x.oqNext + i)) Packet.zero).len

/-- in the upstream buffer `len` never runs ahead of `offset`: this keeps `len` within the buffer when the data handler
appends at `offset` and adds to `len` (a forwarded packet is cut from this buffer).  False only between the store of a
raw data frame (`offset = 0`, `len` the body's length) and the `handle_full_packet` that follows it -/
def In2 (x : Session) : Prop := x.inpacket.len ≤ x.inpacket.offset

/-- sequence number / fragment number as they appear in the data header -/
def hSeq (x : Session) : Nat := (x.outpacket.seqno % 8).toNat
def hFrag (x : Session) : Nat := (x.outpacket.fragment % 16).toNat

/-- the monitor state `mo` of a session is consistent with the session's `outpacket` -/
structure MonOK (mo : MSt) (x : Session) : Prop where
  idle : x.outpacket.len = 0 → mo = none ∨ ∃ f l, mo = some (hSeq x, f, l)
  fresh : x.outpacket.len ≠ 0 → x.outpacket.sentlen = 0 →
    (x.outpacket.fragment = 0 ∧ (mo = none ∨ ∃ s' f l, mo = some (s', f, l) ∧ s' ≠ hSeq x)) ∨
    mo = some (hSeq x, ((x.outpacket.fragment - 1) % 16).toNat, 0)
  flight : x.outpacket.len ≠ 0 → x.outpacket.sentlen ≠ 0 →
    mo = some (hSeq x, hFrag x, if x.outpacket.offset + x.outpacket.sentlen = x.outpacket.len then 1 else 0)

/-- the invariant of part (B) for one slot: the packet bookkeeping is well-formed and the monitor knows the last
fragment sent of the packet in `outpacket` (`w`: the slot is exempt from `In2`) -/
structure SM (w : Prop) (mo : MSt) (x : Session) : Prop where
  wf : SessW x
  in2 : w ∨ In2 x
  mon : MonOK mo x

/-- the invariant of part (B): `SM` for every slot, `W` naming the slots exempt from `In2`, `m` the monitor -/
def G (W : Nat → Prop) (m : Nat → MSt) (s : Srv) : Prop := ∀ v, SM (W v) (m v) (getUser s v)

theorem sm_same {w : Prop} {mo : MSt} {x y : Session} (h : SM w mo x)
    (h1 : y.outpacket = x.outpacket) (h2 : y.outfragresent = x.outfragresent) (h3 : y.fragsize = x.fragsize)
    (h4 : y.active = x.active) (h5 : y.inpacket = x.inpacket) (h6 : y.outpacketq = x.outpacketq)
    (h7 : y.oqNext = x.oqNext) (h8 : y.oqFilled = x.oqFilled) : SM w mo y := by
  obtain ⟨⟨a1, a2, a3, a4, a5, a6, a7, a8, a9, a10, a11, a12, a13⟩, b, ⟨c1, c2, c3⟩⟩ := h
  refine ⟨⟨?_, ?_, ?_, ?_, ?_, ?_, ?_, ?_, ?_, ?_, ?_, ?_, ?_⟩, ?_, ⟨?_, ?_, ?_⟩⟩
  all_goals
    (try unfold In2 hSeq hFrag at *)
    (try rw [h1]); (try rw [h2]); (try rw [h3]); (try rw [h4]); (try rw [h5]); (try rw [h6]); (try rw [h7])
    (try rw [h8])
    assumption

/-- `s → s'` sends no fragment and keeps every session's packet bookkeeping: the invariant of part (B) goes through
with the monitor where it is -/
def Stay (W : Nat → Prop) (s s' : Srv) : Prop := ∀ m, G W m s → G W m s'

theorem Stay.refl (W : Nat → Prop) (s : Srv) : Stay W s s := fun _ h => h

theorem Stay.trans {W : Nat → Prop} {a b c : Srv} (h1 : Stay W a b) (h2 : Stay W b c) : Stay W a c :=
  fun m h => h2 m (h1 m h)

theorem g_setUser {W : Nat → Prop} {m : Nat → MSt} {s : Srv} (h : G W m s) (u : Nat) (f : Session → Session)
    (hf : SM (W u) (m u) (getUser s u) → SM (W u) (m u) (f (getUser s u))) : G W m (setUser s u f) := by
  intro v
  rcases getUser_setUser_cases s u v f with h1 | ⟨rfl, h1⟩
  · rw [h1]; exact h v
  · rw [h1]; exact hf (h v)

theorem stay_setUser (W : Nat → Prop) (s : Srv) (u : Nat) (f : Session → Session)
    (hf : ∀ w mo, SM w mo (getUser s u) → SM w mo (f (getUser s u))) : Stay W s (setUser s u f) :=
  fun _ h => g_setUser h u f (hf _ _)

theorem stay_setUser_same (W : Nat → Prop) (s : Srv) (u : Nat) (f : Session → Session)
    (h1 : ∀ x, (f x).outpacket = x.outpacket) (h2 : ∀ x, (f x).outfragresent = x.outfragresent)
    (h3 : ∀ x, (f x).fragsize = x.fragsize) (h4 : ∀ x, (f x).active = x.active)
    (h5 : ∀ x, (f x).inpacket = x.inpacket) (h6 : ∀ x, (f x).outpacketq = x.outpacketq)
    (h7 : ∀ x, (f x).oqNext = x.oqNext) (h8 : ∀ x, (f x).oqFilled = x.oqFilled) :
    Stay W s (setUser s u f) :=
  stay_setUser W s u f (fun _ _ h => sm_same h (h1 _) (h2 _) (h3 _) (h4 _) (h5 _) (h6 _) (h7 _) (h8 _))

/-- `stay_setUser_same` with all side conditions by `rfl` -/
macro "stay_same" : tactic =>
  `(tactic| exact stay_setUser_same _ _ _ _ (fun _ => rfl) (fun _ => rfl) (fun _ => rfl) (fun _ => rfl)
      (fun _ => rfl) (fun _ => rfl) (fun _ => rfl) (fun _ => rfl))

theorem stay_of_users {W : Nat → Prop} {s s' : Srv} (hu : s'.users = s.users) : Stay W s s' := by
  intro m h v
  have : getUser s' v = getUser s v := by unfold getUser; rw [hu]
  rw [this]; exact h v

/-- the session after `start_new_outpacket` -/
def startP (x : Session) (d : List Nat) (n : Nat) : Session :=
  { x with outpacket := { x.outpacket with data := d.take (min n PACKET_DATA_SIZE), len := min n PACKET_DATA_SIZE,
                                           offset := 0, sentlen := 0,
                                           seqno := (x.outpacket.seqno + 1) % 8, fragment := 0 },
           outfragresent := 0 }

theorem startNewOutpacket_eq (s : Srv) (u : Nat) (d : List Nat) (n : Nat) :
    startNewOutpacket s u d n = setUser s u (fun x => startP x d n) := rfl

theorem sm_startP {w : Prop} {mo : MSt} {x : Session} (h : SM w mo x) (d : List Nat) (n : Nat)
    (h0 : x.outpacket.len = 0) (hf : 2 ≤ x.fragsize) (h1 : 1 ≤ n) (h2 : n ≤ d.length) : SM w mo (startP x d n) := by
  obtain ⟨⟨a1, a2, a3, a4, a5, a6, a7, a8, a9, a10, a11, a12, a13⟩, b, ⟨c1, c2, c3⟩⟩ := h
  have hn : 1 ≤ min n PACKET_DATA_SIZE := by simp [PACKET_DATA_SIZE]; omega
  refine ⟨⟨?_, ?_, ?_, ?_, a5, ?_, a7, a8, a9, a10, a11, a12, a13⟩, b, ⟨?_, ?_, ?_⟩⟩
  · simp [startP]
  · intro _; simp only [startP]; omega
  · simp only [startP, List.length_take]; omega
  · intro _; exact hf
  · intro _ _; rfl
  · intro h; simp only [startP] at h; omega
  · intro _ _
    left
    refine ⟨rfl, ?_⟩
    rcases c1 h0 with h | ⟨f, l, h⟩
    · left; exact h
    · right
      refine ⟨_, f, l, h, ?_⟩
      simp only [hSeq, startP]
      omega
  · intro _ h; exact absurd rfl h

theorem sm_dropOut {w : Prop} {mo : MSt} {x : Session} (h : SM w mo x)
    (h0 : x.outpacket.len ≠ 0 → x.outpacket.sentlen ≠ 0) : SM w mo (dropOut x) := by
  obtain ⟨⟨a1, a2, a3, a4, a5, a6, a7, a8, a9, a10, a11, a12, a13⟩, b, ⟨c1, c2, c3⟩⟩ := h
  refine ⟨⟨?_, ?_, ?_, ?_, a5, ?_, a7, a8, a9, a10, a11, a12, a13⟩, b, ⟨?_, ?_, ?_⟩⟩
  · simp [dropOut]
  · intro h; exact absurd rfl h
  · simp [dropOut]
  · intro h; exact absurd rfl h
  · intro h; exact absurd rfl h
  · intro _
    by_cases hl : x.outpacket.len = 0
    · exact c1 hl
    · right
      exact ⟨_, _, c3 hl (h0 hl)⟩
  · intro h; exact absurd rfl h
  · intro h; exact absurd rfl h

theorem ring_lt (k : Nat) (h : k < 8) : ring k < 4 := by unfold ring; split <;> omega

/-- the session after `save_to_outpacketq` stored a packet at ring position `fill` -/
def saveQ (x : Session) (fill : Nat) (d : List Nat) (n : Nat) : Session :=
  { x with outpacketq := x.outpacketq.modify fill
              (fun p => { p with data := d.take (min n PACKET_DATA_SIZE), len := min n PACKET_DATA_SIZE }),
           oqFilled := x.oqFilled + 1 }

theorem sm_saveQ {w : Prop} {mo : MSt} {x : Session} (h : SM w mo x) (fill : Nat) (d : List Nat) (n : Nat)
    (hfill : fill = ring (x.oqNext + x.oqFilled))
    (hq : ¬ x.oqFilled ≥ 4) (hf : 2 ≤ x.fragsize) (h1 : 1 ≤ n) (h2 : n ≤ d.length) : SM w mo (saveQ x fill d n) := by
  obtain ⟨⟨a1, a2, a3, a4, a5, a6, a7, a8, a9, a10, a11, a12, a13⟩, b, ⟨c1, c2, c3⟩⟩ := h
  have hn : 1 ≤ min n PACKET_DATA_SIZE := by simp [PACKET_DATA_SIZE]; omega
  have hr : fill < 4 := by rw [hfill]; exact ring_lt _ (by omega)
  refine ⟨⟨a1, a2, a3, a4, a5, a6, a7, ?_, ?_, a10, ?_, ?_, ?_⟩, b, ⟨c1, c2, c3⟩⟩
  · intro pk hpk
    simp only [saveQ] at hpk
    rcases List.mem_iff_getElem?.1 hpk with ⟨j, hj⟩
    rw [List.getElem?_modify] at hj
    split at hj
    · cases hx : x.outpacketq[j]? with
      | none => rw [hx] at hj; cases hj
      | some p0 =>
        rw [hx] at hj
        simp at hj
        subst hj
        simp only [List.length_take]
        omega
    · simp at hj
      exact a8 pk (List.mem_of_getElem? hj)
  · simp [saveQ, a9]
  · simp only [saveQ]; omega
  · intro _; exact hf
  · intro i hi
    simp only [saveQ] at hi ⊢
    rw [getD_modify]
    split
    · exact hn
    · rename_i hne
      have hi' : i < x.oqFilled := by
        rcases Nat.lt_or_ge i x.oqFilled with h | h
        · exact h
        · exfalso
          have : i = x.oqFilled := by omega
          subst this
          exact hne ⟨hfill.symm, by rw [a9]; exact hr⟩
      exact a13 i hi'

theorem stay_startNewOutpacket (W : Nat → Prop) (s : Srv) (u : Nat) (d : List Nat) (n : Nat)
    (h0 : (getUser s u).outpacket.len = 0) (hf : 2 ≤ (getUser s u).fragsize) (h1 : 1 ≤ n) (h2 : n ≤ d.length) :
    Stay W s (startNewOutpacket s u d n) :=
  stay_setUser W s u (fun x => startP x d n) (fun _ _ h => sm_startP h d n h0 hf h1 h2)

theorem stay_saveToOutpacketq (W : Nat → Prop) (s : Srv) (u : Nat) (d : List Nat) (n : Nat)
    (hf : 2 ≤ (getUser s u).fragsize) (h1 : 1 ≤ n) (h2 : n ≤ d.length) :
    Stay W s (saveToOutpacketq s u d n).1 := by
  unfold saveToOutpacketq
  extract_lets x fill0 fill n'
  refine ite_both' (P := fun r : Srv × Bool => Stay W s r.1) ?_ ?_
  · intro _; exact Stay.refl W s
  · intro hq
    refine stay_setUser W s u _ (fun w mo h => ?_)
    exact sm_saveQ h fill d n (by simp only [fill, fill0, ring, OUTPACKETQ_LEN]; rfl) hq hf h1 h2

theorem ring_succ (n i : Nat) (hn : n < 4) (hi : i < 4) :
    ring ((if n + 1 ≥ 4 then 0 else n + 1) + i) = ring (n + (i + 1)) := by
  unfold ring
  split <;> split <;> split <;> omega

theorem sm_oqAdvance {w : Prop} {mo : MSt} {y : Session} (h : SM w mo y) (hne : y.oqFilled ≠ 0) (nx : Nat)
    (hnx : nx = if y.oqNext + 1 ≥ 4 then 0 else y.oqNext + 1) :
    SM w mo { y with oqNext := nx, oqFilled := y.oqFilled - 1 } := by
  obtain ⟨⟨a1, a2, a3, a4, a5, a6, a7, a8, a9, a10, a11, a12, a13⟩, b, ⟨c1, c2, c3⟩⟩ := h
  refine ⟨⟨a1, a2, a3, a4, a5, a6, a7, a8, a9, ?_, ?_, ?_, ?_⟩, b, ⟨c1, c2, c3⟩⟩
  · dsimp only; rw [hnx]; split <;> omega
  · dsimp only; omega
  · intro _; exact a12 hne
  · intro i hi
    dsimp only at hi ⊢
    have := a13 (i + 1) (by omega)
    rw [hnx, ring_succ _ i a10 (by omega)]; exact this

theorem stay_getFromOutpacketq (W : Nat → Prop) (s : Srv) (u : Nat) (h0 : (getUser s u).outpacket.len = 0) :
    Stay W s (getFromOutpacketq s u).1 := by
  unfold getFromOutpacketq
  extract_lets x use p s1 use'
  refine ite_both' (P := fun r : Srv × Bool => Stay W s r.1) ?_ ?_
  · intro _; exact Stay.refl W s
  · intro hne
    show Stay W s (setUser s1 u _)
    unfold s1
    rw [startNewOutpacket_eq, setUser_setUser]
    refine stay_setUser W s u _ (fun w mo h => ?_)
    have hw := h.wf
    have hp0 : ring (x.oqNext + 0) = x.oqNext := by
      have : x.oqNext < 4 := hw.oqn
      unfold ring; simp only [Nat.add_zero]; split <;> omega
    have hp1 : 1 ≤ p.len := by
      have := hw.oqpos 0 (Nat.pos_of_ne_zero hne)
      rw [hp0] at this; exact this
    have hp2 : p.len ≤ p.data.length := by
      rcases getD_mem_or x.outpacketq use Packet.zero with hm | hm
      · exact hw.oq _ hm
      · show (x.outpacketq.getD use Packet.zero).len ≤ (x.outpacketq.getD use Packet.zero).data.length
        rw [hm]; exact Nat.le_refl _
    exact sm_oqAdvance (sm_startP h p.data p.len h0 (hw.oqfs hne) hp1 hp2) hne use' rfl

theorem stay_dropOut (W : Nat → Prop) (s : Srv) (u : Nat)
    (h0 : (getUser s u).outpacket.len ≠ 0 → (getUser s u).outpacket.sentlen ≠ 0) : Stay W s (setUser s u dropOut) :=
  stay_setUser W s u dropOut (fun _ _ h => sm_dropOut h h0)

end Iodine.C15L
