import IodineModel.Lemmas.C02d9
/-
ONE downstream cycle for both modes, in the joint model: `DownFlight` (fragment `f` on its way to the client) --deliverDown [tickC]-->
`PingUp` (the acknowledging ping on its way to a server that holds no query) --deliverUp--> `DownFlight` (fragment `f + 1`).
`recv_then_ping` and `answer_step` are the two halves, `down_mid` the round, `down_run` the induction up to the LAST fragment in
flight (`DownRounds`).  Before them the server's half at the level of `Srv`, one lemma per thing the acknowledgement can do
(`afterPing_next/_resend/_done/_dataless`).  The modes differ in how the first fragment gets into flight (a poll fetches it; it
answers the held query) and in what becomes of the ping that acknowledges the last one (answered dataless; held).
-/
namespace Iodine.C02L
open Iodine Iodine.Gen Iodine.World

/-- the server holds no query of the session and has nothing queued (`lz`: the session's mode) -/
structure NoQSrv (P : Par) (lz : Bool) (s : Server.Srv) : Prop where
  stat : SStat P s
  q : (Server.getUser s P.u).q.id = 0
  qs : (Server.getUser s P.u).qs.id = 0
  lz : (Server.getUser s P.u).lazy = lz
  oq : (Server.getUser s P.u).oqFilled = 0

theorem PingSrvG.noq {P : Par} {s : Server.Srv} (h : PingSrvG P s) : NoQSrv P false s := ⟨h.stat, h.q, h.qs, h.lz, h.oq⟩
theorem NoQSrv.imm {P : Par} {s : Server.Srv} (h : NoQSrv P false s) : PingSrvG P s := ⟨h.stat, h.q, h.qs, h.lz, h.oq⟩

/-- no query is held: the server's `select` waits its full ten seconds -/
theorem topOfLoop_noq {P : Par} {lz : Bool} {s : Server.Srv} (h : NoQSrv P lz s) : (Server.topOfLoop s).2.1 = 10000000 := by
  rw [topOfLoop_timeout h.stat.solo, if_neg (by intro hc; exact hc.2 h.qs)]

/-- what the slot keeps when a query is answered or held -/
structure SrvKept (P : Par) (s s' : Server.Srv) : Prop where
  fragsize : (Server.getUser s' P.u).fragsize = (Server.getUser s P.u).fragsize
  inpacket : (Server.getUser s' P.u).inpacket = (Server.getUser s P.u).inpacket
  tunIp : (Server.getUser s' P.u).tunIp = (Server.getUser s P.u).tunIp
  lastPkt : (Server.getUser s' P.u).lastPkt = s'.now
  now : s'.now = s.now

theorem afterPing_kept {P : Par} {lz : Bool} {s s' : Server.Srv} {Q : Server.Query} {a b : Int} {pkt : List Nat}
    (h : NoQSrv P lz s) (hid2 : Q.id2 = 0) (hap : AfterPing P s s' Q a b pkt)
    (hos : 0 ≤ (Server.getUser s' P.u).outpacket.seqno ∧ (Server.getUser s' P.u).outpacket.seqno < 8)
    (hof : 0 ≤ (Server.getUser s' P.u).outpacket.fragment ∧ (Server.getUser s' P.u).outpacket.fragment < 16) :
    NoQSrv P lz s' ∧ SrvKept P s s' := by
  obtain ⟨h1, hr, h2, h3, h4⟩ := afterPing_frame h.stat h.oq hid2 hap hos hof
  exact ⟨⟨h1, h2, by rw [rest_qs hr]; exact h.qs, by rw [rest_lazy hr]; exact h.lz, by rw [rest_oqFilled hr]; exact h.oq⟩,
    ⟨rest_fragsize hr, rest_inpacket hr, rest_tunIp hr, h3, h4⟩⟩

theorem frag_range {f : Nat} (hf : f < 16) : (0 : Int) ≤ (f : Int) ∧ (f : Int) < 16 := by omega

theorem pkt_of_afterPing_slot {P : Par} {s s' : Server.Srv} {Q : Server.Query} {a b : Int} {pkt : List Nat} {yy x0 : Server.Session}
    {D : Nat} (hap : AfterPing P s s' Q a b pkt) (hx0 : ({ Server.getUser s P.u with qsNew := false } : Server.Session) = x0)
    (hyev : (scSess (saveQ (ackSess x0 a b) Q s.now) P.u .q).1.2 = [Server.writeDns Q (Server.scPkt yy D) x0.downenc (.chunk P.u)]) :
    pkt = Server.scPkt yy D := by
  subst hx0
  exact (writeDns_data_inj (hyev.symm.trans hap.pkt)).symm

/-- NEXT fragment: the ping acknowledged fragment `f` (`m` bytes at offset `o`) and more is left -/
theorem afterPing_next {P : Par} {lz : Bool} {s s' : Server.Srv} {Q : Server.Query} {pkt out : List Nat} {sq : Int} {o m f : Nat}
    (hS : NoQSrv P lz s) (hid2 : Q.id2 = 0) (hap : AfterPing P s s' Q sq (f : Int) pkt)
    (hop : (Server.getUser s P.u).outpacket = ⟨out.length, m, o, out, sq, (f : Int)⟩)
    (hres : (Server.getUser s P.u).outfragresent ≤ 5) (hm : 0 < m) (hlt : o + m < out.length)
    (hF : 0 < (Server.getUser s P.u).fragsize) (hf : f + 1 < 16) (hsq : 0 ≤ sq ∧ sq < 8) :
    ∃ D, D = downLen (Server.getUser s P.u).fragsize (out.length - (o + m)) ∧ 0 < D ∧ o + m + D ≤ out.length ∧
      FragPkt pkt out sq (o + m) D (f + 1) (decide (out.length > 0 ∧ out.length = o + m + D)) ∧
      (Server.getUser s' P.u).outpacket = ⟨out.length, D, o + m, out, sq, ((f + 1 : Nat) : Int)⟩ ∧
      (Server.getUser s' P.u).outfragresent = 1 ∧ NoQSrv P lz s' ∧ SrvKept P s s' ∧
      (Client.decodeHdr pkt).upSeq = (Server.getUser s P.u).inpacket.seqno ∧
      (Client.decodeHdr pkt).upFrag = (Server.getUser s P.u).inpacket.fragment := by
  generalize hx0 : ({ Server.getUser s P.u with qsNew := false } : Server.Session) = x0
  have ht := topSlot_facts (P := P) (s := s) hx0
  have hslot : Server.getUser s' P.u = pingZ x0 P.u Q sq f s.now := by rw [afterPing_slot hap, hx0]
  obtain ⟨D, hDdef, hzo, hzr, hDpos, hDle, yy, hyev, hyo, hyi⟩ := pingZ_next x0 P.u Q s.now out sq o m f hid2
    (ht.oqFilled.trans hS.oq) (by rw [ht.outfragresent]; exact hres) (ht.outpacket.trans hop) hm hlt (by rw [ht.fragsize]; exact hF) (by omega)
  rw [ht.fragsize] at hDdef
  rw [← hslot] at hzo hzr
  have hpkt : pkt = Server.scPkt yy D := pkt_of_afterPing_slot hap hx0 hyev
  obtain ⟨hps, hk⟩ := afterPing_kept hS hid2 hap (by rw [hzo]; exact hsq)
    (by rw [hzo]; exact frag_range hf)
  obtain ⟨hfp, hus, huf⟩ := fragPkt_ack yy (Server.getUser s P.u) out sq (o + m) D (f + 1) hyo hDle hsq hf
    (hyi.trans ht.inpacket) hS.stat.x.iseq hS.stat.x.ifrag
  rw [← hpkt] at hfp hus huf
  exact ⟨D, hDdef, hDpos, hDle, hfp, hzo, hzr, hps, hk, hus, huf⟩

/-- FIRST send or RESEND of fragment `f` at offset `o`: the ping's acknowledgement does not match (`hack`) -/
theorem afterPing_resend {P : Par} {lz : Bool} {s s' : Server.Srv} {Q : Server.Query} {a b : Int} {pkt out : List Nat} {sq : Int}
    {o m f : Nat} (hS : NoQSrv P lz s) (hid2 : Q.id2 = 0) (hap : AfterPing P s s' Q a b pkt)
    (hop : (Server.getUser s P.u).outpacket = ⟨out.length, m, o, out, sq, (f : Int)⟩)
    (hres : (Server.getUser s P.u).outfragresent ≤ 5)
    (hack : m = 0 ∨ sq ≠ a ∨ (f : Int) ≠ b) (hL : o < out.length)
    (hF : 0 < (Server.getUser s P.u).fragsize) (hf : f < 16) (hsq : 0 ≤ sq ∧ sq < 8) :
    ∃ D, D = downLen (Server.getUser s P.u).fragsize (out.length - o) ∧ 0 < D ∧ o + D ≤ out.length ∧
      FragPkt pkt out sq o D f (decide (out.length > 0 ∧ out.length = o + D)) ∧
      (Server.getUser s' P.u).outpacket =
        (if D = out.length then ⟨0, 0, 0, out, sq, (f : Int)⟩ else ⟨out.length, D, o, out, sq, (f : Int)⟩) ∧
      (Server.getUser s' P.u).outfragresent = (if D = out.length then 0 else (Server.getUser s P.u).outfragresent + 1) ∧
      NoQSrv P lz s' ∧ SrvKept P s s' ∧
      (Client.decodeHdr pkt).upSeq = (Server.getUser s P.u).inpacket.seqno ∧
      (Client.decodeHdr pkt).upFrag = (Server.getUser s P.u).inpacket.fragment := by
  generalize hx0 : ({ Server.getUser s P.u with qsNew := false } : Server.Session) = x0
  have ht := topSlot_facts (P := P) (s := s) hx0
  have hslot : Server.getUser s' P.u = pingZ x0 P.u Q a b s.now := by rw [afterPing_slot hap, hx0]
  have hx0op : x0.outpacket = ⟨out.length, m, o, out, sq, (f : Int)⟩ := ht.outpacket.trans hop
  have hack' : ackSess x0 a b = x0 := by
    rcases hack with h | h | h
    · exact ackSess_stale x0 a b (by rw [hx0op]; exact h)
    · exact ackSess_mismatch x0 a b (Or.inl (by rw [hx0op]; exact h))
    · exact ackSess_mismatch x0 a b (Or.inr (by rw [hx0op]; exact h))
  obtain ⟨D, hDdef, hzo, hzr, hDpos, hDle, yy, hyev, hyo, hyi⟩ := pingZ_resend x0 P.u Q a b s.now out sq f m o hid2
    (ht.oqFilled.trans hS.oq) (by rw [ht.outfragresent]; exact hres) hx0op hack' hL (by rw [ht.fragsize]; exact hF)
  rw [ht.fragsize] at hDdef
  rw [ht.outfragresent] at hzr
  rw [← hslot] at hzo hzr
  have hpkt : pkt = Server.scPkt yy D := pkt_of_afterPing_slot hap hx0 hyev
  have hosf : (Server.getUser s' P.u).outpacket.seqno = sq ∧ (Server.getUser s' P.u).outpacket.fragment = (f : Int) := by
    rw [hzo]; by_cases hw : D = out.length
    · rw [if_pos hw]; exact ⟨rfl, rfl⟩
    · rw [if_neg hw]; exact ⟨rfl, rfl⟩
  obtain ⟨hps, hk⟩ := afterPing_kept hS hid2 hap (by rw [hosf.1]; exact hsq) (by rw [hosf.2]; exact frag_range hf)
  obtain ⟨hfp, hus, huf⟩ := fragPkt_ack yy (Server.getUser s P.u) out sq o D f hyo hDle hsq hf (hyi.trans ht.inpacket)
    hS.stat.x.iseq hS.stat.x.ifrag
  rw [← hpkt] at hfp hus huf
  exact ⟨D, hDdef, hDpos, hDle, hfp, hzo, hzr, hps, hk, hus, huf⟩

/-- a dataless answer as the client reads it: two bytes, the sender's downstream position -/
structure AckPkt (pkt : List Nat) (sq fr : Int) : Prop where
  len : (pkt.length : Int) = 2
  dnSeq : (Client.decodeHdr pkt).dnSeq = sq
  dnFrag : (Client.decodeHdr pkt).dnFrag = fr

/-- COMPLETION: the ping acknowledges the last fragment; the answer is dataless -/
theorem afterPing_done {P : Par} {lz : Bool} {s s' : Server.Srv} {Q : Server.Query} {pkt out : List Nat} {sq : Int} {o m f : Nat}
    (hS : NoQSrv P lz s) (hid2 : Q.id2 = 0) (hap : AfterPing P s s' Q sq (f : Int) pkt)
    (hop : (Server.getUser s P.u).outpacket = ⟨out.length, m, o, out, sq, (f : Int)⟩) (hm : 0 < m) (hge : o + m = out.length)
    (hf : f < 16) (hsq : 0 ≤ sq ∧ sq < 8) :
    AckPkt pkt sq (f : Int) ∧ (Server.getUser s' P.u).outpacket = ⟨0, 0, 0, out, sq, (f : Int)⟩ ∧
      (Server.getUser s' P.u).outfragresent = 0 ∧ NoQSrv P lz s' ∧ SrvKept P s s' := by
  generalize hx0 : ({ Server.getUser s P.u with qsNew := false } : Server.Session) = x0
  have ht := topSlot_facts (P := P) (s := s) hx0
  have hslot : Server.getUser s' P.u = pingZ x0 P.u Q sq f s.now := by rw [afterPing_slot hap, hx0]
  obtain ⟨hzo, hzr, yy, hyev, hyo, hyi⟩ := pingZ_done x0 P.u Q s.now out sq o m f hid2
    (ht.oqFilled.trans hS.oq) (ht.outpacket.trans hop) hm hge (by omega)
  rw [← hslot] at hzo hzr
  have hpkt : pkt = Server.scPkt yy 0 := pkt_of_afterPing_slot hap hx0 hyev
  obtain ⟨hps, hk⟩ := afterPing_kept hS hid2 hap (by rw [hzo]; exact hsq) (by rw [hzo]; exact frag_range hf)
  obtain ⟨hlen2, hdn, _, _⟩ := ack_hdr (x := yy) (y := yy) hpkt
    (by rw [hyi, ht.inpacket]; exact hS.stat.x.iseq) (by rw [hyi, ht.inpacket]; exact hS.stat.x.ifrag)
    rfl (by rw [hyo]; exact hsq) (by rw [hyo]; exact frag_range hf)
  have hdf : (Client.decodeHdr pkt).dnFrag = (f : Int) := by
    rw [hpkt, decodeHdr_scPkt yy 0 (by rw [hyi, ht.inpacket]; exact hS.stat.x.iseq) (by rw [hyi, ht.inpacket]; exact hS.stat.x.ifrag)
      (by rw [hyo]; exact hsq) (by rw [hyo]; exact frag_range hf), hyo]
  exact ⟨⟨hlen2, by rw [hdn, hyo], hdf⟩, hzo, hzr, hps, hk⟩

/-- DATALESS: nothing is in flight, or the acknowledgement does not match and the fragment in flight was sent more than five
times — then the packet is DROPPED; the answer carries no data and names the server's downstream position -/
theorem afterPing_dataless {P : Par} {lz : Bool} {s s' : Server.Srv} {Q : Server.Query} {a b : Int} {pkt : List Nat}
    (hS : NoQSrv P lz s) (hid2 : Q.id2 = 0) (hap : AfterPing P s s' Q a b pkt)
    (hd : (Server.getUser s P.u).outpacket.len = 0 ∨
      ((Server.getUser s P.u).outfragresent > 5 ∧
        ((Server.getUser s P.u).outpacket.seqno ≠ a ∨ (Server.getUser s P.u).outpacket.fragment ≠ b))) :
    AckPkt pkt (Server.getUser s P.u).outpacket.seqno (Server.getUser s P.u).outpacket.fragment ∧
      (Server.getUser s' P.u).outpacket.len = 0 ∧
      (Server.getUser s' P.u).outpacket.seqno = (Server.getUser s P.u).outpacket.seqno ∧
      (Server.getUser s' P.u).outpacket.fragment = (Server.getUser s P.u).outpacket.fragment ∧
      NoQSrv P lz s' ∧ SrvKept P s s' := by
  have hos := hS.stat.x.oseq
  have hof := hS.stat.x.ofrag
  generalize hx0 : ({ Server.getUser s P.u with qsNew := false } : Server.Session) = x0
  have ht := topSlot_facts (P := P) (s := s) hx0
  have hslot : Server.getUser s' P.u = pingZ x0 P.u Q a b s.now := by rw [afterPing_slot hap, hx0]
  have hop := ht.outpacket
  have hres := ht.outfragresent
  have hack : ackSess x0 a b = x0 := by
    rcases hd with h | ⟨_, h⟩
    · exact ackSess_idle x0 a b (by rw [hop]; exact h)
    · exact ackSess_mismatch x0 a b (by rw [hop]; exact h)
  obtain ⟨yy, hzo, hyl, hys, hyf, _, hyev, hyi⟩ := pingZ_dataless x0 P.u Q a b s.now hid2 (ht.oqFilled.trans hS.oq) hack
    (by rw [hop, hres]; exact hd.imp id fun h => h.1)
  rw [← hslot] at hzo
  rw [hop] at hys hyf
  have hpkt : pkt = Server.scPkt yy 0 := pkt_of_afterPing_slot hap hx0 hyev
  obtain ⟨hps, hk⟩ := afterPing_kept hS hid2 hap (by rw [hzo, hys]; exact hos) (by rw [hzo, hyf]; exact hof)
  have hyin : 0 ≤ yy.inpacket.seqno ∧ yy.inpacket.seqno < 8 := by rw [hyi, ht.inpacket]; exact hS.stat.x.iseq
  have hyif : 0 ≤ yy.inpacket.fragment ∧ yy.inpacket.fragment < 16 := by rw [hyi, ht.inpacket]; exact hS.stat.x.ifrag
  have hdec := decodeHdr_scPkt yy 0 hyin hyif (by rw [hys]; exact hos) (by rw [hyf]; exact hof)
  refine ⟨⟨?_, by rw [hpkt, hdec, hys], by rw [hpkt, hdec, hyf]⟩, by rw [hzo, hyl], by rw [hzo, hys], by rw [hzo, hyf], hps, hk⟩
  rw [hpkt, scPkt_length, Nat.zero_min]; rfl

/-- the number of fragments the server cuts `rest` bytes into (fragment size `F`; `fuel ≥ rest` suffices) -/
def downFrags (F : Nat) : Nat → Nat → Nat
  | 0, _ => 0
  | fuel + 1, rest => if rest = 0 then 0 else 1 + downFrags F fuel (rest - downLen F rest)

theorem downFrags_zero (F fuel : Nat) : downFrags F fuel 0 = 0 := by
  cases fuel <;> simp [downFrags]

theorem downFrags_succ (F fuel R : Nat) (hR : R ≠ 0) :
    downFrags F (fuel + 1) R = 1 + downFrags F fuel (R - downLen F R) := by
  show (if R = 0 then 0 else 1 + downFrags F fuel (R - downLen F R)) = _
  rw [if_neg hR]

theorem downFrags_first (F n : Nat) : downFrags F (n + 1) (n + 1) = 1 + downFrags F n (n + 1 - downLen F (n + 1)) :=
  downFrags_succ F n (n + 1) (Nat.succ_ne_zero n)

theorem downFrags_pos (F n r : Nat) (hn : 0 < n) (hr : 0 < r) : 1 ≤ downFrags F n r := by
  cases n with
  | zero => omega
  | succ k =>
    show 1 ≤ (if r = 0 then 0 else 1 + downFrags F k (r - downLen F r))
    rw [if_neg (by omega)]; omega

theorem downFrags_eq_zero (F : Nat) : ∀ (k rest : Nat), downFrags F k rest = 0 → k = 0 ∨ rest = 0 := by
  intro k rest h
  cases k with
  | zero => exact Or.inl rfl
  | succ n =>
    right
    by_cases hd : rest = 0
    · exact hd
    · simp [downFrags, hd] at h

/-- One fragment of the `R` bytes the server has still to send goes out (`downLen F R` bytes), `R` within the fuel and its fragments
within the sixteen fragment numbers from `f` on: `f` is a fragment number, the rest is within the fuel, its fragments within the
numbers from `f + 1` on, and if anything is left `f + 1` is a fragment number. -/
theorem downFrags_send (F : Nat) {n f R : Nat} (hR : R ≠ 0) (hD : 0 < downLen F R) (hl : R ≤ n + 1)
    (hb : f + downFrags F (n + 1) R ≤ 16) :
    f < 16 ∧ R - downLen F R ≤ n ∧ f + 1 + downFrags F n (R - downLen F R) ≤ 16 ∧ (R - downLen F R ≠ 0 → f + 1 < 16) := by
  rw [downFrags_succ F n R hR] at hb
  refine ⟨by omega, by omega, by omega, fun hr => ?_⟩
  have := downFrags_pos F n _ (by omega) (Nat.pos_of_ne_zero hr)
  omega

theorem downFrags_rest (F n D : Nat) (hpos : 0 < D) (hle : D ≤ n + 1) :
    (D = n + 1 → downFrags F n (n + 1 - D) = 0) ∧ (D ≠ n + 1 → 1 ≤ downFrags F n (n + 1 - D)) :=
  ⟨fun h => by rw [h, Nat.sub_self, downFrags_zero], fun h => downFrags_pos F n _ (by omega) (by omega)⟩

theorem downFrags_one_iff (F n : Nat) (h : 0 < F ∨ 0 < n) :
    downFrags F (n + 1) (n + 1) = 1 ↔ downLen F (n + 1) = n + 1 := by
  rw [downFrags_first]
  by_cases he : downLen F (n + 1) = n + 1
  · rw [he, Nat.sub_self, downFrags_zero]; exact ⟨fun _ => rfl, fun _ => rfl⟩
  · have hle := downLen_le F (n + 1)
    have hn : 0 < n := by
      rcases h with hF | hn
      · refine Nat.pos_of_ne_zero fun hn0 => he ?_
        subst hn0; unfold downLen; omega
      · exact hn
    have := downFrags_pos F n (n + 1 - downLen F (n + 1)) hn (by omega)
    exact ⟨fun h1 => by omega, fun h1 => absurd h1 he⟩

/-- The client (state `pingStateL c2`) has just sent a ping that carries ITS OWN downstream position; nothing else is in
flight; the server holds no query. -/
structure PingUp (P : Par) (lz : Bool) (w : W) (c2 : Client.Cli) (name' : List Nat) : Prop where
  cs : w.cs = ⟨pingStateL c2, .tunnel⟩
  st : CStatM P lz c2
  cnt : CntM lz c2 0
  idle : Client.isSending c2 = false
  up : w.up = [.query (pingStateL c2).chunkid P.ty name']
  down : w.down = []
  pq : PingQ P (upQuery (pingStateL c2).chunkid P.ty name') c2.inpkt.seqno c2.inpkt.fragment c2.randSeed
  srv : NoQSrv P lz w.srv
  syncu : (Server.getUser w.srv P.u).inpacket.seqno = c2.outpkt.seqno
  aged : Aged P (Server.getUser w.srv P.u) c2.datacmc 1
  paged : PAged P (Server.getUser w.srv P.u) c2.randSeed 1

/-- the client's side of `PingUp`: the state `c` after the ping went out, in terms of the state `c2` before -/
structure PingedCli (P : Par) (lz : Bool) (c2 c : Client.Cli) (name' : List Nat) : Prop where
  st : CStatM P lz c
  cnt : CntM lz c 1
  idle : Client.isSending c = false
  sps : c.sendPingSoon = 0
  nd : Client.notData c (name'.headD 0) = false
  cid : c.chunkid = (pingStateL c2).chunkid
  inpkt : c.inpkt = c2.inpkt
  outpkt : c.outpkt = c2.outpkt
  cmc : c.datacmc = c2.datacmc
  seed : c.randSeed = (c2.randSeed + 1) % 65536
  selto : c.selecttimeout = c2.selecttimeout

theorem PingUp.client {P : Par} {lz : Bool} {w : W} {c2 : Client.Cli} {name' : List Nat} (h : PingUp P lz w c2 name') :
    w.cs.ph = .tunnel ∧ PingedCli P lz c2 w.cs.c name' := by
  have hpf := pingFactsL c2
  rw [h.cs]
  refine ⟨rfl, cstatM_pingStateL h.st, h.cnt.pinged, ?_, hpf.sps, ?_, rfl, hpf.inpkt, hpf.outpkt, hpf.datacmc, hpf.seed, hpf.selto⟩
  · show Client.isSending (pingStateL c2) = false
    unfold Client.isSending
    rw [hpf.outpkt]
    exact h.idle
  · show Client.notData (pingStateL c2) (name'.headD 0) = false
    have h0 : name'.getD 0 0 = 112 := h.pq.c0
    rw [headD_eq_getD, h0]; simp [Client.notData]

/-- The standing conditions of a downstream transfer on the joint state: the client is in the tunnel phase, idle upstream, its
answer counting in balance; nothing is on its way up; the server holds no query; the two sides agree on the upstream number and
the server's duplicate memories are fresh. -/
structure DownBase (P : Par) (lz : Bool) (w : W) : Prop where
  ph : w.cs.ph = .tunnel
  cst : CStatM P lz w.cs.c
  cnt : CntM lz w.cs.c 1
  idleC : Client.isSending w.cs.c = false
  up : w.up = []
  srv : NoQSrv P lz w.srv
  frag : 0 < (Server.getUser w.srv P.u).fragsize
  syncu : (Server.getUser w.srv P.u).inpacket.seqno = w.cs.c.outpkt.seqno
  aged : Aged P (Server.getUser w.srv P.u) w.cs.c.datacmc 1
  paged : PAged P (Server.getUser w.srv P.u) w.cs.c.randSeed 1

/-- The client receives an answer to its most recent query and ends `tunnel_dns` in state `c3` after the events `pre`; `sn` = a
ping goes out at once.  Then a ping with the downstream position of `c3` is on its way to the server — after one scheduler
step if `sn`, else after two (`deliverDown`, `tickC`: the client's timer `c3.sendPingSoon` is below a second; `hnq`: the
state in between is not quiescent). -/
theorem recv_then_ping {P : Par} (hP : P.Ok) {lz : Bool} {w : W} {pkt name : List Nat} {c3 : Client.Cli}
    {pre : List Client.CEvent} {sn : Bool}
    (h : DownBase P lz w) (hdown : w.down = [.ans w.cs.c.chunkid P.ty name pkt])
    (hnd : Client.notData w.cs.c (name.headD 0) = false)
    (hrecv : ∀ rq, RecvOk P lz w.cs.c rq pkt → ∃ rd, Client.cstep ⟨w.cs.c, .tunnel⟩ (.rq rq) =
      Client.settle (Client.finalPing c3 pre sn rd))
    (hpre : upOfEvents pre = []) (hb : Booked P lz w.cs.c c3)
    (hsps3 : sn = false → 0 < c3.sendPingSoon ∧ c3.sendPingSoon < 1000)
    (hnq : sn = false → lz = false → (Server.getUser w.srv P.u).outpacket.len ≠ 0) :
    ∃ name' w2, promptSteps P.u (if sn then 1 else 2) w = some w2 ∧ PingUp P lz w2 c3 name' ∧ w2.srv = w.srv ∧
      w2.tunC = w.tunC ++ tunOfCEvents pre ∧ w2.tunS = w.tunS := by
  obtain ⟨hph, hcst, _, hidle, hup, hsrv, _, hsyncu, haged, hpaged⟩ := h
  generalize hc : w.cs.c = c at hdown hnd hcst hidle hrecv hsyncu haged hpaged hb
  obtain ⟨hst3, hcnt3, hnow, hout, hcmc, hseed⟩ := hb
  have hwc : w.cs = ⟨c, .tunnel⟩ := by rw [cstate_eta w.cs hph, hc]
  obtain ⟨rd, hst⟩ := hrecv ⟨(pkt.length : Int), c.chunkid, answerType P.ty, 0, name.headD 0, pkt⟩ ⟨hcst, hidle, hnd, rfl, rfl, rfl⟩
  have hidle3 : Client.isSending c3 = false := by unfold Client.isSending; rw [hout]; exact hidle
  rw [← hout] at hsyncu
  rw [← hcmc] at haged
  rw [← hseed] at hpaged
  cases sn with
  | false =>
    -- the client's step sends nothing; its timer then sends the ping
    have hcli : CliDoes ⟨c, .tunnel⟩ (cliInput (.ans c.chunkid P.ty name pkt)) ⟨c3, .tunnel⟩ [] (tunOfCEvents pre) :=
      CliDoes.mk (evs := pre) (nx := .sel (Client.selectOf c3))
        (by show Client.cstep ⟨c, .tunnel⟩ (.rq _) = _
            rw [hst]; simp [Client.finalPing, Client.settle, Client.loopTop, hst3.running]) hpre rfl
    have hs3 := hsps3 rfl
    obtain ⟨name', hping, hpq⟩ := cliDoes_poll0 hP hst3 (hcnt3.mono (by omega)) hidle3
      (by rw [selectOf_pingSoon c3 (by omega)]; omega)
    have hq2 : quiet P.u ⟨⟨c3, .tunnel⟩, w.srv, [], [], w.tunC ++ tunOfCEvents pre, w.tunS⟩ = false := by
      cases hlz : lz with
      | true =>
        unfold World.quiet
        have h1 : (Server.getUser w.srv P.u).lazy = true := by rw [hsrv.lz, hlz]
        simp [h1, hsrv.q]
      | false =>
        unfold World.quiet
        simp [hnq rfl hlz]
    refine ⟨name', ⟨⟨pingStateL c3, .tunnel⟩, w.srv, [.query (pingStateL c3).chunkid P.ty name'], [],
      w.tunC ++ tunOfCEvents pre ++ [], w.tunS⟩, ?_, ⟨rfl, hst3, hcnt3, hidle3, rfl, rfl, hpq, hsrv, hsyncu, haged, hpaged⟩, rfl, ?_, rfl⟩
    · show promptSteps P.u (1 + 1) w = _
      rw [ps_down_of hwc hup hdown hcli hnow,
        ps_tickC hq2 timeoutC_tunnel (by rw [selectOf_pingSoon c3 (by omega), topOfLoop_noq hsrv]; omega) hping,
        srvAt_same (pingFactsL c3).now]
      rfl
    · exact List.append_nil _
  | true =>
    obtain ⟨name', hset, hpq⟩ := settle_ping_now hP hst3 (hcnt3.mono (by omega)) pre rd
    have hcli : CliDoes ⟨c, .tunnel⟩ (cliInput (.ans c.chunkid P.ty name pkt)) ⟨pingStateL c3, .tunnel⟩
        [.query (pingStateL c3).chunkid P.ty name'] (tunOfCEvents pre) :=
      CliDoes.mk (evs := pre ++ [.query (pingStateL c3).chunkid P.ty name']) (nx := .sel (Client.selectOf (pingStateL c3)))
        (by show Client.cstep ⟨c, .tunnel⟩ (.rq _) = _; rw [hst]; exact hset)
        (by rw [upOfEvents_append, hpre]; rfl) (by rw [tunOfCEvents_append]; exact List.append_nil _)
    refine ⟨name', ⟨⟨pingStateL c3, .tunnel⟩, w.srv, [.query (pingStateL c3).chunkid P.ty name'], [],
      w.tunC ++ tunOfCEvents pre, w.tunS⟩, ?_, ⟨rfl, hst3, hcnt3, hidle3, rfl, rfl, hpq, hsrv, hsyncu, haged, hpaged⟩, rfl, rfl, rfl⟩
    show promptSteps P.u (0 + 1) w = _
    rw [ps_down_of hwc hup hdown hcli ((pingFactsL c3).now.trans hnow)]
    rfl

/-- the ping of `PingUp` reaches a server whose slot, after the acknowledgement, still has something to send: an answer goes
out at once (either mode) -/
theorem answer_step {P : Par} (hP : P.Ok) {lz : Bool} {w2 : W} {c2 : Client.Cli} {name' : List Nat} (h : PingUp P lz w2 c2 name')
    (hlen : 0 < (ackSess { Server.getUser w2.srv P.u with qsNew := false } c2.inpkt.seqno c2.inpkt.fragment).outpacket.len) :
    ∃ s' pkt2, promptSteps P.u 1 w2 =
        some { w2 with up := [], srv := s', down := [.ans (pingStateL c2).chunkid P.ty name' pkt2] } ∧
      AfterPing P w2.srv s' (upQuery (pingStateL c2).chunkid P.ty name') c2.inpkt.seqno c2.inpkt.fragment pkt2 ∧
      Aged P (Server.getUser s' P.u) c2.datacmc 1 ∧ PAged P (Server.getUser s' P.u) ((c2.randSeed + 1) % 65536) 1 := by
  obtain ⟨s', pkt2, hsrv, hap, hA', hPA'⟩ := srvDoes_ping hP h.srv.stat h.srv.q h.srv.qs (Or.inr hlen) h.srv.oq h.pq
    (Nat.le_refl 1) (by omega) h.aged h.paged
  refine ⟨s', pkt2, ?_, hap, hA', hPA'⟩
  show promptSteps P.u (0 + 1) w2 = _
  rw [ps_up_of h.up h.down hsrv, List.append_nil]
  rfl

/-- The joint state after the ping of `PingUp` was answered with `pkt2` by a server that holds no query afterwards (`hps`, `hk`: what
the `afterPing_*` lemmas conclude): the standing conditions hold again, and the answer is one to the client's most recent query. -/
theorem PingUp.answered {P : Par} {lz : Bool} {w2 : W} {c2 : Client.Cli} {name' : List Nat} (h : PingUp P lz w2 c2 name')
    {s' : Server.Srv} (pkt2 : List Nat) (hps : NoQSrv P lz s') (hk : SrvKept P w2.srv s')
    (hfrag : 0 < (Server.getUser w2.srv P.u).fragsize) (hA : Aged P (Server.getUser s' P.u) c2.datacmc 1)
    (hPA : PAged P (Server.getUser s' P.u) ((c2.randSeed + 1) % 65536) 1) :
    DownBase P lz { w2 with up := [], srv := s', down := [.ans (pingStateL c2).chunkid P.ty name' pkt2] } ∧
      [DownD.ans (pingStateL c2).chunkid P.ty name' pkt2] = [DownD.ans w2.cs.c.chunkid P.ty name' pkt2] ∧
      Client.notData w2.cs.c (name'.headD 0) = false := by
  have hcl := h.client
  refine ⟨⟨hcl.1, hcl.2.st, hcl.2.cnt, hcl.2.idle, rfl, hps, by rw [hk.fragsize]; exact hfrag, ?_, ?_, ?_⟩, by rw [hcl.2.cid],
    hcl.2.nd⟩
  · show (Server.getUser s' P.u).inpacket.seqno = w2.cs.c.outpkt.seqno
    rw [hk.inpacket, h.syncu, hcl.2.outpkt]
  · show Aged P (Server.getUser s' P.u) w2.cs.c.datacmc 1
    rw [hcl.2.cmc]; exact hA
  · show PAged P (Server.getUser s' P.u) w2.cs.c.randSeed 1
    rw [hcl.2.seed]; exact hPA

/-! ### the invariant of the cycle and its step -/

/-- Fragment `f` (`D` bytes at offset `o`) of the outpacket `out` is on its way to the client, nothing else is in flight: the two
sides, without what the CLIENT thinks of the fragment. -/
structure DownSent (P : Par) (lz : Bool) (out : List Nat) (w : W) (sq : Int) (o D f : Nat) : Prop
    extends DownBase P lz w where
  down : ∃ name pkt, w.down = [.ans w.cs.c.chunkid P.ty name pkt] ∧ Client.notData w.cs.c (name.headD 0) = false ∧
    FragPkt pkt out sq o D f (decide (out.length > 0 ∧ out.length = o + D))
  sq8 : 0 ≤ sq ∧ sq < 8
  pos : 0 < D
  fits : o + D ≤ out.length
  res : (Server.getUser w.srv P.u).outfragresent ≤ 1
  op : (Server.getUser w.srv P.u).outpacket = ⟨out.length, D, o, out, sq, (f : Int)⟩ ∨
    ((Server.getUser w.srv P.u).outpacket = ⟨0, 0, 0, out, sq, 0⟩ ∧ o = 0 ∧ f = 0 ∧ D = out.length)

/-- … and the client takes it: it is the fragment the client expects (`exp`) of a packet that is new to it (`dup`) -/
structure DownFlight (P : Par) (lz : Bool) (out : List Nat) (w : W) (sq : Int) (o D f : Nat) : Prop
    extends DownSent P lz out w sq o D f where
  exp : CExpectW w.cs.c out sq o f
  dup : sq = w.cs.c.inpkt.seqno ∨ Client.recentSeqno w.cs.c.inpkt.seqno sq = false

/-- what the steps of a downstream transfer leave alone as long as the client takes nothing: the two tun devices, the slot's
fragment size and tun address, the client's reassembly state and its `select` timeout -/
structure Keeps (P : Par) (w w' : W) : Prop where
  tunC : w'.tunC = w.tunC
  tunS : w'.tunS = w.tunS
  fs : (Server.getUser w'.srv P.u).fragsize = (Server.getUser w.srv P.u).fragsize
  tip : (Server.getUser w'.srv P.u).tunIp = (Server.getUser w.srv P.u).tunIp
  inpkt : w'.cs.c.inpkt = w.cs.c.inpkt
  selto : w'.cs.c.selecttimeout = w.cs.c.selecttimeout

theorem Keeps.refl (P : Par) (w : W) : Keeps P w w := ⟨rfl, rfl, rfl, rfl, rfl, rfl⟩

theorem Keeps.trans {P : Par} {a b c : W} (h1 : Keeps P a b) (h2 : Keeps P b c) : Keeps P a c :=
  ⟨h2.tunC.trans h1.tunC, h2.tunS.trans h1.tunS, h2.fs.trans h1.fs, h2.tip.trans h1.tip, h2.inpkt.trans h1.inpkt,
    h2.selto.trans h1.selto⟩

/-- `n` downstream rounds lead from `w`, fragment `f` in flight, to `w'`, fragment `f + n` (`D'` bytes at offset `o'`) in flight: two
scheduler steps each; the two tun devices, the slot's fragment size and tun address and the client's `select` timeout are as
before. -/
structure DownRounds (P : Par) (lz : Bool) (out : List Nat) (sq : Int) (w : W) (f n : Nat) (w' : W) (o' D' : Nat) : Prop where
  steps : promptSteps P.u (2 * n) w = some w'
  flight : DownFlight P lz out w' sq o' D' (f + n)
  tunC : w'.tunC = w.tunC
  tunS : w'.tunS = w.tunS
  fragsize : (Server.getUser w'.srv P.u).fragsize = (Server.getUser w.srv P.u).fragsize
  tunIp : (Server.getUser w'.srv P.u).tunIp = (Server.getUser w.srv P.u).tunIp
  selto : w'.cs.c.selecttimeout = w.cs.c.selecttimeout

theorem DownRounds.zero {P : Par} {lz : Bool} {out : List Nat} {sq : Int} {w : W} {o D f : Nat}
    (h : DownFlight P lz out w sq o D f) : DownRounds P lz out sq w f 0 w o D :=
  ⟨rfl, h, rfl, rfl, rfl, rfl, rfl⟩

theorem DownRounds.cons {P : Par} {lz : Bool} {out : List Nat} {sq : Int} {w w1 w' : W} {f n o1 D1 o' D' : Nat}
    (h1 : DownRounds P lz out sq w f 1 w1 o1 D1) (h : DownRounds P lz out sq w1 (f + 1) n w' o' D') :
    DownRounds P lz out sq w f (1 + n) w' o' D' := by
  refine ⟨?_, ?_, h.tunC.trans h1.tunC, h.tunS.trans h1.tunS, h.fragsize.trans h1.fragsize, h.tunIp.trans h1.tunIp,
    h.selto.trans h1.selto⟩
  · have := promptSteps_add P.u (2 * 1) (2 * n) w w1 h1.steps
    rw [h.steps] at this
    rw [← this, Nat.mul_add]
  · have e : f + (1 + n) = f + 1 + n := (Nat.add_assoc f 1 n).symm
    rw [e]; exact h.flight

/-- A fragment that is not the last one (two scheduler steps): `deliverDown` — the client appends it and pings at once —
and `deliverUp` — the server acknowledges and answers the ping with the next fragment.  The new fragment is the one the client
expects next (`CExpect`: no weird situation). -/
theorem down_mid {P : Par} (hP : P.Ok) {lz : Bool} {out : List Nat} {w : W} {sq : Int} {o D f : Nat}
    (h : DownFlight P lz out w sq o D f) (h64 : out.length ≤ 65536) (hlt : o + D < out.length) (hf : f + 1 < 16) :
    ∃ D', D' = downLen (Server.getUser w.srv P.u).fragsize (out.length - (o + D)) ∧
      ∃ w', DownRounds P lz out sq w f 1 w' (o + D) D' ∧ w'.cs.c.sendPingSoon = 0 := by
  obtain ⟨name, pkt, hdown, hnd, hfp⟩ := h.down
  have hsqr := h.sq8
  have hfl : FragPkt pkt out sq o D f false := by
    have : decide (out.length > 0 ∧ out.length = o + D) = false := by
      rw [decide_eq_false_iff_not]; omega
    rw [this] at hfp; exact hfp
  have hop : (Server.getUser w.srv P.u).outpacket = ⟨out.length, D, o, out, sq, (f : Int)⟩ := by
    rcases h.op with h1 | ⟨_, h2, _, h4⟩
    · exact h1
    · omega
  -- the client receives the fragment, appends it and pings at once
  obtain ⟨name', w2, hs1, hpu, hw2srv, hw2tc, hw2ts⟩ := recv_then_ping hP (c3 := midStateM w.cs.c out sq o D f) (pre := []) (sn := true)
    h.toDownBase hdown hnd (fun rq hrok => ⟨_, recv_mid hrok hfl h.pos h.dup h.exp hsqr (by omega) h.fits h64⟩) rfl
    (booked_mid h.cst h.cnt out sq o D f hsqr (by omega)) (fun h => absurd h (by decide)) (fun h => absurd h (by decide))
  have hcl := hpu.client
  generalize hc3 : midStateM w.cs.c out sq o D f = c3 at hpu hcl
  have e3 : c3.inpkt = inAfter w.cs.c out sq o D f := by rw [← hc3]; rfl
  have e3s : c3.inpkt.seqno = sq := by rw [e3]; rfl
  have e3f : c3.inpkt.fragment = (f : Int) := by rw [e3]; rfl
  have e3t : c3.selecttimeout = w.cs.c.selecttimeout := by rw [← hc3]; rfl
  -- the ping reaches the server; the acknowledged fragment is followed by the next one
  have hop0 : ({ Server.getUser w.srv P.u with qsNew := false } : Server.Session).outpacket =
      ⟨out.length, D, o, out, sq, (f : Int)⟩ := hop
  have hack := ackSess_advance { Server.getUser w.srv P.u with qsNew := false } sq f
    (by rw [hop0]; show out.length ≠ 0; omega) (by rw [hop0]) (by rw [hop0])
    (by rw [hop0]; exact Nat.ne_of_gt h.pos) (by rw [hop0]; exact hlt)
  obtain ⟨s', pkt2, hs2, hap, hA', hPA'⟩ := answer_step hP hpu
    (by rw [hw2srv, e3s, e3f, hack]; show 0 < (Server.getUser w.srv P.u).outpacket.len; rw [hop]; show 0 < out.length; omega)
  rw [hw2srv, e3s, e3f] at hap
  obtain ⟨D', hDdef, hDpos, hDle, hfp2, hzo, hzr, hps, hk, _⟩ := afterPing_next h.srv rfl hap hop
    (by have := h.res; omega) h.pos hlt h.frag hf hsqr
  generalize hw' : ({ w2 with up := [], srv := s', down := [.ans (pingStateL c3).chunkid P.ty name' pkt2] } : W) = w' at hs2
  have hinp : w2.cs.c.inpkt = inAfter w.cs.c out sq o D f := hcl.2.inpkt.trans e3
  have hE' : CExpect w2.cs.c out sq (o + D) (f + 1) := by
    right
    rw [hinp]
    refine ⟨by omega, rfl, by show ((f : Nat) : Int) = ((f + 1 : Nat) : Int) - 1; omega, rfl, ?_⟩
    show (out.take (o + D)).take (o + D) = _
    rw [List.take_take, Nat.min_self]
  refine ⟨D', hDdef, w', ⟨?_, ?_, ?_, ?_, ?_, ?_, ?_⟩, ?_⟩
  · show promptSteps P.u (1 + 1) w = _
    rw [promptSteps_add P.u 1 1 w w2 hs1, hs2]
  · subst hw'
    obtain ⟨hbase, hdn, hnd2⟩ := hpu.answered pkt2 hps (by rw [hw2srv]; exact hk) (by rw [hw2srv]; exact h.frag) hA' hPA'
    exact ⟨⟨hbase, ⟨name', pkt2, hdn, hnd2, hfp2⟩, hsqr, hDpos, hDle, by rw [hzr]; exact Nat.le_refl 1, Or.inl hzo⟩, hE'.toW,
      Or.inl (by show sq = w2.cs.c.inpkt.seqno; rw [hinp]; rfl)⟩
  · subst hw'
    show w2.tunC = w.tunC
    rw [hw2tc]; exact List.append_nil _
  · subst hw'; exact hw2ts
  · subst hw'; exact hk.fragsize
  · subst hw'; exact hk.tunIp
  · subst hw'; exact hcl.2.selto.trans e3t
  · subst hw'; exact hcl.2.sps

/-- From fragment `f` in flight to the LAST fragment in flight: one round per fragment in between.  If any round was made, no
ping is due at the client and the server still has the packet. -/
theorem down_run {P : Par} (hP : P.Ok) {lz : Bool} {out : List Nat} (h64 : out.length ≤ 65536) {sq : Int} (F : Nat) :
    ∀ (fuel : Nat) (w : W) (o D f : Nat), DownFlight P lz out w sq o D f →
      (Server.getUser w.srv P.u).fragsize = F → out.length - (o + D) ≤ fuel →
      f + downFrags F fuel (out.length - (o + D)) < 16 →
      ∃ w' o' D', DownRounds P lz out sq w f (downFrags F fuel (out.length - (o + D))) w' o' D' ∧ o' + D' = out.length ∧
        (o + D = out.length → w' = w) ∧
        (o + D ≠ out.length → w'.cs.c.sendPingSoon = 0 ∧ (Server.getUser w'.srv P.u).outpacket.len = out.length) := by
  intro fuel
  induction fuel with
  | zero =>
    intro w o D f h hF hl _
    have heq : o + D = out.length := Nat.le_antisymm h.fits (Nat.le_of_sub_eq_zero (Nat.le_zero.1 hl))
    exact ⟨w, o, D, DownRounds.zero h, heq, fun _ => rfl, fun hc => absurd heq hc⟩
  | succ fuel ih =>
    intro w o D f h hF hl hf
    have hle := h.fits
    by_cases heq : o + D = out.length
    · have hz : out.length - (o + D) = 0 := by rw [heq, Nat.sub_self]
      rw [hz, downFrags_zero]
      exact ⟨w, o, D, DownRounds.zero h, heq, fun _ => rfl, fun hc => absurd heq hc⟩
    · have hlt : o + D < out.length := by omega
      rw [downFrags_succ F fuel _ (by omega)] at hf ⊢
      obtain ⟨D', hD', w1, hr1, hsps1⟩ := down_mid hP h h64 hlt (by omega)
      rw [hF] at hD'
      rw [← hD'] at hf ⊢
      have hfl := hr1.flight
      have hDpos := hfl.pos
      have hrest : out.length - (o + D + D') = out.length - (o + D) - D' := by omega
      obtain ⟨w', o', D'', hr, h3, h4, h5⟩ := ih w1 (o + D) D' (f + 1) hfl (hr1.fragsize.trans hF)
        (by rw [hrest]; omega) (by rw [hrest]; omega)
      rw [hrest] at hr
      refine ⟨w', o', D'', hr1.cons hr, h3, fun hc => absurd hc heq, fun _ => ?_⟩
      by_cases hc : o + D + D' = out.length
      · rw [h4 hc]
        refine ⟨hsps1, ?_⟩
        rcases hfl.op with h1 | ⟨_, h2, _⟩
        · rw [h1]
        · omega
      · exact h5 hc

end Iodine.C02L
