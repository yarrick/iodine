import IodineModel.Lemmas.C02v7
import IodineModel.Lemmas.C02sched
import IodineModel.Lemmas.C02mode
/-
Upstream transfer in immediate mode: the joint invariants — the quiescent state `QuietImmS` (what the clean-path and recovery
theorems of immediate mode start from and end in, through `QuietImm`, `QuietImmD`, `QuietImmDS`) and `UpFlightS` / `UpFlight` (a
fragment in flight; the theorems go through `InFlight` of C02up2, and `UpFlight.toT` of C02rU3 is the one statement that names
this form).
-/
namespace Iodine.C02L
open Iodine Iodine.Gen Iodine.World

/-- quiescent joint state, immediate mode; the duplicate memories hold only data queries older than the next one — with
freshness slacks `sl` (data-CMC counter) and `sp` (ping seed): how many queries the client may have sent that the server
never saw (1 on the clean path) -/
structure QuietImmS (P : Par) (sl sp : Nat) (w : W) : Prop where
  ph : w.cs.ph = .tunnel
  cst : CStat P w.cs.c
  idleC : Client.isSending w.cs.c = false
  up : w.up = []
  down : w.down = []
  srv : SStat P w.srv
  idle : IdleImm (Server.getUser w.srv P.u)
  oq : (Server.getUser w.srv P.u).oqFilled = 0
  syncu : (Server.getUser w.srv P.u).inpacket.seqno = w.cs.c.outpkt.seqno
  syncd : (Server.getUser w.srv P.u).outpacket.seqno = w.cs.c.inpkt.seqno
  aged : Aged P (Server.getUser w.srv P.u) w.cs.c.datacmc sl
  paged : PAged P (Server.getUser w.srv P.u) w.cs.c.randSeed sp

theorem QuietImmS.quiet {P : Par} {sl sp : Nat} {w : W} (h : QuietImmS P sl sp w) : quiet P.u w = true :=
  quiet_of_idle h.up h.down h.idleC h.idle.out h.oq h.idle.qs (Or.inr ⟨h.idle.lazy, h.idle.q⟩)

/-- the quiescent state of the clean path: slack 1 -/
abbrev QuietImm (P : Par) (w : W) : Prop := QuietImmS P 1 1 w

/-- the client has sent fragment `f` (offset `o`) of the upstream packet `out` and waits for its acknowledgement; the server
is idle: common to all the states with a fragment in flight -/
structure SentCore (P : Par) (out : List Nat) (w : W) (c0 : Client.Cli) (o f : Nat) : Prop where
  ph : w.cs.ph = .tunnel
  ready : CReady P c0 out o f
  cli : w.cs.c = { sentState c0 with sendPingSoon := 0 }
  up : w.up = upOfEvents (Client.sendChunk c0).evs
  down : w.down = []
  srv : SStat P w.srv
  idle : IdleImm (Server.getUser w.srv P.u)
  oq : (Server.getUser w.srv P.u).oqFilled = 0

/-- fragment `f` (offset `o`) of the upstream packet `out` is in flight towards the server -/
structure UpFlightS (P : Par) (sl sp : Nat) (out : List Nat) (w : W) (c0 : Client.Cli) (o f : Nat) : Prop where
  ph : w.cs.ph = .tunnel
  ready : CReady P c0 out o f
  cli : w.cs.c = { sentState c0 with sendPingSoon := 0 }
  up : w.up = upOfEvents (Client.sendChunk c0).evs
  down : w.down = []
  srv : SStat P w.srv
  idle : IdleImm (Server.getUser w.srv P.u)
  oq : (Server.getUser w.srv P.u).oqFilled = 0
  expect : Expect (Server.getUser w.srv P.u) out c0.outpkt.seqno.toNat o f
  syncd : (Server.getUser w.srv P.u).outpacket.seqno = c0.inpkt.seqno
  aged : Aged P (Server.getUser w.srv P.u) c0.datacmc sl
  paged : PAged P (Server.getUser w.srv P.u) c0.randSeed sp

abbrev UpFlight (P : Par) (out : List Nat) (w : W) (c0 : Client.Cli) (o f : Nat) : Prop := UpFlightS P 1 1 out w c0 o f

end Iodine.C02L
