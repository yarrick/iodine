import IodineModel.Wire.Read
import IodineModel.Wire.DnsDecode
import IodineModel.Lemmas.WireRead
import IodineModel.Lemmas.Strict
/-
Functional lemmas about the READ side of the wire model on well-formed input: what `readshort`,
`readBytes`, `readname`, `readtxtbin` return when the datagram contains, at the read position, the reference
encodings (`be16`, `encLabels`, `encName`, … of Lemmas/Strict.lean) that the closed forms of the encoders
(Lemmas/WirePut.lean) are written with.  `rx l` is the receive buffer holding the datagram `l`, `At l p X` says that the bytes `X`
stand at offset `p` of `l`: the round-trip lemmas of Lemmas/WireRt2.lean, WireRt3.lean and the query direction (Lemmas/C02w.lean) are stated with them.
-/
namespace Iodine.Wire
open Iodine.Wire.Strict

/-- the receive buffer `data[64K]` holding the datagram `l` (residue: zeros, see C12) -/
def rx (l : List Nat) : RxBuf := { pkt := l.toArray, cap := 65536 }

@[simp] theorem rx_plen (l : List Nat) : (rx l).plen = l.length := by simp [rx, RxBuf.plen]

/-- the bytes `X` stand at offset `p` of `l` -/
def At (l : List Nat) (p : Nat) (X : List Nat) : Prop := X <+: l.drop p

theorem At.left {l p X Y} (h : At l p (X ++ Y)) : At l p X :=
  List.IsPrefix.trans (List.prefix_append X Y) h

theorem At.right {l p X Y} (h : At l p (X ++ Y)) : At l (p + X.length) Y := by
  obtain ⟨t, ht⟩ := h
  refine ⟨t, ?_⟩
  rw [← List.drop_drop, ← ht]
  simp

theorem At.get {l p x X} (h : At l p (x :: X)) : l[p]? = some x := by
  obtain ⟨t, ht⟩ := h
  have : (l.drop p)[0]? = some x := by rw [← ht]; rfl
  simpa using this

theorem At.lt {l p x X} (h : At l p (x :: X)) : p < l.length := by
  have := h.get
  exact (List.getElem?_eq_some_iff.mp this).1

theorem At.tail {l p x X} (h : At l p (x :: X)) : At l (p + 1) X :=
  At.right (X := [x]) h

theorem At.le {l p X} (h : At l p X) (hX : X ≠ []) : p + X.length ≤ l.length := by
  have h1 := h.length_le
  have h2 : 0 < X.length := List.length_pos_iff.mpr hX
  simp only [List.length_drop] at h1
  omega

theorem at_append (A X R : List Nat) : At (A ++ X ++ R) A.length X := by
  refine ⟨R, ?_⟩
  simp

theorem at_append' (A X R : List Nat) (p : Nat) (hp : p = A.length) : At (A ++ (X ++ R)) p X := by
  subst hp
  refine ⟨R, ?_⟩
  simp

theorem rx_cap_ok {l : List Nat} (hl : l.length ≤ 65536) : (rx l).plen ≤ (rx l).cap := by
  show l.toArray.size ≤ 65536
  simpa using hl

theorem readname_eq (b : RxBuf) (src length : Nat) (h3 : 3 ≤ length) :
    readname b src length =
      nameLoop b length (fun off len' => (readnameLoop b 9 off len').map (·.2)) src b.plen src [] := by
  have : ¬ length < 3 := by omega
  simp only [readname, this, if_false]
  rfl

theorem rx_get {l : List Nat} (hl : l.length ≤ 65536) {i x : Nat} (h : l[i]? = some x) :
    (rx l).get i = .ok x := by
  obtain ⟨hi, hx⟩ := List.getElem?_eq_some_iff.mp h
  rw [get_ok (rx l) (rx_cap_ok hl) i (by simpa using hi)]
  simp [rx, hi, hx]

theorem rx_get_at {l : List Nat} (hl : l.length ≤ 65536) {p x : Nat} {X : List Nat} (h : At l p (x :: X)) :
    (rx l).get p = .ok x := rx_get hl h.get

/-! ### readshort / readBytes -/

theorem shl8_or (a b : Nat) (hb : b < 256) : (a <<< 8) ||| b = a * 256 + b := by
  rw [← Nat.shiftLeft_add_eq_or_of_lt (by simpa using hb), Nat.shiftLeft_eq]

theorem and_ffff (v : Nat) (h : v < 65536) : v &&& 0xffff = v := by
  have := Nat.and_two_pow_sub_one_eq_mod v 16
  simp only [show (2 : Nat) ^ 16 - 1 = 0xffff by decide] at this
  rw [this]; exact Nat.mod_eq_of_lt h

theorem readshort_at {l : List Nat} (hl : l.length ≤ 65536) {p v : Nat} (hv : v < 65536) {X : List Nat}
    (h : At l p (be16 v ++ X)) : readshort (rx l) p = .ok (v, p + 2) := by
  have h0 : At l p (v / 256 % 256 :: v % 256 :: X) := h
  simp only [readshort, rx_get_at hl h0, rx_get_at hl h0.tail, bind_ok]
  rw [shl8_or _ _ (by omega)]
  congr 2
  omega

theorem readBytes_at {l : List Nat} (hl : l.length ≤ 65536) (X : List Nat) :
    ∀ {p : Nat} {Y : List Nat}, At l p (X ++ Y) → readBytes (rx l) X.length p = .ok X := by
  induction X with
  | nil => intro p Y _; rfl
  | cons x X ih =>
    intro p Y h
    simp only [List.length_cons, readBytes, rx_get_at hl h, bind_ok]
    rw [ih (Y := Y) (At.tail h)]
    rfl

theorem readBytes_at' {l : List Nat} (hl : l.length ≤ 65536) (X : List Nat) (n : Nat) (hn : n = X.length)
    {p : Nat} {Y : List Nat} (h : At l p (X ++ Y)) : readBytes (rx l) n p = .ok X := by
  subst hn; exact readBytes_at hl X h

/-- the fixed part of a record: type and RDLENGTH are returned, class and TTL skipped -/
theorem readRRHeader_at {l : List Nat} (hl : l.length ≤ 65536) {p ty cls ttl rdlen : Nat} {X : List Nat}
    (hty : ty < 65536) (hcls : cls < 65536) (hrd : rdlen < 65536)
    (h : At l p (rrFixed ty cls ttl rdlen ++ X)) : readRRHeader (rx l) p = .ok (ty, rdlen, p + 10) := by
  have h' : At l p (be16 ty ++ (be16 cls ++ (be32 ttl ++ (be16 rdlen ++ X)))) := by
    simpa [rrFixed, List.append_assoc] using h
  have hle := h'.le (by simp [be16])
  simp only [List.length_append, be16, be32, List.length_cons, List.length_nil] at hle
  have h1 := readshort_at hl hty h'
  have h2 := readshort_at hl hcls h'.right
  have h4 : At l (p + 2 + 2 + 4) (be16 rdlen ++ X) := by
    have := h'.right.right.right
    simpa [be16, be32] using this
  have h4' := readshort_at hl hrd h4
  obtain ⟨⟨v, _⟩, hv, rfl⟩ : ∃ r, readlong (rx l) (p + 2 + 2) = .ok r ∧ r.2 = p + 2 + 2 + 4 :=
    (readlong_same (r₁ := #[]) _ (by simp; omega)).run (rx_cap_ok hl) trivial
  simp only [be16, List.length_cons, List.length_nil] at h2
  simp only [readRRHeader, h1, bind_ok, h2, hv, h4']

theorem readHeader_bytes {l : List Nat} (hl : l.length ≤ 65536) (b0 b1 b2 b3 b4 b5 b6 b7 : Nat) (rest : List Nat)
    (h : l = b0 :: b1 :: b2 :: b3 :: b4 :: b5 :: b6 :: b7 :: rest) :
    readHeader (rx l) = .ok
      { id := ((b0 <<< 8) ||| b1) &&& 0xffff, qr := (b2 >>> 7) &&& 1, rcode := b3 &&& 0xf,
        qdcount := sshort ((b4 <<< 8) ||| b5), ancount := sshort ((b6 <<< 8) ||| b7) } := by
  have hg : ∀ i x, (b0 :: b1 :: b2 :: b3 :: b4 :: b5 :: b6 :: b7 :: rest)[i]? = some x → (rx l).get i = .ok x :=
    fun i x hx => rx_get hl (by rw [h]; exact hx)
  simp only [readHeader, hg 0 b0 rfl, hg 1 b1 rfl, hg 2 b2 rfl, hg 3 b3 rfl, hg 4 b4 rfl, hg 5 b5 rfl, hg 6 b6 rfl,
    hg 7 b7 rfl, bind_ok]

/-! ### readname on an uncompressed name -/

theorem and_c0_of_lt (c : Nat) (h : c < 64) : c &&& 0xc0 = 0 := by
  have : ∀ c : Fin 64, c.val &&& 0xc0 = 0 := by decide
  exact this ⟨c, h⟩

theorem copyLabel_at {l : List Nat} (hl : l.length ≤ 65536) (length : Nat) (w : List Nat) :
    ∀ {s : Nat} {out Y : List Nat}, At l s (w ++ Y) → out.length + w.length + 1 ≤ length → (Y ≠ [] ∨ w = []) →
      copyLabel (rx l) length w.length s out = .ok (s + w.length, out ++ w) := by
  induction w with
  | nil => intro s out Y _ _ _; simp [copyLabel]
  | cons x w ih =>
    intro s out Y h hlen hY
    have hlt : s < (rx l).plen := by simpa using At.lt h
    simp only [List.length_cons] at hlen
    simp only [List.length_cons, copyLabel]
    rw [if_pos ⟨by omega, hlt⟩]
    simp only [rx_get_at hl h, bind_ok, push_ok x (show out.length < length by omega)]
    rw [ih (At.tail h) (by simp; omega) (by
      rcases hY with hY | hY
      · exact Or.inl hY
      · cases hY)]
    simp
    omega

/-- The `while` loop of `readname_loop` over the labels `ls` followed by the root byte: every label is
copied, dots in between, NUL at the end; the read pointer ends behind the root byte. -/
theorem nameLoop_labels {l : List Nat} (hl : l.length ≤ 65536) (length : Nat)
    (rec : Nat → Nat → Except Fault (List Nat)) (src0 : Nat) (ls : List (List Nat)) :
    ∀ (fuel s : Nat) (out Y : List Nat), LabelsOK ls → At l s (encLabels ls ++ 0 :: Y) → ls.length ≤ fuel →
      out.length + (joinDots ls).length + 2 ≤ length →
      nameLoop (rx l) length rec src0 fuel s out = .ok (s + labLen ls + 1, out ++ joinDots ls ++ [0]) := by
  induction ls with
  | nil =>
    intro fuel s out Y _ h _ hlen
    have h0 : At l s (0 :: Y) := by simpa [encLabels] using h
    have hlt : s < (rx l).plen := by simpa using At.lt h0
    simp only [joinDots, List.length_nil] at hlen
    unfold nameLoop
    simp only [hlt, not_true_eq_false, if_false, rx_get_at hl h0, bind_ok, true_or, if_true, nameFinish,
      push_ok 0 (show out.length < length by omega), labLen_nil]
    simp [joinDots]
  | cons w r ih =>
    intro fuel s out Y hok h hfuel hlen
    have hw := hok w (by simp)
    have h0 : At l s (w.length :: (w ++ (encLabels r ++ 0 :: Y))) := by
      simpa [encLabels_cons, List.append_assoc] using h
    have hlt : s < (rx l).plen := by simpa using At.lt h0
    have hjl : w.length ≤ (joinDots (w :: r)).length := by
      cases r with
      | nil => simp [joinDots]
      | cons l' r => simp [joinDots_cons_cons]
    cases fuel with
    | zero => simp at hfuel
    | succ fuel =>
      unfold nameLoop
      simp only [hlt, not_true_eq_false, if_false, rx_get_at hl h0, bind_ok]
      rw [if_neg (by omega)]
      rw [and_c0_of_lt _ (by omega)]
      simp only [show (0 : Nat) ≠ 0xc0 by decide, if_false, ne_eq, not_true_eq_false]
      have h1 : At l (s + 1) (w ++ (encLabels r ++ 0 :: Y)) := At.tail h0
      rw [copyLabel_at hl length w h1 (by omega) (Or.inl (by simp))]
      simp only [bind_ok]
      have h2 : At l (s + 1 + w.length) (encLabels r ++ 0 :: Y) := h1.right
      cases r with
      | nil =>
        simp only [joinDots] at hlen
        have h3 : At l (s + 1 + w.length) (0 :: Y) := by simpa [encLabels] using h2
        have hlt2 : s + 1 + w.length < (rx l).plen := by simpa using At.lt h3
        rw [if_neg (by simp; omega)]
        simp only [hlt2, if_true, rx_get_at hl h3, bind_ok, not_true_eq_false, if_false]
        have := ih fuel (s + 1 + w.length) (out ++ w) Y (LabelsOK.tail hok) h2 (by simp) (by simp [joinDots]; omega)
        rw [this]
        simp [joinDots, labLen_cons]
        omega
      | cons w' r' =>
        simp only [joinDots_cons_cons, List.length_append, List.length_cons] at hlen
        have hw' := hok w' (by simp)
        have h3 : At l (s + 1 + w.length) (w'.length :: (w' ++ (encLabels r' ++ 0 :: Y))) := by
          simpa [encLabels_cons, List.append_assoc] using h2
        have hlt2 : s + 1 + w.length < (rx l).plen := by simpa using At.lt h3
        rw [if_neg (by simp; omega)]
        simp only [hlt2, if_true, rx_get_at hl h3, bind_ok]
        rw [if_pos (by omega)]
        simp only [push_ok 46 (show (out ++ w).length < length by simp; omega), bind_ok]
        have := ih fuel (s + 1 + w.length) (out ++ w ++ [46]) Y (LabelsOK.tail hok) h2
          (by simp only [List.length_cons] at hfuel ⊢; omega) (by simp; omega)
        rw [this]
        simp [joinDots_cons_cons, labLen_cons]
        omega

theorem readname_labels {l : List Nat} (hl : l.length ≤ 65536) (length p : Nat) (ls : List (List Nat)) (Y : List Nat)
    (hok : LabelsOK ls) (h : At l p (encName ls ++ Y)) (hlen : (joinDots ls).length + 2 ≤ length) (h3 : 3 ≤ length) :
    readname (rx l) p length = .ok (p + labLen ls + 1, joinDots ls ++ [0]) := by
  have h' : At l p (encLabels ls ++ 0 :: Y) := by simpa [encName, List.append_assoc] using h
  have hle := h'.le (by simp)
  have hll := length_le_labLen ls hok
  have hel : (encLabels ls).length = labLen ls := encLabels_length ls
  simp only [List.length_append, List.length_cons, hel] at hle
  rw [readname_eq _ _ _ h3]
  rw [nameLoop_labels hl length _ p ls _ p [] Y hok h' (by simp; omega) (by simpa using hlen)]
  simp

/-- `readname` on a compression pointer to offset 12: `*src` behind the pointer (whatever is read there) -/
theorem readname_ptr {l : List Nat} (hl : l.length ≤ 65536) (p : Nat) (Y : List Nat) (h12 : 12 < l.length)
    (h : At l p (0xc0 :: 0x0c :: Y)) : ∃ w, readname (rx l) p 256 = .ok (p + 2, w) := by
  have hlt : p < (rx l).plen := by simpa using At.lt h
  have hlt1 : p + 1 < (rx l).plen := by simpa using At.lt h.tail
  have hcap : (rx l).plen ≤ (rx l).cap := rx_cap_ok hl
  obtain ⟨r, hr, _⟩ : ∃ r, readnameLoop (rx l) 9 12 256 = .ok r ∧ _ :=
    (readnameLoop_same (r₁ := #[]) (.triv _) 9 12 256 (by omega)).run hcap trivial
  have hpl : (rx l).plen = l.length := rx_plen l
  rw [readname_eq _ _ _ (by omega)]
  have hfuel : (rx l).plen = (l.length - 1) + 1 := by rw [hpl]; omega
  rw [hfuel]
  unfold nameLoop
  simp only [hlt, not_true_eq_false, if_false, rx_get_at hl h, bind_ok]
  rw [if_neg (by simp)]
  simp only [show (0xc0 : Nat) &&& 0xc0 = 0xc0 by decide, if_true, hlt1, not_true_eq_false, if_false,
    rx_get_at hl h.tail, bind_ok]
  have hoff : ((0xc0 : Nat) &&& 0x3f) <<< 8 ||| (0x0c &&& 0xff) = 12 := by decide
  rw [hoff, if_neg (by rw [hpl]; omega)]
  simp only [List.length_nil, Nat.sub_zero, hr, map_ok, bind_ok]
  rw [if_neg (by simp)]
  exact ⟨r.2, by simp⟩

end Iodine.Wire
