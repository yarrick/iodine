import IodineModel.Lemmas.C02d14
import IodineModel.Lemmas.C02qM1
/-
Downstream, immediate mode, from a DESYNCHRONISED quiescent state (c02:seqno-window, downstream side).  The client ADOPTS the number
of a dataless answer outside its window (`recv_dataless_adopt`).  A packet whose number falls into the window is LOST: `drop_core`
is the run for every distance at which the client does not take it (`DropsDown`, `C02qM1`) — the poll fetches fragment 0, the
resend cycles and the kill cycle of `C02qM1`, the dataless answer is booked; `down_packet_imm_desync_drop` (`4 ≤ d ≤ 6`) and
`…_drop7` are its two cases.  `down_packet_imm_any`: every distance `d < 8` in one statement, taken or lost as `lost_class` says.
-/
namespace Iodine.C02L
open Iodine Iodine.Gen Iodine.World

/-- the client state after a dataless answer with an unseen sequence number was adopted -/
def adoptState (c : Client.Cli) (sq fr : Int) : Client.Cli :=
  { c with packrecv := (Client.countRecv c).packrecv, recvcnt := c.recvcnt + 1, lastdownstreamtime := c.now,
           sendPingSoon := 500, inpkt := { c.inpkt with seqno := sq, fragment := fr, len := 0 } }

theorem tunnelDns_dataless_adopt (c : Client.Cli) (rq : Client.Rq) (hn : Client.notData c rq.name0 = false) (hrv : rq.rv = 2)
    (hid : Client.recentId c rq.id = true) (hsps : c.sendPingSoon = 0) (hlz : c.lazymode = false)
    (hne : (Client.decodeHdr rq.buf).dnSeq ≠ c.inpkt.seqno)
    (hrec : Client.recentSeqno c.inpkt.seqno (Client.decodeHdr rq.buf).dnSeq = false) :
    Client.tunnelDns c rq =
      Client.upstream (adoptState c (Client.sChar (Client.decodeHdr rq.buf).dnSeq) (Client.sChar (Client.decodeHdr rq.buf).dnFrag))
        (Client.decodeHdr rq.buf) [] false 2 := by
  exact tunnelDns_via0 c rq hn (by omega) (by omega) hid hsps (c1 := c) (rd := 2)
    (by rw [hrv]; exact dupeSeqno_keep _ _ _ (Or.inl (by omega)))
    (by rw [lazyHint_other (ackBook c) rq.id (Or.inl hlz), (datalessAdopt_spec (ackBook c) _ hne hrec).1]; cases c; rfl)
    (downstream_dataless _ _ _ _)

/-- a dataless answer with a sequence number outside the window (immediate mode, no ping due): adopted, a ping is due in
500 ms -/
theorem recv_dataless_adopt {P : Par} {c : Client.Cli} {rq : Client.Rq} {pkt : List Nat} {sq fr : Int}
    (h : RecvOk P false c rq pkt) (hsps : c.sendPingSoon = 0) (h2 : (pkt.length : Int) = 2)
    (hsq : (Client.decodeHdr pkt).dnSeq = sq) (hfr : (Client.decodeHdr pkt).dnFrag = fr)
    (hsqr : 0 ≤ sq ∧ sq < 8) (hfrr : 0 ≤ fr ∧ fr < 16)
    (hne : sq ≠ c.inpkt.seqno) (hrec : Client.recentSeqno c.inpkt.seqno sq = false) :
    Client.cstep ⟨c, .tunnel⟩ (.rq rq) = (⟨adoptState c sq fr, .tunnel⟩, [], .sel (Client.selectOf (adoptState c sq fr))) ∧
      CStatM P false (adoptState c sq fr) := by
  have hst : CStatM P false (adoptState c sq fr) :=
    cstatM_recv h.cst { c.inpkt with seqno := sq, fragment := fr, len := 0 } 500 _ hsqr hfrr
  refine ⟨?_, hst⟩
  rw [cstep_rq c rq h.cst.running h.cst.alive h.cst.conn]
  rw [tunnelDns_dataless_adopt c rq h.name0 (h.rv.trans h2) (by rw [h.id]; exact recentId_cur c) hsps h.cst.mode
    (by rw [h.buf, hsq]; exact hne) (by rw [h.buf, hsq]; exact hrec)]
  rw [h.buf, hsq, hfr, sChar_small sq (by omega), sChar_small fr (by omega),
    upstream_idle _ _ _ _ _ (show Client.isSending (adoptState c sq fr) = false from h.idle)]
  simp [Client.finalPing, Client.settle, Client.loopTop, hst.running]

/-- scheduler steps until the joint state is quiescent again when a downstream packet of `g` fragments is NOT taken by the
client: one poll round (`tickC deliverUp deliverDown`) for a one-fragment packet — the server forgets such a packet the moment
it is sent —, else seven rounds: the fragment is sent six times, the seventh ping makes the server drop the packet -/
def dropSteps (g : Nat) : Nat := if g = 1 then 3 else 21

theorem dropSteps_more {x : Nat} (h : 1 ≤ x) : dropSteps (1 + x) = 21 := by
  unfold dropSteps
  rw [if_neg (by omega)]

/-- One packet downstream, immediate mode, that the client does not take.  The poll fetches fragment 0; a one-fragment packet is
forgotten by the server as it is sent and thrown away by the client; a longer one goes through `drop_run`, and the client books
the dataless answer. -/
theorem drop_core {P : Par} (hP : P.Ok) {w : W} {d : Nat} (hq : QuietImmD P 0 d w) (hd : DropsDown w.cs.c d)
    (frame : List Nat) (hF : 0 < (Server.getUser w.srv P.u).fragsize)
    (h24 : 24 ≤ frame.length) (hl : frame.length < 65536) (hdst : Server.ipDst frame = (Server.getUser w.srv P.u).tunIp)
    (hr : Roomy P w) :
    ∃ w', promptSteps P.u (dropSteps (downFrags (Server.getUser w.srv P.u).fragsize (frame.length + 1) (frame.length + 1)))
        (step w (.offerS frame)) = some w' ∧
      QuietImmD P 0 ((d + 1) % 8) w' ∧ w'.tunC = w.tunC ∧ w'.tunS = w.tunS ∧
      (Server.getUser w'.srv P.u).fragsize = (Server.getUser w.srv P.u).fragsize ∧
      (Server.getUser w'.srv P.u).tunIp = (Server.getUser w.srv P.u).tunIp ∧
      (Server.getUser w'.srv P.u).lastPkt = w'.srv.now ∧ w'.cs.c.lastdownstreamtime = w'.cs.c.now ∧
      w'.cs.c.selecttimeout = w.cs.c.selecttimeout ∧ w'.cs.c.sendPingSoon ≤ 500 ∧ w'.cs.c.inpkt = w.cs.c.inpkt := by
  have hwin := inWin_of_desync hq.cst.iseq hd
  have hdd := seq_wrap w.cs.c.inpkt.seqno d
  generalize hFdef : (Server.getUser w.srv P.u).fragsize = F at hF ⊢
  obtain ⟨w1, hw1, hidle, ht1, ht2, htip1, hfs1, hnow1, hlp1, hcs1⟩ := down_offerD hq frame h24 hl hdst (by rw [hFdef]; exact hF)
  rw [hw1]
  have hlen : (0x5a :: frame).length = frame.length + 1 := by simp
  generalize hsq : (w.cs.c.inpkt.seqno + d + 1) % 8 = sq at hidle hwin hdd
  -- the poll fetches fragment 0
  obtain ⟨D, hD, w2, hs2, hsent, hsps2, hop2, hres2, hlp2, _, hk2⟩ :=
    down_first_imm hP hidle (by simp)
      ⟨by rw [hcs1]; exact hr.to, by rw [hcs1]; exact hr.cli, by rw [hcs1, hnow1, hlp1]; exact hr.srv⟩
  have hD' := hD
  rw [hfs1, hFdef, hlen] at hD
  have hin2' : w2.cs.c.inpkt = w.cs.c.inpkt := by rw [hk2.inpkt, hcs1]
  have hwin2 : InWinC w2.cs.c sq := hwin.congr hin2'
  have htc2 := hk2.tunC
  have hts2 := hk2.tunS
  have hfs2 := hk2.fs
  have htip2 := hk2.tip
  have hsel2 := hk2.selto
  have hsn : (w2.cs.c.sendPingSoon != 0) = false := by rw [hsps2]; rfl
  obtain ⟨name, pkt, hdown, hnd, hfp⟩ := hsent.down
  have hDle : D ≤ frame.length + 1 := by have := hsent.fits; rw [hlen, Nat.zero_add] at this; exact this
  have hrest := downFrags_rest F frame.length D hsent.pos hDle
  rw [downFrags_first, ← hD]
  by_cases he : D = frame.length + 1
  · -- ONE fragment: the server has forgotten the packet; the client throws the fragment away
    rw [hrest.1 he]
    rw [if_pos (by rw [hlen]; exact he)] at hop2
    obtain ⟨h1, hQ⟩ := recv_end_imm (dd := (d + 1) % 8) (c3 := dropBook w2.cs.c) (pre := []) hsent.toDownBase hdown hnd
      (fun _ hrok => by rw [← hsn]; exact recv_drop_common hrok hfp hsent.pos hwin2) rfl (booked_dropBook hsent.cst (Or.inl rfl))
      (by rw [hop2]) (by rw [hop2]) (by rw [dropBook_inpkt, hin2']; exact hdd)
    refine ⟨_, ?_, hQ, by show w2.tunC ++ [] = _; rw [List.append_nil, htc2, ht2], by rw [hts2, ht1], by rw [hfs2, hfs1, hFdef], by rw [htip2, htip1], hlp2, ?_, ?_, ?_,
      (dropBook_inpkt w2.cs.c).trans hin2'⟩
    · have := promptSteps_add P.u 2 1 w1 w2 hs2
      rw [h1] at this
      exact this
    · show (dropBook w2.cs.c).lastdownstreamtime = (dropBook w2.cs.c).now
      rw [dropBook_flat]
    · show (dropBook w2.cs.c).selecttimeout = _
      rw [dropBook_flat]; show w2.cs.c.selecttimeout = _; rw [hsel2, hcs1]
    · show (dropBook w2.cs.c).sendPingSoon ≤ 500
      rw [dropBook_flat]; exact Nat.le_refl 500
  · -- several fragments: six copies of fragment 0, then the packet is dropped and the dataless answer booked
    have hlt : D < (0x5a :: frame).length := by rw [hlen]; exact Nat.lt_of_le_of_ne hDle he
    rw [if_neg (by rw [hlen]; exact he)] at hres2
    obtain ⟨wc, hc1, hfc, hk⟩ := drop_run hP hsent hwin2 hlt (by rw [hfs2]; exact hD') hres2
    have hcyc : cycleSteps w2.cs.c.sendPingSoon + 15 = 18 := by unfold cycleSteps; rw [if_pos hsps2]
    rw [hcyc] at hc1
    obtain ⟨namec, pktc, hdownc, hndc, hlenc, hseqc⟩ := hfc.down
    have hsnc : (wc.cs.c.sendPingSoon != 0) = false := by rw [hfc.sps]; rfl
    have hwinc : InWinC wc.cs.c sq := hfc.win
    obtain ⟨h1, hQ⟩ := recv_end_imm (dd := (d + 1) % 8) (c3 := recvBook wc.cs.c) (pre := []) hfc.toDownBase hdownc hndc
      (fun _ hrok => ⟨2, by rw [recv_dataless_common hrok hlenc (by rw [hseqc]; exact hwinc.keep), hsnc]⟩) rfl
      (booked_recvBook hfc.cst (Or.inl rfl)) hfc.len0 hfc.oseq
      (by show sq = (wc.cs.c.inpkt.seqno + ((d + 1) % 8 : Nat)) % 8; rw [hk.inpkt, hin2']; exact hdd)
    refine ⟨_, ?_, hQ, by show wc.tunC ++ [] = _; rw [List.append_nil, hk.tunC, htc2, ht2], by rw [hk.tunS, hts2, ht1], by rw [hk.fs, hfs2, hfs1, hFdef],
      by rw [hk.tip, htip2, htip1], hfc.lp, rfl, by show wc.cs.c.selecttimeout = _; rw [hk.selto, hsel2, hcs1], ?_,
      by show wc.cs.c.inpkt = _; rw [hk.inpkt, hin2']⟩
    · have h13 := promptSteps_add P.u 2 18 w1 w2 hs2
      rw [hc1] at h13
      have h14 := promptSteps_add P.u _ 1 w1 wc h13
      rw [h1] at h14
      rw [← h14, dropSteps_more (hrest.2 he)]
    · show (if wc.cs.c.lazymode = true then 900 else 0) ≤ 500
      rw [if_neg (by rw [hfc.cst.mode]; decide)]
      exact Nat.zero_le _

/-- The finding, downstream, immediate mode (every payload, every fragment size).
From a quiescent joint state in which the server's downstream sequence number is `d ∈ {4, 5, 6}` ahead of the client's
(`QuietImmD P 0 d`), with the timer room of `down_packet_imm`: a frame offered to the server is NOT delivered.  The server
numbers it `d + 1` ahead; the client takes every copy of fragment 0 for a duplicate of a recent packet (`read := 2`,
`send_ping_soon := 500`) and keeps pinging with its own `(seqno, fragment)`, which `process_downstream_ack` does not match.
After `dropSteps g` prompt steps (3 for a one-fragment packet, else 21: six sends, then the drop) the joint state is
quiescent again, now `d + 1` apart; nothing was written to either tun device; the client's reassembly state is untouched. -/
theorem down_packet_imm_desync_drop {P : Par} (hP : P.Ok) {w : W} {d : Nat} (hq : QuietImmD P 0 d w) (hd : 4 ≤ d ∧ d ≤ 6)
    (frame : List Nat) (hF : 0 < (Server.getUser w.srv P.u).fragsize)
    (h24 : 24 ≤ frame.length) (hl : frame.length < 65536) (hdst : Server.ipDst frame = (Server.getUser w.srv P.u).tunIp)
    (hto : (Client.selectOf w.cs.c).to < 10000000)
    (hexp : ¬ w.cs.c.lastdownstreamtime + 60 < w.cs.c.now + ((Client.selectOf w.cs.c).to / 1000000).toNat)
    (hlive : w.srv.now + ((Client.selectOf w.cs.c).to / 1000000).toNat < (Server.getUser w.srv P.u).lastPkt + 60) :
    ∃ w', promptSteps P.u (dropSteps (downFrags (Server.getUser w.srv P.u).fragsize (frame.length + 1) (frame.length + 1)))
        (step w (.offerS frame)) = some w' ∧
      QuietImmD P 0 (d + 1) w' ∧ w'.tunC = w.tunC ∧ w'.tunS = w.tunS ∧
      (Server.getUser w'.srv P.u).fragsize = (Server.getUser w.srv P.u).fragsize ∧
      (Server.getUser w'.srv P.u).tunIp = (Server.getUser w.srv P.u).tunIp ∧
      (Server.getUser w'.srv P.u).lastPkt = w'.srv.now ∧ w'.cs.c.lastdownstreamtime = w'.cs.c.now ∧
      w'.cs.c.selecttimeout = w.cs.c.selecttimeout ∧ w'.cs.c.sendPingSoon ≤ 500 ∧ w'.cs.c.inpkt = w.cs.c.inpkt := by
  have h := drop_core hP hq (Or.inl hd) frame hF h24 hl hdst ⟨hto, hexp, hlive⟩
  rwa [Nat.mod_eq_of_lt (Nat.lt_of_le_of_lt (Nat.succ_le_succ hd.2) (by decide))] at h

/-- `d = 7`: the new packet carries the client's CURRENT number.  If the client's last
fragment number is not 0 (the last packet it took had two or more fragments), fragment 0 of the new packet is a "duplicate
fragment" for it: the packet is lost exactly as in `down_packet_imm_desync_drop` — and the joint state is SYNCHRONISED
afterwards (`QuietImm`), because the numbers are equal again.  (With `inpkt.fragment = 0` and `inpkt.len = 0` the packet is
TAKEN through the "weird situation" clause of `tunnel_dns`: see `desync7_both_outcomes`, `C02qD9`.) -/
theorem down_packet_imm_desync_drop7 {P : Par} (hP : P.Ok) {w : W} (hq : QuietImmD P 0 7 w)
    (hfr : w.cs.c.inpkt.fragment ≠ 0)
    (frame : List Nat) (hF : 0 < (Server.getUser w.srv P.u).fragsize)
    (h24 : 24 ≤ frame.length) (hl : frame.length < 65536) (hdst : Server.ipDst frame = (Server.getUser w.srv P.u).tunIp)
    (hto : (Client.selectOf w.cs.c).to < 10000000)
    (hexp : ¬ w.cs.c.lastdownstreamtime + 60 < w.cs.c.now + ((Client.selectOf w.cs.c).to / 1000000).toNat)
    (hlive : w.srv.now + ((Client.selectOf w.cs.c).to / 1000000).toNat < (Server.getUser w.srv P.u).lastPkt + 60) :
    ∃ w', promptSteps P.u (dropSteps (downFrags (Server.getUser w.srv P.u).fragsize (frame.length + 1) (frame.length + 1)))
        (step w (.offerS frame)) = some w' ∧
      QuietImm P w' ∧ w'.tunC = w.tunC ∧ w'.tunS = w.tunS ∧
      (Server.getUser w'.srv P.u).fragsize = (Server.getUser w.srv P.u).fragsize ∧
      (Server.getUser w'.srv P.u).tunIp = (Server.getUser w.srv P.u).tunIp ∧
      (Server.getUser w'.srv P.u).lastPkt = w'.srv.now ∧ w'.cs.c.lastdownstreamtime = w'.cs.c.now ∧
      w'.cs.c.selecttimeout = w.cs.c.selecttimeout ∧ w'.cs.c.sendPingSoon ≤ 500 ∧ w'.cs.c.inpkt = w.cs.c.inpkt := by
  obtain ⟨w', h1, h2, h3⟩ := drop_core hP hq (Or.inr ⟨rfl, hfr⟩) frame hF h24 hl hdst ⟨hto, hexp, hlive⟩
  exact ⟨w', h1, quietImmD_zero.1 h2, h3⟩

theorem dropSteps_le (g : Nat) : dropSteps g ≤ 21 := by
  unfold dropSteps
  split <;> decide

/-- **One packet downstream, immediate mode, from ANY distance `d < 8`** (if the client's fragment number is 0 its reassembly
buffer is empty), with timer room: the prompt schedule (fuel 36: the `2·16 + 4` steps of a 16-fragment packet; a lost packet takes
at most 21) ends in a quiescent state with timer room again, nothing reaches the server's tun device, and — as `lost_class` says —
either the frame is written to the client's tun device and the two sides are in step again, or nothing is written, the client's
`inpkt` is untouched and the server is one more ahead. -/
theorem down_packet_imm_any {P : Par} (hP : P.Ok) (fuel : Nat) (hfuel : 36 ≤ fuel) {w : W} {d : Nat} (hq : QuietImmD P 0 d w)
    (hd8 : d < 8) (hlen0 : 4 ≤ d → w.cs.c.inpkt.fragment = 0 → w.cs.c.inpkt.len = 0) (hr : Roomy P w)
    (hsel : w.cs.c.selecttimeout ≤ 9) (f : List Nat) (hF : 0 < (Server.getUser w.srv P.u).fragsize)
    (hf : DownFrameOk (Server.getUser w.srv P.u).tunIp (Server.getUser w.srv P.u).fragsize f) :
    ∃ w', runPrompt P.u fuel (step w (.offerS f)) = w' ∧ w'.tunS = w.tunS ∧
    (Server.getUser w'.srv P.u).fragsize = (Server.getUser w.srv P.u).fragsize ∧
    (Server.getUser w'.srv P.u).tunIp = (Server.getUser w.srv P.u).tunIp ∧
    Roomy P w' ∧
    w'.cs.c.selecttimeout = w.cs.c.selecttimeout ∧
    ((lostDown' d (decide (w.cs.c.inpkt.fragment = 0)) = 0 ∧ QuietImm P w' ∧
        w'.tunC = w.tunC ++ [tunImage f]) ∨
      (lostDown' d (decide (w.cs.c.inpkt.fragment = 0)) = lostDown' ((d + 1) % 8) (decide (w.cs.c.inpkt.fragment = 0)) + 1 ∧
        4 ≤ d ∧ QuietImmD P 0 ((d + 1) % 8) w' ∧
        w'.tunC = w.tunC ∧
        w'.cs.c.inpkt = w.cs.c.inpkt)) := by
  rcases lost_class d hd8 w.cs.c with ⟨hz, hc⟩ | ⟨hs, hd4, hc⟩
  · obtain ⟨hE, hdup⟩ := cexpectW_taken hq.cst.iseq (0x5a :: f) hc hlen0
    obtain ⟨w', h1, h2, h3, h4, h5, h6, h7, h8, h9, h10⟩ := down_packet_taken hP hq f hE hdup hF hf hr
    exact ⟨w', runPrompt_of_steps P.u _ _ _ h1 h2.quiet fuel (downSteps_le hf.frags hfuel), h4, h5, h6,
      roomy_after h2 h7 h8 (by rw [h9]; exact hsel) h10, h9, Or.inl ⟨hz, h2, h3⟩⟩
  · obtain ⟨w', h1, h2, h3, h4, h5, h6, h7, h8, h9, h10, h11⟩ := drop_core hP hq hc f hF hf.h24 hf.hl hf.dst hr
    exact ⟨w', runPrompt_of_steps P.u _ _ _ h1 h2.quiet fuel (Nat.le_trans (dropSteps_le _) (Nat.le_trans (by decide) hfuel)),
      h4, h5, h6, roomy_afterD h2 h7 h8 (by rw [h9]; exact hsel) h10, h9, Or.inr ⟨hs, hd4, h2, h3, h11⟩⟩

end Iodine.C02L
