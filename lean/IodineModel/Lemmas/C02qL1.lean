import IodineModel.Lemmas.C02L2
import IodineModel.Lemmas.C02q0
import IodineModel.Lemmas.C02L10
import IodineModel.Lemmas.C02up5
import IodineModel.Lemmas.C02up6
/-
Upstream, lazy mode, from a desynchronised quiescent state `QuietLazyD P d 0` (the client's `outpkt.seqno` is `d` ahead of the
server's `inpacket.seqno`): the cases `.lazy` of `QuietMD.up_packet` (`d ≤ 3`: delivered, in step again), `QuietMD.up_packet_drop`
(the bad half of the window: lost after three resends and a give-up), `QuietMD.false_ack_done` (distance 7, last fragment number 0:
lost silently) and `QuietMD.recovery` (a sequence of frames: the first `lost d` are lost, the others delivered in order); then
non-vacuity on the demo session (`desyncUp`) and the finding as a theorem about it (`desync_drops_new_packets_lazy`).
-/
namespace Iodine.C02L
open Iodine Iodine.Gen Iodine.World

/-- what is known about the client while it waits for its 1 s timer after an answer that did not acknowledge its fragment
(`Ticked`, C02up5, says it for both modes) -/
structure BouncedCli (P : Par) (out : List Nat) (c0 cb c1 : Client.Cli) : Prop where
  stat : CStatL P c1
  cnt : CntOk c1 1
  sending : Client.isSending c1 = true
  data : c1.outpkt.data = out
  len : c1.outpkt.len = out.length
  off : c1.outpkt.offset = 0
  frag : c1.outpkt.fragment = 0
  seq : c1.outpkt.seqno = c0.outpkt.seqno
  res : c1.outchunkresent = c0.outchunkresent
  inpkt : c1.inpkt = c0.inpkt
  cmc : c1.datacmc = (c0.datacmc + 1) % 36
  seed : c1.randSeed = c0.randSeed
  cid : c1.chunkid = (sentState c0).chunkid
  now : c1.now = cb.now + 1
  toC : (Client.selectOf cb).to = 1000000
  step : Client.tunnelStep cb .tick = Client.settle (Client.timeoutBranch c1)

/-- **One packet upstream from a desynchronised state, `d ≤ 3`, lazy mode.**  Exactly the conclusion of `up_packet_lazy`:
delivered once after `2·g + 1` steps of the prompt schedule, and the end state is `QuietLazy` — the two ends agree on the
upstream sequence number again. -/
theorem up_packet_lazy_desync_ok {P : Par} (hP : P.Ok) {d : Nat} {w : W} (hq : QuietLazyD P d 0 w) (hd : d ≤ 3)
    (frame : List Nat) (h24 : 24 ≤ frame.length) (hl : frame.length < 65536) (hb : Codec.Bytes frame)
    (hdst : Server.ipDst frame ≠ (Server.getUser w.srv P.u).tunIp)
    (hg16 : upFrags P (frame.length + 1) (0x5a :: frame) ≤ 16) :
    ∃ w', promptSteps P.u (2 * upFrags P (frame.length + 1) (0x5a :: frame) + 1) (step w (.offerC frame)) = some w' ∧
      QuietLazy P w' ∧
      w'.tunS = w.tunS ++ [[0, 0, 8, 0] ++ frame.drop 4] ∧ w'.tunC = w.tunC ∧
      (Server.getUser w'.srv P.u).tunIp = (Server.getUser w.srv P.u).tunIp ∧
      (Server.getUser w'.srv P.u).fragsize = (Server.getUser w.srv P.u).fragsize := by
  obtain ⟨w', h1, h2, h3, _, h⟩ := (quietMD_lazy.2 hq).up_packet hP (show Mode.Ok .lazy from trivial) hd frame h24 hl hb
    hdst hg16
  exact ⟨w', h1, quietMD_lazy_zero.1 h2, h3, h.tunC, h.kept.tunIp, h.kept.fragsize⟩

/-- presentation with `runPrompt` / `runPromptCount` -/
theorem clean_path_upstream_lazy_desync_ok {P : Par} (hP : P.Ok) {d : Nat} {w : W} (hq : QuietLazyD P d 0 w) (hd : d ≤ 3)
    (frame : List Nat) (hok : UpFrameOk P (Server.getUser w.srv P.u).tunIp frame) :
    ∃ w', (∀ fuel, 2 * upFrags P (frame.length + 1) (0x5a :: frame) + 1 ≤ fuel →
        runPromptCount P.u fuel (step w (.offerC frame)) 0 = (w', 2 * upFrags P (frame.length + 1) (0x5a :: frame) + 1)) ∧
      QuietLazy P w' ∧ w'.tunS = w.tunS ++ [tunImage frame] ∧ w'.tunC = w.tunC := by
  obtain ⟨w', h1, h2, h3, h4, _⟩ := up_packet_lazy_desync_ok hP hq hd frame hok.h24 hok.hl hok.bytes hok.dst hok.frags
  refine ⟨w', fun fuel hf => ?_, h2, h3, h4⟩
  obtain ⟨a, b⟩ := run_of_steps h1 h2.quiet hf
  rw [b] at a
  exact a

/-- **One packet offered in the bad half of the window is lost.**  `d` = how far the client's `outpkt.seqno` is ahead of the
server's `inpacket.seqno`; `4 ≤ d ≤ 6`, or `d = 7` and the server's `inpacket.fragment ≥ 1`.  For EVERY frame (any number of
fragments): after `offerC` and exactly 14 steps of the prompt schedule the joint state is quiescent again, nothing was
written to either tun device, the server's reassembly state is what it was, 4 seconds have passed on both clocks, and the
distance is `(d + 1) % 8`. -/
theorem up_packet_lazy_desync_drop {P : Par} (hP : P.Ok) {d : Nat} {w : W} (hq : QuietLazyD P d 0 w) (hd : 4 ≤ d ∧ d ≤ 7)
    (h7 : d = 7 → 1 ≤ (Server.getUser w.srv P.u).inpacket.fragment) (frame : List Nat)
    (hne : frame ≠ []) (hl : frame.length < 65536) (hb : Codec.Bytes frame) :
    ∃ w', promptSteps P.u 14 (step w (.offerC frame)) = some w' ∧ QuietLazyD P ((d + 1) % 8) 0 w' ∧
      w'.tunS = w.tunS ∧ w'.tunC = w.tunC ∧
      (Server.getUser w'.srv P.u).inpacket = (Server.getUser w.srv P.u).inpacket ∧
      (Server.getUser w'.srv P.u).tunIp = (Server.getUser w.srv P.u).tunIp ∧
      (Server.getUser w'.srv P.u).fragsize = (Server.getUser w.srv P.u).fragsize ∧
      w'.srv.now = w.srv.now + 4 ∧ w'.cs.c.now = w.cs.c.now + 4 := by
  have hdr : DropsUp (Server.getUser w.srv P.u) d := by
    by_cases h : d = 7
    · exact Or.inr ⟨h, h7 h⟩
    · exact Or.inl ⟨hd.1, by omega⟩
  obtain ⟨w', h1, h2, h3⟩ := (quietMD_lazy.2 hq).up_packet_drop hP (show Mode.Ok .lazy from trivial)
    (show Mode.OkP .lazy from trivial) hdr frame hne hl hb
  exact ⟨w', h1, quietMD_lazy.1 h2, h3.1.tunS, h3.1.tunC, h3.1.inp, h3.1.kept.tunIp, h3.1.kept.fragsize, h3.1.srvNow, h3.1.cliNow⟩

/-- in terms of the executable prompt run -/
theorem desync_drop_run {P : Par} (hP : P.Ok) {d : Nat} {w : W} (hq : QuietLazyD P d 0 w) (hd : 4 ≤ d ∧ d ≤ 7)
    (h7 : d = 7 → 1 ≤ (Server.getUser w.srv P.u).inpacket.fragment) (frame : List Nat)
    (hne : frame ≠ []) (hl : frame.length < 65536) (hb : Codec.Bytes frame) :
    ∃ w', (∀ fuel, 14 ≤ fuel → runPromptCount P.u fuel (step w (.offerC frame)) 0 = (w', 14)) ∧
      (∀ fuel, 14 ≤ fuel → runPrompt P.u fuel (step w (.offerC frame)) = w') ∧
      QuietLazyD P ((d + 1) % 8) 0 w' ∧ w'.tunS = w.tunS ∧ w'.tunC = w.tunC ∧
      (Server.getUser w'.srv P.u).inpacket = (Server.getUser w.srv P.u).inpacket ∧
      (Server.getUser w'.srv P.u).tunIp = (Server.getUser w.srv P.u).tunIp := by
  obtain ⟨w', h1, h2, h3, h4, h5, h6, _⟩ := up_packet_lazy_desync_drop hP hq hd h7 frame hne hl hb
  refine ⟨w', fun fuel hf => ?_, fun fuel hf => (run_of_steps h1 h2.quiet hf).2, h2, h3, h4, h5, h6⟩
  obtain ⟨a, b⟩ := run_of_steps h1 h2.quiet hf
  rw [b] at a
  exact a

/-! ### the false acknowledgement, and recovery over a sequence of frames -/

theorem up_packet_lazy_desync_false_ack {P : Par} (hP : P.Ok) {w : W} (hq : QuietLazyD P 7 0 w)
    (h0 : (Server.getUser w.srv P.u).inpacket.fragment = 0) (frame : List Nat)
    (hne : frame ≠ []) (hl : frame.length < 65536) (hb : Codec.Bytes frame)
    (hone : fragLen P (0x5a :: frame) = (0x5a :: frame).length) :
    ∃ w', promptSteps P.u 2 (step w (.offerC frame)) = some w' ∧ QuietLazy P w' ∧
      w'.tunS = w.tunS ∧ w'.tunC = w.tunC ∧
      (Server.getUser w'.srv P.u).inpacket = (Server.getUser w.srv P.u).inpacket ∧
      (Server.getUser w'.srv P.u).tunIp = (Server.getUser w.srv P.u).tunIp ∧
      (Server.getUser w'.srv P.u).fragsize = (Server.getUser w.srv P.u).fragsize ∧
      w'.srv.now = w.srv.now := by
  obtain ⟨w', h1, h2, hi, _⟩ := (quietMD_lazy.2 hq).false_ack_done hP (show Mode.Ok .lazy from trivial) h0 frame
    hne hl hb hone
  exact ⟨w', h1, quietMD_lazy_zero.1 h2, hi.tunS, hi.tunC, hi.inp, hi.kept.tunIp, hi.kept.fragsize, hi.srvNow⟩

/-- how many of the next offered frames are lost when the client is `d` ahead: the same number as `lostUp d` (C02up6) and, the
other way round, `lostDown d` (C02qM1) -/
def lost (d : Nat) : Nat := if d ≤ 3 then 0 else 8 - d

/-- the (compressed) frame fits one upstream fragment -/
def OneFrag (P : Par) (f : List Nat) : Prop := fragLen P (0x5a :: f) = (0x5a :: f).length

/-- no garbage frame is written: the server's last fragment number is at least 1, or every offered frame fits one fragment -/
theorem recovery_after_giveups_up_lazy_nojunk {P : Par} (hP : P.Ok) (fuel : Nat) (hfuel : 33 ≤ fuel) :
    ∀ (fs : List (List Nat)) (d : Nat) (w : W), QuietLazyD P d 0 w → d < 8 →
      (4 ≤ d → 1 ≤ (Server.getUser w.srv P.u).inpacket.fragment ∨ ∀ f ∈ fs, OneFrag P f) →
      (∀ f ∈ fs, UpFrameOk P (Server.getUser w.srv P.u).tunIp f) →
      (offerAllC P.u fuel w fs).tunS = w.tunS ++ (fs.drop (lost d)).map tunImage ∧
      (offerAllC P.u fuel w fs).tunC = w.tunC ∧
      (Resync d fs.length → QuietLazy P (offerAllC P.u fuel w fs)) ∧
      (fs.length < lost d → QuietLazyD P (d + fs.length) 0 (offerAllC P.u fuel w fs)) := by
  intro fs d w hq hd hfr hok
  have hone : ∀ f, fs[7 - d]? = some f → ¬ 1 ≤ (Server.getUser w.srv P.u).inpacket.fragment → 4 ≤ d →
      ¬ fragLen P (0x5a :: f) < (0x5a :: f).length := by
    intro f hf hz h4 hmu
    have := (hfr h4).resolve_left hz f (List.mem_of_getElem? hf)
    unfold OneFrag at this
    omega
  obtain ⟨h1, h2, h3, h4⟩ := QuietMD.recovery hP (show Mode.Ok .lazy from trivial) (show Mode.OkP .lazy from trivial) fuel hfuel
    fs d w (quietMD_lazy.2 hq) hd hok (fun h4 h0 f hf hmu => absurd hmu (hone f hf (by omega) h4))
  have hj : junkAt P (Server.getUser w.srv P.u).inpacket d fs = [] := by
    by_cases hA : d ≤ 3 ∨ 1 ≤ (Server.getUser w.srv P.u).inpacket.fragment
    · exact if_pos hA
    · exact junkAt_nil (fun f hf hmu => absurd hmu (hone f hf (fun h => hA (Or.inr h)) (by omega)))
  rw [hj, List.append_nil] at h1
  exact ⟨h1, h2, fun hr => quietMD_lazy_zero.1 (h3 hr), fun h => quietMD_lazy.1 (h4 h)⟩

/-- the case where the server's last packet had at least two fragments -/
theorem recovery_after_giveups_up_lazy {P : Par} (hP : P.Ok) (fuel : Nat) (hfuel : 33 ≤ fuel) :
    ∀ (fs : List (List Nat)) (d : Nat) (w : W), QuietLazyD P d 0 w → d < 8 →
      (4 ≤ d → 1 ≤ (Server.getUser w.srv P.u).inpacket.fragment) →
      (∀ f ∈ fs, UpFrameOk P (Server.getUser w.srv P.u).tunIp f) →
      (offerAllC P.u fuel w fs).tunS = w.tunS ++ (fs.drop (lost d)).map tunImage ∧
      (offerAllC P.u fuel w fs).tunC = w.tunC ∧
      (Resync d fs.length → QuietLazy P (offerAllC P.u fuel w fs)) ∧
      (fs.length < lost d → QuietLazyD P (d + fs.length) 0 (offerAllC P.u fuel w fs)) := by
  intro fs d w hq hd hfr hok
  exact recovery_after_giveups_up_lazy_nojunk hP fuel hfuel fs d w hq hd (fun h4 => Or.inl (hfr h4)) hok

def desyncUp (u : Nat) (w : W) (d : Nat) (f : Int) : W :=
  { w with
    cs := { w.cs with c := { w.cs.c with outpkt := { w.cs.c.outpkt with seqno := (w.cs.c.outpkt.seqno + d) % 8 } } },
    srv := putUser w.srv u
      { Server.getUser w.srv u with inpacket := { (Server.getUser w.srv u).inpacket with fragment := f } } }

theorem desyncUp_user {P : Par} {w : W} (hq : QuietLazy P w) (d : Nat) (f : Int) :
    Server.getUser (desyncUp P.u w d f).srv P.u =
      { Server.getUser w.srv P.u with inpacket := { (Server.getUser w.srv P.u).inpacket with fragment := f } } :=
  getUser_putUser_self _ _ _ hq.srv.solo.lt

theorem quietLazyD_desyncUp {P : Par} {w : W} (hq : QuietLazy P w) (d : Nat) (f : Int) (hf : 0 ≤ f ∧ f < 16) :
    QuietLazyD P d 0 (desyncUp P.u w d f) := by
  have hg := desyncUp_user hq d f
  have hc := hq.cst
  have hx := hq.srv.x
  refine ⟨hq.ph, ?_, hq.cnt, hq.idleC, hq.up, hq.down, ?_, ?_, ?_, ?_, ?_, ?_, ?_, ?_⟩
  · exact ⟨hc.running, hc.conn, hc.lz, hc.uid, hc.uch, hc.td, hc.L, hc.enc, hc.ty, hc.cid, hc.cmc, hc.alive,
      by show 0 ≤ (w.cs.c.outpkt.seqno + (d : Int)) % 8 ∧ (w.cs.c.outpkt.seqno + (d : Int)) % 8 < 8; omega,
      hc.iseq, hc.ifrag, hc.seed⟩
  · refine ⟨hq.srv.solo.putUser _, hq.srv.td, ?_, ?_, ?_⟩
    · rw [hg]
      exact ⟨hx.active, hx.auth, hx.enabled, hx.conn, hx.enc, hx.oseq, hx.ofrag, hx.iseq, hf⟩
    · rw [hg]; exact hq.srv.host
    · rw [hg]; exact hq.srv.live
  · rw [hg]; exact ⟨hq.idle.out, hq.idle.q, hq.idle.q2, hq.idle.qs, hq.idle.lazy⟩
  · rw [hg]; exact hq.oq
  · rw [hg]; exact hq.held
  · rw [hg]; exact hq.heldid
  · rw [hg]
    show (w.cs.c.outpkt.seqno + (d : Int)) % 8 = ((Server.getUser w.srv P.u).inpacket.seqno + (d : Int)) % 8
    rw [hq.syncu]
  · rw [hg]
    show (Server.getUser w.srv P.u).outpacket.seqno = (w.cs.c.inpkt.seqno + ((0 : Nat) : Int)) % 8
    rw [hq.syncd]
    have := hc.iseq
    omega
  · rw [hg]
    exact hq.mem.congr rfl rfl rfl rfl rfl rfl

theorem desyncUp_tunIp {P : Par} {w : W} (hq : QuietLazy P w) (d : Nat) (f : Int) :
    (Server.getUser (desyncUp P.u w d f).srv P.u).tunIp = (Server.getUser w.srv P.u).tunIp := by
  rw [desyncUp_user hq]

theorem desyncUp_ifrag {P : Par} {w : W} (hq : QuietLazy P w) (d : Nat) (f : Int) :
    (Server.getUser (desyncUp P.u w d f).srv P.u).inpacket.fragment = f := by
  rw [desyncUp_user hq]

/-! ### the demo session, desynchronised -/

/-- the lazy demo session after `d` upstream packets were given up unseen (the server's last packet had two fragments) -/
def exWDL (d : Nat) : W := desyncUp exPL.u exWL d 1

theorem desyncUp_tun (u : Nat) (w : W) (d : Nat) (f : Int) :
    (desyncUp u w d f).tunS = w.tunS ∧ (desyncUp u w d f).tunC = w.tunC := ⟨rfl, rfl⟩

theorem ex_quiescent_lazyD (d : Nat) : QuietLazyD exPL d 0 (exWDL d) := by
  unfold exWDL
  exact quietLazyD_desyncUp ex_quiescent_lazy d 1 (by decide)

theorem exWD_tunIp (d : Nat) : (Server.getUser (exWDL d).srv exPL.u).tunIp = (Server.getUser exWL.srv exPL.u).tunIp := by
  unfold exWDL
  exact desyncUp_tunIp ex_quiescent_lazy d 1

theorem exWD_ifrag (d : Nat) : (Server.getUser (exWDL d).srv exPL.u).inpacket.fragment = 1 := by
  unfold exWDL
  exact desyncUp_ifrag ex_quiescent_lazy d 1

theorem exWD_tun (d : Nat) : (exWDL d).tunS = [] ∧ (exWDL d).tunC = [] := by
  unfold exWDL
  rw [(desyncUp_tun _ _ _ _).1, (desyncUp_tun _ _ _ _).2]
  exact exWL_tun

theorem ex_frames_ok (d : Nat) : ∀ f ∈ [demoFrame 9 4, demoFrame 9 30, demoFrame 9 10],
    UpFrameOk exPL (Server.getUser (exWDL d).srv exPL.u).tunIp f := by
  rw [exWD_tunIp]
  exact ex_frames_ok_lazy

/-- non-vacuity of `up_packet_lazy_desync_ok` (`d = 3`): the 2-fragment frame arrives after 5 steps, synchronised again -/
example : ∃ w', promptSteps 0 5 (step (exWDL 3) (.offerC (demoFrame 9 30))) = some w' ∧ QuietLazy exPL w' ∧
    w'.tunS = [demoFrame 9 30] ∧ w'.tunC = [] := by
  have hok := ex_frames_ok 3 (demoFrame 9 30) (by simp)
  obtain ⟨w', h1, h2, h3, h4, _⟩ := up_packet_lazy_desync_ok exPL_ok (ex_quiescent_lazyD 3) (by decide) (demoFrame 9 30)
    hok.h24 hok.hl hok.bytes hok.dst hok.frags
  rw [ex_acceptable_lazy.2] at h1
  refine ⟨w', h1, h2, ?_, ?_⟩
  · rw [h3, (exWD_tun 3).1]; decide
  · rw [h4, (exWD_tun 3).2]

/-- non-vacuity of `up_packet_lazy_desync_drop` (`d = 4`, and `d = 7` with `inpacket.fragment = 1`): the frame is lost -/
example : (∃ w', promptSteps 0 14 (step (exWDL 4) (.offerC (demoFrame 9 30))) = some w' ∧ QuietLazyD exPL 5 0 w' ∧
      w'.tunS = [] ∧ w'.tunC = []) ∧
    (∃ w', promptSteps 0 14 (step (exWDL 7) (.offerC (demoFrame 9 30))) = some w' ∧ QuietLazy exPL w' ∧
      w'.tunS = [] ∧ w'.tunC = []) := by
  have hok := ex_acceptable_lazy.1
  have hne : demoFrame 9 30 ≠ [] := by decide
  constructor
  · obtain ⟨w', h1, h2, h3, h4, _⟩ := up_packet_lazy_desync_drop exPL_ok (ex_quiescent_lazyD 4) (by decide) (by decide)
      (demoFrame 9 30) hne hok.hl hok.bytes
    exact ⟨w', h1, h2, by rw [h3, (exWD_tun 4).1], by rw [h4, (exWD_tun 4).2]⟩
  · obtain ⟨w', h1, h2, h3, h4, _⟩ := up_packet_lazy_desync_drop exPL_ok (ex_quiescent_lazyD 7) (by decide)
      (fun _ => by rw [exWD_ifrag]; decide) (demoFrame 9 30) hne hok.hl hok.bytes
    exact ⟨w', h1, quietLazyD_zero.1 h2, by rw [h3, (exWD_tun 7).1], by rw [h4, (exWD_tun 7).2]⟩

/-- The finding c02:seqno-window as a theorem about the demo session.  After four
upstream packets were given up without the server having seen any of them, the joint state is quiescent and both programs
are running, but the next FOUR packets the client accepts from its tun device (whatever their size) never reach the
server's tun device — each costs the client 4 s of resends —, the fifth one does, and only then the session is in step
again. -/
theorem desync_drops_new_packets_lazy :
    QuietLazyD exPL 4 0 (exWDL 4) ∧
    (offerAllC 0 40 (exWDL 4) [demoFrame 9 4, demoFrame 9 30, demoFrame 9 10, demoFrame 9 4]).tunS = [] ∧
    QuietLazy exPL (offerAllC 0 40 (exWDL 4) [demoFrame 9 4, demoFrame 9 30, demoFrame 9 10, demoFrame 9 4]) ∧
    (offerAllC 0 40 (exWDL 4) [demoFrame 9 4, demoFrame 9 30, demoFrame 9 10, demoFrame 9 4, demoFrame 9 30]).tunS =
      [demoFrame 9 30] ∧
    (offerAllC 0 40 (exWDL 4) [demoFrame 9 4, demoFrame 9 30, demoFrame 9 10, demoFrame 9 4, demoFrame 9 30]).tunC = [] := by
  have hok5 : ∀ f ∈ [demoFrame 9 4, demoFrame 9 30, demoFrame 9 10, demoFrame 9 4, demoFrame 9 30],
      UpFrameOk exPL (Server.getUser (exWDL 4).srv exPL.u).tunIp f := by
    intro f hf
    apply ex_frames_ok 4 f
    simp only [List.mem_cons, List.not_mem_nil, or_false] at hf ⊢
    rcases hf with h | h | h | h | h <;> simp [h]
  have hok4 : ∀ f ∈ [demoFrame 9 4, demoFrame 9 30, demoFrame 9 10, demoFrame 9 4],
      UpFrameOk exPL (Server.getUser (exWDL 4).srv exPL.u).tunIp f :=
    fun f hf => hok5 f (List.mem_append_left [demoFrame 9 30] hf)
  have r4 := recovery_after_giveups_up_lazy exPL_ok 40 (by decide) _ 4 (exWDL 4) (ex_quiescent_lazyD 4) (by decide)
    (fun _ => by rw [exWD_ifrag]; decide) hok4
  have r5 := recovery_after_giveups_up_lazy exPL_ok 40 (by decide) _ 4 (exWDL 4) (ex_quiescent_lazyD 4) (by decide)
    (fun _ => by rw [exWD_ifrag]; decide) hok5
  have hi : tunImage (demoFrame 9 30) = demoFrame 9 30 := by decide
  refine ⟨ex_quiescent_lazyD 4, ?_, ?_, ?_, ?_⟩
  · have := r4.1
    rw [(exWD_tun 4).1] at this
    exact this
  · exact r4.2.2.1 (Or.inr (Or.inr ⟨by decide, by decide⟩))
  · have := r5.1
    rw [(exWD_tun 4).1] at this
    rw [show exPL.u = 0 from rfl] at this
    rw [this]
    show List.map tunImage [demoFrame 9 30] = _
    simp [hi]
  · have := r5.2.1
    rw [(exWD_tun 4).2] at this
    exact this

/-- non-vacuity: the demo session at distance 7 with `inpacket.fragment = 0` (`desyncUp … 7 0`) and the one-fragment frame
`demoFrame 9 4`: two steps, nothing delivered, in step again -/
example : ∃ w', promptSteps 0 2 (step (desyncUp exPL.u exWL 7 0) (.offerC (demoFrame 9 4))) = some w' ∧ QuietLazy exPL w' ∧
    w'.tunS = [] ∧ w'.tunC = [] := by
  have hq := quietLazyD_desyncUp ex_quiescent_lazy 7 0 (by decide)
  have hone : fragLen exPL (0x5a :: demoFrame 9 4) = (0x5a :: demoFrame 9 4).length := by decide +kernel
  obtain ⟨w', h1, h2, h3, h4, _⟩ := up_packet_lazy_desync_false_ack exPL_ok hq (desyncUp_ifrag ex_quiescent_lazy 7 0)
    (demoFrame 9 4) (by decide) (by decide) (by unfold Codec.Bytes; decide) hone
  refine ⟨w', h1, h2, ?_, ?_⟩
  · rw [h3, (desyncUp_tun _ _ _ _).1]; exact exWL_tun.1
  · rw [h4, (desyncUp_tun _ _ _ _).2]; exact exWL_tun.2

/- More than one fragment at distance 7 with `inpacket.fragment = 0`: `up_packet_lazy_desync7_multi` (C02rU3), the case `.lazy` of
`QuietMD.up_packet_desync7_multi` (C02up4). -/

/-- non-vacuity: the lazy demo session with the client's `outpkt.seqno` moved on by 4 and the
server's `inpacket.fragment = 0` (as in `exWL` itself): of five one-fragment frames the first four are lost (three after 4 s
of resends each, the fourth silently by a false ack), the fifth arrives -/
example :
    (offerAllC exPL.u 40 (desyncUp exPL.u exWL 4 0) [demoFrame 9 4, demoFrame 9 10, demoFrame 9 4, demoFrame 9 10, demoFrame 9 4]).tunS =
      [demoFrame 9 4] := by
  have hq := quietLazyD_desyncUp ex_quiescent_lazy 4 0 (by decide)
  have h4 : OneFrag exPL (demoFrame 9 4) := by unfold OneFrag; decide +kernel
  have h10 : OneFrag exPL (demoFrame 9 10) := by unfold OneFrag; decide +kernel
  have hall : ∀ f ∈ [demoFrame 9 4, demoFrame 9 10, demoFrame 9 4, demoFrame 9 10, demoFrame 9 4],
      UpFrameOk exPL (Server.getUser exWL.srv exPL.u).tunIp f ∧ OneFrag exPL f := by
    intro f hf
    simp only [List.mem_cons, List.not_mem_nil, or_false] at hf
    rcases hf with h | h | h | h | h <;> subst h
    · exact ⟨ex_frames_ok_lazy _ (by simp), h4⟩
    · exact ⟨ex_frames_ok_lazy _ (by simp), h10⟩
    · exact ⟨ex_frames_ok_lazy _ (by simp), h4⟩
    · exact ⟨ex_frames_ok_lazy _ (by simp), h10⟩
    · exact ⟨ex_frames_ok_lazy _ (by simp), h4⟩
  have r := recovery_after_giveups_up_lazy_nojunk exPL_ok 40 (by decide) _ 4 _ hq (by decide)
    (fun _ => Or.inr fun f hf => (hall f hf).2)
    (fun f hf => by rw [desyncUp_tunIp ex_quiescent_lazy]; exact (hall f hf).1)
  have hi : tunImage (demoFrame 9 4) = demoFrame 9 4 := by decide
  have := r.1
  rw [(desyncUp_tun _ _ _ _).1, exWL_tun.1] at this
  rw [this]
  show List.map tunImage [demoFrame 9 4] = _
  simp [hi]

end Iodine.C02L
