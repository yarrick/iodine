import IodineModel.Lemmas.Downstream
/-
End-to-end lemmas for C09, one per answer format (NULL/PRIVATE, TXT, CNAME/A; MX/SRV: Lemmas/DownstreamMx.lean): the closed form of
the datagram `write_dns` sends and what `read_dns_withq` returns for it.
-/
namespace Iodine.Downstream
open Iodine Iodine.Codec Iodine.Encoding Iodine.Wire Iodine.Wire.Strict Iodine.Wire.Put Iodine.Wire.DnsEncode
open Iodine.Server.WriteDns Iodine.Client.ReadDns Iodine.C10

theorem readDnsWithq_eq (B : Nat) (pkt : List Nat) (hne : pkt.length ≠ 0) :
    readDnsWithq B pkt = (do
      let d ← dnsDecodeAnswer B (rx pkt)
      let res (rv : Int) (buf : List Nat) : Result := ⟨rv, d.id, d.type, d.rcode, d.name.headD 0, buf⟩
      if d.rv ≤ 0 then .ok (res d.rv []) else
      let rv := d.rv.toNat
      if d.type = 5 ∨ d.type = 16 then
        let o := dnsNamedec dataSize d.buf rv
        let o := o.take B
        .ok (res o.length o)
      else if d.type = 15 ∨ d.type = 33 then
        let first := (Wire.cstr d.buf).length
        let o := mxParts first rv d.buf (rv + 1) 0 []
        let o := o.take B
        .ok (res o.length o)
      else .ok (res d.rv (d.buf.take rv))) := by
  unfold readDnsWithq
  rw [if_neg hne]
  rfl

/-- closed form of every answer: header, echoed question, records -/
def ansPkt (id ty an : Nat) (qn rrs : List Nat) : List Nat := ansHeader id an ++ (qBytes (labels qn) ty ++ rrs)

theorem ansPkt_length (id ty an : Nat) (qn rrs : List Nat) (hqn : LegalName qn) :
    (ansPkt id ty an qn rrs).length = qn.length + 18 + rrs.length := by
  have nf := nameFacts hqn
  simp only [ansPkt, List.length_append, ansHeader_length, qBytes_length, nf.len]
  omega

/-- the decoder's view of the question part, for a legal query name -/
theorem decode_front (B id ty an : Nat) (qn rrs : List Nat) (hid : id < 65536) (hty : ty < 65536)
    (han1 : 1 ≤ an) (han : an < 32768) (hqn : LegalName qn) (hl : (ansPkt id ty an qn rrs).length ≤ 65536) :
    dnsDecodeAnswer B (rx (ansPkt id ty an qn rrs)) =
      (let q : Decoded := { rv := 0, id := id, rcode := 0, name := Wire.cstr [(qn ++ [0]).headD 0] }
       let data := qn.length + 18
       if ty = 10 ∨ ty = 65399 then answerNull (rx (ansPkt id ty an qn rrs)) B q data
       else if ty = 1 ∨ ty = 5 then answerCname (rx (ansPkt id ty an qn rrs)) B q data
       else if ty = 15 ∨ ty = 33 then answerMx (rx (ansPkt id ty an qn rrs)) B q data an
       else if ty = 16 then answerTxt (rx (ansPkt id ty an qn rrs)) B q data
       else .ok { q with type := ty }) := by
  have nf := nameFacts hqn
  have := dnsDecodeAnswer_front B id ty an (labels qn) (ansPkt id ty an qn rrs) rrs hid hty han1 han nf.ok nf.ne
    (by rw [nf.len]; have := nf.le253; omega) rfl hl
  rw [this, joinDots_labels, nf.len]
  have e : 12 + (qn.length + 1) + 5 = qn.length + 18 := by omega
  simp only [e]

theorem at_rrs (id ty an : Nat) (qn rrs : List Nat) (hqn : LegalName qn) :
    At (ansPkt id ty an qn rrs) (qn.length + 18) (rrs ++ []) := by
  have nf := nameFacts hqn
  have := at_append' (ansHeader id an ++ qBytes (labels qn) ty) rrs [] (qn.length + 18)
    (by simp [nf.len]; omega)
  simpa [ansPkt, List.append_assoc] using this

/-! ### NULL / PRIVATE -/

theorem writeDns_null (td : Td) (id ty : Nat) (qn p : List Nat) (dn : Nat) (hty : ty = 10 ∨ ty = 65399)
    (hqn : LegalName qn) (hp : p.length ≤ 4096) :
    writeDns td (id, ty, qn) p dn = (td, some (ansPkt id ty 1 qn (rrBytes namePtr ty 0 p))) := by
  have h253 := hqn.1
  unfold writeDns writeDnsR
  simp only []
  rw [if_neg (by rcases hty with h | h <;> simp [h, T_CNAME, T_A]),
    if_neg (by rcases hty with h | h <;> simp [h, T_MX, T_SRV]),
    if_neg (by rcases hty with h | h <;> simp [h, T_TXT]),
    encode_null 65536 id ty qn p (by rcases hty with h | h <;> rw [h] <;> decide) hqn (by omega)]
  simp only []
  rw [if_neg (by simp)]
  rfl

theorem read_null (B id ty : Nat) (qn p : List Nat) (hid : id < 65536)
    (hty : ty = 10 ∨ ty = 65399) (hqn : LegalName qn) (hp2 : 2 ≤ p.length) (hp : p.length ≤ 4096) :
    ∃ n0, readDnsWithq B (ansPkt id ty 1 qn (rrBytes namePtr ty 0 p)) =
      .ok ⟨(min p.length B : Nat), id, ty, 0, n0, p.take B⟩ := by
  have h253 := (nameFacts hqn).le253
  have hlen := ansPkt_length id ty 1 qn (rrBytes namePtr ty 0 p) hqn
  rw [rrBytes_length] at hlen
  have hty' : ty < 65536 := by rcases hty with h | h <;> omega
  rw [readDnsWithq_eq _ _ (by rw [hlen]; omega),
    decode_front B id ty 1 qn _ hid hty' (by omega) (by omega) hqn (by rw [hlen]; omega)]
  simp only []
  rw [if_pos hty, answerNull_rt (by rw [hlen]; omega) (by rw [hlen]; omega) B _ hty' hp2 hp (at_rrs id ty 1 qn _ hqn)]
  simp only [bind_ok]
  refine ⟨(Wire.cstr [(qn ++ [0]).headD 0]).headD 0, ?_⟩
  by_cases hB : B = 0
  · subst hB
    simp
  · rw [if_neg (by omega)]
    rw [if_neg (by rcases hty with h | h <;> simp [h]), if_neg (by rcases hty with h | h <;> simp [h])]
    simp only [Int.toNat_natCast, List.take_take, Nat.min_self]
    congr 2
    by_cases h : p.length ≤ B
    · rw [Nat.min_eq_left h, List.take_of_length_le (Nat.le_refl _), List.take_of_length_le h]
    · rw [Nat.min_eq_right (by omega)]

/-! ### TXT -/

theorem txtLen_le (dn n : Nat) (hn : n ≤ 4096) : txtLen dn n ≤ 6554 := by
  unfold txtLen txtK nchars
  split
  · omega
  · split
    · omega
    · split <;> omega

/-- the TXT RDATA: the text in character strings of 252 bytes -/
def txtRR (t : List Nat) : List Nat := rrBytes namePtr 16 0 (encLabels (chunks252 t.length t))

theorem writeDns_txt (td : Td) (id : Nat) (qn p : List Nat) (dn : Nat) (hqn : LegalName qn) (hp : p.length ≤ 4096) :
    writeDns td (id, 16, qn) p dn = (td, some (ansPkt id 16 1 qn (txtRR (txtText p dn)))) := by
  have h253 := hqn.1
  have htl := txtText_length p dn hp
  have hle := txtLen_le dn p.length hp
  unfold writeDns writeDnsR
  simp only []
  rw [if_neg (by simp [T_CNAME, T_A]), if_neg (by simp [T_MX, T_SRV]), if_pos (by simp [T_TXT])]
  generalize txtText p dn = t at htl ⊢
  rw [encode_txt 65536 id qn t hqn (by omega)]
  simp only []
  rw [if_neg (by simp)]
  rfl

theorem read_txt (B id : Nat) (qn p : List Nat) (dn : Nat) (hid : id < 65536) (hqn : LegalName qn)
    (hpb : Codec.Bytes p) (hp1 : 1 ≤ p.length) (hp : p.length ≤ 4096) (hB : 4096 ≤ B) :
    ∃ n0, readDnsWithq B (ansPkt id 16 1 qn (txtRR (txtText p dn))) =
      .ok (if 1 + txtLen dn p.length ≤ 4096 then ⟨(p.length : Nat), id, 16, 0, n0, p⟩ else ⟨0, id, 16, 0, n0, []⟩) := by
  have h253 := (nameFacts hqn).le253
  have htl := txtText_length p dn hp
  have hle := txtLen_le dn p.length hp
  have hrt := txt_roundtrip p dn hpb hp1 hp
  generalize txtText p dn = t at htl hrt ⊢
  have hlab := chunks252_labLen t.length t (Nat.le_refl _)
  have hflat := chunks252_flatten t.length t (Nat.le_refl _)
  have hel : (encLabels (chunks252 t.length t)).length = labLen (chunks252 t.length t) := encLabels_length _
  have hlen := ansPkt_length id 16 1 qn (txtRR t) hqn
  have hrrl : (txtRR t).length = 12 + (t.length + (t.length + 251) / 252) := by
    unfold txtRR
    rw [rrBytes_length, hel, hlab]
  rw [hrrl] at hlen
  rw [readDnsWithq_eq _ _ (by rw [hlen]; omega),
    decode_front B id 16 1 qn _ hid (by omega) (by omega) (by omega) hqn (by rw [hlen]; omega)]
  simp only []
  rw [if_neg (by simp), if_neg (by simp), if_neg (by simp), if_pos trivial]
  unfold txtRR at hlen ⊢
  rw [answerTxt_rt (by rw [hlen]; omega) (by rw [hlen]; omega) B _ (by omega)
    (fun c hc => by have := chunks252_le _ _ c hc; omega) (by rw [hel, hlab]; omega) (by rw [hflat]; omega)
    (at_rrs id 16 1 qn _ hqn)]
  simp only [bind_ok, hflat]
  refine ⟨(Wire.cstr [(qn ++ [0]).headD 0]).headD 0, ?_⟩
  by_cases hfit : t.length ≤ 4096
  · have hm : min t.length B = t.length := by omega
    have hpos : ¬ ((t.length : Int) ≤ 0) := by omega
    simp only [hfit, if_true, hm, List.take_of_length_le (Nat.le_refl _), hpos, if_false, or_true,
      Int.toNat_natCast, dataSize, hrt]
    rw [if_pos (by omega), List.take_of_length_le (by omega)]
  · simp only [hfit, if_false, Int.le_refl, if_true]
    rw [if_neg (by omega)]

/-! ### CNAME / A -/

theorem namedec_exact_bare {letter : Nat} {c : Codec} (hc : HostCodec letter c) (cap : Nat) (d : List Nat)
    (hd : Codec.Bytes d) {x y : Nat} {name : List Nat} (hs : NameShape letter (enc c cap d).chars x y name)
    (N : Nat) (hN : (enc c cap d).used ≤ N) :
    dnsNamedec N name name.length = d.take (enc c cap d).used := by
  have h := namedec_exact hc cap d hd hs N name.length [] (Or.inl rfl) hN
  rw [← h]
  obtain ⟨Dt, hname, _⟩ := hs.shape
  rw [hname]
  simp only [List.cons_append]
  apply hc.namedec_congr
  have hl : (letter :: (Dt ++ [DOT, x, y])).length - 4 ≤ Dt.length := by simp
  rw [List.append_assoc, List.take_append_of_le_length hl, List.take_append_of_le_length hl]

/-- the CNAME record with the host name `name` as target -/
def cnameRR (name : List Nat) : List Nat := rrBytes namePtr 5 0 (encName (labels name))

theorem writeDns_cname (td : Td) (htd : TdOk td) (id ty : Nat) (qn p : List Nat) (dn : Nat) (hty : ty = 5 ∨ ty = 1)
    (hqn : LegalName qn) (hpb : Codec.Bytes p) :
    writeDns td (id, ty, qn) p dn =
      (tdStep td, some (ansPkt id ty 1 qn (cnameRR (nameenc td 1024 p dn).name))) := by
  have h253 := hqn.1
  have hs := nameenc_shape td htd 1024 (by omega) p hpb dn
  have htd' := nameenc_td td 1024 p dn
  unfold writeDns writeDnsR
  simp only []
  rw [if_pos (by rcases hty with h | h <;> simp [h, T_CNAME, T_A])]
  generalize nameenc td 1024 p dn = r at hs htd' ⊢
  have hd253 := hs.legal.1
  rw [show r.name ++ [0] = r.name ++ 0 :: [] from rfl, encode_cname 65536 id ty qn r.name [] 1024 hty hqn hs.legal (by omega),
    htd']
  simp only []
  rw [if_neg (by simp)]
  rfl

theorem read_cname (B id ty : Nat) (qn p : List Nat) {letter : Nat} {c : Codec} (hc : HostCodec letter c)
    {x y : Nat} {name : List Nat} (hs : NameShape letter (enc c 245 p).chars x y name)
    (hid : id < 65536) (hty : ty = 5 ∨ ty = 1) (hqn : LegalName qn) (hpb : Codec.Bytes p) (hp : p.length ≤ 4096)
    (hB : 4096 ≤ B) :
    ∃ n0, readDnsWithq B (ansPkt id ty 1 qn (cnameRR name)) =
      .ok ⟨(((enc c 245 p).used : Nat) : Int), id, 5, 0, n0, p.take (enc c 245 p).used⟩ := by
  have h253 := (nameFacts hqn).le253
  have nd := nameFacts hs.legal
  have hd253 := nd.le253
  have hel : (encName (labels name)).length = name.length + 2 := by
    simp [encName, encLabels_length, nd.len]
  have hlen := ansPkt_length id ty 1 qn (cnameRR name) hqn
  have hrrl : (cnameRR name).length = 12 + (name.length + 2) := by
    unfold cnameRR; rw [rrBytes_length, hel]
  rw [hrrl] at hlen
  have hty' : ty < 65536 := by rcases hty with h | h <;> omega
  have hC := C07.capacity_contract hc.wf 245 p hpb
  have hused := hC.used_le
  have hdec := namedec_exact_bare hc 245 p hpb hs 65536 (by omega)
  have hnl : 4 ≤ name.length := by
    obtain ⟨Dt, hname, _⟩ := hs.shape
    rw [hname]; simp
  rw [readDnsWithq_eq _ _ (by rw [hlen]; omega),
    decode_front B id ty 1 qn _ hid hty' (by omega) (by omega) hqn (by rw [hlen]; omega)]
  simp only []
  rw [if_neg (by rcases hty with h | h <;> simp [h]), if_pos (by rcases hty with h | h <;> simp [h])]
  unfold cnameRR at hlen ⊢
  rw [answerCname_rt (by rw [hlen]; omega) (by rw [hlen]; omega) B _ (by omega) nd.ok
    (by rw [joinDots_labels]; exact fun c hc => (hs.legal.2.1 c hc).1) (by rw [joinDots_labels]; exact hd253)
    (by rw [nd.len]; omega) (at_rrs id ty 1 qn _ hqn)]
  simp only [bind_ok, joinDots_labels]
  refine ⟨(Wire.cstr [(qn ++ [0]).headD 0]).headD 0, ?_⟩
  have hpos : ¬ ((name.length : Int) ≤ 0) := by omega
  simp only [hpos, if_false, true_or, if_true, Int.toNat_natCast, dataSize, hdec]
  rw [List.take_of_length_le (by simp; omega)]
  simp only [List.length_take]
  rw [Nat.min_eq_left hused]

end Iodine.Downstream
