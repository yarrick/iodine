import IodineModel.Client.Loop
import IodineModel.Lemmas.CliFrame
/-
The CLIENT's downstream reassembly (for C01, end-to-end integrity).

`tunnel_dns` does many things (ping scheduling, counters, upstream acks, sending the next chunk); what it does to
`inpkt` and to the tun device is a small machine on `Packet` alone (`rxStep`): this file defines that machine and
proves that `tunnelDns` (and `cstep`) project onto it.
-/
namespace Iodine.C01L
open Iodine Iodine.Client

/-- the frames written to the tun device among a list of client events -/
def tunws : List CEvent → List (List Nat)
  | [] => []
  | .tunw f :: es => f :: tunws es
  | _ :: es => tunws es

@[simp] theorem tunws_nil : tunws [] = [] := rfl

theorem tunws_append (a b : List CEvent) : tunws (a ++ b) = tunws a ++ tunws b := by
  induction a with
  | nil => rfl
  | cons e es ih => cases e <;> simp [tunws, ih]

/-! ### the senders neither touch `inpkt` nor write to tun

`inpkt` is outside every erasure of Lemmas/CliFrame, so what a frame fact there relates has the same `inpkt`
(`inpkt_of_frame`); what the senders emit are queries (`Client.OnlyQ`, Lemmas/CliFrame) or, in raw mode, a raw frame. -/

theorem inpkt_of_frame {c c' : Cli} (h : CFrame erTime c c') : c'.inpkt = c.inpkt := congrArg (·.inpkt) h

theorem tunws_of_onlyQ {l : List CEvent} (h : OnlyQ l) : tunws l = [] := by
  induction l with
  | nil => rfl
  | cons e es ih =>
    obtain ⟨_, _, _, rfl⟩ := h e (.head _)
    exact ih fun e he => h e (.tail _ he)

theorem sendChunk_rx (c : Cli) : (sendChunk c).c.inpkt = c.inpkt ∧ tunws (sendChunk c).evs = [] :=
  ⟨congrArg (·.inpkt) (frame_sendChunk c), tunws_of_onlyQ (onlyQ_sendChunk c)⟩

theorem sendPing_rx (c : Cli) : (sendPing c).c.inpkt = c.inpkt ∧ tunws (sendPing c).evs = [] := by
  refine ⟨inpkt_of_frame (frame_sendPing_any c).ping, ?_⟩
  by_cases hc : c.conn = .dnsNull
  · exact tunws_of_onlyQ (onlyQ_sendPing c hc)
  · rw [sendPing_raw c hc]; rfl

theorem resume_inpkt (c : Cli) (k : Resume) : (resume c k).1.inpkt = c.inpkt := inpkt_of_frame (frame_resume c k).book

/-- a quiet sender stays quiet through the rest of the enclosing function -/
theorem afterSend_quiet {c : Cli} {s : Sent} (hs : s.c.inpkt = c.inpkt ∧ tunws s.evs = []) (pre : List CEvent) (k : Resume) :
    (afterSend s pre k).1.inpkt = c.inpkt ∧ tunws (afterSend s pre k).2.1 = tunws pre := by
  have he : tunws (pre ++ s.evs) = tunws pre := by rw [tunws_append, hs.2, List.append_nil]
  unfold afterSend
  split
  · exact ⟨hs.1, he⟩
  · exact ⟨(resume_inpkt _ _).trans hs.1, he⟩

/-- `acceptFragment` on the packet -/
def rxAccept (p : Packet) (h : Hdr) : Option Packet :=
  if h.dnSeq ≠ p.seqno then some { p with seqno := sChar h.dnSeq, fragment := sChar h.dnFrag, len := 0 }
  else if p.fragment = 0 ∧ h.dnFrag = 0 ∧ p.len = 0 then some p
  else if h.dnFrag ≤ p.fragment then none
  else if h.dnFrag > p.fragment + 1 then none
  else some p

/-- `appendFragment` on the packet -/
def rxAppend (p : Packet) (h : Hdr) (buf : List Nat) (read : Int) : Packet :=
  { p with fragment := sChar h.dnFrag,
           data := p.data.take p.len ++ ((buf.take read.toNat).drop 2).take (Gen.PACKET_DATA_SIZE - p.len),
           len := p.len + (((buf.take read.toNat).drop 2).take (Gen.PACKET_DATA_SIZE - p.len)).length }

/-- what `deliver` hands to the tun device for the buffer `b` -/
def frames (b : List Nat) : List CEvent :=
  match uncompress b 65536 with
  | some out => [writeTun out]
  | none => []

/-- `deliver` on the packet -/
def rxDeliver (p : Packet) : Packet × List CEvent := ({ p with len := 0 }, frames (p.data.take p.len))

/-- `downstream` on the packet -/
def rxDown (p : Packet) (h : Hdr) (buf : List Nat) (read : Int) : Packet × List CEvent :=
  if read > 2 then
    match rxAccept p h with
    | none => (p, [])
    | some p => if h.last then rxDeliver (rxAppend p h buf read) else (rxAppend p h buf read, [])
  else (p, [])

/-- `datalessAdopt` on the packet -/
def rxAdopt (p : Packet) (h : Hdr) (read : Int) : Packet :=
  if read = 2 ∧ h.dnSeq ≠ p.seqno ∧ !recentSeqno p.seqno h.dnSeq then
    { p with seqno := sChar h.dnSeq, fragment := sChar h.dnFrag, len := 0 }
  else p

/-- `read` after the "previous seqno, or a bit earlier" test -/
def rxRead (p : Packet) (h : Hdr) (rv : Int) : Int :=
  if rv > 2 ∧ h.dnSeq ≠ p.seqno ∧ recentSeqno p.seqno h.dnSeq then 2 else rv

/-- One `tunnel_dns` as far as `inpkt` and the tun device are concerned; `acc` = the answer got past the four
filters in front of the reassembly code. -/
def rxStep (p : Packet) (acc : Bool) (rq : Rq) : Packet × List CEvent :=
  if acc then
    rxDown (rxAdopt p (decodeHdr rq.buf) (rxRead p (decodeHdr rq.buf) rq.rv)) (decodeHdr rq.buf) rq.buf
      (rxRead p (decodeHdr rq.buf) rq.rv)
  else (p, [])

/-- the four filters: `q.name[0]` is ours, at least a header, not the BADIP message, a recent DNS id -/
def accepted (c : Cli) (rq : Rq) : Bool :=
  !notData c rq.name0 && !decide (rq.rv < 2) && !decide (rq.rv = 5 ∧ rq.buf.take 5 = ascii "BADIP") &&
    recentId c rq.id

theorem acceptFragment_rx (c : Cli) (h : Hdr) :
    acceptFragment c h = (rxAccept c.inpkt h).map (fun p => { c with inpkt := p }) := by
  rw [acceptFragment, rxAccept]
  by_cases h1 : h.dnSeq ≠ c.inpkt.seqno
  · rw [if_pos h1, if_pos h1]; rfl
  rw [if_neg h1, if_neg h1]
  by_cases h2 : c.inpkt.fragment = 0 ∧ h.dnFrag = 0 ∧ c.inpkt.len = 0
  · rw [if_pos h2, if_pos h2]; rfl
  rw [if_neg h2, if_neg h2]
  by_cases h3 : h.dnFrag ≤ c.inpkt.fragment
  · rw [if_pos h3, if_pos h3]; rfl
  rw [if_neg h3, if_neg h3]
  by_cases h4 : h.dnFrag > c.inpkt.fragment + 1
  · rw [if_pos h4, if_pos h4]; rfl
  · rw [if_neg h4, if_neg h4]; rfl

theorem downstream_rx (c : Cli) (h : Hdr) (buf : List Nat) (read : Int) (sn : Bool) :
    (downstream c h buf read sn).1.inpkt = (rxDown c.inpkt h buf read).1 ∧
    (downstream c h buf read sn).2.1 = (rxDown c.inpkt h buf read).2 := by
  unfold downstream rxDown
  split
  · rw [acceptFragment_rx]
    cases rxAccept c.inpkt h with
    | none => exact ⟨rfl, rfl⟩
    | some p =>
      dsimp only [Option.map]
      by_cases hl : h.last = true
      · simp only [hl, if_true]
        split <;> exact ⟨rfl, rfl⟩
      · simp only [hl, Bool.false_eq_true, if_false]
        split <;> exact ⟨rfl, rfl⟩
  · exact ⟨rfl, rfl⟩

theorem finalPing_rx (c : Cli) (evs : List CEvent) (sn : Bool) (read : Int) :
    (finalPing c evs sn read).1.inpkt = c.inpkt ∧ tunws (finalPing c evs sn read).2.1 = tunws evs := by
  unfold finalPing
  exact ite_both (P := fun r : Cli × List CEvent × Stop => r.1.inpkt = c.inpkt ∧ tunws r.2.1 = tunws evs)
    (afterSend_quiet (sendPing_rx c) evs _) ⟨rfl, rfl⟩

theorem upstream_rx (c : Cli) (h : Hdr) (evs : List CEvent) (sn : Bool) (read : Int) :
    (upstream c h evs sn read).1.inpkt = c.inpkt ∧ tunws (upstream c h evs sn read).2.1 = tunws evs := by
  unfold upstream
  split
  · dsimp only
    split
    · split
      · exact finalPing_rx _ _ _ _
      · exact finalPing_rx _ _ _ _
    · have a := afterSend_quiet (sendChunk_rx { c with
          outpkt := { c.outpkt with offset := c.outpkt.offset + c.outpkt.sentlen,
                                    fragment := sChar (c.outpkt.fragment + 1) }, outchunkresent := 0 }) evs (.dnsChunk read)
      exact ⟨a.1, a.2⟩
  · exact finalPing_rx _ _ _ _

theorem dupeSeqno_rx (c : Cli) (h : Hdr) (rv : Int) : (dupeSeqno c h rv).2 = rxRead c.inpkt h rv := by
  unfold dupeSeqno rxRead
  split <;> rfl

theorem datalessAdopt_rx (c : Cli) (h : Hdr) (read : Int) :
    (datalessAdopt c h read).inpkt = rxAdopt c.inpkt h read := by
  unfold datalessAdopt rxAdopt
  split <;> rfl

/-- the five stages of `tunnel_dns` on an accepted answer (`Client.tdStages`) are the machine's accepting step -/
theorem tdStages_rx (c : Cli) (rq : Rq) :
    (tdStages c rq).1.inpkt = (rxStep c.inpkt true rq).1 ∧ tunws (tdStages c rq).2.1 = tunws (rxStep c.inpkt true rq).2 := by
  unfold tdStages rxStep
  dsimp only
  rw [if_pos rfl]
  have d2 : _ = rxRead c.inpkt _ _ := dupeSeqno_rx { c with sendPingSoon := 0 } (decodeHdr rq.buf) rq.rv
  have d1 : _ = c.inpkt := inpkt_of_frame (frame_dupeSeqno { c with sendPingSoon := 0 } (decodeHdr rq.buf) rq.rv).book
  generalize dupeSeqno { c with sendPingSoon := 0 } (decodeHdr rq.buf) rq.rv = d at d1 d2 ⊢
  rw [d2]
  generalize rxRead c.inpkt (decodeHdr rq.buf) rq.rv = read
  have hin : (datalessAdopt (lazyHint (C02L.ackBook d.1) rq.id) (decodeHdr rq.buf) read).inpkt
      = rxAdopt c.inpkt (decodeHdr rq.buf) read := by
    rw [datalessAdopt_rx, inpkt_of_frame (frame_lazyHint _ _).book]
    exact congrArg (rxAdopt · _ _) d1
  generalize datalessAdopt (lazyHint (C02L.ackBook d.1) rq.id) (decodeHdr rq.buf) read = c2 at hin ⊢
  obtain ⟨w1, w2⟩ := downstream_rx c2 (decodeHdr rq.buf) rq.buf read (c.sendPingSoon != 0)
  generalize downstream c2 (decodeHdr rq.buf) rq.buf read (c.sendPingSoon != 0) = r at w1 w2 ⊢
  obtain ⟨u1, u2⟩ := upstream_rx r.1 (decodeHdr rq.buf) r.2.1 r.2.2 read
  rw [hin] at w1 w2
  exact ⟨u1.trans w1, by rw [u2, w2]⟩

/-- **`tunnel_dns` projects onto the reassembly machine**: what it does to `inpkt` and what it writes to the tun
device is `rxStep` of the old `inpkt`, the filter verdict and the answer. -/
theorem tunnelDns_rx (c : Cli) (rq : Rq) :
    (tunnelDns c rq).1.inpkt = (rxStep c.inpkt (accepted c rq) rq).1 ∧
    tunws (tunnelDns c rq).2.1 = tunws (rxStep c.inpkt (accepted c rq) rq).2 := by
  rw [tunnelDns_eq]
  by_cases h1 : notData c rq.name0 = true
  · rw [if_pos h1, show accepted c rq = false by unfold accepted; simp [h1]]
    exact ⟨rfl, rfl⟩
  rw [if_neg h1]
  by_cases h2 : rq.rv < 2
  · rw [if_pos h2, show accepted c rq = false by unfold accepted; simp [h2]]
    exact ⟨inpkt_of_frame (frame_servfailCount c rq).book, rfl⟩
  rw [if_neg h2]
  by_cases h3 : rq.rv = 5 ∧ rq.buf.take 5 = ascii "BADIP"
  · rw [if_pos h3, show accepted c rq = false by unfold accepted; simp [h3]]
    exact ⟨rfl, rfl⟩
  rw [if_neg h3, show accepted c rq = recentId c rq.id by
    unfold accepted; simp only [h1, h2, h3, decide_false, Bool.not_false, Bool.true_and]]
  cases recentId c rq.id with
  | true => exact tdStages_rx c rq
  | false =>
    rw [if_pos (show (!false) = true from rfl)]
    dsimp only
    have hd : _ = c.inpkt := inpkt_of_frame (frame_dupeSeqno { c with sendPingSoon := 0 } (decodeHdr rq.buf) rq.rv).book
    generalize (dupeSeqno { c with sendPingSoon := 0 } (decodeHdr rq.buf) rq.rv).1 = d at hd ⊢
    have hi : (oosCount (countRecv d)).inpkt = c.inpkt := (inpkt_of_frame (frame_oosCount (countRecv d)).book).trans hd
    generalize oosCount (countRecv d) = c1 at hi ⊢
    exact ite_both (P := fun r : Cli × List CEvent × Stop => r.1.inpkt = c.inpkt ∧ tunws r.2.1 = [])
      ((afterSend_quiet (sendPing_rx c1) [] .dnsOosPing).imp_left (·.trans hi)) ⟨hi, rfl⟩

end Iodine.C01L
