import IodineModel.Server.Run
import IodineModel.Lemmas.Ite
import IodineModel.Lemmas.SrvC16a
/-
The possible results of the request handlers of the server: the few forms the result of a handler can take, or a rule
"what holds of every branch's result holds of the result" (`…_ind`), so that no proof takes a handler's nested
conditionals apart again (the rules for conditionals themselves are in `Lemmas/Ite.lean`).  In the order of the file:
what `tunnel_dns` and `handle_null_request` test (`C16L.TunnelType`, `C04L.inbOf`) and the outcomes of `V`; the payloads
of the control answers (`Ctrl`) and the control commands; the filters in front of the ping and data handlers
(`FilterRes`, `answerFromDnscache_some`); the steps of these two handlers (`StepRes`), the two saves of
`send_chunk_or_dataless`, and the handlers in stages (`pingFresh_eq`, `dataFresh_eq`); raw mode; tun frames and
completed upstream packets (`tunnelTun_eq`, `handleFullPacket_cases`; the exact equations `C04L.handleFullPacket_dropped`,
`_toTun`, `_forward` are in `Lemmas/SrvC04b.lean`); the dispatch tree, with `handle_null_request` as a lookup in a table
of eleven commands whose codes are disjoint (`Letter`, `handleNullRequest_eq`, `letterOf_of_codes`); `body_eq`.
`Lemmas/Steps.lean` builds on this the description of a whole iteration as a run of primitive steps; the case lists
serve it and the statements that say which handler does what (C03, C04).
-/
namespace Iodine.Server
open Iodine.Gen

theorem getD_take_lt (l : List Nat) (m i : Nat) (h : i < m) : (l.take m).getD i 0 = l.getD i 0 := by
  simp only [List.getD_eq_getElem?_getD, List.getElem?_take, h, if_true]

/-- an accepted `V` hands out slot `u`: the state in which the answer is sent … -/
def versionPre (s : Srv) (q : Query) (u : Nat) : Srv :=
  setUser (popRand (setUser s u (claim s.now))).2 u fun x =>
    { x with seed := (popRand (setUser s u (claim s.now))).1, host := q.from_, q := q, encoder := .b32, downenc := chT }

/-- … and the state afterwards -/
def versionState (s : Srv) (q : Query) (u : Nat) : Srv := setUser (versionPre s q u) u resetSession

/-- what an accepted `V` does: the slot is claimed, seeded, bound to the sender and reset; `VACK` with the seed -/
abbrev versionRes (s : Srv) (q : Query) (u : Nat) : Res :=
  (versionState s q u, [sendVersionResponse (versionPre s q u) .ack (popRand (setUser s u (claim s.now))).1 u q])

end Iodine.Server

namespace Iodine.C04L
open Iodine Iodine.Server Iodine.Gen

/-- the seven query types `tunnel_dns` hands to `handle_null_request` -/
def _root_.Iodine.C16L.TunnelType (t : Nat) : Prop :=
  t = T_NULL ∨ t = T_PRIVATE ∨ t = T_CNAME ∨ t = T_A ∨ t = T_MX ∨ t = T_SRV ∨ t = T_TXT

/-- `in[]` of `handle_null_request` -/
def inbOf (q : Query) (dlen : Nat) : List Nat := q.name.take (min dlen 512)

theorem inbOf_getD (q : Query) (dlen i : Nat) (h : i < min dlen 512) : (inbOf q dlen).getD i 0 = q.name.getD i 0 :=
  getD_take_lt _ _ i h

theorem findAvailableUser_fst (s : Srv) :
    (findAvailableUser s).1 = (Users.findAvailableUser (s.users.map toSlot) s.now).1 := by
  unfold findAvailableUser
  split <;> next h => rw [h]

theorem findAvailableUser_snd (s : Srv) (u : Nat) (h : (findAvailableUser s).1 = some u) :
    (findAvailableUser s).2 = setUser s u (claim s.now) := by
  rw [findAvailableUser_fst] at h
  unfold findAvailableUser
  rw [h]

theorem findAvailableUser_snd_none (s : Srv) (h : (findAvailableUser s).1 = none) :
    (findAvailableUser s).2 = s := by
  rw [findAvailableUser_fst] at h
  unfold findAvailableUser
  rw [h]

/-- `version` of the V handler -/
def versionOf (inb : List Nat) : Nat :=
  if (Encoding.unpackData Codec.b32 65536 (inb.drop 1)).length > 4 then
    beVal ((Encoding.unpackData Codec.b32 65536 (inb.drop 1)).take 4) else 0

theorem handleVersion_eq (s : Srv) (q : Query) (inb : List Nat) :
    handleVersion s q inb =
      if versionOf inb = PROTOCOL_VERSION then
        match findAvailableUser s with
        | (some u, s1) =>
          (setUser (setUser (popRand s1).2 u fun x =>
              { x with seed := (popRand s1).1, host := q.from_, q := q, encoder := .b32, downenc := chT }) u resetSession,
            [sendVersionResponse (setUser (popRand s1).2 u fun x =>
              { x with seed := (popRand s1).1, host := q.from_, q := q, encoder := .b32, downenc := chT })
              .ack (popRand s1).1 u q])
        | (none, s1) => (s1, [sendVersionResponse s1 .full s1.cfg.createdUsers 0 q])
      else (s, [sendVersionResponse s .nack PROTOCOL_VERSION 0 q]) := rfl

/-- the three outcomes of `V`: a slot is handed out, the table is full, the version is wrong -/
theorem handleVersion_cases (s : Srv) (q : Query) (inb : List Nat) :
    (∃ u, versionOf inb = PROTOCOL_VERSION ∧ (findAvailableUser s).1 = some u ∧
        (handleVersion s q inb).1 = versionState s q u ∧ (handleVersion s q inb).2 = (versionRes s q u).2) ∨
    ((handleVersion s q inb).1 = s ∧
      ((handleVersion s q inb).2 = [sendVersionResponse s .full s.cfg.createdUsers 0 q] ∨
       (handleVersion s q inb).2 = [sendVersionResponse s .nack PROTOCOL_VERSION 0 q])) := by
  rw [handleVersion_eq]
  by_cases hv : versionOf inb = PROTOCOL_VERSION
  · rw [if_pos hv]
    cases h : (findAvailableUser s).1 with
    | some u =>
      left
      refine ⟨u, hv, rfl, ?_⟩
      have e : findAvailableUser s = (some u, setUser s u (claim s.now)) :=
        Prod.ext h (findAvailableUser_snd s u h)
      rw [e]
      exact ⟨rfl, rfl⟩
    | none =>
      right
      have e : findAvailableUser s = (none, s) := Prod.ext h (findAvailableUser_snd_none s h)
      rw [e]
      exact ⟨rfl, Or.inl rfl⟩
  · rw [if_neg hv]
    right; exact ⟨rfl, Or.inr rfl⟩

end Iodine.C04L

namespace Iodine.Server
open Iodine.Gen

/-- the constant texts of the control answers: the refusals (`BADCODEC` of `S`, `O`, `Y`; `LNAK` of `L`; `BADFRAG` of `R`,
`N`; the two every handler has) and the names `O` answers with -/
inductive CtrlText where
  | badlen | badip | badcodec | lnak | badfrag | base32 | base64 | base64u | base128 | raw | lazy | immediate

def CtrlText.str : CtrlText → String
  | .badlen => "BADLEN" | .badip => "BADIP" | .badcodec => "BADCODEC" | .lnak => "LNAK" | .badfrag => "BADFRAG"
  | .base32 => "Base32" | .base64 => "Base64" | .base64u => "Base64u" | .base128 => "Base128" | .raw => "Raw"
  | .lazy => "Lazy" | .immediate => "Immediate"

def CtrlText.bytes (t : CtrlText) : List Nat := ascii t.str

/-- the four-letter tag of a version answer -/
def vtag : VersionAck → List Nat
  | .ack => ascii "VACK"
  | .nack => ascii "VNAK"
  | .full => ascii "VFUL"

theorem ascii_VACK : ascii "VACK" = [86, 65, 67, 75] := by decide

theorem beBytes_length (n v : Nat) : (beBytes n v).length = n := by
  induction n with
  | zero => rfl
  | succ n ih => rw [beBytes, List.length_cons, ih]

theorem sendVersionResponse_eq (s : Srv) (k : VersionAck) (p u : Nat) (q : Query) :
    sendVersionResponse s k p u q = writeDns q (vtag k ++ beBytes 4 p ++ [u % 256]) (getUser s u).downenc := by
  cases k <;> rfl

def loginReply (cfg : Config) (tunIp : Nat) : List Nat :=
  ipStr cfg.myIp ++ [45] ++ ipStr tunIp ++ [45] ++ ascii (toString cfg.mtu) ++ [45] ++ ascii (toString cfg.netmask)

/-- **the payloads of the control answers**: everything `write_dns` is handed that is neither cut from a packet nor
replayed from the cache nor the marker "x" -/
inductive Ctrl (cfg : Config) (q : Query) : List Nat → Prop
  | text (t : CtrlText) : Ctrl cfg q t.bytes
  /-- `S`: the name of the new upstream codec -/
  | codec (e : Enc) : Ctrl cfg q e.cname
  /-- `send_version_response`: tag, four bytes (the seed, the number of slots, or the server's version), slot -/
  | vers (k : VersionAck) (p u : Nat) : Ctrl cfg q (vtag k ++ beBytes 4 p ++ [u % 256])
  /-- `L`: server address, client address, MTU, netmask bits -/
  | login (t : Nat) : Ctrl cfg q (loginReply cfg t)
  /-- `I`: the letter and the server's external address, 4 or 16 bytes -/
  | ip (n v : Nat) : n = 4 ∨ n = 16 → Ctrl cfg q (73 :: beBytes n v)
  /-- `Z`: the data part of the query as it arrived -/
  | echo (dlen : Nat) : 2 ≤ dlen → 3 ≤ q.name.length → Ctrl cfg q (q.name.take (min dlen 512))
  /-- `Y`: the downstream codec check pattern -/
  | check : Ctrl cfg q DOWNCODECCHECK1
  /-- `R`: a fragsize probe of the requested length -/
  | probe (req v : Nat) : 2 ≤ req → req ≤ 2047 → Ctrl cfg q (probeBytes req v)

def OneAns (q : Query) (evs : List Event) : Prop := ∃ msg d, evs = [writeDns q msg d]

theorem handleVersion_ans (s : Srv) (q : Query) (inb : List Nat) : OneAns q (handleVersion s q inb).2 := by
  rcases C04L.handleVersion_cases s q inb with ⟨_, _, _, _, h⟩ | ⟨_, h | h⟩ <;> rw [h] <;> exact ⟨_, _, rfl⟩

theorem handleZ_ans (s : Srv) (q : Query) (inb : List Nat) : OneAns q (handleZ s q inb).2 := ⟨_, _, rfl⟩

/-- the user a control command with a Base32 user id in `in[1]` names -/
def cmdUser (inb : List Nat) : Int := ((b32_8to5 (inb.getD 1 0) : Nat) : Int)

/-- `O`: a refusal before or at the authentication check (state unchanged), or — the check passed — a BADCODEC answer,
a new downstream codec, or a new lazy flag, for the user named in the query. -/
def OptionsRes (s : Srv) (q : Query) (inb : List Nat) (r : Res) : Prop :=
  (∃ t : CtrlText, r = (s, [writeDns q t.bytes chT])) ∨
  (checkAuthenticatedUserAndIpAndOptions s (cmdUser inb) q = false ∧
    (r = (s, [writeDns q (ascii "BADCODEC") (getUser s (cmdUser inb).toNat).downenc]) ∨
     (∃ d, ∃ t : CtrlText, r = (setUser s (cmdUser inb).toNat fun x => { x with downenc := d }, [writeDns q t.bytes d])) ∨
     (∃ l, ∃ t : CtrlText, r = (setUser s (cmdUser inb).toNat fun x => { x with lazy := l },
                    [writeDns q t.bytes (getUser s (cmdUser inb).toNat).downenc]))))

theorem handleOptions_cases (s : Srv) (q : Query) (dlen : Nat) (inb : List Nat) :
    OptionsRes s q inb (handleOptions s q dlen inb) := by
  rw [handleOptions]
  by_cases h : dlen < 3
  · rw [if_pos h]; exact .inl ⟨.badlen, rfl⟩
  rw [if_neg h]
  extract_lets userid u c setDn setLazy
  cases hc : checkAuthenticatedUserAndIpAndOptions s userid q
  · rw [if_neg Bool.false_ne_true]
    have dn : ∀ d (t : CtrlText), OptionsRes s q inb (setDn d t.str) := fun _ t => .inr ⟨hc, .inr (.inl ⟨_, t, rfl⟩)⟩
    have lz : ∀ l (t : CtrlText), OptionsRes s q inb (setLazy l t.str) := fun _ t => .inr ⟨hc, .inr (.inr ⟨_, t, rfl⟩)⟩
    exact ite_both (dn _ .base32) <| ite_both (dn _ .base64) <| ite_both (dn _ .base64u) <| ite_both (dn _ .base128) <|
      ite_both (dn _ .raw) <| ite_both (lz _ .lazy) <| ite_both (lz _ .immediate) (.inr ⟨hc, .inl rfl⟩)
  · rw [if_pos rfl]; exact .inl ⟨.badip, rfl⟩

/-- `S`: a refusal (state unchanged), or — the check passed — a BADCODEC answer or a new upstream codec. -/
def SwitchCodecRes (s : Srv) (q : Query) (inb : List Nat) (r : Res) : Prop :=
  (∃ t : CtrlText, r = (s, [writeDns q t.bytes chT])) ∨
  (checkAuthenticatedUserAndIpAndOptions s (cmdUser inb) q = false ∧
    (r = (s, [writeDns q (ascii "BADCODEC") (getUser s (cmdUser inb).toNat).downenc]) ∨
     (∃ e, r = (setUser s (cmdUser inb).toNat fun x => { x with encoder := e },
                [writeDns q e.cname (getUser s (cmdUser inb).toNat).downenc]))))

theorem handleSwitchCodec_cases (s : Srv) (q : Query) (dlen : Nat) (inb : List Nat) :
    SwitchCodecRes s q inb (handleSwitchCodec s q dlen inb) := by
  rw [handleSwitchCodec]
  by_cases h : dlen < 3
  · rw [if_pos h]; exact .inl ⟨.badlen, rfl⟩
  rw [if_neg h]
  extract_lets userid u dn codec sw
  cases hc : checkAuthenticatedUserAndIpAndOptions s userid q
  · rw [if_neg Bool.false_ne_true]
    have hsw : ∀ e, SwitchCodecRes s q inb (sw e) := fun e => .inr ⟨hc, .inr ⟨e, Prod.ext (userSwitchCodec_eq s _ e) rfl⟩⟩
    exact ite_both (hsw _) <| ite_both (hsw _) <| ite_both (hsw _) <| ite_both (hsw _) (.inr ⟨hc, .inl rfl⟩)
  · rw [if_pos rfl]; exact .inl ⟨.badip, rfl⟩

theorem handleDownCodecCheck_cases (s : Srv) (q : Query) (dlen : Nat) (inb : List Nat) :
    ∃ msg d, handleDownCodecCheck s q dlen inb = (s, [writeDns q msg d]) := by
  rw [handleDownCodecCheck]
  refine ite_both (P := fun r => ∃ msg d, r = (s, [writeDns q msg d])) ⟨_, _, rfl⟩
    (ite_both (P := fun r => ∃ msg d, r = (s, [writeDns q msg d])) ⟨_, _, rfl⟩ ?_)
  extract_lets c named rawOk dn
  cases dn <;> exact ⟨_, _, rfl⟩

/-- `unpacked[]` and the user id of an `L`, `P` or `N` request -/
abbrev pingUnpacked (inb : List Nat) : List Nat := Encoding.unpackData Codec.b32 65536 (inb.drop 1)
abbrev pingUid (inb : List Nat) : Int := charVal ((pingUnpacked inb).getD 0 0)

/-- `L`: a refusal (too short, or the access check fails: state unchanged); the check passed: `last_pkt` of the named
user is set, and — the request carries the login hash for the slot's seed — `authenticated` -/
theorem handleLogin_ind {P : Res → Prop} (s : Srv) (q : Query) (inb : List Nat)
    (refuse : ∀ msg, P (s, [writeDns q msg chT]))
    (nak : checkUserAndIp s (pingUid inb) q = false →
      P (setUser s (pingUid inb).toNat fun x => { x with lastPkt := s.now }, [writeDns q (ascii "LNAK") chT]))
    (ok : checkUserAndIp s (pingUid inb) q = false → 18 ≤ (pingUnpacked inb).length →
      Login.loginCalcC s.cfg.password
          (getUser (setUser s (pingUid inb).toNat fun x => { x with lastPkt := s.now }) (pingUid inb).toNat).seed =
        ((pingUnpacked inb).drop 1).take 16 →
      ∀ out dn, P (setUser (setUser s (pingUid inb).toNat fun x => { x with lastPkt := s.now }) (pingUid inb).toNat
        fun x => { x with authenticated := true }, [writeDns q out dn])) :
    P (handleLogin s q inb) := by
  rw [handleLogin]
  refine ite_both (refuse _) <| ite_both' (fun _ => refuse _) fun hc => ?_
  have hc := (Bool.not_eq_true _).mp hc
  exact ite_both' (fun h => ok hc h.1 h.2 _ _) fun _ => nak hc

theorem handleIp_cases (s : Srv) (q : Query) (inb : List Nat) :
    ∃ msg, handleIp s q inb = (s, [writeDns q msg chT]) := by
  rw [handleIp]
  extract_lets userid
  exact ite_both (P := fun r => ∃ msg, r = (s, [writeDns q msg chT])) ⟨_, rfl⟩ ⟨_, rfl⟩

/-- `R`: a single answer; only an accepted probe consumes a `rand()` value. -/
theorem handleFragsizeProbe_cases (s : Srv) (q : Query) (dlen : Nat) (inb : List Nat) :
    ∃ msg dn, handleFragsizeProbe s q dlen inb = (s, [writeDns q msg dn]) ∨
      handleFragsizeProbe s q dlen inb = ((popRand s).2, [writeDns q msg dn]) := by
  let P : Res → Prop := fun r => ∃ msg dn, r = (s, [writeDns q msg dn]) ∨ r = ((popRand s).2, [writeDns q msg dn])
  rw [handleFragsizeProbe]
  extract_lets b1 userid u req r
  exact ite_both (P := P) ⟨_, _, .inl rfl⟩ <| ite_both (P := P) ⟨_, _, .inl rfl⟩ <|
    ite_both (P := P) ⟨_, _, .inl rfl⟩ ⟨_, _, .inr rfl⟩

/-- `N`: a single answer; the state is unchanged (refusal), or — at least three bytes, the check passed — the named user
gets a fragment size `n ≥ 2`, locked options and an emptied answer cache, acknowledged with the two size bytes.  What
holds of both forms holds of the result. -/
theorem handleSetFragsize_ind {P : Res → Prop} (s : Srv) (q : Query) (inb : List Nat)
    (ans : ∀ msg dn, P (s, [writeDns q msg dn]))
    (set : 3 ≤ (pingUnpacked inb).length → checkAuthenticatedUserAndIpAndOptions s (pingUid inb) q = false →
      ∀ n, 2 ≤ n → P (setUser s (pingUid inb).toNat fun x =>
                        { x with fragsize := n, optionsLocked := true, dnscache := clearDnscache x.dnscache },
                      [writeDns q (((pingUnpacked inb).drop 1).take 2) (getUser s (pingUid inb).toNat).downenc])) :
    P (handleSetFragsize s q inb) := by
  rw [handleSetFragsize]
  exact ite_both' (fun _ => ans _ _) fun h3 => ite_both' (fun _ => ans _ _) fun hc =>
    ite_both' (fun _ => ans _ _) fun h2 => set (Nat.le_of_not_lt h3) ((Bool.not_eq_true _).mp hc) _ (Nat.le_of_not_lt h2)

theorem handleLogin_ans (s : Srv) (q : Query) (inb : List Nat) : OneAns q (handleLogin s q inb).2 :=
  handleLogin_ind (P := fun r => OneAns q r.2) s q inb (fun _ => ⟨_, _, rfl⟩) (fun _ => ⟨_, _, rfl⟩)
    fun _ _ _ _ _ => ⟨_, _, rfl⟩

theorem handleIp_ans (s : Srv) (q : Query) (inb : List Nat) : OneAns q (handleIp s q inb).2 := by
  obtain ⟨_, h⟩ := handleIp_cases s q inb
  rw [h]; exact ⟨_, _, rfl⟩

theorem handleSwitchCodec_ans (s : Srv) (q : Query) (dlen : Nat) (inb : List Nat) :
    OneAns q (handleSwitchCodec s q dlen inb).2 := by
  rcases handleSwitchCodec_cases s q dlen inb with ⟨_, h⟩ | ⟨_, h | ⟨_, h⟩⟩ <;> rw [h] <;> exact ⟨_, _, rfl⟩

theorem handleOptions_ans (s : Srv) (q : Query) (dlen : Nat) (inb : List Nat) :
    OneAns q (handleOptions s q dlen inb).2 := by
  rcases handleOptions_cases s q dlen inb with ⟨_, h⟩ | ⟨_, h | ⟨_, _, h⟩ | ⟨_, _, h⟩⟩ <;> rw [h] <;> exact ⟨_, _, rfl⟩

theorem handleDownCodecCheck_ans (s : Srv) (q : Query) (dlen : Nat) (inb : List Nat) :
    OneAns q (handleDownCodecCheck s q dlen inb).2 := by
  obtain ⟨_, _, h⟩ := handleDownCodecCheck_cases s q dlen inb
  rw [h]; exact ⟨_, _, rfl⟩

theorem handleFragsizeProbe_ans (s : Srv) (q : Query) (dlen : Nat) (inb : List Nat) :
    OneAns q (handleFragsizeProbe s q dlen inb).2 := by
  obtain ⟨_, _, h | h⟩ := handleFragsizeProbe_cases s q dlen inb <;> rw [h] <;> exact ⟨_, _, rfl⟩

theorem handleSetFragsize_ans (s : Srv) (q : Query) (inb : List Nat) : OneAns q (handleSetFragsize s q inb).2 :=
  handleSetFragsize_ind (P := fun r => OneAns q r.2) s q inb (fun _ _ => ⟨_, _, rfl⟩) fun _ _ _ _ => ⟨_, _, rfl⟩

theorem dnscacheFind_mem (x : Session) (q : Query) (e : DnsCacheEntry) (n i : Nat)
    (h : dnscacheFind x q n i = some e) : e ∈ x.dnscache ∧ e.answerlen ≠ 0 := by
  obtain ⟨hit, j, _, _, rfl⟩ := C16L.dnscacheFind_some x q e n i h
  refine ⟨?_, hit.2.1⟩
  -- the entry has an answer, so it is not the all-zero entry read outside the table
  have h2 := hit.2.1
  unfold C16L.cacheAt at h2 ⊢
  rw [List.getD_eq_getElem?_getD] at h2 ⊢
  cases hg : x.dnscache[C16L.ringPos DNSCACHE_LEN x.dcLast j]? with
  | none => rw [hg] at h2; exact absurd rfl h2
  | some c => exact List.mem_of_getElem? hg

/-- a replay from the answer cache: the stored answer of an entry of the cache of slot `u`, to the arriving query, in
the slot's downstream codec -/
theorem answerFromDnscache_some {s : Srv} {u : Nat} {q : Query} {e : Event} (h : answerFromDnscache s u q = some e) :
    ∃ ce, ce ∈ (getUser s u).dnscache ∧ ce.answerlen ≠ 0 ∧
      e = writeDns q (ce.answer.take ce.answerlen) (getUser s u).downenc (.cached u) := by
  rw [answerFromDnscache] at h
  cases hc : dnscacheFind (getUser s u) q DNSCACHE_LEN 0 with
  | none => rw [hc] at h; cases h
  | some ce =>
    rw [hc] at h
    exact ⟨ce, (dnscacheFind_mem _ q ce _ _ hc).1, (dnscacheFind_mem _ q ce _ _ hc).2, (Option.some.inj h).symm⟩

theorem answerFromQmem_some {q : Query} {mem : List QmemEntry} {cmc : List Nat} {u : Nat} {e : Event}
    (h : answerFromQmem q mem cmc u = some e) : e = writeDns q (ascii "x") chT (.qmem u) := by
  rw [answerFromQmem] at h
  by_cases hc : (mem.any fun e => e.type != T_UNSET && e.type == q.type && e.cmc == cmc) = true
  · rw [if_pos hc] at h; exact (Option.some.inj h).symm
  · rw [if_neg hc] at h; cases h

/-- a remembered duplicate: the arriving query has the type and name of a waiting one (`q` or `q_sendrealsoon`), and
its id and source go into `id2`, `from2` of that one -/
theorem rememberDuplicate_some {s s' : Srv} {u : Nat} {q : Query} (h : rememberDuplicate s u q = some s') :
    ∃ w : QSel, q.type = (w.get (getUser s u)).type ∧ q.name = (w.get (getUser s u)).name ∧
      s' = setUser s u fun x => w.set x { w.get x with id2 := q.id, from2 := q.from_ } := by
  rw [rememberDuplicate] at h
  by_cases h1 : (getUser s u).q.id ≠ 0 ∧ q.type = (getUser s u).q.type ∧ q.name = (getUser s u).q.name ∧ (getUser s u).lazy
  · rw [if_pos h1] at h
    exact ⟨.q, h1.2.1, h1.2.2.1, (Option.some.inj h).symm⟩
  rw [if_neg h1] at h
  by_cases h2 : (getUser s u).qs.id ≠ 0 ∧ q.type = (getUser s u).qs.type ∧ q.name = (getUser s u).qs.name
  · rw [if_pos h2] at h
    exact ⟨.qs, h2.2.1, h2.2.2, (Option.some.inj h).symm⟩
  rw [if_neg h2] at h; cases h

/-- What the filters in front of the ping and data handlers make of a request with user id `uid`: it is dropped or
refused, or — it has an id and the access check passed — answered from the answer cache, answered with the marker for a
query seen before, remembered as a duplicate of a waiting query, or handled (`fresh`). -/
def FilterRes (s : Srv) (q : Query) (uid : Int) (fresh r : Res) : Prop :=
  r = (s, []) ∨ r = (s, [writeDns q (ascii "BADIP") chT]) ∨
  (q.id ≠ 0 ∧ checkAuthenticatedUserAndIp s uid q = false ∧
    ((∃ e, answerFromDnscache s uid.toNat q = some e ∧ r = (s, [e])) ∨
     r = (s, [writeDns q (ascii "x") chT (.qmem uid.toNat)]) ∨
     (∃ s', rememberDuplicate s uid.toNat q = some s' ∧ r = (s', [])) ∨ r = fresh))

/-- the three filters after the access check -/
theorem filterRes_matches (s : Srv) (q : Query) (uid : Int) (mem : List QmemEntry) (cmc : List Nat) (fresh : Res)
    (hid : q.id ≠ 0) (hc : checkAuthenticatedUserAndIp s uid q = false) :
    FilterRes s q uid fresh
      (match answerFromDnscache s uid.toNat q with
       | some e => (s, [e])
       | none =>
       match answerFromQmem q mem cmc uid.toNat with
       | some e => (s, [e])
       | none =>
       match rememberDuplicate s uid.toNat q with
       | some s' => (s', [])
       | none => fresh) := by
  cases h1 : answerFromDnscache s uid.toNat q with
  | some e => exact .inr (.inr ⟨hid, hc, .inl ⟨e, h1, rfl⟩⟩)
  | none =>
    cases h2 : answerFromQmem q mem cmc uid.toNat with
    | some e => exact .inr (.inr ⟨hid, hc, .inr (.inl (by rw [answerFromQmem_some h2]))⟩)
    | none =>
      cases h3 : rememberDuplicate s uid.toNat q with
      | some s' => exact .inr (.inr ⟨hid, hc, .inr (.inr (.inl ⟨s', h3, rfl⟩))⟩)
      | none => exact .inr (.inr ⟨hid, hc, .inr (.inr (.inr rfl))⟩)

theorem handlePing_cases (s : Srv) (q : Query) (inb : List Nat) :
    FilterRes s q (pingUid inb) (pingFresh s (pingUid inb).toNat q (pingUnpacked inb)) (handlePing s q inb) := by
  rw [handlePing]
  refine ite_both' (P := FilterRes _ _ _ _) (fun _ => .inl rfl) fun hid => ite_both (P := FilterRes _ _ _ _) (.inl rfl) ?_
  dsimp only
  cases hc : checkAuthenticatedUserAndIp s (pingUid inb) q
  · rw [if_neg Bool.false_ne_true]; exact filterRes_matches s q _ _ _ _ hid hc
  · rw [if_pos rfl]; exact .inr (.inl rfl)

theorem handleData_cases (s : Srv) (q : Query) (dlen : Nat) (inb : List Nat) :
    FilterRes s q (hexCode (inb.getD 0 0)) (dataFresh s (hexCode (inb.getD 0 0)).toNat q inb) (handleData s q dlen inb) := by
  rw [handleData]
  refine ite_both (P := FilterRes _ _ _ _) (.inl rfl) <| ite_both' (P := FilterRes _ _ _ _) (fun _ => .inl rfl) fun hid => ?_
  dsimp only
  cases hc : checkAuthenticatedUserAndIp s (hexCode (inb.getD 0 0)) q
  · rw [if_neg Bool.false_ne_true]; exact filterRes_matches s q _ _ _ _ hid hc
  · rw [if_pos rfl]; exact .inr (.inl rfl)

/-- the waiting query becomes the one to be answered real soon -/
def parkQuery (x : Session) : Session := { x with qs := x.q, qsNew := true, q := { x.q with id := 0 } }

/-- The state and events of the two answering steps of the data handler.  (Stated for the first component, which is
all an invariant looks at: comparing `(t.1, !t.2).1` with `t.1` for `t := sendChunkOrDataless …` by unification is
slow, it takes `sendChunkOrDataless` apart.) -/
theorem dataStepQs_fst (s : Srv) (u : Nat) :
    (dataStepQs s u).1 = if (getUser s u).qs.id ≠ 0 then (sendChunkOrDataless s u .qs).1 else (s, []) := by
  rw [dataStepQs]
  by_cases h : (getUser s u).qs.id ≠ 0
  · simp only [if_pos h]
  · simp only [if_neg h]

theorem dataStepQ_fst (s : Srv) (u : Nat) (a b c : Bool) :
    (dataStepQ s u a b c).1 = if (getUser s u).q.id ≠ 0 then
      if ((getUser s u).outpacket.len > 0 ∧ !c) ∨ (a ∧ !b ∧ !c) ∨ (!a ∧ !c) ∨ !(getUser s u).lazy then
        (sendChunkOrDataless s u .q).1
      else (setUser s u parkQuery, [])
    else (s, []) := by
  rw [dataStepQ]
  dsimp only
  by_cases h : (getUser s u).q.id ≠ 0
  · simp only [if_pos h]
    by_cases h' : ((getUser s u).outpacket.len > 0 ∧ !c) ∨ (a ∧ !b ∧ !c) ∨ (!a ∧ !c) ∨ !(getUser s u).lazy
    · simp only [if_pos h']
    · simp only [if_neg h']; rfl
  · simp only [if_neg h]

/-- what a step of the ping or data handler does with the stored queries of session `u`: nothing, one
`send_chunk_or_dataless`, or parking the waiting query -/
def StepRes (s : Srv) (u : Nat) (r : Res) : Prop :=
  r = (s, []) ∨ (∃ w, r = (sendChunkOrDataless s u w).1) ∨ r = (setUser s u parkQuery, [])

theorem StepRes.elim {P : Res → Prop} {s : Srv} {u : Nat} {r : Res} (h : StepRes s u r) (nop : P (s, []))
    (send : ∀ w, P (sendChunkOrDataless s u w).1) (park : P (setUser s u parkQuery, [])) : P r := by
  rcases h with h | ⟨w, h⟩ | h <;> rw [h]
  · exact nop
  · exact send w
  · exact park

theorem sendWaiting_cases (s : Srv) (u : Nat) : StepRes s u (sendWaiting s u) := by
  unfold sendWaiting
  extract_lets x
  exact ite_both (P := StepRes s u) (.inr (.inl ⟨.qs, rfl⟩)) <| ite_both (P := StepRes s u) (.inr (.inl ⟨.q, rfl⟩)) (.inl rfl)

theorem dataStepQs_cases (s : Srv) (u : Nat) : StepRes s u (dataStepQs s u).1 := by
  rw [dataStepQs_fst]
  exact ite_both (P := StepRes s u) (.inr (.inl ⟨.qs, rfl⟩)) (.inl rfl)

theorem dataStepQ_cases (s : Srv) (u : Nat) (ok last sent : Bool) : StepRes s u (dataStepQ s u ok last sent).1 := by
  rw [dataStepQ_fst]
  exact ite_both (P := StepRes s u) (ite_both (P := StepRes s u) (.inr (.inl ⟨.q, rfl⟩)) (.inr (.inr rfl))) (.inl rfl)

theorem dataStepFinal_cases (s : Srv) (u : Nat) (ok last sent : Bool) : StepRes s u (dataStepFinal s u ok last sent) := by
  unfold dataStepFinal
  extract_lets x
  exact ite_both (P := StepRes s u) (.inr (.inl ⟨.q, rfl⟩)) <| ite_both (P := StepRes s u)
    (ite_both (P := StepRes s u) (.inr (.inr rfl)) (.inr (.inl ⟨.q, rfl⟩))) (.inl rfl)

/-- a fragment is at most the fragment size and fits a 4096-byte answer behind the two header bytes -/
theorem scDatalen_le (x : Session) : scDatalen x ≤ x.fragsize ∧ scDatalen x ≤ 4094 := by
  unfold scDatalen
  split <;> omega

theorem scAnswer_name (q : Query) (pkt : List Nat) (dn u : Nat) : (scAnswer q pkt dn u).1.name = q.name := by
  unfold scAnswer; split <;> simp

/-- `save_to_qmem_pingordata` does nothing or writes the query memories of slot `u` -/
theorem saveToQmemPingOrData_ind {P : Srv → Prop} (s : Srv) (u : Nat) (q : Query) (nop : P s)
    (set : ∀ g : Session → Session, (∀ x, ∃ a b c d, g x =
      { x with qmemping := a, qmempingLast := b, qmemdata := c, qmemdataLast := d }) → P (setUser s u g)) :
    P (saveToQmemPingOrData s u q) := by
  rw [saveToQmemPingOrData]
  refine ite_both ?_ (ite_both nop (set _ fun _ => ⟨_, _, _, _, rfl⟩))
  cases q.name.idxOf? 46 with
  | none => exact nop
  | some cp => exact ite_both nop (set _ fun _ => ⟨_, _, _, _, rfl⟩)

/-- `save_to_dnscache` does nothing or writes the answer cache of slot `u` -/
theorem saveToDnscache_ind {P : Srv → Prop} (s : Srv) (u : Nat) (q : Query) (a : List Nat) (nop : P s)
    (set : ∀ g : Session → Session, (∀ x, ∃ c l, g x = { x with dnscache := c, dcLast := l }) → P (setUser s u g)) :
    P (saveToDnscache s u q a) := by
  rw [saveToDnscache]
  exact ite_both nop (set _ fun _ => ⟨_, _, rfl⟩)

/-- ping: answer the query that must be returned real soon -/
def pingQs (s : Srv) (u : Nat) : Res :=
  if (getUser s u).qs.id ≠ 0 then (sendChunkOrDataless s u .qs).1 else (s, [])

/-- ping: answer the earlier waiting query; the `Bool` is `didsend` -/
def pingQ (s : Srv) (u : Nat) : Res × Bool :=
  if (getUser s u).q.id ≠ 0 then ((sendChunkOrDataless s u .q).1, !(sendChunkOrDataless s u .q).2) else ((s, []), false)

/-- ping: answer the new query at once if there is data for it or the session is not lazy -/
def pingNew (s : Srv) (u : Nat) (didsend : Bool) : Res :=
  if (!didsend ∧ (getUser s u).outpacket.len > 0) ∨ !(getUser s u).lazy then (sendChunkOrDataless s u .q).1 else (s, [])

/-- the ping handler after the downstream ack -/
def pingRest (s : Srv) (u : Nat) (q : Query) : Res :=
  let r1 := pingQs s u
  let r2 := pingQ r1.1 u
  let r3 := pingNew (saveQuery r2.1.1 u q) u r2.2
  (r3.1, r1.2 ++ r2.1.2 ++ r3.2)

theorem pingFresh_eq (s : Srv) (u : Nat) (q : Query) (unpacked : List Nat) :
    pingFresh s u q unpacked =
      pingRest (processDownstreamAck s u (charVal (unpacked.getD 1 0) / 16) (charVal (unpacked.getD 1 0) % 16)) u q := by
  rw [pingFresh, pingRest, pingQs, pingQ, pingNew]

theorem pingQs_cases (s : Srv) (u : Nat) : StepRes s u (pingQs s u) := by
  rw [pingQs]; exact ite_both (P := StepRes s u) (.inr (.inl ⟨.qs, rfl⟩)) (.inl rfl)

theorem pingQ_cases (s : Srv) (u : Nat) : StepRes s u (pingQ s u).1 := by
  rw [pingQ]
  refine ite_both (P := fun r : Res × Bool => StepRes s u r.1) ?_ (.inl rfl)
  dsimp only
  exact .inr (.inl ⟨.q, rfl⟩)

theorem pingNew_cases (s : Srv) (u : Nat) (sent : Bool) : StepRes s u (pingNew s u sent) := by
  rw [pingNew]; exact ite_both (P := StepRes s u) (.inr (.inl ⟨.q, rfl⟩)) (.inl rfl)

end Iodine.Server

namespace Iodine.C05N
open Iodine Iodine.Server Iodine.Gen

/- The stages of the data handler stand in C05's namespace because C05's slot-locality theorems are stated over
`C05N.dataPre`; the stages of the ping handler above are `Server.pingQs` … `Server.pingRest`. -/

/-- the part of the data handler in front of `handle_full_packet`: the state in which it is called, `upstream_ok` and
`lastfrag` (it is called iff both are set) -/
def dataPre (s : Srv) (u : Nat) (inb : List Nat) : Srv × Bool × Bool :=
  let b1 := b32_8to5 (inb.getD 1 0)
  let b2 := b32_8to5 (inb.getD 2 0)
  let b3 := b32_8to5 (inb.getD 3 0)
  let upSeq := (b1 >>> 2) &&& 7
  let upFrag := ((b1 &&& 3) <<< 2) ||| ((b2 >>> 3) &&& 3)
  let dnSeq := b2 &&& 7
  let dnFrag := b3 >>> 1
  let lastfrag : Bool := (b3 &&& 1) = 1
  let s1 := processDownstreamAck s u dnSeq dnFrag
  let up := dataUpstream (getUser s1 u) upSeq upFrag
  let upstreamOk := up.2
  let s2 := setUser s1 u fun _ => if upstreamOk then dataStore up.1 (inb.drop 5) else up.1
  (s2, upstreamOk, lastfrag)

def dataRest (p : Srv × Bool × Bool) (u : Nat) (q : Query) : Res :=
  let r3 : Res := if p.2.1 ∧ p.2.2 then handleFullPacket p.1 u else (p.1, [])
  let r4 := dataStepQs r3.1 u
  let r5 := dataStepQ r4.1.1 u p.2.1 p.2.2 r4.2
  let s6 := saveQuery r5.1.1 u q
  let r7 := dataStepFinal s6 u p.2.1 p.2.2 r5.2
  (r7.1, r3.2 ++ r4.1.2 ++ r5.1.2 ++ r7.2)

theorem dataFresh_eq (s : Srv) (u : Nat) (q : Query) (inb : List Nat) :
    dataFresh s u q inb = dataRest (dataPre s u inb) u q := by
  rw [dataFresh, dataRest, dataPre]

end Iodine.C05N

namespace Iodine.Server
open Iodine.Gen

def RawAns (q : Query) (u : Nat) (evs : List Event) : Prop := evs = [] ∨ ∃ b n c, evs = [sendRaw b n u c q]

/-- raw login: nothing, or — the hash was right — the slot is bound to the sender's address and switched to raw mode -/
theorem handleRawLogin_ind {P : Res → Prop} (s : Srv) (packet : List Nat) (q : Query) (u : Nat)
    (nop : P (s, []))
    (ok : ∀ hash, P (setUser (setUser (setUser s u fun x => { x with lastPkt := s.now, q := q, host := q.from_ })
        u fun x => { x with conn := .rawUdp }) u fun x => { x with authenticatedRaw := true },
      [sendRaw hash 16 u RAW_HDR_CMD_LOGIN q])) :
    P (handleRawLogin s packet q u) := by
  rw [handleRawLogin]
  simp only [userSetConnType_eq]
  exact ite_both nop <| ite_both nop <| ite_both nop <| ite_both nop <| ite_both nop <| ite_both (ok _) nop

theorem handleRawPing_ind {P : Res → Prop} (s : Srv) (q : Query) (u : Nat)
    (nop : P (s, []))
    (ok : P (setUser s u fun x => { x with lastPkt := s.now, q := q }, [sendRaw [] 0 u RAW_HDR_CMD_PING q])) :
    P (handleRawPing s q u) := by
  rw [handleRawPing]
  exact ite_both nop <| ite_both nop ok

/-- the state in which `handle_raw_data` calls `handle_full_packet` -/
def rawStored (s : Srv) (u : Nat) (src : Addr) (body : List Nat) : Srv :=
  setUser s u fun x =>
    { x with lastPkt := s.now, q := rawQuery src,
             inpacket := { x.inpacket with offset := 0, data := body, len := body.length } }

theorem handleRawData_ind {P : Res → Prop} (s : Srv) (packet : List Nat) (src : Addr) (u : Nat)
    (nop : P (s, []))
    (ok : checkAuthenticatedUserAndIp s (u : Int) (rawQuery src) = false → (getUser s u).authenticatedRaw = true →
      P (handleFullPacket (rawStored s u src packet) u)) :
    P (handleRawData s packet (rawQuery src) u) := by
  rw [handleRawData]
  exact ite_both' (fun _ => nop) fun hc => ite_both' (fun _ => nop) fun ha =>
    ok ((Bool.not_eq_true _).mp hc) (by cases h : (getUser s u).authenticatedRaw <;> simp [h] at ha ⊢)

theorem handleRawLogin_ans (s : Srv) (packet : List Nat) (q : Query) (u : Nat) :
    RawAns q u (handleRawLogin s packet q u).2 :=
  handleRawLogin_ind (P := fun r => RawAns q u r.2) s packet q u (.inl rfl) (fun _ => .inr ⟨_, _, _, rfl⟩)

theorem handleRawPing_ans (s : Srv) (q : Query) (u : Nat) : RawAns q u (handleRawPing s q u).2 :=
  handleRawPing_ind (P := fun r => RawAns q u r.2) s q u (.inl rfl) (.inr ⟨_, _, _, rfl⟩)

/-- a datagram `raw_decode` handles carries the raw header; it is handed to the handler its command nibble selects, or
dropped -/
theorem rawDecode_cases {s : Srv} {packet : List Nat} {src : Addr} {r : Res} (h : rawDecode s packet src = some r) :
    RAW_HDR_LEN ≤ packet.length ∧ packet.take 3 = rawHeader.take 3 ∧
    ((packet.getD 3 0 &&& RAW_HDR_CMD_MASK = RAW_HDR_CMD_LOGIN ∧
        r = handleRawLogin s (packet.drop RAW_HDR_LEN) (rawQuery src) (packet.getD 3 0 &&& RAW_HDR_USR_MASK)) ∨
     (packet.getD 3 0 &&& RAW_HDR_CMD_MASK = RAW_HDR_CMD_DATA ∧
        r = handleRawData s (packet.drop RAW_HDR_LEN) (rawQuery src) (packet.getD 3 0 &&& RAW_HDR_USR_MASK)) ∨
     (packet.getD 3 0 &&& RAW_HDR_CMD_MASK = RAW_HDR_CMD_PING ∧
        r = handleRawPing s (rawQuery src) (packet.getD 3 0 &&& RAW_HDR_USR_MASK)) ∨
     r = (s, [])) := by
  rw [rawDecode] at h
  by_cases h1 : packet.length < RAW_HDR_LEN
  · rw [if_pos h1] at h; cases h
  rw [if_neg h1] at h
  by_cases h2 : packet.take 3 ≠ rawHeader.take 3
  · rw [if_pos h2] at h; cases h
  rw [if_neg h2] at h
  refine ⟨Nat.le_of_not_lt h1, Decidable.not_not.1 h2, ?_⟩
  dsimp only at h
  by_cases c1 : packet.getD 3 0 &&& RAW_HDR_CMD_MASK = RAW_HDR_CMD_LOGIN
  · rw [if_pos c1] at h; exact .inl ⟨c1, (Option.some.inj h).symm⟩
  rw [if_neg c1] at h
  by_cases c2 : packet.getD 3 0 &&& RAW_HDR_CMD_MASK = RAW_HDR_CMD_DATA
  · rw [if_pos c2] at h; exact .inr (.inl ⟨c2, (Option.some.inj h).symm⟩)
  rw [if_neg c2] at h
  by_cases c3 : packet.getD 3 0 &&& RAW_HDR_CMD_MASK = RAW_HDR_CMD_PING
  · rw [if_pos c3] at h; exact .inr (.inr (.inl ⟨c3, (Option.some.inj h).symm⟩))
  rw [if_neg c3] at h; exact .inr (.inr (.inr (Option.some.inj h).symm))

theorem uncompress_le {d o : List Nat} {cap : Nat} (h : uncompress d cap = some o) : o.length ≤ cap := by
  unfold uncompress at h
  split at h
  · cases h
  · split at h
    · rename_i hc; cases h; exact hc.2
    · cases h

/-- `tunnel_tun` hands the compressed frame to its owner exactly as `handle_full_packet` hands a packet to another
client; a frame without a whole IP header or without an owner is dropped -/
theorem tunnelTun_eq (s : Srv) (frame : List Nat) :
    tunnelTun s frame =
      if frame.length = 0 then (s, [])
      else if frame.length < 4 + 20 then (s, [])
      else match findUserByIp s (ipDst frame) with
        | none => (s, [])
        | some u => deliverToUser s u (compress frame) (compress frame).length := by
  rw [tunnelTun]
  refine ite_both₂ (R := Eq) rfl <| ite_both₂ (R := Eq) rfl ?_
  cases findUserByIp s (ipDst frame) with
  | none => rfl
  | some u =>
    show _ = deliverToUser s u _ _
    rw [deliverToUser]
    dsimp only
    by_cases hc : (getUser s u).conn = .dnsNull
    · rw [if_pos hc, if_pos hc]
      by_cases hl : (getUser s u).outpacket.len = 0
      · rw [if_pos hl, if_neg (by omega)]
      · rw [if_neg hl, if_pos (by omega)]
    · rw [if_neg hc, if_neg hc]

theorem tunnelTun_cases (s : Srv) (frame : List Nat) :
    tunnelTun s frame = (s, []) ∨
      ∃ u, tunnelTun s frame = deliverToUser s u (compress frame) (compress frame).length := by
  rw [tunnelTun_eq]
  refine ite_both (P := fun r => r = (s, []) ∨ ∃ u, r = deliverToUser s u _ _) (.inl rfl) <|
    ite_both (P := fun r => r = (s, []) ∨ ∃ u, r = deliverToUser s u _ _) (.inl rfl) ?_
  cases findUserByIp s (ipDst frame) with
  | none => exact .inl rfl
  | some u => exact .inr ⟨u, rfl⟩

/-- `handle_full_packet` drops the packet, writes it to the tun device (then it is a whole IP frame of at most 64 KiB) or
hands it to another client; in every case the reassembly buffer of `u` is emptied afterwards -/
theorem handleFullPacket_cases (s : Srv) (u : Nat) :
    ∃ r : Res, handleFullPacket s u =
        (setUser r.1 u fun y => { y with inpacket := { y.inpacket with len := 0, offset := 0 } }, r.2) ∧
      (r = (s, []) ∨ (∃ out, 24 ≤ out.length ∧ out.length ≤ 65536 ∧ r = (s, [writeTun out])) ∨
        ∃ t d n, r = deliverToUser s t d n) := by
  rw [handleFullPacket]
  refine ⟨_, rfl, ?_⟩
  cases ho : uncompress ((getUser s u).inpacket.data.take (getUser s u).inpacket.len) 65536 with
  | none => exact .inl rfl
  | some out =>
    dsimp only
    by_cases h24 : out.length ≥ 4 + 20
    · rw [if_pos h24]
      cases findUserByIp s (ipDst out) with
      | none => exact .inr (.inl ⟨out, h24, uncompress_le ho, rfl⟩)
      | some t => exact .inr (.inr ⟨t, _, _, rfl⟩)
    · rw [if_neg h24]; exact .inl rfl

/-- the commands of `handle_null_request` -/
inductive Letter where
  | V | L | I | Z | S | O | Y | R | N | P | D
deriving DecidableEq

/-- the first characters that select a command: the letter in either case, or a hexadecimal digit for upstream data -/
def Letter.codes : Letter → Nat → Prop
  | .V, c => c = 86 ∨ c = 118 | .L, c => c = 76 ∨ c = 108 | .I, c => c = 73 ∨ c = 105 | .Z, c => c = 90 ∨ c = 122
  | .S, c => c = 83 ∨ c = 115 | .O, c => c = 79 ∨ c = 111 | .Y, c => c = 89 ∨ c = 121 | .R, c => c = 82 ∨ c = 114
  | .N, c => c = 78 ∨ c = 110 | .P, c => c = 80 ∨ c = 112 | .D, c => isHexDigit c = true

/-- the command the first character selects, tested in the order of the C `if` cascade -/
def letterOf (c : Nat) : Option Letter :=
  if c = 86 ∨ c = 118 then some .V
  else if c = 76 ∨ c = 108 then some .L
  else if c = 73 ∨ c = 105 then some .I
  else if c = 90 ∨ c = 122 then some .Z
  else if c = 83 ∨ c = 115 then some .S
  else if c = 79 ∨ c = 111 then some .O
  else if c = 89 ∨ c = 121 then some .Y
  else if c = 82 ∨ c = 114 then some .R
  else if c = 78 ∨ c = 110 then some .N
  else if c = 80 ∨ c = 112 then some .P
  else if isHexDigit c then some .D
  else none

def runLetter (s : Srv) (q : Query) (dlen : Nat) : Letter → Res
  | .V => handleVersion s q (C04L.inbOf q dlen)
  | .L => handleLogin s q (C04L.inbOf q dlen)
  | .I => handleIp s q (C04L.inbOf q dlen)
  | .Z => handleZ s q (C04L.inbOf q dlen)
  | .S => handleSwitchCodec s q dlen (C04L.inbOf q dlen)
  | .O => handleOptions s q dlen (C04L.inbOf q dlen)
  | .Y => handleDownCodecCheck s q dlen (C04L.inbOf q dlen)
  | .R => handleFragsizeProbe s q dlen (C04L.inbOf q dlen)
  | .N => handleSetFragsize s q (C04L.inbOf q dlen)
  | .P => handlePing s q (C04L.inbOf q dlen)
  | .D => handleData s q dlen (C04L.inbOf q dlen)

/-- `handle_null_request` is a table lookup: fewer than two data characters or an unknown first character do nothing -/
theorem handleNullRequest_eq (s : Srv) (q : Query) (dlen : Nat) :
    handleNullRequest s q dlen =
      if dlen < 2 then (s, [])
      else match letterOf ((C04L.inbOf q dlen).getD 0 0) with
        | some l => runLetter s q dlen l
        | none => (s, []) := by
  rw [handleNullRequest]
  refine ite_both₂ (R := Eq) rfl ?_
  have st {c : Prop} [Decidable c] {a a' : Res} {b b' : Option Letter} :=
    @ite_both₂ Res (Option Letter) (fun a b => a = match b with | some l => runLetter s q dlen l | none => (s, [])) c _ a a' b b'
  exact st rfl <| st rfl <| st rfl <| st rfl <| st rfl <| st rfl <| st rfl <| st rfl <| st rfl <| st rfl <| st rfl rfl

theorem letterOf_some {c : Nat} {l : Letter} : letterOf c = some l → l.codes c := by
  have k : ∀ l' : Letter, l'.codes c → some l' = some l → l.codes c := fun l' h e => Option.some.inj e ▸ h
  have st {p : Prop} [Decidable p] {a b : Option Letter} :=
    @ite_both' (Option Letter) (fun o => o = some l → l.codes c) p _ a b
  exact st (k .V) fun _ => st (k .L) fun _ => st (k .I) fun _ => st (k .Z) fun _ => st (k .S) fun _ => st (k .O) fun _ =>
    st (k .Y) fun _ => st (k .R) fun _ => st (k .N) fun _ => st (k .P) fun _ => st (k .D) fun _ => nofun

/-- the codes of different commands are disjoint, so the order of the tests does not matter -/
theorem letterOf_of_codes {c : Nat} {l : Letter} (h : l.codes c) : letterOf c = some l := by
  have hx : isHexDigit c = true → (48 ≤ c ∧ c ≤ 57) ∨ (97 ≤ c ∧ c ≤ 102) ∨ (65 ≤ c ∧ c ≤ 70) := by
    simp only [isHexDigit, Bool.or_eq_true, Bool.and_eq_true, decide_eq_true_eq, or_assoc]; exact id
  unfold letterOf
  cases l
  case D =>
    have h' : isHexDigit c = true := h
    have := hx h'
    rw [if_neg (by omega), if_neg (by omega), if_neg (by omega), if_neg (by omega), if_neg (by omega), if_neg (by omega),
      if_neg (by omega), if_neg (by omega), if_neg (by omega), if_neg (by omega), if_pos h']
  all_goals
    rcases (h : _ ∨ _) with rfl | rfl <;> rfl

/-- what holds of the result of every command's handler, reached with its first character, holds of the result of
`handle_null_request` -/
theorem handleNullRequest_letter {P : Res → Prop} (s : Srv) (q : Query) (dlen : Nat) (nop : P (s, []))
    (cmd : 2 ≤ dlen → ∀ l, l.codes ((C04L.inbOf q dlen).getD 0 0) → P (runLetter s q dlen l)) :
    P (handleNullRequest s q dlen) := by
  rw [handleNullRequest_eq]
  refine ite_both' (fun _ => nop) fun h2 => ?_
  cases hl : letterOf ((C04L.inbOf q dlen).getD 0 0) with
  | none => exact nop
  | some l => exact cmd (Nat.le_of_not_lt h2) l (letterOf_some hl)

/-- the `ns.`/`www.` A queries and NS queries: nothing, or one `nsa` event -/
theorem handleARequest_ind {P : Res → Prop} (s : Srv) (q : Query) (fake : Bool) (nop : P (s, []))
    (nsa : P (s, [Event.nsa q.from_])) : P (handleARequest s q fake) := by
  rw [handleARequest]; exact ite_both nop nsa

theorem handleNsRequest_ind {P : Res → Prop} (s : Srv) (q : Query) (dlen : Nat) (nop : P (s, []))
    (nsa : P (s, [Event.nsa q.from_])) : P (handleNsRequest s q dlen) := by
  rw [handleNsRequest]; exact ite_both nop nsa

/-- `tunnel_dns`: the `ns.`/`www.` A queries, a query of one of the tunnel types inside the domain, an NS query, a query
outside the domain -/
theorem tunnelDns_ind {P : Res → Prop} (s : Srv) (q : Query) (nop : P (s, [])) (A : ∀ fake, P (handleARequest s q fake))
    (null : ∀ dlen, Common.queryDatalen q.name s.cfg.topdomain = some dlen →
      C16L.TunnelType q.type → P (handleNullRequest s q dlen))
    (ns : ∀ dlen, P (handleNsRequest s q dlen)) (fwd : P (forwardQuery s q)) : P (tunnelDns s q) := by
  rw [tunnelDns]
  refine ite_both nop ?_
  cases hd : Common.queryDatalen q.name s.cfg.topdomain with
  | none => exact ite_both fwd nop
  | some dlen => exact ite_both (A _) <| ite_both (A _) <| ite_both' (null dlen hd) fun _ => ite_both (ns dlen) nop

/-- the handler the input selects (a tun frame is read only if `tun_fd` was selected) -/
theorem dispatch_ind {P : Res → Prop} (s : Srv) (inp : Input) (tunsel : Bool) (nop : P (s, []))
    (tun : ∀ frame, inp = .tun frame → P (tunnelTun s (frame.take 65536))) (dns : ∀ q, inp = .q q → P (tunnelDns s q))
    (raw : ∀ src bytes r, inp = .rawf src bytes → rawDecode s (bytes.take 65536) src = some r → P r)
    (bind : ∀ bytes, inp = .bind bytes → P (tunnelBind s (bytes.take 65536))) : P (dispatch s inp tunsel) := by
  cases inp with
  | tick => exact nop
  | tun frame => exact ite_both (tun frame rfl) nop
  | q q => exact dns q rfl
  | rawf src bytes =>
    rw [dispatch]
    cases hr : rawDecode s (bytes.take 65536) src with
    | some r => exact raw src bytes r rfl hr
    | none => exact nop
  | bind bytes => exact ite_both (bind bytes rfl) nop

/-- after the handler: the sweep marker, the sweep, and the harness's `tunskip` note for a tun frame offered while
`tun_fd` was not selected -/
theorem body_eq (s : Srv) (inp : Input) (tunsel : Bool) : ∃ note, (note = [] ∨ note = [Event.tunskip]) ∧
    body s inp tunsel = ((sweep (dispatch s inp tunsel).1).1,
      (dispatch s inp tunsel).2 ++ Event.sweep :: ((sweep (dispatch s inp tunsel).1).2 ++ note)) := by
  have e : ∀ note, (andThen (andThen (dispatch s inp tunsel) fun s => (s, [Event.sweep])) sweep).2 ++ note =
      (dispatch s inp tunsel).2 ++ Event.sweep :: ((sweep (dispatch s inp tunsel).1).2 ++ note) := fun note => by
    simp only [andThen, List.append_assoc, List.cons_append, List.nil_append]
  cases inp with
  | tun frame =>
    cases tunsel
    · exact ⟨_, .inr rfl, Prod.ext rfl (e _)⟩
    · exact ⟨[], .inl rfl, Prod.ext rfl ((List.append_nil _).symm.trans (e []))⟩
  | _ => exact ⟨[], .inl rfl, Prod.ext rfl ((List.append_nil _).symm.trans (e []))⟩

end Iodine.Server
