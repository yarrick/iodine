import IodineModel.Lemmas.C02M6
import IodineModel.Lemmas.C02R5
/-
Overlapping transfers in lazy mode, server side: an upstream fragment arrives while the server holds NO query (`q.id = 0`,
`qs.id = 0`) and HAS a downstream fragment in flight, which the data query does not acknowledge (it acknowledges an older one).
Nothing advances downstream; the upstream fragment is stored — the LAST one completes the packet, which is written to tun —; the
new query is answered at once with the SAME downstream fragment again (`outfragresent + 1`) and remembered: `srv_recv_noq_out`, one
statement for both kinds of fragment.  The iteration is the data handler on the slot (`iteration_upq`, C02v5).
-/
namespace Iodine.C02L
open Iodine Iodine.Gen Iodine.Server Iodine.World

theorem dataASess_accept_stale (x : Session) (h : UpHdr) (payload : List Nat) (I : Packet)
    (hstale : x.outpacket.seqno ≠ h.dnSeq ∨ x.outpacket.fragment ≠ h.dnFrag)
    (hup : dataUpstream x h.upSeq h.upFrag = ({ x with inpacket := I }, true)) :
    dataASess x h.upSeq h.upFrag h.dnSeq h.dnFrag payload = (stored x I payload, true) := by
  unfold dataASess stored
  simp only [ackSess_other x _ _ (Or.inr (hstale.elim Or.inl fun h => Or.inr (Or.inl h))), hup, if_true]

/-- a fragment that is not the last one on a slot that holds no query and has a downstream fragment in flight which the
query does not acknowledge: stored; the new query is answered at once by `send_chunk_or_dataless` -/
theorem dataSess_noq_mid_out (x : Session) (u : Nat) (Q : Query) (h : UpHdr) (payload : List Nat) (now : Nat) (I : Packet)
    (hout : x.outpacket.len > 0) (hq : x.q.id = 0) (hqs : x.qs.id = 0) (hlast : h.last = false)
    (hstale : x.outpacket.seqno ≠ h.dnSeq ∨ x.outpacket.fragment ≠ h.dnFrag)
    (hup : dataUpstream x h.upSeq h.upFrag = ({ x with inpacket := I }, true)) :
    dataSess x u Q h payload now = (scSess (saveQ (stored x I payload) Q now) u .q).1 := by
  unfold dataSess
  rw [dataASess_accept_stale x h payload I hstale hup]
  simp only [hlast, Bool.false_eq_true, and_false, if_false]
  have e1 : stepQsSess (stored x I payload) u = ((stored x I payload, []), false) := by
    simp [stepQsSess, stored, dataStore, hqs]
  rw [e1]
  simp only
  have e2 : stepQSess (stored x I payload) u true false false = ((stored x I payload, []), false) := by
    unfold stepQSess
    rw [if_neg (by simp [stored, dataStore, hq])]
  rw [e2]
  simp only
  have e3 : stepFinalSess (saveQ (stored x I payload) Q now) u true false false =
      (scSess (saveQ (stored x I payload) Q now) u .q).1 := by
    unfold stepFinalSess
    rw [if_pos ⟨by simpa [saveQ, stored, dataStore] using hout, by simp⟩]
  rw [e3]
  simp

/-- `send_chunk_or_dataless` on a slot whose downstream fragment in flight (not a whole packet) is unacknowledged: the SAME
fragment goes out again as the answer to the query just stored in `q` (data-CMC counter `k`), which is remembered -/
theorem scSess_resend {P : Par} (hP : P.Ok) (y : Session) {Q : Query} {hdr : UpHdr} {chunk : List Nat} {outD : List Nat}
    {sqd : Int} {od D fd k sd : Nat} (hQ : UpQ P Q hdr k chunk) (hk : k < 36)
    (hyo : y.outpacket = ⟨outD.length, D, od, outD, sqd, (fd : Int)⟩) (hyq : y.q = Q) (hyoq : y.oqFilled = 0)
    (hyres : y.outfragresent ≤ 5) (hD : 0 < D) (hDdef : D = downLen y.fragsize (outD.length - od))
    (hle : od + D ≤ outD.length) (hnd : D < outD.length) (hfd : fd < 16) (hsqd : 0 ≤ sqd ∧ sqd < 8)
    (hyA : Aged P y ((k + 1) % 36) 2) (hyPA : PAged P y sd 1)
    (hi1 : 0 ≤ y.inpacket.seqno ∧ y.inpacket.seqno < 8) (hi2 : 0 ≤ y.inpacket.fragment ∧ y.inpacket.fragment < 16) :
    ∃ Y pkt, scSess y P.u .q = ((Y, [writeDns Q pkt y.downenc (.chunk P.u)]), false) ∧
      core Y = core { y with q := { Q with id := 0 }, outfragresent := y.outfragresent + 1 } ∧
      Aged P Y ((k + 1) % 36) 1 ∧ PAged P Y sd 1 ∧
      FragPkt pkt outD sqd od D fd (decide (outD.length > 0 ∧ outD.length = od + D)) ∧
      (Client.decodeHdr pkt).upSeq = y.inpacket.seqno ∧ (Client.decodeHdr pkt).upFrag = y.inpacket.fragment := by
  have hDy : scDatalen y = D := by
    unfold scDatalen
    rw [hyo]
    simp only
    rw [if_pos (by omega), hDdef]
    rfl
  have hsd := scSess_data y P.u .q (by rw [hyo]; show 0 < outD.length; omega) hyres
    (by show y.q.id2 = 0; rw [hyq]; exact hQ.id2) hyoq
  rw [hDy] at hsd
  have hnw : ¬ (D > 0 ∧ D = y.outpacket.len) := by rw [hyo]; intro h; have := h.2; simp at this; omega
  rw [if_neg hnw] at hsd
  have hgetq : QSel.q.get y = Q := hyq
  rw [hgetq] at hsd
  generalize hz : prepOut y = z at hsd
  have hzc : core z = core { y with outfragresent := y.outfragresent + 1 } := by
    subst hz
    unfold prepOut
    rw [hDy]
    have : ({ y.outpacket with sentlen := D } : Packet) = y.outpacket := by rw [hyo]
    rw [this]
  have hzA : Aged P z ((k + 1) % 36) 2 := by subst hz; exact hyA.congr rfl rfl rfl rfl
  have hzPA : PAged P z sd 1 := by subst hz; exact hyPA.congr rfl rfl rfl rfl
  have hzo : z.outpacket = ⟨outD.length, D, od, outD, sqd, (fd : Int)⟩ := by
    have h9 := core_outpacket hzc; exact h9.trans hyo
  have hzin : z.inpacket = y.inpacket := by have h9 := core_inpacket hzc; exact h9
  have hplen : (scPkt z D).length ≤ DNSCACHE_ANSWER_SIZE := by
    have h1 := scPkt_length z D
    have : D ≤ 4094 := by rw [hDdef]; unfold downLen; omega
    simp only [DNSCACHE_ANSWER_SIZE]; rw [h1]; omega
  have hAm := hzA.memo Q (scPkt z D) hplen k 1 ⟨by omega, by omega⟩ (behind_succ_mod hk) hk hQ.c4 hQ.len5
    (by rw [hQ.c0]; exact hexLower_ne_p hP.hu)
  have hPm := hzPA.memo_data hP.hu Q (scPkt z D) hplen hQ.len5 hQ.c0
  have hans : answered y .q = { cacheUpd (qmemUpd z Q) Q (scPkt z D) with q := { Q with id := 0 } } := by
    unfold answered
    rw [hDy, hz, hgetq]
    rfl
  rw [hans] at hsd
  have hz1 : 0 ≤ z.inpacket.seqno ∧ z.inpacket.seqno < 8 := by rw [hzin]; exact hi1
  have hz2 : 0 ≤ z.inpacket.fragment ∧ z.inpacket.fragment < 16 := by rw [hzin]; exact hi2
  have hdec := decodeHdr_scPkt z D hz1 hz2 (by rw [hzo]; exact hsqd) (by rw [hzo]; show (0 : Int) ≤ fd ∧ (fd : Int) < 16; omega)
  refine ⟨_, scPkt z D, hsd, ?_, hAm.congr rfl rfl rfl rfl, hPm.congr rfl rfl rfl rfl,
    fragPkt_of z outD sqd od D fd hzo hle hsqd hfd hz1 hz2, ?_, ?_⟩
  · have h1 := core_memo z Q (scPkt z D)
    have h2 := hzc
    unfold core at h1 h2 ⊢
    simp only [Session.mk.injEq] at h1 h2 ⊢
    simp [h1, h2]
  · rw [hdec]; show z.inpacket.seqno = _; rw [hzin]
  · rw [hdec]; show z.inpacket.fragment = _; rw [hzin]

/-- the last fragment on a slot that holds no query and has a downstream fragment in flight which the query does not
acknowledge: stored, the packet handed on; the new query is answered at once by `send_chunk_or_dataless` -/
theorem dataSess_noq_last_out (x : Session) (u : Nat) (Q : Query) (h : UpHdr) (payload : List Nat) (now : Nat) (I : Packet)
    (hout : x.outpacket.len > 0) (hq : x.q.id = 0) (hqs : x.qs.id = 0) (hlast : h.last = true)
    (hstale : x.outpacket.seqno ≠ h.dnSeq ∨ x.outpacket.fragment ≠ h.dnFrag)
    (hup : dataUpstream x h.upSeq h.upFrag = ({ x with inpacket := I }, true)) :
    dataSess x u Q h payload now =
      ((scSess (saveQ (fullSess (stored x I payload)) Q now) u .q).1.1,
       fullEvs (stored x I payload) ++ (scSess (saveQ (fullSess (stored x I payload)) Q now) u .q).1.2) := by
  unfold dataSess
  rw [dataASess_accept_stale x h payload I hstale hup]
  simp only [hlast, and_self, if_true]
  have e1 : stepQsSess (fullSess (stored x I payload)) u = ((fullSess (stored x I payload), []), false) := by
    simp [stepQsSess, fullSess, stored, dataStore, hqs]
  rw [e1]
  simp only
  have e2 : stepQSess (fullSess (stored x I payload)) u true true false = ((fullSess (stored x I payload), []), false) := by
    unfold stepQSess
    rw [if_neg (by simp [fullSess, stored, dataStore, hq])]
  rw [e2]
  simp only
  have e3 : stepFinalSess (saveQ (fullSess (stored x I payload)) Q now) u true true false =
      (scSess (saveQ (fullSess (stored x I payload)) Q now) u .q).1 := by
    unfold stepFinalSess
    rw [if_pos ⟨by simpa [saveQ, fullSess, stored, dataStore] using hout, by simp⟩]
  rw [e3]
  simp

/-- **An upstream fragment reaches a server that holds no query and has a downstream fragment in flight which the data query
does not acknowledge** (`frame`: the upstream packet, when this is its last fragment).  The fragment is stored — the last one
completes the packet, which is written to tun —, and the new query is answered at once with the SAME downstream fragment
again (`outfragresent + 1`), header acknowledging the upstream fragment, and remembered. -/
theorem srv_recv_noq_out {P : Par} (hP : P.Ok) {s : Srv} (hp : PingSrvL P s)
    {outD : List Nat} {sqd : Int} {od D fd : Nat}
    (hop : (getUser s P.u).outpacket = ⟨outD.length, D, od, outD, sqd, (fd : Int)⟩)
    (hD : 0 < D) (hDdef : D = downLen (getUser s P.u).fragsize (outD.length - od)) (hle : od + D ≤ outD.length)
    (hnd : D < outD.length) (hfd : fd < 16) (hsqd : 0 ≤ sqd ∧ sqd < 8)
    {k sd : Nat} (hk : k < 36) (hA : Aged P (getUser s P.u) k 1) (hPA : PAged P (getUser s P.u) sd 1)
    {Q : Query} {sq fr : Nat} {dsq dfr : Int} {lst : Bool} {out : List Nat} {o m : Nat}
    (hQ : UpQ P Q ⟨sq, fr, dsq, dfr, lst⟩ k ((out.drop o).take m))
    (hstale : dsq ≠ sqd ∨ dfr ≠ (fd : Int))
    (hE : Expect (getUser s P.u) out sq o fr) (hsq : sq < 8) (hfr : fr < 16)
    (hm : o + m ≤ out.length) (h64 : out.length ≤ 65536) (frame : List Nat)
    (hl : lst = true → o + m = out.length ∧ out = 0x5a :: frame ∧ 24 ≤ frame.length ∧ ipDst frame ≠ (getUser s P.u).tunIp) :
    ∃ s' evs t pkt, iteration s (.q Q) s.now = (s', evs, t) ∧
      downOfEvents evs = [.ans Q.id Q.type Q.name pkt] ∧
      tunOfSEvents evs = cond lst [[0, 0, 8, 0] ++ frame.drop 4] [] ∧
      NoQSrv P true s' ∧ Kept (getUser s' P.u) (getUser s P.u) ∧
      (getUser s' P.u).outfragresent = (getUser s P.u).outfragresent + 1 ∧
      ((getUser s' P.u).inpacket.seqno = (sq : Int) ∧ (getUser s' P.u).inpacket.fragment = (fr : Int) ∧
        (lst = false → Expect (getUser s' P.u) out sq (o + m) (fr + 1))) ∧ s'.now = s.now ∧
      FragPkt pkt outD sqd od D fd (decide (outD.length > 0 ∧ outD.length = od + D)) ∧
      (Client.decodeHdr pkt).upSeq = (sq : Int) ∧ (Client.decodeHdr pkt).upFrag = (fr : Int) ∧
      Aged P (getUser s' P.u) ((k + 1) % 36) 1 ∧ PAged P (getUser s' P.u) sd 1 := by
  have hS := hp.stat
  obtain ⟨payload, hpl, hiter⟩ := iteration_upq hP hS hk (hA.fresh hk (by omega)) hQ (Or.inl hp.q) (Or.inl hp.qs)
  generalize hx0 : ({ getUser s P.u with qsNew := false } : Session) = x0 at hiter
  have htop : x0 = { getUser s P.u with qsNew := false } := hx0.symm
  have hx0s : XStat P x0 := by
    rw [htop]; exact ⟨hS.x.active, hS.x.auth, hS.x.enabled, hS.x.conn, hS.x.enc, hS.x.oseq, hS.x.ofrag, hS.x.iseq, hS.x.ifrag⟩
  have hx0op : x0.outpacket = ⟨outD.length, D, od, outD, sqd, (fd : Int)⟩ := by rw [htop]; exact hop
  have hx0q : x0.q.id = 0 := by rw [htop]; exact hp.q
  have hx0qs : x0.qs.id = 0 := by rw [htop]; exact hp.qs
  have hx0res : x0.outfragresent = (getUser s P.u).outfragresent := by rw [htop]
  have hx0e : Expect x0 out sq o fr := by rw [htop]; exact hE
  have hx0t : x0.tunIp = (getUser s P.u).tunIp := by rw [htop]
  have hx0fs : x0.fragsize = (getUser s P.u).fragsize := by rw [htop]
  have hx0A : Aged P x0 ((k + 1) % 36) 2 := by rw [htop]; exact (hA.step hk (by omega)).congr rfl rfl rfl rfl
  have hx0PA : PAged P x0 sd 1 := by rw [htop]; exact hPA.congr rfl rfl rfl rfl
  have hx0st : x0.outpacket.seqno ≠ dsq ∨ x0.outpacket.fragment ≠ dfr := by
    rw [hx0op]
    rcases hstale with h | h
    · exact Or.inl (fun hc => h hc.symm)
    · exact Or.inr (fun hc => h hc.symm)
  have hx0out : x0.outpacket.len > 0 := by rw [hx0op]; show 0 < outD.length; omega
  obtain ⟨I, hup, hI⟩ := accept_of_expect hx0e hx0s.iseq
  obtain ⟨e1, e2, e3, e4, e5, hstc⟩ := expect_stored hP (sq := sq) (f := fr) hx0s.enc _ hpl hI hm h64
  have hstm : MemEq (stored x0 I payload) x0 := by unfold stored dataStore; exact ⟨rfl, rfl, rfl, rfl, rfl, rfl⟩
  have hacc := dataASess_accept_stale x0 ⟨sq, fr, dsq, dfr, lst⟩ payload I hx0st hup
  have hun : lst = true → uncompress ((stored x0 I payload).inpacket.data.take (stored x0 I payload).inpacket.len) 65536 = some frame := by
    intro hlt
    obtain ⟨hm', ho, -, -⟩ := hl hlt
    subst ho
    rw [e5, e4, hm', List.take_take, Nat.min_self, List.take_length]
    exact uncompress_compress frame (by simp at h64; omega)
  -- the slot `send_chunk_or_dataless` works on (`J`: its reassembly buffer), and what was handed on before
  obtain ⟨y, J, pre, hds, hpre, hyc, hyA, hyPA, hJ1, hJ2, hJE⟩ : ∃ (y : Session) (J : Packet) (pre : List Event),
      dataSess x0 P.u Q ⟨sq, fr, dsq, dfr, lst⟩ payload s.now =
        ((scSess y P.u .q).1.1, pre ++ (scSess y P.u .q).1.2) ∧ pre = cond lst [writeTun frame] [] ∧
      core y = core { x0 with inpacket := J, q := Q, lastPkt := s.now } ∧
      Aged P y ((k + 1) % 36) 2 ∧ PAged P y sd 1 ∧
      J.seqno = (sq : Int) ∧ J.fragment = (fr : Int) ∧
      (lst = false → J.offset = o + m ∧ J.len = o + m ∧ J.data = out.take (o + m)) := by
    cases lst with
    | false =>
      refine ⟨saveQ (stored x0 I payload) Q s.now, (stored x0 I payload).inpacket, [],
        (dataSess_noq_mid_out x0 P.u Q _ payload s.now I hx0out hx0q hx0qs rfl hx0st hup).trans (Prod.ext rfl (List.nil_append _).symm),
        rfl, ?_,
        hx0A.congr hstm.q hstm.ql hstm.c hstm.cl, hx0PA.congr hstm.p hstm.pl hstm.c hstm.cl, e1, e2,
        fun _ => ⟨e3, e4, e5⟩⟩
      have := hstc
      unfold core at this ⊢
      unfold saveQ
      simp only [Session.mk.injEq] at this ⊢
      simp [this]
    | true =>
      have hfe : fullEvs (stored x0 I payload) = [writeTun frame] := by
        unfold fullEvs
        rw [hun rfl]
        simp only
        rw [if_pos (by have := (hl rfl).2.2.1; omega)]
      refine ⟨saveQ (fullSess (stored x0 I payload)) Q s.now, { (stored x0 I payload).inpacket with len := 0, offset := 0 },
        [writeTun frame], ?_, rfl, ?_, hx0A.congr hstm.q hstm.ql hstm.c hstm.cl, hx0PA.congr hstm.p hstm.pl hstm.c hstm.cl, e1, e2, fun h => nomatch h⟩
      · rw [dataSess_noq_last_out x0 P.u Q _ payload s.now I hx0out hx0q hx0qs rfl hx0st hup, hfe]
      · have := hstc
        unfold core at this ⊢
        unfold saveQ fullSess
        simp only [Session.mk.injEq] at this ⊢
        simp [this]
  generalize hyy : y = y' at hds hyc hyA hyPA
  have hyin : y'.inpacket = J := by have h9 := core_inpacket hyc; exact h9
  obtain ⟨Y, pkt, hsc, hYc0, hYA, hYPA, hfp, hu1, hu2⟩ := scSess_resend hP y' hQ hk
    (by have h9 := core_outpacket hyc; exact h9.trans hx0op) (by have h9 := core_q hyc; exact h9)
    (by have h9 := core_oqFilled hyc; rw [h9, htop]; exact hp.oq)
    (by have h9 := core_outfragresent hyc; rw [h9, hx0res]; have := hp.res; omega) hD
    (by have h9 := core_fragsize hyc; rw [h9, hx0fs]; exact hDdef) hle hnd hfd hsqd hyA hyPA
    (by rw [hyin, hJ1]; omega) (by rw [hyin, hJ2]; omega)
  rw [hsc] at hds
  have hYc : core Y = core { x0 with
      inpacket := J, q := { Q with id := 0 }, lastPkt := s.now, outfragresent := x0.outfragresent + 1 } := by
    have h1 := hYc0
    have h3 := hyc
    unfold core at h1 h3 ⊢
    simp only [Session.mk.injEq] at h1 h3 ⊢
    simp [h1, h3]
  have hit := hiter Y _ hds (Or.inl (by have h9 := core_qs hYc; rw [h9]; exact hx0qs)) (by
    intro _ hlt
    obtain ⟨-, -, -, hdst⟩ := hl hlt
    rw [hacc]
    intro ⟨out', h1, _, _, _, _, _, h7⟩
    rw [hun hlt] at h1
    have : out' = frame := (Option.some.inj h1).symm
    subst this
    have : (stored x0 I payload).tunIp = x0.tunIp := by have h9 := core_tunIp hstc; exact h9
    rw [this, hx0t] at h7
    exact hdst h7)
  have hYin : Y.inpacket = J := by have h9 := core_inpacket hYc; exact h9
  have hk' : Kept Y (getUser s P.u) :=
    (Kept.of_core hYc).trans (by rw [htop]; exact ⟨rfl, rfl, rfl, rfl, rfl, rfl, rfl, rfl, rfl, rfl, rfl⟩)
  have hg := getUser_put hS Y s.now
  refine ⟨_, _, _, pkt, hit, ?_, ?_,
    ⟨hS.put hk' (by rw [hYin, hJ1]; omega) (by rw [hYin, hJ2]; omega)
      (by have h9 := core_lastPkt hYc; rw [h9]; show s.now < s.now + 60; omega), ?_, ?_, ?_, ?_⟩,
    by rw [hg]; exact hk', ?_, ⟨?_, ?_, ?_⟩, rfl, hfp, ?_, ?_, ?_, ?_⟩
  · simp only [List.append_nil, downOfEvents_append, downOfEvents_sweep, downOfEvents_writeDns _ _ _ _ hQ.from_, hpre]
    cases lst <;> rfl
  · simp only [List.append_nil, tunOfSEvents_append, tunOfSEvents_writeDns, tunOfSEvents_sweep, hpre]
    cases lst <;> rfl
  · rw [hg]; have h9 := core_q hYc; rw [h9]
  · rw [hg]; have h9 := core_qs hYc; rw [h9]; exact hx0qs
  · rw [hg]; exact hk'.lazy.trans hp.lz
  · rw [hg]; exact hk'.oqFilled.trans hp.oq
  · rw [hg]; have h9 := core_outfragresent hYc; rw [h9, hx0res]
  · rw [hg, hYin]; exact hJ1
  · rw [hg, hYin]; exact hJ2
  · intro hlf
    rw [hg]
    right
    rw [hYin]
    obtain ⟨e3', e4', e5'⟩ := hJE hlf
    exact ⟨by omega, hJ1, by rw [hJ2]; omega, e3', e4', by rw [e5']; exact List.take_take .. |>.trans (by simp)⟩
  · rw [hu1, hyin]; exact hJ1
  · rw [hu2, hyin]; exact hJ2
  · rw [hg]; exact hYA
  · rw [hg]; exact hYPA

#print axioms srv_recv_noq_out

end Iodine.C02L
