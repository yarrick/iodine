import IodineModel.Lemmas.C02qA2
import IodineModel.Lemmas.BytesH
import IodineModel.Lemmas.Steps
import IodineModel.Lemmas.C02qA6
/-
Ring well-formedness after an arbitrary fault prefix.  `RingWF` of EVERY slot (`SrvWF`) is kept by every primitive step of
an iteration (`closed_wf`, over `Prim` of Lemmas/Steps), hence by one whole iteration of `tunnel()` for EVERY input
(`srvWF_iteration`), by every event of the scheduler's alphabet (`srvWF_step`) and by every schedule (`srvWF_run`), from
every configured server (`srvWF_init`).  So the hypothesis `RingWF` of the renewal theorems (`CleanSess.renewed`,
`CleanBoth.renewed`) holds after ANY fault prefix whatsoever.
-/
namespace Iodine.C02L
open Iodine Iodine.Server Iodine.Gen Iodine.World

/-- the three duplicate memories of every slot of the table have their lengths and fill pointers in range -/
def SrvWF (s : Srv) : Prop := ∀ x ∈ s.users, RingWF x

/-- a `calloc`ed slot is well-formed -/
theorem ringWF_zero (t : Nat) : RingWF (Session.zero t) :=
  ⟨by simp [Session.zero], Nat.zero_lt_succ _, by simp [Session.zero], Nat.zero_lt_succ _, by simp [Session.zero],
    Nat.zero_lt_succ _⟩

/-- … so the invariant speaks about `users[v]` for every `v`, also outside the table -/
theorem SrvWF.get {s : Srv} (h : SrvWF s) (v : Nat) : RingWF (getUser s v) := slots_getUser h (ringWF_zero 0) v

theorem srvWF_iff (s : Srv) : SrvWF s ↔ ∀ v, RingWF (getUser s v) := by
  refine ⟨fun h v => h.get v, fun h x hx => ?_⟩
  obtain ⟨v, hv, rfl⟩ := List.getElem_of_mem hx
  have := h v
  unfold getUser at this
  rwa [List.getD_eq_getElem?_getD, List.getElem?_eq_getElem hv] at this

theorem srvWF_init (cfg : Config) (nb : Nat) : SrvWF (Srv.init cfg nb) := by
  intro x hx
  simp only [Srv.init, List.mem_map] at hx
  obtain ⟨t, _, rfl⟩ := hx
  exact ringWF_zero t

theorem SrvWF.setUser {s : Srv} (h : SrvWF s) (u : Nat) (f : Session → Session) (hf : ∀ x, RingWF x → RingWF (f x)) :
    SrvWF (setUser s u f) := slots_setUser h u f hf

theorem SrvWF.users {s s' : Srv} (h : SrvWF s) (hu : s'.users = s.users) : SrvWF s' := by
  unfold SrvWF; rw [hu]; exact h

theorem RingWF.same {x y : Session} (h : RingWF x) (h1 : y.qmemdata = x.qmemdata := by rfl)
    (h2 : y.qmemdataLast = x.qmemdataLast := by rfl) (h3 : y.qmemping = x.qmemping := by rfl)
    (h4 : y.qmempingLast = x.qmempingLast := by rfl) (h5 : y.dnscache = x.dnscache := by rfl)
    (h6 : y.dcLast = x.dcLast := by rfl) : RingWF y := h.congr h1 h2 h3 h4 h5 h6

theorem RingWF.qset {x : Session} (h : RingWF x) (w : QSel) (q : Query) : RingWF (w.set x q) := by
  cases w <;> exact h.same

theorem wf_popRand {s : Srv} (h : SrvWF s) : SrvWF (popRand s).2 := by
  unfold popRand
  split
  · exact h
  · exact h.users rfl

theorem wf_startNewOutpacket {s : Srv} (h : SrvWF s) (u : Nat) (d : List Nat) (n : Nat) : SrvWF (startNewOutpacket s u d n) := by
  unfold startNewOutpacket
  exact h.setUser _ _ fun x hx => hx.same

theorem wf_saveToOutpacketq {s : Srv} (h : SrvWF s) (u : Nat) (d : List Nat) (n : Nat) : SrvWF (saveToOutpacketq s u d n).1 := by
  unfold saveToOutpacketq
  extract_lets x
  split
  · exact h
  · exact h.setUser _ _ fun y hy => hy.same

theorem wf_getFromOutpacketq {s : Srv} (h : SrvWF s) (u : Nat) : SrvWF (getFromOutpacketq s u).1 := by
  unfold getFromOutpacketq
  extract_lets x use p s1 use'
  split
  · exact h
  · exact (wf_startNewOutpacket h u _ _).setUser _ _ fun y hy => hy.same

theorem wf_saveToDnscache {s : Srv} (h : SrvWF s) (u : Nat) (q : Query) (a : List Nat) : SrvWF (saveToDnscache s u q a) := by
  rw [saveToDnscache_eq, putUser]
  exact h.setUser _ _ fun _ _ => (h.get u).cacheUpd q a

theorem wf_saveToQmemPingOrData {s : Srv} (h : SrvWF s) (u : Nat) (q : Query) : SrvWF (saveToQmemPingOrData s u q) := by
  rw [saveToQmemPingOrData_eq, putUser]
  exact h.setUser _ _ fun _ _ => (h.get u).qmemUpd q

theorem wf_scDropResent {s : Srv} (h : SrvWF s) (u : Nat) : SrvWF (scDropResent s u) := by
  unfold scDropResent
  extract_lets x
  split
  · exact wf_getFromOutpacketq (h.setUser _ _ fun x hx => hx.same) u
  · exact h

theorem wf_scPrepare {s : Srv} (h : SrvWF s) (u : Nat) : SrvWF (scPrepare s u) := by
  unfold scPrepare
  split
  · exact h.setUser _ _ fun x hx => hx.same
  · exact h

theorem wf_processDownstreamAck {s : Srv} (h : SrvWF s) (u : Nat) (a b : Int) : SrvWF (processDownstreamAck s u a b) := by
  unfold processDownstreamAck
  extract_lets x off s1
  have h1 : SrvWF s1 := h.setUser _ _ fun x hx => hx.same
  exact ite_both h <| ite_both h <| ite_both h <|
    ite_both (wf_getFromOutpacketq (h1.setUser _ _ fun x hx => hx.same) u) h1

theorem wf_saveQuery {s : Srv} (h : SrvWF s) (u : Nat) (q : Query) : SrvWF (saveQuery s u q) := by
  unfold saveQuery
  exact h.setUser _ _ fun x hx => hx.same

theorem wf_sc {s : Srv} (h : SrvWF s) (u : Nat) (w : QSel) : SrvWF (sendChunkOrDataless s u w).1.1 := by
  unfold sendChunkOrDataless
  extract_lets s1 x datalen pkt a s2 s3 src s4 r
  have h1 : SrvWF s1 := wf_scPrepare (wf_scDropResent h u) u
  have h2 : SrvWF s2 := wf_saveToQmemPingOrData h1 u _
  have h3 : SrvWF s3 := wf_saveToDnscache h2 u _ pkt
  have h4 : SrvWF s4 := h3.setUser _ _ fun y hy => hy.qset w _
  split
  · exact wf_getFromOutpacketq (h4.setUser _ _ fun y hy => hy.same) u
  · exact h4

theorem ringWF_dataUpstream {x : Session} (h : RingWF x) (a b : Nat) : RingWF (dataUpstream x a b).1 := by
  unfold dataUpstream
  exact ite_both (P := fun r : Session × Bool => RingWF r.1) h <| ite_both (P := fun r : Session × Bool => RingWF r.1) h <|
    ite_both (P := fun r : Session × Bool => RingWF r.1) h.same h.same

theorem ringWF_dataStore {x : Session} (h : RingWF x) (p : List Nat) : RingWF (dataStore x p) := by
  unfold dataStore
  exact h.same

theorem wf_topOfLoop {s : Srv} (h : SrvWF s) (now' : Nat) : SrvWF { (topOfLoop s).1 with now := now' } :=
  slots_topOfLoop h (fun _ hx => hx.same) now'

theorem closed_wf (inp : Input) : Closed inp every fun s r => SrvWF s → SrvWF r.1 where
  nil := fun _ h => h
  seq := fun _ h1 h2 h => h2 (h1 h)
  prim := by
    intro s r hp h
    cases hp with
    | send u w => exact wf_sc h u w
    | ctl u f hc => cases hc <;> exact h.setUser u _ fun _ hx => hx.same
    | dup u w q => exact h.setUser u _ fun _ hx => hx.qset w _
    | save u q => exact wf_saveQuery h u q
    | rawLogin u src | rawPing u src => exact h.setUser u _ fun x hx => hx.same
    | outpkt u s' ho =>
      cases ho with
      | start d n => exact wf_startNewOutpacket h u d n
      | queue d n => exact wf_saveToOutpacketq h u d n
      | ack a b => exact wf_processDownstreamAck h u a b
    | rand => exact wf_popRand h
    | fwd q => exact h.users rfl
    | version q u =>
      exact ((wf_popRand (h.setUser u (claim s.now) fun _ hx => hx.same)).setUser u _ fun _ hx => hx.same).setUser u _
        fun _ hx => hx.resetSession
    | fragsize q dlen n => exact h.setUser _ _ fun _ hx => hx.clearCache _ _
    | upIn u a b pl =>
      have hup := ringWF_dataUpstream (h.get u) a b
      exact h.setUser u _ fun _ _ => ite_both (ringWF_dataStore hup _) hup
    | resetIn u => exact h.setUser u _ fun _ hx => hx.same
    | rawIn u src bytes => exact h.setUser u _ fun _ hx => hx.same
    -- the steps that only send
    | _ => exact h

/-- **`RingWF` of every slot is an invariant of one iteration of `tunnel()`, for EVERY input** (any DNS query — all handlers —,
any raw datagram, any tun frame, any datagram on the forward socket, a timeout) and any clock value. -/
theorem srvWF_iteration {s : Srv} (h : SrvWF s) (inp : Input) (now' : Nat) : SrvWF (iteration s inp now').1 :=
  (run_body _ inp _).closed (closed_wf inp) (wf_topOfLoop h now')

/-! ### every event of the scheduler's alphabet, every schedule -/

theorem srvWF_stepC {w : W} (h : SrvWF w.srv) (inp : Client.CInput) : SrvWF (stepC w inp).srv := h.users rfl

theorem srvWF_stepS {w : W} (h : SrvWF w.srv) (inp : Server.Input) (dt : Nat) : SrvWF (stepS w inp dt).srv :=
  srvWF_iteration h inp _

/-- **`RingWF` of every slot is an invariant of every `World.step`**, all thirteen kinds of events. -/
theorem srvWF_step {w : W} (h : SrvWF w.srv) (e : Ev) : SrvWF (step w e).srv := by
  cases e with
  | offerC f =>
    simp only [step]
    split
    · exact srvWF_stepC h _
    · exact h
  | offerS f =>
    simp only [step]
    split
    · exact srvWF_stepS h _ _
    · exact h
  | deliverUp =>
    simp only [step]
    split
    · exact h
    · exact srvWF_stepS (w := { w with up := _ }) h _ _
  | deliverDown =>
    simp only [step]
    split
    · exact h
    · exact srvWF_stepC (w := { w with down := _ }) h _
  | dropUp => exact h
  | dropDown => exact h
  | dupUp =>
    simp only [step]
    split
    · exact h
    · exact srvWF_stepS h _ _
  | dupDown =>
    simp only [step]
    split
    · exact h
    · exact srvWF_stepC h _
  | reorderUp => exact h
  | reorderDown => exact h
  | tickC => exact srvWF_stepC h _
  | tickS => exact srvWF_stepS h _ _
  | advance dt => exact h.users rfl

theorem srvWF_run (es : List Ev) : ∀ {w : W}, SrvWF w.srv → SrvWF (run w es).srv := by
  induction es with
  | nil => intro w h; exact h
  | cons e es ih => intro w h; exact ih (srvWF_step h e)

/-- `srvWF_run` slot by slot: after any schedule whatsoever, all sixteen slots (indeed `users[v]` for every `v`) are well-formed -/
theorem ringWF_run {w : W} (h : ∀ v, RingWF (Server.getUser w.srv v)) (es : List Ev) (v : Nat) :
    RingWF (Server.getUser (run w es).srv v) :=
  (srvWF_run es ((srvWF_iff _).2 h)).get v

theorem srvWF_runPrompt (u : Nat) : ∀ (fuel : Nat) {w : W}, SrvWF w.srv → SrvWF (runPrompt u fuel w).srv
  | 0, _, h => h
  | fuel + 1, w, h => by
    unfold runPrompt
    split
    · exact h
    · exact srvWF_runPrompt u fuel (srvWF_step h _)

theorem srvWF_demoServer (lz raw : Bool) (e : Server.Enc) : SrvWF (demoServer lz raw e) :=
  (srvWF_init _ _).setUser _ _ fun _ hx => hx.same

/-- non-vacuity: the demo state of `Props/C02.lean`, and the state after the 104-event fault prefix of the counterexample
(`qa_runC`) — obtained here WITHOUT evaluating the run -/
example : SrvWF Iodine.C02.exW.srv ∧ SrvWF qaWC.srv ∧ RingWF (Server.getUser qaWC.srv 0) := by
  have h0 : SrvWF Iodine.C02.exW.srv := srvWF_demoServer _ _ _
  have h1 : SrvWF qaWC.srv := by rw [← qa_runC]; exact srvWF_run _ h0
  exact ⟨h0, h1, h1.get 0⟩

end Iodine.C02L
