import IodineModel.Lemmas.WirePut
import IodineModel.Lemmas.Downstream
import IodineModel.Lemmas.MxServer
/-
The encoders never store outside their buffers (for C05, whole sessions).  The model's writers (`putbyte … putname puttxtbin`, `dns_encode*`, Wire/Put.lean, Wire/DnsEncode.lean) return `R.fault .oobWrite`
for a store at an index ≥ the size of the caller's buffer.  The closed forms of Lemmas/WirePut.lean describe the SUCCESS
paths under legality hypotheses (labels 1..63 …).  Here nothing is assumed about the question name but its length
(`name[256]`): labels of any shape, empty pieces, over-long pieces (where `putname` returns -1 and `dns_encode` goes on).
-/
namespace Iodine.C05L
open Iodine Iodine.Wire Iodine.Wire.Put Iodine.Wire.DnsEncode Iodine.Server.WriteDns Iodine.C10 Iodine.Downstream

/-- `x` is not a fault; a value it yields satisfies `P` (an early `return rv` of the C function is fine) -/
def Post {α} (P : α → Prop) : R α → Prop
  | .ok a => P a
  | .ret _ => True
  | .fault _ => False

/-- no store outside the buffer -/
def NoFault {α} (x : R α) : Prop := Post (fun _ => True) x

theorem post_bind {α β} {P : α → Prop} {Q : β → Prop} {x : R α} {f : α → R β}
    (hx : Post P x) (hf : ∀ a, P a → Post Q (f a)) : Post Q (x >>= f) := by
  cases x with
  | ok a => exact hf a hx
  | ret rv => trivial
  | fault e => exact hx.elim

theorem post_mono {α} {P Q : α → Prop} {x : R α} (hx : Post P x) (h : ∀ a, P a → Q a) : Post Q x := by
  cases x with
  | ok a => exact h a hx
  | ret rv => trivial
  | fault e => exact hx.elim

theorem post_ok {α} {P : α → Prop} {a : α} (h : P a) : Post P (R.ok a) := h
theorem post_pure {α} {P : α → Prop} {a : α} (h : P a) : Post P (pure a : R α) := h
theorem post_ret {α} {P : α → Prop} (rv : Int) : Post P (R.ret rv : R α) := trivial

theorem noFault_iff {α} (x : R α) : NoFault x ↔ ∀ f, x ≠ .fault f := by
  cases x with
  | ok a => exact ⟨fun _ f h => (by cases h), fun _ => trivial⟩
  | ret rv => exact ⟨fun _ f h => (by cases h), fun _ => trivial⟩
  | fault e => exact ⟨fun h => h.elim, fun h => absurd rfl (h e)⟩

def Grow (b : Buf) (k : Nat) (b' : Buf) : Prop := b'.cap = b.cap ∧ b.pos ≤ b'.pos ∧ b'.pos ≤ b.pos + k

theorem grow_refl (b : Buf) (k : Nat) : Grow b k b := by unfold Grow; omega

theorem Grow.trans {b b1 b2 : Buf} {k l : Nat} (h1 : Grow b k b1) (h2 : Grow b1 l b2) : Grow b (k + l) b2 := by
  unfold Grow at *; omega

theorem grow_app (b : Buf) (l : List Nat) : Grow b l.length (b.app l) := by
  unfold Grow; simp

theorem Appends.post {f : Buf → R Buf} {l : List Nat} (hf : Appends f l) (b : Buf) (h : b.pos + l.length ≤ b.cap) :
    Post (Grow b l.length) (f b) := by
  rw [hf b h]; exact grow_app b l

theorem putbyte_post (b : Buf) (v : Nat) (h : b.pos < b.cap) : Post (Grow b 1) (putbyte b v) :=
  Appends.post (putbyte_app v) b h

theorem putshort_post (b : Buf) (v : Nat) (h : b.pos + 2 ≤ b.cap) : Post (Grow b 2) (putshort b v) :=
  Appends.post (putshort_app v) b h

theorem putdata_post (b : Buf) (d : List Nat) (h : b.pos + d.length ≤ b.cap) : Post (Grow b d.length) (putdata b d) :=
  Appends.post (f := (putdata · d)) (fun b h => putdata_ok b d h) b h

theorem rrHead_post (b : Buf) (name ty ttl : Nat) (h : b.pos + 10 ≤ b.cap) : Post (Grow b 10) (rrHead b name ty ttl) :=
  Appends.post (f := (rrHead · name ty ttl)) (fun b h => rrHead_ok b name ty ttl h) b h

theorem checklen_post (buflen : Nat) (b : Buf) (x : Nat) : Post (fun _ => x + b.pos ≤ buflen) (checklen buflen b x) := by
  unfold checklen
  split
  · trivial
  · show x + b.pos ≤ buflen; omega

theorem patchShort_post (b : Buf) (at_ v : Nat) (h : at_ + 1 < b.cap) : Post (Grow b 0) (patchShort b at_ v) := by
  unfold patchShort
  rw [if_pos h]
  show Grow b 0 _
  unfold Grow Buf.pos
  simp

theorem grow_skip (b : Buf) (n : Nat) : Grow b n (b.skip n) := by
  rw [skip_eq]; simpa using grow_app b (List.replicate n 0)

/-! ### putname on ANY host string -/

theorem putLabels_post (ls : List (List Nat)) : ∀ (left : Int) (b : Buf), b.pos + labLen ls ≤ b.cap →
    Post (fun o => ∀ l b', o = some (l, b') → Grow b (labLen ls) b') (putLabels left b ls) := by
  induction ls with
  | nil =>
    intro left b _
    simp only [putLabels]
    intro l b' h
    cases h
    unfold Grow; omega
  | cons w ws ih =>
    intro left b hcap
    simp only [labLen_cons] at hcap
    unfold putLabels
    split
    · intro l b' h; cases h
    · apply post_bind (putbyte_post b _ (by omega))
      intro b1 h1
      apply post_bind (putdata_post b1 w (by unfold Grow at h1; omega))
      intro b2 h2
      have h12 := h1.trans h2
      apply post_mono (ih _ b2 (by unfold Grow at h12; omega))
      intro o ho l b' hob
      have := ho l b' hob
      have := h12.trans this
      simp only [labLen_cons]
      unfold Grow at *; omega

/-- `putname` into a buffer with room for the string, one length byte and the root byte: no store outside, whatever the
labels look like (a piece of more than 63 bytes makes it return -1 with the pointer unchanged) -/
theorem putname_post (b : Buf) (left : Int) (host : List Nat) (h : b.pos + host.length + 2 ≤ b.cap) :
    Post (fun r => Grow b (host.length + 2) r.2) (putname b left host) := by
  have hl := labLen_tokens_le host
  unfold putname
  apply post_bind (putLabels_post (tokens host) left b (by omega))
  intro o ho
  cases o with
  | none => exact post_ok (grow_refl b _)
  | some p =>
    obtain ⟨l, b'⟩ := p
    have hg := ho l b' rfl
    simp only []
    apply post_bind (putbyte_post b' 0 (by unfold Grow at hg; omega))
    intro b'' h''
    apply post_ok
    have := hg.trans h''
    show Grow b _ b''
    unfold Grow at *; omega

/-! ### puttxtbin -/

theorem txtLoop_post : ∀ (fuel : Nat) (b : Buf) (k : Nat) (frm : List Nat) (used : Nat), b.pos + k ≤ b.cap →
    Post (fun r => Grow b k r.2) (txtLoop fuel b (k : Int) frm used)
  | 0, b, k, frm, used, _ => by
    simp only [txtLoop]; exact post_ok (grow_refl b _)
  | fuel + 1, b, k, frm, used, h => by
    unfold txtLoop
    split
    · exact post_ok (grow_refl b _)
    · extract_lets tocopy
      split
      · exact post_ok (grow_refl b _)
      · rename_i hfit
        have hk : tocopy + 1 ≤ k := by omega
        apply post_bind (putbyte_post b _ (by omega))
        intro b1 h1
        have htk : (frm.take tocopy).length ≤ tocopy := by simp [List.length_take]; omega
        apply post_bind (putdata_post b1 (frm.take tocopy) (by unfold Grow at h1; omega))
        intro b2 h2
        have h12 := h1.trans h2
        have hrem : ((k : Int) - 1 - (tocopy : Int)) = ((k - 1 - tocopy : Nat) : Int) := by omega
        rw [hrem]
        apply post_mono (txtLoop_post fuel b2 (k - 1 - tocopy) _ _ (by unfold Grow at h12; omega))
        intro r hr
        have := h12.trans hr
        unfold Grow at *; omega

theorem puttxtbin_post (b : Buf) (k : Nat) (frm : List Nat) (h : b.pos + k ≤ b.cap) :
    Post (fun r => Grow b k r.2) (puttxtbin b (k : Int) frm) := txtLoop_post _ b k frm 0 h

/-! ### the answer branches of `dns_encode(QR_ANSWER)` -/

/-- NULL / PRIVATE / any other type: every store is covered by a `CHECKLEN` — no fault for any buffer -/
theorem ansNull_nf (buflen ty : Nat) (b : Buf) (data : List Nat) (datalen : Nat) (hcap : b.cap = buflen) :
    NoFault (ansNull buflen ty b data datalen) := by
  unfold ansNull NoFault
  apply post_bind (checklen_post buflen b 10)
  intro _ h0
  apply post_bind (rrHead_post b _ _ _ (by omega))
  intro b1 h1
  extract_lets dl
  apply post_bind (checklen_post buflen b1 2)
  intro _ h2
  apply post_bind (putshort_post b1 _ (by unfold Grow at h1; omega))
  intro b2 h2'
  apply post_bind (checklen_post buflen b2 dl)
  intro _ h3
  have hlen : (data.take dl).length ≤ dl := by simp [List.length_take]; omega
  apply post_bind (putdata_post b2 _ (by unfold Grow at h1 h2'; omega))
  intro b3 _
  apply post_bind (checklen_post buflen b3 0)
  intro _ _
  exact post_pure trivial

/-- TXT: no fault when two bytes of room are left behind the record header (the `p += 2` is not covered by a CHECKLEN) -/
theorem ansTxt_nf (buflen ty : Nat) (b : Buf) (data : List Nat) (datalen : Nat) (hcap : b.cap = buflen)
    (hroom : b.pos + 13 ≤ buflen) : NoFault (ansTxt buflen ty b data datalen) := by
  unfold ansTxt NoFault
  apply post_bind (checklen_post buflen b 10)
  intro _ _
  apply post_bind (rrHead_post b _ _ _ (by omega))
  intro b1 h1
  extract_lets startp b2
  have hs : Grow b1 2 b2 := grow_skip b1 2
  have h12 := h1.trans hs
  have hk : ((buflen : Int) - (b2.pos : Int)) = ((buflen - b2.pos : Nat) : Int) := by unfold Grow at h12; omega
  rw [hk]
  apply post_bind (puttxtbin_post b2 (buflen - b2.pos) _ (by unfold Grow at h12; omega))
  intro r hr
  obtain ⟨rv, b3⟩ := r
  replace hr : Grow _ _ b3 := hr
  simp only []
  apply post_bind (checklen_post buflen b3 0)
  intro _ _
  apply post_bind (patchShort_post b3 startp _ (by unfold Grow at h1 hr h12; simp only [startp]; omega))
  intro b4 _
  exact post_pure trivial

/-- CNAME / A: no fault when the host name, two length bytes and the root byte fit behind the record header -/
theorem ansCname_nf (buflen ty : Nat) (b : Buf) (data : List Nat) (hcap : b.cap = buflen)
    (hroom : b.pos + 14 + (DnsEncode.cstr data).length ≤ buflen) : NoFault (ansCname buflen ty b data) := by
  unfold ansCname NoFault
  apply post_bind (checklen_post buflen b 10)
  intro _ _
  apply post_bind (rrHead_post b _ _ _ (by omega))
  intro b1 h1
  extract_lets startp b2
  have hs : Grow b1 2 b2 := grow_skip b1 2
  have h12 := h1.trans hs
  apply post_bind (putname_post b2 _ _ (by unfold Grow at h12; omega))
  intro r hr
  obtain ⟨rv, b3⟩ := r
  replace hr : Grow _ _ b3 := hr
  simp only []
  apply post_bind (checklen_post buflen b3 0)
  intro _ _
  apply post_bind (patchShort_post b3 startp _ (by unfold Grow at h1 hr h12; simp only [startp]; omega))
  intro b4 _
  exact post_pure trivial

/-- what the MX/SRV loop appends at most: per name the record header, preference (weight, port), the name with its root
byte and one length byte more than its dots -/
def mxCost (names : List (List Nat)) : Nat := (names.map (fun nm => nm.length + 20)).sum

theorem mxLoop_post (buflen ty : Nat) (names : List (List Nat)) : ∀ (ancnt : Nat) (b : Buf), b.cap = buflen →
    b.pos + mxCost names ≤ buflen → Post (Grow b (mxCost names)) (DnsEncode.mxLoop buflen ty names ancnt b) := by
  induction names with
  | nil => intro ancnt b _ _; simp only [DnsEncode.mxLoop]; exact post_ok (by unfold Grow; omega)
  | cons nm rest ih =>
    intro ancnt b hcap hroom
    have hc : mxCost (nm :: rest) = nm.length + 20 + mxCost rest := by simp [mxCost]
    rw [hc] at hroom ⊢
    unfold DnsEncode.mxLoop
    apply post_bind (checklen_post buflen b 10)
    intro _ _
    apply post_bind (rrHead_post b _ _ _ (by omega))
    intro b1 h1
    extract_lets startp b2
    have hs : Grow b1 2 b2 := grow_skip b1 2
    have h12 := h1.trans hs
    apply post_bind (checklen_post buflen b2 2)
    intro _ _
    apply post_bind (putshort_post b2 _ (by unfold Grow at h12; omega))
    intro b3 h3
    have h13 := h12.trans h3
    have hsrv : Post (Grow b3 4) (if ty = T_SRV then do
        checklen buflen b3 4
        let b ← putshort b3 10
        putshort b 5060
      else pure b3) := by
      split
      · apply post_bind (checklen_post buflen b3 4)
        intro _ _
        apply post_bind (putshort_post b3 _ (by unfold Grow at h13; omega))
        intro b4 h4
        apply post_mono (putshort_post b4 _ (by unfold Grow at h13 h4; omega))
        intro b5 h5
        exact h4.trans h5
      · exact post_pure (by unfold Grow; omega)
    apply post_bind hsrv
    intro b4 h4
    have h14 := h13.trans h4
    apply post_bind (putname_post b4 _ nm (by unfold Grow at h14; omega))
    intro r hr
    obtain ⟨rv, b5⟩ := r
    replace hr : Grow _ _ b5 := hr
    simp only []
    have h15 := h14.trans hr
    apply post_bind (checklen_post buflen b5 0)
    intro _ _
    apply post_bind (patchShort_post b5 startp _ (by unfold Grow at h1 h15; simp only [startp]; omega))
    intro b6 h6
    have h16 := h15.trans h6
    apply post_mono (ih (ancnt + 1) b6 (by unfold Grow at h16; omega) (by unfold Grow at h16; omega))
    intro b7 h7
    have := h16.trans h7
    unfold Grow at *; omega

theorem ansMx_nf (buflen ty : Nat) (b : Buf) (data : List Nat) (hcap : b.cap = buflen)
    (hroom : b.pos + mxCost (mxNames data) ≤ buflen) : NoFault (ansMx buflen ty b data) := by
  unfold ansMx NoFault
  extract_lets names
  apply post_bind (mxLoop_post buflen ty names 1 b hcap hroom)
  intro b1 _
  exact post_pure trivial

/-! ### `dns_encode(QR_ANSWER)` into a 64 KiB buffer -/

/-- header, question name, type and class: the write pointer is then at most at `18 + |name|` -/
theorem question_post (buflen : Nat) (b0 : Buf) (hpos : b0.pos = 12) (hcap : b0.cap = buflen) (ty : Nat) (qn : List Nat)
    (hfit : 18 + qn.length ≤ buflen) {α} (f : Buf → R α) {Q : α → Prop}
    (hf : ∀ b, b.cap = buflen → b.pos ≤ 18 + qn.length → Post Q (f b)) :
    Post Q (do
      let (_, b) ← putname b0 ((buflen : Int) - b0.pos) qn
      checklen buflen b 4
      let b ← putshort b ty
      let b ← putshort b C_IN
      f b) := by
  apply post_bind (putname_post b0 _ qn (by omega))
  intro r hr
  obtain ⟨rv, b1⟩ := r
  replace hr : Grow _ _ b1 := hr
  simp only []
  apply post_bind (checklen_post buflen b1 4)
  intro _ h4
  apply post_bind (putshort_post b1 _ (by unfold Grow at hr; omega))
  intro b2 h2
  apply post_bind (putshort_post b2 _ (by unfold Grow at hr h2; omega))
  intro b3 h3
  have := (hr.trans h2).trans h3
  exact hf b3 (by unfold Grow at this; omega) (by unfold Grow at this h2 h3; omega)

theorem dnsEncodeAnswer_nf (id ty : Nat) (qn data : List Nat) (datalen : Nat) (hq : qn.length ≤ 255)
    (hbr : ∀ b : Buf, b.cap = 65536 → b.pos ≤ 273 → NoFault (ansBranch 65536 ty b data datalen)) :
    NoFault (dnsEncodeAnswer 65536 id ty qn data datalen) := by
  unfold dnsEncodeAnswer NoFault
  rw [if_neg (by omega)]
  apply question_post 65536 _ rfl rfl ty qn (by omega)
  intro b hcap hpos
  apply post_bind (hbr b hcap (by omega))
  intro r _
  exact post_pure trivial

theorem nameenc_len (td : Td) (htd : TdOk td) (buflen : Nat) (hb : 255 ≤ buflen) (d : List Nat) (hd : IsBytes d) (dn : Nat) :
    (nameenc td buflen d dn).name.length ≤ 253 :=
  (nameenc_shape td htd buflen hb d hd dn).legal.1

theorem sum_map_le {α} (f : α → Nat) (k : Nat) : ∀ l : List α, (∀ x ∈ l, f x ≤ k) → (l.map f).sum ≤ k * l.length
  | [], _ => by simp
  | a :: l, h => by
    have h1 := h a List.mem_cons_self
    have h2 := sum_map_le f k l (fun x hx => h x (List.mem_cons_of_mem _ hx))
    simp only [List.map_cons, List.sum_cons, List.length_cons, Nat.mul_succ]
    omega

theorem mxCost_le (names : List (List Nat)) (h : ∀ nm ∈ names, nm.length ≤ 253) : mxCost names ≤ 273 * names.length :=
  sum_map_le _ 273 names fun nm hnm => by have := h nm hnm; omega

/-- **`write_dns` never stores outside `buf[64K]`, `cnamebuf[1024]`, `mxbuf[64K]`, `txtbuf[64K]`** — for EVERY question name of
at most 255 characters (any labels), every record type value, every downstream codec byte, every payload of 1..4096 bytes. -/
theorem writeDnsR_nf (td : Td) (htd : TdOk td) (id ty : Nat) (qn data : List Nat) (dn : Nat) (hq : qn.length ≤ 255)
    (hd : IsBytes data) (h1 : 1 ≤ data.length) (h2 : data.length ≤ 4096) :
    NoFault (writeDnsR td id ty qn data dn).2 := by
  unfold writeDnsR
  split
  · rename_i hty
    simp only []
    apply dnsEncodeAnswer_nf _ _ _ _ _ hq
    intro b hcap hpos
    unfold ansBranch
    rw [if_pos hty]
    apply ansCname_nf _ _ _ _ hcap
    have : (DnsEncode.cstr ((nameenc td 1024 data dn).name ++ [0])).length ≤ _ := (List.takeWhile_sublist _).length_le
    have := nameenc_len td htd 1024 (by omega) data hd dn
    simp only [List.length_append, List.length_cons, List.length_nil] at *
    omega
  · rename_i hty
    split
    · rename_i hmx
      have hne : data ≠ [] := by intro h; rw [h] at h1; simp at h1
      have hbuild := mxBuild_eq dn (data.length + 1) td 0 data htd hd hne (by omega) (by omega)
      have hprops := mxItems_props dn (data.length + 1) td data htd hd (by omega) hne
      have hcount := mxItems_length dn (data.length + 1) td data (by omega) hne
      have hnil := mxItems_ne_nil dn data.length td data
      generalize hmb : mxBuild (data.length + 1) td 0 data dn = res at hbuild
      obtain ⟨td', o⟩ := res
      simp only at hbuild
      subst hbuild
      simp only []
      apply dnsEncodeAnswer_nf _ _ _ _ _ hq
      intro b hcap hpos
      unfold ansBranch
      rw [if_neg hty, if_pos hmx]
      apply ansMx_nf _ _ _ _ hcap
      generalize mxItems (data.length + 1) td data dn = items at hprops hcount hnil
      have hleg : ∀ x ∈ items.map (·.1), LegalName x := by
        intro x hx
        simp only [List.mem_map] at hx
        obtain ⟨it, hit, rfl⟩ := hx
        exact (hprops it hit).2
      generalize hns : items.map (·.1) = names at hleg
      have hnl : names.length = items.length := by rw [← hns]; simp
      obtain ⟨d0, dns, rfl⟩ : ∃ d0 dns, names = d0 :: dns := by
        cases names with
        | nil => rw [List.length_nil] at hnl; exact absurd (List.eq_nil_of_length_eq_zero hnl.symm) hnil
        | cons d0 dns => exact ⟨d0, dns, rfl⟩
      have hnames : mxNames (mxPack (d0 :: dns) ++ []) = d0 :: dns := by
        apply mxNames_pack
        intro x hx
        have hl := hleg x hx
        refine ⟨?_, fun c hc => (hl.2.1 c hc).1⟩
        intro he; subst he
        have := hl.2.2 [] (by simp [labels]); simp at this
      rw [List.append_nil] at hnames
      rw [hnames]
      have hc := mxCost_le (d0 :: dns) (fun x hx => (hleg x hx).1)
      have : data.length / 152 ≤ 26 := by omega
      rw [hnl] at hc
      have : 273 * items.length ≤ 273 * 27 := Nat.mul_le_mul_left _ (by omega)
      omega
    · rename_i hmx
      split
      · rename_i htxt
        simp only []
        apply dnsEncodeAnswer_nf _ _ _ _ _ hq
        intro b hcap hpos
        unfold ansBranch
        rw [if_neg hty, if_neg hmx, if_pos htxt]
        exact ansTxt_nf _ _ _ _ _ hcap (by omega)
      · rename_i htxt
        simp only []
        apply dnsEncodeAnswer_nf _ _ _ _ _ hq
        intro b hcap hpos
        unfold ansBranch
        rw [if_neg hty, if_neg hmx, if_neg htxt]
        exact ansNull_nf _ _ _ _ _ hcap

/-! ### the other encoders of the server: `dns_encode_ns_response`, `dns_encode_a_response`, `dns_encode(QR_QUERY)` -/

theorem putAddr_post (b : Buf) (addr : List Nat) (h : b.pos + 4 ≤ b.cap) : Post (Grow b 4) (putAddr b addr) :=
  Appends.post ((putbyte_app _).bind ((putbyte_app _).bind ((putbyte_app _).bind (putbyte_app (addr.getD 3 0))))) b h

theorem dnsEncodeAResponse_nf (id ty : Nat) (qn : List Nat) (dest : Option (List Nat)) (hq : qn.length ≤ 255) :
    NoFault (dnsEncodeAResponse 65536 id ty qn dest) := by
  unfold dnsEncodeAResponse NoFault
  cases dest with
  | none => trivial
  | some addr =>
    simp only []
    rw [if_neg (by omega)]
    apply question_post 65536 _ (by simp [Buf.pos, setCount, header]) rfl ty qn (by omega)
    intro b hcap hpos
    apply post_bind (checklen_post 65536 b 12)
    intro _ _
    apply post_bind (rrHead_post b _ _ _ (by omega))
    intro b1 h1
    apply post_bind (putshort_post b1 _ (by unfold Grow at h1; omega))
    intro b2 h2
    apply post_bind (checklen_post 65536 b2 4)
    intro _ _
    apply post_bind (putAddr_post b2 addr (by unfold Grow at h1 h2; omega))
    intro b3 _
    exact post_pure trivial

theorem dnsEncodeNsResponse_nf (id ty : Nat) (qn top : List Nat) (dest : Option (List Nat)) (hq : qn.length ≤ 255) :
    NoFault (dnsEncodeNsResponse 65536 id ty qn top dest) := by
  unfold dnsEncodeNsResponse NoFault
  rw [if_neg (by omega)]
  split
  · trivial
  · extract_lets dl b0 topname
    split
    · trivial
    · split
      · trivial
      · apply question_post 65536 b0 (by simp [b0, Buf.pos, setCount, header]) rfl ty qn (by omega)
        intro b hcap hpos
        apply post_bind (checklen_post 65536 b 12)
        intro _ _
        apply post_bind (rrHead_post b _ _ _ (by omega))
        intro b1 h1
        apply post_bind (putshort_post b1 _ (by unfold Grow at h1; omega))
        intro b2 h2
        extract_lets nsname
        apply post_bind (checklen_post 65536 b2 5)
        intro _ _
        have h12 := h1.trans h2
        apply post_bind (putbyte_post b2 _ (by unfold Grow at h12; omega))
        intro b3 h3
        have h13 := h12.trans h3
        apply post_bind (putbyte_post b3 _ (by unfold Grow at h13; omega))
        intro b4 h4
        have h14 := h13.trans h4
        apply post_bind (putbyte_post b4 _ (by unfold Grow at h14; omega))
        intro b5 h5
        have h15 := h14.trans h5
        apply post_bind (putshort_post b5 _ (by unfold Grow at h15; omega))
        intro b6 h6
        have h16 := h15.trans h6
        cases dest with
        | none => exact post_pure trivial
        | some addr =>
          simp only []
          apply post_bind (checklen_post 65536 b6 12)
          intro _ _
          apply post_bind (rrHead_post b6 _ _ _ (by unfold Grow at h16; omega))
          intro b7 h7
          have h17 := h16.trans h7
          apply post_bind (putshort_post b7 _ (by unfold Grow at h17; omega))
          intro b8 h8
          have h18 := h17.trans h8
          apply post_bind (checklen_post 65536 b8 4)
          intro _ _
          apply post_bind (putAddr_post b8 addr (by unfold Grow at h18; omega))
          intro b9 _
          exact post_pure trivial

theorem putOpt_post (b : Buf) (h : b.pos + 11 ≤ b.cap) : Post (Grow b 11) (putOpt b) :=
  Appends.post (f := putOpt) (fun b h => putOpt_ok b h) b h

theorem dnsEncodeQuery_nf (id ty : Nat) (edns : Bool) (host : List Nat) (hq : host.length ≤ 255) :
    NoFault (dnsEncodeQuery 65536 id ty edns host) := by
  unfold dnsEncodeQuery dnsEncodeQueryL NoFault
  rw [if_neg (by omega)]
  extract_lets b0 dl
  apply post_bind (putname_post b0 _ host (by simp [b0, Buf.pos, header]; omega))
  intro r hr
  obtain ⟨rv, b1⟩ := r
  replace hr : Grow _ _ b1 := hr
  simp only []
  have hb0 : b0.pos = 12 ∧ b0.cap = 65536 := by simp [b0, Buf.pos, header]
  apply post_bind (checklen_post 65536 b1 4)
  intro _ _
  apply post_bind (putshort_post b1 _ (by unfold Grow at hr; omega))
  intro b2 h2
  have h02 := hr.trans h2
  apply post_bind (putshort_post b2 _ (by unfold Grow at h02; omega))
  intro b3 h3
  have h03 := h02.trans h3
  split
  · apply post_bind (checklen_post 65536 b3 11)
    intro _ _
    apply post_bind (putOpt_post b3 (by unfold Grow at h03; omega))
    intro b4 _
    exact post_pure trivial
  · exact post_pure trivial

end Iodine.C05L
