import IodineModel.Lemmas.C02s2
/-
From a decoded query to the data handler: the dispatch of `tunnel_dns` / `handle_null_request` / the duplicate filters
for an upstream data query of user `u`.
-/
namespace Iodine.C02L
open Iodine Iodine.Gen Iodine.Server

/-- the lower-case hex digit of a user id (what the client puts in front of its data queries) -/
def hexLower (u : Nat) : Nat := (ascii "0123456789abcdef").getD u 0

/-- the record types the server treats as tunnel traffic -/
def TunnelType (ty : Nat) : Prop :=
  ty = T_NULL ∨ ty = T_PRIVATE ∨ ty = T_CNAME ∨ ty = T_A ∨ ty = T_MX ∨ ty = T_SRV ∨ ty = T_TXT

theorem hexLower_facts : ∀ u, u < 16 →
    hexCode (hexLower u) = (u : Int) ∧ isHexDigit (hexLower u) = true ∧
    hexLower u ∉ [86, 118, 76, 108, 73, 105, 90, 122, 83, 115, 79, 111, 89, 121, 82, 114, 78, 110, 80, 112, 119, 87] := by
  decide

theorem hexLower_ne_p {u : Nat} (hu : u < 16) : hexLower u ≠ 80 ∧ hexLower u ≠ 112 := by
  have := (hexLower_facts u hu).2.2
  constructor <;> (intro hc; apply this; rw [hc]; decide)

/-- a query of a tunnel type whose first character is neither NUL nor one of `n`, `N`, `w`, `W` (the A-record special
cases of `tunnel_dns`) goes to `handle_null_request` -/
theorem tunnelDns_null (s : Srv) (Q : Query) (dlen : Nat)
    (hdl : Common.queryDatalen Q.name s.cfg.topdomain = some dlen) (hty : TunnelType Q.type)
    (hc : ∀ c ∈ [0, 110, 78, 119, 87], Q.name.getD 0 0 ≠ c) :
    tunnelDns s Q = handleNullRequest s Q dlen := by
  have hne : Q.name.length ≠ 0 := by
    intro h0
    rw [List.eq_nil_of_length_eq_zero h0] at hc
    exact hc 0 (by simp) rfl
  have h110 := hc 110 (by simp)
  have h78 := hc 78 (by simp)
  have h119 := hc 119 (by simp)
  have h87 := hc 87 (by simp)
  unfold tunnelDns
  rw [if_neg hne]
  simp only [hdl]
  unfold TunnelType at hty
  rw [if_neg (by intro h; rcases h.2.2.1 with h | h <;> contradiction),
    if_neg (by intro h; rcases h.2.2.1 with h | h <;> contradiction), if_pos hty]

theorem getD_zero_take (name : List Nat) (dlen : Nat) (h : 1 ≤ dlen) : (name.take (min dlen 512)).getD 0 0 = name.getD 0 0 := by
  simp only [List.getD_eq_getElem?_getD, List.getElem?_take]
  rw [if_pos (by omega)]

theorem tunnelDns_data (s : Srv) (Q : Query) (u dlen : Nat) (hu : u < 16)
    (hdl : Common.queryDatalen Q.name s.cfg.topdomain = some dlen) (h6 : 6 ≤ dlen)
    (hc : Q.name.getD 0 0 = hexLower u) (hty : TunnelType Q.type) (hid : Q.id ≠ 0)
    (hchk : checkAuthenticatedUserAndIp s (u : Int) Q = false)
    (hcache : answerFromDnscache s u Q = none) (hqmem : answerFromQmemData s u Q = none)
    (hdup : rememberDuplicate s u Q = none) :
    tunnelDns s Q = dataFresh s u Q (Q.name.take (min dlen 512)) := by
  obtain ⟨h1, h2, h3⟩ := hexLower_facts u hu
  have hmem : ∀ c, c ∈ [86, 118, 76, 108, 73, 105, 90, 122, 83, 115, 79, 111, 89, 121, 82, 114, 78, 110, 80, 112, 119, 87] →
      Q.name.getD 0 0 ≠ c := by
    intro c hcm heq
    rw [hc] at heq
    exact h3 (heq ▸ hcm)
  have h00 : Q.name.getD 0 0 ≠ 0 := by
    intro h0
    rw [hc] at h0
    rw [h0] at h2
    exact absurd h2 (by decide)
  rw [tunnelDns_null s Q dlen hdl hty (by
    intro c hcm
    simp only [List.mem_cons, List.not_mem_nil, or_false] at hcm
    rcases hcm with rfl | rfl | rfl | rfl | rfl
    · exact h00
    all_goals exact hmem _ (by decide))]
  unfold handleNullRequest
  rw [if_neg (by omega)]
  simp only
  rw [getD_zero_take _ _ (by omega)]
  -- the ten command letters, each in both cases, are not hex digits
  iterate 10 rw [if_neg (by intro h; rcases h with h | h <;> exact hmem _ (by decide) h)]
  rw [hc, if_pos h2]
  unfold handleData
  rw [if_neg (by omega), if_neg hid]
  simp only [getD_zero_take _ _ (show 1 ≤ dlen by omega), hc, h1, hchk, Int.toNat_natCast, hcache, hqmem, hdup]
  simp

end Iodine.C02L
