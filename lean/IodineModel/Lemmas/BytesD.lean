import IodineModel.Lemmas.BytesC
import IodineModel.Lemmas.BytesF
/-
The byte-level server: the NS and A responses (`handle_ns_request`, `handle_a_request`) for
the query `tunnel_dns` dispatched, from the theorems of Props/C10.lean.
-/
namespace Iodine.BytesL
open Iodine Iodine.Server Iodine.Gen Iodine.C10 Iodine.Wire.Strict Iodine.Wire.DnsEncode

/-- a response that echoes id and question and answers with exactly one record of the question's name, type and class -/
def NsaEchoes (id ty : Nat) (qn pkt : List Nat) : Prop :=
  ∃ m, parseMsg pkt = some m ∧ m.id = id ∧ m.flags = 0x8400 ∧ m.qd = [(labels qn, ty, 1)] ∧ m.an.length = 1 ∧
    (∀ r ∈ m.an, r.owner = labels qn ∧ r.type = ty ∧ r.cls = 1) ∧ m.ns = []

theorem beBytes4 (x : Nat) : beBytes 4 x = [x / 256 ^ 3 % 256, x / 256 ^ 2 % 256, x / 256 ^ 1 % 256, x / 256 ^ 0 % 256] := rfl

theorem nsDest_cases (cfg : Config) (q : Query) :
    nsDest cfg q = none ∨ ∃ x, nsDest cfg q = some (beBytes 4 x) := by
  unfold nsDest
  split
  · exact Or.inr ⟨_, rfl⟩
  · split
    · exact Or.inr ⟨_, rfl⟩
    · exact Or.inl rfl

theorem nsDest_ok (cfg : Config) (q : Query) : DestOK (nsDest cfg q) := by
  rcases nsDest_cases cfg q with h | ⟨x, h⟩
  · exact Or.inl h
  · refine Or.inr ⟨_, _, _, _, by rw [h, beBytes4], ?_⟩
    have := beBytes_bytes 4 x
    rwa [beBytes4] at this

theorem sent_ok {pkt bytes : List Nat} (h : sent (.ok pkt) = some bytes) : bytes = pkt := by
  unfold sent at h
  split at h
  · rename_i p hp
    cases hp
    split at h
    · cases h
    · cases h; rfl
  · rename_i hne
    exact absurd rfl (hne pkt)

theorem aResponse_echo (id : Nat) (qn : List Nat) (dest : Option (List Nat)) (bytes : List Nat)
    (hid : id < 65536) (hqn : LegalName qn) (hdest : DestOK dest)
    (h : sent (dnsEncodeAResponse 65536 id 1 qn dest) = some bytes) : NsaEchoes id 1 qn bytes := by
  rcases hdest with rfl | ⟨a0, a1, a2, a3, rfl, haddr⟩
  · simp [dnsEncodeAResponse, sent] at h
  · obtain ⟨pkt, h1, h2⟩ := a_response_wellformed_server id qn a0 a1 a2 a3 hid hqn haddr
    rw [h1] at h
    rw [sent_ok h]
    exact ⟨_, h2, rfl, rfl, rfl, rfl, by simp, rfl⟩

theorem nsMsg_echo (id : Nat) (qn : List Nat) (topl : Name) (ptr : Nat) (dest : Option (List Nat)) (pkt : List Nat)
    (h : parseMsg pkt = some (nsMsg id qn topl ptr dest)) : NsaEchoes id 2 qn pkt :=
  ⟨_, h, rfl, rfl, rfl, rfl, by simp [nsMsg], rfl⟩

/-- **NS / A responses.**  Whatever `handle_ns_request` / `handle_a_request` send for a query with a legal name of at most 250
characters is well-formed and echoes id, name and type, with one answer record for that name. -/
theorem nsaBytes_echo_of (cfg : Config) (q : Query) (bytes : List Nat) (hid : q.id < 65536) (hqn : LegalName q.name)
    (htop : ∀ dlen, Common.queryDatalen q.name cfg.topdomain = some dlen → (q.name.drop dlen).length ≤ 250)
    (h : nsaBytes cfg q = some bytes) : NsaEchoes q.id q.type q.name bytes := by
  unfold nsaBytes at h
  split at h
  · cases h
  · rename_i dlen hd
    simp only [] at h
    -- both A branches: `dns_encode_a_response` with a good destination
    have ha : ∀ f : Bool, q.type = 1 → aResponse cfg q f = some bytes → NsaEchoes q.id q.type q.name bytes := by
      intro f hty h
      unfold aResponse at h
      rw [hty] at h ⊢
      refine aResponse_echo q.id q.name _ bytes hid hqn ?_ h
      cases f
      · simpa using nsDest_ok cfg q
      · exact Or.inr ⟨127, 0, 0, 1, by simp, by decide⟩
    split at h
    · rename_i hc
      exact ha false hc.2.1 h
    · split at h
      · rename_i hc
        exact ha true hc.2.1 h
      · split at h
        · rename_i hty
          have hty : q.type = 2 := hty
          unfold nsResponse at h
          rw [hty] at h ⊢
          have htop' := htop
          clear htop
          obtain ⟨top, _, htop, hle, hcase⟩ := Common.queryDatalen_split hd
          rw [htop] at h
          have htl : top.length ≤ 250 := by rw [← htop]; exact htop' dlen hd
          rcases hcase with h0 | ⟨sub, hq, _⟩
          · subst h0
            simp only [List.drop_zero] at htop
            rw [htop] at h hqn ⊢
            obtain ⟨pkt, h1, _, h2⟩ := ns_response_apex_wellformed 65536 q.id top (nsDest cfg q) hid hqn htl
              (nsDest_ok cfg q) (by split <;> omega)
            rw [h1] at h
            rw [sent_ok h]
            exact nsMsg_echo _ _ _ _ _ _ h2
          · rw [hq] at h hqn ⊢
            obtain ⟨pkt, h1, h2⟩ := ns_response_wellformed_server q.id sub top (nsDest cfg q) hid hqn htl (nsDest_ok cfg q)
            rw [h1] at h
            rw [sent_ok h]
            exact nsMsg_echo _ _ _ _ _ _ h2
        · cases h

theorem nsaBytes_echo (cfg : Config) (q : Query) (bytes : List Nat) (hid : q.id < 65536) (hqn : LegalName q.name)
    (hlen : q.name.length ≤ 250) (h : nsaBytes cfg q = some bytes) : NsaEchoes q.id q.type q.name bytes :=
  nsaBytes_echo_of cfg q bytes hid hqn (fun dlen _ => by simp only [List.length_drop]; omega) h

end Iodine.BytesL
