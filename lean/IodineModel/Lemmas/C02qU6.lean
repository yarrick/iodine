import IodineModel.Lemmas.C02up5
import IodineModel.Lemmas.C02up6
/-
Upstream, immediate mode, from a DESYNCHRONISED quiescent state `QuietImmDS P d 0 sl sp w` (`QuietImmD` with freshness slacks;
the client's packet sequence number is `d` ahead of the server's); cases `.imm sl sp` of the both-modes chain.
* `d ≤ 3`: the packet is delivered exactly as on the clean path and the numbers are in sync again (`QuietMD.up_packet`);
* `4 ≤ d ≤ 6`, or `d = 7` and the server's last fragment number is not 0: the packet is NOT delivered; the client resends
  three times, gives up after 4 s, and the state is `QuietImmD P ((d + 1) % 8) 0` (`QuietMD.up_packet_drop`);
* BOUNDED RECOVERY, under `d ≤ 3 ∨ 1 ≤ inpacket.fragment` (`QuietMD.recovery`, C02up6): the first `lostUp d` offered packets are lost
  (none if `d ≤ 3`, else `8 − d`: at most 4), every later one is delivered, in order, ending in the synchronised `QuietImm`.
-/
namespace Iodine.C02L
open Iodine Iodine.Gen Iodine.World

/-- **`d ≤ 3`: delivered, and in sync again.** -/
theorem up_packet_imm_desync_ok {P : Par} (hP : P.Ok) {d sl sp : Nat} {w : W} (hq : QuietImmDS P d 0 sl sp w) (hd : d ≤ 3) (frame : List Nat)
    (h24 : 24 ≤ frame.length) (hl : frame.length < 65536) (hb : Codec.Bytes frame)
    (hdst : Server.ipDst frame ≠ (Server.getUser w.srv P.u).tunIp)
    (hg16 : upFrags P (frame.length + 1) (0x5a :: frame) ≤ 16) (hsl : 1 ≤ sl ∧ sl ≤ 21 := by omega) :
    ∃ w', promptSteps P.u (2 * upFrags P (frame.length + 1) (0x5a :: frame) + 1) (step w (.offerC frame)) = some w' ∧
      QuietImmS P sl sp w' ∧
      w'.tunS = w.tunS ++ [tunImage frame] ∧ w'.tunC = w.tunC ∧
      (Server.getUser w'.srv P.u).tunIp = (Server.getUser w.srv P.u).tunIp ∧
      (Server.getUser w'.srv P.u).fragsize = (Server.getUser w.srv P.u).fragsize := by
  obtain ⟨w', h1, h2, h3, _, h⟩ := (quietMD_imm.2 hq).up_packet hP (show Mode.Ok (.imm sl sp) from hsl) hd frame h24 hl hb
    hdst hg16
  exact ⟨w', h1, quietMD_imm_zero.1 h2, h3, h.tunC, h.kept.tunIp, h.kept.fragsize⟩

/-- **`d` in the window: NOT delivered; three resends, give-up after 4 s; one further out of step.**  14 scheduler steps. -/
theorem up_packet_imm_desync_drop {P : Par} (hP : P.Ok) {d sl sp : Nat} {w : W} (hq : QuietImmDS P d 0 sl sp w)
    (hd : DropsUp (Server.getUser w.srv P.u) d) (frame : List Nat)
    (hne : frame ≠ []) (hl : frame.length < 65536) (hb : Codec.Bytes frame)
    (hsl : 1 ≤ sl ∧ sl ≤ 21 := by omega) (hsp : 1 ≤ sp ∧ sp ≤ 999 := by omega) :
    ∃ w', promptSteps P.u 14 (step w (.offerC frame)) = some w' ∧
      QuietImmDS P ((d + 1) % 8) 0 sl sp w' ∧ w'.tunS = w.tunS ∧ w'.tunC = w.tunC ∧
      (Server.getUser w'.srv P.u).inpacket = (Server.getUser w.srv P.u).inpacket ∧
      (Server.getUser w'.srv P.u).tunIp = (Server.getUser w.srv P.u).tunIp ∧
      (Server.getUser w'.srv P.u).fragsize = (Server.getUser w.srv P.u).fragsize ∧
      w'.srv.now = w.srv.now + 4 ∧ w'.cs.c.selecttimeout = w.cs.c.selecttimeout := by
  obtain ⟨w', h1, h2, hi, h10⟩ := (quietMD_imm.2 hq).up_packet_drop hP (show Mode.Ok (.imm sl sp) from hsl)
    (show Mode.OkP (.imm sl sp) from hsp) hd frame hne hl hb
  exact ⟨w', h1, quietMD_imm.1 h2, hi.tunS, hi.tunC, hi.inp, hi.kept.tunIp, hi.kept.fragsize, hi.srvNow, h10⟩

/-! ### recovery over a sequence of frames -/

/-- **Bounded recovery, upstream, immediate mode** (any freshness slack within the counters' periods). -/
theorem recovery_after_giveups_up_imm {P : Par} (hP : P.Ok) (fuel : Nat) (hfuel : 33 ≤ fuel) {sl sp : Nat}
    (frames : List (List Nat)) (d : Nat) (w : W) (hq : QuietImmDS P d 0 sl sp w) (hd : d < 8)
    (hfr : d ≤ 3 ∨ 1 ≤ (Server.getUser w.srv P.u).inpacket.fragment)
    (hok : ∀ f ∈ frames, UpFrameOk P (Server.getUser w.srv P.u).tunIp f)
    (hsl : 1 ≤ sl ∧ sl ≤ 21 := by omega) (hsp : 1 ≤ sp ∧ sp ≤ 999 := by omega) :
    (offerAllC P.u fuel w frames).tunS = w.tunS ++ (frames.drop (lostUp d)).map tunImage ∧
    (offerAllC P.u fuel w frames).tunC = w.tunC ∧
    (lostUp d < frames.length → QuietImmS P sl sp (offerAllC P.u fuel w frames)) := by
  obtain ⟨h1, h2, h3, _⟩ := QuietMD.recovery hP (show Mode.Ok (.imm sl sp) from hsl) (show Mode.OkP (.imm sl sp) from hsp) fuel hfuel
    frames d w (quietMD_imm.2 hq) hd hok (fun _ h0 _ _ _ => by rcases hfr with h | h <;> omega)
  have hj : junkAt P (Server.getUser w.srv P.u).inpacket d frames = [] := if_pos hfr
  rw [hj, List.append_nil] at h1
  exact ⟨h1, h2, fun hlt => quietMD_imm_zero.1 (h3 (resync_of_lostUp_lt hlt))⟩

/-! ### desynchronised states exist: shift the client's number -/

/-- the joint state with the client's upstream sequence number moved `d` on (what `d` give-ups during an upstream blackout
do to it) -/
def shiftUp (w : W) (d : Nat) : W :=
  { w with cs := { w.cs with c := { w.cs.c with outpkt := { w.cs.c.outpkt with seqno := (w.cs.c.outpkt.seqno + d) % 8 } } } }

end Iodine.C02L
