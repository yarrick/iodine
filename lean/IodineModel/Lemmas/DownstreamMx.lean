import IodineModel.Lemmas.DownstreamE2E
import IodineModel.Lemmas.MxServer
/-
End-to-end lemmas for C09, MX / SRV: the closed form of the datagram (`writeDns_mx`) and what the client reads from it (`read_mx`);
then the length of the joined names in closed form (`jl`, from `enc245` of Lemmas/MxServer.lean) and its monotonicity
(`jl_mono`), which Props/C09.lean needs for `fits`.
-/
namespace Iodine.Downstream
open Iodine Iodine.Codec Iodine.Encoding Iodine.Wire Iodine.Wire.Strict Iodine.Wire.Put Iodine.Wire.DnsEncode
open Iodine.Server.WriteDns Iodine.Client.ReadDns Iodine.C10

/-- the host names of the MX/SRV answer for the payload `p` -/
def mxNamesOf (td : Td) (p : List Nat) (dn : Nat) : List (List Nat) := (mxItems (p.length + 1) td p dn).map (·.1)

theorem mxSize_le (ty : Nat) (dns : List (List Nat)) (h : ∀ d ∈ dns, d.length ≤ 253) :
    mxSize ty dns ≤ 273 * dns.length := by
  induction dns with
  | nil => simp [mxSize]
  | cons d r ih =>
    rw [mxSize_cons]
    have := h d (by simp)
    have := ih (fun x hx => h x (by simp [hx]))
    simp only [List.length_cons]
    split <;> omega

theorem writeDns_mx (td : Td) (htd : TdOk td) (id ty : Nat) (qn p : List Nat) (dn : Nat) (hty : ty = 15 ∨ ty = 33)
    (hqn : LegalName qn) (hpb : Codec.Bytes p) (hp1 : 1 ≤ p.length) (hp : p.length ≤ 4096) :
    (writeDns td (id, ty, qn) p dn).2 =
      some (ansPkt id ty (mxNamesOf td p dn).length qn (mxRecs ty 1 ((mxNamesOf td p dn).map labels))) := by
  have h253 := hqn.1
  have hpne : p ≠ [] := by intro h; rw [h] at hp1; simp at hp1
  have hbuild := mxBuild_eq dn (p.length + 1) td 0 p htd hpb hpne (by omega) (by omega)
  have hprops := mxItems_props dn (p.length + 1) td p htd hpb (by omega) hpne
  have hcount := mxItems_length dn (p.length + 1) td p (by omega) hpne
  have hne := mxItems_ne_nil dn p.length td p
  unfold writeDns writeDnsR
  simp only []
  rw [if_neg (by rcases hty with h | h <;> simp [h, T_CNAME, T_A]),
    if_pos (by rcases hty with h | h <;> simp [h, T_MX, T_SRV])]
  generalize hmb : mxBuild (p.length + 1) td 0 p dn = res at hbuild
  obtain ⟨td', o⟩ := res
  simp only at hbuild
  subst hbuild
  simp only []
  unfold mxNamesOf
  generalize mxItems (p.length + 1) td p dn = items at hprops hcount hne ⊢
  have hleg : ∀ x ∈ items.map (·.1), LegalName x := by
    intro x hx
    simp only [List.mem_map] at hx
    obtain ⟨it, hit, rfl⟩ := hx
    exact (hprops it hit).2
  generalize hns : items.map (·.1) = names at hleg ⊢
  have hnl : names.length = items.length := by rw [← hns]; simp
  obtain ⟨d, dns, rfl⟩ : ∃ d dns, names = d :: dns := by
    cases names with
    | nil => rw [List.length_nil] at hnl; exact absurd (List.eq_nil_of_length_eq_zero hnl.symm) hne
    | cons d dns => exact ⟨d, dns, rfl⟩
  have hsz := mxSize_le ty (d :: dns) (fun x hx => (hleg x hx).1)
  have htoks : (d :: dns).map tokens = (d :: dns).map labels :=
    List.map_congr_left (fun x hx => (nameFacts (hleg x hx)).tok)
  have henc := encode_mx 65536 id ty qn d dns [] 65536 hty hqn hleg (by omega)
  rw [List.append_nil] at henc
  rw [henc, htoks]
  simp only []
  rw [if_neg (by simp)]
  rfl

/-- length of the first host name of the MX/SRV answer (`strlen(buf)` on the client) -/
def mxFirstLen (p : List Nat) (dn : Nat) : Nat := nameLenOf (enc (nameCodec dn).2 245 p).chars.length

theorem mxItems_first (fuel : Nat) (td : Td) (data : List Nat) (dn : Nat) :
    ∀ it rest, mxItems (fuel + 1) td data dn = it :: rest → it.1.length = mxFirstLen data dn := by
  intro it rest h
  have hlen := nameenc_length td 255 (by omega) data dn
  simp only [mxItems] at h
  split at h
  · simp only [List.cons.injEq] at h
    rw [← h.1]; exact hlen
  · simp only [List.cons.injEq] at h
    rw [← h.1]; exact hlen

theorem read_mx (B : Nat) (td : Td) (htd : TdOk td) (id ty : Nat) (qn p : List Nat) (dn : Nat) (hid : id < 65536)
    (hty : ty = 15 ∨ ty = 33) (hqn : LegalName qn) (hpb : Codec.Bytes p) (hp1 : 1 ≤ p.length) (hp : p.length ≤ 4096)
    (hB : 4096 ≤ B) (hB2 : B ≤ 65536) :
    ∃ n0 D, readDnsWithq B (ansPkt id ty (mxNamesOf td p dn).length qn (mxRecs ty 1 ((mxNamesOf td p dn).map labels))) =
        .ok ⟨(D.length : Nat), id, ty, 0, n0, D⟩ ∧ D <+: p ∧ (joinedLen (mxNamesOf td p dn) ≤ B → D = p) ∧
        (B < joinedLen (mxNamesOf td p dn) → D.length < p.length) ∧
        D = mxExpected (mxFirstLen p dn) B (mxItems (p.length + 1) td p dn) 0 0 := by
  have h253 := (nameFacts hqn).le253
  have hpne : p ≠ [] := by intro h; rw [h] at hp1; simp at hp1
  have hprops := mxItems_props dn (p.length + 1) td p htd hpb (by omega) hpne
  have hcount := mxItems_length dn (p.length + 1) td p (by omega) hpne
  have hne := mxItems_ne_nil dn p.length td p
  have hflat := mxItems_flatten dn (p.length + 1) td p (by omega) hpne
  have hunif := mxItems_uniform dn (p.length + 1) td p (by omega) hpne
  have hfirstlen := mxItems_first p.length td p dn
  unfold mxNamesOf
  generalize mxItems (p.length + 1) td p dn = items at hprops hcount hne hflat hunif hfirstlen ⊢
  obtain ⟨it, rest, rfl⟩ : ∃ it rest, items = it :: rest := by
    cases items with
    | nil => exact absurd rfl hne
    | cons a b => exact ⟨a, b, rfl⟩
  have hunif1 := uniform_first _ it rest hunif
  have hleg : ∀ x ∈ (it :: rest).map (·.1), LegalName x := by
    intro x hx
    simp only [List.mem_map] at hx
    obtain ⟨i, hi, rfl⟩ := hx
    exact (hprops i hi).2
  have hnl : ((it :: rest).map (·.1)).length = (it :: rest).length := by simp
  have hcnt : (it :: rest).length ≤ 27 := by omega
  have hlen1 : (it :: rest).length ≥ 1 := by simp
  obtain ⟨names, hns⟩ : ∃ names, names = (it :: rest).map (·.1) := ⟨_, rfl⟩
  rw [← hns] at hleg hnl ⊢
  have hlenrec := mxRecs_length ty names hleg 1
  have hsz := mxSize_le ty names (fun x hx => (hleg x hx).1)
  have hge := mxSize_ge ty names
  have htoks : names.map tokens = names.map labels :=
    List.map_congr_left (fun x hx => (nameFacts (hleg x hx)).tok)
  rw [htoks] at hlenrec
  have hlen := ansPkt_length id ty names.length qn (mxRecs ty 1 (names.map labels)) hqn
  rw [hlenrec] at hlen
  have hty' : ty < 65536 := by rcases hty with h | h <;> omega
  rw [readDnsWithq_eq _ _ (by rw [hlen]; omega),
    decode_front B id ty _ qn _ hid hty' (by omega) (by omega) hqn (by rw [hlen]; omega)]
  simp only []
  rw [if_neg (by rcases hty with h | h <;> simp [h]), if_neg (by rcases hty with h | h <;> simp [h]), if_pos hty]
  have hmx := answerMx_rt (pkt := ansPkt id ty names.length qn (mxRecs ty 1 (names.map labels)))
    (by rw [hlen]; omega) (by rw [hlen]; omega) B (by omega) hB2
    { rv := 0, id := id, rcode := 0, name := Wire.cstr [(qn ++ [0]).headD 0] } ty hty
    (names.map labels) (qn.length + 18) []
    (at_rrs id ty _ qn _ hqn) (by intro h; have h2 := congrArg List.length h; rw [List.length_map, List.length_nil] at h2; omega)
    (by rw [List.length_map]; omega) (by
      intro t ht
      simp only [List.mem_map] at ht
      obtain ⟨n, hn, rfl⟩ := ht
      have hl := hleg n hn
      have nd := nameFacts hl
      rw [joinDots_labels]
      refine ⟨nd.ok, nd.le253, by rw [nd.len]; have := nd.le253; omega, ?_, fun c hc => (hl.2.1 c hc).1⟩
      intro he; subst he
      have := hl.2.2 [] (by simp [labels]); simp at this)
  rw [List.length_map] at hmx
  rw [hmx]
  have hjd : (names.map labels).map joinDots = names := by
    rw [List.map_map]
    conv => rhs; rw [← List.map_id names]
    apply List.map_congr_left
    intro x _
    simp [joinDots_labels]
  rw [hjd, hns]
  simp only [bind_ok]
  -- the first name fits whole: `strlen(buf)` is its length
  have hit := hprops it (by simp)
  have hitl : it.1.length ≤ 253 := hit.2.1
  have hRdef : mxOutPure B ((it :: rest).map (·.1)) [] =
      mxOutPure B (rest.map (·.1)) (it.1 ++ [0]) := by
    simp only [List.map_cons, mxOutPure, List.length_nil]
    rw [if_neg (by omega)]
    have : min it.1.length (B - (0 + 2)) = it.1.length := by omega
    rw [this, List.take_of_length_le (Nat.le_refl _)]
    simp
  obtain ⟨X, hX⟩ := mxOutPure_prefix B (rest.map (·.1)) (it.1 ++ [0])
  have hrun := mxParts_run it.1.length B hB2 (it :: rest) [] [] ((mxOutPure B ((it :: rest).map (·.1)) []).length + 1)
    hunif1 (fun i hi => (hprops i hi).1) (by simp only [List.length_nil]; omega)
    (by rw [hflat]; simp only [List.length_nil]; omega) (by simp only [List.length_nil]; omega)
  obtain ⟨D, hD, hpre, hex1, hex2, hexp⟩ := hrun
  have hex := And.intro hex1 hex2
  rw [hflat] at hpre hex
  rw [hfirstlen it rest rfl] at hexp
  generalize hR : mxOutPure B ((it :: rest).map (·.1)) [] = R at hD hRdef ⊢
  have hRx : R = it.1 ++ 0 :: X := by rw [hRdef, ← hX]; simp
  have hfirst : (Wire.cstr (R ++ [0])).length = it.1.length := by
    rw [hRx, List.append_assoc]
    rw [show (0 :: X) ++ [0] = 0 :: (X ++ [0]) from rfl, Wire.cstr_append_nul it.1 _ hit.1.nonul]
  have hRpos : ¬ ((R.length : Int) ≤ 0) := by
    rw [hRx]; simp only [List.length_append, List.length_cons]; omega
  simp only [List.length_nil, List.nil_append] at hD
  refine ⟨(Wire.cstr [(qn ++ [0]).headD 0]).headD 0, D, ?_, hpre, ?_, ?_, hexp⟩
  · simp only [hRpos, if_false, Int.toNat_natCast, hfirst, hD]
    rw [if_neg (by rcases hty with h | h <;> simp [h]), if_pos hty]
    have hDl : D.length ≤ B := by have := hpre.length_le; omega
    rw [List.take_of_length_le hDl]
  · intro hfit
    exact hex.1 (by simpa using hfit)
  · intro hnfit
    exact hex.2 (by simpa using hnfit)

/-! ### how long the names are, as a function of the payload length -/

/-- `jl k n`: closed form of `joinedLen` (bytes the host names of an `n`-byte payload take in the client's buffer, NULs
included): `(n - 1) / ucap k` full names and the last one -/
def jl (k n : Nat) : Nat :=
  (n - 1) / ucap k * (nameLenOf (jcap k) + 1) + (nameLenOf (nchars k (n - (n - 1) / ucap k * ucap k)) + 1)

theorem jl_step (k n : Nat) (hk : K567 k) (h : ucap k < n) :
    jl k n = nameLenOf (jcap k) + 1 + jl k (n - ucap k) := by
  have hu := ucap_ge k hk
  unfold jl
  generalize ucap k = u at *
  have h1 : (n - 1) / u = (n - u - 1) / u + 1 := by
    rw [show n - 1 = n - u - 1 + u by omega, Nat.add_div_right _ (by omega)]
  have h2 : n - ((n - u - 1) / u + 1) * u = n - u - (n - u - 1) / u * u := by
    rw [Nat.add_mul]; omega
  rw [h1, h2, Nat.add_mul]; omega

theorem jl_last (k n : Nat) (hk : K567 k) (h1 : 1 ≤ n) (h : n ≤ ucap k) : jl k n = nameLenOf (nchars k n) + 1 := by
  unfold jl
  rw [Nat.div_eq_of_lt (by omega)]; simp

theorem joinedLen_items (dn : Nat) : ∀ (fuel : Nat) (td : Td) (data : List Nat), data.length ≤ fuel → data ≠ [] →
    joinedLen ((mxItems fuel td data dn).map (·.1)) = jl (nameCodec dn).2.k data.length := by
  intro fuel
  induction fuel with
  | zero => intro td data h hne; exact absurd (List.eq_nil_of_length_eq_zero (by omega)) hne
  | succ fuel ih =>
    intro td data h hne
    have hwf := (hostCodec dn).wf
    have hu := nameenc_used td 255 (by omega) data dn
    have hlen := nameenc_length td 255 (by omega) data dn
    have henc := enc245 hwf data
    have hpos : 1 ≤ data.length := by
      cases data with
      | nil => exact absurd rfl hne
      | cons a b => simp
    have hucap := ucap_ge _ hwf.k_ok
    simp only [mxItems]
    by_cases hle : data.length ≤ ucap (nameCodec dn).2.k
    · obtain ⟨h1, h2⟩ := henc.1 hle
      rw [if_pos (by rw [hu, h1]; exact Nat.le_refl _)]
      simp only [joinedLen, List.map_cons, List.map_nil, List.sum_cons, List.sum_nil, hlen, h2]
      rw [jl_last _ _ hwf.k_ok hpos hle]
      rfl
    · obtain ⟨h1, h2⟩ := henc.2 (by omega)
      rw [if_neg (by rw [hu, h1]; omega)]
      have := ih (nameenc td 255 data dn).td (data.drop (nameenc td 255 data dn).used)
        (by simp only [List.length_drop]; omega) (drop_ne_nil (by rw [hu, h1]; omega))
      simp only [joinedLen, List.map_cons, List.sum_cons, hlen, h2] at this ⊢
      rw [this, List.length_drop, hu, h1, jl_step (nameCodec dn).2.k data.length hwf.k_ok (by omega)]

theorem joinedLen_mxNamesOf (td : Td) (p : List Nat) (dn : Nat) (hp1 : 1 ≤ p.length) :
    joinedLen (mxNamesOf td p dn) = jl (nameCodec dn).2.k p.length := by
  have hpne : p ≠ [] := by intro h; rw [h] at hp1; simp at hp1
  exact joinedLen_items dn (p.length + 1) td p (by omega) hpne

theorem jl_mono_step (k n : Nat) (hk : K567 k) (h : 1 ≤ n) : jl k n ≤ jl k (n + 1) := by
  have hfull : nameLenOf (nchars k (ucap k)) ≤ nameLenOf (jcap k) :=
    nameLenOf_mono (by rcases hk with rfl | rfl | rfl <;> decide)
  obtain ⟨m, rfl⟩ : ∃ m, n = m + 1 := ⟨n - 1, by omega⟩
  unfold jl
  simp only [Nat.add_sub_cancel]
  generalize ucap k = u at *
  generalize nameLenOf (jcap k) = L at *
  by_cases hd : u ∣ m + 1
  · -- the last name is full: the next byte opens a new one
    have hq := Nat.succ_div_of_dvd hd
    have hm : m + 1 = (m / u + 1) * u := by rw [← hq]; exact (Nat.div_mul_cancel hd).symm
    rw [Nat.add_mul] at hm
    rw [hq, show m + 1 - m / u * u = u by omega, Nat.add_mul]
    omega
  · rw [Nat.succ_div_of_not_dvd hd]
    refine Nat.add_le_add_left (Nat.add_le_add_right (nameLenOf_mono ?_) 1) _
    exact Nat.div_le_div_right (by omega)

theorem jl_mono (k : Nat) (hk : K567 k) {m n : Nat} (hm : 1 ≤ m) (hmn : m ≤ n) : jl k m ≤ jl k n := by
  induction n with
  | zero => omega
  | succ n ih =>
    by_cases h : m = n + 1
    · rw [h]; exact Nat.le_refl _
    · refine Nat.le_trans (ih (by omega)) ?_
      exact jl_mono_step k n hk (by omega)

end Iodine.Downstream
