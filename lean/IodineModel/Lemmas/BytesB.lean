import IodineModel.Server.Bytes
import IodineModel.Lemmas.BytesA
import IodineModel.Lemmas.SrvC14d
import IodineModel.Lemmas.WireRead
import IodineModel.Lemmas.Ite
/-
The byte-level server: the keys of the queries it answers.

* a predicate on keys `(address, id, name, type)` that holds for every query the server holds back and for the
  arriving query holds for every `ans` event of the iteration and for every query held back afterwards
  (from the multiset balance of Lemmas/SrvC14*.lean); the arriving query need only satisfy it if `tunnel_dns` hands it to
  `handle_null_request`: a query of another type or outside the tunnel domain is neither stored nor answered by `write_dns`;
* what `dns_decode(QR_QUERY)` returns.
-/
namespace Iodine.BytesL
open Iodine Iodine.Server Iodine.C14L Iodine.Gen

/-! ### keys of held and answered queries -/

/-- every query held back in `s` (with its remembered duplicate) satisfies `P` -/
def KeyInv (P : Key → Prop) (s : Srv) : Prop := ∀ k ∈ held s, P k

/-- every `write_dns` of the events goes to a key satisfying `P` -/
def AnsInv (P : Key → Prop) (evs : List Event) : Prop :=
  ∀ dst id ty dn name data tag, Event.ans dst id ty dn name data tag ∈ evs → P (dst, id, name, ty)

theorem ans_mem_keysOf (arr : Query) {evs : List Event} {dst : Addr} {id ty dn : Nat} {name data : List Nat} {tag : Tag}
    (h : Event.ans dst id ty dn name data tag ∈ evs) : (dst, id, name, ty) ∈ keysOf arr evs :=
  List.mem_flatMap.2 ⟨_, h, by simp [evKeys]⟩

theorem keys_of_le {P : Key → Prop} {arr : Query} {evs : List Event} {s' : Srv} {B : List Key}
    (h : Le (keysOf arr evs ++ held s') B) (hB : ∀ k ∈ B, P k) : AnsInv P evs ∧ KeyInv P s' := by
  constructor
  · intro dst id ty dn name data tag he
    exact hB _ (mem_of_count_le (h _) (List.mem_append_left _ (ans_mem_keysOf arr he)))
  · intro k hk
    exact hB _ (mem_of_count_le (h _) (List.mem_append_right _ hk))

/-- a handler's result that leaves the stored queries alone and contains no `write_dns` -/
def Quiet (s : Srv) (r : Res) : Prop :=
  r.1.users = s.users ∧ ∀ e ∈ r.2, (∃ d, e = Event.nsa d) ∨ (∃ d, e = Event.fwd d)

theorem quiet_nil (s : Srv) : Quiet s (s, []) := ⟨rfl, fun _ h => by cases h⟩

theorem quiet_aRequest (s : Srv) (q : Query) (f : Bool) : Quiet s (handleARequest s q f) := by
  rw [handleARequest]
  exact ite_both (quiet_nil s) ⟨rfl, fun e he => .inl ⟨_, List.mem_singleton.1 he⟩⟩

theorem quiet_nsRequest (s : Srv) (q : Query) (dlen : Nat) : Quiet s (handleNsRequest s q dlen) := by
  rw [handleNsRequest]
  exact ite_both (quiet_nil s) ⟨rfl, fun e he => .inl ⟨_, List.mem_singleton.1 he⟩⟩

theorem quiet_forward (s : Srv) (q : Query) : Quiet s (forwardQuery s q) :=
  ⟨rfl, fun _ he => .inr ⟨_, List.mem_singleton.1 he⟩⟩

theorem tunnelDns_nontunnel (s : Srv) (q : Query) (hty : ¬ TunnelType q.type) : Quiet s (tunnelDns s q) :=
  tunnelDns_ind s q (quiet_nil s) (quiet_aRequest s q)
    (fun _ _ h => absurd (by
      unfold TunnelType
      simp only [C16L.TunnelType, T_NULL, T_PRIVATE, T_CNAME, T_A, T_MX, T_SRV, T_TXT] at h
      omega) hty)
    (quiet_nsRequest s q) (quiet_forward s q)

theorem tunnelDns_nomatch (s : Srv) (q : Query) (h : Common.queryDatalen q.name s.cfg.topdomain = none) :
    Quiet s (tunnelDns s q) := by
  rw [tunnelDns, h]
  exact ite_both (quiet_nil s) (ite_both (quiet_forward s q) (quiet_nil s))

/-- an iteration whose handler leaves the stored queries alone and calls no `write_dns`: the sweep answers held queries only -/
theorem iteration_keys_quiet (P : Key → Prop) (s : Srv) (q : Query) (now' : Nat)
    (hq : Quiet { (topOfLoop s).1 with now := now' } (tunnelDns { (topOfLoop s).1 with now := now' } q)) (hinv : KeyInv P s) :
    AnsInv P (out s ⟨.q q, now'⟩) ∧ KeyInv P (next s ⟨.q q, now'⟩) := by
  have hsq : SameQ s (tunnelDns { (topOfLoop s).1 with now := now' } q).1 := (sameQ_topOfLoop s now').trans (sameQ_of_users hq.1)
  have hsw := sweepFrom_bal Query.zero [] (tunnelDns { (topOfLoop s).1 with now := now' } q).1.cfg.createdUsers 0
    (tunnelDns { (topOfLoop s).1 with now := now' } q).1
  have hle := hsw.le
  simp only [List.append_nil] at hle
  have hk := keys_of_le (P := P) hle (by rw [hsq.held_eq]; exact hinv)
  refine ⟨fun dst id ty dn name data tag he => ?_, hk.2⟩
  have he' : Event.ans dst id ty dn name data tag ∈
      ((tunnelDns { (topOfLoop s).1 with now := now' } q).2 ++ [Event.sweep]) ++
        (sweepFrom (tunnelDns { (topOfLoop s).1 with now := now' } q).1.cfg.createdUsers 0
          (tunnelDns { (topOfLoop s).1 with now := now' } q).1).2 := he
  rcases List.mem_append.1 he' with h1 | h1
  · rcases List.mem_append.1 h1 with h2 | h2
    · rcases hq.2 _ h2 with ⟨d, hd⟩ | ⟨d, hd⟩ <;> cases hd
    · simp at h2
  · exact hk.1 dst id ty dn name data tag h1

/-- One iteration and a predicate on keys: if it holds for everything held back before and for the arriving query
(when that is a tunnel-type query inside the tunnel domain), it holds for every `write_dns` of the iteration and for everything
held back afterwards. -/
theorem iteration_keys_plain (P : Key → Prop) (s : Srv) (inp : Input) (now' : Nat)
    (hwf : ∀ q, inp = .q q → q.id2 = 0)
    (hP : ∀ q, inp = .q q → TunnelType q.type → Common.queryDatalen q.name s.cfg.topdomain ≠ none → P (keyOf q))
    (hinv : KeyInv P s) :
    AnsInv P (out s ⟨inp, now'⟩) ∧ KeyInv P (next s ⟨inp, now'⟩) := by
  by_cases hq : ∃ q, inp = .q q
  · obtain ⟨q, rfl⟩ := hq
    by_cases hty : TunnelType q.type
    · by_cases hd : Common.queryDatalen q.name s.cfg.topdomain = none
      · exact iteration_keys_quiet P s q now' (tunnelDns_nomatch _ q hd) hinv
      · apply keys_of_le (iteration_q_le s q now' (hwf q rfl))
        intro k hk
        rcases List.mem_append.1 hk with hk | hk
        · exact hinv k hk
        · simp only [List.mem_singleton] at hk
          subst hk
          exact hP q rfl hty hd
    · exact iteration_keys_quiet P s q now' (tunnelDns_nontunnel _ q hty) hinv
  · have hne : ∀ q, inp ≠ .q q := fun q h => hq ⟨q, h⟩
    exact keys_of_le (iteration_other_le Query.zero s inp now' hne) hinv

theorem keyInv_start (P : Key → Prop) (cfg : Config) (rnd : List Nat) : KeyInv P (start cfg rnd) := by
  intro k hk
  rw [held_start] at hk
  cases hk

/-! ### what `dns_decode(QR_QUERY)` guarantees -/

open Iodine.Wire in
theorem dnsDecodeQuery_ok_cases {b : RxBuf} {d : Decoded} (h : dnsDecodeQuery b = .ok d) : QueryOut b d :=
  (dnsDecodeQuery_same (Q := True) (r₁ := b.res)).post d h

open Iodine.Wire in
/-- `q->id` and `q->type` are `unsigned short`s -/
theorem dnsDecodeQuery_facts {b : RxBuf} {d : Decoded} (h : dnsDecodeQuery b = .ok d) :
    d.id < 65536 ∧ d.type < 65536 := by
  rcases dnsDecodeQuery_ok_cases h with ⟨_, h1, h2⟩ | ⟨_, _, _, _, h1, h2, _⟩
  · rw [h1, h2]; decide
  · exact ⟨h1, h2⟩

end Iodine.BytesL
