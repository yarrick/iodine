import IodineModel.Lemmas.C02frame
import IodineModel.Server.Handle
import IodineModel.Lemmas.Ite
/-
Component lemmas about the CLIENT model (IodineModel/Client/*.lean) for `client_resends_then_gives_up`, `client_tun_gating`,
`ack_advances_client`, `seqno_window`, `session_expiry_60_client`, `no_deadlock_after_giveup_client` (Props/C02.lean).  Every
theorem is stated for ALL states `c : Cli`.
-/
namespace Iodine.C02L
open Iodine Iodine.Client

/-! ## 1. frame of the senders -/

/-- the fields `send_chunk` may change: those of `send_query` plus `outpkt.sentlen` and `datacmc` -/
def scFrame (c r : Cli) : Cli :=
  { c with chunkid := r.chunkid, chunkidPrev := r.chunkidPrev, chunkidPrev2 := r.chunkidPrev2, sendcnt := r.sendcnt,
           recvcnt := r.recvcnt, selecttimeout := r.selecttimeout, lazymode := r.lazymode, randSeed := r.randSeed, lastrawping := r.lastrawping,
           outpkt := { c.outpkt with sentlen := r.outpkt.sentlen }, datacmc := r.datacmc }

/-- the fields a handler's "sender + rest of the function" may change: `scFrame` plus `sendPingSoon` -/
def sndFrame (c r : Cli) : Cli :=
  { c with chunkid := r.chunkid, chunkidPrev := r.chunkidPrev, chunkidPrev2 := r.chunkidPrev2, sendcnt := r.sendcnt,
           recvcnt := r.recvcnt, selecttimeout := r.selecttimeout, lazymode := r.lazymode, randSeed := r.randSeed, lastrawping := r.lastrawping,
           outpkt := { c.outpkt with sentlen := r.outpkt.sentlen }, datacmc := r.datacmc,
           sendPingSoon := r.sendPingSoon }

theorem scFrame_self (c : Cli) : scFrame c c = c := rfl
theorem sndFrame_self (c : Cli) : sndFrame c c = c := rfl

/-- `scFrame`, `sndFrame` are what the erasures `erChunk`, `erSnd` of Lemmas/CliFrame.lean blank -/
theorem scFrame_of_frame {c r : Cli} (h : CFrame erChunk c r) : r = scFrame c r := by
  have e : ∀ x : Cli, scFrame x r = scFrame (erChunk x) r := fun _ => rfl
  rw [e c, ← h]; rfl

theorem frame_of_scFrame {c r : Cli} (h : r = scFrame c r) : CFrame erChunk c r := by rw [h]; rfl

theorem sndFrame_of_frame {c r : Cli} (h : CFrame erSnd c r) : r = sndFrame c r := by
  have e : ∀ x : Cli, sndFrame x r = sndFrame (erSnd x) r := fun _ => rfl
  rw [e c, ← h]; rfl

theorem sendChunk_frame (c : Cli) : (sendChunk c).c = scFrame c (sendChunk c).c := scFrame_of_frame (frame_sendChunk c)

theorem sendPing_frame (c : Cli) : (sendPing c).c = scFrame c (sendPing c).c :=
  scFrame_of_frame ((frame_sendPing_any c).coarsen erChunk_erPing)

/-- `afterSend`: the state is the sender's, with `send_ping_soon = 0` unless the thread got parked. -/
theorem afterSend_state (s : Sent) (pre : List CEvent) (k : Resume) :
    (afterSend s pre k).1 = if s.parked then s.c else { s.c with sendPingSoon := 0 } := by
  unfold afterSend
  split
  · rfl
  · exact resume_state _ _

theorem afterSend_evs (s : Sent) (pre : List CEvent) (k : Resume) : (afterSend s pre k).2.1 = pre ++ s.evs := by
  unfold afterSend
  split <;> rfl

theorem afterSend_stop (s : Sent) (pre : List CEvent) (k : Resume) :
    (afterSend s pre k).2.2 = if s.parked then .park k else .ret (resume s.c k).2 := by
  unfold afterSend
  split <;> rfl

theorem afterSend_frame (c : Cli) (s : Sent) (pre : List CEvent) (k : Resume) (h : s.c = scFrame c s.c) :
    (afterSend s pre k).1 = sndFrame c (afterSend s pre k).1 :=
  sndFrame_of_frame (frame_afterSend (frame_of_scFrame h) pre k)

/-- what the frames say field by field: everything of the transfer except `outpkt.sentlen` is left alone by
`send_chunk`, `send_ping`, `send_packet` -/
theorem scFrame_fields (c r : Cli) (h : r = scFrame c r) :
    r.outpkt.len = c.outpkt.len ∧ r.outpkt.offset = c.outpkt.offset ∧ r.outpkt.fragment = c.outpkt.fragment ∧
    r.outpkt.seqno = c.outpkt.seqno ∧ r.outpkt.data = c.outpkt.data ∧ r.inpkt = c.inpkt ∧
    r.outchunkresent = c.outchunkresent ∧ r.running = c.running ∧ r.conn = c.conn ∧ r.userid = c.userid ∧
    r.useridChar = c.useridChar ∧ r.useridChar2 = c.useridChar2 ∧ r.dataenc = c.dataenc ∧ r.topdomain = c.topdomain ∧
    r.hostnameMaxlen = c.hostnameMaxlen ∧ r.lastdownstreamtime = c.lastdownstreamtime ∧ r.now = c.now ∧
    r.sendPingSoon = c.sendPingSoon ∧ r.doQtype = c.doQtype ∧ r.edns0 = c.edns0 ∧ r.downenc = c.downenc ∧
    r.packrecv = c.packrecv ∧ r.packrecvOos = c.packrecvOos ∧ r.packrecvServfail = c.packrecvServfail := by
  rw [h]
  exact ⟨rfl, rfl, rfl, rfl, rfl, rfl, rfl, rfl, rfl, rfl, rfl, rfl, rfl, rfl, rfl, rfl, rfl, rfl, rfl, rfl, rfl, rfl,
    rfl, rfl⟩

/-- the same for a whole handler tail (sender + `send_ping_soon = 0`): `sendPingSoon` is not among the fields kept -/
theorem sndFrame_fields (c r : Cli) (h : r = sndFrame c r) :
    r.outpkt.len = c.outpkt.len ∧ r.outpkt.offset = c.outpkt.offset ∧ r.outpkt.fragment = c.outpkt.fragment ∧
    r.outpkt.seqno = c.outpkt.seqno ∧ r.outpkt.data = c.outpkt.data ∧ r.inpkt = c.inpkt ∧
    r.outchunkresent = c.outchunkresent ∧ r.running = c.running ∧ r.conn = c.conn ∧ r.userid = c.userid ∧
    r.useridChar = c.useridChar ∧ r.useridChar2 = c.useridChar2 ∧ r.dataenc = c.dataenc ∧ r.topdomain = c.topdomain ∧
    r.hostnameMaxlen = c.hostnameMaxlen ∧ r.lastdownstreamtime = c.lastdownstreamtime ∧ r.now = c.now ∧
    r.doQtype = c.doQtype ∧ r.edns0 = c.edns0 ∧ r.downenc = c.downenc ∧
    r.packrecv = c.packrecv ∧ r.packrecvOos = c.packrecvOos ∧ r.packrecvServfail = c.packrecvServfail := by
  rw [h]
  exact ⟨rfl, rfl, rfl, rfl, rfl, rfl, rfl, rfl, rfl, rfl, rfl, rfl, rfl, rfl, rfl, rfl, rfl, rfl, rfl, rfl, rfl, rfl,
    rfl⟩

/-- `send_chunk` sets `outpkt.sentlen` to what `build_hostname` consumed and steps `datacmc` through 0..35 -/
theorem sendChunk_sentlen (c : Cli) :
    (sendChunk c).c.outpkt.sentlen =
      (buildHostname c.dataenc.codec c.hostnameMaxlen 4091 0 c.topdomain (outRest c.outpkt)).used ∧
    (sendChunk c).c.datacmc = (if c.datacmc + 1 ≥ 36 then 0 else c.datacmc + 1) := by
  unfold sendChunk
  exact ⟨congrArg (·.outpkt.sentlen) (sendQuery_frame _ _), congrArg (·.datacmc) (sendQuery_frame _ _)⟩

/-! ## 2. `client_resends_then_gives_up` -/

/-- the data part of the host name `send_chunk` builds for the fragment in flight -/
def chunkData (c : Cli) : List Nat :=
  (buildHostname c.dataenc.codec c.hostnameMaxlen 4091 0 c.topdomain (outRest c.outpkt)).name

/-- same packet, same position in it -/
def SameChunk (c c' : Cli) : Prop :=
  c'.outpkt.len = c.outpkt.len ∧ c'.outpkt.offset = c.outpkt.offset ∧ c'.outpkt.fragment = c.outpkt.fragment ∧
  c'.outpkt.seqno = c.outpkt.seqno ∧ c'.outpkt.data = c.outpkt.data ∧ c'.inpkt = c.inpkt ∧
  c'.dataenc = c.dataenc ∧ c'.hostnameMaxlen = c.hostnameMaxlen ∧ c'.topdomain = c.topdomain ∧ c'.userid = c.userid ∧
  c'.useridChar = c.useridChar ∧ c'.conn = c.conn

theorem SameChunk.refl (c : Cli) : SameChunk c c :=
  ⟨rfl, rfl, rfl, rfl, rfl, rfl, rfl, rfl, rfl, rfl, rfl, rfl⟩

theorem SameChunk.trans {a b c : Cli} (h1 : SameChunk a b) (h2 : SameChunk b c) : SameChunk a c := by
  obtain ⟨a1, a2, a3, a4, a5, a6, a7, a8, a9, a10, a11, a12⟩ := h1
  obtain ⟨b1, b2, b3, b4, b5, b6, b7, b8, b9, b10, b11, b12⟩ := h2
  exact ⟨b1.trans a1, b2.trans a2, b3.trans a3, b4.trans a4, b5.trans a5, b6.trans a6, b7.trans a7, b8.trans a8,
    b9.trans a9, b10.trans a10, b11.trans a11, b12.trans a12⟩

theorem sameChunk_of_sndFrame (c0 c r : Cli) (h : r = sndFrame c r) (h0 : SameChunk c0 c) : SameChunk c0 r := by
  rw [h]
  exact h0

theorem chunkData_sameChunk {c c' : Cli} (h : SameChunk c c') : chunkData c' = chunkData c := by
  obtain ⟨h1, h2, -, -, h5, -, h7, h8, h9, -, -, -⟩ := h
  unfold chunkData outRest
  rw [h1, h2, h5, h7, h8, h9]

/-- the four header characters of a chunk depend only on what `SameChunk` fixes, the fifth on `datacmc` -/
theorem chunkHeader_sameChunk {c c' : Cli} (h : SameChunk c c') (hd : c'.datacmc = c.datacmc) (last : Bool) :
    chunkHeader c' last = chunkHeader c last := by
  obtain ⟨-, -, h3, h4, -, h6, -, -, -, -, h11, -⟩ := h
  unfold chunkHeader
  rw [h3, h4, h6, h11, hd]

theorem chunkHeader_length (c : Cli) (last : Bool) : (chunkHeader c last).length = 5 := rfl

/-- `send_chunk` is `send_query` of a 5-character header followed by `chunkData c`: a resent chunk (`SameChunk`)
carries the SAME data part (`chunkData_sameChunk`). -/
theorem sendChunk_eq (c : Cli) :
    sendChunk c =
      (let used := (buildHostname c.dataenc.codec c.hostnameMaxlen 4091 0 c.topdomain (outRest c.outpkt)).used
       let c2 : Cli := { c with outpkt := { c.outpkt with sentlen := used } }
       let last : Bool := used == c.outpkt.len - c.outpkt.offset
       let c1 : Cli := { c2 with datacmc := if c2.datacmc + 1 ≥ 36 then 0 else c2.datacmc + 1 }
       sendQuery c1 (chunkHeader c2 last ++ chunkData c)) := rfl

theorem sendChunk_name (c : Cli) :
    (sendChunk c).evs =
      (let used := (buildHostname c.dataenc.codec c.hostnameMaxlen 4091 0 c.topdomain (outRest c.outpkt)).used
       let c2 : Cli := { c with outpkt := { c.outpkt with sentlen := used } }
       let last : Bool := used == c.outpkt.len - c.outpkt.offset
       let c1 : Cli := { c2 with datacmc := if c2.datacmc + 1 ≥ 36 then 0 else c2.datacmc + 1 }
       (sendQuery c1 (chunkHeader c2 last ++ chunkData c)).evs) := rfl

theorem sameChunk_resent (c : Cli) (n : Nat) : SameChunk c { c with outchunkresent := n } := SameChunk.refl c

theorem isSending_congr {c c' : Cli} (h : c'.outpkt.len = c.outpkt.len) : isSending c' = isSending c := by
  unfold isSending
  rw [h]

/-- a timeout with fewer than three resends behind it: the same chunk is sent again, the counter goes up by one -/
theorem timeoutBranch_resend_spec (c : Cli) (hs : isSending c = true) (h : c.outchunkresent < 3) :
    SameChunk c (timeoutBranch c).1 ∧ (timeoutBranch c).1.outchunkresent = c.outchunkresent + 1 ∧
    isSending (timeoutBranch c).1 = true ∧
    (timeoutBranch c).2.1 = (sendChunk { c with outchunkresent := c.outchunkresent + 1 }).evs := by
  rw [timeoutBranch_resend c hs h]
  have hf := afterSend_frame _ _ [] .timeout (sendChunk_frame { c with outchunkresent := c.outchunkresent + 1 })
  have hsc := sameChunk_of_sndFrame c _ _ hf (sameChunk_resent c _)
  refine ⟨hsc, congrArg (·.outchunkresent) hf, (isSending_congr hsc.1).trans hs, ?_⟩
  rw [afterSend_evs]
  rfl

/-- the state from which the give-up ping is sent: no packet in flight, counter 0 -/
abbrev dropPkt (c : Cli) : Cli :=
  { c with outpkt := { c.outpkt with offset := 0, len := 0, sentlen := 0 }, outchunkresent := 0 }

/-- a timeout with three resends behind it: the packet is dropped, a ping is sent -/
theorem timeoutBranch_giveup_spec (c : Cli) (hs : isSending c = true) (h : 3 ≤ c.outchunkresent) :
    (timeoutBranch c).1.outpkt.len = 0 ∧ (timeoutBranch c).1.outchunkresent = 0 ∧
    isSending (timeoutBranch c).1 = false ∧
    (timeoutBranch c).2.1 =
      (sendPing { c with outpkt := { c.outpkt with offset := 0, len := 0, sentlen := 0 }, outchunkresent := 0 }).evs := by
  have he : timeoutBranch c = afterSend (sendPing (dropPkt c)) [] .timeout := by
    unfold timeoutBranch
    have : ¬ c.outchunkresent < 3 := by omega
    simp [hs, this]
  rw [he]
  have hf := afterSend_frame _ _ [] .timeout (sendPing_frame (dropPkt c))
  have hl : (afterSend (sendPing (dropPkt c)) [] .timeout).1.outpkt.len = (dropPkt c).outpkt.len :=
    congrArg (·.outpkt.len) hf
  refine ⟨hl, congrArg (·.outchunkresent) hf, isSending_congr hl, ?_⟩
  rw [afterSend_evs]
  rfl

theorem advanceClock_frame (c : Cli) (s : Sel) : advanceClock c s = { c with now := (advanceClock c s).now } := rfl

theorem advanceClock_now (c : Cli) (s : Sel) : (advanceClock c s).now = c.now + (s.to / 1000000).toNat := rfl

theorem advanceClock_sameChunk (c : Cli) (s : Sel) : SameChunk c (advanceClock c s) := SameChunk.refl c

theorem advanceClock_outchunkresent (c : Cli) (s : Sel) : (advanceClock c s).outchunkresent = c.outchunkresent := rfl

theorem advanceClock_isSending (c : Cli) (s : Sel) : isSending (advanceClock c s) = isSending c := rfl

/-- the step machine on a `tick`: the `i == 0` branch on the state with the advanced clock (as long as the 60 s
have not run out) -/
theorem tunnelStep_tick (c : Cli) (hrun : c.running = true)
    (hexp : ¬ c.lastdownstreamtime + 60 < (advanceClock c (selectOf c)).now) :
    tunnelStep c .tick = settle (timeoutBranch (advanceClock c (selectOf c))) := by
  have h1 : afterSelect (advanceClock c (selectOf c)) = advanceClock c (selectOf c) := by
    unfold afterSelect
    exact if_neg hexp
  have h2 : (advanceClock c (selectOf c)).running = true := hrun
  unfold tunnelStep
  simp only [fire, h1, h2]
  rfl

/-- An excursion into `handshake_lazyoff` leaves the packets and the resend counter alone. -/
theorem lazyoffStep_preserves (c : Cli) (i : Nat) (k : Resume) (inp : CInput) :
    (cstep ⟨c, .lazyoff i k⟩ inp).1.c.outpkt = c.outpkt ∧ (cstep ⟨c, .lazyoff i k⟩ inp).1.c.inpkt = c.inpkt ∧
    (cstep ⟨c, .lazyoff i k⟩ inp).1.c.outchunkresent = c.outchunkresent ∧
    SameChunk c (cstep ⟨c, .lazyoff i k⟩ inp).1.c := by
  have h : CFrame erTime c (cstep ⟨c, .lazyoff i k⟩ inp).1.c := frame_lazyoffStep c i k inp
  exact ⟨congrArg (·.outpkt) h, congrArg (·.inpkt) h, congrArg (·.outchunkresent) h,
    congrArg (·.outpkt.len) h, congrArg (·.outpkt.offset) h, congrArg (·.outpkt.fragment) h, congrArg (·.outpkt.seqno) h,
    congrArg (·.outpkt.data) h, congrArg (·.inpkt) h, congrArg (·.dataenc) h, congrArg (·.hostnameMaxlen) h,
    congrArg (·.topdomain) h, congrArg (·.userid) h, congrArg (·.useridChar) h, congrArg (·.conn) h⟩

/-- a client with a 3-byte packet in flight and no resend yet: the hypotheses of `client_resends_then_gives_up` -/
def exC : Cli :=
  { Cli.boot with topdomain := [97, 46, 98, 99], doQtype := 10, running := true, conn := .dnsNull, useridChar := 48,
                  outpkt := ⟨3, 0, 0, [0x5a, 1, 2], 1, 0⟩ }

/-- the four successive timeouts of `exC` produce three data queries (same name up to the data-CMC character, position 4)
and then a ping (`p…`), after which nothing is in flight -/
example :
    let r1 := timeoutBranch exC
    let r2 := timeoutBranch r1.1
    let r3 := timeoutBranch r2.1
    let r4 := timeoutBranch r3.1
    r1.2.1 = [.query 7727 10 [48, 101, 97, 98, 97, 108, 105, 97, 113, 101, 46, 97, 46, 98, 99]] ∧
    r2.2.1 = [.query 15454 10 [48, 101, 97, 98, 98, 108, 105, 97, 113, 101, 46, 97, 46, 98, 99]] ∧
    r3.2.1 = [.query 23181 10 [48, 101, 97, 98, 99, 108, 105, 97, 113, 101, 46, 97, 46, 98, 99]] ∧
    r4.2.1 = [.query 30908 10 [112, 97, 97, 97, 97, 97, 97, 97, 46, 97, 46, 98, 99]] ∧
    r3.1.outchunkresent = 3 ∧ r4.1.outchunkresent = 0 ∧ r4.1.outpkt.len = 0 := by decide +kernel

example : isSending exC = true ∧ exC.outchunkresent = 0 := by decide

/-! ## 3. `client_tun_gating` -/

theorem afterSelect_of_not_expired (c : Cli) (hexp : ¬ c.lastdownstreamtime + 60 < c.now) : afterSelect c = c :=
  if_neg hexp

theorem afterSelect_of_expired (c : Cli) (hexp : c.lastdownstreamtime + 60 < c.now) :
    afterSelect c = { c with running := false } := if_pos hexp

theorem rawKeepalive_dns (c : Cli) (h : c.conn = .dnsNull) : rawKeepalive c = (c, []) := by
  unfold rawKeepalive
  rw [if_neg (by intro hc; exact hc.1 h)]

theorem rawKeepalive_frame (c : Cli) : (rawKeepalive c).1 = { c with lastrawping := (rawKeepalive c).1.lastrawping } := by
  unfold rawKeepalive
  split <;> rfl

theorem after_nil (r : CState × List CEvent × Next) : after [] r = r := rfl

/-- what `tunnelStep` does once the 60 s check has passed (the raw-mode keepalive precedes the tun / dns handlers) -/
theorem tunnelStep_alive_raw (c : Cli) (inp : CInput) (hrun : c.running = true)
    (hexp : ¬ (fire c (selectOf c) inp).1.lastdownstreamtime + 60 < (fire c (selectOf c) inp).1.now) :
    tunnelStep c inp =
      (match (fire c (selectOf c) inp).2 with
       | .timeout => settle (timeoutBranch (fire c (selectOf c) inp).1)
       | .tun frame => after (rawKeepalive (fire c (selectOf c) inp).1).2
           (settle (tunnelTun (rawKeepalive (fire c (selectOf c) inp).1).1 frame))
       | .dns inp' => after (rawKeepalive (fire c (selectOf c) inp).1).2
           (settle (tunnelDnsInput (rawKeepalive (fire c (selectOf c) inp).1).1 inp'))) := by
  have hr : (fire c (selectOf c) inp).1.running = true := by
    exact (congrArg (·.running) (frame_fire_now c (selectOf c) inp)).trans hrun
  unfold tunnelStep
  simp only [afterSelect_of_not_expired _ hexp, hr, Bool.not_true, Bool.false_eq_true, if_false]
  generalize (fire c (selectOf c) inp).2 = fd
  cases fd <;> rfl

/-- the same in DNS mode, where no keepalive exists -/
theorem tunnelStep_alive (c : Cli) (inp : CInput) (hrun : c.running = true) (hconn : c.conn = .dnsNull)
    (hexp : ¬ (fire c (selectOf c) inp).1.lastdownstreamtime + 60 < (fire c (selectOf c) inp).1.now) :
    tunnelStep c inp =
      (match (fire c (selectOf c) inp).2 with
       | .timeout => settle (timeoutBranch (fire c (selectOf c) inp).1)
       | .tun frame => settle (tunnelTun (fire c (selectOf c) inp).1 frame)
       | .dns inp' => settle (tunnelDnsInput (fire c (selectOf c) inp).1 inp')) := by
  have hc : (fire c (selectOf c) inp).1.conn = .dnsNull := by
    exact (congrArg (·.conn) (frame_fire_now c (selectOf c) inp)).trans hconn
  rw [tunnelStep_alive_raw c inp hrun hexp, rawKeepalive_dns _ hc]
  generalize (fire c (selectOf c) inp).2 = fd
  cases fd <;> rfl

/-- A tun frame that arrives while a packet is in flight (possible from the second resend on, when tun is selected
again) is read and discarded: NOTHING changes and nothing is sent — except, in raw mode, the keepalive that precedes
every handler when it is due (`rawKeepalive`: only `lastrawping` changes). -/
theorem tunnelStep_tun_while_sending_raw (c : Cli) (f : List Nat) (hrun : c.running = true)
    (hexp : ¬ c.lastdownstreamtime + 60 < c.now) (hs : isSending c = true) (h2 : c.outchunkresent ≥ 2) :
    tunnelStep c (.tun f) =
      (⟨(rawKeepalive c).1, .tunnel⟩, (rawKeepalive c).2, .sel (selectOf (rawKeepalive c).1)) := by
  have ht : (selectOf c).tun = true := (selectOf_tun c).2 (Or.inr h2)
  have hfire : fire c (selectOf c) (.tun f) = (c, .tun f) := by
    simp only [fire, ht, if_true]
  have hk := rawKeepalive_frame c
  have hs' : isSending (rawKeepalive c).1 = true := by rw [hk]; exact hs
  have hr' : (rawKeepalive c).1.running = true := by rw [hk]; exact hrun
  rw [tunnelStep_alive_raw c _ hrun (by rw [hfire]; exact hexp), hfire]
  simp only [tunnelTun_sending _ f hs', settle, loopTop, hr', if_true, after, List.append_nil]

/-- … in DNS mode: nothing at all -/
theorem tunnelStep_tun_while_sending (c : Cli) (f : List Nat) (hrun : c.running = true) (hconn : c.conn = .dnsNull)
    (hexp : ¬ c.lastdownstreamtime + 60 < c.now) (hs : isSending c = true) (h2 : c.outchunkresent ≥ 2) :
    tunnelStep c (.tun f) = (⟨c, .tunnel⟩, [], .sel (selectOf c)) := by
  rw [tunnelStep_tun_while_sending_raw c f hrun hexp hs h2, rawKeepalive_dns c hconn]

/-- the packet `tunnel_tun` sets up from a frame -/
def newPacket (c : Cli) (f : List Nat) : Cli :=
  { c with outpkt := { data := (compress (f.take 65536)).take 65536, len := (f.take 65536).length + 1, offset := 0,
                       sentlen := 0, fragment := 0, seqno := sChar ((c.outpkt.seqno + 1) % 8) },
           outchunkresent := 0 }

/-- `tunnel_tun` with nothing in flight and a non-empty frame: new packet, next seqno, first chunk (or raw frame) sent -/
theorem tunnelTun_accept (c : Cli) (f : List Nat) (hs : isSending c = false) (hf : f ≠ []) :
    tunnelTun c f =
      if c.conn = .dnsNull then afterSend (sendChunk (newPacket c f)) [] (.tunChunk ((f.take 65536).length : Nat))
      else ((sendRawData (newPacket c f)).1, (sendRawData (newPacket c f)).2, .ret ((f.take 65536).length : Nat)) := by
  have hl : ¬ (f.take 65536).length = 0 := by
    cases f with
    | nil => exact absurd rfl hf
    | cons a t => simp
  unfold tunnelTun
  simp only [if_neg hl, hs, Bool.false_eq_true, if_false]
  rfl

theorem tunnelStep_tun_accept_raw (c : Cli) (f : List Nat) (hrun : c.running = true)
    (hexp : ¬ c.lastdownstreamtime + 60 < c.now) (hs : isSending c = false) (hf : f ≠ []) :
    tunnelStep c (.tun f) =
      after (rawKeepalive c).2
        (settle (if c.conn = .dnsNull then
                   afterSend (sendChunk (newPacket (rawKeepalive c).1 f)) [] (.tunChunk ((f.take 65536).length : Nat))
                 else ((sendRawData (newPacket (rawKeepalive c).1 f)).1, (sendRawData (newPacket (rawKeepalive c).1 f)).2,
                       .ret ((f.take 65536).length : Nat)))) := by
  have ht : (selectOf c).tun = true := (selectOf_tun c).2 (Or.inl hs)
  have hfire : fire c (selectOf c) (.tun f) = (c, .tun f) := by
    simp only [fire, ht, if_true]
  have hk := rawKeepalive_frame c
  have hs' : isSending (rawKeepalive c).1 = false := by rw [hk]; exact hs
  have hc' : (rawKeepalive c).1.conn = c.conn := by rw [hk]
  rw [tunnelStep_alive_raw c _ hrun (by rw [hfire]; exact hexp), hfire]
  simp only [tunnelTun_accept _ f hs' hf, hc']

theorem tunnelStep_tun_accept (c : Cli) (f : List Nat) (hrun : c.running = true) (hconn : c.conn = .dnsNull)
    (hexp : ¬ c.lastdownstreamtime + 60 < c.now) (hs : isSending c = false) (hf : f ≠ []) :
    tunnelStep c (.tun f) =
      settle (afterSend (sendChunk (newPacket c f)) [] (.tunChunk ((f.take 65536).length : Nat))) := by
  rw [tunnelStep_tun_accept_raw c f hrun hexp hs hf, rawKeepalive_dns c hconn, if_pos hconn]
  rfl

/-- HARNESS ARTEFACT: a tun frame offered while tun_fd is not in the read set cannot be seen by the real `select`;
the harness (and `fire`) makes the `select` return 0 instead, without advancing the clock, so `.tun f` acts like a
timeout.  (Nothing of the C program corresponds to this input; it only says the model never reads tun then.) -/
theorem tunnelStep_tun_not_selected (c : Cli) (f : List Nat) (hrun : c.running = true)
    (hexp : ¬ c.lastdownstreamtime + 60 < c.now) (ht : (selectOf c).tun = false) :
    tunnelStep c (.tun f) = settle (timeoutBranch c) := by
  have hfire : fire c (selectOf c) (.tun f) = (c, .timeout) := by
    simp only [fire, ht, Bool.false_eq_true, if_false]
  rw [tunnelStep_alive_raw c _ hrun (by rw [hfire]; exact hexp), hfire]

/-! ## 4. `ack_advances_client` -/

theorem finalPing_frame (c : Cli) (evs : List CEvent) (sendNow : Bool) (read : Int) :
    (finalPing c evs sendNow read).1 = sndFrame c (finalPing c evs sendNow read).1 :=
  sndFrame_of_frame (frame_finalPing c evs sendNow read)

theorem finalPing_evs (c : Cli) (evs : List CEvent) (sendNow : Bool) (read : Int) :
    (finalPing c evs sendNow read).2.1 = if sendNow then evs ++ (sendPing c).evs else evs := by
  unfold finalPing
  split
  · exact afterSend_evs _ _ _
  · rfl

/-- the state `send_chunk` is called with after an ack of a non-final fragment -/
def ackNext (c : Cli) : Cli :=
  { c with outpkt := { c.outpkt with offset := c.outpkt.offset + c.outpkt.sentlen,
                                     fragment := sChar (c.outpkt.fragment + 1) },
           outchunkresent := 0 }

/-- the state after the ack of the last fragment ("Packet completed"), before the final ping -/
def ackDone (c : Cli) : Cli :=
  { c with outpkt := { c.outpkt with offset := 0, len := 0, sentlen := 0 }, outchunkresent := 0,
           sendPingSoon := if c.sendPingSoon = 0 ∨ c.sendPingSoon > 20 then 20 else c.sendPingSoon }

theorem upstream_ack_more (c : Cli) (h : Hdr) (evs : List CEvent) (sendNow : Bool) (read : Int)
    (hs : isSending c = true) (hq : h.upSeq = c.outpkt.seqno) (hf : h.upFrag = c.outpkt.fragment)
    (hlt : c.outpkt.offset + c.outpkt.sentlen < c.outpkt.len) :
    upstream c h evs sendNow read = afterSend (sendChunk (ackNext c)) evs (.dnsChunk read) := by
  unfold upstream
  have : ¬ (c.outpkt.offset + c.outpkt.sentlen ≥ c.outpkt.len) := by omega
  simp only [hs, hq, hf, and_self, if_true, this, if_false]
  rfl

theorem upstream_ack_done (c : Cli) (h : Hdr) (evs : List CEvent) (sendNow : Bool) (read : Int)
    (hs : isSending c = true) (hq : h.upSeq = c.outpkt.seqno) (hf : h.upFrag = c.outpkt.fragment)
    (hge : ¬ c.outpkt.offset + c.outpkt.sentlen < c.outpkt.len) :
    upstream c h evs sendNow read = finalPing (ackDone c) evs sendNow read := by
  unfold upstream
  have : c.outpkt.offset + c.outpkt.sentlen ≥ c.outpkt.len := by omega
  simp only [hs, hq, hf, and_self, if_true, this]
  congr 1
  unfold ackDone
  by_cases hp : c.sendPingSoon = 0 ∨ c.sendPingSoon > 20
  · simp only [hp, if_true]
  · simp only [hp, if_false]

/-- Any other ack (nothing in flight, other seqno, other fragment) changes nothing of the transfer: only the final
ping (if one is due) is sent. -/
theorem upstream_other_ack (c : Cli) (h : Hdr) (evs : List CEvent) (sendNow : Bool) (read : Int)
    (hn : ¬ (isSending c = true ∧ h.upSeq = c.outpkt.seqno ∧ h.upFrag = c.outpkt.fragment)) :
    upstream c h evs sendNow read = finalPing c evs sendNow read ∧
    (upstream c h evs sendNow read).1.outpkt.len = c.outpkt.len ∧
    (upstream c h evs sendNow read).1.outpkt.offset = c.outpkt.offset ∧
    (upstream c h evs sendNow read).1.outpkt.fragment = c.outpkt.fragment ∧
    (upstream c h evs sendNow read).1.outpkt.seqno = c.outpkt.seqno ∧
    (upstream c h evs sendNow read).1.outpkt.data = c.outpkt.data ∧
    (upstream c h evs sendNow read).1.outchunkresent = c.outchunkresent ∧
    SameChunk c (upstream c h evs sendNow read).1 := by
  have he : upstream c h evs sendNow read = finalPing c evs sendNow read := by
    unfold upstream
    rw [if_neg hn]
  have hfr := finalPing_frame c evs sendNow read
  rw [he]
  obtain ⟨hlen, hoff, hfrag, hseq, hdata, -, hres, -⟩ := sndFrame_fields _ _ hfr
  exact ⟨rfl, hlen, hoff, hfrag, hseq, hdata, hres, sameChunk_of_sndFrame c c _ hfr (SameChunk.refl c)⟩

/-! ## 5. `seqno_window` -/

/-- client and server carry the same copy of `recent_seqno` (common.c) -/
theorem recentSeqnoLoop_eq (got : Int) (n : Nat) (our : Int) :
    Client.recentSeqnoLoop got n our = Server.recentSeqnoLoop got n our := by
  induction n generalizing our with
  | zero => rfl
  | succ n ih => simp only [Client.recentSeqnoLoop, Server.recentSeqnoLoop, ih]

theorem recentSeqno_eq : Client.recentSeqno = Server.recentSeqno := by
  funext a b
  exact recentSeqnoLoop_eq b 4 a

theorem recentSeqno_unfold (a b : Int) (ha : 0 ≤ a ∧ a < 8) :
    Client.recentSeqno a b = true ↔ (b = a ∨ b = (a - 1) % 8 ∨ b = (a - 2) % 8 ∨ b = (a - 3) % 8) := by
  obtain ⟨h0, h8⟩ := ha
  have hc : a = 0 ∨ a = 1 ∨ a = 2 ∨ a = 3 ∨ a = 4 ∨ a = 5 ∨ a = 6 ∨ a = 7 := by omega
  rcases hc with rfl | rfl | rfl | rfl | rfl | rfl | rfl | rfl <;>
    simp [Client.recentSeqno, Client.recentSeqnoLoop]

/-- `recent_seqno(our, got)`: "current or up to 3 back", modulo 8 -/
theorem recentSeqno_iff (a b : Int) (ha : 0 ≤ a ∧ a < 8) :
    Client.recentSeqno a b = true ↔ ∃ k : Nat, k < 4 ∧ b = (a - k) % 8 := by
  rw [recentSeqno_unfold a b ha]
  constructor
  · rintro (h | h | h | h)
    · exact ⟨0, by omega, by omega⟩
    · exact ⟨1, by omega, h⟩
    · exact ⟨2, by omega, h⟩
    · exact ⟨3, by omega, h⟩
  · rintro ⟨k, hk, rfl⟩
    have : k = 0 ∨ k = 1 ∨ k = 2 ∨ k = 3 := by omega
    rcases this with rfl | rfl | rfl | rfl
    · exact Or.inl (by omega)
    · exact Or.inr (Or.inl rfl)
    · exact Or.inr (Or.inr (Or.inl rfl))
    · exact Or.inr (Or.inr (Or.inr rfl))

theorem recentSeqno_iff_server (a b : Int) (ha : 0 ≤ a ∧ a < 8) :
    Server.recentSeqno a b = true ↔ ∃ k : Nat, k < 4 ∧ b = (a - k) % 8 := by
  rw [← recentSeqno_eq]
  exact recentSeqno_iff a b ha

/-- the window has exactly four members: four packets ahead is "new" again, anything nearer behind is a duplicate -/
theorem recentSeqno_far (a : Int) (ha : 0 ≤ a ∧ a < 8) (j : Nat) (hj : 1 ≤ j ∧ j ≤ 4) :
    Client.recentSeqno a ((a + j) % 8) = false := by
  cases hr : Client.recentSeqno a ((a + j) % 8) with
  | false => rfl
  | true =>
    obtain ⟨k, hk, he⟩ := (recentSeqno_iff a _ ha).1 hr
    omega

/-- … in particular two consecutive packets are never mistaken for duplicates -/
theorem recentSeqno_next (a : Int) (ha : 0 ≤ a ∧ a < 8) : Client.recentSeqno a ((a + 1) % 8) = false :=
  recentSeqno_far a ha 1 ⟨Nat.le_refl 1, by decide⟩

theorem recentSeqno_next_server (a : Int) (ha : 0 ≤ a ∧ a < 8) : Server.recentSeqno a ((a + 1) % 8) = false := by
  rw [← recentSeqno_eq]
  exact recentSeqno_next a ha

/-- server: the first fragment of the NEXT packet is taken (`upstream_ok`), the reassembly buffer restarts -/
theorem dataUpstream_next (x : Server.Session) (a : Int) (ha : 0 ≤ a ∧ a < 8) (hx : x.inpacket.seqno = a) (frag : Nat) :
    (Server.dataUpstream x ((a + 1) % 8).toNat frag).2 = true ∧
    (Server.dataUpstream x ((a + 1) % 8).toNat frag).1 =
      { x with inpacket := { x.inpacket with seqno := (a + 1) % 8, fragment := frag, len := 0, offset := 0 } } := by
  have hcast : (((a + 1) % 8).toNat : Int) = (a + 1) % 8 := by omega
  have hne : ¬ (a + 1) % 8 = a := by omega
  unfold Server.dataUpstream
  simp only [hcast, hx, hne, false_and, if_false, recentSeqno_next_server a ha, Bool.false_eq_true, and_false,
    ne_eq, not_false_eq_true, if_true, and_self]

/-- client: the first fragment of the NEXT downstream packet is taken, the reassembly buffer restarts -/
theorem acceptFragment_next (c : Cli) (h : Hdr) (ha : 0 ≤ c.inpkt.seqno ∧ c.inpkt.seqno < 8)
    (hn : h.dnSeq = (c.inpkt.seqno + 1) % 8) :
    acceptFragment c h =
      some { c with inpkt := { c.inpkt with seqno := (c.inpkt.seqno + 1) % 8, fragment := sChar h.dnFrag, len := 0 } } := by
  obtain ⟨h0, h8⟩ := ha
  have hne : h.dnSeq ≠ c.inpkt.seqno := by omega
  have hs : sChar h.dnSeq = (c.inpkt.seqno + 1) % 8 := by
    unfold sChar
    omega
  unfold acceptFragment
  rw [if_pos hne, hs]

theorem acceptFragment_next' (c : Cli) (h : Hdr) (ha : 0 ≤ c.inpkt.seqno ∧ c.inpkt.seqno < 8)
    (hn : h.dnSeq = (c.inpkt.seqno + 1) % 8) :
    ∃ c', acceptFragment c h = some c' ∧ c'.inpkt.len = 0 ∧ c'.inpkt.seqno = (c.inpkt.seqno + 1) % 8 ∧
      c'.inpkt.fragment = sChar h.dnFrag ∧ c'.outpkt = c.outpkt ∧ c'.outchunkresent = c.outchunkresent :=
  ⟨_, acceptFragment_next c h ha hn, rfl, rfl, rfl, rfl, rfl⟩

/-- … and it is not held back as a "recent duplicate" before that (`dupeSeqno` leaves `read` alone) -/
theorem dupeSeqno_next (c : Cli) (h : Hdr) (read : Int) (ha : 0 ≤ c.inpkt.seqno ∧ c.inpkt.seqno < 8)
    (hn : h.dnSeq = (c.inpkt.seqno + 1) % 8) : dupeSeqno c h read = (c, read) := by
  unfold dupeSeqno
  rw [hn, recentSeqno_next _ ha]
  simp

/-- a dataless header (`read = 2`) with an unseen seqno: the client adopts it -/
theorem datalessAdopt_spec (c : Cli) (h : Hdr) (hne : h.dnSeq ≠ c.inpkt.seqno)
    (hr : Client.recentSeqno c.inpkt.seqno h.dnSeq = false) :
    datalessAdopt c h 2 =
      { c with inpkt := { c.inpkt with seqno := sChar h.dnSeq, fragment := sChar h.dnFrag, len := 0 },
               sendPingSoon := 500 } ∧
    (datalessAdopt c h 2).inpkt.seqno = sChar h.dnSeq ∧ (datalessAdopt c h 2).inpkt.len = 0 := by
  have he : datalessAdopt c h 2 =
      { c with inpkt := { c.inpkt with seqno := sChar h.dnSeq, fragment := sChar h.dnFrag, len := 0 },
               sendPingSoon := 500 } := by
    unfold datalessAdopt
    simp [hne, hr]
  rw [he]
  exact ⟨rfl, rfl, rfl⟩

/-- … in particular the next seqno -/
theorem datalessAdopt_next (c : Cli) (h : Hdr) (ha : 0 ≤ c.inpkt.seqno ∧ c.inpkt.seqno < 8)
    (hn : h.dnSeq = (c.inpkt.seqno + 1) % 8) :
    (datalessAdopt c h 2).inpkt.seqno = (c.inpkt.seqno + 1) % 8 ∧ (datalessAdopt c h 2).inpkt.len = 0 := by
  have hne : h.dnSeq ≠ c.inpkt.seqno := by omega
  have hr : Client.recentSeqno c.inpkt.seqno h.dnSeq = false := by rw [hn]; exact recentSeqno_next _ ha
  have hs : sChar h.dnSeq = (c.inpkt.seqno + 1) % 8 := by
    unfold sChar
    omega
  obtain ⟨-, h1, h2⟩ := datalessAdopt_spec c h hne hr
  exact ⟨h1.trans hs, h2⟩

/-- with data or a seen seqno nothing is adopted here -/
theorem datalessAdopt_other (c : Cli) (h : Hdr) (read : Int)
    (hn : ¬ (read = 2 ∧ h.dnSeq ≠ c.inpkt.seqno ∧ Client.recentSeqno c.inpkt.seqno h.dnSeq = false)) :
    datalessAdopt c h read = c := by
  unfold datalessAdopt
  rw [if_neg]
  simpa using hn

example : Client.recentSeqno 1 6 = true ∧ Client.recentSeqno 1 5 = false ∧ Client.recentSeqno 1 2 = false := by decide

/-! ## 6. `session_expiry_60_client` -/

theorem running_ite {α : Type} {c : Cli} {p : Prop} [Decidable p] {a b : Cli × α}
    (ha : a.1.running = c.running) (hb : b.1.running = c.running) : (if p then a else b).1.running = c.running :=
  ite_both (P := fun r : Cli × α => r.1.running = c.running) ha hb

theorem running_ite' {c : Cli} {p : Prop} [Decidable p] {a b : Cli} (ha : a.running = c.running) (hb : b.running = c.running) :
    (if p then a else b).running = c.running :=
  ite_both (P := fun x : Cli => x.running = c.running) ha hb

theorem afterSend_running (c : Cli) (s : Sent) (pre : List CEvent) (k : Resume) (h : s.c = scFrame c s.c) :
    (afterSend s pre k).1.running = c.running :=
  congrArg (·.running) (afterSend_frame c s pre k h)

theorem timeoutBranch_running (c : Cli) : (timeoutBranch c).1.running = c.running := by
  unfold timeoutBranch
  exact running_ite
    (running_ite ((afterSend_running _ _ _ _ (sendChunk_frame _)).trans rfl)
      (afterSend_running (dropPkt c) _ _ _ (sendPing_frame _)))
    (afterSend_running _ _ _ _ (sendPing_frame _))

theorem tunnelTun_running (c : Cli) (f : List Nat) : (tunnelTun c f).1.running = c.running := by
  unfold tunnelTun
  extract_lets frame read out p c1 r
  exact running_ite rfl <| running_ite rfl <|
    running_ite (afterSend_running c1 _ _ _ (sendChunk_frame _)) rfl

theorem finalPing_running (c : Cli) (evs : List CEvent) (sendNow : Bool) (read : Int) :
    (finalPing c evs sendNow read).1.running = c.running :=
  congrArg (·.running) (finalPing_frame c evs sendNow read)

theorem upstream_running (c : Cli) (h : Hdr) (evs : List CEvent) (sendNow : Bool) (read : Int) :
    (upstream c h evs sendNow read).1.running = c.running := by
  unfold upstream
  extract_lets p1 c1 p2 c2 c3 c4
  have h3 : c3.running = c.running := running_ite' rfl rfl
  exact running_ite
    (running_ite ((finalPing_running _ _ _ _).trans h3) (afterSend_running c4 _ _ _ (sendChunk_frame _)))
    (finalPing_running _ _ _ _)

theorem servfailCount_running (c : Cli) (rq : Rq) : (servfailCount c rq).running = c.running := by
  unfold servfailCount
  exact running_ite' (running_ite' rfl <| running_ite' rfl <| running_ite' rfl rfl) rfl

theorem dupeSeqno_running (c : Cli) (h : Hdr) (read : Int) : (dupeSeqno c h read).1.running = c.running := by
  unfold dupeSeqno
  exact running_ite rfl rfl

theorem oosCount_running (c : Cli) : (oosCount c).running = c.running := by
  unfold oosCount
  exact running_ite' rfl rfl

theorem lazyHint_running (c : Cli) (id : Nat) : (lazyHint c id).running = c.running := by
  unfold lazyHint
  exact running_ite' (running_ite' rfl rfl) rfl

theorem datalessAdopt_running (c : Cli) (h : Hdr) (read : Int) : (datalessAdopt c h read).running = c.running := by
  unfold datalessAdopt
  exact running_ite' rfl rfl

theorem acceptFragment_cases (c : Cli) (h : Hdr) :
    acceptFragment c h = none ∨ acceptFragment c h = some c ∨
    acceptFragment c h =
      some { c with inpkt := { c.inpkt with seqno := sChar h.dnSeq, fragment := sChar h.dnFrag, len := 0 } } := by
  unfold acceptFragment
  let P : Option Cli → Prop := fun o => o = none ∨ o = some c ∨
    o = some { c with inpkt := { c.inpkt with seqno := sChar h.dnSeq, fragment := sChar h.dnFrag, len := 0 } }
  exact ite_both (P := P) (.inr (.inr rfl)) <| ite_both (P := P) (.inr (.inl rfl)) <| ite_both (P := P) (.inl rfl) <|
    ite_both (P := P) (.inl rfl) (.inr (.inl rfl))

theorem acceptFragment_running (c c' : Cli) (h : Hdr) (he : acceptFragment c h = some c') : c'.running = c.running := by
  rcases acceptFragment_cases c h with h0 | h0 | h0 <;> rw [h0] at he <;> cases he <;> rfl

theorem downstream_running (c : Cli) (h : Hdr) (buf : List Nat) (read : Int) (sendNow : Bool) :
    (downstream c h buf read sendNow).1.running = c.running := by
  unfold downstream
  refine running_ite ?_ rfl
  cases he : acceptFragment c h with
  | none => rfl
  | some c' =>
    have h1 := acceptFragment_running c c' h he
    have hr : ∀ b : Bool, (if b then deliver (appendFragment c' h buf read) else (appendFragment c' h buf read, [])).1.running =
        c.running := fun b => running_ite h1 h1
    exact running_ite (hr _) (hr _)

theorem tunnelDns_running (c : Cli) (rq : Rq) : (tunnelDns c rq).1.running = c.running := by
  unfold tunnelDns
  extract_lets sf sendNow c0 h d read c1 c2 c3 c4 c5 r
  have h1 : c1.running = c.running := dupeSeqno_running _ _ _
  have h2 : c2.running = c.running := (oosCount_running _).trans h1
  have h5 : c5.running = c.running := (datalessAdopt_running _ _ _).trans ((lazyHint_running _ _).trans h1)
  exact running_ite rfl <| running_ite (servfailCount_running c rq) <| running_ite rfl <|
    running_ite
      (running_ite ((afterSend_running c2 _ _ _ (sendPing_frame _)).trans h2) h2)
      ((upstream_running _ _ _ _ _).trans ((downstream_running _ _ _ _ _).trans h5))

theorem readRaw_running (c : Cli) (d : List Nat) : (readRaw c d).1.running = c.running := by
  unfold readRaw
  extract_lets data b3 cmd c'
  have hc' : c'.running = c.running := running_ite' rfl rfl
  refine running_ite rfl <| running_ite rfl <| running_ite rfl <| running_ite hc' ?_
  cases uncompress (data.drop Gen.RAW_HDR_LEN) 65536 <;> exact hc'

theorem tunnelDnsInput_running (c : Cli) (inp : CInput) : (tunnelDnsInput c inp).1.running = c.running := by
  unfold tunnelDnsInput
  split
  · split <;> exact tunnelDns_running _ _
  · split <;> exact readRaw_running _ _

theorem fire_running (c : Cli) (s : Sel) (inp : CInput) : (fire c s inp).1.running = c.running :=
  congrArg (·.running) (frame_fire_now c s inp)

theorem settle_sel (r : Cli × List CEvent × Stop) (h : r.1.running = true) : ∃ s, (settle r).2.2 = .sel s := by
  unfold settle
  split
  · unfold loopTop
    rw [if_pos h]
    exact ⟨_, rfl⟩
  · exact ⟨_, rfl⟩

/-- The 60 s rule is the ONLY way out of `client_tunnel`'s loop: one turn ends with `finished 0` iff the last
downstream data is more than 60 s old when `select` returns; otherwise the thread is in a `select` again. -/
theorem tunnelStep_finished_iff (c : Cli) (inp : CInput) (hrun : c.running = true) :
    let c' := (fire c (selectOf c) inp).1
    ((tunnelStep c inp).2.2 = .finished 0 ↔ c'.lastdownstreamtime + 60 < c'.now) ∧
    (¬ c'.lastdownstreamtime + 60 < c'.now → ∃ s, (tunnelStep c inp).2.2 = .sel s) ∧
    (c'.lastdownstreamtime + 60 < c'.now →
      tunnelStep c inp = (⟨{ c' with running := false }, .idle⟩, [], .finished 0)) := by
  intro c'
  have hr : c'.running = true := (fire_running c (selectOf c) inp).trans hrun
  have hexpd : c'.lastdownstreamtime + 60 < c'.now →
      tunnelStep c inp = (⟨{ c' with running := false }, .idle⟩, [], .finished 0) := by
    intro hexp
    have hexp' : (fire c (selectOf c) inp).1.lastdownstreamtime + 60 < (fire c (selectOf c) inp).1.now := hexp
    unfold tunnelStep
    simp only [afterSelect_of_expired _ hexp', Bool.not_false, if_true]
    rfl
  have halive : ¬ c'.lastdownstreamtime + 60 < c'.now → ∃ s, (tunnelStep c inp).2.2 = .sel s := by
    intro hexp
    rw [tunnelStep_alive_raw c inp hrun hexp]
    have hk : (rawKeepalive c').1.running = true := by
      exact (congrArg (·.running) (rawKeepalive_frame c')).trans hr
    split
    · exact settle_sel _ ((timeoutBranch_running _).trans hr)
    · exact settle_sel _ ((tunnelTun_running _ _).trans hk)
    · exact settle_sel _ ((tunnelDnsInput_running _ _).trans hk)
  refine ⟨⟨?_, ?_⟩, halive, hexpd⟩
  · intro hfin
    apply Classical.byContradiction
    intro hexp
    obtain ⟨s, hs⟩ := halive hexp
    rw [hs] at hfin
    cases hfin
  · intro hexp
    rw [hexpd hexp]

/-! ## 7. `no_deadlock_after_giveup_client` -/

theorem selectOf_tun_idle (c : Cli) (hs : isSending c = false) : (selectOf c).tun = true :=
  (selectOf_tun c).2 (Or.inl hs)

theorem timeoutBranch_idle (c : Cli) (hs : isSending c = false) :
    timeoutBranch c = afterSend (sendPing c) [] .timeout := by
  unfold timeoutBranch
  simp only [hs, Bool.false_eq_true, if_false]

/-- what `tunnel_tun` leaves of a new packet, parked or not -/
theorem tunnelTun_accept_state (c : Cli) (f : List Nat) (hs : isSending c = false) (hf : f ≠ []) :
    (tunnelTun c f).1.outpkt.seqno = sChar ((c.outpkt.seqno + 1) % 8) ∧
    (tunnelTun c f).1.outpkt.offset = 0 ∧ (tunnelTun c f).1.outpkt.fragment = 0 ∧
    (c.conn = .dnsNull → isSending (tunnelTun c f).1 = true) := by
  rw [tunnelTun_accept c f hs hf]
  by_cases hc : c.conn = .dnsNull
  · rw [if_pos hc]
    have hfr := afterSend_frame _ _ [] (.tunChunk ((f.take 65536).length : Nat)) (sendChunk_frame (newPacket c f))
    obtain ⟨hlen, hoff, hfrag, hseq, -⟩ := sndFrame_fields _ _ hfr
    exact ⟨hseq, hoff, hfrag, fun _ => isSending_congr hlen⟩
  · rw [if_neg hc]
    exact ⟨rfl, rfl, rfl, fun h => absurd h hc⟩

/-- the same through the step machine: the next tun frame is accepted by `tunnelStep` -/
theorem client_step_after_giveup (c : Cli) (f : List Nat) (hs : isSending c = true) (h3 : c.outchunkresent = 3)
    (hf : f ≠ []) (hrun : c.running = true)
    (hexp : ¬ (timeoutBranch c).1.lastdownstreamtime + 60 < (timeoutBranch c).1.now) :
    let c4 := (timeoutBranch c).1
    tunnelStep c4 (.tun f) =
      after (rawKeepalive c4).2
        (settle (if c4.conn = .dnsNull then
                   afterSend (sendChunk (newPacket (rawKeepalive c4).1 f)) [] (.tunChunk ((f.take 65536).length : Nat))
                 else ((sendRawData (newPacket (rawKeepalive c4).1 f)).1, (sendRawData (newPacket (rawKeepalive c4).1 f)).2,
                       .ret ((f.take 65536).length : Nat)))) := by
  intro c4
  obtain ⟨-, -, e3, -⟩ := timeoutBranch_giveup_spec c hs (by omega)
  exact tunnelStep_tun_accept_raw c4 f ((timeoutBranch_running c).trans hrun) hexp e3 hf

/-! ## corollaries in terms of `SameChunk`, non-vacuity -/

theorem sendChunk_sameChunk (c : Cli) : SameChunk c (sendChunk c).c :=
  sameChunk_of_sndFrame c c _ (sndFrame_of_frame ((frame_sendChunk c).coarsen erSnd_erChunk)) (SameChunk.refl c)

theorem sendPing_sameChunk (c : Cli) : SameChunk c (sendPing c).c :=
  sameChunk_of_sndFrame c c _ (sndFrame_of_frame (((frame_sendPing_any c).coarsen erChunk_erPing).coarsen erSnd_erChunk)) (SameChunk.refl c)

/-- a client with an 8-byte packet that needs two chunks (`hostname_maxlen = 20`: 5 bytes per query) -/
def exL : Cli :=
  { exC with hostnameMaxlen := 20, lastdownstreamtime := 1000, outpkt := ⟨8, 0, 0, [0x5a, 1, 2, 3, 4, 5, 6, 7], 1, 0⟩ }

/-- `client_tun_gating`: the hypotheses of `tunnelStep_tun_while_sending` / `tunnelStep_tun_not_selected` / `tunnelStep_tun_accept`
are satisfiable, and the three behaviours differ -/
example :
    let c := { exL with outchunkresent := 2 }
    c.running = true ∧ ¬ c.lastdownstreamtime + 60 < c.now ∧ isSending c = true ∧ c.outchunkresent ≥ 2 ∧
    (tunnelStep c (.tun [1, 2, 3])).2.1 = [] := by decide +kernel

example :
    exL.running = true ∧ ¬ exL.lastdownstreamtime + 60 < exL.now ∧ (selectOf exL).tun = false ∧
    (tunnelStep exL (.tun [1, 2, 3])).2.1 =
      [.query 7727 10 [48, 101, 97, 97, 97, 108, 105, 97, 113, 101, 97, 121, 101, 46, 97, 46, 98, 99]] := by
  decide +kernel

example :
    let c := { exL with outpkt := Packet.zero }
    c.running = true ∧ ¬ c.lastdownstreamtime + 60 < c.now ∧ isSending c = false ∧
    (tunnelStep c (.tun [0, 0, 8, 0, 69])).1.c.outpkt = ⟨6, 5, 0, [90, 0, 0, 8, 0, 69], 1, 0⟩ ∧
    (tunnelStep c (.tun [0, 0, 8, 0, 69])).2.1 =
      [.query 7727 10 [48, 101, 97, 97, 97, 108, 105, 97, 97, 97, 99, 97, 97, 46, 97, 46, 98, 99]] := by
  decide +kernel

/-- `ack_advances_client`: first ack → second chunk (offset 5, fragment 1), second ack → packet completed and (with
`send_something_now`) the final ping -/
example :
    let c := (sendChunk exL).c
    let r1 := upstream c ⟨0, 0, 1, 0, false⟩ [] false 2
    let r2 := upstream r1.1 ⟨0, 0, 1, 1, false⟩ [] true 2
    isSending c = true ∧ c.outpkt.offset + c.outpkt.sentlen < c.outpkt.len ∧
    r1.1.outpkt = ⟨8, 3, 5, [0x5a, 1, 2, 3, 4, 5, 6, 7], 1, 1⟩ ∧
    r1.2.1 = [.query 15454 10 [48, 101, 105, 98, 98, 97, 117, 100, 97, 111, 46, 97, 46, 98, 99]] ∧
    ¬ r1.1.outpkt.offset + r1.1.outpkt.sentlen < r1.1.outpkt.len ∧
    r2.1.outpkt = ⟨0, 0, 0, [0x5a, 1, 2, 3, 4, 5, 6, 7], 1, 1⟩ ∧
    r2.2.1 = [.query 23181 10 [112, 97, 97, 97, 97, 97, 97, 97, 46, 97, 46, 98, 99]] := by decide +kernel

/-- `session_expiry_60_client`: `exC` has `lastdownstreamtime = 0`, `now = 1000`: the next turn ends `client_tunnel`; `exL` goes on -/
example : (tunnelStep exC .tick).2.2 = .finished 0 ∧
    (tunnelStep exL .tick).2.2 = .sel ⟨1000000, false, true⟩ := by decide +kernel

/-- the hypotheses of `no_deadlock_after_giveup_client` -/
example : isSending { exL with outchunkresent := 3 } = true ∧ ({ exL with outchunkresent := 3 } : Cli).outchunkresent = 3 := by
  decide

end Iodine.C02L
