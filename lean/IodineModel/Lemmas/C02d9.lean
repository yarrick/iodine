import IodineModel.Lemmas.C02d5
import IodineModel.Lemmas.C02q0
/-
Downstream transfer, from the per-side facts to the joint state.  The client receives the answer to its most recent query (either
mode): an expected fragment (`recv_mid`, `recv_last`) or a dataless answer it does not adopt (`recv_dataless_common`); `Booked` is
what the client states after such an answer have in common.  Immediate mode on the joint state: the poll and its answer as one
block (`Polled`, `poll_answered`), and the first step `offerS` (`srvDoes_start`: the server alone, either mode; `down_offerS`,
`down_offerD`).
-/
namespace Iodine.C02L
open Iodine Iodine.Gen Iodine.World

theorem scPkt_head (y : Server.Session) (n : Nat) : 128 ≤ (Server.scPkt y n).getD 0 0 := by
  unfold Server.scPkt
  simp only [List.cons_append, List.getD_cons_zero]
  have : 128 ≤ 128 ||| ((y.inpacket.seqno % 8).toNat <<< 4) := Nat.left_le_or
  exact Nat.le_trans this Nat.left_le_or

theorem not_badip (y : Server.Session) (n : Nat) : (Server.scPkt y n).take 5 ≠ Client.ascii "BADIP" := by
  intro h
  have h1 := scPkt_head y n
  have h2 : ((Server.scPkt y n).take 5).getD 0 0 = 66 := by rw [h]; rfl
  have h3 : ((Server.scPkt y n).take 5).getD 0 0 = (Server.scPkt y n).getD 0 0 := by
    simp only [List.getD_eq_getElem?_getD, List.getElem?_take]
    simp
  omega

/-- the facts about a downstream fragment `pkt = scPkt yy D` the client needs -/
structure FragPkt (pkt out : List Nat) (sq : Int) (o D f : Nat) (last : Bool) : Prop where
  len : pkt.length = 2 + D
  body : pkt.drop 2 = (out.drop o).take D
  hdr : (Client.decodeHdr pkt).dnSeq = sq ∧ (Client.decodeHdr pkt).dnFrag = (f : Int) ∧ (Client.decodeHdr pkt).last = last
  notbad : pkt.take 5 ≠ Client.ascii "BADIP"

theorem fragPkt_of (yy : Server.Session) (out : List Nat) (sq : Int) (o D f : Nat)
    (hop : yy.outpacket = ⟨out.length, D, o, out, sq, (f : Int)⟩) (hle : o + D ≤ out.length) (hsq : 0 ≤ sq ∧ sq < 8) (hf : f < 16)
    (h1 : 0 ≤ yy.inpacket.seqno ∧ yy.inpacket.seqno < 8) (h2 : 0 ≤ yy.inpacket.fragment ∧ yy.inpacket.fragment < 16) :
    FragPkt (Server.scPkt yy D) out sq o D f (decide (out.length > 0 ∧ out.length = o + D)) := by
  have hd := decodeHdr_scPkt yy D h1 h2 (by rw [hop]; exact hsq) (by rw [hop]; show (0 : Int) ≤ f ∧ (f : Int) < 16; omega)
  refine ⟨?_, ?_, ?_, not_badip yy D⟩
  · rw [scPkt_length, hop]
    show 2 + min D (out.length - o) = 2 + D
    omega
  · rw [scPkt_drop2, hop]
  · rw [hd, hop]
    exact ⟨rfl, rfl, rfl⟩

/-- … and its header acknowledges the upstream position of the slot `x` whose `inpacket` the sending slot `yy` has kept -/
theorem fragPkt_ack (yy x : Server.Session) (out : List Nat) (sq : Int) (o D f : Nat)
    (hop : yy.outpacket = ⟨out.length, D, o, out, sq, (f : Int)⟩) (hle : o + D ≤ out.length) (hsq : 0 ≤ sq ∧ sq < 8) (hf : f < 16)
    (hyi : yy.inpacket = x.inpacket) (h1 : 0 ≤ x.inpacket.seqno ∧ x.inpacket.seqno < 8)
    (h2 : 0 ≤ x.inpacket.fragment ∧ x.inpacket.fragment < 16) :
    FragPkt (Server.scPkt yy D) out sq o D f (decide (out.length > 0 ∧ out.length = o + D)) ∧
      (Client.decodeHdr (Server.scPkt yy D)).upSeq = x.inpacket.seqno ∧
      (Client.decodeHdr (Server.scPkt yy D)).upFrag = x.inpacket.fragment := by
  rw [← hyi] at h1 h2 ⊢
  have hd := decodeHdr_scPkt yy D h1 h2 (by rw [hop]; exact hsq) (by rw [hop]; show (0 : Int) ≤ f ∧ (f : Int) < 16; omega)
  exact ⟨fragPkt_of yy out sq o D f hop hle hsq hf h1 h2, by rw [hd], by rw [hd]⟩

/-- the client state after an expected fragment that is not the last was appended -/
def midStateM (c : Client.Cli) (out : List Nat) (sq : Int) (o D f : Nat) : Client.Cli :=
  { c with packrecv := (Client.countRecv c).packrecv, recvcnt := c.recvcnt + 1, lastdownstreamtime := c.now,
           sendPingSoon := if c.lazymode then 900 else 0, inpkt := inAfter c out sq o D f }

/-- … and after the last one was delivered -/
def lastState (c : Client.Cli) (out : List Nat) (sq : Int) (o D f : Nat) : Client.Cli :=
  { c with packrecv := (Client.countRecv c).packrecv, recvcnt := c.recvcnt + 1, lastdownstreamtime := c.now,
           sendPingSoon := 5, inpkt := { inAfter c out sq o D f with len := 0 } }

theorem cstatM_recv {P : Par} {lz : Bool} {c : Client.Cli} (hc : CStatM P lz c) (ip : Client.Packet) (n pr : Nat)
    (hs : 0 ≤ ip.seqno ∧ ip.seqno < 8) (hf : 0 ≤ ip.fragment ∧ ip.fragment < 16) :
    CStatM P lz { c with packrecv := pr, recvcnt := c.recvcnt + 1, lastdownstreamtime := c.now, sendPingSoon := n, inpkt := ip } :=
  ⟨hc.running, hc.conn, hc.mode, hc.uid, hc.uch, hc.td, hc.L, hc.enc, hc.ty, hc.cid, hc.cmc,
    by show ¬ c.now + 60 < c.now; omega, hc.oseq, hs, hf, hc.seed⟩

theorem cstatM_last {P : Par} {lz : Bool} {c : Client.Cli} (hc : CStatM P lz c) (out : List Nat) (sq : Int) (o D f : Nat)
    (hsq : 0 ≤ sq ∧ sq < 8) (hf : f < 16) : CStatM P lz (lastState c out sq o D f) :=
  cstatM_recv hc { inAfter c out sq o D f with len := 0 } 5 _ hsq (by show (0 : Int) ≤ f ∧ (f : Int) < 16; omega)

/-- The client state `c3` after `c` took or counted an answer, as the lemmas on the next ping need it: the standing conditions
hold, the answer is counted, and the clock, the packet being sent and the two counters the server's memories are measured
against are those of `c`. -/
structure Booked (P : Par) (lz : Bool) (c c3 : Client.Cli) : Prop where
  st : CStatM P lz c3
  cnt : CntM lz c3 0
  now : c3.now = c.now
  outpkt : c3.outpkt = c.outpkt
  cmc : c3.datacmc = c.datacmc
  seed : c3.randSeed = c.randSeed

theorem booked_recv {P : Par} {lz : Bool} {c : Client.Cli} (hc : CStatM P lz c) (hcnt : CntM lz c 1) (ip : Client.Packet)
    (n pr : Nat) (hs : 0 ≤ ip.seqno ∧ ip.seqno < 8) (hf : 0 ≤ ip.fragment ∧ ip.fragment < 16) :
    Booked P lz c { c with packrecv := pr, recvcnt := c.recvcnt + 1, lastdownstreamtime := c.now, sendPingSoon := n, inpkt := ip } :=
  ⟨cstatM_recv hc ip n pr hs hf, cntM_answered hcnt rfl rfl, rfl, rfl, rfl, rfl⟩

theorem booked_mid {P : Par} {lz : Bool} {c : Client.Cli} (hc : CStatM P lz c) (hcnt : CntM lz c 1) (out : List Nat) (sq : Int)
    (o D f : Nat) (hsq : 0 ≤ sq ∧ sq < 8) (hf : f < 16) : Booked P lz c (midStateM c out sq o D f) :=
  booked_recv hc hcnt (inAfter c out sq o D f) _ _ hsq (by show (0 : Int) ≤ f ∧ (f : Int) < 16; omega)

theorem booked_last {P : Par} {lz : Bool} {c : Client.Cli} (hc : CStatM P lz c) (hcnt : CntM lz c 1) (out : List Nat) (sq : Int)
    (o D f : Nat) (hsq : 0 ≤ sq ∧ sq < 8) (hf : f < 16) : Booked P lz c (lastState c out sq o D f) :=
  booked_recv hc hcnt { inAfter c out sq o D f with len := 0 } 5 _ hsq (by show (0 : Int) ≤ f ∧ (f : Int) < 16; omega)

theorem booked_recvBook {P : Par} {lz : Bool} {c : Client.Cli} (hc : CStatM P lz c) (hcnt : CntM lz c 1) :
    Booked P lz c (recvBook c) :=
  booked_recv hc hcnt c.inpkt _ _ hc.iseq hc.ifrag

/-- the conditions under which the client processes the answer `rq` as a downstream fragment: it answers the most recent
query, nothing is being sent upstream -/
structure RecvOk (P : Par) (lz : Bool) (c : Client.Cli) (rq : Client.Rq) (pkt : List Nat) : Prop where
  cst : CStatM P lz c
  idle : Client.isSending c = false
  name0 : Client.notData c rq.name0 = false
  rv : rq.rv = (pkt.length : Int)
  buf : rq.buf = pkt
  id : rq.id = c.chunkid

theorem recv_common {P : Par} {lz : Bool} {c : Client.Cli} {rq : Client.Rq} {pkt out : List Nat} {sq : Int} {o D f : Nat}
    {last : Bool} (h : RecvOk P lz c rq pkt) (hp : FragPkt pkt out sq o D f last) (hD : 0 < D)
    (hdup : sq = c.inpkt.seqno ∨ Client.recentSeqno c.inpkt.seqno sq = false) :
    Client.cstep ⟨c, .tunnel⟩ (.rq rq) =
      Client.settle (Client.finalPing
        (Client.downstream (recvBook c) (Client.decodeHdr pkt) pkt ((2 + D : Nat) : Int) (c.sendPingSoon != 0)).1
        (Client.downstream (recvBook c) (Client.decodeHdr pkt) pkt ((2 + D : Nat) : Int) (c.sendPingSoon != 0)).2.1
        (Client.downstream (recvBook c) (Client.decodeHdr pkt) pkt ((2 + D : Nat) : Int) (c.sendPingSoon != 0)).2.2
        ((2 + D : Nat) : Int)) := by
  have hrv : rq.rv = ((2 + D : Nat) : Int) := by rw [h.rv, hp.len]
  rw [cstep_rq c rq h.cst.running h.cst.alive h.cst.conn]
  rw [tunnelDns_payload_idle c rq h.name0 (by rw [hrv]; omega) (by rw [h.buf]; intro hc; exact hp.notbad hc.2) h.id h.idle
    (by rw [h.buf, hp.hdr.1]; exact hdup)]
  rw [h.buf, hrv]

/-- a fragment that is not the last one: appended; the acknowledging ping is to go out at once -/
theorem recv_mid {P : Par} {lz : Bool} {c : Client.Cli} {rq : Client.Rq} {pkt out : List Nat} {sq : Int} {o D f : Nat}
    (h : RecvOk P lz c rq pkt) (hp : FragPkt pkt out sq o D f false) (hD : 0 < D)
    (hdup : sq = c.inpkt.seqno ∨ Client.recentSeqno c.inpkt.seqno sq = false)
    (hE : CExpectW c out sq o f) (hsq : 0 ≤ sq ∧ sq < 8) (hf : f < 16) (hle : o + D ≤ out.length) (h64 : out.length ≤ 65536) :
    Client.cstep ⟨c, .tunnel⟩ (.rq rq) =
      Client.settle (Client.finalPing (midStateM c out sq o D f) [] true ((2 + D : Nat) : Int)) := by
  have hds := downstream_midW' (recvBook c) (Client.decodeHdr pkt) pkt out sq o D f (c.sendPingSoon != 0)
    (hE.congrW (recvBook_inpkt c)) h.cst.iseq hsq hf ⟨hp.hdr.1, hp.hdr.2.1⟩ hp.hdr.2.2 hp.len hp.body hD hle h64
  rw [recv_common h hp hD hdup, hds]
  rfl

/-- the last fragment: the packet is written to the client's tun device and a ping is due in 5 ms — it goes out at once if
one was due before -/
theorem recv_last {P : Par} {lz : Bool} {c : Client.Cli} {rq : Client.Rq} {pkt frame : List Nat} {sq : Int} {o D f : Nat}
    (h : RecvOk P lz c rq pkt) (hp : FragPkt pkt (0x5a :: frame) sq o D f true) (hD : 0 < D)
    (hdup : sq = c.inpkt.seqno ∨ Client.recentSeqno c.inpkt.seqno sq = false)
    (hE : CExpectW c (0x5a :: frame) sq o f) (hsq : 0 ≤ sq ∧ sq < 8) (hf : f < 16) (heq : o + D = (0x5a :: frame).length)
    (h64 : (0x5a :: frame).length ≤ 65536) :
    Client.cstep ⟨c, .tunnel⟩ (.rq rq) =
      Client.settle (Client.finalPing (lastState c (0x5a :: frame) sq o D f) [Client.writeTun frame] (c.sendPingSoon != 0)
        ((2 + D : Nat) : Int)) := by
  have hds := downstream_lastW' (recvBook c) (Client.decodeHdr pkt) pkt frame sq o D f (c.sendPingSoon != 0)
    (hE.congrW (recvBook_inpkt c)) h.cst.iseq hsq hf ⟨hp.hdr.1, hp.hdr.2.1⟩ hp.hdr.2.2 hp.len hp.body hD heq h64
  rw [recv_common h hp hD hdup, hds]
  rfl

/-- What the client does with a dataless answer that it does not adopt (either mode): only the counters, and in lazy mode the
hint (`send_ping_soon = 900`). -/
theorem recv_dataless_common {P : Par} {lz : Bool} {c : Client.Cli} {rq : Client.Rq} {pkt : List Nat}
    (h : RecvOk P lz c rq pkt) (hlen : pkt.length = 2)
    (hw : (Client.decodeHdr pkt).dnSeq = c.inpkt.seqno ∨ Client.recentSeqno c.inpkt.seqno (Client.decodeHdr pkt).dnSeq = true) :
    Client.cstep ⟨c, .tunnel⟩ (.rq rq) = Client.settle (Client.finalPing (recvBook c) [] (c.sendPingSoon != 0) 2) := by
  have hrv : rq.rv = 2 := by rw [h.rv, hlen]; rfl
  rw [cstep_rq c rq h.cst.running h.cst.alive h.cst.conn,
    tunnelDns_via c rq h.name0 (by omega) (by omega) (by rw [h.id]; exact recentId_cur c) (c1 := { c with sendPingSoon := 0 }) (rd := 2)
      (by rw [hrv]; exact dupeSeqno_keep _ _ _ (Or.inl (by omega)))
      (book_recent c rq.id _ 2 h.id (Or.inr (by rw [h.buf]; exact hw))) (downstream_dataless _ _ _ _),
    upstream_idle (recvBook c) _ _ _ _ h.idle]

theorem afterPing_slot {P : Par} {s s' : Server.Srv} {Q : Server.Query} {a b : Int} {pkt : List Nat}
    (hap : AfterPing P s s' Q a b pkt) :
    Server.getUser s' P.u = pingZ { Server.getUser s P.u with qsNew := false } P.u Q a b s.now := hap.slot

theorem writeDns_data_inj {q : Server.Query} {a b : List Nat} {e : Nat} {t : Server.Tag}
    (h : [Server.writeDns q a e t] = [Server.writeDns q b e t]) : a = b := by
  have h3 := (List.cons.inj h).1
  unfold Server.writeDns at h3
  injection h3

/-! ### the poll and its answer -/

/-- What the poll and the server's answer (`tickC`, `deliverUp`) leave, whatever the answer is: the client `c` has pinged
(`secs` whole seconds later) and is otherwise as before; the server `s1` (its clock advanced) has answered, giving `s'`;
`sl`, `sp`: the freshness slacks of the server's two duplicate memories. -/
structure Polled (P : Par) (sl sp : Nat) (w w2 : W) (c : Client.Cli) (s1 s' : Server.Srv) (name pkt : List Nat) : Prop where
  hs1 : s1 = { w.srv with now := w.srv.now + ((Client.selectOf w.cs.c).to / 1000000).toNat }
  hw2 : w2 = { w with cs := ⟨c, .tunnel⟩, srv := s', up := [], down := [.ans c.chunkid P.ty name pkt] }
  name0 : name.headD 0 = 112
  cst : CStat P c
  idle : Client.isSending c = false
  sps : c.sendPingSoon = 0
  inpkt : c.inpkt = w.cs.c.inpkt
  outpkt : c.outpkt = w.cs.c.outpkt
  selto : c.selecttimeout = w.cs.c.selecttimeout
  now : c.now = w.cs.c.now + ((Client.selectOf w.cs.c).to / 1000000).toNat
  ldt : c.lastdownstreamtime = w.cs.c.lastdownstreamtime
  ps1 : PingSrvG P s1
  ap : AfterPing P s1 s' (upQuery c.chunkid P.ty name) w.cs.c.inpkt.seqno w.cs.c.inpkt.fragment pkt
  aged : Aged P (Server.getUser s' P.u) c.datacmc sl
  paged : PAged P (Server.getUser s' P.u) c.randSeed sp

theorem Polled.s1u {P : Par} {sl sp : Nat} {w w2 : W} {c : Client.Cli} {s1 s' : Server.Srv} {name pkt : List Nat}
    (h : Polled P sl sp w w2 c s1 s' name pkt) : Server.getUser s1 P.u = Server.getUser w.srv P.u := by rw [h.hs1]; rfl

/-- The poll and the server's answer from a state with nothing in flight (it may be quiescent): `tickC`, `deliverUp` — the
events the prompt scheduler picks once the state is not quiescent. -/
theorem poll_answered {P : Par} (hP : P.Ok) {w : W} {sl sp : Nat} (hph : w.cs.ph = .tunnel) (hc : CStat P w.cs.c)
    (hs : Client.isSending w.cs.c = false) (hup : w.up = []) (hdown : w.down = []) (hS : PingSrvG P w.srv)
    (hto : (Client.selectOf w.cs.c).to < 10000000)
    (hexp : ¬ w.cs.c.lastdownstreamtime + 60 < w.cs.c.now + ((Client.selectOf w.cs.c).to / 1000000).toNat)
    (hlive : w.srv.now + ((Client.selectOf w.cs.c).to / 1000000).toNat < (Server.getUser w.srv P.u).lastPkt + 60)
    (hsp1 : 1 ≤ sp) (hsp : sp ≤ 1000)
    (hA : Aged P (Server.getUser w.srv P.u) w.cs.c.datacmc sl) (hPA : PAged P (Server.getUser w.srv P.u) w.cs.c.randSeed sp) :
    ∃ w2 c s1 s' name pkt, promptEv w = .tickC ∧ promptEv (step w .tickC) = .deliverUp ∧
      step (step w .tickC) .deliverUp = w2 ∧ (quiet P.u w = false → ∀ k, promptSteps P.u (k + 2) w = promptSteps P.u k w2) ∧
      Polled P sl sp w w2 c s1 s' name pkt := by
  obtain ⟨⟨c, ph⟩, srv, up, down, tC, tS⟩ := w
  dsimp only at hph hc hs hup hdown hS hto hexp hlive hA hPA
  subst hph hup hdown
  generalize hT : ((Client.selectOf c).to / 1000000).toNat = T at hexp hlive
  obtain ⟨name, c1, hc1, hst1, hdo, hpq⟩ := cliDoes_poll hP hc.toM (Or.inl rfl) hs (by rw [hT]; exact hexp)
  have hpf := pingFactsL c1
  have hc1fr : c1 = { c with now := c1.now } := by rw [hc1]; rfl
  have hc1now : c1.now = c.now + T := by rw [hc1, advanceClock_now, hT]
  have hsa : srvAt srv ⟨c, .tunnel⟩ ⟨pingStateL c1, .tunnel⟩ = { srv with now := srv.now + T } := by
    show ({ srv with now := srv.now + ((pingStateL c1).now - c.now) } : Server.Srv) = _
    rw [hpf.now, hc1now, Nat.add_sub_cancel_left]
  have hst2 := cstatM_pingStateL hst1
  generalize hcdef : pingStateL c1 = c2 at hdo hpq hpf hsa hst2
  have hS1 : SStat P { srv with now := srv.now + T } := hS.stat.advance T hlive
  have hps1 : PingSrvG P { srv with now := srv.now + T } := ⟨hS1, hS.q, hS.qs, hS.lz, hS.oq⟩
  obtain ⟨s', pkt, hsd, hap, hA', hPA'⟩ := srvDoes_ping hP hS1 (a := c.inpkt.seqno) (b := c.inpkt.fragment) hS.q hS.qs
    (Or.inl hS.lz) hS.oq hpq hsp1 hsp hA hPA
  have hcmc : c2.datacmc = c.datacmc := by rw [hpf.datacmc, hc1fr]
  have hseed : c2.randSeed = (c.randSeed + 1) % 65536 := by rw [hpf.seed, hc1fr]
  have hlt : (Client.selectOf c).to < ((Server.topOfLoop srv).2.1 : Int) := by
    rw [topOfLoop_timeout hS.stat.solo, if_neg (by intro hc; exact hc.2 hS.qs)]; exact hto
  have hstep1 := step_tickC_mk (srv := srv) (up := []) (down := []) (tC := tC) (tS := tS) hdo
  rw [hsa] at hstep1
  refine ⟨⟨⟨c2, .tunnel⟩, s', [], [.ans c2.chunkid P.ty name pkt], tC, tS⟩, c2, { srv with now := srv.now + T }, s', name, pkt,
    ?_, ?_, ?_, ?_, ?_, ?_, ?_, hst2.imm, ?_, hpf.sps, ?_, ?_, ?_, ?_, ?_, hps1, hap, ?_, ?_⟩
  · rw [promptEv_idle]
    exact tickChoice_tickC (tC := tC) (tS := tS) timeoutC_tunnel hlt
  · rw [hstep1]; rfl
  · rw [hstep1]
    show step ⟨⟨c2, .tunnel⟩, { srv with now := srv.now + T }, [.query c2.chunkid P.ty name], [], tC ++ [], tS⟩ .deliverUp = _
    rw [step_deliverUp_mk hsd, List.append_nil, List.append_nil]
    rfl
  · intro hq k
    rw [ps_tickC hq timeoutC_tunnel hlt hdo, hsa, ps_up0 hsd, List.append_nil, List.append_nil]
  · show _ = ({ srv with now := srv.now + ((Client.selectOf c).to / 1000000).toNat } : Server.Srv)
    rw [hT]
  · rfl
  · have h0 : name.getD 0 0 = 112 := hpq.c0
    rw [headD_eq_getD, h0]
  · unfold Client.isSending; rw [hpf.outpkt, hc1fr]; exact hs
  · rw [hpf.inpkt, hc1fr]
  · rw [hpf.outpkt, hc1fr]
  · rw [hpf.selto, hc1fr]
  · show c2.now = c.now + ((Client.selectOf c).to / 1000000).toNat
    rw [hpf.now, hc1now, hT]
  · rw [hpf.ldt, hc1fr]
  · rw [hcmc]; exact hA'
  · rw [hseed]; exact hPA'

/-- the poll and its answer as two steps of the prompt scheduler, from a state that is not quiescent -/
theorem poll_answered_prompt {P : Par} (hP : P.Ok) {w : W} (hph : w.cs.ph = .tunnel) (hc : CStat P w.cs.c)
    (hs : Client.isSending w.cs.c = false) (hup : w.up = []) (hdown : w.down = []) (hS : PingSrvG P w.srv)
    (hnq : quiet P.u w = false)
    (hto : (Client.selectOf w.cs.c).to < 10000000)
    (hexp : ¬ w.cs.c.lastdownstreamtime + 60 < w.cs.c.now + ((Client.selectOf w.cs.c).to / 1000000).toNat)
    (hlive : w.srv.now + ((Client.selectOf w.cs.c).to / 1000000).toNat < (Server.getUser w.srv P.u).lastPkt + 60)
    (hA : Aged P (Server.getUser w.srv P.u) w.cs.c.datacmc 1) (hPA : PAged P (Server.getUser w.srv P.u) w.cs.c.randSeed 1) :
    ∃ w2 c s1 s' name pkt, promptSteps P.u 2 w = some w2 ∧ Polled P 1 1 w w2 c s1 s' name pkt := by
  obtain ⟨w2, c, s1, s', name, pkt, _, _, _, hrule, hpl⟩ :=
    poll_answered hP hph hc hs hup hdown hS hto hexp hlive (Nat.le_refl 1) (by omega) hA hPA
  exact ⟨w2, c, s1, s', name, pkt, by rw [hrule hnq 0]; rfl, hpl⟩

/-! ### arithmetic on sequence numbers, about variables -/

theorem mod8_range (x : Int) : 0 ≤ x % 8 ∧ x % 8 < 8 := by omega

theorem seq_succ (x : Int) : (x % 8 + 1) % 8 = (x + 1) % 8 := by omega

theorem mod8_zero {a : Int} (h : 0 ≤ a ∧ a < 8) : (a + ((0 : Nat) : Int)) % 8 = a := by omega

theorem mod8_eight {a : Int} (h : 0 ≤ a ∧ a < 8) : (a + ((7 + 1 : Nat) : Int)) % 8 = a := by omega

theorem seq_wrap (a : Int) (d : Nat) : (a + (d : Int) + 1) % 8 = (a + (((d + 1) % 8 : Nat) : Int)) % 8 := by omega

theorem seq_ahead (a : Int) (d : Nat) : (a + (d : Int) + 1) % 8 = (a + ((d + 1 : Nat) : Int)) % 8 := by
  rw [Int.add_assoc]; rfl

theorem mod8_ne {a : Int} (h : 0 ≤ a ∧ a < 8) {d : Nat} (hd : 1 ≤ d ∧ d ≤ 7) : (a + (d : Int)) % 8 ≠ a := by omega

/-- the three ranges of the distance: 0 (in step), 1..4 (adopted), 5..7 (in the window) -/
theorem not_adopt {d : Nat} (hc : d = 0 ∨ 5 ≤ d) : ¬ (1 ≤ d ∧ d ≤ 4) := by omega

theorem behind_of {d : Nat} (hd : d < 8) (h0 : d ≠ 0) (hc : ¬ (1 ≤ d ∧ d ≤ 4)) : 5 ≤ d ∧ d ≤ 7 := by omega

theorem len_two {n : Nat} (h : (n : Int) = 2) : n = 2 := by omega

/-- a downstream packet `out` (seqno `sq`) was handed to the server, nothing of it was sent yet, nothing is in flight -/
structure DownIdle (P : Par) (out : List Nat) (w : W) (sq : Int) : Prop where
  ph : w.cs.ph = .tunnel
  cst : CStat P w.cs.c
  idleC : Client.isSending w.cs.c = false
  up : w.up = []
  down : w.down = []
  srv : DownSrv P w.srv out sq 0 0 0
  res0 : (Server.getUser w.srv P.u).outfragresent = 0
  exp : sq = (w.cs.c.inpkt.seqno + 1) % 8
  syncu : (Server.getUser w.srv P.u).inpacket.seqno = w.cs.c.outpkt.seqno
  aged : Aged P (Server.getUser w.srv P.u) w.cs.c.datacmc 1
  paged : PAged P (Server.getUser w.srv P.u) w.cs.c.randSeed 1

/-- a downstream packet `out` (seqno `sq`) was handed to the server, nothing of it was sent yet, nothing is in flight; `sq` need
not be the client's next number (`DownIdle` adds that clause) -/
structure DownIdleG (P : Par) (out : List Nat) (w : W) (sq : Int) : Prop where
  ph : w.cs.ph = .tunnel
  cst : CStat P w.cs.c
  idleC : Client.isSending w.cs.c = false
  up : w.up = []
  down : w.down = []
  srv : DownSrv P w.srv out sq 0 0 0
  res0 : (Server.getUser w.srv P.u).outfragresent = 0
  syncu : (Server.getUser w.srv P.u).inpacket.seqno = w.cs.c.outpkt.seqno
  aged : Aged P (Server.getUser w.srv P.u) w.cs.c.datacmc 1
  paged : PAged P (Server.getUser w.srv P.u) w.cs.c.randSeed 1

theorem DownIdleG.toIdle {P : Par} {out : List Nat} {w : W} {sq : Int} (h : DownIdleG P out w sq)
    (he : sq = (w.cs.c.inpkt.seqno + 1) % 8) : DownIdle P out w sq :=
  ⟨h.ph, h.cst, h.idleC, h.up, h.down, h.srv, h.res0, he, h.syncu, h.aged, h.paged⟩

theorem tunSelS_idle {P : Par} {s : Server.Srv} (hS : SStat P s) (hoq : (Server.getUser s P.u).oqFilled = 0) :
    (Server.topOfLoop s).2.2 = true :=
  tunSelS_solo hS.solo (by simp [Server.live, hS.x.active, hS.x.enabled, hS.live]) (Or.inr ⟨hS.x.conn, hoq⟩)

/-- what starting a new outpacket keeps of the slot: everything but the outpacket and the resend counter -/
structure StartKept (x y : Server.Session) : Prop where
  rest : rest y = rest x
  q : y.q = x.q
  lastPkt : y.lastPkt = x.lastPkt
  res : y.outfragresent = 0
  qmd : y.qmemdata = x.qmemdata
  qmdl : y.qmemdataLast = x.qmemdataLast
  qmp : y.qmemping = x.qmemping
  qmpl : y.qmempingLast = x.qmempingLast
  dc : y.dnscache = x.dnscache
  dcl : y.dcLast = x.dcLast

theorem startOut_kept (x : Server.Session) (data : List Nat) (n : Nat) :
    StartKept x (startOut { x with qsNew := false } data n) :=
  ⟨rfl, rfl, rfl, rfl, rfl, rfl, rfl, rfl, rfl, rfl⟩

/-- A frame for the session's client reaches a server whose slot has no outpacket, no query waiting real soon and no answer queued
(per-side fact, either mode): tun is in the read set, and `start_new_outpacket` leaves the slot `y` — the frame is its outpacket,
numbered one after the server's last.  If no query is held `y` is written back and nothing is sent; a held query is answered by
`send_chunk` on `y`. -/
theorem srvDoes_start {P : Par} {s : Server.Srv} (hS : SStat P s) (hout : (Server.getUser s P.u).outpacket.len = 0)
    (hqs : (Server.getUser s P.u).qs.id = 0) (hoq : (Server.getUser s P.u).oqFilled = 0) (frame : List Nat)
    (h24 : 24 ≤ frame.length) (hl : frame.length < 65536) (hdst : Server.ipDst frame = (Server.getUser s P.u).tunIp) :
    (Server.topOfLoop s).2.2 = true ∧ ∃ y, StartKept (Server.getUser s P.u) y ∧
      y.outpacket = ⟨(0x5a :: frame).length, 0, 0, 0x5a :: frame, ((Server.getUser s P.u).outpacket.seqno + 1) % 8, 0⟩ ∧
      ((Server.getUser s P.u).q.id = 0 → SrvDoes s (.tun frame) 0 { putUser s P.u y with now := s.now } [] []) ∧
      ((Server.getUser s P.u).q.id ≠ 0 → (scSess y P.u .q).1.1.qs.id = 0 →
        SrvDoes s (.tun frame) 0 { putUser s P.u (scSess y P.u .q).1.1 with now := s.now }
          (downOfEvents (scSess y P.u .q).1.2) (tunOfSEvents (scSess y P.u .q).1.2)) := by
  have hsel : (Server.topOfLoop s).2.2 = true := tunSelS_idle hS hoq
  have htop := topSess_live hS
  generalize hx0 : ({ Server.getUser s P.u with qsNew := false } : Server.Session) = x0 at htop
  have hg1 : Server.getUser { putUser s P.u x0 with now := s.now } P.u = x0 := getUser_put_now _ _ _ _ hS.solo.lt
  generalize hy : startOut x0 (Server.compress frame) (Server.compress frame).length = y
  have htt := tunnelTun_start ((hS.solo.putUser x0).withNow s.now) hg1 frame h24
    (by subst hx0; exact ⟨hS.x.active, hS.x.auth, hS.x.enabled, hS.live, hdst⟩)
    (by subst hx0; exact hS.x.conn) (by subst hx0; exact hout) (by subst hx0; exact hqs) hy
  have ht : frame.take 65536 = frame := List.take_of_length_le (Nat.le_of_lt hl)
  have hxq : x0.q = (Server.getUser s P.u).q := by subst hx0; rfl
  have hk : StartKept (Server.getUser s P.u) y := by subst hy; subst hx0; exact startOut_kept _ _ _
  refine ⟨hsel, y, hk, ?_, fun hq => ?_, fun hq hzqs => ?_⟩
  · subst hy
    unfold startOut
    have hclen : (Server.compress frame).length = frame.length + 1 := by simp [Server.compress]
    simp only [hclen, PACKET_DATA_SIZE]
    rw [Nat.min_eq_left (Nat.succ_le_of_lt hl), show (Server.compress frame).take (frame.length + 1) = 0x5a :: frame from
      List.take_of_length_le (by simp [Server.compress])]
    subst hx0
    simp only [List.length_cons]
  · rw [hxq, if_pos hq, putUser_put_now] at htt
    have hit := iteration_tun hS.solo frame s.now y [] hsel (by rw [htop, ht]; exact htt)
    rw [sweepSess_noqs (by rw [rest_qs hk.rest]; exact hqs)] at hit
    exact SrvDoes.mk hit rfl rfl
  · rw [hxq, if_neg hq, putUser_put_now] at htt
    have hit := iteration_tun hS.solo frame s.now _ _ hsel (by rw [htop, ht]; exact htt)
    rw [sweepSess_noqs hzqs] at hit
    exact SrvDoes.mk hit (by simp only [List.append_nil, downOfEvents_append, downOfEvents_sweep])
      (by simp only [List.append_nil, tunOfSEvents_append, tunOfSEvents_sweep])

/-- A frame for the session's client reaches an idle server in immediate mode (per-side fact): only the slot changes — the frame
becomes the outpacket, numbered one after the server's last; nothing is sent. -/
theorem srvDoes_offer {P : Par} {s : Server.Srv} {k sd sl sp : Nat} (hS : SStat P s) (hidle : IdleImm (Server.getUser s P.u))
    (hoq : (Server.getUser s P.u).oqFilled = 0) (hA : Aged P (Server.getUser s P.u) k sl) (hPA : PAged P (Server.getUser s P.u) sd sp)
    (frame : List Nat)
    (h24 : 24 ≤ frame.length) (hl : frame.length < 65536) (hdst : Server.ipDst frame = (Server.getUser s P.u).tunIp) :
    ∃ s1, SrvDoes s (.tun frame) 0 s1 [] [] ∧ (Server.topOfLoop s).2.2 = true ∧ PingSrvG P s1 ∧
      (Server.getUser s1 P.u).outpacket =
        ⟨(0x5a :: frame).length, 0, 0, 0x5a :: frame, ((Server.getUser s P.u).outpacket.seqno + 1) % 8, 0⟩ ∧
      (Server.getUser s1 P.u).outfragresent = 0 ∧ s1.now = s.now ∧
      (Server.getUser s1 P.u).lastPkt = (Server.getUser s P.u).lastPkt ∧
      (Server.getUser s1 P.u).fragsize = (Server.getUser s P.u).fragsize ∧
      (Server.getUser s1 P.u).tunIp = (Server.getUser s P.u).tunIp ∧
      (Server.getUser s1 P.u).inpacket = (Server.getUser s P.u).inpacket ∧
      Aged P (Server.getUser s1 P.u) k sl ∧ PAged P (Server.getUser s1 P.u) sd sp := by
  obtain ⟨hsel, y, hk, hyop, hdo, _⟩ := srvDoes_start hS hidle.out hidle.qs hoq frame h24 hl hdst
  have hg : Server.getUser { putUser s P.u y with now := s.now } P.u = y := getUser_put_now _ _ _ _ hS.solo.lt
  refine ⟨{ putUser s P.u y with now := s.now }, hdo hidle.q, hsel, ?_, ?_, ?_, rfl, ?_, ?_, ?_, ?_, ?_, ?_⟩
  · refine ⟨hS.put_rest hk.rest (by rw [hyop]; exact mod8_range _)
      (by rw [hyop]; exact ⟨Int.le_refl 0, show (0 : Int) < 16 by decide⟩) (by rw [hk.lastPkt]; exact hS.live), ?_, ?_, ?_, ?_⟩
    · rw [hg, hk.q]; exact hidle.q
    · rw [hg, rest_qs hk.rest]; exact hidle.qs
    · rw [hg, rest_lazy hk.rest]; exact hidle.lazy
    · rw [hg, rest_oqFilled hk.rest]; exact hoq
  · rw [hg, hyop]
  · rw [hg]; exact hk.res
  · rw [hg]; exact hk.lastPkt
  · rw [hg]; exact rest_fragsize hk.rest
  · rw [hg]; exact rest_tunIp hk.rest
  · rw [hg]; exact rest_inpacket hk.rest
  · rw [hg]; exact hA.congr hk.qmd hk.qmdl hk.dc hk.dcl
  · rw [hg]; exact hPA.congr hk.qmp hk.qmpl hk.dc hk.dcl

/-- `offerS` from a quiescent, possibly desynchronised state: only the server's slot changes — the frame becomes the
outpacket, numbered one after the server's last -/
theorem down_offerS {P : Par} {w : W} {du dd sl sp : Nat} (hq : QuietImmDS P du dd sl sp w) (frame : List Nat)
    (h24 : 24 ≤ frame.length) (hl : frame.length < 65536) (hdst : Server.ipDst frame = (Server.getUser w.srv P.u).tunIp) :
    ∃ s1, step w (.offerS frame) = { w with srv := s1 } ∧ PingSrvG P s1 ∧
      (Server.getUser s1 P.u).outpacket =
        ⟨(0x5a :: frame).length, 0, 0, 0x5a :: frame, ((Server.getUser w.srv P.u).outpacket.seqno + 1) % 8, 0⟩ ∧
      (Server.getUser s1 P.u).outfragresent = 0 ∧ s1.now = w.srv.now ∧
      (Server.getUser s1 P.u).lastPkt = (Server.getUser w.srv P.u).lastPkt ∧
      (Server.getUser s1 P.u).fragsize = (Server.getUser w.srv P.u).fragsize ∧
      (Server.getUser s1 P.u).tunIp = (Server.getUser w.srv P.u).tunIp ∧
      (Server.getUser s1 P.u).inpacket = (Server.getUser w.srv P.u).inpacket ∧
      Aged P (Server.getUser s1 P.u) w.cs.c.datacmc sl ∧ PAged P (Server.getUser s1 P.u) w.cs.c.randSeed sp := by
  obtain ⟨s1, hdo, hsel, hrest⟩ := srvDoes_offer hq.srv hq.idle hq.oq hq.aged hq.paged frame h24 hl hdst
  refine ⟨s1, ?_, hrest⟩
  rw [step_offerS_of hsel hdo]
  simp

/-- `offerS` from a quiescent state in which the server's downstream sequence number is `d` ahead: the frame becomes the
outpacket with the number `d + 1` ahead of the client's -/
theorem down_offerD {P : Par} {w : W} {d : Nat} (hq : QuietImmD P 0 d w) (frame : List Nat) (h24 : 24 ≤ frame.length)
    (hl : frame.length < 65536) (hdst : Server.ipDst frame = (Server.getUser w.srv P.u).tunIp)
    (hF : 0 < (Server.getUser w.srv P.u).fragsize) :
    ∃ w1, step w (.offerS frame) = w1 ∧ DownIdleG P (0x5a :: frame) w1 ((w.cs.c.inpkt.seqno + d + 1) % 8) ∧
      w1.tunS = w.tunS ∧ w1.tunC = w.tunC ∧ (Server.getUser w1.srv P.u).tunIp = (Server.getUser w.srv P.u).tunIp ∧
      (Server.getUser w1.srv P.u).fragsize = (Server.getUser w.srv P.u).fragsize ∧ w1.srv.now = w.srv.now ∧
      (Server.getUser w1.srv P.u).lastPkt = (Server.getUser w.srv P.u).lastPkt ∧ w1.cs = w.cs := by
  obtain ⟨s1, hw, hps, hop, hres, hnow, hlp, hfs, htip, hin, hA, hPA⟩ := down_offerS hq frame h24 hl hdst
  rw [hq.syncd, seq_succ] at hop
  refine ⟨_, hw, ⟨hq.ph, hq.cst, hq.idleC, hq.up, hq.down, ⟨hps.stat, hps.q, hps.qs, hps.lz, hps.oq, hop, by rw [hres]; omega,
    by rw [hfs]; exact hF⟩, hres, ?_, hA, hPA⟩, rfl, rfl, htip, hfs, hnow, hlp, rfl⟩
  show (Server.getUser s1 P.u).inpacket.seqno = w.cs.c.outpkt.seqno
  rw [hin]
  have h1 := hq.srv.x.iseq
  have h2 := hq.syncu
  omega

end Iodine.C02L
