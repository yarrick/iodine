import IodineModel.Lemmas.C02qB4
/-
Upstream blackout: COMPOSITION WITNESS (kernel-evaluated), `k = 4`: four frames given up
under the upstream blackout (`bk_chain4`: the state is `bkW 4`), then the clean prompt path:
of the next five frames offered one after the other the first FOUR are lost for good (the server takes their first fragment
for a duplicate of a recent packet; the client resends three times and gives up: 4 s each), the fifth is delivered.
-/
namespace Iodine.C02L
open Iodine Iodine.Gen Iodine.World Iodine.C02

/-- TEST `k = 4`: the next 4 frames are lost, the 5th is delivered -/
theorem compose_k4 : cleanAfter (bkW 4) [fB 0, fB 1, fB 2, fB 3, fB 4] [fB 4] = true := by
  unfold cleanAfter; rw [offerAllC_fast]; decide +kernel

/-- … said of the state the four give-up runs reach from `exW`, which is `bkW 4` (`bk_chain4`) -/
theorem compose_k4' :
    (offerAllC 0 80 (giveupRunUp [fA 0, fA 1, fA 2, fA 3] exW) [fB 0, fB 1, fB 2, fB 3, fB 4]).tunS = [fB 4] := by
  rw [bk_chain4]
  exact cleanAfter_tunS compose_k4

end Iodine.C02L
