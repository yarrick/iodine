import IodineModel.Props.C02
import IodineModel.Lemmas.C02qA2
import IodineModel.Lemmas.WorldFast
/-
Freshness of the duplicate memories under loss — the COUNTEREXAMPLE: it is lost by DROPS alone, in 26 seconds.  After the
fault prefix `qaSchedC` (32 lost upstream datagrams in 26 seconds, nothing else) the joint state `qaWC` satisfies EVERY
clause of `QuietImm` except `aged`; there is no slack `≤ 21` (in fact none `≤ 26`) for which `Aged` holds, the weaker
`Fresh … 1` fails as well, and the next clean-path packet is really mishandled: its query is answered "x" from `qmemdata`.
-/
namespace Iodine.C02L
open Iodine Iodine.World

/-!
Schedule `qaSchedC` on `Iodine.C02.exW` (a `QuietImm` state: `Iodine.C02.ex_quiescent`), 104 scheduler events, the only faults
are 32 `dropUp` (26 data queries, 6 pings):   1 packet delivered cleanly (its data query carries counter value 0 and sequence number 1),
  3 packets given up (each: the data query and its 3 resends lost, then the ping lost), 1 packet whose first query is lost,
  3 packets given up, 1 packet whose first query is lost, 7 packets delivered cleanly.
That is 36 data queries and 16 packets: the client's data-CMC counter (period 36) and its 3-bit sequence number are both back
where they were for the first packet, of which `qmemdata` (15 entries) still holds the four header characters `eaba` because only
10 data queries reached the server since.  The joint state is quiescent and in sync again — and the NEXT single-fragment
packet's query is taken for a duplicate (`answer_from_qmem_data`, answer "x"); it is delivered only by the client's resend one
second later (6 scheduler events instead of the 3 of `clean_path_single_fragment`).

The run is evaluated by the kernel in one piece (`qa_runC`); the state it ends in is written down as a literal (slot 0 of the
server and the client; everything else as in `exW`).
-/

def qaRep (n : Nat) (l : List Ev) : List Ev := (List.replicate n l).flatten

/-- a 28-byte frame: one upstream fragment -/
def qaF1 : List Nat := demoFrame 9 4

/-- a packet on the clean path -/
def qaClean : List Ev := [.offerC qaF1, .deliverUp, .tickS, .deliverDown]

/-- a packet that is given up: the query, its three resends and the ping that follows are lost -/
def qaLost : List Ev := [.offerC qaF1, .dropUp, .tickC, .dropUp, .tickC, .dropUp, .tickC, .dropUp, .tickC, .dropUp]

/-- a packet whose first query is lost; the resend one second later is delivered -/
def qaLate : List Ev := [.offerC qaF1, .dropUp, .tickC, .deliverUp, .tickS, .deliverDown]

def qaSegA : List Ev := qaClean ++ qaRep 3 qaLost
def qaSegB : List Ev := qaLate ++ qaRep 3 qaLost
def qaSegC1 : List Ev := qaLate ++ qaRep 3 qaClean
def qaSegC2 : List Ev := qaRep 4 qaClean
def qaSegC : List Ev := qaSegC1 ++ qaSegC2

def qaSchedC : List Ev := qaSegA ++ qaSegB ++ qaSegC

/-! the state after the fault prefix, written out (`qa_runC`: the run ends in it) -/

def qaWC : W :=
  { cs := { c := { topdomain := [116, 46, 97, 98], randSeed := 6, outpkt := { len := 0, sentlen := 0, offset := 0, data := [90, 0, 0, 8, 0, 69, 0, 0, 24, 0, 0, 0, 0, 64, 17, 0, 0, 10, 0, 0, 2, 10, 0, 0, 9, 3, 10, 17, 24], seqno := 0, fragment := 0 }, inpkt := { len := 0, sentlen := 0, offset := 0, data := [], seqno := 0, fragment := 0 }, outchunkresent := 0, userid := 0, useridChar := 48, useridChar2 := 48, chunkid := 63390, chunkidPrev := 55663, chunkidPrev2 := 47936, dataenc := Iodine.Client.Enc.b32, downenc := 32, doQtype := 10, conn := Iodine.Client.Conn.dnsNull, selecttimeout := 1, lazymode := false, sendPingSoon := 20, lastdownstreamtime := 1026, lastrawping := 1000, sendcnt := 0, recvcnt := 10, hostnameMaxlen := 100, packrecv := 10, packrecvOos := 0, packrecvServfail := 0, datacmc := 0, running := true, edns0 := false, now := 1026 }, ph := .tunnel },
    srv := { Iodine.C02.exW.srv with users := Iodine.C02.exW.srv.users.set 0 ({ active := true, authenticated := true, authenticatedRaw := false, optionsLocked := false, disabled := false, lastPkt := 1026, seed := 0, tunIp := 167772162, host := { fam := 4, ip := 167774722, port := 40000 }, q := { name := [48, 97, 97, 98, 57, 108, 105, 97, 97, 97, 99, 97, 97, 105, 117, 97, 97, 97, 103, 97, 97, 97, 97, 97, 97, 97, 113, 97, 114, 97, 97, 97, 97, 117, 97, 97, 97, 97, 105, 102, 97, 97, 97, 97, 106, 97, 109, 102, 98, 99, 103, 97, 46, 116, 46, 97, 98], type := 10, id := 0, from_ := { fam := 4, ip := 167774722, port := 40000 }, id2 := 0, from2 := { fam := 0, ip := 0, port := 0 }, dest := { fam := 4, ip := 167774721, port := 53 } }, qs := { name := [48, 97, 97, 98, 57, 108, 105, 97, 97, 97, 99, 97, 97, 105, 117, 97, 97, 97, 103, 97, 97, 97, 97, 97, 97, 97, 113, 97, 114, 97, 97, 97, 97, 117, 97, 97, 97, 97, 105, 102, 97, 97, 97, 97, 106, 97, 109, 102, 98, 99, 103, 97, 46, 116, 46, 97, 98], type := 10, id := 0, from_ := { fam := 4, ip := 167774722, port := 40000 }, id2 := 0, from2 := { fam := 0, ip := 0, port := 0 }, dest := { fam := 4, ip := 167774721, port := 53 } }, qsNew := false, inpacket := { len := 0, sentlen := 0, offset := 0, data := [90, 0, 0, 8, 0, 69, 0, 0, 24, 0, 0, 0, 0, 64, 17, 0, 0, 10, 0, 0, 2, 10, 0, 0, 9, 3, 10, 17, 24], seqno := 0, fragment := 0 }, outpacket := { len := 0, sentlen := 0, offset := 0, data := [], seqno := 0, fragment := 0 }, outfragresent := 0, encoder := Iodine.Server.Enc.b32, downenc := 84, fragsize := 30, conn := Iodine.Server.Conn.dnsNull, lazy := false, qmemping := [{ cmc := [0, 0, 0, 0], type := 0 }, { cmc := [0, 0, 0, 0], type := 0 }, { cmc := [0, 0, 0, 0], type := 0 }, { cmc := [0, 0, 0, 0], type := 0 }, { cmc := [0, 0, 0, 0], type := 0 }, { cmc := [0, 0, 0, 0], type := 0 }, { cmc := [0, 0, 0, 0], type := 0 }, { cmc := [0, 0, 0, 0], type := 0 }, { cmc := [0, 0, 0, 0], type := 0 }, { cmc := [0, 0, 0, 0], type := 0 }, { cmc := [0, 0, 0, 0], type := 0 }, { cmc := [0, 0, 0, 0], type := 0 }, { cmc := [0, 0, 0, 0], type := 0 }, { cmc := [0, 0, 0, 0], type := 0 }, { cmc := [0, 0, 0, 0], type := 0 }, { cmc := [0, 0, 0, 0], type := 0 }, { cmc := [0, 0, 0, 0], type := 0 }, { cmc := [0, 0, 0, 0], type := 0 }, { cmc := [0, 0, 0, 0], type := 0 }, { cmc := [0, 0, 0, 0], type := 0 }, { cmc := [0, 0, 0, 0], type := 0 }, { cmc := [0, 0, 0, 0], type := 0 }, { cmc := [0, 0, 0, 0], type := 0 }, { cmc := [0, 0, 0, 0], type := 0 }, { cmc := [0, 0, 0, 0], type := 0 }, { cmc := [0, 0, 0, 0], type := 0 }, { cmc := [0, 0, 0, 0], type := 0 }, { cmc := [0, 0, 0, 0], type := 0 }, { cmc := [0, 0, 0, 0], type := 0 }, { cmc := [0, 0, 0, 0], type := 0 }], qmempingLast := 0, qmemdata := [{ cmc := [0, 0, 0, 0], type := 0 }, { cmc := [101, 97, 98, 97], type := 10 }, { cmc := [117, 97, 98, 111], type := 10 }, { cmc := [101, 97, 98, 50], type := 10 }, { cmc := [105, 97, 98, 51], type := 10 }, { cmc := [109, 97, 98, 52], type := 10 }, { cmc := [113, 97, 98, 53], type := 10 }, { cmc := [117, 97, 98, 54], type := 10 }, { cmc := [121, 97, 98, 55], type := 10 }, { cmc := [50, 97, 98, 56], type := 10 }, { cmc := [97, 97, 98, 57], type := 10 }, { cmc := [0, 0, 0, 0], type := 0 }, { cmc := [0, 0, 0, 0], type := 0 }, { cmc := [0, 0, 0, 0], type := 0 }, { cmc := [0, 0, 0, 0], type := 0 }], qmemdataLast := 10, outpacketq := [{ len := 0, sentlen := 0, offset := 0, data := [], seqno := 0, fragment := 0 }, { len := 0, sentlen := 0, offset := 0, data := [], seqno := 0, fragment := 0 }, { len := 0, sentlen := 0, offset := 0, data := [], seqno := 0, fragment := 0 }, { len := 0, sentlen := 0, offset := 0, data := [], seqno := 0, fragment := 0 }], oqNext := 0, oqFilled := 0, dnscache := [{ q := { name := [48, 121, 97, 98, 55, 108, 105, 97, 97, 97, 99, 97, 97, 105, 117, 97, 97, 97, 103, 97, 97, 97, 97, 97, 97, 97, 113, 97, 114, 97, 97, 97, 97, 117, 97, 97, 97, 97, 105, 102, 97, 97, 97, 97, 106, 97, 109, 102, 98, 99, 103, 97, 46, 116, 46, 97, 98], type := 10, id := 47936, from_ := { fam := 4, ip := 167774722, port := 40000 }, id2 := 0, from2 := { fam := 0, ip := 0, port := 0 }, dest := { fam := 4, ip := 167774721, port := 53 } }, answer := [224, 0], answerlen := 2 }, { q := { name := [48, 50, 97, 98, 56, 108, 105, 97, 97, 97, 99, 97, 97, 105, 117, 97, 97, 97, 103, 97, 97, 97, 97, 97, 97, 97, 113, 97, 114, 97, 97, 97, 97, 117, 97, 97, 97, 97, 105, 102, 97, 97, 97, 97, 106, 97, 109, 102, 98, 99, 103, 97, 46, 116, 46, 97, 98], type := 10, id := 55663, from_ := { fam := 4, ip := 167774722, port := 40000 }, id2 := 0, from2 := { fam := 0, ip := 0, port := 0 }, dest := { fam := 4, ip := 167774721, port := 53 } }, answer := [240, 0], answerlen := 2 }, { q := { name := [48, 97, 97, 98, 57, 108, 105, 97, 97, 97, 99, 97, 97, 105, 117, 97, 97, 97, 103, 97, 97, 97, 97, 97, 97, 97, 113, 97, 114, 97, 97, 97, 97, 117, 97, 97, 97, 97, 105, 102, 97, 97, 97, 97, 106, 97, 109, 102, 98, 99, 103, 97, 46, 116, 46, 97, 98], type := 10, id := 63390, from_ := { fam := 4, ip := 167774722, port := 40000 }, id2 := 0, from2 := { fam := 0, ip := 0, port := 0 }, dest := { fam := 4, ip := 167774721, port := 53 } }, answer := [128, 0], answerlen := 2 }, { q := { name := [48, 117, 97, 98, 54, 108, 105, 97, 97, 97, 99, 97, 97, 105, 117, 97, 97, 97, 103, 97, 97, 97, 97, 97, 97, 97, 113, 97, 114, 97, 97, 97, 97, 117, 97, 97, 97, 97, 105, 102, 97, 97, 97, 97, 106, 97, 109, 102, 98, 99, 103, 97, 46, 116, 46, 97, 98], type := 10, id := 40209, from_ := { fam := 4, ip := 167774722, port := 40000 }, id2 := 0, from2 := { fam := 0, ip := 0, port := 0 }, dest := { fam := 4, ip := 167774721, port := 53 } }, answer := [208, 0], answerlen := 2 }], dcLast := 2 }), now := 1026 },
    up := [], down := [], tunC := [], tunS := [[0, 0, 8, 0, 69, 0, 0, 24, 0, 0, 0, 0, 64, 17, 0, 0, 10, 0, 0, 2, 10, 0, 0, 9, 3, 10, 17, 24], [0, 0, 8, 0, 69, 0, 0, 24, 0, 0, 0, 0, 64, 17, 0, 0, 10, 0, 0, 2, 10, 0, 0, 9, 3, 10, 17, 24], [0, 0, 8, 0, 69, 0, 0, 24, 0, 0, 0, 0, 64, 17, 0, 0, 10, 0, 0, 2, 10, 0, 0, 9, 3, 10, 17, 24], [0, 0, 8, 0, 69, 0, 0, 24, 0, 0, 0, 0, 64, 17, 0, 0, 10, 0, 0, 2, 10, 0, 0, 9, 3, 10, 17, 24], [0, 0, 8, 0, 69, 0, 0, 24, 0, 0, 0, 0, 64, 17, 0, 0, 10, 0, 0, 2, 10, 0, 0, 9, 3, 10, 17, 24], [0, 0, 8, 0, 69, 0, 0, 24, 0, 0, 0, 0, 64, 17, 0, 0, 10, 0, 0, 2, 10, 0, 0, 9, 3, 10, 17, 24], [0, 0, 8, 0, 69, 0, 0, 24, 0, 0, 0, 0, 64, 17, 0, 0, 10, 0, 0, 2, 10, 0, 0, 9, 3, 10, 17, 24], [0, 0, 8, 0, 69, 0, 0, 24, 0, 0, 0, 0, 64, 17, 0, 0, 10, 0, 0, 2, 10, 0, 0, 9, 3, 10, 17, 24], [0, 0, 8, 0, 69, 0, 0, 24, 0, 0, 0, 0, 64, 17, 0, 0, 10, 0, 0, 2, 10, 0, 0, 9, 3, 10, 17, 24], [0, 0, 8, 0, 69, 0, 0, 24, 0, 0, 0, 0, 64, 17, 0, 0, 10, 0, 0, 2, 10, 0, 0, 9, 3, 10, 17, 24]] }

theorem qa_runC : run Iodine.C02.exW qaSchedC = qaWC := by
  rw [run_fast]; decide +kernel

/-- the only faults of the prefix are lost upstream datagrams (32 of them: 26 data queries, 6 pings); 26 seconds pass -/
theorem qa_schedC_faults :
    (∀ e ∈ qaSchedC, e = .dropUp ∨ e = .offerC qaF1 ∨ e = .deliverUp ∨ e = .deliverDown ∨ e = .tickC ∨ e = .tickS) ∧
    qaSchedC.length = 104 ∧ (qaSchedC.filter (· == .dropUp)).length = 32 ∧
    qaWC.cs.c.now = Iodine.C02.exW.cs.c.now + 26 ∧ qaWC.srv.now = Iodine.C02.exW.srv.now + 26 := by decide +kernel

/-- every clause of `QuietImm` except the two freshness clauses -/
structure QuietBut (P : Par) (w : W) : Prop where
  ph : w.cs.ph = .tunnel
  cst : CStat P w.cs.c
  idleC : Client.isSending w.cs.c = false
  up : w.up = []
  down : w.down = []
  srv : SStat P w.srv
  idle : IdleImm (Server.getUser w.srv P.u)
  oq : (Server.getUser w.srv P.u).oqFilled = 0
  syncu : (Server.getUser w.srv P.u).inpacket.seqno = w.cs.c.outpkt.seqno
  syncd : (Server.getUser w.srv P.u).outpacket.seqno = w.cs.c.inpkt.seqno

theorem quietImm_iff_but {P : Par} {w : W} :
    QuietImm P w ↔ QuietBut P w ∧ Aged P (Server.getUser w.srv P.u) w.cs.c.datacmc 1 ∧
      PAged P (Server.getUser w.srv P.u) w.cs.c.randSeed 1 :=
  ⟨fun h => ⟨⟨h.ph, h.cst, h.idleC, h.up, h.down, h.srv, h.idle, h.oq, h.syncu, h.syncd⟩, h.aged, h.paged⟩,
   fun ⟨h, a, p⟩ => ⟨h.ph, h.cst, h.idleC, h.up, h.down, h.srv, h.idle, h.oq, h.syncu, h.syncd, a, p⟩⟩

theorem QuietBut.quiet {P : Par} {w : W} (h : QuietBut P w) : quiet P.u w = true :=
  quiet_of_idle h.up h.down h.idleC h.idle.out h.oq h.idle.qs (Or.inr ⟨h.idle.lazy, h.idle.q⟩)

theorem QuietImm.but {P : Par} {w : W} (h : QuietImm P w) : QuietBut P w := (quietImm_iff_but.1 h).1

/-- `QuietBut` for the parameters `exP`, from closed facts about the state -/
theorem quietBut_exP (w : W) (hlen : w.srv.users.length = 16)
    (hothers : ∀ v, v < 16 → v ≠ 0 → (Server.getUser w.srv v).active = false)
    (hc : w.cs.ph = .tunnel ∧ w.cs.c.running = true ∧ w.cs.c.conn = .dnsNull ∧ w.cs.c.lazymode = false ∧ w.cs.c.userid = 0 ∧
      w.cs.c.useridChar = 48 ∧ w.cs.c.topdomain = demoDomain ∧ w.cs.c.hostnameMaxlen = 100 ∧ w.cs.c.dataenc = .b32 ∧
      w.cs.c.doQtype = 10 ∧ w.cs.c.chunkid < 65536 ∧ w.cs.c.datacmc < 36 ∧ ¬ w.cs.c.lastdownstreamtime + 60 < w.cs.c.now ∧
      (0 ≤ w.cs.c.outpkt.seqno ∧ w.cs.c.outpkt.seqno < 8) ∧ (0 ≤ w.cs.c.inpkt.seqno ∧ w.cs.c.inpkt.seqno < 8) ∧
      (0 ≤ w.cs.c.inpkt.fragment ∧ w.cs.c.inpkt.fragment < 16) ∧ w.cs.c.randSeed < 65536 ∧
      Client.isSending w.cs.c = false ∧ w.up = [] ∧ w.down = [])
    (hs : w.srv.cfg.createdUsers = 16 ∧ w.srv.cfg.topdomain = demoDomain ∧
      (Server.getUser w.srv 0).active = true ∧ (Server.getUser w.srv 0).authenticated = true ∧
      (Server.getUser w.srv 0).disabled = false ∧ (Server.getUser w.srv 0).conn = .dnsNull ∧
      (Server.getUser w.srv 0).encoder = .b32 ∧
      (0 ≤ (Server.getUser w.srv 0).outpacket.seqno ∧ (Server.getUser w.srv 0).outpacket.seqno < 8) ∧
      (0 ≤ (Server.getUser w.srv 0).outpacket.fragment ∧ (Server.getUser w.srv 0).outpacket.fragment < 16) ∧
      (0 ≤ (Server.getUser w.srv 0).inpacket.seqno ∧ (Server.getUser w.srv 0).inpacket.seqno < 8) ∧
      (0 ≤ (Server.getUser w.srv 0).inpacket.fragment ∧ (Server.getUser w.srv 0).inpacket.fragment < 16) ∧
      ((Server.getUser w.srv 0).host.fam = 4 ∧ (Server.getUser w.srv 0).host.ip = clientAddr.ip) ∧
      w.srv.now < (Server.getUser w.srv 0).lastPkt + 60 ∧
      (Server.getUser w.srv 0).outpacket.len = 0 ∧ (Server.getUser w.srv 0).q.id = 0 ∧ (Server.getUser w.srv 0).qs.id = 0 ∧
      (Server.getUser w.srv 0).lazy = false ∧ (Server.getUser w.srv 0).oqFilled = 0 ∧
      (Server.getUser w.srv 0).inpacket.seqno = w.cs.c.outpkt.seqno ∧
      (Server.getUser w.srv 0).outpacket.seqno = w.cs.c.inpkt.seqno) :
    QuietBut Iodine.C02.exP w := by
  obtain ⟨c1, c2, c3, c4, c5, c6, c7, c8, c9, c10, c11, c12, c13, c14, c15, c16, c17, c18, c19, c20⟩ := hc
  obtain ⟨s1, s2, s3, s4, s5, s6, s7, s8, s9, s10, s11, s12, s13, s14, s15, s16, s17, s18, s19, s20⟩ := hs
  have hsolo : Solo 0 w.srv := Solo.of_table hlen (by decide) s1 hothers
  exact ⟨c1, ⟨c2, c3, c4, by rw [c5]; rfl, c6, c7, by rw [c8]; rfl, c9, c10, c11, c12, c13, c14, c15, c16, c17⟩, c18, c19, c20,
    ⟨hsolo, s2, ⟨s3, s4, s5, s6, s7, s8, s9, s10, s11⟩, Or.inr s12, s13⟩, ⟨s14, s15, s16, s17⟩, s18, s19, s20⟩

/-- in `qaWC` (quiescent and in sync: `freshness_counterexample_state` in `Props/C02b.lean`) `Aged` holds for no slack up to 26 (the clean-path lemmas need `≤ 21`): the entry written 10 saves ago
carries the counter value the client is going to use NEXT (it is 36 sends old) -/
theorem qa_dropC_not_aged :
    ¬ ∃ sl, sl ≤ 26 ∧ Aged Iodine.C02.exP (Server.getUser qaWC.srv 0) qaWC.cs.c.datacmc sl := by
  intro ⟨sl, hsl, h⟩
  have hk : qaWC.cs.c.datacmc = 0 := by decide +kernel
  rw [hk] at h
  obtain ⟨a, h1, h2, h3, h4⟩ := h.qmem 9 (by decide) 0 ⟨by decide +kernel, by decide, by decide +kernel⟩
  omega

/-- … in particular the state is not `QuietImm`, although it was reached from one by losing datagrams for 26 seconds -/
theorem qa_dropC_not_quietImm : QuietImm Iodine.C02.exP Iodine.C02.exW ∧ ¬ QuietImm Iodine.C02.exP qaWC :=
  ⟨Iodine.C02.ex_quiescent, fun h => qa_dropC_not_aged ⟨1, by decide, h.aged⟩⟩

/-- … and not only the invariant is too strong: the property that is actually used, `Fresh … 1` (no remembered data query
carries the next counter value), fails too -/
theorem qa_dropC_not_fresh : ¬ Fresh Iodine.C02.exP (Server.getUser qaWC.srv 0) qaWC.cs.c.datacmc 1 := by
  intro h
  have hk : qaWC.cs.c.datacmc = 0 := by decide +kernel
  rw [hk] at h
  have hm : (⟨[101, 97, 98, 97], 10⟩ : Server.QmemEntry) ∈ (Server.getUser qaWC.srv 0).qmemdata := by decide +kernel
  exact h.qmem _ hm rfl ⟨0, by decide, by decide⟩

/-- **the damage is temporary.**  The slot of `qaWC` is well-formed, so the renewal theorem applies to it (this is
also the non-vacuity example of `CleanSess.renewed`): whatever 15 or more clean data query/answer cycles are run on it, `Aged … 1`
holds again afterwards. -/
theorem qa_dropC_renewable {nd nc : Nat} {x : Server.Session} {k : Nat}
    (h : CleanSess nd nc (Server.getUser qaWC.srv 0, qaWC.cs.c.datacmc) (x, k)) (hnd : 15 ≤ nd) :
    k < 36 ∧ Aged Iodine.C02.exP x k 1 := by
  have hwf : RingWF (Server.getUser qaWC.srv 0) :=
    ⟨by decide +kernel, by decide +kernel, by decide +kernel, by decide +kernel, by decide +kernel, by decide +kernel⟩
  have := h.le
  exact h.renewed (P := Iodine.C02.exP) (by decide) hwf (by decide +kernel) hnd (by omega)

end Iodine.C02L
