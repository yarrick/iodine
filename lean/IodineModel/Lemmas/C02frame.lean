import IodineModel.Lemmas.CliFrame
/-
The frame of `send_query` in the equational form the C02 lemmas use (`r = sqFrame c r`), from the frame fact of
Lemmas/CliFrame.lean.
-/
namespace Iodine.C02L
open Iodine Iodine.Client

/-- the fields `send_query` (including an excursion into `handshake_lazyoff`'s first query) may change -/
def sqFrame (c r : Cli) : Cli :=
  { c with chunkid := r.chunkid, chunkidPrev := r.chunkidPrev, chunkidPrev2 := r.chunkidPrev2, sendcnt := r.sendcnt,
           recvcnt := r.recvcnt, selecttimeout := r.selecttimeout, lazymode := r.lazymode, randSeed := r.randSeed,
           lastrawping := r.lastrawping }

theorem sqFrame_self (c : Cli) : sqFrame c c = c := rfl

/-- `sqFrame` is what the erasure `erPing` of Lemmas/CliFrame.lean blanks: a frame fact in the form `r = sqFrame c r` -/
theorem sqFrame_of_frame {c r : Cli} (h : CFrame erPing c r) : r = sqFrame c r := by
  have e : ∀ x : Cli, sqFrame x r = sqFrame (erPing x) r := fun _ => rfl
  rw [e c, ← h]; rfl

theorem sendQuery_frame (c : Cli) (h : List Nat) : (sendQuery c h).c = sqFrame c (sendQuery c h).c :=
  sqFrame_of_frame ((frame_sendQuery c h).coarsen erPing_erQ)

end Iodine.C02L
