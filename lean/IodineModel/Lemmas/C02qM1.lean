import IodineModel.Lemmas.C02M8
import IodineModel.Lemmas.C02q0
/-
Downstream from a DESYNCHRONISED quiescent state (c02:seqno-window): the packet the client does not take, for either mode, and one
packet in lazy mode.  A first fragment whose number falls into the client's window (`InWinC`) is not taken, only counted
(`recv_drop_common`, `drop_recv`); the client goes on pinging with its own position, the server sends the fragment again — six times
in all —, then drops the packet and answers DATALESS: `DropFlight`, `drop_run`, `DatalessFlight`.  `DropsDown`, `lostDown'`,
`lost_class`: which of the next packets a client takes when the server is `d < 8` ahead.  Lazy mode: `down_packet_lazy_desync_drop`,
`…_desync_ok`, `…_desync7_ok`, every distance in `down_packet_lazy_any`; `QuietLazy.desync`: the hypotheses are satisfiable for every `d`.
-/
namespace Iodine.C02L
open Iodine Iodine.Gen Iodine.World

section client
open Iodine.Client

/-- The first fragment (number 0) of a downstream packet with sequence number `sq` falls into the client's window: `sq` is
one of the three numbers before the client's current one ("duplicate of a recent packet", `dupeSeqno`), or it IS the
current one and the client's current fragment number is not 0 ("duplicate fragment", `acceptFragment`; for fragment number 0
the client would take it as the "weird situation"). -/
def InWinC (c : Cli) (sq : Int) : Prop :=
  (sq ≠ c.inpkt.seqno ∧ Client.recentSeqno c.inpkt.seqno sq = true) ∨ (sq = c.inpkt.seqno ∧ c.inpkt.fragment ≠ 0)

theorem InWinC.congr {c c' : Client.Cli} {sq : Int} (h : InWinC c sq) (he : c'.inpkt = c.inpkt) : InWinC c' sq := by
  unfold InWinC at *
  rw [he]; exact h

theorem InWinC.mismatch {c : Client.Cli} {sq : Int} (h : InWinC c sq) : sq ≠ c.inpkt.seqno ∨ ((0 : Nat) : Int) ≠ c.inpkt.fragment := by
  rcases h with ⟨h1, _⟩ | ⟨_, h2⟩
  · exact Or.inl h1
  · exact Or.inr (by intro h; exact h2 h.symm)

theorem InWinC.keep {c : Client.Cli} {sq : Int} (h : InWinC c sq) :
    sq = c.inpkt.seqno ∨ Client.recentSeqno c.inpkt.seqno sq = true := by
  rcases h with ⟨_, h2⟩ | ⟨h1, _⟩
  · exact Or.inr h2
  · exact Or.inl h1

theorem dropBook_flat (c : Cli) :
    dropBook c = { c with packrecv := (countRecv c).packrecv, recvcnt := c.recvcnt + 1, lastdownstreamtime := c.now,
                          sendPingSoon := 500 } := by
  cases c; rfl

theorem dropBook_of_hint (c : Cli) : ({ hintBook c with sendPingSoon := 500 } : Cli) = dropBook c := rfl

end client

/-- What the client does with a fragment 0 that falls into its window (either mode): nothing is taken, the answer is counted and
`send_ping_soon = 500` noted; `c.sendPingSoon != 0` = a ping was due.  ("Duplicate of a recent packet" — `read = 2` — or
"duplicate fragment".) -/
theorem recv_drop_common {P : Par} {lz : Bool} {c : Client.Cli} {rq : Client.Rq} {pkt out : List Nat} {sq : Int} {D : Nat}
    {last : Bool} (h : RecvOk P lz c rq pkt) (hp : FragPkt pkt out sq 0 D 0 last) (hD : 0 < D) (hw : InWinC c sq) :
    ∃ rd, Client.cstep ⟨c, .tunnel⟩ (.rq rq) = Client.settle (Client.finalPing (dropBook c) [] (c.sendPingSoon != 0) rd) := by
  have hrv : rq.rv = ((2 + D : Nat) : Int) := by rw [h.rv, hp.len]
  rw [cstep_rq c rq h.cst.running h.cst.alive h.cst.conn]
  have hbad : ¬ (rq.rv = 5 ∧ rq.buf.take 5 = Client.ascii "BADIP") := by rw [h.buf]; intro hc; exact hp.notbad hc.2
  have hsd : Client.isSending (dropBook c) = false := (isSending_dropBook c).trans h.idle
  rcases hw with ⟨h1, h2⟩ | ⟨h1, h2⟩
  · refine ⟨2, ?_⟩
    have hne : (Client.decodeHdr rq.buf).dnSeq ≠ c.inpkt.seqno := by rw [h.buf, hp.hdr.1]; exact h1
    have hrec : Client.recentSeqno c.inpkt.seqno (Client.decodeHdr rq.buf).dnSeq = true := by rw [h.buf, hp.hdr.1]; exact h2
    have hb : Client.datalessAdopt (Client.lazyHint (ackBook { c with sendPingSoon := 500 }) rq.id) (Client.decodeHdr rq.buf) 2 =
        dropBook c := by
      rw [lazyHint_keep _ _ ⟨by show (500 : Nat) ≠ 0; omega, by show (500 : Nat) ≤ 900; omega⟩,
        datalessAdopt_keep (ackBook { c with sendPingSoon := 500 }) _ _ (Or.inr (Or.inr hrec))]
      cases c; rfl
    rw [tunnelDns_via c rq h.name0 (by rw [hrv]; omega) hbad (by rw [h.id]; exact recentId_cur c)
      (dupeSeqno_dupe { c with sendPingSoon := 0 } _ _ (by rw [hrv]; omega) hne hrec) hb (downstream_dataless _ _ _ _),
      upstream_idle _ _ _ _ _ hsd]
  · refine ⟨rq.rv, ?_⟩
    rw [tunnelDns_payload_idle c rq h.name0 (by rw [hrv]; omega) hbad h.id h.idle (Or.inl (by rw [h.buf, hp.hdr.1]; exact h1))]
    have hacc : Client.acceptFragment (recvBook c) (Client.decodeHdr rq.buf) = none := by
      unfold Client.acceptFragment
      rw [recvBook_inpkt, if_neg (by rw [h.buf, hp.hdr.1, h1]; simp), if_neg (by intro hc; exact h2 hc.1),
        if_pos (by rw [h.buf, hp.hdr.2.1]; exact h.cst.ifrag.1)]
    have hds : Client.downstream (recvBook c) (Client.decodeHdr rq.buf) rq.buf rq.rv (c.sendPingSoon != 0) =
        (dropBook c, [], (c.sendPingSoon != 0)) := by
      unfold Client.downstream
      rw [if_pos (by rw [hrv]; omega), hacc]
      cases c; rfl
    rw [hds]

/-! ### which packets a desynchronised client takes -/

/-- the window: a number 5, 6 or 7 ahead is one of the three before the current one -/
theorem recentSeqno_behind (a : Int) (ha : 0 ≤ a ∧ a < 8) (j : Nat) (hj : 5 ≤ j ∧ j ≤ 7) :
    (a + j) % 8 ≠ a ∧ Client.recentSeqno a ((a + j) % 8) = true := by
  refine ⟨by omega, ?_⟩
  rw [recentSeqno_iff a _ ha]
  exact ⟨8 - j, by omega, by omega⟩

/-- The client does not take the next packet of a server whose downstream number is `d` ahead: that packet is numbered `d + 1`
ahead, which is one of the three numbers before the client's own, or (`d = 7`) the client's own while its fragment number is not 0.
(Upstream, for the server as receiver: `DropsUp`, `C02up5`.) -/
def DropsDown (c : Client.Cli) (d : Nat) : Prop := (4 ≤ d ∧ d ≤ 6) ∨ (d = 7 ∧ c.inpkt.fragment ≠ 0)

theorem inWin_of_desync {c : Client.Cli} (hs : 0 ≤ c.inpkt.seqno ∧ c.inpkt.seqno < 8) {d : Nat}
    (hd : DropsDown c d) : InWinC c ((c.inpkt.seqno + d + 1) % 8) := by
  rw [seq_ahead]
  rcases hd with ⟨h4, h6⟩ | ⟨h7, hf⟩
  · exact Or.inl (recentSeqno_behind _ hs (d + 1) ⟨Nat.succ_le_succ h4, Nat.succ_le_succ h6⟩)
  · subst h7; exact Or.inr ⟨mod8_eight hs, hf⟩

/-- how many of the next packets are lost when the server is `d` ahead (client's fragment number non-zero) -/
def lostDown (d : Nat) : Nat := if d ≤ 3 then 0 else 8 - d

/-- how many of the next packets are lost when the server's downstream number is `d` ahead; `frag0` = the client's fragment
number is 0 -/
def lostDown' (d : Nat) (frag0 : Bool) : Nat := if d ≤ 3 then 0 else if frag0 then 7 - d else 8 - d

theorem lostDown'_false (d : Nat) : lostDown' d false = lostDown d := by
  unfold lostDown' lostDown
  simp

theorem lostDown'_small (d : Nat) (b : Bool) (hd : d ≤ 3) : lostDown' d b = 0 := by
  unfold lostDown'; rw [if_pos hd]

theorem lostDown'_seven_true : lostDown' 7 true = 0 := rfl

theorem lostDown'_seven_false : lostDown' 7 false = 1 := rfl

theorem lostDown'_step (d : Nat) (b : Bool) (h4 : 4 ≤ d) (h6 : d ≤ 6) : lostDown' d b = lostDown' (d + 1) b + 1 := by
  unfold lostDown'
  have h1 : ¬ d ≤ 3 := by omega
  have h2 : ¬ d + 1 ≤ 3 := by omega
  simp only [h1, h2, if_false]
  cases b
  · simp only [Bool.false_eq_true, if_false]; omega
  · simp only [if_true]; omega

/-- The classification by the distance `d < 8` and the client's fragment number.  The client TAKES the next packet when its
number is 1..4 ahead of the client's (`d ≤ 3`) or is the client's own while the client's fragment number is 0 (`d = 7`, the
"weird situation").  Otherwise (`DropsDown`) the packet is LOST and the distance grows by one.  `lostDown'` counts the losses to
come. -/
theorem lost_class (d : Nat) (hd8 : d < 8) (c : Client.Cli) :
    (lostDown' d (decide (c.inpkt.fragment = 0)) = 0 ∧ (d ≤ 3 ∨ (d = 7 ∧ c.inpkt.fragment = 0))) ∨
    (lostDown' d (decide (c.inpkt.fragment = 0)) = lostDown' ((d + 1) % 8) (decide (c.inpkt.fragment = 0)) + 1 ∧ 4 ≤ d ∧
      DropsDown c d) := by
  by_cases h3 : d ≤ 3
  · exact Or.inl ⟨lostDown'_small d _ h3, Or.inl h3⟩
  by_cases h6 : d ≤ 6
  · rw [Nat.mod_eq_of_lt (by omega)]
    exact Or.inr ⟨lostDown'_step d _ (by omega) h6, by omega, Or.inl ⟨by omega, h6⟩⟩
  obtain rfl : d = 7 := by omega
  by_cases h0 : c.inpkt.fragment = 0
  · rw [decide_eq_true h0]
    exact Or.inl ⟨lostDown'_seven_true, Or.inr ⟨rfl, h0⟩⟩
  · rw [decide_eq_false h0]
    exact Or.inr ⟨lostDown'_seven_false, by decide, Or.inr ⟨rfl, h0⟩⟩

/-! ### a ping that finds nothing to send is held; the client's two steps -/

/-- The ping of `PingUp` reaches a server in lazy mode that has nothing to send: it HOLDS the ping; the joint state is quiescent
again, the server's downstream sequence number `dd` ahead of the client's as before. -/
theorem hold_stepD {P : Par} (hP : P.Ok) {w3 : W} {c2 : Client.Cli} {name' : List Nat} (h : PingUp P true w3 c2 name')
    (hlen0 : (Server.getUser w3.srv P.u).outpacket.len = 0) {dd : Nat}
    (hsync : (Server.getUser w3.srv P.u).outpacket.seqno = (c2.inpkt.seqno + dd) % 8) :
    ∃ w', promptSteps P.u 1 w3 = some w' ∧ QuietLazyD P 0 dd w' ∧ w'.cs.c.sendPingSoon = 0 ∧ Keeps P w3 w' := by
  obtain ⟨w', hs, hQ, hsps, htc, hts, hfs, htip, _, hcs⟩ := hold_step hP h.cs h.st.lazy (h.cnt.resolve_left (by decide)) h.idle
    h.up h.down h.pq h.srv h.syncu h.aged h.paged (ackSess_idle _ _ _ hlen0) hlen0 h.srv.stat.x.oseq h.srv.stat.x.ofrag hsync
  exact ⟨w', by rw [hs 0]; rfl, hQ, hsps, ⟨htc, hts, hfs, htip, by rw [hcs], by rw [hcs]⟩⟩

theorem booked_dropBook {P : Par} {lz : Bool} {c : Client.Cli} (hc : CStatM P lz c) (hcnt : CntM lz c 1) :
    Booked P lz c (dropBook c) := by
  rw [dropBook_flat]
  exact booked_recv hc hcnt c.inpkt 500 _ hc.iseq hc.ifrag

/-- The client receives a first fragment (number 0) whose sequence number falls into its window (either mode): it is NOT taken,
the answer is counted and `send_ping_soon = 500` noted; a ping with the client's own downstream position goes out — at once
if one was due (`send_ping_soon ≠ 0`: one scheduler step), else after the 500 ms (two steps: `deliverDown`, `tickC`; in
immediate mode the state in between is not quiescent because the server still has the packet, `hnq`). -/
theorem drop_recv {P : Par} (hP : P.Ok) {lz : Bool} {w : W} {out pkt name : List Nat} {sq : Int} {D : Nat} {last : Bool}
    (hb : DownBase P lz w) (hdown : w.down = [.ans w.cs.c.chunkid P.ty name pkt])
    (hnd : Client.notData w.cs.c (name.headD 0) = false) (hfp : FragPkt pkt out sq 0 D 0 last) (hD : 0 < D)
    (hwin : InWinC w.cs.c sq) (hnq : lz = false → (Server.getUser w.srv P.u).outpacket.len ≠ 0) :
    ∃ c2 name' w2, promptSteps P.u (if w.cs.c.sendPingSoon = 0 then 2 else 1) w = some w2 ∧
      PingUp P lz w2 c2 name' ∧ c2.inpkt = w.cs.c.inpkt ∧ w2.srv = w.srv ∧ Keeps P w w2 := by
  obtain ⟨name', w2, h1, hpu, h2, h3, h4⟩ := recv_then_ping hP (c3 := dropBook w.cs.c) (pre := [])
    (sn := (w.cs.c.sendPingSoon != 0)) hb hdown hnd
    (fun _ hrok => recv_drop_common hrok hfp hD hwin) rfl (booked_dropBook hb.cst hb.cnt)
    (fun _ => ⟨show 0 < 500 by decide, show 500 < 1000 by decide⟩) (fun _ => hnq)
  have hin := dropBook_inpkt w.cs.c
  refine ⟨_, name', w2, ?_, hpu, hin, h2, ⟨by rw [h3]; exact List.append_nil _, h4, by rw [h2], by rw [h2],
    hpu.client.2.inpkt.trans hin, hpu.client.2.selto.trans (by rw [dropBook_flat])⟩⟩
  rw [← h1]
  by_cases h0 : w.cs.c.sendPingSoon = 0
  · rw [if_pos h0, h0]; rfl
  · rw [if_neg h0, if_pos (by simpa using h0)]

/-- The lazy client (no ping due) receives a DATALESS answer that names its current downstream sequence number or one of the
three before it: NOT adopted; the lazy-mode hint makes it ping after 900 ms (two steps: `deliverDown`, `tickC`). -/
theorem dataless_recv {P : Par} (hP : P.Ok) {w : W} {pkt name : List Nat} (hb : DownBase P true w)
    (hsps : w.cs.c.sendPingSoon = 0) (hdown : w.down = [.ans w.cs.c.chunkid P.ty name pkt])
    (hnd : Client.notData w.cs.c (name.headD 0) = false) (hlen : pkt.length = 2)
    (hwin : (Client.decodeHdr pkt).dnSeq = w.cs.c.inpkt.seqno ∨
      Client.recentSeqno w.cs.c.inpkt.seqno (Client.decodeHdr pkt).dnSeq = true) :
    ∃ c2 name' w2, promptSteps P.u 2 w = some w2 ∧
      PingUp P true w2 c2 name' ∧ c2.inpkt = w.cs.c.inpkt ∧ w2.srv = w.srv ∧ Keeps P w w2 := by
  have hs9 : (recvBook w.cs.c).sendPingSoon = 900 := by
    show (if w.cs.c.lazymode = true then 900 else 0) = 900
    rw [if_pos hb.cst.mode]
  obtain ⟨name', w2, h1, hpu, h2, h3, h4⟩ := recv_then_ping hP (sn := false) hb hdown hnd
    (fun _ hrok => ⟨2, by rw [recv_dataless_common hrok hlen hwin, hsps]; rfl⟩) rfl (booked_recvBook hb.cst hb.cnt)
    (fun _ => by rw [hs9]; omega) (fun _ h => absurd h (by decide))
  exact ⟨_, name', w2, h1, hpu, rfl, h2, ⟨by rw [h3]; exact List.append_nil _, h4, by rw [h2], by rw [h2],
    hpu.client.2.inpkt, hpu.client.2.selto⟩⟩

/-! ### the resend cycle, either mode: `DropFlight` and its two steps -/

/-- copy number `r` of fragment 0 (`D` bytes) of the outpacket `out` (seqno `sq`, more than one fragment) is on its way to
the client as the answer to its most recent query; `sq` falls into the client's window -/
structure DropFlight (P : Par) (lz : Bool) (out : List Nat) (w : W) (sq : Int) (D r : Nat) : Prop
    extends DownBase P lz w where
  down : ∃ name pkt, w.down = [.ans w.cs.c.chunkid P.ty name pkt] ∧ Client.notData w.cs.c (name.headD 0) = false ∧
    FragPkt pkt out sq 0 D 0 false
  win : InWinC w.cs.c sq
  sq8 : 0 ≤ sq ∧ sq < 8
  pos : 0 < D
  short : D < out.length
  cut : D = downLen (Server.getUser w.srv P.u).fragsize out.length
  op : (Server.getUser w.srv P.u).outpacket = ⟨out.length, D, 0, out, sq, 0⟩
  res : (Server.getUser w.srv P.u).outfragresent = r

/-- the server has dropped the packet (seqno `sq`) and its DATALESS answer is on its way to the client, at which no ping is
due -/
structure DatalessFlight (P : Par) (lz : Bool) (w : W) (sq : Int) : Prop extends DownBase P lz w where
  sps : w.cs.c.sendPingSoon = 0
  down : ∃ name pkt, w.down = [.ans w.cs.c.chunkid P.ty name pkt] ∧ Client.notData w.cs.c (name.headD 0) = false ∧
    pkt.length = 2 ∧ (Client.decodeHdr pkt).dnSeq = sq
  win : InWinC w.cs.c sq
  len0 : (Server.getUser w.srv P.u).outpacket.len = 0
  oseq : (Server.getUser w.srv P.u).outpacket.seqno = sq
  lp : (Server.getUser w.srv P.u).lastPkt = w.srv.now

/-- the ping of a client in whose window the packet's number falls does not acknowledge fragment 0 in flight: the outpacket
stays, so the server answers at once (`answer_step`) -/
theorem answer_step_mismatch {P : Par} (hP : P.Ok) {lz : Bool} {w2 : W} {c2 : Client.Cli} {name' : List Nat}
    (h : PingUp P lz w2 c2 name') {out : List Nat} {sq : Int} {D : Nat}
    (hop : (Server.getUser w2.srv P.u).outpacket = ⟨out.length, D, 0, out, sq, 0⟩) (hlt : D < out.length) (hwin : InWinC c2 sq) :
    ∃ s' pkt2, promptSteps P.u 1 w2 =
        some { w2 with up := [], srv := s', down := [.ans (pingStateL c2).chunkid P.ty name' pkt2] } ∧
      AfterPing P w2.srv s' (upQuery (pingStateL c2).chunkid P.ty name') c2.inpkt.seqno c2.inpkt.fragment pkt2 ∧
      Aged P (Server.getUser s' P.u) c2.datacmc 1 ∧ PAged P (Server.getUser s' P.u) ((c2.randSeed + 1) % 65536) 1 := by
  have hack : ackSess { Server.getUser w2.srv P.u with qsNew := false } c2.inpkt.seqno c2.inpkt.fragment =
      { Server.getUser w2.srv P.u with qsNew := false } :=
    ackSess_mismatch _ _ _ (by
      rw [show ({ Server.getUser w2.srv P.u with qsNew := false } : Server.Session).outpacket = _ from hop]; exact hwin.mismatch)
  exact answer_step hP h (by
    rw [hack]; show 0 < (Server.getUser w2.srv P.u).outpacket.len; rw [hop]; show 0 < out.length; omega)

/-- the ping reaches the server while the fragment was sent at most 5 times: `process_downstream_ack` does not match, the
SAME fragment goes out again as the answer -/
theorem resend_step {P : Par} (hP : P.Ok) {lz : Bool} {w2 : W} {c2 : Client.Cli} {name' : List Nat} (h : PingUp P lz w2 c2 name')
    {out : List Nat} {sq : Int} {D r : Nat}
    (hop : (Server.getUser w2.srv P.u).outpacket = ⟨out.length, D, 0, out, sq, 0⟩)
    (hres : (Server.getUser w2.srv P.u).outfragresent = r) (hr : r ≤ 5)
    (hfrag : 0 < (Server.getUser w2.srv P.u).fragsize) (hDdef : D = downLen (Server.getUser w2.srv P.u).fragsize out.length)
    (hD : 0 < D) (hlt : D < out.length) (hsq : 0 ≤ sq ∧ sq < 8) (hwin : InWinC c2 sq) :
    ∃ w', promptSteps P.u 1 w2 = some w' ∧ DropFlight P lz out w' sq D (r + 1) ∧ w'.cs.c.sendPingSoon = 0 ∧ Keeps P w2 w' := by
  have hcl := h.client
  have hsrv := h.srv
  have hmis := hwin.mismatch
  obtain ⟨s', pkt2, hs2, hap, hA', hPA'⟩ := answer_step_mismatch hP h hop hlt hwin
  obtain ⟨D', hD', _, _, hfp2, hzo, hzr, hps, hk, _⟩ := afterPing_resend (f := 0) (o := 0) hsrv rfl hap hop (by omega)
    (Or.inr hmis) (by omega) hfrag (by omega) hsq
  rw [Nat.sub_zero, ← hDdef] at hD'
  subst D'
  have hdec : decide (out.length > 0 ∧ out.length = 0 + D) = false := by
    rw [decide_eq_false_iff_not]; omega
  rw [hdec] at hfp2
  rw [if_neg (by omega)] at hzo hzr
  obtain ⟨hbase, hdn, hnd2⟩ := h.answered pkt2 hps hk hfrag hA' hPA'
  exact ⟨_, hs2, ⟨hbase, ⟨name', pkt2, hdn, hnd2, hfp2⟩, hwin.congr hcl.2.inpkt, hsq, hD, hlt, by rw [hk.fragsize]; exact hDdef,
    hzo, by rw [hzr, hres]⟩, hcl.2.sps, ⟨rfl, rfl, hk.fragsize, hk.tunIp, rfl, rfl⟩⟩

/-- the ping reaches the server when the fragment was already sent 6 times: the packet is dropped, the answer is DATALESS -/
theorem kill_step {P : Par} (hP : P.Ok) {lz : Bool} {w2 : W} {c2 : Client.Cli} {name' : List Nat} (h : PingUp P lz w2 c2 name')
    {out : List Nat} {sq : Int} {D r : Nat}
    (hop : (Server.getUser w2.srv P.u).outpacket = ⟨out.length, D, 0, out, sq, 0⟩)
    (hres : (Server.getUser w2.srv P.u).outfragresent = r) (hr : 5 < r)
    (hfrag : 0 < (Server.getUser w2.srv P.u).fragsize) (hlt : D < out.length) (hsq : 0 ≤ sq ∧ sq < 8) (hwin : InWinC c2 sq) :
    ∃ w', promptSteps P.u 1 w2 = some w' ∧ DatalessFlight P lz w' sq ∧ Keeps P w2 w' := by
  have hcl := h.client
  have hsrv := h.srv
  have hmis := hwin.mismatch
  obtain ⟨s', pkt2, hs2, hap, hA', hPA'⟩ := answer_step_mismatch hP h hop hlt hwin
  obtain ⟨hak, hzl, hzs, _, hps, hk⟩ := afterPing_dataless hsrv rfl hap (Or.inr ⟨by omega, by rw [hop]; exact hmis⟩)
  rw [hop] at hak hzs
  obtain ⟨hbase, hdn, hnd2⟩ := h.answered pkt2 hps hk hfrag hA' hPA'
  exact ⟨_, hs2, ⟨hbase, hcl.2.sps, ⟨name', pkt2, hdn, hnd2, len_two hak.len, hak.dnSeq⟩, hwin.congr hcl.2.inpkt, hzl, hzs,
    hk.lastPkt⟩, ⟨rfl, rfl, hk.fragsize, hk.tunIp, rfl, rfl⟩⟩

/-! ### the cycles and the run (`drop_run`) -/

/-- scheduler steps of one cycle: `deliverDown`, `tickC`, `deliverUp` — without the `tickC` if a ping was due at the client -/
def cycleSteps (sps : Nat) : Nat := if sps = 0 then 3 else 2

/-- the server still has the packet: in immediate mode the state is not quiescent -/
theorem DropFlight.notQuiet {P : Par} {lz : Bool} {out : List Nat} {w : W} {sq : Int} {D r : Nat} (h : DropFlight P lz out w sq D r) :
    lz = false → (Server.getUser w.srv P.u).outpacket.len ≠ 0 := fun _ => by
  rw [h.op]; exact Nat.ne_of_gt (Nat.lt_of_le_of_lt (Nat.zero_le D) h.short)

theorem drop_cycle {P : Par} (hP : P.Ok) {lz : Bool} {out : List Nat} {w : W} {sq : Int} {D r : Nat} (h : DropFlight P lz out w sq D r)
    (hr : r ≤ 5) :
    ∃ w', promptSteps P.u (cycleSteps w.cs.c.sendPingSoon) w = some w' ∧ DropFlight P lz out w' sq D (r + 1) ∧
      w'.cs.c.sendPingSoon = 0 ∧ Keeps P w w' := by
  obtain ⟨name, pkt, hdown, hnd, hfp⟩ := h.down
  obtain ⟨c2, name', w2, hs1, hpu, hin2, hsrv2, hk1⟩ := drop_recv hP h.toDownBase hdown hnd hfp h.pos h.win h.notQuiet
  obtain ⟨w', hs2, hfl, hsps, hk2⟩ := resend_step hP hpu (out := out) (sq := sq) (D := D) (r := r)
    (by rw [hsrv2]; exact h.op) (by rw [hsrv2]; exact h.res) hr (by rw [hsrv2]; exact h.frag) (by rw [hsrv2]; exact h.cut)
    h.pos h.short h.sq8 (h.win.congr hin2)
  refine ⟨w', ?_, hfl, hsps, hk1.trans hk2⟩
  have := promptSteps_add P.u _ 1 w w2 hs1
  rw [hs2] at this
  rw [← this]
  unfold cycleSteps
  split <;> rfl

theorem drop_cycles {P : Par} (hP : P.Ok) {lz : Bool} {out : List Nat} {sq : Int} {D : Nat} :
    ∀ (k r : Nat) (w : W), DropFlight P lz out w sq D r → w.cs.c.sendPingSoon = 0 → r + k ≤ 6 →
      ∃ w', promptSteps P.u (3 * k) w = some w' ∧ DropFlight P lz out w' sq D (r + k) ∧ w'.cs.c.sendPingSoon = 0 ∧ Keeps P w w' := by
  intro k
  induction k with
  | zero => intro r w h hs _; exact ⟨w, rfl, h, hs, Keeps.refl P w⟩
  | succ k ih =>
    intro r w h hs hrk
    obtain ⟨w1, h1, hfl1, hs1, hk1⟩ := drop_cycle hP h (by omega)
    have hc : cycleSteps w.cs.c.sendPingSoon = 3 := by unfold cycleSteps; rw [if_pos hs]
    rw [hc] at h1
    obtain ⟨w', h2, hfl2, hs2, hk2⟩ := ih (r + 1) w1 hfl1 hs1 (by omega)
    refine ⟨w', ?_, by rw [show r + (k + 1) = r + 1 + k by omega]; exact hfl2, hs2, hk1.trans hk2⟩
    have := promptSteps_add P.u 3 (3 * k) w w1 h1
    rw [h2] at this
    rw [← this]
    congr 1
    omega

/-- the KILL cycle: a call of `send_chunk_or_dataless` for a fragment sent more than five times (the 7th in the run) drops the
packet -/
theorem kill_cycle {P : Par} (hP : P.Ok) {lz : Bool} {out : List Nat} {w : W} {sq : Int} {D r : Nat}
    (h : DropFlight P lz out w sq D r) (hr : 5 < r) (hs : w.cs.c.sendPingSoon = 0) :
    ∃ w', promptSteps P.u 3 w = some w' ∧ DatalessFlight P lz w' sq ∧ Keeps P w w' := by
  obtain ⟨name, pkt, hdown, hnd, hfp⟩ := h.down
  obtain ⟨c2, name', w2, hs1, hpu, hin2, hsrv2, hk1⟩ := drop_recv hP h.toDownBase hdown hnd hfp h.pos h.win h.notQuiet
  rw [if_pos hs] at hs1
  obtain ⟨w', hs2, hfl, hk2⟩ := kill_step hP hpu (out := out) (sq := sq) (D := D) (r := r)
    (by rw [hsrv2]; exact h.op) (by rw [hsrv2]; exact h.res) hr (by rw [hsrv2]; exact h.frag) h.short h.sq8
    (h.win.congr hin2)
  refine ⟨w', ?_, hfl, hk1.trans hk2⟩
  have := promptSteps_add P.u 2 1 w w2 hs1
  rw [hs2] at this
  rw [← this]

/-- THE RUN of a packet of several fragments the client does not take, for either mode: from its first fragment in flight
(sent once, `D` bytes; its number in the client's window) through the five further copies the server sends in answer to the
client's pings, to the server's dataless answer in flight after it dropped the packet: five resend cycles and the kill cycle. -/
theorem drop_run {P : Par} (hP : P.Ok) {lz : Bool} {out : List Nat} {w : W} {sq : Int} {D : Nat} (h : DownSent P lz out w sq 0 D 0)
    (hwin : InWinC w.cs.c sq) (hlt : D < out.length)
    (hcut : D = downLen (Server.getUser w.srv P.u).fragsize out.length) (hres : (Server.getUser w.srv P.u).outfragresent = 1) :
    ∃ w', promptSteps P.u (cycleSteps w.cs.c.sendPingSoon + 15) w = some w' ∧ DatalessFlight P lz w' sq ∧ Keeps P w w' := by
  obtain ⟨name, pkt, hdown, hnd, hfp⟩ := h.down
  have hdec : decide (out.length > 0 ∧ out.length = 0 + D) = false := by
    rw [decide_eq_false_iff_not, Nat.zero_add]; exact fun hc => Nat.ne_of_lt hlt hc.2.symm
  rw [hdec] at hfp
  have hop : (Server.getUser w.srv P.u).outpacket = ⟨out.length, D, 0, out, sq, 0⟩ := by
    rcases h.op with h1 | ⟨_, _, _, h4⟩
    · exact h1
    · exact absurd h4 (Nat.ne_of_lt hlt)
  have hdf : DropFlight P lz out w sq D 1 :=
    ⟨h.toDownBase, ⟨name, pkt, hdown, hnd, hfp⟩, hwin, h.sq8, h.pos, hlt, hcut, hop, hres⟩
  obtain ⟨wa, ha1, hfa, hsa, hka⟩ := drop_cycle hP hdf (by decide)
  obtain ⟨wb, hb1, hfb, hsb, hkb⟩ := drop_cycles hP 4 2 wa hfa hsa (by decide)
  obtain ⟨wc, hc1, hfc, hkc⟩ := kill_cycle hP hfb (by decide) hsb
  refine ⟨wc, ?_, hfc, (hka.trans hkb).trans hkc⟩
  have h12 := promptSteps_add P.u _ (3 * 4) w wa ha1
  rw [hb1] at h12
  have h13 := promptSteps_add P.u _ 3 w wb h12
  rw [hc1] at h13
  exact h13

/-- the FINAL cycle: the dataless answer is not adopted; the client pings 900 ms later; the server holds that ping -/
theorem final_cycle {P : Par} (hP : P.Ok) {w : W} {sq : Int} (h : DatalessFlight P true w sq) {dd : Nat}
    (hdd : sq = (w.cs.c.inpkt.seqno + dd) % 8) :
    ∃ w', promptSteps P.u 3 w = some w' ∧ QuietLazyD P 0 dd w' ∧ w'.cs.c.sendPingSoon = 0 ∧ Keeps P w w' := by
  obtain ⟨name, pkt, hdown, hnd, hlen, hseq⟩ := h.down
  obtain ⟨c2, name', w2, hs1, hpu, hin2, hsrv2, hk1⟩ := dataless_recv hP h.toDownBase h.sps hdown hnd hlen
    (by rw [hseq]; exact h.win.keep)
  obtain ⟨w', hs2, hQ, hsps, hk2⟩ := hold_stepD hP hpu (by rw [hsrv2]; exact h.len0) (dd := dd)
    (by rw [hsrv2, h.oseq, hdd, hin2])
  refine ⟨w', ?_, hQ, hsps, hk1.trans hk2⟩
  have := promptSteps_add P.u 2 1 w w2 hs1
  rw [hs2] at this
  rw [← this]

/-! ### one packet in lazy mode -/

/-- Scheduler steps (after `offerS`) until a packet of `g` fragments that falls into the client's window is given up:
`g = 1`: the server forgot the packet when it sent it ("whole packet was sent in one chunk, don't wait for ack"), so there is
one cycle `deliverDown tickC deliverUp` (3 steps; 2 if a ping was due at the client: no `tickC`) and the ping is held;
`g > 1`: the server sends fragment 0 SIX times (the original and five resends, one cycle each), the 7th call of
`send_chunk_or_dataless` drops the packet and answers dataless, and one more cycle makes the server hold a ping: 7 cycles,
21 steps (20 if a ping was due at the client at the start). -/
def dropStepsL (sps g : Nat) : Nat := if g = 1 then cycleSteps sps else cycleSteps sps + 18

/-- **One packet downstream, lazy mode, from a desynchronised state: the packet is LOST** (c02:seqno-window).  In a
quiescent joint state in which the server's downstream sequence number is `d` ahead of the client's — `4 ≤ d ≤ 6`, or
`d = 7` while the client's current fragment number is not 0 — a frame offered to the server (`g ≤ 16` fragments) is NOT
written to the client's tun device: its first fragment carries a sequence number of the client's window and is not taken;
the client pings with its own `(seqno, fragment)`, which `process_downstream_ack` does not match; the server answers each
ping with fragment 0 again until `outfragresent` exceeds 5, drops the packet and answers dataless; that number is not
adopted.  After exactly `dropStepsL sps g` steps of the prompt schedule the joint state is quiescent again with the server
`(d + 1) % 8` ahead; nothing was written to either tun device, the client's `inpkt` is untouched. -/
theorem down_packet_lazy_desync_drop {P : Par} (hP : P.Ok) {w : W} {d : Nat} (hq : QuietLazyD P 0 d w)
    (hd : DropsDown w.cs.c d) (frame : List Nat)
    (hF : 0 < (Server.getUser w.srv P.u).fragsize)
    (hok : DownFrameOk (Server.getUser w.srv P.u).tunIp (Server.getUser w.srv P.u).fragsize frame) :
    ∃ w', promptSteps P.u (dropStepsL w.cs.c.sendPingSoon
          (downFrags (Server.getUser w.srv P.u).fragsize (frame.length + 1) (frame.length + 1)))
        (step w (.offerS frame)) = some w' ∧
      QuietLazyD P 0 ((d + 1) % 8) w' ∧ w'.cs.c.sendPingSoon = 0 ∧ w'.tunC = w.tunC ∧ w'.tunS = w.tunS ∧
      (Server.getUser w'.srv P.u).fragsize = (Server.getUser w.srv P.u).fragsize ∧
      (Server.getUser w'.srv P.u).tunIp = (Server.getUser w.srv P.u).tunIp ∧ w'.cs.c.inpkt = w.cs.c.inpkt := by
  obtain ⟨D, hD, w1, hw1, hfl, hopx, hresx, ht1, ht2, htip1, hfs1, hcs1, _⟩ := down_offer_lazyD hP hq frame hok.h24 hok.hl hok.dst hF
  have hciseq := hq.cst.iseq
  have hwin0 : InWinC w.cs.c ((w.cs.c.inpkt.seqno + d + 1) % 8) := inWin_of_desync hciseq hd
  have hwin : InWinC w1.cs.c ((w.cs.c.inpkt.seqno + d + 1) % 8) := by rw [hcs1]; exact hwin0
  have hdd : (w.cs.c.inpkt.seqno + d + 1) % 8 = (w1.cs.c.inpkt.seqno + ((d + 1) % 8 : Nat)) % 8 := by
    rw [hcs1]; exact seq_wrap _ _
  generalize hFdef : (Server.getUser w.srv P.u).fragsize = F at hok hF hD hfs1 ⊢
  generalize hsq : (w.cs.c.inpkt.seqno + d + 1) % 8 = sq at hfl hopx hwin hdd
  rw [hw1]
  have hlen : (0x5a :: frame).length = frame.length + 1 := by simp
  have hg1 := downFrags_one_iff F frame.length (Or.inl hF)
  rw [← hlen, ← hD] at hg1
  obtain ⟨name, pkt, hdown, hnd, hfp⟩ := hfl.down
  have hsps1 : w1.cs.c.sendPingSoon = w.cs.c.sendPingSoon := by rw [hcs1]
  by_cases hone : D = (0x5a :: frame).length
  · -- ONE fragment: the server has forgotten the packet already
    have hgo : downFrags F (frame.length + 1) (frame.length + 1) = 1 := by rw [← hlen]; exact hg1.2 hone
    obtain ⟨c2, name', w2, hs1, hpu, hin2, hsrv2, hk1⟩ := drop_recv hP hfl.toDownBase hdown hnd hfp hfl.pos hwin
      (fun h => absurd h (by decide))
    rw [if_pos hone] at hopx
    obtain ⟨w', hs2, hQ, hsps, hk2⟩ := hold_stepD hP hpu (by rw [hsrv2, hopx]) (dd := (d + 1) % 8)
      (by rw [hsrv2, hopx, hin2]; exact hdd)
    have hk := hk1.trans hk2
    refine ⟨w', ?_, hQ, hsps, by rw [hk.tunC, ht2], by rw [hk.tunS, ht1], by rw [hk.fs, hfs1], by rw [hk.tip, htip1],
      by rw [hk.inpkt, hcs1]⟩
    have := promptSteps_add P.u _ 1 w1 w2 hs1
    rw [hs2] at this
    rw [← this, hgo, hsps1]
    unfold dropStepsL cycleSteps
    rw [if_pos rfl]
    split <;> rfl
  · -- several fragments: six copies of fragment 0, then the packet is dropped
    have hgn : downFrags F (frame.length + 1) (frame.length + 1) ≠ 1 := by
      intro h; rw [← hlen] at h; exact hone (hg1.1 h)
    have hlt : D < (0x5a :: frame).length :=
      Nat.lt_of_le_of_ne (by have := hfl.fits; rw [Nat.zero_add] at this; exact this) hone
    rw [if_neg hone] at hresx
    obtain ⟨wc, hc1, hfc, hk3⟩ := drop_run hP hfl hwin hlt (by rw [hfs1, hD]) hresx
    obtain ⟨w', he1, hQ, hsps, hke⟩ := final_cycle hP hfc (dd := (d + 1) % 8) (by rw [hk3.inpkt]; exact hdd)
    have hk := hk3.trans hke
    refine ⟨w', ?_, hQ, hsps, by rw [hk.tunC, ht2], by rw [hk.tunS, ht1], by rw [hk.fs, hfs1], by rw [hk.tip, htip1],
      by rw [hk.inpkt, hcs1]⟩
    have h14 := promptSteps_add P.u _ 3 w1 wc hc1
    rw [he1] at h14
    rw [← h14, hsps1]
    unfold dropStepsL
    rw [if_neg hgn]

/-- **One packet downstream, lazy mode, from a desynchronised state: the packet ARRIVES** when the server is at most 3
ahead (`d ≤ 3`): the new packet's number is 1..4 ahead of the client's, outside the window; the client takes it as a new
packet.  Conclusion as `down_packet_lazy`; the state is synchronised (`QuietLazy`) afterwards. -/
theorem down_packet_lazy_desync_ok {P : Par} (hP : P.Ok) {w : W} {d : Nat} (hq : QuietLazyD P 0 d w) (hd : d ≤ 3)
    (frame : List Nat) (hF : 0 < (Server.getUser w.srv P.u).fragsize)
    (hok : DownFrameOk (Server.getUser w.srv P.u).tunIp (Server.getUser w.srv P.u).fragsize frame) :
    ∃ w', promptSteps P.u (downStepsL w.cs.c.sendPingSoon
          (downFrags (Server.getUser w.srv P.u).fragsize (frame.length + 1) (frame.length + 1)))
        (step w (.offerS frame)) = some w' ∧
      QuietLazy P w' ∧ w'.cs.c.sendPingSoon = 0 ∧ w'.tunC = w.tunC ++ [tunImage frame] ∧ w'.tunS = w.tunS ∧
      (Server.getUser w'.srv P.u).fragsize = (Server.getUser w.srv P.u).fragsize ∧
      (Server.getUser w'.srv P.u).tunIp = (Server.getUser w.srv P.u).tunIp := by
  obtain ⟨hE, hdup⟩ := cexpectW_taken hq.cst.iseq (0x5a :: frame) (Or.inl hd) (fun h4 => absurd h4 (by omega))
  exact down_packet_lazy_taken hP hq frame hE hdup hF hok

/-- `d = 7`, the "weird situation".  In a quiescent joint state in lazy mode in which the
server's downstream sequence number is 7 ahead of the client's — the NEW packet carries the client's CURRENT number —, the
client's last fragment number being 0 and its reassembly buffer empty: the packet is delivered exactly once, in the step
count of the clean path; the state is synchronised (`QuietLazy`) afterwards. -/
theorem down_packet_lazy_desync7_ok {P : Par} (hP : P.Ok) {w : W} (hq : QuietLazyD P 0 7 w)
    (hfr0 : w.cs.c.inpkt.fragment = 0) (hlen0 : w.cs.c.inpkt.len = 0) (frame : List Nat) (hF : 0 < (Server.getUser w.srv P.u).fragsize)
    (hok : DownFrameOk (Server.getUser w.srv P.u).tunIp (Server.getUser w.srv P.u).fragsize frame) :
    ∃ w', promptSteps P.u (downStepsL w.cs.c.sendPingSoon
          (downFrags (Server.getUser w.srv P.u).fragsize (frame.length + 1) (frame.length + 1)))
        (step w (.offerS frame)) = some w' ∧
      QuietLazy P w' ∧ w'.cs.c.sendPingSoon = 0 ∧ w'.tunC = w.tunC ++ [tunImage frame] ∧ w'.tunS = w.tunS ∧
      (Server.getUser w'.srv P.u).fragsize = (Server.getUser w.srv P.u).fragsize ∧
      (Server.getUser w'.srv P.u).tunIp = (Server.getUser w.srv P.u).tunIp := by
  obtain ⟨hE, hdup⟩ := cexpectW_taken hq.cst.iseq (0x5a :: frame) (Or.inr ⟨rfl, hfr0⟩) (fun _ _ => hlen0)
  exact down_packet_lazy_taken hP hq frame hE hdup hF hok

/-! ### the cases in one -/

theorem dropStepsL_le (sps g : Nat) : dropStepsL sps g ≤ 21 := by
  unfold dropStepsL cycleSteps
  split <;> split <;> omega

/-- **One packet downstream, lazy mode, from ANY distance `d < 8`** (if the client's fragment number is 0 its reassembly buffer
is empty): the prompt schedule (fuel 33: the `2·16 + 1` steps of a 16-fragment packet; a lost packet takes at most 21) ends in a
quiescent state, nothing reaches the server's tun device, and — as `lost_class` says — either the frame is written to the client's
tun device and the two sides are in step again, or nothing is written, the client's `inpkt` is untouched and the server is one
more ahead. -/
theorem down_packet_lazy_any {P : Par} (hP : P.Ok) (fuel : Nat) (hfuel : 33 ≤ fuel) {w : W} {d : Nat} (hq : QuietLazyD P 0 d w)
    (hd8 : d < 8) (hlen0 : 4 ≤ d → w.cs.c.inpkt.fragment = 0 → w.cs.c.inpkt.len = 0) (f : List Nat)
    (hF : 0 < (Server.getUser w.srv P.u).fragsize)
    (hf : DownFrameOk (Server.getUser w.srv P.u).tunIp (Server.getUser w.srv P.u).fragsize f) :
    ∃ w', runPrompt P.u fuel (step w (.offerS f)) = w' ∧ w'.tunS = w.tunS ∧
    (Server.getUser w'.srv P.u).fragsize = (Server.getUser w.srv P.u).fragsize ∧
    (Server.getUser w'.srv P.u).tunIp = (Server.getUser w.srv P.u).tunIp ∧
    ((lostDown' d (decide (w.cs.c.inpkt.fragment = 0)) = 0 ∧ QuietLazy P w' ∧
        w'.tunC = w.tunC ++ [tunImage f]) ∨
      (lostDown' d (decide (w.cs.c.inpkt.fragment = 0)) = lostDown' ((d + 1) % 8) (decide (w.cs.c.inpkt.fragment = 0)) + 1 ∧
        4 ≤ d ∧ QuietLazyD P 0 ((d + 1) % 8) w' ∧
        w'.tunC = w.tunC ∧
        w'.cs.c.inpkt = w.cs.c.inpkt)) := by
  rcases lost_class d hd8 w.cs.c with ⟨hz, hc⟩ | ⟨hs, hd4, hc⟩
  · obtain ⟨hE, hdup⟩ := cexpectW_taken hq.cst.iseq (0x5a :: f) hc hlen0
    obtain ⟨w', h1, h2, _, h4, h5, h6, h7⟩ := down_packet_lazy_taken hP hq f hE hdup hF hf
    exact ⟨w', runPrompt_of_steps P.u _ _ _ h1 h2.quiet fuel (downStepsL_fuel hf.frags hfuel), h5, h6, h7, Or.inl ⟨hz, h2, h4⟩⟩
  · obtain ⟨w', h1, h2, _, h4, h5, h6, h7, h8⟩ := down_packet_lazy_desync_drop hP hq hc f hF hf
    exact ⟨w', runPrompt_of_steps P.u _ _ _ h1 h2.quiet fuel (Nat.le_trans (dropStepsL_le _ _) (Nat.le_trans (by decide) hfuel)),
      h5, h6, h7, Or.inr ⟨hs, hd4, h2, h4, h8⟩⟩

/-! ### non-vacuity: `QuietLazy.desync` -/

/-- a slot with its downstream sequence number moved on by `d` -/
def moveSeq (x : Server.Session) (d : Nat) : Server.Session :=
  { x with outpacket := { x.outpacket with seqno := (x.outpacket.seqno + d) % 8 } }

/-- the joint state with the server's downstream sequence number moved on by `d` -/
def desyncD (P : Par) (w : W) (d : Nat) : W :=
  { w with srv := putUser w.srv P.u (moveSeq (Server.getUser w.srv P.u) d) }

theorem QuietLazy.desync {P : Par} {w : W} (h : QuietLazy P w) (d : Nat) : QuietLazyD P 0 d (desyncD P w d) := by
  have hu := h.srv.solo.lt
  generalize hy : moveSeq (Server.getUser w.srv P.u) d = y
  have hw : desyncD P w d = { w with srv := putUser w.srv P.u y } := by unfold desyncD; rw [hy]
  have hg : Server.getUser (putUser w.srv P.u y) P.u = y := getUser_putUser_self _ _ _ hu
  have hS := h.srv
  rw [hw]
  refine ⟨h.ph, h.cst, h.cnt, h.idleC, h.up, h.down, ⟨hS.solo.putUser y, hS.td, ?_, ?_, ?_⟩, ?_, ?_, ?_, ?_, ?_, ?_, ?_⟩
  · rw [hg]; subst hy; unfold moveSeq
    exact ⟨hS.x.active, hS.x.auth, hS.x.enabled, hS.x.conn, hS.x.enc,
      by show 0 ≤ ((Server.getUser w.srv P.u).outpacket.seqno + (d : Int)) % 8 ∧ ((Server.getUser w.srv P.u).outpacket.seqno + (d : Int)) % 8 < 8; omega,
      hS.x.ofrag, hS.x.iseq, hS.x.ifrag⟩
  · show _ ∨ ((Server.getUser (putUser w.srv P.u y) P.u).host.fam = 4 ∧ _)
    rw [hg]; subst hy; unfold moveSeq; exact hS.host
  · show w.srv.now < (Server.getUser (putUser w.srv P.u y) P.u).lastPkt + 60
    rw [hg]; subst hy; unfold moveSeq; exact hS.live
  · show IdleLazy (Server.getUser (putUser w.srv P.u y) P.u)
    rw [hg]; subst hy; unfold moveSeq; exact ⟨h.idle.out, h.idle.q, h.idle.q2, h.idle.qs, h.idle.lazy⟩
  · show (Server.getUser (putUser w.srv P.u y) P.u).oqFilled = 0
    rw [hg]; subst hy; unfold moveSeq; exact h.oq
  · show HeldBase P (Server.getUser (putUser w.srv P.u y) P.u).q
    rw [hg]; subst hy; unfold moveSeq; exact h.held
  · show (Server.getUser (putUser w.srv P.u y) P.u).q.id = w.cs.c.chunkid
    rw [hg]; subst hy; unfold moveSeq; exact h.heldid
  · show w.cs.c.outpkt.seqno = ((Server.getUser (putUser w.srv P.u y) P.u).inpacket.seqno + ((0 : Nat) : Int)) % 8
    rw [hg]; subst hy; unfold moveSeq
    show w.cs.c.outpkt.seqno = ((Server.getUser w.srv P.u).inpacket.seqno + ((0 : Nat) : Int)) % 8
    have h1 := h.syncu
    have h2 := hS.x.iseq
    omega
  · show (Server.getUser (putUser w.srv P.u y) P.u).outpacket.seqno = (w.cs.c.inpkt.seqno + (d : Int)) % 8
    rw [hg]; subst hy; unfold moveSeq
    show ((Server.getUser w.srv P.u).outpacket.seqno + (d : Int)) % 8 = _
    rw [h.syncd]
  · show HeldMem P (Server.getUser (putUser w.srv P.u y) P.u) (Server.getUser (putUser w.srv P.u y) P.u).q w.cs.c.datacmc w.cs.c.randSeed
    rw [hg]; subst hy; unfold moveSeq
    exact h.mem.congr rfl rfl rfl rfl rfl rfl

theorem desyncD_client (P : Par) (w : W) (d : Nat) : (desyncD P w d).cs = w.cs := rfl
theorem desyncD_tun (P : Par) (w : W) (d : Nat) : (desyncD P w d).tunC = w.tunC ∧ (desyncD P w d).tunS = w.tunS := ⟨rfl, rfl⟩

theorem desyncD_slot {P : Par} {w : W} (h : QuietLazy P w) (d : Nat) :
    (Server.getUser (desyncD P w d).srv P.u).fragsize = (Server.getUser w.srv P.u).fragsize ∧
    (Server.getUser (desyncD P w d).srv P.u).tunIp = (Server.getUser w.srv P.u).tunIp := by
  unfold desyncD
  show (Server.getUser (putUser w.srv P.u _) P.u).fragsize = _ ∧ (Server.getUser (putUser w.srv P.u _) P.u).tunIp = _
  rw [getUser_putUser_self _ _ _ h.srv.solo.lt]
  exact ⟨rfl, rfl⟩

/-! ### the theorems applied to the demo session `exWL` (user 0, fragments of 30 bytes; client and server at seqno 0) -/

/-- `d = 5`, a frame of TWO fragments: lost; 21 scheduler steps; the server is 6 ahead afterwards -/
example : ∃ w', promptSteps 0 21 (step (desyncD exPL exWL 5) (.offerS (demoFrame 2 30))) = some w' ∧ QuietLazyD exPL 0 6 w' ∧
    w'.tunC = [] ∧ w'.tunS = [] := by
  have hq := ex_quiescent_lazy.desync 5
  have hsl := desyncD_slot ex_quiescent_lazy 5
  have hok : DownFrameOk (Server.getUser (desyncD exPL exWL 5).srv exPL.u).tunIp
      (Server.getUser (desyncD exPL exWL 5).srv exPL.u).fragsize (demoFrame 2 30) := by
    rw [hsl.1, hsl.2]; exact ex_acceptable_down_lazy.1
  obtain ⟨w', h1, h2, _, h4, h5, _⟩ := down_packet_lazy_desync_drop exPL_ok hq (Or.inl ⟨by omega, by omega⟩) (demoFrame 2 30)
    (by rw [hsl.1, exWL_fragsize]; decide) hok
  rw [hsl.1, exWL_fragsize, ex_acceptable_down_lazy.2, desyncD_client, exWL_sps] at h1
  have ht := exWL_facts.2.2.1
  exact ⟨w', h1, h2, by rw [h4, (desyncD_tun _ _ _).1, ht.2], by rw [h5, (desyncD_tun _ _ _).2, ht.1]⟩

/-- `d = 3`, the same frame: delivered after 5 steps, synchronised afterwards -/
example : ∃ w', promptSteps 0 5 (step (desyncD exPL exWL 3) (.offerS (demoFrame 2 30))) = some w' ∧ QuietLazy exPL w' ∧
    w'.tunC = [demoFrame 2 30] ∧ w'.tunS = [] := by
  have hq := ex_quiescent_lazy.desync 3
  have hsl := desyncD_slot ex_quiescent_lazy 3
  have hok : DownFrameOk (Server.getUser (desyncD exPL exWL 3).srv exPL.u).tunIp
      (Server.getUser (desyncD exPL exWL 3).srv exPL.u).fragsize (demoFrame 2 30) := by
    rw [hsl.1, hsl.2]; exact ex_acceptable_down_lazy.1
  obtain ⟨w', h1, h2, _, h4, h5, _⟩ := down_packet_lazy_desync_ok exPL_ok hq (by omega) (demoFrame 2 30)
    (by rw [hsl.1, exWL_fragsize]; decide) hok
  rw [hsl.1, exWL_fragsize, ex_acceptable_down_lazy.2, desyncD_client, exWL_sps] at h1
  have ht := exWL_facts.2.2.1
  have hi : tunImage (demoFrame 2 30) = demoFrame 2 30 := by decide
  exact ⟨w', h1, h2, by rw [h4, (desyncD_tun _ _ _).1, ht.2, hi]; rfl, by rw [h5, (desyncD_tun _ _ _).2, ht.1]⟩

end Iodine.C02L
