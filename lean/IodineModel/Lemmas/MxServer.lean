import IodineModel.Lemmas.Downstream
import IodineModel.Lemmas.MxClient
/-
The server's MX/SRV loop (`mxBuild`): the list of host names it builds, each with the chunk of the payload it
carries (`mxItems`); the names satisfy `Carries`, all but the last have the same length, and the memory image
handed to `dns_encode` is C10's `mxPack` of the names.  `jcap`, `ucap`, `nameLenOf`: characters and bytes of a full name and the
length of a name; `enc245`: what the encoder call of `write_dns_nameenc` consumes and emits.  Last section: the decoded payload does not depend on the pseudo-TLD state (`mxExpected_indep`).
-/
namespace Iodine.Downstream
open Iodine Iodine.Codec Iodine.Encoding Iodine.Wire Iodine.Wire.Strict Iodine.Wire.Put Iodine.Wire.DnsEncode
open Iodine.Server.WriteDns Iodine.Client.ReadDns Iodine.C10

/-! ### a name of `write_dns_nameenc` carries its chunk -/

theorem namedec_take_congr {letter : Nat} {c : Codec} (hc : HostCodec letter c) (N : Nat) (m0 rest rest' : List Nat)
    (l t : Nat) (hl : 1 ≤ l) (hlm : l ≤ m0.length + 1) (ht : t ≤ l + 1) :
    dnsNamedec N ((letter :: m0).take l ++ 0 :: rest) t = dnsNamedec N ((letter :: m0) ++ 0 :: rest') t := by
  obtain ⟨l', rfl⟩ : ∃ l', l = l' + 1 := ⟨l - 1, by omega⟩
  simp only [List.take_succ_cons, List.cons_append]
  apply hc.namedec_congr
  rw [List.take_append_of_le_length (by simp only [List.length_take]; omega),
    List.take_append_of_le_length (by omega), List.take_take]
  congr 1
  omega

theorem carries_nameenc (td : Td) (htd : TdOk td) (b : Nat) (hb : 255 ≤ b) (d : List Nat) (hd : Codec.Bytes d)
    (hne : d ≠ []) (dn : Nat) :
    Carries (nameenc td b d dn).name (d.take (nameenc td b d dn).used) := by
  have hs := nameenc_shape td htd b hb d hd dn
  have hu := nameenc_used td b hb d dn
  have hc := hostCodec dn
  have hC := C07.capacity_contract hc.wf 245 d hd
  have hP := C07.progress hc.wf 245 d (by omega) hne
  rw [hu]
  generalize (nameenc td b d dn).name = name at hs
  have hused := hC.used_le
  obtain ⟨Dt, hname, _⟩ := hs.shape
  have hchars : (enc (nameCodec dn).2 245 d).chars ≠ [] := by
    intro he
    have hr := hC.ratio
    rw [he] at hr
    simp only [List.length_nil] at hr
    have := nchars_pos (nameCodec dn).2.k _ hc.wf.k_ok hP
    omega
  have hcl : (d.take (enc (nameCodec dn).2 245 d).used).length = (enc (nameCodec dn).2 245 d).used := by
    simp only [List.length_take]; omega
  have hnlen : name.length = Dt.length + 4 := by rw [hname]; simp
  refine ⟨by omega, ?_, fun c hcm => (hs.legal.2.1 c hcm).1, ?_, ?_, ?_, ?_⟩
  · intro he
    have := congrArg List.length he
    simp only [List.length_take, List.length_nil] at this
    omega
  · intro N l t rest hl hln ht
    have hcong := namedec_take_congr hc N (Dt ++ [DOT, 97 + (tdStep td).1, 97 + (tdStep td).2]) rest rest l t hl
      (by rw [hname] at hln; simpa using hln) ht
    rw [← hname] at hcong
    rw [hcong]
    obtain ⟨a, ha, hau⟩ := namedec_cut hc 245 d hd hs N t rest (by omega)
    rw [ha]
    have : d.take a = (d.take (enc (nameCodec dn).2 245 d).used).take a := by
      rw [List.take_take, Nat.min_eq_left hau]
    rw [this]
    exact List.take_prefix _ _
  · intro N t rest ht hN
    rw [hcl] at hN
    exact namedec_exact hc 245 d hd hs N t rest ht hN
  · intro N rest hN
    rw [hcl] at hN
    have hcong := namedec_take_congr hc N (Dt ++ [DOT, 97 + (tdStep td).1, 97 + (tdStep td).2]) rest rest
      (name.length - 1) name.length (by omega) (by rw [hnlen]; simp) (by omega)
    rw [← hname] at hcong
    rw [hcong]
    exact namedec_exact hc 245 d hd hs N name.length rest (Or.inl rfl) hN
  · intro N l rest hl hl2
    have hcong := namedec_take_congr hc N (Dt ++ [DOT, 97 + (tdStep td).1, 97 + (tdStep td).2]) rest rest
      l (l + 1) hl (by rw [hnlen] at hl2; simp; omega) (Nat.le_refl _)
    rw [← hname] at hcong
    rw [hcong, hcl]
    exact namedec_strict hc 245 d hd hchars hs N (l + 1) rest (by omega)

/-! ### the list of names -/

/-- the names the MX/SRV loop builds, each with the part of the payload it carries -/
def mxItems : Nat → Td → List Nat → Nat → List (List Nat × List Nat)
  | 0, _, _, _ => []
  | fuel + 1, td, data, dn =>
    let r := nameenc td 255 data dn
    if r.used ≥ data.length then [(r.name, data)]
    else (r.name, data.take r.used) :: mxItems fuel r.td (data.drop r.used) dn

/-- `jcap k`: the characters one host name holds when the payload does not fit it (capped encoding into 245 characters with
`k` bits each: 245, or 244 when the 245th would not complete a byte) -/
def jcap (k : Nat) : Nat := if k * (245 - 1) / 8 < k * 245 / 8 then 245 else 245 - 1

/-- `ucap k`: the payload bytes such a full host name carries (153 / 183 / 214 for k = 5 / 6 / 7) -/
def ucap (k : Nat) : Nat := k * jcap k / 8

theorem jcap_vals : jcap 5 = 245 ∧ jcap 6 = 244 ∧ jcap 7 = 245 ∧ ucap 5 = 153 ∧ ucap 6 = 183 ∧ ucap 7 = 214 := by decide

theorem nchars_le_iff (k n : Nat) (hk : K567 k) : nchars k n ≤ 245 ↔ n ≤ ucap k := by
  unfold nchars
  rcases hk with rfl | rfl | rfl
  · rw [jcap_vals.2.2.2.1]; omega
  · rw [jcap_vals.2.2.2.2.1]; omega
  · rw [jcap_vals.2.2.2.2.2]; omega

/-- `enc c 245 d` (the encoder call of `write_dns_nameenc`) in terms of the input length: everything when `|d| ≤ ucap k`,
else `ucap k` bytes in `jcap k` characters -/
theorem enc245 {c : Codec} (wf : WF c) (d : List Nat) :
    (d.length ≤ ucap c.k → (enc c 245 d).used = d.length ∧ (enc c 245 d).chars.length = nchars c.k d.length) ∧
    (ucap c.k < d.length → (enc c 245 d).used = ucap c.k ∧ (enc c 245 d).chars.length = jcap c.k) := by
  have hiff := nchars_le_iff c.k d.length wf.k_ok
  have hfl := encFull_length c d
  constructor
  · intro h
    have hm : nchars c.k d.length ≤ 245 := hiff.mpr h
    unfold enc
    simp only [hm, if_true, hfl, and_self]
  · intro h
    have hm : ¬ nchars c.k d.length ≤ 245 := fun h' => by have := hiff.mp h'; omega
    unfold enc
    simp only [hm, if_false]
    refine ⟨rfl, ?_⟩
    rw [List.length_take, hfl]
    simp only [jcap]
    split <;> omega

theorem enc_capped {c : Codec} (wf : WF c) (d : List Nat) (h : (enc c 245 d).used < d.length) :
    (enc c 245 d).chars.length = jcap c.k ∧ (enc c 245 d).used = c.k * jcap c.k / 8 := by
  rcases Nat.lt_or_ge (ucap c.k) d.length with hlt | hge
  · exact ⟨((enc245 wf d).2 hlt).2, ((enc245 wf d).2 hlt).1⟩
  · rw [((enc245 wf d).1 hge).1] at h
    exact absurd h (Nat.lt_irrefl _)

theorem ucap_ge (k : Nat) (hk : K567 k) : 152 ≤ ucap k := by
  rcases hk with rfl | rfl | rfl <;> decide

theorem used_ge_152 {c : Codec} (wf : WF c) (d : List Nat) (h : (enc c 245 d).used < d.length) :
    152 ≤ (enc c 245 d).used := by
  rw [(enc_capped wf d h).2]
  exact ucap_ge c.k wf.k_ok

theorem drop_ne_nil {d : List Nat} {u : Nat} (h : u < d.length) : d.drop u ≠ [] := by
  intro he
  have := congrArg List.length he
  simp only [List.length_drop, List.length_nil] at this
  omega

theorem mxBuild_eq (dn : Nat) : ∀ (fuel : Nat) (td : Td) (boff : Nat) (data : List Nat), TdOk td → Codec.Bytes data →
    data ≠ [] → data.length ≤ fuel → boff + 254 * (data.length / 152) + 254 ≤ 65280 →
    (mxBuild fuel td boff data dn).2 = some (mxPack ((mxItems fuel td data dn).map (·.1))) := by
  intro fuel
  induction fuel with
  | zero =>
    intro td boff data _ _ hne hlen _
    exact absurd (List.eq_nil_of_length_eq_zero (by omega)) hne
  | succ fuel ih =>
    intro td boff data htd hd hne hlen hroom
    have hc := hostCodec dn
    have hP := C07.progress hc.wf 245 data (by omega) hne
    have hb : 255 ≤ 65536 - boff := by omega
    have hu := nameenc_used td 255 (by omega) data dn
    have hs := nameenc_shape td htd 255 (by omega) data hd dn
    have hl253 := hs.legal.1
    simp only [mxBuild, mxItems]
    have hroom' : ¬ 65536 < boff + 256 := by omega
    rw [if_neg hroom', nameenc_buflen td _ hb]
    rw [if_neg (by rw [hu]; omega)]
    by_cases hlast : (nameenc td 255 data dn).used ≥ data.length
    · rw [if_pos hlast, if_pos hlast]
      simp [mxPack]
    · rw [if_neg hlast, if_neg hlast]
      have hlt : (enc (nameCodec dn).2 245 data).used < data.length := by rw [← hu]; omega
      have h152 := used_ge_152 hc.wf data hlt
      have hih := ih (nameenc td 255 data dn).td (boff + (nameenc td 255 data dn).name.length + 1)
        (data.drop (nameenc td 255 data dn).used) (by rw [nameenc_td]; exact tdStep_ok htd)
        (fun x hx => hd x (List.mem_of_mem_drop hx)) (drop_ne_nil (by omega))
        (by simp only [List.length_drop]; omega)
        (by
          simp only [List.length_drop]
          rw [hu]
          omega)
      generalize hmb : mxBuild fuel (nameenc td 255 data dn).td (boff + (nameenc td 255 data dn).name.length + 1)
        (data.drop (nameenc td 255 data dn).used) dn = res at hih
      obtain ⟨td', o⟩ := res
      simp only at hih
      subst hih
      simp [mxPack]

/-! ### properties of the names -/

theorem mxItems_flatten (dn : Nat) : ∀ (fuel : Nat) (td : Td) (data : List Nat), data.length ≤ fuel → data ≠ [] →
    ((mxItems fuel td data dn).map (·.2)).flatten = data := by
  intro fuel
  induction fuel with
  | zero => intro td data h hne; exact absurd (List.eq_nil_of_length_eq_zero (by omega)) hne
  | succ fuel ih =>
    intro td data h hne
    simp only [mxItems]
    split
    · simp
    · rename_i hlast
      have hu := nameenc_used td 255 (by omega) data dn
      have hP := C07.progress (hostCodec dn).wf 245 data (by omega) hne
      simp only [List.map_cons, List.flatten_cons]
      rw [ih _ _ (by simp only [List.length_drop]; omega) (drop_ne_nil (by omega)), List.take_append_drop]

theorem mxItems_props (dn : Nat) : ∀ (fuel : Nat) (td : Td) (data : List Nat), TdOk td → Codec.Bytes data →
    data.length ≤ fuel → data ≠ [] →
    ∀ it ∈ mxItems fuel td data dn, Carries it.1 it.2 ∧ LegalName it.1 := by
  intro fuel
  induction fuel with
  | zero => intro td data _ _ h hne; exact absurd (List.eq_nil_of_length_eq_zero (by omega)) hne
  | succ fuel ih =>
    intro td data htd hd h hne it hit
    have hu := nameenc_used td 255 (by omega) data dn
    have hP := C07.progress (hostCodec dn).wf 245 data (by omega) hne
    have hcar := carries_nameenc td htd 255 (by omega) data hd hne dn
    have hleg := (nameenc_shape td htd 255 (by omega) data hd dn).legal
    simp only [mxItems] at hit
    split at hit
    · rename_i hlast
      simp only [List.mem_cons, List.not_mem_nil, or_false] at hit
      subst hit
      rw [List.take_of_length_le hlast] at hcar
      exact ⟨hcar, hleg⟩
    · rename_i hlast
      simp only [List.mem_cons] at hit
      rcases hit with rfl | hit
      · exact ⟨hcar, hleg⟩
      · exact ih _ _ (by rw [nameenc_td]; exact tdStep_ok htd) (fun x hx => hd x (List.mem_of_mem_drop hx))
          (by simp only [List.length_drop]; omega) (drop_ne_nil (by omega)) it hit

theorem mxItems_ne_nil (dn : Nat) (fuel : Nat) (td : Td) (data : List Nat) : mxItems (fuel + 1) td data dn ≠ [] := by
  simp only [mxItems]
  split <;> simp

theorem mxItems_length (dn : Nat) : ∀ (fuel : Nat) (td : Td) (data : List Nat), data.length ≤ fuel → data ≠ [] →
    (mxItems fuel td data dn).length ≤ data.length / 152 + 1 := by
  intro fuel
  induction fuel with
  | zero => intro td data h hne; exact absurd (List.eq_nil_of_length_eq_zero (by omega)) hne
  | succ fuel ih =>
    intro td data h hne
    simp only [mxItems]
    split
    · simp
    · rename_i hlast
      have hu := nameenc_used td 255 (by omega) data dn
      have h152 := used_ge_152 (hostCodec dn).wf data (by rw [← hu]; omega)
      have := ih (nameenc td 255 data dn).td (data.drop (nameenc td 255 data dn).used)
        (by simp only [List.length_drop]; omega) (drop_ne_nil (by omega))
      simp only [List.length_cons, List.length_drop] at this ⊢
      omega

/-! ### lengths of the names -/

/-- length of the name `write_dns_nameenc` builds around `m` encoded characters -/
def nameLenOf (m : Nat) : Nat := m + 1 + (m + 1) / 57 + (if (m + 1) % 57 = 0 then 0 else 1) + 2

theorem nameenc_length (td : Td) (b : Nat) (hb : 255 ≤ b) (d : List Nat) (dn : Nat) :
    (nameenc td b d dn).name.length = nameLenOf (enc (nameCodec dn).2 245 d).chars.length := by
  rw [nameenc_eq td b hb d dn]
  simp only [List.length_append, inner_length _ 0 (by omega) (List.cons_ne_nil _ _), List.length_cons, List.length_nil,
    nameLenOf]
  split <;> omega

theorem enc_last_le {c : Codec} (wf : WF c) (d : List Nat) :
    (enc c 245 d).chars.length ≤ jcap c.k := by
  have hfl := encFull_length c d
  have hk := wf.k_ok
  unfold enc
  simp only []
  split
  · rename_i hm
    simp only [hfl, jcap]
    unfold nchars at hm ⊢
    rcases hk with h5 | h6 | h7
    · rw [h5] at hm ⊢; split <;> omega
    · rw [h6] at hm ⊢; split <;> omega
    · rw [h7] at hm ⊢; split <;> omega
  · simp only [jcap, List.length_take, hfl]
    split <;> omega

theorem nameLenOf_mono {a b : Nat} (h : a ≤ b) : nameLenOf a ≤ nameLenOf b := by
  induction b with
  | zero =>
    have : a = 0 := by omega
    rw [this]; exact Nat.le_refl _
  | succ b ih =>
    by_cases hab : a = b + 1
    · rw [hab]; exact Nat.le_refl _
    · refine Nat.le_trans (ih (by omega)) ?_
      unfold nameLenOf
      split <;> split <;> omega

theorem mxItems_uniform (dn : Nat) : ∀ (fuel : Nat) (td : Td) (data : List Nat), data.length ≤ fuel → data ≠ [] →
    Uniform (nameLenOf (jcap (nameCodec dn).2.k)) (mxItems fuel td data dn) := by
  intro fuel
  induction fuel with
  | zero => intro td data h hne; exact absurd (List.eq_nil_of_length_eq_zero (by omega)) hne
  | succ fuel ih =>
    intro td data h hne
    have hwf := (hostCodec dn).wf
    have hu := nameenc_used td 255 (by omega) data dn
    have hlen := nameenc_length td 255 (by omega) data dn
    simp only [mxItems]
    split
    · rename_i hlast
      refine ⟨?_, fun h => absurd rfl h, trivial⟩
      simp only [hlen]
      exact nameLenOf_mono (enc_last_le hwf data)
    · rename_i hlast
      have hcap := enc_capped hwf data (by rw [← hu]; omega)
      have hP := C07.progress hwf 245 data (by omega) hne
      refine ⟨?_, fun _ => ?_, ih _ _ (by simp only [List.length_drop]; omega) (drop_ne_nil (by omega))⟩
      · simp only [hlen, hcap.1]; exact Nat.le_refl _
      · simp only [hlen, hcap.1]

/-! ### independence of the pseudo-TLD state -/

/-- the name without its last two letters does not depend on the pseudo-TLD state -/
def nameBody (d : List Nat) (dn : Nat) : List Nat :=
  inner 0 ((nameCodec dn).1 :: (enc (nameCodec dn).2 245 d).chars) ++ [DOT]

theorem nameenc_split (td : Td) (b : Nat) (hb : 255 ≤ b) (d : List Nat) (dn : Nat) :
    (nameenc td b d dn).name = nameBody d dn ++ [97 + (tdStep td).1, 97 + (tdStep td).2] := by
  rw [nameenc_eq td b hb d dn]
  simp [nameBody]

theorem nameBody_cons (d : List Nat) (dn : Nat) : ∃ m0, nameBody d dn = (nameCodec dn).1 :: m0 := by
  unfold nameBody
  rw [inner]
  exact ⟨_, rfl⟩

theorem namedec_indep_xy (d : List Nat) (dn : Nat) (x y x' y' N l t : Nat) (rest rest' : List Nat)
    (hl : 1 ≤ l) (hlen : l ≤ (nameBody d dn).length + 2) (ht : t ≤ l + 1) :
    dnsNamedec N ((nameBody d dn ++ [x, y]).take l ++ 0 :: rest) t =
      dnsNamedec N ((nameBody d dn ++ [x', y']).take l ++ 0 :: rest') t := by
  have hc := hostCodec dn
  obtain ⟨m0, hm0⟩ := nameBody_cons d dn
  rw [hm0] at hlen ⊢
  obtain ⟨l', rfl⟩ : ∃ l', l = l' + 1 := ⟨l - 1, by omega⟩
  simp only [List.cons_append, List.take_succ_cons, List.length_cons] at hlen ⊢
  apply hc.namedec_congr
  have key : ∀ (u v : Nat) (r : List Nat), ((m0 ++ [u, v]).take l' ++ 0 :: r).take (t - 4) = m0.take (t - 4) := by
    intro u v r
    have h1 : ((m0 ++ [u, v]).take l').length = l' := by
      simp only [List.length_take, List.length_append, List.length_cons, List.length_nil]
      omega
    rw [List.take_append_of_le_length (by rw [h1]; omega), List.take_take]
    have h2 : min (t - 4) l' = t - 4 := by omega
    rw [h2, List.take_append_of_le_length (by omega)]
  rw [key x y rest, key x' y' rest']

theorem mxExpected_indep (L B dn : Nat) : ∀ (fuel : Nat) (td td' : Td) (data : List Nat) (o a : Nat),
    mxExpected L B (mxItems fuel td data dn) o a = mxExpected L B (mxItems fuel td' data dn) o a := by
  intro fuel
  induction fuel with
  | zero => intro td td' data o a; rfl
  | succ fuel ih =>
    intro td td' data o a
    have hu := nameenc_used td 255 (by omega) data dn
    have hu' := nameenc_used td' 255 (by omega) data dn
    have hlen := nameenc_length td 255 (by omega) data dn
    have hlen' := nameenc_length td' 255 (by omega) data dn
    have hsp := nameenc_split td 255 (by omega) data dn
    have hsp' := nameenc_split td' 255 (by omega) data dn
    have hbl : (nameenc td 255 data dn).name.length = (nameBody data dn).length + 2 := by rw [hsp]; simp
    have hdec : ∀ l, dnsNamedec (dataSize - a) ((nameenc td 255 data dn).name.take (min l (B - (o + 2))) ++ [0, 0])
          (min l (B - (o + 2)) + 1) =
        dnsNamedec (dataSize - a) ((nameenc td' 255 data dn).name.take (min l (B - (o + 2))) ++ [0, 0])
          (min l (B - (o + 2)) + 1) ∨ min l (B - (o + 2)) = 0 ∨ (nameBody data dn).length + 2 < min l (B - (o + 2)) := by
      intro l
      by_cases h0 : min l (B - (o + 2)) = 0
      · exact Or.inr (Or.inl h0)
      by_cases h1 : (nameBody data dn).length + 2 < min l (B - (o + 2))
      · exact Or.inr (Or.inr h1)
      left
      rw [hsp, hsp']
      exact namedec_indep_xy data dn _ _ _ _ _ _ _ [0] [0] (by omega) (by omega) (Nat.le_refl _)
    simp only [mxItems]
    rw [hu, hu']
    by_cases hlast : (enc (nameCodec dn).2 245 data).used ≥ data.length
    · rw [if_pos hlast, if_pos hlast]
      simp only [mxExpected, hlen, hlen']
      split
      · rfl
      · split
        · rfl
        · rcases hdec (nameLenOf (enc (nameCodec dn).2 245 data).chars.length) with h | h | h
          · exact h
          · omega
          · rw [← hbl, hlen] at h; omega
    · rw [if_neg hlast, if_neg hlast]
      simp only [mxExpected, hlen, hlen']
      split
      · rfl
      · split
        · rw [nameenc_td, nameenc_td]
          congr 1
          exact ih _ _ _ _ _
        · rcases hdec (nameLenOf (enc (nameCodec dn).2 245 data).chars.length) with h | h | h
          · exact h
          · omega
          · rw [← hbl, hlen] at h; omega

end Iodine.Downstream
