import IodineModel.Lemmas.C02rD5
import IodineModel.Lemmas.WorldFastRun
/-
Downstream at distance 7: the hypothesis `inpkt.len = 0` of the `desync7_ok` theorems, and the corner `inpkt.fragment = 0 ∧
inpkt.len ≠ 0`.  Quiescence says nothing about the client's reassembly buffer (`quiet_not_len_zero`), so the hypothesis is needed;
it is an invariant of the proved transitions between quiescent states (a delivered packet and a dataless adoption set
`inpkt.len := 0`, a lost packet leaves `inpkt` untouched: `drop_keeps_len_*`).  The corner IS reachable all the same, by a downstream
blackout that begins AFTER the client has stored fragment 0 of a longer packet and lasts for 7 more packets
(`stale_fragment0_reachable`: a run from the demo session, evaluated by the kernel), and there the model CORRUPTS
(`stale_fragment0_corrupts_imm` / `_lazy`): fragment 0 of the new packet is dropped as a duplicate, the client's ping acknowledges
`(sq, 0)`, which the server takes for the NEW fragment 0, fragment 1 is appended to the OLD fragment 0, and a frame that was never
offered is written to the client's tun device (the test compression scheme accepts it; with zlib the `uncompress` would in all
likelihood fail and the packet be lost).
-/
namespace Iodine.C02L
open Iodine Iodine.Gen Iodine.World

/-- `w` with the client's reassembly buffer holding `data` as fragment 0 of its current packet number -/
def withStale (w : W) (data : List Nat) : W :=
  { w with cs := ⟨{ w.cs.c with inpkt := { w.cs.c.inpkt with fragment := 0, data := data, len := data.length } }, w.cs.ph⟩ }

theorem quietImmD_withStale {P : Par} {w : W} {d : Nat} (h : QuietImmD P 0 d w) (data : List Nat) :
    QuietImmD P 0 d (withStale w data) := by
  have hc := h.cst
  exact ⟨h.ph, ⟨hc.running, hc.conn, hc.imm, hc.uid, hc.uch, hc.td, hc.L, hc.enc, hc.ty, hc.cid, hc.cmc, hc.alive, hc.oseq, hc.iseq,
    by show (0 : Int) ≤ 0 ∧ (0 : Int) < 16; omega, hc.seed⟩, h.idleC, h.up, h.down, h.srv, h.idle, h.oq, h.syncu, h.syncd, h.aged, h.paged⟩

theorem quietLazyD_withStale {P : Par} {w : W} {d : Nat} (h : QuietLazyD P 0 d w) (data : List Nat) :
    QuietLazyD P 0 d (withStale w data) := by
  have hc := h.cst
  exact ⟨h.ph, ⟨hc.running, hc.conn, hc.lz, hc.uid, hc.uch, hc.td, hc.L, hc.enc, hc.ty, hc.cid, hc.cmc, hc.alive, hc.oseq, hc.iseq,
    by show (0 : Int) ≤ 0 ∧ (0 : Int) < 16; omega, hc.seed⟩, h.cnt, h.idleC, h.up, h.down, h.srv, h.idle, h.oq, h.held, h.heldid,
    h.syncu, h.syncd, h.mem⟩

theorem roomy_withStale {P : Par} {w : W} (h : Roomy P w) (data : List Nat) : Roomy P (withStale w data) := ⟨h.to, h.cli, h.srv⟩

/-- **Quiescence does not imply an empty reassembly buffer**: there are quiescent synchronised states (immediate and lazy
mode) with `inpkt.fragment = 0` and `inpkt.len ≠ 0`. -/
theorem quiet_not_len_zero :
    (∃ w, QuietImm C02.exP w ∧ w.cs.c.inpkt.fragment = 0 ∧ w.cs.c.inpkt.len ≠ 0) ∧
    (∃ w, QuietLazy exPL w ∧ w.cs.c.inpkt.fragment = 0 ∧ w.cs.c.inpkt.len ≠ 0) :=
  ⟨⟨withStale C02.exW [1], quietImmD_zero.1 (quietImmD_withStale (quietImmD_zero.2 C02.ex_quiescent) [1]), rfl, by decide⟩,
   ⟨withStale exWL [1], quietLazyD_zero.1 (quietLazyD_withStale (quietLazyD_zero.2 ex_quiescent_lazy) [1]), rfl, by decide⟩⟩

/-! ### the lost packets keep `inpkt.len = 0` (corollaries of the drop theorems) -/

theorem drop_keeps_len_imm {P : Par} (hP : P.Ok) {w : W} {d : Nat} (hq : QuietImmD P 0 d w) (hd : 4 ≤ d ∧ d ≤ 6)
    (hlen0 : w.cs.c.inpkt.len = 0) (frame : List Nat) (hF : 0 < (Server.getUser w.srv P.u).fragsize)
    (h24 : 24 ≤ frame.length) (hl : frame.length < 65536) (hdst : Server.ipDst frame = (Server.getUser w.srv P.u).tunIp)
    (hr : Roomy P w) :
    ∃ w', promptSteps P.u (dropSteps (downFrags (Server.getUser w.srv P.u).fragsize (frame.length + 1) (frame.length + 1)))
        (step w (.offerS frame)) = some w' ∧ QuietImmD P 0 (d + 1) w' ∧ w'.cs.c.inpkt.len = 0 ∧
      w'.cs.c.inpkt.fragment = w.cs.c.inpkt.fragment := by
  obtain ⟨w', h1, h2, _, _, _, _, _, _, _, _, h11⟩ := down_packet_imm_desync_drop hP hq hd frame hF h24 hl hdst hr.to hr.cli hr.srv
  exact ⟨w', h1, h2, by rw [h11]; exact hlen0, by rw [h11]⟩

theorem drop_keeps_len_lazy {P : Par} (hP : P.Ok) {w : W} {d : Nat} (hq : QuietLazyD P 0 d w)
    (hd : (4 ≤ d ∧ d ≤ 6) ∨ (d = 7 ∧ w.cs.c.inpkt.fragment ≠ 0)) (hlen0 : w.cs.c.inpkt.len = 0) (frame : List Nat)
    (hF : 0 < (Server.getUser w.srv P.u).fragsize)
    (hok : DownFrameOk (Server.getUser w.srv P.u).tunIp (Server.getUser w.srv P.u).fragsize frame) :
    ∃ w', promptSteps P.u (dropStepsL w.cs.c.sendPingSoon
          (downFrags (Server.getUser w.srv P.u).fragsize (frame.length + 1) (frame.length + 1)))
        (step w (.offerS frame)) = some w' ∧ QuietLazyD P 0 ((d + 1) % 8) w' ∧ w'.cs.c.inpkt.len = 0 ∧
      w'.cs.c.inpkt.fragment = w.cs.c.inpkt.fragment := by
  obtain ⟨w', h1, h2, _, _, _, _, _, h8⟩ := down_packet_lazy_desync_drop hP hq hd frame hF hok
  exact ⟨w', h1, h2, by rw [h8]; exact hlen0, by rw [h8]⟩

/-! ### the corner `inpkt.fragment = 0 ∧ inpkt.len ≠ 0` at `d = 7`: corruption (kernel-evaluated) -/

/-- the demo session, the server 7 ahead, the client still holding fragment 0 (30 bytes) of the five-fragment packet
`demoFrame 2 100` under its current number -/
def exStale : W := withStale (exD 7) ((0x5a :: demoFrame 2 100).take 30)

theorem exStale_quiet : QuietImmD C02.exP 0 7 exStale := quietImmD_withStale (exD_quiet 7) _

theorem exStale_roomy : Roomy C02.exP exStale := roomy_withStale (exD_roomy 7) _

/-- From the quiescent state `exStale` (`QuietImmD 0 7`, `inpkt.fragment = 0`,
`inpkt.len = 30`) the two-fragment frame `demoFrame 2 31` is offered to the server: after 9 prompt steps the joint state is
quiescent and synchronised, and the client has written ONE frame to its tun device — the first 29 bytes of the OLD frame
`demoFrame 2 100` followed by the bytes of the new frame from offset 29 on —, which is not the frame offered. -/
theorem stale_fragment0_corrupts_imm :
    exStale.cs.c.inpkt.fragment = 0 ∧ exStale.cs.c.inpkt.len = 30 ∧
    runPromptCount 0 40 (step exStale (.offerS (demoFrame 2 31))) 0 =
      (runPrompt 0 40 (step exStale (.offerS (demoFrame 2 31))), 9) ∧
    (runPrompt 0 40 (step exStale (.offerS (demoFrame 2 31)))).tunC =
      [(demoFrame 2 100).take 29 ++ (demoFrame 2 31).drop 29] ∧
    (demoFrame 2 100).take 29 ++ (demoFrame 2 31).drop 29 ≠ demoFrame 2 31 ∧
    quiet 0 (runPrompt 0 40 (step exStale (.offerS (demoFrame 2 31)))) = true ∧
    (Server.getUser (runPrompt 0 40 (step exStale (.offerS (demoFrame 2 31)))).srv 0).outpacket.seqno =
      (runPrompt 0 40 (step exStale (.offerS (demoFrame 2 31)))).cs.c.inpkt.seqno := by
  rw [runPromptCount_fast, runPrompt_fast, step_fast]; decide +kernel

/-- the same in lazy mode -/
def exStaleL : W := withStale (desyncD exPL exWL 7) ((0x5a :: demoFrame 2 100).take 30)

theorem exStaleL_quiet : QuietLazyD exPL 0 7 exStaleL := quietLazyD_withStale (ex_quiescent_lazy.desync 7) _

theorem stale_fragment0_corrupts_lazy :
    (runPrompt 0 40 (step exStaleL (.offerS (demoFrame 2 31)))).tunC =
      [(demoFrame 2 100).take 29 ++ (demoFrame 2 31).drop 29] ∧
    quiet 0 (runPrompt 0 40 (step exStaleL (.offerS (demoFrame 2 31)))) = true := by
  rw [runPrompt_fast, step_fast]; decide +kernel

/-- the client has taken fragment 0 of `demoFrame 2 100`; its acknowledging ping is in flight -/
def exMid : W := run (step C02.exW (.offerS (demoFrame 2 100))) [.tickC, .deliverUp, .deliverDown]

/-- … the downstream blackout: the server gives the packet up -/
def exMidLost : W := runSched blackoutEvDown 20 exMid

/-- `k` one-fragment frames offered and given up during the blackout -/
def giveupsRD : Nat → W → W
  | 0, w => w
  | k + 1, w => giveupsRD k (runSched blackoutEvDown 3 (step w (.offerS (demoFrame 2 4))))

def exReach : W := giveupsRD 7 exMidLost

/-- the two stations of the run, in one evaluation -/
theorem exReach_run :
    (quiet 0 exMidLost = true ∧ exMidLost.tunC = [] ∧ exMidLost.cs.c.inpkt.len = 30 ∧
      (Server.getUser exMidLost.srv 0).outpacket.seqno = exMidLost.cs.c.inpkt.seqno) ∧
    (quiet 0 exReach = true ∧ exReach.tunC = [] ∧ exReach.tunS = [] ∧
      exReach.cs.c.inpkt.seqno = 1 ∧ exReach.cs.c.inpkt.fragment = 0 ∧ exReach.cs.c.inpkt.len = 30 ∧
      exReach.cs.c.inpkt.data.take 30 = (0x5a :: demoFrame 2 100).take 30 ∧
      (Server.getUser exReach.srv 0).outpacket.seqno = 0 ∧
      (runPrompt 0 40 (step exReach (.offerS (demoFrame 2 31)))).tunC = [(demoFrame 2 100).take 29 ++ (demoFrame 2 31).drop 29] ∧
      quiet 0 (runPrompt 0 40 (step exReach (.offerS (demoFrame 2 31)))) = true) := by
  have e1 : exMidLost = Wire.iter (Wire.step Client.wqFast) (fun _ => false) blackoutEvDown 20
      (Wire.run (Wire.step Client.wqFast) (Wire.step Client.wqFast C02.exW (.offerS (demoFrame 2 100)))
        [.tickC, .deliverUp, .deliverDown]) := by
    unfold exMidLost exMid; rw [runSched_fast, run_fast, step_fast]
  have e2 : ∀ k w, giveupsRD k w = (List.replicate k ()).foldl (fun w _ => Wire.iter (Wire.step Client.wqFast) (fun _ => false)
      blackoutEvDown 3 (Wire.step Client.wqFast w (.offerS (demoFrame 2 4)))) w := by
    intro k
    induction k with
    | zero => intro w; rfl
    | succ k ih => intro w; show giveupsRD k _ = _; rw [ih, runSched_fast, step_fast]; rfl
  unfold exReach
  rw [e2, e1, runPrompt_fast, step_fast]
  decide +kernel

theorem exMidLost_facts : quiet 0 exMidLost = true ∧ exMidLost.tunC = [] ∧ exMidLost.cs.c.inpkt.len = 30 ∧
    (Server.getUser exMidLost.srv 0).outpacket.seqno = exMidLost.cs.c.inpkt.seqno := exReach_run.1

/-- The reached state is quiescent, nothing has been written to either tun device, the server
is 7 ahead (`0 = (1 + 7) % 8`), the client's fragment number is 0 and it holds the first 30 bytes of the OLD packet; the
frame offered next (prompt schedule) arrives corrupted: old fragment 0 + new fragment 1. -/
theorem stale_fragment0_reachable :
    quiet 0 exReach = true ∧ exReach.tunC = [] ∧ exReach.tunS = [] ∧
    exReach.cs.c.inpkt.seqno = 1 ∧ exReach.cs.c.inpkt.fragment = 0 ∧ exReach.cs.c.inpkt.len = 30 ∧
    exReach.cs.c.inpkt.data.take 30 = (0x5a :: demoFrame 2 100).take 30 ∧
    (Server.getUser exReach.srv 0).outpacket.seqno = 0 ∧
    (runPrompt 0 40 (step exReach (.offerS (demoFrame 2 31)))).tunC = [(demoFrame 2 100).take 29 ++ (demoFrame 2 31).drop 29] ∧
    quiet 0 (runPrompt 0 40 (step exReach (.offerS (demoFrame 2 31)))) = true := exReach_run.2

end Iodine.C02L
