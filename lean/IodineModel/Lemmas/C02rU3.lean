import IodineModel.Lemmas.C02qU6
import IodineModel.Lemmas.C02up4
import IodineModel.Lemmas.C02qL1
/-
Upstream, the false acknowledgement at distance 7 with the server's last fragment number 0, as theorems about the per-mode
invariants (cases of `QuietMD.up_packet_desync7_multi`, `QuietMD.false_ack_done`, `QuietMD.recovery`; C02up4, C02up6).
A packet of `g ≥ 2` fragments: fragment 0 is dropped but acknowledged, fragments 1 … g−1 are appended to the first `inpacket.offset`
bytes of the server's buffer (`chimeraUp`); after the clean-path `2·g + 1` steps both ends are quiescent and IN STEP, and the server
has written `junkUp (chimeraUp …)`: nothing, unless the chimera starts with the compression marker 0x5a — which it does whenever the
buffer held the beginning of an earlier, abandoned packet.  A one-fragment packet is lost silently in 2 steps.  Hence recovery in
immediate mode WITHOUT the hypothesis `d ≤ 3 ∨ 1 ≤ inpacket.fragment` of `recovery_after_giveups_up_imm` (C02qU6): the frames
written are `junkAt … ++ (frames.drop (lostUp d)).map tunImage`.  `UpFlightT` is the immediate-mode flight invariant with the
assembled bytes `T` as a parameter (`UpFlight` is the case `T = out`).
-/
namespace Iodine.C02L
open Iodine Iodine.Gen Iodine.World

/-- fragment `f` (client offset `o`) of the upstream packet `out` is in flight towards a server that assembles the bytes `T`
and holds their first `oS`; the bytes still to come are the same on both sides -/
structure UpFlightT (P : Par) (out T : List Nat) (w : W) (c0 : Client.Cli) (o oS f : Nat) : Prop where
  ph : w.cs.ph = .tunnel
  ready : CReady P c0 out o f
  cli : w.cs.c = { sentState c0 with sendPingSoon := 0 }
  up : w.up = upOfEvents (Client.sendChunk c0).evs
  down : w.down = []
  srv : SStat P w.srv
  idle : IdleImm (Server.getUser w.srv P.u)
  oq : (Server.getUser w.srv P.u).oqFilled = 0
  expect : Expect (Server.getUser w.srv P.u) T c0.outpkt.seqno.toNat oS f
  tail : T.drop oS = out.drop o
  syncd : (Server.getUser w.srv P.u).outpacket.seqno = c0.inpkt.seqno
  aged : Aged P (Server.getUser w.srv P.u) c0.datacmc 1
  paged : PAged P (Server.getUser w.srv P.u) c0.randSeed 1

theorem UpFlight.toT {P : Par} {out : List Nat} {w : W} {c0 : Client.Cli} {o f : Nat} (h : UpFlight P out w c0 o f) :
    UpFlightT P out out w c0 o o f :=
  ⟨h.ph, h.ready, h.cli, h.up, h.down, h.srv, h.idle, h.oq, h.expect, rfl, h.syncd, h.aged, h.paged⟩

/-- **`d = 7`, the server's last fragment number 0, a packet of `g ≥ 2` fragments** (immediate mode).  After the clean-path
`2·g + 1` prompt steps — no resend, no delay — the joint state is quiescent and IN STEP (`QuietImm`); the client wrote
nothing; the server wrote `junkUp (chimeraUp …)`: the frame `handle_full_packet` makes of "what its buffer held below the write
offset, followed by the packet without its first fragment". -/
theorem up_packet_imm_desync7_multi {P : Par} (hP : P.Ok) {w : W} (hq : QuietImmD P 7 0 w)
    (h0 : (Server.getUser w.srv P.u).inpacket.fragment = 0) (hbuf : BufOk (Server.getUser w.srv P.u).inpacket)
    (frame : List Nat) (hne : frame ≠ []) (hl : frame.length < 65536) (hb : Codec.Bytes frame)
    (hmulti : fragLen P (0x5a :: frame) < (0x5a :: frame).length)
    (hg16 : upFrags P (frame.length + 1) (0x5a :: frame) ≤ 16)
    (hok : ChimeraOk P (Server.getUser w.srv P.u).inpacket (Server.getUser w.srv P.u).tunIp frame) :
    ∃ w', promptSteps P.u (2 * upFrags P (frame.length + 1) (0x5a :: frame) + 1) (step w (.offerC frame)) = some w' ∧
      QuietImm P w' ∧
      w'.tunS = w.tunS ++ junkUp (chimeraUp P (Server.getUser w.srv P.u).inpacket frame) ∧ w'.tunC = w.tunC ∧
      (Server.getUser w'.srv P.u).tunIp = (Server.getUser w.srv P.u).tunIp ∧
      (Server.getUser w'.srv P.u).fragsize = (Server.getUser w.srv P.u).fragsize ∧
      1 ≤ (Server.getUser w'.srv P.u).inpacket.fragment ∧ 2 ≤ upFrags P (frame.length + 1) (0x5a :: frame) := by
  obtain ⟨w', h1, h2, h3, h4, h5, hc⟩ := (quietMD_imm.2 hq).up_packet_desync7_multi hP
    (show Mode.Ok (.imm 1 1) from ⟨Nat.le_refl 1, by decide⟩) h0 hbuf frame hne hl hb hmulti hg16 hok
  exact ⟨w', h1, quietMD_imm_zero.1 h2, h3, hc.tunC, hc.kept.tunIp, hc.kept.fragsize, h4, h5⟩

/-- the empty-buffer case (`inpacket.offset = 0`, as `handle_full_packet` leaves it): the chimera is the packet without its
first fragment; NOTHING is written unless its first byte — byte `fragLen − 1` of the frame — happens to be the marker -/
theorem chimeraUp_empty (P : Par) (I : Server.Packet) (frame : List Nat) (ho : I.offset = 0) :
    chimeraUp P I frame = (0x5a :: frame).drop (fragLen P (0x5a :: frame)) := by
  unfold chimeraUp
  rw [ho]; rfl

theorem up_packet_imm_desync7_multi_empty {P : Par} (hP : P.Ok) {w : W} (hq : QuietImmD P 7 0 w)
    (h0 : (Server.getUser w.srv P.u).inpacket.fragment = 0)
    (hlen : (Server.getUser w.srv P.u).inpacket.len = 0) (hoff : (Server.getUser w.srv P.u).inpacket.offset = 0)
    (frame : List Nat) (hne : frame ≠ []) (hl : frame.length < 65536) (hb : Codec.Bytes frame)
    (hmulti : fragLen P (0x5a :: frame) < (0x5a :: frame).length)
    (hg16 : upFrags P (frame.length + 1) (0x5a :: frame) ≤ 16)
    (hmark : ((0x5a :: frame).drop (fragLen P (0x5a :: frame))).headD 0 ≠ 0x5a) :
    ∃ w', promptSteps P.u (2 * upFrags P (frame.length + 1) (0x5a :: frame) + 1) (step w (.offerC frame)) = some w' ∧
      QuietImm P w' ∧ w'.tunS = w.tunS ∧ w'.tunC = w.tunC ∧
      (Server.getUser w'.srv P.u).tunIp = (Server.getUser w.srv P.u).tunIp ∧
      (Server.getUser w'.srv P.u).fragsize = (Server.getUser w.srv P.u).fragsize := by
  have hch := chimeraUp_empty P (Server.getUser w.srv P.u).inpacket frame hoff
  have hj : junkUp (chimeraUp P (Server.getUser w.srv P.u).inpacket frame) = [] := by
    rw [hch]; exact junkUp_nil_of_head hmark
  obtain ⟨w', h1, h2, h3, h4, h5, h6, _⟩ := up_packet_imm_desync7_multi hP hq h0 ⟨by rw [hlen, hoff], by rw [hoff]; omega⟩
    frame hne hl hb hmulti hg16
    ⟨by rw [hoff]; simp only [List.length_cons]; omega, by
      intro fr hfr
      rw [hch] at hfr
      unfold Server.uncompress at hfr
      cases hT : (0x5a :: frame).drop (fragLen P (0x5a :: frame)) with
      | nil => rw [hT] at hfr; cases hfr
      | cons b r =>
        rw [hT] at hfr hmark
        have : b ≠ 0x5a := hmark
        simp [this] at hfr⟩
  exact ⟨w', h1, h2, by rw [h3, hj]; simp, h4, h5, h6⟩

/-- **`d = 7`, the server's last fragment number 0, a ONE-fragment packet** (immediate mode): lost silently in 2 steps;
quiescent and in step afterwards; the server untouched but for its clock-free bookkeeping. -/
theorem up_packet_imm_desync_false_ack {P : Par} (hP : P.Ok) {w : W} (hq : QuietImmD P 7 0 w)
    (h0 : (Server.getUser w.srv P.u).inpacket.fragment = 0) (frame : List Nat)
    (hne : frame ≠ []) (hl : frame.length < 65536) (hb : Codec.Bytes frame)
    (hone : fragLen P (0x5a :: frame) = (0x5a :: frame).length) :
    ∃ w', promptSteps P.u 2 (step w (.offerC frame)) = some w' ∧ QuietImm P w' ∧
      w'.tunS = w.tunS ∧ w'.tunC = w.tunC ∧
      (Server.getUser w'.srv P.u).inpacket = (Server.getUser w.srv P.u).inpacket ∧
      (Server.getUser w'.srv P.u).tunIp = (Server.getUser w.srv P.u).tunIp ∧
      (Server.getUser w'.srv P.u).fragsize = (Server.getUser w.srv P.u).fragsize ∧
      w'.srv.now = w.srv.now := by
  obtain ⟨w', h1, h2, hi, _⟩ := (quietMD_imm.2 hq).false_ack_done hP
    (show Mode.Ok (.imm 1 1) from ⟨Nat.le_refl 1, by decide⟩) h0 frame hne hl hb hone
  exact ⟨w', h1, quietMD_imm_zero.1 h2, hi.tunS, hi.tunC, hi.inp, hi.kept.tunIp, hi.kept.fragsize, hi.srvNow⟩

/-- **recovery_after_giveups, upstream, immediate mode, every `d` and every fragment number.**  Hypotheses beyond `UpFrameOk`
only where the false acknowledgement can happen (`4 ≤ d`, last fragment number 0): the server's buffer is in a state
`handle_data_upstream` leaves behind (`BufOk`) and, if the packet number `7 − d` has several fragments, its chimera fits and is
not self-addressed (`ChimeraOk`). -/
theorem recovery_after_giveups_up_imm_full {P : Par} (hP : P.Ok) (fuel : Nat) (hfuel : 33 ≤ fuel) :
    ∀ (frames : List (List Nat)) (d : Nat) (w : W), QuietImmD P d 0 w → d < 8 →
      (∀ f ∈ frames, UpFrameOk P (Server.getUser w.srv P.u).tunIp f) →
      (4 ≤ d → (Server.getUser w.srv P.u).inpacket.fragment = 0 →
        BufOk (Server.getUser w.srv P.u).inpacket ∧
        ∀ f, frames[7 - d]? = some f → fragLen P (0x5a :: f) < (0x5a :: f).length →
          ChimeraOk P (Server.getUser w.srv P.u).inpacket (Server.getUser w.srv P.u).tunIp f) →
      (offerAllC P.u fuel w frames).tunS =
        w.tunS ++ junkAt P (Server.getUser w.srv P.u).inpacket d frames ++ (frames.drop (lostUp d)).map tunImage ∧
      (offerAllC P.u fuel w frames).tunC = w.tunC ∧
      (lostUp d < frames.length → QuietImm P (offerAllC P.u fuel w frames)) := by
  intro frames d w hq hd8 hok hch
  obtain ⟨h1, h2, h3, _⟩ := QuietMD.recovery hP (show Mode.Ok (.imm 1 1) from ⟨by omega, by omega⟩)
    (show Mode.OkP (.imm 1 1) from ⟨by omega, by omega⟩) fuel hfuel frames d w (quietMD_imm.2 hq) hd8 hok
    (fun h4 h0 f hf hmu => ⟨(hch h4 h0).1, (hch h4 h0).2 f hf hmu⟩)
  exact ⟨h1, h2, fun hlt => quietMD_imm_zero.1 (h3 (resync_of_lostUp_lt hlt))⟩

/-- the marker condition: with an EMPTY buffer (`offset = 0`) and the first byte after the first fragment not 0x5a, nothing
but the clean frames is written -/
theorem junkAt_nil_of_empty {P : Par} {I : Server.Packet} {d : Nat} {frames : List (List Nat)} (ho : I.offset = 0)
    (hmark : ∀ f, frames[7 - d]? = some f → ((0x5a :: f).drop (fragLen P (0x5a :: f))).headD 0 ≠ 0x5a) :
    junkAt P I d frames = [] :=
  junkAt_nil fun f hf _ => by rw [chimeraUp_empty P I f ho]; exact junkUp_nil_of_head (hmark f hf)

/-- **`d = 7`, the server's last fragment number 0, a packet of `g ≥ 2` fragments, lazy mode**: as in immediate mode
(`up_packet_imm_desync7_multi`) the clean-path `2·g + 1` steps end quiescent and in step, and the server has written
`junkUp (chimeraUp …)`. -/
theorem up_packet_lazy_desync7_multi {P : Par} (hP : P.Ok) {w : W} (hq : QuietLazyD P 7 0 w)
    (h0 : (Server.getUser w.srv P.u).inpacket.fragment = 0) (hbuf : BufOk (Server.getUser w.srv P.u).inpacket)
    (frame : List Nat) (hne : frame ≠ []) (hl : frame.length < 65536) (hb : Codec.Bytes frame)
    (hmulti : fragLen P (0x5a :: frame) < (0x5a :: frame).length)
    (hg16 : upFrags P (frame.length + 1) (0x5a :: frame) ≤ 16)
    (hok : ChimeraOk P (Server.getUser w.srv P.u).inpacket (Server.getUser w.srv P.u).tunIp frame) :
    ∃ w', promptSteps P.u (2 * upFrags P (frame.length + 1) (0x5a :: frame) + 1) (step w (.offerC frame)) = some w' ∧
      QuietLazy P w' ∧
      w'.tunS = w.tunS ++ junkUp (chimeraUp P (Server.getUser w.srv P.u).inpacket frame) ∧ w'.tunC = w.tunC ∧
      (Server.getUser w'.srv P.u).tunIp = (Server.getUser w.srv P.u).tunIp ∧
      (Server.getUser w'.srv P.u).fragsize = (Server.getUser w.srv P.u).fragsize := by
  obtain ⟨w', h1, h2, h3, _, _, hc⟩ := (quietMD_lazy.2 hq).up_packet_desync7_multi hP (show Mode.Ok .lazy from trivial)
    h0 hbuf frame hne hl hb hmulti hg16 hok
  exact ⟨w', h1, quietMD_lazy_zero.1 h2, h3, hc.tunC, hc.kept.tunIp, hc.kept.fragsize⟩

end Iodine.C02L
