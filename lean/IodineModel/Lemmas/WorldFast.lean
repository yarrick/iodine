import IodineModel.World
import IodineModel.Lemmas.C02w
/-
The model's own client step and World step once more, with ONE thing made a parameter: the round trip of a query name
through `dns_encode(QR_QUERY)` and the repository's `dns_decode` that `Client.wireQuery` performs at every `send_query`.
* `Client.Wire.*` are the functions on the call path from `Client.cstep` down to `Client.sendQueryPlain`, bodies as in
  `Client/Tunnel.lean` and `Client/Loop.lean`, in the same order, with `wq` in the place of `Client.wireQuery`;
  `World.Wire.stepC`, `World.Wire.step` the same for `World.lean`.  At `wq := Client.wireQuery` they ARE the model
  (`Client.Wire.cstep_wire`, `World.Wire.step_wire`: callee by callee).
* `wqFast` answers a LEGAL name (and 16-bit id and type) with what `C02L.wireQuery_legal` proves the round trip returns, and
  calls `Client.wireQuery` otherwise; so `wqFast = Client.wireQuery` on every input and `World.step = World.Wire.step wqFast`
  (`step_fast`), without any assumption about the state.
* `World.Wire.run`, `iter` (`runPrompt`, and every other "follow a schedule function until a test holds" driver),
  `runPromptCount`, `promptTrace`, `offerAllC`, `offerAllS`: the drivers of `World.lean` with the step function as
  a parameter, each equal to the model's driver at `World.step`.
Use: ONLY to evaluate concrete test runs.  For the kernel one query sent costs about four times as much in
`Client.wireQuery` as in the rest of the client's step; a test rewrites the model's `step` and drivers in its statement
to `World.Wire.… (World.Wire.step wqFast)` and evaluates that.  Every test keeps its statement over the model's own `step`;
it then rests on `wireQuery_legal` and on the equalities of this file, and on no other theorem.
-/
namespace Iodine.Client

/-- what `Client.wireQuery` is to its callers -/
abbrev WQ := Nat → Nat → Bool → List Nat → Option CEvent

namespace Wire
open Iodine Iodine.Gen

/-! ### Client/Tunnel.lean -/

def sendQueryPlain (wq : WQ) (c : Cli) (host : List Nat) : Res × Bool :=
  let c := rotateChunkid c
  match wq c.chunkid c.doQtype c.edns0 host with
  | none => ((c, []), false)
  | some ev => ((c, [ev]), true)

def sendHandshakeQuery (wq : WQ) (c : Cli) (prefix_ : List Nat) : Res :=
  let cmc := [b32_5to8 ((c.randSeed / 1024 % 32 : Nat) : Int), b32_5to8 ((c.randSeed / 32 % 32 : Nat) : Int),
              b32_5to8 ((c.randSeed % 32 : Nat) : Int), 46]
  let c := { c with randSeed := (c.randSeed + 1) % 65536 }
  let buf := prefix_.take 60 ++ cmc
  (sendQueryPlain wq c (buf ++ c.topdomain.take (300 - buf.length - 1))).1

def sendLazySwitch (wq : WQ) (c : Cli) : Res :=
  sendHandshakeQuery wq c [111, b32_5to8 c.userid, if c.lazymode then 108 else 105]

def lazyoffIter (wq : WQ) (c : Cli) (i : Nat) : Sent :=
  if c.running ∧ i < 5 then
    let r := sendLazySwitch wq c
    ⟨r.1, r.2, true⟩
  else ⟨c, [], false⟩

def sendQueryCount (wq : WQ) (c : Cli) : Sent :=
  if 0 ≤ c.sendcnt ∧ c.sendcnt < 100 ∧ c.lazymode then
    let c := { c with sendcnt := c.sendcnt + 1 }
    if tooFewAnswers c then
      if c.selecttimeout > 1 then
        ⟨{ c with selecttimeout := 1, sendcnt := 0, recvcnt := 0 }, [], false⟩
      else
        -- `else if (lazymode)`: true here
        lazyoffIter wq { c with lazymode := false, selecttimeout := 1 } 0
    else ⟨c, [], false⟩
  else ⟨c, [], false⟩

def sendQuery (wq : WQ) (c : Cli) (host : List Nat) : Sent :=
  let r := sendQueryPlain wq c host
  if r.2 then
    let s := sendQueryCount wq r.1.1
    ⟨s.c, r.1.2 ++ s.evs, s.parked⟩
  else ⟨r.1.1, r.1.2, false⟩

def sendPacket (wq : WQ) (c : Cli) (cmd : Nat) (data : List Nat) : Sent :=
  sendQuery wq c (cmd :: (buildHostname Codec.b32 c.hostnameMaxlen 4095 cmd c.topdomain data).name)

def sendChunk (wq : WQ) (c : Cli) : Sent :=
  let avail := c.outpkt.len - c.outpkt.offset
  let b := buildHostname c.dataenc.codec c.hostnameMaxlen 4091 0 c.topdomain (outRest c.outpkt)
  let c := { c with outpkt := { c.outpkt with sentlen := b.used } }
  let hdr := chunkHeader c (b.used == avail)
  let c := { c with datacmc := if c.datacmc + 1 ≥ 36 then 0 else c.datacmc + 1 }
  sendQuery wq c (hdr ++ b.name)

def sendPing (wq : WQ) (c : Cli) : Sent :=
  if c.conn = .dnsNull then
    let data := [maskI c.userid 256, (maskI c.inpkt.seqno 8 * 16 ||| maskI c.inpkt.fragment 16) % 256,
                 c.randSeed / 256 % 256, c.randSeed % 256]
    sendPacket wq { c with randSeed := (c.randSeed + 1) % 65536 } 112 data
  else ⟨{ c with lastrawping := c.now }, [sendRaw c [] 0 RAW_HDR_CMD_PING], false⟩

def tunnelTun (wq : WQ) (c : Cli) (frame : List Nat) : Cli × List CEvent × Stop :=
  let frame := frame.take 65536
  let read : Int := frame.length
  if frame.length = 0 then (c, [], .ret (-1))
  else if isSending c then (c, [], .ret (-1))
  else
    let out := compress frame
    let c := { c with outpkt := { c.outpkt with data := out.take 65536, sentlen := 0, offset := 0,
                                                seqno := sChar (((c.outpkt.seqno + 1) % 8 : Int)), len := out.length,
                                                fragment := 0 },
                      outchunkresent := 0 }
    if c.conn = .dnsNull then afterSend (sendChunk wq c) [] (.tunChunk read)
    else
      let r := sendRawData c
      (r.1, r.2, .ret read)

def finalPing (wq : WQ) (c : Cli) (evs : List CEvent) (sendNow : Bool) (read : Int) : Cli × List CEvent × Stop :=
  if sendNow then afterSend (sendPing wq c) evs (.dnsPing read) else (c, evs, .ret read)

def upstream (wq : WQ) (c : Cli) (h : Hdr) (evs : List CEvent) (sendNow : Bool) (read : Int) : Cli × List CEvent × Stop :=
  if isSending c ∧ h.upSeq = c.outpkt.seqno ∧ h.upFrag = c.outpkt.fragment then
    let c := { c with outpkt := { c.outpkt with offset := c.outpkt.offset + c.outpkt.sentlen } }
    if c.outpkt.offset ≥ c.outpkt.len then
      -- Packet completed
      let c := { c with outpkt := { c.outpkt with offset := 0, len := 0, sentlen := 0 }, outchunkresent := 0 }
      let c := if c.sendPingSoon = 0 ∨ c.sendPingSoon > 20 then { c with sendPingSoon := 20 } else c
      finalPing wq c evs sendNow read
    else
      -- More to send
      let c := { c with outpkt := { c.outpkt with fragment := sChar (c.outpkt.fragment + 1) }, outchunkresent := 0 }
      afterSend (sendChunk wq c) evs (.dnsChunk read)
  else finalPing wq c evs sendNow read

def tunnelDns (wq : WQ) (c : Cli) (rq : Rq) : Cli × List CEvent × Stop :=
  if notData c rq.name0 then ({ c with sendPingSoon := 700 }, [], .ret (-1))
  else if rq.rv < 2 then ({ servfailCount c rq with sendPingSoon := 900 }, [], .ret (-1))
  else if rq.rv = 5 ∧ rq.buf.take 5 = ascii "BADIP" then (c, [], .ret (-1))
  else
    let sendNow := c.sendPingSoon != 0
    let c := { c with sendPingSoon := 0 }
    let h := decodeHdr rq.buf
    let d := dupeSeqno c h rq.rv
    let read := d.2
    let c := countRecv d.1
    if !recentId c rq.id then
      let c := oosCount c
      if sendNow then afterSend (sendPing wq c) [] .dnsOosPing else (c, [], .ret (-1))
    else
      let c := { c with lastdownstreamtime := c.now }
      let c := lazyHint c rq.id
      let c := datalessAdopt c h read
      let r := downstream c h rq.buf read sendNow
      upstream wq r.1 h r.2.1 r.2.2 read

def timeoutBranch (wq : WQ) (c : Cli) : Cli × List CEvent × Stop :=
  if isSending c then
    if c.outchunkresent < 3 then
      afterSend (sendChunk wq { c with outchunkresent := c.outchunkresent + 1 }) [] .timeout
    else
      let c := { c with outpkt := { c.outpkt with offset := 0, len := 0, sentlen := 0 }, outchunkresent := 0 }
      afterSend (sendPing wq c) [] .timeout
  else afterSend (sendPing wq c) [] .timeout

/-! ### Client/Loop.lean -/

def tunnelDnsInput (wq : WQ) (c : Cli) (inp : CInput) : Cli × List CEvent × Stop :=
  if c.conn = .dnsNull then
    match inp with
    | .rq q => tunnelDns wq c q
    | _ => tunnelDns wq c Rq.zero
  else
    match inp with
    | .rawans b => tunnelDnsRaw c b
    | _ => tunnelDnsRaw c []

def tunnelStep (wq : WQ) (c : Cli) (inp : CInput) : CState × List CEvent × Next :=
  let f := fire c (selectOf c) inp
  let c := afterSelect f.1
  if !c.running then (⟨c, .idle⟩, [], .finished 0)
  else
    match f.2 with
    | .timeout => settle (timeoutBranch wq c)
    | .tun frame => let k := rawKeepalive c; after k.2 (settle (tunnelTun wq k.1 frame))
    | .dns inp => let k := rawKeepalive c; after k.2 (settle (tunnelDnsInput wq k.1 inp))

def lazyoffNext (wq : WQ) (c : Cli) (i : Nat) (k : Resume) : CState × List CEvent × Next :=
  let s := lazyoffIter wq c (i + 1)
  if s.parked then (⟨s.c, .lazyoff (i + 1) k⟩, s.evs, .sel waitSel)
  else lazyoffReturn s.c k s.evs

def lazyoffStep (wq : WQ) (c : Cli) (i : Nat) (k : Resume) (inp : CInput) : CState × List CEvent × Next :=
  let f := fire c waitSel inp
  let w : WaitIn := match f.2 with
    | .dns (.rq q) => .ans q
    | .dns _ => .ans Rq.zero
    | _ => .timeout
  match waitdnsRound f.1 w with
  | none => (⟨f.1, .lazyoff i k⟩, [], .sel waitSel)
  | some (c, read) =>
    let buf := match w with | .ans q => q.buf | .timeout => []
    let g := lazyoffGot c read buf
    if g.2 then lazyoffReturn g.1 k [] else lazyoffNext wq g.1 i k

def cstep (wq : WQ) (s : CState) (inp : CInput) : CState × List CEvent × Next :=
  match s.ph with
  | .idle => (s, [], .none)
  | .tunnel => tunnelStep wq s.c inp
  | .lazyoff i k => lazyoffStep wq s.c i k inp

theorem sendQueryPlain_wire : sendQueryPlain wireQuery = Client.sendQueryPlain := rfl
theorem sendHandshakeQuery_wire : sendHandshakeQuery wireQuery = Client.sendHandshakeQuery := by
  funext c p; unfold sendHandshakeQuery Client.sendHandshakeQuery; rw [sendQueryPlain_wire]
theorem sendLazySwitch_wire : sendLazySwitch wireQuery = Client.sendLazySwitch := by
  funext c; unfold sendLazySwitch Client.sendLazySwitch; rw [sendHandshakeQuery_wire]
theorem lazyoffIter_wire : lazyoffIter wireQuery = Client.lazyoffIter := by
  funext c i; unfold lazyoffIter Client.lazyoffIter; rw [sendLazySwitch_wire]
theorem sendQueryCount_wire : sendQueryCount wireQuery = Client.sendQueryCount := by
  funext c; unfold sendQueryCount Client.sendQueryCount; rw [lazyoffIter_wire]
theorem sendQuery_wire : sendQuery wireQuery = Client.sendQuery := by
  funext c h; unfold sendQuery Client.sendQuery; rw [sendQueryPlain_wire, sendQueryCount_wire]
theorem sendPacket_wire : sendPacket wireQuery = Client.sendPacket := by
  funext c cmd d; unfold sendPacket Client.sendPacket; rw [sendQuery_wire]
theorem sendChunk_wire : sendChunk wireQuery = Client.sendChunk := by
  funext c; unfold sendChunk Client.sendChunk; rw [sendQuery_wire]
theorem sendPing_wire : sendPing wireQuery = Client.sendPing := by
  funext c; unfold sendPing Client.sendPing; rw [sendPacket_wire]
theorem tunnelTun_wire : tunnelTun wireQuery = Client.tunnelTun := by
  funext c frame; unfold tunnelTun Client.tunnelTun; rw [sendChunk_wire]
theorem finalPing_wire : finalPing wireQuery = Client.finalPing := by
  funext c evs sn rd; unfold finalPing Client.finalPing; rw [sendPing_wire]
theorem upstream_wire : upstream wireQuery = Client.upstream := by
  funext c h evs sn rd; unfold upstream Client.upstream; rw [finalPing_wire, sendChunk_wire]
theorem tunnelDns_wire : tunnelDns wireQuery = Client.tunnelDns := by
  funext c rq; unfold tunnelDns Client.tunnelDns; rw [upstream_wire, sendPing_wire]
theorem timeoutBranch_wire : timeoutBranch wireQuery = Client.timeoutBranch := by
  funext c; unfold timeoutBranch Client.timeoutBranch; rw [sendChunk_wire, sendPing_wire]
-- (behind `rw`, `rfl` identifies the two copies of each `match`)
theorem tunnelDnsInput_wire : tunnelDnsInput wireQuery = Client.tunnelDnsInput := by
  funext c inp; unfold tunnelDnsInput Client.tunnelDnsInput; rw [tunnelDns_wire]; rfl
theorem tunnelStep_wire : tunnelStep wireQuery = Client.tunnelStep := by
  funext c inp; unfold tunnelStep Client.tunnelStep; rw [timeoutBranch_wire, tunnelTun_wire, tunnelDnsInput_wire]; rfl
theorem lazyoffNext_wire : lazyoffNext wireQuery = Client.lazyoffNext := by
  funext c i k; unfold lazyoffNext Client.lazyoffNext; rw [lazyoffIter_wire]
theorem lazyoffStep_wire : lazyoffStep wireQuery = Client.lazyoffStep := by
  funext c i k inp; unfold lazyoffStep Client.lazyoffStep; rw [lazyoffNext_wire]; rfl
theorem cstep_wire : cstep wireQuery = Client.cstep := by
  funext s inp; unfold cstep Client.cstep; rw [tunnelStep_wire, lazyoffStep_wire]; rfl

end Wire

/-- `C10.LegalName` in one pass (every label 1..63 characters, at most 253 characters, none of them NUL or above 255) -/
def legalHost (host : List Nat) : Bool :=
  Encoding.legalAux 0 host && host.length.ble 253 && host.all fun c => Nat.blt 0 c && Nat.blt c 256

theorem legalHost_legal {host : List Nat} (h : legalHost host = true) : C10.LegalName host := by
  unfold legalHost at h
  simp only [Bool.and_eq_true, Nat.ble_eq, List.all_eq_true, Nat.blt_eq] at h
  exact C10.legalName_of_legalAux host h.1.1 h.1.2 fun c hc => ⟨by have := (h.2 c hc).1; omega, (h.2 c hc).2⟩

/-- `Client.wireQuery`, except that a legal name with 16-bit id and type is answered with what the round trip returns -/
def wqFast : WQ := fun id ty edns host =>
  if id < 65536 ∧ ty < 65536 ∧ legalHost host = true then some (.query id ty host) else wireQuery id ty edns host

theorem wqFast_eq : wqFast = wireQuery := by
  funext id ty edns host
  unfold wqFast
  split
  · next h => exact (C02L.wireQuery_legal id ty edns host h.1 h.2.1 (legalHost_legal h.2.2)).symm
  · rfl

end Iodine.Client

namespace Iodine.World
open Iodine
open Iodine.Client (WQ wqFast wqFast_eq)

namespace Wire

/-! ### World.lean: the step -/

def stepC (wq : WQ) (w : W) (inp : Client.CInput) : W :=
  let r := Client.Wire.cstep wq w.cs inp
  let dt := r.1.c.now - w.cs.c.now
  { w with cs := r.1, srv := { w.srv with now := w.srv.now + dt },
           up := w.up ++ upOfEvents r.2.1, tunC := w.tunC ++ tunOfCEvents r.2.1 }

def step (wq : WQ) (w : W) : Ev → W
  | .offerC f => if tunSelC w then stepC wq w (.tun f) else w
  | .offerS f => if tunSelS w then stepS w (.tun f) 0 else w
  | .deliverUp =>
    match w.up with
    | [] => w
    | d :: rest => stepS { w with up := rest } (srvInput d) 0
  | .deliverDown =>
    match w.down with
    | [] => w
    | d :: rest => stepC wq { w with down := rest } (cliInput d)
  | .dropUp => { w with up := w.up.drop 1 }
  | .dropDown => { w with down := w.down.drop 1 }
  | .dupUp =>
    match w.up with
    | [] => w
    | d :: _ => stepS w (srvInput d) 0
  | .dupDown =>
    match w.down with
    | [] => w
    | d :: _ => stepC wq w (cliInput d)
  | .reorderUp => { w with up := w.up.drop 1 ++ w.up.take 1 }
  | .reorderDown => { w with down := w.down.drop 1 ++ w.down.take 1 }
  | .tickC => stepC wq w .tick
  | .tickS => stepS w .tick (timeoutS w / 1000000)
  | .advance dt =>
    { w with cs := { w.cs with c := { w.cs.c with now := w.cs.c.now + dt } }, srv := { w.srv with now := w.srv.now + dt } }

theorem stepC_wire : stepC Client.wireQuery = World.stepC := by
  funext w inp; unfold stepC World.stepC; rw [Client.Wire.cstep_wire]
theorem step_wire : step Client.wireQuery = World.step := by
  funext w e; unfold step World.step; rw [stepC_wire]; rfl

/-! ### World.lean: the drivers, over a step function `st` -/

def run (st : W → Ev → W) (w : W) : List Ev → W
  | [] => w
  | e :: es => run st (st w e) es

/-- the scheme of `runPrompt` and of every other driver that follows a schedule function `ev` until a test `stop` holds or
the fuel is used up -/
def iter (st : W → Ev → W) (stop : W → Bool) (ev : W → Ev) : Nat → W → W
  | 0, w => w
  | fuel + 1, w => if stop w then w else iter st stop ev fuel (st w (ev w))

abbrev runPrompt (st : W → Ev → W) (u : Nat) : Nat → W → W := iter st (quiet u) promptEv

def runPromptCount (st : W → Ev → W) (u : Nat) : Nat → W → Nat → W × Nat
  | 0, w, n => (w, n)
  | fuel + 1, w, n => if quiet u w then (w, n) else runPromptCount st u fuel (st w (promptEv w)) (n + 1)

def promptTrace (st : W → Ev → W) (u : Nat) : Nat → W → List Ev
  | 0, _ => []
  | fuel + 1, w => if quiet u w then [] else promptEv w :: promptTrace st u fuel (st w (promptEv w))

def offerAllC (st : W → Ev → W) (u fuel : Nat) (w : W) : List (List Nat) → W
  | [] => w
  | f :: fs => offerAllC st u fuel (runPrompt st u fuel (st w (.offerC f))) fs

def offerAllS (st : W → Ev → W) (u fuel : Nat) (w : W) : List (List Nat) → W
  | [] => w
  | f :: fs => offerAllS st u fuel (runPrompt st u fuel (st w (.offerS f))) fs

theorem iter_unique {st : W → Ev → W} {stop : W → Bool} {ev : W → Ev} (g : Nat → W → W) (h0 : ∀ w, g 0 w = w)
    (hs : ∀ fuel w, g (fuel + 1) w = if stop w then w else g fuel (st w (ev w))) : g = iter st stop ev := by
  funext fuel
  induction fuel with
  | zero => funext w; exact h0 w
  | succ n ih => funext w; rw [hs, ih]; rfl

end Wire

theorem run_over : run = Wire.run step := by
  funext w es
  induction es generalizing w with
  | nil => rfl
  | cons e es ih => exact ih _

theorem runPrompt_over (u : Nat) : runPrompt u = Wire.runPrompt step u :=
  Wire.iter_unique _ (fun _ => rfl) (fun _ _ => rfl)

theorem runPromptCount_over : runPromptCount = Wire.runPromptCount step := by
  funext u fuel
  induction fuel with
  | zero => rfl
  | succ k ih => funext w n; show (if quiet u w then (w, n) else runPromptCount u k _ _) = _; rw [ih]; rfl

theorem promptTrace_over : promptTrace = Wire.promptTrace step := by
  funext u fuel
  induction fuel with
  | zero => rfl
  | succ k ih => funext w; show (if quiet u w then [] else promptEv w :: promptTrace u k _) = _; rw [ih]; rfl

theorem offerAllC_over : offerAllC = Wire.offerAllC step := by
  funext u fuel w fs
  induction fs generalizing w with
  | nil => rfl
  | cons f fs ih => show offerAllC u fuel (runPrompt u fuel _) fs = _; rw [runPrompt_over, ih]; rfl

theorem offerAllS_over : offerAllS = Wire.offerAllS step := by
  funext u fuel w fs
  induction fs generalizing w with
  | nil => rfl
  | cons f fs ih => show offerAllS u fuel (runPrompt u fuel _) fs = _; rw [runPrompt_over, ih]; rfl

theorem step_fast : step = Wire.step wqFast := by rw [wqFast_eq, Wire.step_wire]

theorem run_fast : run = Wire.run (Wire.step wqFast) := by rw [run_over, step_fast]
theorem runPrompt_fast (u : Nat) : runPrompt u = Wire.runPrompt (Wire.step wqFast) u := by rw [runPrompt_over, step_fast]
theorem runPromptCount_fast : runPromptCount = Wire.runPromptCount (Wire.step wqFast) := by rw [runPromptCount_over, step_fast]
theorem promptTrace_fast : promptTrace = Wire.promptTrace (Wire.step wqFast) := by rw [promptTrace_over, step_fast]
theorem offerAllC_fast : offerAllC = Wire.offerAllC (Wire.step wqFast) := by rw [offerAllC_over, step_fast]
theorem offerAllS_fast : offerAllS = Wire.offerAllS (Wire.step wqFast) := by rw [offerAllS_over, step_fast]

end Iodine.World
