import IodineModel.Lemmas.SrvC16a
import IodineModel.Lemmas.Steps
import IodineModel.Lemmas.SrvC16c
import IodineModel.Lemmas.SrvC04f
/-
C16: the path of a ping / data query from `dispatch` to the duplicate filters (`pingFilters`, `dataFilters`); the cache
lookup reads the cache and its position only (`dnscacheFind_session`); the invariant `K` through one loop iteration
(`K_next`) and a whole run (`K_run`, `K_reachable`).
-/
namespace Iodine.C16L
open Iodine Iodine.Server Iodine.Gen

/-- a name whose first character is neither `n`/`N` nor `w`/`W` and whose type is a tunnel type goes to
`handle_null_request` -/
theorem tunnelDns_null (s : Srv) (q : Query) (dlen : Nat)
    (hd : Common.queryDatalen q.name s.cfg.topdomain = some dlen) (ht : TunnelType q.type)
    (hn : q.name.getD 0 0 ≠ 110 ∧ q.name.getD 0 0 ≠ 78 ∧ q.name.getD 0 0 ≠ 119 ∧ q.name.getD 0 0 ≠ 87) :
    tunnelDns s q = handleNullRequest s q dlen :=
  C04L.tunnelDns_null s q dlen hd (fun h => by have := h.2.2.1; omega) (fun h => by have := h.2.2.1; omega) ht

/-- the ping handler from the duplicate filters on -/
def pingFilters (s : Srv) (u : Nat) (q : Query) (unpacked : List Nat) : Res :=
  match answerFromDnscache s u q with
  | some e => (s, [e])
  | none =>
  match answerFromQmem q (getUser s u).qmemping (unpacked.take 4) u with
  | some e => (s, [e])
  | none =>
  match rememberDuplicate s u q with
  | some s' => (s', [])
  | none => pingFresh s u q unpacked

/-- the data handler from the duplicate filters on -/
def dataFilters (s : Srv) (u : Nat) (q : Query) (inb : List Nat) : Res :=
  match answerFromDnscache s u q with
  | some e => (s, [e])
  | none =>
  match answerFromQmemData s u q with
  | some e => (s, [e])
  | none =>
  match rememberDuplicate s u q with
  | some s' => (s', [])
  | none => dataFresh s u q inb

theorem handlePing_accepted (s : Srv) (q : Query) (inb : List Nat) (u : Nat) (hid : q.id ≠ 0)
    (hlen : 4 ≤ (Encoding.unpackData Codec.b32 65536 (inb.drop 1)).length)
    (hu : charVal ((Encoding.unpackData Codec.b32 65536 (inb.drop 1)).getD 0 0) = (u : Int))
    (hchk : checkAuthenticatedUserAndIp s (u : Int) q = false) :
    handlePing s q inb = pingFilters s u q (Encoding.unpackData Codec.b32 65536 (inb.drop 1)) := by
  unfold handlePing pingFilters
  rw [if_neg hid]
  simp only []
  rw [if_neg (by omega), hu, hchk]
  simp only [Bool.false_eq_true, if_false, Int.toNat_natCast]
  rfl

theorem handleData_accepted (s : Srv) (q : Query) (dlen : Nat) (inb : List Nat) (u : Nat) (hid : q.id ≠ 0)
    (hlen : 6 ≤ dlen) (hu : hexCode (inb.getD 0 0) = (u : Int))
    (hchk : checkAuthenticatedUserAndIp s (u : Int) q = false) :
    handleData s q dlen inb = dataFilters s u q inb := by
  unfold handleData dataFilters
  rw [if_neg (by omega), if_neg hid]
  simp only []
  rw [hu, hchk]
  simp only [Bool.false_eq_true, if_false, Int.toNat_natCast]
  rfl

theorem dnscacheFind_session (x x' : Session) (q : Query) (h1 : x'.dnscache = x.dnscache)
    (h2 : x'.dcLast = x.dcLast) : ∀ n k, dnscacheFind x' q n k = dnscacheFind x q n k := by
  intro n
  induction n with
  | zero => intro k; rfl
  | succ n ih =>
    intro k
    rw [dnscacheFind_succ, dnscacheFind_succ]
    unfold cacheAt
    rw [h1, h2]
    simp only [ih]

variable {td : List Nat} {u : Nat} {inp : Input}

theorem calm_sweep_marker : isChunk u Event.sweep = false := rfl

theorem step_body (s : Srv) (tunsel : Bool) (htd : s.cfg.topdomain = td) :
    Keeps td u inp s (body s inp tunsel) :=
  (run_body s inp tunsel).closed (keeps_closed td u inp) htd

theorem same_topOfLoop (s : Srv) (now' : Nat) : Same u s { (topOfLoop s).1 with now := now' } := by
  refine ⟨length_clearNewFrom _ _ _ _, ?_⟩
  obtain ⟨b, hb⟩ := getUser_handlerPhase s now' u
  exact (congrArg memOf hb).trans rfl

/-- one iteration keeps monitor and state in step -/
theorem K_next (m : Mon) (s : Srv) (st : Server.Step) (h : K u m s) :
    K u (monEvents s.cfg.topdomain u st.inp m (out s st)) (next s st) := by
  have hs := same_topOfLoop (u := u) s st.now
  have hb := step_body (td := s.cfg.topdomain) (u := u) (inp := st.inp)
    { (topOfLoop s).1 with now := st.now } (topOfLoop s).2.2 rfl
  exact hb.2 m (K_same hs h)

def monTrace (u : Nat) (m : Mon) (tr : List TraceStep) : Mon :=
  tr.foldl (fun m t => monEvents t.pre.cfg.topdomain u t.step.inp m t.events) m

theorem K_run (u : Nat) : ∀ (steps : List Server.Step) (m : Mon) (s : Srv), K u m s →
    K u (monTrace u m (traceFrom s steps)) (runFrom s steps) := by
  intro steps
  induction steps with
  | nil => intro m s h; exact h
  | cons st rest ih =>
    intro m s h
    simp only [traceFrom, runFrom, monTrace, List.foldl_cons]
    exact ih _ _ (K_next m s st h)

theorem inv_zero (ip : Nat) : Inv Mon.empty (Session.zero ip) :=
  ⟨cacheOk_nil (by simp [Session.zero]) (by simp [Session.zero, DNSCACHE_LEN]),
    qmemOk_nil (by simp [Session.zero]) (by simp [Session.zero, QMEMPING_LEN]),
    qmemOk_nil (by simp [Session.zero]) (by simp [Session.zero, QMEMDATA_LEN])⟩

theorem K_start (cfg : Config) (rnd : List Nat) (u : Nat) (h : u < (start cfg rnd).users.length) :
    K u Mon.empty (start cfg rnd) :=
  ⟨h, slots_getUser (slots_start inv_zero cfg rnd) (inv_zero 0) u⟩

/-- in every reachable state the cache and query memories of every slot are well-formed -/
theorem K_reachable {cfg : Config} {s : Srv} (h : Reachable cfg s) (u : Nat) (hu : u < s.users.length) :
    K u Mon.empty s := by
  induction h with
  | init rnd => exact K_start cfg rnd u hu
  | @step s0 st hr _ ih =>
    rw [(C04L.next_base s0 st).2.2] at hu
    exact K_le ⟨Or.inr rfl, Or.inr rfl, Or.inr rfl⟩ (K_next Mon.empty s0 st (ih hu))

end Iodine.C16L
