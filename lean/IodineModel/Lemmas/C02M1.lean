import IodineModel.Lemmas.C02d14
import IodineModel.Lemmas.C02L10
import IodineModel.Lemmas.C02mode
import IodineModel.Lemmas.C02q0
/-
Lazy mode, downstream, for the cycle of `C02down1`.  On the slot: a ping that finds no query held and nothing left to send after
the acknowledgement is HELD (`pingSess_lazy_hold`, `srv_ping_lazy_hold`; with something left it is answered at once as in immediate
mode: `srv_ping_answered`, `C02d1`).  In the client: the answer counting and the bookkeeping of an accepted answer (`hintBook`,
`dropBook`).  On the joint state: `offerS` makes the server start the outpacket AND send its first fragment as the answer to the
held query (`down_offer_lazyD`, over `srvDoes_start` of `C02d9`).  The lemmas speak of `DownSent`/`DownFlight … true`;
`DownFlightL` is what the overlap files hand over (`DownFlightL.toM`).
-/
namespace Iodine.C02L
open Iodine Iodine.Gen Iodine.World

/-! ## server -/
section server
open Iodine.Server

theorem saveQ_self (y : Session) : saveQ y y.q y.lastPkt = y := by
  cases y; rfl

/-- a ping that finds nothing (more) to send is HELD: ack, store the query, no answer -/
theorem pingSess_lazy_hold (x : Session) (u : Nat) (Q : Query) (a b : Int) (now : Nat)
    (hq : x.q.id = 0) (hqs : x.qs.id = 0) (hlz : x.lazy = true) (hoq : x.oqFilled = 0)
    (hlen : (ackSess x a b).outpacket.len = 0) :
    pingSess x u Q a b now = (saveQ (ackSess x a b) Q now, []) := by
  rw [pingSess_noq x u Q a b now hq hqs hoq]
  unfold pingCSess
  have e3 : (saveQ (ackSess x a b) Q now).lazy = x.lazy := by have := core_lazy (ackSess_core x a b hoq); exact this
  have h1 : (saveQ (ackSess x a b) Q now).outpacket.len = 0 := hlen
  exact if_neg (by rw [e3, hlz, h1]; simp)

/-- the answer to the held query `H` is remembered while the client's counters stand still: both memories are aged with
slack 1 again -/
theorem HeldMem.settle {P : Par} (hu : P.u < 16) {x : Session} {H : Query} {k sd : Nat} (h : HeldMem P x H k sd)
    (ans : List Nat) (hans : ans.length ≤ DNSCACHE_ANSWER_SIZE) :
    Aged P (cacheUpd (qmemUpd x H) H ans) k 1 ∧ PAged P (cacheUpd (qmemUpd x H) H ans) sd 1 := by
  rcases h with ⟨k0, a, b, c, d⟩ | ⟨s0, a, b, c, d⟩
  · exact ⟨c.memo H ans hans k0 1 ⟨by omega, by omega⟩ b a.hk0 a.c4 a.len5 (by rw [a.c0]; exact hexLower_ne_p hu),
      d.memo_data hu H ans hans a.len5 a.c0⟩
  · obtain ⟨cp, hcp, hl, hq2, hq3⟩ := a.fp
    exact ⟨c.memo_ping hu H ans hans a.c0 cp hcp hl, d.memo H ans hans s0 1 ⟨by omega, by omega⟩ b a.c0 cp hcp hl hq2 hq3 a.seed⟩

/-- the slot after a ping was HELD -/
structure AfterHold (P : Par) (s s' : Srv) (Q : Query) (a b : Int) : Prop where
  solo : Solo P.u s'
  td : s'.cfg.topdomain = P.td
  cfg : s'.cfg = s.cfg
  now : s'.now = s.now
  slot : getUser s' P.u = saveQ (ackSess { getUser s P.u with qsNew := false } a b) Q s.now

/-- A ping reaches the server in lazy mode while no query is held and the acknowledged outpacket has nothing left: the
ping is stored and HELD; nothing is sent, the memories are untouched. -/
theorem srv_ping_lazy_hold {P : Par} (hP : P.Ok) {s : Srv} (hS : SStat P s)
    (hq : (getUser s P.u).q.id = 0) (hqs : (getUser s P.u).qs.id = 0) (hlz : (getUser s P.u).lazy = true)
    (hoq : (getUser s P.u).oqFilled = 0)
    {Q : Query} {a b : Int} {sd : Nat} (hQ : PingQ P Q a b sd) (hPA : PAged P (getUser s P.u) sd 1)
    (hlen : (ackSess { getUser s P.u with qsNew := false } a b).outpacket.len = 0) :
    ∃ s' evs t, iteration s (.q Q) s.now = (s', evs, t) ∧ downOfEvents evs = [] ∧ tunOfSEvents evs = [] ∧
      AfterHold P s s' Q a b ∧ MemEq (getUser s' P.u) (getUser s P.u) := by
  have hu := hS.solo.lt
  have hit := iteration_ping_noq hP hS hq hqs hQ (by decide) hPA
  generalize hx0 : ({ getUser s P.u with qsNew := false } : Session) = x0 at hit hlen
  have hx0q : x0.q.id = 0 := by subst hx0; exact hq
  have hx0qs : x0.qs.id = 0 := by subst hx0; exact hqs
  have hx0lz : x0.lazy = true := by subst hx0; exact hlz
  have hx0oq : x0.oqFilled = 0 := by subst hx0; exact hoq
  rw [pingSess_lazy_hold x0 P.u Q a b s.now hx0q hx0qs hx0lz hx0oq hlen] at hit
  have hac := ackSess_core x0 a b hx0oq
  have hsm := ackSess_memEq x0 a b hx0oq
  generalize hy : saveQ (ackSess x0 a b) Q s.now = y at hit
  have hyqs : y.qs.id = 0 := by
    subst hy
    show (ackSess x0 a b).qs.id = 0
    have := core_qs hac
    rw [this]; exact hx0qs
  simp only at hit
  rw [sweepSess_noqs hyqs] at hit
  have hg : getUser { putUser s P.u y with now := s.now } P.u = y := by
    rw [getUser_withNow, getUser_putUser_self _ _ _ hu]
  refine ⟨_, _, _, hit, rfl, rfl, ⟨(hS.solo.putUser _).withNow _, hS.td, rfl, rfl, ?_⟩, ?_⟩
  · rw [hg, hx0, hy]
  · rw [hg]
    subst hy; subst hx0
    exact ⟨hsm.q, hsm.ql, hsm.p, hsm.pl, hsm.c, hsm.cl⟩

/-- what a held ping leaves of the static facts, given the outpacket after the ack -/
theorem afterHold_stat {P : Par} {s s' : Srv} {Q : Query} {a b : Int} (hS : SStat P s)
    (hoq : (getUser s P.u).oqFilled = 0) (hap : AfterHold P s s' Q a b)
    (hos : 0 ≤ (ackSess { getUser s P.u with qsNew := false } a b).outpacket.seqno ∧
      (ackSess { getUser s P.u with qsNew := false } a b).outpacket.seqno < 8)
    (hof : 0 ≤ (ackSess { getUser s P.u with qsNew := false } a b).outpacket.fragment ∧
      (ackSess { getUser s P.u with qsNew := false } a b).outpacket.fragment < 16) :
    SStat P s' ∧ (getUser s' P.u).q = Q ∧ (getUser s' P.u).qs = (getUser s P.u).qs ∧
    (getUser s' P.u).lazy = (getUser s P.u).lazy ∧ (getUser s' P.u).oqFilled = 0 ∧
    (getUser s' P.u).fragsize = (getUser s P.u).fragsize ∧ (getUser s' P.u).inpacket = (getUser s P.u).inpacket ∧
    (getUser s' P.u).tunIp = (getUser s P.u).tunIp ∧
    (getUser s' P.u).outpacket = (ackSess { getUser s P.u with qsNew := false } a b).outpacket := by
  generalize hx0 : ({ getUser s P.u with qsNew := false } : Session) = x0 at hap hos hof
  have hslot : getUser s' P.u = saveQ (ackSess x0 a b) Q s.now := by rw [hap.slot, hx0]
  have hx0oq : x0.oqFilled = 0 := by subst hx0; exact hoq
  have hr : rest (getUser s' P.u) = rest x0 := by rw [hslot, rest_saveQ]; exact ackSess_rest x0 a b hx0oq
  have hrx : rest x0 = rest (getUser s P.u) := by subst hx0; rfl
  have hr' := hr.trans hrx
  have hop : (getUser s' P.u).outpacket = (ackSess x0 a b).outpacket := by rw [hslot]; rfl
  refine ⟨⟨hap.solo, hap.td, ?_, ?_, ?_⟩, by rw [hslot]; rfl, rest_qs hr', rest_lazy hr', ?_, rest_fragsize hr', rest_inpacket hr',
    rest_tunIp hr', hop⟩
  · exact hS.x.of_rest hr' (by rw [hop]; exact hos) (by rw [hop]; exact hof)
  · rw [hap.cfg, rest_host hr']; exact hS.host
  · rw [hap.now, hslot]; show s.now < s.now + 60; omega
  · rw [rest_oqFilled hr']; exact hoq

end server

/-! ## client -/
section client
open Iodine.Client

theorem cntOk_book {c : Cli} {d : Nat} (h : CntOk c (d + 1)) (v : Nat) : CntOk { ackBook c with sendPingSoon := v } d :=
  cntOk_answered h (by cases c; rfl) (by cases c; rfl)

theorem book_keeps (c : Cli) (v : Nat) :
    ({ ackBook c with sendPingSoon := v } : Cli).now = c.now ∧ ({ ackBook c with sendPingSoon := v } : Cli).outpkt = c.outpkt ∧
    ({ ackBook c with sendPingSoon := v } : Cli).datacmc = c.datacmc ∧
    ({ ackBook c with sendPingSoon := v } : Cli).randSeed = c.randSeed ∧
    ({ ackBook c with sendPingSoon := v } : Cli).inpkt = c.inpkt := by
  cases c; exact ⟨rfl, rfl, rfl, rfl, rfl⟩

theorem cstatL_hintBook {P : Par} {c : Cli} (hc : CStatL P c) : CStatL P (hintBook c) := by
  rw [hintBook_flat]
  exact (cstatM_recv hc.toM c.inpkt 900 _ hc.iseq hc.ifrag).lazy

theorem hintBook_inpkt (c : Cli) : (hintBook c).inpkt = c.inpkt := by
  cases c; rfl

/-- the bookkeeping of an answer that is a duplicate of a recent packet: counted, `send_ping_soon = 500`, `inpkt` untouched -/
def dropBook (c : Cli) : Cli := { ackBook c with sendPingSoon := 500 }

theorem dropBook_inpkt (c : Cli) : (dropBook c).inpkt = c.inpkt := by
  cases c; rfl

theorem isSending_dropBook (c : Cli) : isSending (dropBook c) = isSending c := by
  cases c; rfl

end client

/-! ## the joint state: `offerS` answers the held query -/

/-- the server conditions of a downstream transfer in lazy mode: no query held (every one was answered with a fragment),
nothing waiting real soon, nothing queued -/
structure PingSrvL (P : Par) (s : Server.Srv) : Prop where
  stat : SStat P s
  q : (Server.getUser s P.u).q.id = 0
  qs : (Server.getUser s P.u).qs.id = 0
  lz : (Server.getUser s P.u).lazy = true
  oq : (Server.getUser s P.u).oqFilled = 0
  res : (Server.getUser s P.u).outfragresent ≤ 1

theorem PingSrvL.noq {P : Par} {s : Server.Srv} (h : PingSrvL P s) : NoQSrv P true s := ⟨h.stat, h.q, h.qs, h.lz, h.oq⟩

/-- no query held in lazy mode: not quiescent -/
theorem quiet_false_noq {P : Par} {w : W} (h : NoQSrv P true w.srv) : quiet P.u w = false := by
  unfold World.quiet
  simp [h.lz, h.q]

/-- Fragment `f` (`D` bytes at offset `o`) of the downstream packet `out` (seqno `sq`) is on its way to the client as the
answer to the client's MOST RECENT query; the client has the `o` bytes before it and its answer counting is in balance; the
server holds no query and has the fragment unacknowledged (or, if the whole packet fitted that one
fragment, has dropped the packet already). -/
structure DownFlightL (P : Par) (out : List Nat) (w : W) (sq : Int) (o D f : Nat) : Prop where
  ph : w.cs.ph = .tunnel
  cst : CStatL P w.cs.c
  cnt : CntOk w.cs.c 1
  idleC : Client.isSending w.cs.c = false
  up : w.up = []
  down : ∃ name pkt, w.down = [.ans w.cs.c.chunkid P.ty name pkt] ∧ Client.notData w.cs.c (name.headD 0) = false ∧
    FragPkt pkt out sq o D f (decide (out.length > 0 ∧ out.length = o + D))
  exp : CExpect w.cs.c out sq o f
  dup : sq = w.cs.c.inpkt.seqno ∨ Client.recentSeqno w.cs.c.inpkt.seqno sq = false
  hsq : 0 ≤ sq ∧ sq < 8
  hD : 0 < D
  hle : o + D ≤ out.length
  srv : PingSrvL P w.srv
  frag : 0 < (Server.getUser w.srv P.u).fragsize
  op : (Server.getUser w.srv P.u).outpacket = ⟨out.length, D, o, out, sq, (f : Int)⟩ ∨
    ((Server.getUser w.srv P.u).outpacket = ⟨0, 0, 0, out, sq, 0⟩ ∧ o = 0 ∧ f = 0 ∧ D = out.length)
  syncu : (Server.getUser w.srv P.u).inpacket.seqno = w.cs.c.outpkt.seqno
  aged : Aged P (Server.getUser w.srv P.u) w.cs.c.datacmc 1
  paged : PAged P (Server.getUser w.srv P.u) w.cs.c.randSeed 1

/-- `offerS` in lazy mode from a quiescent state in which the server's downstream sequence number is `d` ahead of the
client's: the new outpacket gets the number `d + 1` ahead, its first fragment goes out at once as the answer to the held
query -/
theorem down_offer_lazyD {P : Par} (hP : P.Ok) {w : W} {d : Nat} (hq : QuietLazyD P 0 d w) (frame : List Nat)
    (h24 : 24 ≤ frame.length) (hl : frame.length < 65536) (hdst : Server.ipDst frame = (Server.getUser w.srv P.u).tunIp)
    (hF : 0 < (Server.getUser w.srv P.u).fragsize) :
    ∃ D, D = downLen (Server.getUser w.srv P.u).fragsize (0x5a :: frame).length ∧ ∃ w1, step w (.offerS frame) = w1 ∧
      DownSent P true (0x5a :: frame) w1 ((w.cs.c.inpkt.seqno + d + 1) % 8) 0 D 0 ∧
      (Server.getUser w1.srv P.u).outpacket = (if D = (0x5a :: frame).length then ⟨0, 0, 0, 0x5a :: frame, (w.cs.c.inpkt.seqno + d + 1) % 8, 0⟩
        else ⟨(0x5a :: frame).length, D, 0, 0x5a :: frame, (w.cs.c.inpkt.seqno + d + 1) % 8, 0⟩) ∧
      (Server.getUser w1.srv P.u).outfragresent = (if D = (0x5a :: frame).length then 0 else 1) ∧
      w1.tunS = w.tunS ∧ w1.tunC = w.tunC ∧ (Server.getUser w1.srv P.u).tunIp = (Server.getUser w.srv P.u).tunIp ∧
      (Server.getUser w1.srv P.u).fragsize = (Server.getUser w.srv P.u).fragsize ∧ w1.cs = w.cs ∧
      (Server.getUser w1.srv P.u).inpacket = (Server.getUser w.srv P.u).inpacket ∧
      (∀ d ∈ w1.down, ∀ id ty name pkt, d = DownD.ans id ty name pkt →
        (Client.decodeHdr pkt).upSeq = (Server.getUser w.srv P.u).inpacket.seqno ∧
        (Client.decodeHdr pkt).upFrag = (Server.getUser w.srv P.u).inpacket.fragment) ∧
      (Server.topOfLoop w.srv).2.2 = true ∧ SrvDoes w.srv (.tun frame) 0 w1.srv w1.down [] := by
  have hS := hq.srv
  have hu := hS.solo.lt
  have hHB := hq.held
  have hHid := hq.heldid
  have hHM := hq.mem
  obtain ⟨hsel, y, hk, hyop, _, hdo⟩ := srvDoes_start hS hq.idle.out hq.idle.qs hq.oq frame h24 hl hdst
  rw [hq.syncd, seq_succ] at hyop
  have hyq : y.q = (Server.getUser w.srv P.u).q := hk.q
  have hyres : y.outfragresent = 0 := hk.res
  have hyoq : y.oqFilled = 0 := by rw [rest_oqFilled hk.rest]; exact hq.oq
  have hyrest : rest y = rest (Server.getUser w.srv P.u) := hk.rest
  have hylp : y.lastPkt = (Server.getUser w.srv P.u).lastPkt := hk.lastPkt
  have hyfs : y.fragsize = (Server.getUser w.srv P.u).fragsize := rest_fragsize hyrest
  have hyM : HeldMem P y y.q w.cs.c.datacmc w.cs.c.randSeed := by
    rw [hyq]; exact hHM.congr hk.qmd hk.qmdl hk.dc hk.dcl hk.qmp hk.qmpl
  generalize hH : (Server.getUser w.srv P.u).q = H at hHB hHid hyq
  rw [hyq] at hyM
  have hself : saveQ (ackSess y 0 0) H y.lastPkt = y := by
    rw [ackSess_stale y 0 0 (by rw [hyop]), ← hyq, saveQ_self]
  have hZ : (scSess y P.u .q).1.1 = pingZ y P.u H 0 0 y.lastPkt := by
    unfold pingZ; rw [hself]
  obtain ⟨D, hDdef, hzo, hzr, hDpos, hDle, yy, hyev, hyo, hyi⟩ := pingZ_first y P.u H 0 0 y.lastPkt (0x5a :: frame)
    ((w.cs.c.inpkt.seqno + d + 1) % 8) hHB.id2 hyoq hyres hyop (by simp) (by rw [hyfs]; exact hF)
  obtain ⟨hzrest, hzq⟩ := pingZ_rest y P.u H 0 0 y.lastPkt hHB.id2 hyoq
  rw [hself] at hyev
  rw [← hZ] at hzo hzr hzrest hzq
  rw [hyfs] at hDdef
  obtain ⟨y1, pkt', hm1, hpl, hev', _, hm2, _⟩ := scSess_q_shape y P.u (by rw [hyq]; exact hHB.id2) hyoq
  rw [hyq] at hev' hm2
  have hmemo := (hyM.congr hm1.q hm1.ql hm1.c hm1.cl hm1.p hm1.pl).settle hP.hu pkt' hpl
  have hdo := hdo hq.idle.q (by rw [rest_qs (hzrest.trans hyrest)]; exact hq.idle.qs)
  rw [hyev, downOfEvents_writeDns _ _ _ _ hHB.from_, hHid, hHB.ty, tunOfSEvents_writeDns] at hdo
  generalize hz : (scSess y P.u .q).1.1 = z at hdo hzo hzr hzrest hzq hm2
  have hzr' : rest z = rest (Server.getUser w.srv P.u) := hzrest.trans hyrest
  have hzqs : z.qs.id = 0 := by rw [rest_qs hzr']; exact hq.idle.qs
  have hg : Server.getUser { putUser w.srv P.u z with now := w.srv.now } P.u = z := by
    rw [getUser_withNow, getUser_putUser_self _ _ _ hu]
  have hsqr : 0 ≤ (w.cs.c.inpkt.seqno + d + 1) % 8 ∧ (w.cs.c.inpkt.seqno + d + 1) % 8 < 8 := mod8_range _
  have hw1 : step w (.offerS frame) =
      { w with srv := { putUser w.srv P.u z with now := w.srv.now },
               down := [.ans w.cs.c.chunkid P.ty H.name (Server.scPkt yy D)] } := by
    rw [step_offerS_of (by exact hsel) hdo, hq.down]
    simp
  obtain ⟨hfp, hus, huf⟩ := fragPkt_ack yy (Server.getUser w.srv P.u) (0x5a :: frame) ((w.cs.c.inpkt.seqno + d + 1) % 8) 0 D 0 hyo
    (by rw [Nat.zero_add]; exact hDle) hsqr (by decide) (hyi.trans (rest_inpacket hyrest)) hS.x.iseq hS.x.ifrag
  have hzosf : z.outpacket.seqno = (w.cs.c.inpkt.seqno + d + 1) % 8 ∧ z.outpacket.fragment = 0 := by
    rw [hzo]
    by_cases hw : D = (0x5a :: frame).length
    · rw [if_pos hw]; exact ⟨rfl, rfl⟩
    · rw [if_neg hw]; exact ⟨rfl, rfl⟩
  have hstat : SStat P { putUser w.srv P.u z with now := w.srv.now } :=
    hS.put_rest hzr' (by rw [hzosf.1]; exact hsqr) (by rw [hzosf.2]; exact ⟨Int.le_refl 0, show (0 : Int) < 16 by decide⟩)
      (by rw [hzq.2, hylp]; exact hS.live)
  refine ⟨D, hDdef, _, rfl, ?_, ?_, ?_, ?_, ?_, ?_, ?_, ?_, ?_, ?_, hsel, ?_⟩
  · rw [hw1]
    refine ⟨⟨hq.ph, hq.cst.toM, Or.inr hq.cnt, hq.idleC, hq.up, ⟨hstat, ?_, ?_, ?_, ?_⟩, ?_, ?_, ?_, ?_⟩,
      ⟨H.name, Server.scPkt yy D, rfl, ?_, hfp⟩, hsqr, hDpos, by rw [Nat.zero_add]; exact hDle, ?_, ?_⟩
    · show (Server.getUser { putUser w.srv P.u z with now := w.srv.now } P.u).q.id = 0
      rw [hg, hzq.1]
    · show (Server.getUser { putUser w.srv P.u z with now := w.srv.now } P.u).qs.id = 0
      rw [hg]; exact hzqs
    · show (Server.getUser { putUser w.srv P.u z with now := w.srv.now } P.u).lazy = true
      rw [hg, rest_lazy hzr']; exact hq.idle.lazy
    · show (Server.getUser { putUser w.srv P.u z with now := w.srv.now } P.u).oqFilled = 0
      rw [hg, rest_oqFilled hzr']; exact hq.oq
    · show 0 < (Server.getUser { putUser w.srv P.u z with now := w.srv.now } P.u).fragsize
      rw [hg, rest_fragsize hzr']; exact hF
    · show (Server.getUser { putUser w.srv P.u z with now := w.srv.now } P.u).inpacket.seqno = _
      rw [hg, rest_inpacket hzr']
      show (Server.getUser w.srv P.u).inpacket.seqno = w.cs.c.outpkt.seqno
      rw [hq.syncu, mod8_zero hS.x.iseq]
    · show Aged P (Server.getUser { putUser w.srv P.u z with now := w.srv.now } P.u) _ 1
      rw [hg]; exact hmemo.1.congr hm2.q hm2.ql hm2.c hm2.cl
    · show PAged P (Server.getUser { putUser w.srv P.u z with now := w.srv.now } P.u) _ 1
      rw [hg]; exact hmemo.2.congr hm2.p hm2.pl hm2.c hm2.cl
    · rw [headD_eq_getD]
      have := hHM.c0
      rw [hH] at this
      exact notData_held hq.cst.uch _ this
    · show (Server.getUser { putUser w.srv P.u z with now := w.srv.now } P.u).outfragresent ≤ 1
      rw [hg, hzr]
      by_cases hw : D = (0x5a :: frame).length
      · rw [if_pos hw]; exact Nat.zero_le _
      · rw [if_neg hw]; exact Nat.le_refl 1
    · show (Server.getUser { putUser w.srv P.u z with now := w.srv.now } P.u).outpacket = _ ∨ _
      rw [hg, hzo]
      by_cases hw : D = (0x5a :: frame).length
      · rw [if_pos hw]; exact Or.inr ⟨rfl, rfl, rfl, hw⟩
      · rw [if_neg hw]; exact Or.inl rfl
  · rw [hw1]
    show (Server.getUser { putUser w.srv P.u z with now := w.srv.now } P.u).outpacket = _
    rw [hg, hzo]
  · rw [hw1]
    show (Server.getUser { putUser w.srv P.u z with now := w.srv.now } P.u).outfragresent = _
    rw [hg, hzr]
  · rw [hw1]
  · rw [hw1]
  · rw [hw1]
    show (Server.getUser { putUser w.srv P.u z with now := w.srv.now } P.u).tunIp = _
    rw [hg, rest_tunIp hzr']
  · rw [hw1]
    show (Server.getUser { putUser w.srv P.u z with now := w.srv.now } P.u).fragsize = _
    rw [hg, rest_fragsize hzr']
  · rw [hw1]
  · rw [hw1]
    show (Server.getUser { putUser w.srv P.u z with now := w.srv.now } P.u).inpacket = _
    rw [hg, rest_inpacket hzr']
  · -- the header of the answer acknowledges the slot's `inpacket`
    rw [hw1]
    intro d hd id ty name pkt he
    simp only [List.mem_singleton] at hd
    rw [hd] at he
    injection he with _ _ _ hpk
    rw [← hpk]
    exact ⟨hus, huf⟩
  · rw [hw1]
    exact hdo

/-- `offerS` in lazy mode from a synchronised quiescent state: the first fragment of the new packet is the one the client
expects next; the server keeps the packet only if it did not fit that fragment -/
theorem down_offer_lazy {P : Par} (hP : P.Ok) {w : W} (hq : QuietLazy P w) (frame : List Nat)
    (h24 : 24 ≤ frame.length) (hl : frame.length < 65536) (hdst : Server.ipDst frame = (Server.getUser w.srv P.u).tunIp)
    (hF : 0 < (Server.getUser w.srv P.u).fragsize) :
    ∃ w1, step w (.offerS frame) = w1 ∧
      DownFlightL P (0x5a :: frame) w1 ((w.cs.c.inpkt.seqno + 1) % 8) 0
        (downLen (Server.getUser w.srv P.u).fragsize (0x5a :: frame).length) 0 ∧
      w1.tunS = w.tunS ∧ w1.tunC = w.tunC ∧ (Server.getUser w1.srv P.u).tunIp = (Server.getUser w.srv P.u).tunIp ∧
      (Server.getUser w1.srv P.u).fragsize = (Server.getUser w.srv P.u).fragsize ∧ w1.cs = w.cs ∧
      (Server.getUser w1.srv P.u).inpacket = (Server.getUser w.srv P.u).inpacket ∧
      ((Server.getUser w1.srv P.u).outpacket.len ≠ 0 →
        downLen (Server.getUser w.srv P.u).fragsize (0x5a :: frame).length < (0x5a :: frame).length) ∧
      (∀ d ∈ w1.down, ∀ id ty name pkt, d = DownD.ans id ty name pkt →
        (Client.decodeHdr pkt).upSeq = (Server.getUser w.srv P.u).inpacket.seqno ∧
        (Client.decodeHdr pkt).upFrag = (Server.getUser w.srv P.u).inpacket.fragment) ∧
      (Server.topOfLoop w.srv).2.2 = true ∧ SrvDoes w.srv (.tun frame) 0 w1.srv w1.down [] := by
  obtain ⟨D, hD, w1, hw1, h, hopx, _, ht1, ht2, htip1, hfs1, hcs1, hin1, hsrv⟩ :=
    down_offer_lazyD hP (quietLazyD_zero.2 hq) frame h24 hl hdst hF
  have hsq : (w.cs.c.inpkt.seqno + ((0 : Nat) : Int) + 1) % 8 = (w.cs.c.inpkt.seqno + 1) % 8 := by omega
  rw [hsq] at h hopx
  subst hD
  refine ⟨w1, hw1, ⟨h.ph, h.cst.lazy, h.cnt.resolve_left (by decide), h.idleC, h.up, h.down,
      Or.inl ⟨rfl, rfl, 1, Nat.le_refl _, by omega, by rw [hcs1]; rfl⟩, Or.inr ?_, h.sq8, h.pos, h.fits,
      ⟨h.srv.stat, h.srv.q, h.srv.qs, h.srv.lz, h.srv.oq, h.res⟩, h.frag, h.op, h.syncu, h.aged, h.paged⟩,
    ht1, ht2, htip1, hfs1, hcs1, hin1, fun hne => Nat.lt_of_le_of_ne ?_ fun hD => hne ?_, hsrv⟩
  · rw [hcs1]
    exact recentSeqno_next _ hq.cst.iseq
  · have := h.fits
    rw [Nat.zero_add] at this
    exact this
  · rw [hopx, if_pos hD]

/-- `DownFlightL` with the weird situation allowed for the fragment in flight -/
structure DownFlightLW (P : Par) (out : List Nat) (w : W) (sq : Int) (o D f : Nat) : Prop where
  ph : w.cs.ph = .tunnel
  cst : CStatL P w.cs.c
  cnt : CntOk w.cs.c 1
  idleC : Client.isSending w.cs.c = false
  up : w.up = []
  down : ∃ name pkt, w.down = [.ans w.cs.c.chunkid P.ty name pkt] ∧ Client.notData w.cs.c (name.headD 0) = false ∧
    FragPkt pkt out sq o D f (decide (out.length > 0 ∧ out.length = o + D))
  exp : CExpectW w.cs.c out sq o f
  dup : sq = w.cs.c.inpkt.seqno ∨ Client.recentSeqno w.cs.c.inpkt.seqno sq = false
  hsq : 0 ≤ sq ∧ sq < 8
  hD : 0 < D
  hle : o + D ≤ out.length
  srv : PingSrvL P w.srv
  frag : 0 < (Server.getUser w.srv P.u).fragsize
  op : (Server.getUser w.srv P.u).outpacket = ⟨out.length, D, o, out, sq, (f : Int)⟩ ∨
    ((Server.getUser w.srv P.u).outpacket = ⟨0, 0, 0, out, sq, 0⟩ ∧ o = 0 ∧ f = 0 ∧ D = out.length)
  syncu : (Server.getUser w.srv P.u).inpacket.seqno = w.cs.c.outpkt.seqno
  aged : Aged P (Server.getUser w.srv P.u) w.cs.c.datacmc 1
  paged : PAged P (Server.getUser w.srv P.u) w.cs.c.randSeed 1

theorem DownFlightL.toW {P : Par} {out : List Nat} {w : W} {sq : Int} {o D f : Nat} (h : DownFlightL P out w sq o D f) :
    DownFlightLW P out w sq o D f :=
  ⟨h.ph, h.cst, h.cnt, h.idleC, h.up, h.down, h.exp.toW, h.dup, h.hsq, h.hD, h.hle, h.srv, h.frag, h.op, h.syncu, h.aged, h.paged⟩

theorem DownFlightL.toM {P : Par} {out : List Nat} {w : W} {sq : Int} {o D f : Nat} (h : DownFlightL P out w sq o D f) :
    DownFlight P true out w sq o D f :=
  ⟨⟨⟨h.ph, h.cst.toM, Or.inr h.cnt, h.idleC, h.up, h.srv.noq, h.frag, h.syncu, h.aged, h.paged⟩, h.down, h.hsq, h.hD, h.hle,
    h.srv.res, h.op⟩, h.exp.toW, h.dup⟩

end Iodine.C02L
