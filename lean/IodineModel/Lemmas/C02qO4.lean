import IodineModel.Lemmas.C02qO1
import IodineModel.Lemmas.C02qO2
import IodineModel.Lemmas.C02qO3
/-
Overlapping transfers in lazy mode: one ROUND of the product invariant `BothFlightL` (C02qO1): while neither the upstream
fragment `fu` nor the downstream fragment `fd` in flight is the last one of its packet, four steps of the prompt scheduler advance
BOTH transfers by one fragment.  (1) The server stores `fu` and, holding no query, answers the data query at once with a DUPLICATE
of `fd` whose header acknowledges `fu` (`BothFlightL.step_up`: also the first step of every ending in which `fd` is not the whole
packet); (2) the client appends the first copy of `fd`, whose upstream ack is stale, and pings at once; (3) the ping acknowledges
`fd`, the server answers it with fragment `fd + 1` (`both_mid_steps`); (4) the client drops the duplicate of `fd`, takes its
upstream ack and sends fragment `fu + 1`.
-/
namespace Iodine.C02L
open Iodine Iodine.Gen Iodine.World

/-- server side of step 3: a ping that acknowledges the downstream fragment `fd` in flight (not the last one) arrives while
the server holds no query: the next fragment goes out at once as its answer, the header still acknowledging what the
server has of the upstream packet -/
theorem srv_ping_next_noq {P : Par} (hP : P.Ok) {s : Server.Srv} (hn : NoQSrv P true s)
    (hres : (Server.getUser s P.u).outfragresent ≤ 5)
    {outD : List Nat} {sq : Int} {od D fd : Nat}
    (hop : (Server.getUser s P.u).outpacket = ⟨outD.length, D, od, outD, sq, (fd : Int)⟩)
    (hD : 0 < D) (hltD : od + D < outD.length) (hF : 0 < (Server.getUser s P.u).fragsize)
    (hsq : 0 ≤ sq ∧ sq < 8) (hfd : fd + 1 < 16)
    {Q : Server.Query} {sd k : Nat} (hpq : PingQ P Q sq (fd : Int) sd)
    (hA : Aged P (Server.getUser s P.u) k 1) (hPA : PAged P (Server.getUser s P.u) sd 1) :
    ∃ s' evs t pkt D', Server.iteration s (.q Q) s.now = (s', evs, t) ∧
      downOfEvents evs = [.ans Q.id Q.type Q.name pkt] ∧ tunOfSEvents evs = [] ∧
      D' = downLen (Server.getUser s P.u).fragsize (outD.length - (od + D)) ∧ 0 < D' ∧ od + D + D' ≤ outD.length ∧
      PingSrvL P s' ∧
      (Server.getUser s' P.u).outpacket = ⟨outD.length, D', od + D, outD, sq, ((fd + 1 : Nat) : Int)⟩ ∧
      FragPkt pkt outD sq (od + D) D' (fd + 1) (decide (outD.length > 0 ∧ outD.length = od + D + D')) ∧
      (Client.decodeHdr pkt).upSeq = (Server.getUser s P.u).inpacket.seqno ∧
      (Client.decodeHdr pkt).upFrag = (Server.getUser s P.u).inpacket.fragment ∧
      (Server.getUser s' P.u).inpacket = (Server.getUser s P.u).inpacket ∧
      (Server.getUser s' P.u).tunIp = (Server.getUser s P.u).tunIp ∧
      (Server.getUser s' P.u).fragsize = (Server.getUser s P.u).fragsize ∧
      Aged P (Server.getUser s' P.u) k 1 ∧ PAged P (Server.getUser s' P.u) ((sd + 1) % 65536) 1 := by
  generalize hx0 : ({ Server.getUser s P.u with qsNew := false } : Server.Session) = x0
  have hx0op : x0.outpacket = ⟨outD.length, D, od, outD, sq, (fd : Int)⟩ := by subst hx0; exact hop
  have hack := ackSess_advance x0 sq fd (by rw [hx0op]; show outD.length ≠ 0; omega) (by rw [hx0op]) (by rw [hx0op])
    (by rw [hx0op]; show D ≠ 0; omega) (by rw [hx0op]; exact hltD)
  obtain ⟨s2, evs2, t2, pkt2, hit2, hdown2, htun2, hap, hA2, hPA2⟩ :=
    srv_ping_answered hP hn.stat hn.q hn.qs (Or.inr (by rw [hx0, hack, hx0op]; show 0 < outD.length; omega)) hn.oq hpq (Nat.le_refl 1)
      (by omega) hA hPA
  -- what the acknowledgement does: the next fragment, header acknowledging the server's reassembly buffer (`afterPing_next`, C02down1)
  obtain ⟨D', hDdef, hDpos, hDle, hfp2, hzo, hzr, hps, hk, hus, huf⟩ :=
    afterPing_next hn hpq.id2 hap hop hres hD hltD hF hfd hsq
  exact ⟨s2, evs2, t2, pkt2, D', hit2, hdown2, htun2, hDdef, hDpos, hDle,
    ⟨hps.stat, hps.q, hps.qs, hps.lz, hps.oq, by rw [hzr]; omega⟩, hzo, hfp2, hus, huf,
    hk.inpacket, hk.tunIp, hk.fragsize, hA2, hPA2⟩

/-- The joint state two scheduler steps after the server has answered the data query `id1` (answer `pkt1`, a duplicate of the
downstream fragment `fd`, not the last one, whose header acknowledges the upstream fragment of `c0` in flight): the client
(`c4`) has appended the first copy of `fd` and pinged at once; the server (`s1` before the ping) has answered the ping with
fragment `fd + 1`.  The duplicate `pkt1` is at the head of the downstream queue. -/
structure BothPingedL (P : Par) (outD : List Nat) (w : W) (c0 c4 : Client.Cli) (s1 : Server.Srv) (id1 : Nat)
    (name pkt1 : List Nat) (sq : Int) (od D fd D' : Nat) : Prop where
  cs : w.cs = ⟨c4, .tunnel⟩
  up : w.up = []
  recv : RecvPrevL P c4 ⟨(pkt1.length : Int), id1, answerType P.ty, 0, name.headD 0, pkt1⟩ pkt1
  cnt : CntOk c4 2
  inpkt : c4.inpkt = inAfter (ackBook { sentStateL c0 with sendPingSoon := 0 }) outD sq od D fd
  outpkt : c4.outpkt = ({ sentStateL c0 with sendPingSoon := 0 } : Client.Cli).outpkt
  cmc : c4.datacmc = (c0.datacmc + 1) % 36
  seed : c4.randSeed = (c0.randSeed + 1) % 65536
  down : ∃ name' pkt2, w.down = [.ans id1 P.ty name pkt1, .ans c4.chunkid P.ty name' pkt2] ∧ name'.getD 0 0 = 112 ∧
    FragPkt pkt2 outD sq (od + D) D' (fd + 1) (decide (outD.length > 0 ∧ outD.length = od + D + D')) ∧
    (Client.decodeHdr pkt2).upSeq = (Server.getUser s1 P.u).inpacket.seqno ∧
    (Client.decodeHdr pkt2).upFrag = (Server.getUser s1 P.u).inpacket.fragment
  hDdef : D' = downLen (Server.getUser s1 P.u).fragsize (outD.length - (od + D))
  hD : 0 < D'
  hle : od + D + D' ≤ outD.length
  srv : PingSrvL P w.srv
  op : (Server.getUser w.srv P.u).outpacket = ⟨outD.length, D', od + D, outD, sq, ((fd + 1 : Nat) : Int)⟩
  inp : (Server.getUser w.srv P.u).inpacket = (Server.getUser s1 P.u).inpacket
  tunIp : (Server.getUser w.srv P.u).tunIp = (Server.getUser s1 P.u).tunIp
  fragsize : (Server.getUser w.srv P.u).fragsize = (Server.getUser s1 P.u).fragsize
  aged : Aged P (Server.getUser w.srv P.u) ((c0.datacmc + 1) % 36) 1
  paged : PAged P (Server.getUser w.srv P.u) ((c0.randSeed + 1) % 65536) 1

/-- steps 2 and 3 of a round in which the downstream fragment in flight is not the last one: the client appends the first
copy and pings at once (`cliDoes_mid_prev`); the ping acknowledges `fd`, the server answers it with fragment `fd + 1`
(`srv_ping_next_noq`) -/
theorem both_mid_steps {P : Par} (hP : P.Ok) {outU outD : List Nat} {w2 : W} {c0 : Client.Cli} {ou fu : Nat} {sq : Int}
    {od D fd : Nat} (hr : CReadyL P c0 outU ou fu)
    (hcs : w2.cs = ⟨{ sentStateL c0 with sendPingSoon := 0 }, .tunnel⟩) (hup : w2.up = [])
    {dname pkt name pkt1 : List Nat} {id1 : Nat}
    (hdown : w2.down = [.ans c0.chunkid P.ty dname pkt, .ans id1 P.ty name pkt1])
    (hid1 : id1 = (sentState c0).chunkid) (hname : name.getD 0 0 = hexLower P.u)
    (hnd : Client.notData c0 (dname.headD 0) = false) (hfl : FragPkt pkt outD sq od D fd false) (hD : 0 < D)
    (hdup : sq = c0.inpkt.seqno ∨ Client.recentSeqno c0.inpkt.seqno sq = false)
    (hE : CExpect c0 outD sq od fd) (hsq : 0 ≤ sq ∧ sq < 8) (hfd : fd + 1 < 16) (hltD : od + D < outD.length)
    (h64 : outD.length ≤ 65536)
    (hstale : ¬ ((Client.decodeHdr pkt).upSeq = c0.outpkt.seqno ∧ (Client.decodeHdr pkt).upFrag = (fu : Int)))
    (hn1 : NoQSrv P true w2.srv) (hres1 : (Server.getUser w2.srv P.u).outfragresent ≤ 5)
    (hop1 : (Server.getUser w2.srv P.u).outpacket = ⟨outD.length, D, od, outD, sq, (fd : Int)⟩)
    (hF : 0 < (Server.getUser w2.srv P.u).fragsize)
    (hA1 : Aged P (Server.getUser w2.srv P.u) ((c0.datacmc + 1) % 36) 1)
    (hPA1 : PAged P (Server.getUser w2.srv P.u) c0.randSeed 1) :
    ∃ w4 c4 D', promptSteps P.u 2 w2 = some w4 ∧ BothPingedL P outD w4 c0 c4 w2.srv id1 name pkt1 sq od D fd D' ∧
      w4.tunS = w2.tunS ∧ w4.tunC = w2.tunC := by
  obtain ⟨cs, srv, up, down, tC, tS⟩ := w2
  obtain rfl : cs = ⟨{ sentStateL c0 with sendPingSoon := 0 }, .tunnel⟩ := hcs
  obtain rfl : up = [] := hup
  obtain rfl : down = [.ans c0.chunkid P.ty dname pkt, .ans id1 P.ty name pkt1] := hdown
  obtain ⟨name', hcli, hpq⟩ := cliDoes_mid_prev hP hr (dname := dname) hnd hfl hD hdup hE hsq (by omega) (by omega) h64 hstale
  have hsf := sentFactsL c0
  have hsi := sentIdsL c0
  have hcst := cstat_sentL hr
  have hcnt2 : CntOk { sentStateL c0 with sendPingSoon := 0 } 2 := hsi.cnt hr.cnt
  generalize hc : ({ sentStateL c0 with sendPingSoon := 0 } : Client.Cli) = c at hsf hsi hcst hcnt2 hcli hpq ⊢
  have hc3st := cstatL_midState hcst outD od D hsq (f := fd) (by omega)
  have hc3cnt : CntOk (midState c outD sq od D fd) 1 := (ackBook_cnt c hcnt2).congr rfl rfl
  have hc3bf := midState_bookFacts c outD sq od D fd
  have hc3out := midState_outpkt c outD sq od D fd
  have hc3in : (midState c outD sq od D fd).inpkt = inAfter (ackBook c) outD sq od D fd := by unfold midState; rfl
  generalize midState c outD sq od D fd = c3 at hcli hpq hc3st hc3cnt hc3bf hc3out hc3in
  have hpf := pingFactsL c3
  have hids := pingStateL_ids c3
  have hc4st := (cstatM_pingStateL hc3st.toM).lazy
  have hc4cnt : CntOk (pingStateL c3) 2 := hids.2.2 1 hc3cnt
  generalize pingStateL c3 = c4 at hcli hpq hpf hids hc4st hc4cnt
  obtain ⟨s2, evs2, t2, pkt2, D', hit2, hdown2, htun2, hDdef, hDpos, hDle, hps2, hzo, hfp2, hh1, hh2, hin2, htip2, hfrs2, hA2, hPA2⟩ :=
    srv_ping_next_noq hP hn1 hres1 hop1 hD hltD hF hsq hfd hpq hA1 hPA1
  simp only [upQuery] at hdown2
  have hcid : c3.chunkid = id1 := by rw [hid1, hc3bf.cid, hsi.cid]
  refine ⟨⟨⟨c4, .tunnel⟩, s2, [], [.ans id1 P.ty name pkt1, .ans c4.chunkid P.ty name' pkt2], tC, tS⟩, c4, D', ?_,
    ⟨rfl, rfl, ⟨hc4st, hpf.sps, ?_, rfl, rfl, ?_, ?_⟩, hc4cnt, (hpf.inpkt.trans hc3in).trans (by rw [hc]),
      (hpf.outpkt.trans hc3out).trans (by rw [hc]), ?_, ?_,
      ⟨name', pkt2, rfl, hpq.c0, hfp2, hh1, hh2⟩, hDdef, hDpos, hDle, hps2, hzo, hin2, htip2, hfrs2, hA2, hPA2⟩, rfl, rfl⟩
  · rw [ps_down0 hcli (hpf.now.trans hc3bf.now), ps_up (SrvDoes.mk hit2 hdown2 htun2)]
    simp only [promptSteps, List.append_nil, List.cons_append, List.nil_append]
  · show Client.notData c4 (name.headD 0) = false
    rw [headD_eq_getD]
    exact notData_held hc4st.uch _ (Or.inl hname)
  · show Client.recentId c4 id1 = true
    unfold Client.recentId
    rw [hids.1, hcid]; simp
  · show id1 ≠ c4.chunkid
    rw [← hcid]
    exact fun e => hids.2.1 hc3st.cid e.symm
  · rw [hpf.datacmc, hc3bf.cmc, hsf.cmc36 hr.stat.cmc]
  · rw [hpf.seed, hc3bf.seed, hsf.seed]

/-- What the first scheduler step does from `BothFlightL` while the server (`s` before, `s1` after) has the downstream fragment in
flight unacknowledged: it stores the upstream fragment and, holding no query, answers the data query (`name`) at once with a
DUPLICATE `pkt1` of the downstream fragment, whose header acknowledges the upstream fragment.  `dname`, `pkt`: the first copy,
still on its way to the client. -/
structure DupAnsweredL (P : Par) (outU outD : List Nat) (c0 : Client.Cli) (ou fu : Nat) (sq : Int) (od D fd : Nat)
    (s s1 : Server.Srv) (dname pkt name pkt1 : List Nat) : Prop where
  nd : Client.notData c0 (dname.headD 0) = false
  fp : FragPkt pkt outD sq od D fd (decide (outD.length > 0 ∧ outD.length = od + D))
  stale : ¬ ((Client.decodeHdr pkt).upSeq = c0.outpkt.seqno ∧ (Client.decodeHdr pkt).upFrag = (fu : Int))
  name0 : name.getD 0 0 = hexLower P.u
  srv : NoQSrv P true s1
  kept : Kept (Server.getUser s1 P.u) (Server.getUser s P.u)
  res : (Server.getUser s1 P.u).outfragresent = (Server.getUser s P.u).outfragresent + 1
  op : (Server.getUser s P.u).outpacket = ⟨outD.length, D, od, outD, sq, (fd : Int)⟩
  iseq : (Server.getUser s1 P.u).inpacket.seqno = c0.outpkt.seqno
  ifrag : (Server.getUser s1 P.u).inpacket.fragment = (fu : Int)
  expect : ou + fragLen P (outU.drop ou) < outU.length →
    Expect (Server.getUser s1 P.u) outU c0.outpkt.seqno.toNat (ou + fragLen P (outU.drop ou)) (fu + 1)
  fp1 : FragPkt pkt1 outD sq od D fd (decide (outD.length > 0 ∧ outD.length = od + D))
  us1 : (Client.decodeHdr pkt1).upSeq = ((c0.outpkt.seqno.toNat : Nat) : Int)
  uf1 : (Client.decodeHdr pkt1).upFrag = (fu : Int)
  aged : Aged P (Server.getUser s1 P.u) ((c0.datacmc + 1) % 36) 1
  paged : PAged P (Server.getUser s1 P.u) c0.randSeed 1

/-- **step 1** (`deliverUp`) of every case in which the downstream fragment in flight is not the whole packet; `last`: the upstream
fragment completes its packet, whose frame the server then writes to its tun device (`srv_recv_noq_out`) -/
theorem BothFlightL.step_up {P : Par} (hP : P.Ok) {outU outD : List Nat} {w : W} {c0 : Client.Cli} {ou fu : Nat} {sq : Int}
    {od D fd : Nat} (h : BothFlightL P outU outD w c0 ou fu sq od D fd) (hne : od ≠ 0 ∨ fd ≠ 0 ∨ D ≠ outD.length)
    (hfd : fd < 16) (h64u : outU.length ≤ 65536) {last : Bool}
    (hlast : (fragLen P (outU.drop ou) == outU.length - ou) = last) (frame : List Nat)
    (hl : last = true → outU = 0x5a :: frame ∧ 24 ≤ frame.length ∧ Server.ipDst frame ≠ (Server.getUser w.srv P.u).tunIp) :
    ∃ s1 dname pkt name pkt1,
      promptSteps P.u 1 w = some ⟨⟨{ sentStateL c0 with sendPingSoon := 0 }, .tunnel⟩, s1, [],
        [.ans c0.chunkid P.ty dname pkt, .ans (sentState c0).chunkid P.ty name pkt1], w.tunC,
        cond last (w.tunS ++ [[0, 0, 8, 0] ++ frame.drop 4]) w.tunS⟩ ∧
      DupAnsweredL P outU outD c0 ou fu sq od D fd w.srv s1 dname pkt name pkt1 := by
  obtain ⟨cs, srv, up, down, tC, tS⟩ := w
  obtain ⟨dname, pkt, hdn, hnd, hfp, hst⟩ := h.down
  obtain rfl : down = [.ans c0.chunkid P.ty dname pkt] := hdn
  obtain ⟨name, rfl, rfl, -, -, hm2, hQ⟩ := h.sent.query hP
  have hsqn : c0.outpkt.seqno.toNat < 8 := by have := h.ready.stat.oseq; omega
  have hsqc : ((c0.outpkt.seqno.toNat : Nat) : Int) = c0.outpkt.seqno := by have := h.ready.stat.oseq; omega
  have hop := h.op_part hne
  have hmlast : last = true → ou + fragLen P (outU.drop ou) = outU.length := by
    intro e; rw [← hlast, beq_iff_eq] at e; omega
  rw [hlast] at hQ
  obtain ⟨s1, evs1, t1, pkt1, hit1, hdown1, htun1, hn1, hk1, hres1, ⟨hi1, hf1, hE1⟩, -, hfp1, hus1, huf1, hA1, hPA1⟩ :=
    srv_recv_noq_out hP h.srv hop.1 h.hD h.hDdef h.hle hop.2 hfd h.hsq h.ready.stat.cmc h.aged h.paged hQ h.stale
      h.expect hsqn h.ready.hf hm2 h64u frame (fun e => ⟨hmlast e, hl e⟩)
  simp only [upQuery] at hdown1
  refine ⟨s1, dname, pkt, name, pkt1, ?_, hnd, hfp, hst, hQ.c0, hn1, hk1, hres1, hop.1, by rw [hi1, hsqc], hf1, fun hlt => hE1 ?_,
    hfp1, hus1, huf1, hA1, hPA1⟩
  · rw [ps_up (SrvDoes.mk hit1 hdown1 htun1)]
    cases last
    · exact congrArg (fun t => some (W.mk _ _ _ _ _ t)) (List.append_nil tS)
    · rfl
  · rw [← hlast, beq_eq_false_iff_ne]; omega

/-- One round: neither fragment in flight is the last one of its packet; four scheduler steps later each transfer is one fragment
on and the invariant holds again. -/
theorem both_round_lazy {P : Par} (hP : P.Ok) {outU outD : List Nat} {w : W} {c0 : Client.Cli} {ou fu : Nat} {sq : Int} {od D fd : Nat}
    (h : BothFlightL P outU outD w c0 ou fu sq od D fd) (h64u : outU.length ≤ 65536) (h64d : outD.length ≤ 65536)
    (hltU : ou + fragLen P (outU.drop ou) < outU.length) (hfu : fu + 1 < 16)
    (hltD : od + D < outD.length) (hfd : fd + 1 < 16) :
    ∃ w' c0', promptSteps P.u 4 w = some w' ∧
      BothFlightL P outU outD w' c0' (ou + fragLen P (outU.drop ou)) (fu + 1) sq (od + D)
        (downLen (Server.getUser w.srv P.u).fragsize (outD.length - (od + D))) (fd + 1) ∧
      w'.tunS = w.tunS ∧ w'.tunC = w.tunC ∧ c0'.outpkt.seqno = c0.outpkt.seqno ∧
      (Server.getUser w'.srv P.u).tunIp = (Server.getUser w.srv P.u).tunIp ∧
      (Server.getUser w'.srv P.u).fragsize = (Server.getUser w.srv P.u).fragsize := by
  have hsf := sentFactsL c0
  have hsqr := h.hsq
  have hDpos0 := h.hD
  obtain ⟨s1, dname, pkt, name, pkt1, hs1, hT⟩ := h.step_up hP (Or.inr (Or.inr (by omega))) (by omega) h64u (last := false)
    (by rw [beq_eq_false_iff_ne]; omega) [] (fun e => nomatch e)
  replace hs1 : promptSteps P.u 1 w = some ⟨⟨{ sentStateL c0 with sendPingSoon := 0 }, .tunnel⟩, s1, [],
    [.ans c0.chunkid P.ty dname pkt, .ans (sentState c0).chunkid P.ty name pkt1], w.tunC, w.tunS⟩ := hs1
  have hE1 := hT.expect hltU
  have hdec : decide (outD.length > 0 ∧ outD.length = od + D) = false := by rw [decide_eq_false_iff_not]; omega
  have hfl : FragPkt pkt outD sq od D fd false := hdec ▸ hT.fp
  have hfp1' : FragPkt pkt1 outD sq od D fd false := hdec ▸ hT.fp1
  obtain ⟨w4, c4, D', hsteps, hB, htS4, htC4⟩ := both_mid_steps hP h.ready
    (w2 := ⟨⟨{ sentStateL c0 with sendPingSoon := 0 }, .tunnel⟩, s1, [],
      [.ans c0.chunkid P.ty dname pkt, .ans (sentState c0).chunkid P.ty name pkt1], w.tunC, w.tunS⟩)
    rfl rfl rfl rfl hT.name0 hT.nd hfl h.hD h.dup h.exp h.hsq hfd hltD h64d hT.stale hT.srv
    (Nat.le_trans (Nat.le_of_eq hT.res) (Nat.succ_le_succ (Nat.le_trans h.srv.res (by decide : 1 ≤ 4))))
    (hT.kept.outpacket.trans hT.op) (by show 0 < (Server.getUser s1 P.u).fragsize; rw [hT.kept.fragsize]; exact h.frag)
    hT.aged hT.paged
  obtain ⟨cs4, srv4, up4, down4, tC4, tS4⟩ := w4
  obtain ⟨name', pkt2, hw4down, hn0, hfp2, hh1, hh2⟩ := hB.down
  obtain rfl : cs4 = ⟨c4, .tunnel⟩ := hB.cs
  obtain rfl : up4 = [] := hB.up
  obtain rfl : down4 = [.ans (sentState c0).chunkid P.ty name pkt1, .ans c4.chunkid P.ty name' pkt2] := hw4down
  obtain rfl : tS4 = w.tunS := htS4
  obtain rfl : tC4 = w.tunC := htC4
  obtain ⟨hmore, hready'⟩ := acked_next (b := { ackBook c4 with sendPingSoon := 500 }) h.ready hsf
    (cstatL_sps (cstat_ackBookL hB.recv.cst) 500) (cntOk_book hB.cnt 500) ((ackBook_outpkt c4).trans hB.outpkt)
    hT.us1 hT.uf1 hltU hfu [] false (pkt1.length : Int)
  have hdupn := (tunnelDns_dup_prev hB.recv (by rw [hfp1'.len]; omega) hfp1'.notbad
    (by rw [hfp1'.hdr.1, hB.inpkt]; rfl) (by rw [hfp1'.hdr.2.1, hB.inpkt]; show (fd : Int) ≤ (fd : Int); omega)
    (by rw [hB.inpkt]; show od + D ≠ 0; omega)).trans hmore
  have hbf : BookFacts c4 (ackNext { ackBook c4 with sendPingSoon := 500 }) := ((BookFacts.refl c4).ackBook.sps 500).ackNext
  have hc0in : (ackNext { ackBook c4 with sendPingSoon := 500 }).inpkt =
      inAfter (ackBook { sentStateL c0 with sendPingSoon := 0 }) outD sq od D fd :=
    ((ackNext_inpkt _).trans (ackBook_inpkt c4)).trans hB.inpkt
  generalize ackNext { ackBook c4 with sendPingSoon := 500 } = c0' at hdupn hbf hready' hc0in
  have hcli := cliDoes_next hP hB.recv.cst (id := (sentState c0).chunkid) (ty := P.ty) (name := name) hdupn hready'
  have hc0sq : c0'.outpkt.seqno = c0.outpkt.seqno := by rw [hbf.oseq, hB.outpkt]; exact hsf.oseq
  have hfrs4 : (Server.getUser srv4 P.u).fragsize = (Server.getUser w.srv P.u).fragsize := hB.fragsize.trans hT.kept.fragsize
  have hle' := hB.hle
  refine ⟨⟨⟨{ sentStateL c0' with sendPingSoon := 0 }, .tunnel⟩, srv4, upOfEvents (Client.sendChunk c0').evs,
      [.ans c4.chunkid P.ty name' pkt2], w.tunC, w.tunS⟩, c0', ?_, ?_, rfl, rfl, hc0sq, hB.tunIp.trans hT.kept.tunIp, hfrs4⟩
  · rw [show (4 : Nat) = 1 + 3 from rfl, promptSteps_add P.u 1 3 _ _ hs1, show (3 : Nat) = 2 + 1 from rfl,
      promptSteps_add P.u 2 1 _ _ hsteps, ps_down0 hcli ((sentFactsL c0').now.trans hbf.now)]
    simp only [promptSteps, List.append_nil]
  · rw [← hT.kept.fragsize, ← hB.hDdef]
    refine ⟨rfl, hready', rfl, rfl, ⟨name', pkt2, by rw [hbf.cid], ?_, hfp2, ?_⟩, ?_, ?_, hsqr, hB.hD, hB.hle, hB.srv, ?_, ?_,
      Or.inl ⟨hB.op, by omega⟩, ?_, ?_, ?_⟩
    · show Client.notData c0' (name'.headD 0) = false
      rw [headD_eq_getD, hn0]; simp [Client.notData]
    · intro hc
      rw [hh2, hT.ifrag] at hc
      omega
    · show CExpect c0' outD sq (od + D) (fd + 1)
      right
      rw [hc0in]
      refine ⟨by omega, rfl, by show ((fd : Nat) : Int) = ((fd + 1 : Nat) : Int) - 1; omega, rfl, ?_⟩
      show (outD.take (od + D)).take (od + D) = _
      rw [List.take_take, Nat.min_self]
    · left
      rw [hc0in]; rfl
    · show 0 < (Server.getUser srv4 P.u).fragsize
      rw [hfrs4]; exact h.frag
    · show D' = downLen (Server.getUser srv4 P.u).fragsize _
      rw [hB.fragsize]; exact hB.hDdef
    · show Expect (Server.getUser srv4 P.u) outU c0'.outpkt.seqno.toNat (ou + fragLen P (outU.drop ou)) (fu + 1)
      rw [hc0sq]
      have := hE1
      unfold Expect at *
      rw [hB.inp]; exact this
    · show Aged P (Server.getUser srv4 P.u) c0'.datacmc 1
      rw [hbf.cmc, hB.cmc]; exact hB.aged
    · show PAged P (Server.getUser srv4 P.u) c0'.randSeed 1
      rw [hbf.seed, hB.seed]; exact hB.paged

#print axioms both_round_lazy

end Iodine.C02L
