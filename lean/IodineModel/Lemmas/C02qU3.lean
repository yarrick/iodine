import IodineModel.Lemmas.C02v8
import IodineModel.Lemmas.C02f
/-
Upstream, immediate mode, desynchronised: the two joint states of one round of a packet that falls into the server's window,
with the freshness slacks as parameters (`UpStuckS`: the fragment is in flight; `WaitingS`: the client has read the answer that did
not acknowledge it and waits for its timer).  No lemma is stated over them: for both modes these states are `InFlight` with `Dup`
and `Bounced` (C02up5).
-/
namespace Iodine.C02L
open Iodine Iodine.Gen Iodine.World

/-- fragment 0 of the upstream packet `out` is in flight towards a server in whose duplicate window it falls, and whose own
numbers will not be mistaken for its acknowledgement -/
structure UpStuckS (P : Par) (sl sp : Nat) (out : List Nat) (w : W) (c0 : Client.Cli) : Prop where
  core : SentCore P out w c0 0 0
  win : Dup (Server.getUser w.srv P.u).inpacket c0.outpkt.seqno.toNat 0
  nack : ¬ ((Server.getUser w.srv P.u).inpacket.seqno = c0.outpkt.seqno ∧ (Server.getUser w.srv P.u).inpacket.fragment = 0)
  syncd : (Server.getUser w.srv P.u).outpacket.seqno = c0.inpkt.seqno
  aged : Aged P (Server.getUser w.srv P.u) c0.datacmc sl
  paged : PAged P (Server.getUser w.srv P.u) c0.randSeed sp

abbrev UpStuck (P : Par) (out : List Nat) (w : W) (c0 : Client.Cli) : Prop := UpStuckS P 1 1 out w c0

/-- the client after the non-matching answer: still sending the same chunk; its clock is `now`, its session refreshed -/
structure WaitingS (P : Par) (sl sp : Nat) (out : List Nat) (w : W) (c0 : Client.Cli) : Prop where
  ph : w.cs.ph = .tunnel
  cst : CStat P w.cs.c
  cli : w.cs.c = ackBook { sentState c0 with sendPingSoon := 0 }
  ready : CReady P c0 out 0 0
  up : w.up = []
  down : w.down = []
  srv : SStat P w.srv
  last : (Server.getUser w.srv P.u).lastPkt = w.srv.now
  idle : IdleImm (Server.getUser w.srv P.u)
  oq : (Server.getUser w.srv P.u).oqFilled = 0
  win : Dup (Server.getUser w.srv P.u).inpacket c0.outpkt.seqno.toNat 0
  nack : ¬ ((Server.getUser w.srv P.u).inpacket.seqno = c0.outpkt.seqno ∧ (Server.getUser w.srv P.u).inpacket.fragment = 0)
  syncd : (Server.getUser w.srv P.u).outpacket.seqno = c0.inpkt.seqno
  aged : Aged P (Server.getUser w.srv P.u) ((c0.datacmc + 1) % 36) sl
  paged : PAged P (Server.getUser w.srv P.u) c0.randSeed sp

abbrev Waiting (P : Par) (out : List Nat) (w : W) (c0 : Client.Cli) : Prop := WaitingS P 1 1 out w c0

end Iodine.C02L
