import IodineModel.Lemmas.C02s1
import IodineModel.Lemmas.SrvC04c
/-
Component lemmas of the SERVER model, each for ALL states: tun read gating (`topOfLoop`, `dispatch`, `tunnelTun`); the drop
of the outpacket after more than 5 unacknowledged sends (`scDropResent`, `sendChunkOrDataless`), argued on the slot
(`dropResent`, `scSess`); ack handling (`processDownstreamAck`); the 60 s expiry (`checkUserAndIp`, `live`,
`findAvailableUser`); the server serves the next packet after a drop.
-/
namespace Iodine.C02L
open Iodine Iodine.Server

@[simp] theorem setUser_rand (s : Srv) (u : Nat) (f : Session → Session) : (setUser s u f).rand = s.rand := rfl
@[simp] theorem setUser_fw (s : Srv) (u : Nat) (f : Session → Session) : (setUser s u f).fw = s.fw := rfl

theorem putUser_oob (s : Srv) (u : Nat) (x : Session) (h : s.users.length ≤ u) : putUser s u x = s :=
  C16L.setUser_oob s u _ h

theorem setUser_id (s : Srv) (u : Nat) (f : Session → Session) (h : f (getUser s u) = getUser s u) :
    setUser s u f = s :=
  C04L.setUser_id s u f h

theorem putUser_injective (s : Srv) (u : Nat) (x y : Session) (h : u < s.users.length)
    (e : putUser s u x = putUser s u y) : x = y := by
  have := congrArg (fun t => getUser t u) e
  simpa [getUser_putUser_self, h] using this

theorem any_clearNewFrom (now c : Nat) (P : Session → Bool) (hP : ∀ x, P { x with qsNew := false } = P x) :
    ∀ (l : List Session) (i : Nat), (clearNewFrom now c l i).any P = l.any P := by
  intro l
  induction l with
  | nil => intro i; rfl
  | cons x xs ih =>
    intro i
    simp only [clearNewFrom, List.any_cons, ih]
    split
    · rw [hP]
    · rfl

theorem topOfLoop_cfg (s : Srv) : (topOfLoop s).1.cfg = s.cfg := rfl
theorem topOfLoop_now (s : Srv) : (topOfLoop s).1.now = s.now := rfl
theorem topOfLoop_length (s : Srv) : (topOfLoop s).1.users.length = s.users.length :=
  length_clearNewFrom _ _ _ _

/-- `tun_fd` is put into the read set iff not all users are waiting to send (definitional) -/
theorem topOfLoop_tunsel (s : Srv) : (topOfLoop s).2.2 = !allUsersWaitingToSend (topOfLoop s).1 := rfl

/-- readable form: the tun device is read iff some live user could take a packet:
a raw-mode user, or a DNS-mode user whose outpacket queue is empty -/
theorem topOfLoop_tunsel_iff (s : Srv) :
    (topOfLoop s).2.2 = true ↔
      ∃ x ∈ s.users, live x s.now = true ∧ (x.conn = .rawUdp ∨ (x.conn = .dnsNull ∧ x.oqFilled = 0)) := by
  show (!allUsersWaitingToSend (topOfLoop s).1) = true ↔ _
  unfold allUsersWaitingToSend
  rw [Bool.not_not]
  show (clearNewFrom s.now s.cfg.createdUsers s.users 0).any _ = true ↔ _
  rw [any_clearNewFrom _ _ _ (fun _ => rfl)]
  simp only [List.any_eq_true, Bool.and_eq_true, Bool.or_eq_true, beq_iff_eq, decide_eq_true_eq,
    Nat.lt_one_iff]
  exact Iff.rfl

/-- a tun frame offered while `tun_fd` is not in the read set is not looked at -/
theorem dispatch_tun_not_selected (s : Srv) (f : List Nat) : dispatch s (.tun f) false = (s, []) := rfl

/-- … the iteration is that of a timeout (`tick`), plus the harness's `tunskip` marker -/
theorem body_tun_not_selected (s : Srv) (f : List Nat) :
    body s (.tun f) false = ((body s .tick false).1, (body s .tick false).2 ++ [Event.tunskip]) := rfl

theorem body_tun_not_selected' (s : Srv) (f : List Nat) :
    body s (.tun f) false = ((sweep s).1, Event.sweep :: (sweep s).2 ++ [Event.tunskip]) := rfl

theorem tunnelTun_queue_full (s : Srv) (frame : List Nat) (u : Nat) (hl : frame.length ≥ 24)
    (hf : findUserByIp s (ipDst frame) = some u) (hc : (getUser s u).conn = .dnsNull)
    (ho : (getUser s u).outpacket.len > 0) (hq : (getUser s u).oqFilled ≥ Gen.OUTPACKETQ_LEN) :
    tunnelTun s frame = (s, []) := by
  have h0 : ¬ frame.length = 0 := by omega
  have h1 : ¬ frame.length < 4 + 20 := by omega
  simp only [tunnelTun, h0, h1, if_false, hf, hc, ho, if_true, saveToOutpacketq, hq]

theorem tunnelTun_queue_room (s : Srv) (frame : List Nat) (u : Nat) (hl : frame.length ≥ 24)
    (hf : findUserByIp s (ipDst frame) = some u) (hc : (getUser s u).conn = .dnsNull)
    (ho : (getUser s u).outpacket.len > 0) :
    tunnelTun s frame = ((saveToOutpacketq s u (compress frame) (compress frame).length).1, []) := by
  have h0 : ¬ frame.length = 0 := by omega
  have h1 : ¬ frame.length < 4 + 20 := by omega
  simp only [tunnelTun, h0, h1, if_false, hf, hc, ho, if_true]

theorem tunnelTun_idle_starts (s : Srv) (frame : List Nat) (u : Nat) (hl : frame.length ≥ 24)
    (hf : findUserByIp s (ipDst frame) = some u) (hc : (getUser s u).conn = .dnsNull)
    (ho : (getUser s u).outpacket.len = 0) :
    tunnelTun s frame = sendWaiting (startNewOutpacket s u (compress frame) (compress frame).length) u := by
  have h0 : ¬ frame.length = 0 := by omega
  have h1 : ¬ frame.length < 4 + 20 := by omega
  have h2 : ¬ (getUser s u).outpacket.len > 0 := by omega
  simp only [tunnelTun, h0, h1, if_false, hf, hc, h2, if_true]

/-- the session after `get_from_outpacketq` has started the next queued packet:
`p = outpacketq[nexttouse]` is copied into the outpacket (at most `sizeof data` bytes), the sequence number advances
modulo 8, the fragment counters and the resend counter are reset, the queue advances cyclically -/
def nextOut (x : Session) : Session :=
  let p := x.outpacketq.getD x.oqNext Packet.zero
  { x with outpacket := { x.outpacket with data := p.data.take (min p.len 65536), len := min p.len 65536, offset := 0,
                                           sentlen := 0, seqno := (x.outpacket.seqno + 1) % 8, fragment := 0 },
           outfragresent := 0,
           oqNext := if x.oqNext + 1 ≥ 4 then 0 else x.oqNext + 1,
           oqFilled := x.oqFilled - 1 }

theorem nextOut_data (x : Session) : (nextOut x).outpacket.data =
    (x.outpacketq.getD x.oqNext Packet.zero).data.take (min (x.outpacketq.getD x.oqNext Packet.zero).len 65536) := rfl
theorem nextOut_len (x : Session) : (nextOut x).outpacket.len = min (x.outpacketq.getD x.oqNext Packet.zero).len 65536 := rfl
theorem nextOut_offset (x : Session) : (nextOut x).outpacket.offset = 0 := rfl
theorem nextOut_sentlen (x : Session) : (nextOut x).outpacket.sentlen = 0 := rfl
theorem nextOut_fragment (x : Session) : (nextOut x).outpacket.fragment = 0 := rfl
theorem nextOut_seqno (x : Session) : (nextOut x).outpacket.seqno = (x.outpacket.seqno + 1) % 8 := rfl
theorem nextOut_outfragresent (x : Session) : (nextOut x).outfragresent = 0 := rfl
theorem nextOut_oqFilled (x : Session) : (nextOut x).oqFilled = x.oqFilled - 1 := rfl
theorem nextOut_oqNext (x : Session) : (nextOut x).oqNext = if x.oqNext + 1 ≥ 4 then 0 else x.oqNext + 1 := rfl
theorem nextOut_oqNext_mod (x : Session) (h : x.oqNext < 4) : (nextOut x).oqNext = (x.oqNext + 1) % 4 := by
  rw [nextOut_oqNext]; split <;> omega

theorem nextOut_dropOut (x : Session) : nextOut (dropOut x) = nextOut x := rfl
theorem dropOut_len (x : Session) : (dropOut x).outpacket.len = 0 := rfl
theorem dropOut_offset (x : Session) : (dropOut x).outpacket.offset = 0 := rfl
theorem dropOut_sentlen (x : Session) : (dropOut x).outpacket.sentlen = 0 := rfl
theorem dropOut_outfragresent (x : Session) : (dropOut x).outfragresent = 0 := rfl

theorem fromQueue_zero (x : Session) (h : x.oqFilled = 0) : fromQueue x = (x, false) := if_pos h

theorem fromQueue_pos (x : Session) (h : x.oqFilled ≠ 0) : fromQueue x = (nextOut x, true) := by
  unfold fromQueue
  rw [if_neg h]
  rfl

def afterDrop (x : Session) : Session := if x.oqFilled = 0 then dropOut x else nextOut x

theorem afterDrop_outfragresent (x : Session) : (afterDrop x).outfragresent = 0 :=
  ite_both (P := fun y : Session => y.outfragresent = 0) rfl rfl

theorem fromQueue_dropOut (x : Session) : (fromQueue (dropOut x)).1 = afterDrop x := by
  unfold afterDrop
  by_cases h : x.oqFilled = 0
  · rw [if_pos h, fromQueue_zero (dropOut x) h]
  · rw [if_neg h, fromQueue_pos (dropOut x) h, nextOut_dropOut]

theorem dropResent_keep (x : Session) (h : ¬ (x.outpacket.len > 0 ∧ x.outfragresent > 5)) : dropResent x = x := if_neg h

theorem dropResent_drop (x : Session) (h1 : x.outpacket.len > 0) (h2 : x.outfragresent > 5) : dropResent x = afterDrop x := by
  unfold dropResent
  rw [if_pos ⟨h1, h2⟩, fromQueue_dropOut]

theorem scDropResent_drop (s : Srv) (u : Nat) (hu : u < s.users.length)
    (h1 : (getUser s u).outpacket.len > 0) (h2 : (getUser s u).outfragresent > 5) :
    scDropResent s u = putUser s u (afterDrop (getUser s u)) := by
  rw [scDropResent_eq s u hu, dropResent_drop _ h1 h2]

/-- fields of a slot that the bookkeeping at the end of `send_chunk_or_dataless` (qmem, dnscache, `q->id = 0`) does not touch -/
structure Keep (x y : Session) : Prop where
  outpacket : y.outpacket = x.outpacket
  outfragresent : y.outfragresent = x.outfragresent
  inpacket : y.inpacket = x.inpacket
  conn : y.conn = x.conn
  fragsize : y.fragsize = x.fragsize
  downenc : y.downenc = x.downenc
  encoder : y.encoder = x.encoder
  lazy : y.lazy = x.lazy
  oqFilled : y.oqFilled = x.oqFilled
  oqNext : y.oqNext = x.oqNext
  outpacketq : y.outpacketq = x.outpacketq
  active : y.active = x.active
  authenticated : y.authenticated = x.authenticated
  disabled : y.disabled = x.disabled
  lastPkt : y.lastPkt = x.lastPkt
  tunIp : y.tunIp = x.tunIp
  host : y.host = x.host

theorem Keep.refl (x : Session) : Keep x x := ⟨rfl, rfl, rfl, rfl, rfl, rfl, rfl, rfl, rfl, rfl, rfl, rfl, rfl, rfl, rfl, rfl, rfl⟩

theorem Keep.trans {x y z : Session} (a : Keep x y) (b : Keep y z) : Keep x z :=
  ⟨b.1.trans a.1, b.2.trans a.2, b.3.trans a.3, b.4.trans a.4, b.5.trans a.5, b.6.trans a.6, b.7.trans a.7,
   b.8.trans a.8, b.9.trans a.9, b.10.trans a.10, b.11.trans a.11, b.12.trans a.12, b.13.trans a.13,
   b.14.trans a.14, b.15.trans a.15, b.16.trans a.16, b.17.trans a.17⟩

theorem keep_qmemUpd (x : Session) (q : Query) : Keep x (qmemUpd x q) := by
  have k1 : ∀ a b, Keep x { x with qmemping := a, qmempingLast := b } :=
    fun _ _ => ⟨rfl, rfl, rfl, rfl, rfl, rfl, rfl, rfl, rfl, rfl, rfl, rfl, rfl, rfl, rfl, rfl, rfl⟩
  have k2 : ∀ a b, Keep x { x with qmemdata := a, qmemdataLast := b } :=
    fun _ _ => ⟨rfl, rfl, rfl, rfl, rfl, rfl, rfl, rfl, rfl, rfl, rfl, rfl, rfl, rfl, rfl, rfl, rfl⟩
  unfold qmemUpd
  refine ite_both (P := Keep x) ?_ (ite_both (P := Keep x) (Keep.refl x) (k2 _ _))
  cases q.name.idxOf? 46 with
  | none => exact Keep.refl x
  | some cp => exact ite_both (P := Keep x) (Keep.refl x) (k1 _ _)

theorem keep_cacheUpd (x : Session) (q : Query) (a : List Nat) : Keep x (cacheUpd x q a) :=
  ite_both (P := Keep x) (Keep.refl x) ⟨rfl, rfl, rfl, rfl, rfl, rfl, rfl, rfl, rfl, rfl, rfl, rfl, rfl, rfl, rfl, rfl, rfl⟩

theorem keep_qset (w : QSel) (z : Session) (q : Query) : Keep z (w.set z q) := by
  cases w <;> exact ⟨rfl, rfl, rfl, rfl, rfl, rfl, rfl, rfl, rfl, rfl, rfl, rfl, rfl, rfl, rfl, rfl, rfl⟩

/-- the session after the count block: length of the fragment in flight remembered, send counted -/
def sent (x : Session) : Session :=
  { x with outpacket := { x.outpacket with sentlen := scDatalen x }, outfragresent := x.outfragresent + 1 }

theorem prepare_pos (x : Session) (h : x.outpacket.len > 0) : prepare x = sent x := if_pos h
theorem prepare_zero (x : Session) (h : x.outpacket.len = 0) : prepare x = x := if_neg (by omega)

theorem prepare_answer (x : Session) (w : QSel) :
    w.get (prepare x) = w.get x ∧ scDatalen (prepare x) = scDatalen x ∧ (∀ d, scPkt (prepare x) d = scPkt x d) ∧
    (prepare x).downenc = x.downenc :=
  ite_both (P := fun y : Session => w.get y = w.get x ∧ scDatalen y = scDatalen x ∧ (∀ d, scPkt y d = scPkt x d) ∧
      y.downenc = x.downenc)
    ⟨by cases w <;> rfl, rfl, fun _ => rfl, rfl⟩ ⟨rfl, rfl, fun _ => rfl, rfl⟩

theorem scAnswer_head (q : Query) (pkt : List Nat) (d u : Nat) :
    (scAnswer q pkt d u).2.head? = some (writeDns q pkt d (.chunk u)) :=
  ite_both (P := fun r : Query × List Event => r.2.head? = some (writeDns q pkt d (.chunk u))) rfl rfl

/-- the first answer of `send_chunk_or_dataless` is ALWAYS built from the slot after the drop block: header bytes and
its current fragment -/
theorem scSess_head (x : Session) (u : Nat) (w : QSel) :
    (scSess x u w).1.2.head? =
      some (writeDns (w.get (dropResent x)) (scPkt (dropResent x) (scDatalen (dropResent x))) (dropResent x).downenc (.chunk u)) := by
  obtain ⟨e1, e2, e3, e4⟩ := prepare_answer (dropResent x) w
  rw [← e1, ← e2, ← e3, ← e4]
  unfold scSess
  generalize prepare (dropResent x) = y
  exact ite_both (P := fun r : (Session × List Event) × Bool =>
      r.1.2.head? = some (writeDns (w.get y) (scPkt y (scDatalen y)) y.downenc (.chunk u)))
    (scAnswer_head _ _ _ _) (scAnswer_head _ _ _ _)

/-- a fragment that is not the whole rest of the packet: nothing is dequeued, and the bookkeeping (qmem, dnscache,
`q->id = 0`) leaves the transfer alone -/
theorem scSess_not_whole (x : Session) (u : Nat) (w : QSel)
    (h : ¬ (scDatalen (prepare (dropResent x)) > 0 ∧
      scDatalen (prepare (dropResent x)) = (prepare (dropResent x)).outpacket.len)) :
    Keep (prepare (dropResent x)) (scSess x u w).1.1 ∧ (scSess x u w).2 = false := by
  unfold scSess
  simp only []
  rw [if_neg h]
  exact ⟨((keep_qmemUpd _ _).trans (keep_cacheUpd _ _ _)).trans (keep_qset _ _ _), rfl⟩

theorem sendChunkOrDataless_slot (s : Srv) (u : Nat) (w : QSel) (hu : u < s.users.length) :
    getUser (sendChunkOrDataless s u w).1.1 u = (scSess (getUser s u) u w).1.1 ∧
    (sendChunkOrDataless s u w).1.2 = (scSess (getUser s u) u w).1.2 ∧
    (sendChunkOrDataless s u w).2 = (scSess (getUser s u) u w).2 := by
  rw [sendChunkOrDataless_eq s u w hu]
  generalize scSess (getUser s u) u w = r
  exact ⟨getUser_putUser_self s u _ hu, rfl, rfl⟩

/-- a fragment that is not the whole packet and was sent at most 5 times: the SAME fragment is sent again
and the send is counted.  (`x` is the slot before the call: pass `rfl` for `hx`.) -/
theorem sendChunkOrDataless_counts (s : Srv) (u : Nat) (w : QSel) (x : Session) (hx : getUser s u = x)
    (hu : u < s.users.length)
    (h1 : x.outpacket.len > 0 ∧ x.outfragresent ≤ 5)
    (h2 : ¬ (scDatalen x = x.outpacket.len)) :
    (getUser (sendChunkOrDataless s u w).1.1 u).outfragresent = x.outfragresent + 1 ∧
    (getUser (sendChunkOrDataless s u w).1.1 u).outpacket.len = x.outpacket.len ∧
    (getUser (sendChunkOrDataless s u w).1.1 u).outpacket.offset = x.outpacket.offset ∧
    (getUser (sendChunkOrDataless s u w).1.1 u).outpacket.seqno = x.outpacket.seqno ∧
    (getUser (sendChunkOrDataless s u w).1.1 u).outpacket.fragment = x.outpacket.fragment ∧
    (getUser (sendChunkOrDataless s u w).1.1 u).outpacket.data = x.outpacket.data ∧
    (getUser (sendChunkOrDataless s u w).1.1 u).outpacket.sentlen = scDatalen x ∧
    (sendChunkOrDataless s u w).1.2.head? = some (writeDns (w.get x)
      (scPkt { x with outpacket := { x.outpacket with sentlen := scDatalen x }, outfragresent := x.outfragresent + 1 } (scDatalen x))
      x.downenc (.chunk u)) ∧
    (sendChunkOrDataless s u w).2 = false := by
  obtain ⟨e1, e2, e3⟩ := sendChunkOrDataless_slot s u w hu
  rw [hx] at e1 e2 e3
  have hd : dropResent x = x := dropResent_keep _ (by omega)
  have hp : prepare x = sent x := prepare_pos _ h1.1
  obtain ⟨hk, hf⟩ := scSess_not_whole x u w (by rw [hd, hp]; exact fun h => h2 h.2)
  rw [hd, hp] at hk
  have hh := scSess_head x u w
  rw [hd] at hh
  rw [e1, e2, e3]
  exact ⟨hk.outfragresent, congrArg (·.len) hk.outpacket, congrArg (·.offset) hk.outpacket, congrArg (·.seqno) hk.outpacket,
    congrArg (·.fragment) hk.outpacket, congrArg (·.data) hk.outpacket, congrArg (·.sentlen) hk.outpacket, hh, hf⟩

/-- same, with the packet written as the fragment of the ORIGINAL session: header bytes and `data[offset .. offset+datalen)` -/
theorem sendChunkOrDataless_counts_pkt (s : Srv) (u : Nat) (w : QSel) (hu : u < s.users.length)
    (h1 : (getUser s u).outpacket.len > 0 ∧ (getUser s u).outfragresent ≤ 5)
    (h2 : ¬ (scDatalen (getUser s u) = (getUser s u).outpacket.len)) :
    (sendChunkOrDataless s u w).1.2.head? =
      some (writeDns (w.get (getUser s u)) (scPkt (getUser s u) (scDatalen (getUser s u))) (getUser s u).downenc (.chunk u)) :=
  (sendChunkOrDataless_counts s u w _ rfl hu h1 h2).2.2.2.2.2.2.2.1

def cfg0 : Config :=
  { checkIp := false, password := [], myIp := 0x0a000001, netmask := 27, topdomain := [], mtu := 1130, nsIp := 0,
    bindPort := 0, dest4 := 0, dest6 := 0, createdUsers := 0 }

/-- slot 0 of a fresh 16-slot server: active DNS-mode user, a query waiting, outpacket of 3 bytes, fragment size 2,
the current fragment already sent 6 times without ack, one packet (3 bytes) queued -/
def x0 : Session :=
  { Session.zero 0x0a000002 with
    active := true, authenticated := true, lastPkt := 990, conn := .dnsNull, fragsize := 2, downenc := 84,
    q := { Query.zero with id := 5, type := 10, from_ := ⟨4, 0x01020304, 4711⟩ },
    outpacket := { len := 3, sentlen := 2, offset := 0, data := [1, 2, 3], seqno := 1, fragment := 0 },
    outfragresent := 6,
    outpacketq := [Packet.zero, { Packet.zero with len := 3, data := [7, 8, 9] }, Packet.zero, Packet.zero],
    oqNext := 1, oqFilled := 1 }

def s0 : Srv := putUser (Srv.init cfg0 27) 0 x0

example : 0 < s0.users.length ∧ getUser s0 0 = x0 ∧ (getUser s0 0).outpacket.len > 0 ∧ (getUser s0 0).outfragresent > 5 ∧
    (getUser s0 0).oqFilled > 0 := by decide +kernel

/-- the 7th call drops [1,2,3] and sends the first fragment [7,8] of the queued packet with the next sequence number -/
example :
    scDropResent s0 0 = putUser s0 0 (nextOut x0) ∧
    (sendChunkOrDataless s0 0 .q).1.2 =
      [Event.ans ⟨4, 0x01020304, 4711⟩ 5 10 84 [] [128, (2 <<< 5) ||| 0, 7, 8] (.chunk 0)] ∧
    (getUser (sendChunkOrDataless s0 0 .q).1.1 0).outpacket = { len := 3, sentlen := 2, offset := 0, data := [7, 8, 9], seqno := 2, fragment := 0 } ∧
    (getUser (sendChunkOrDataless s0 0 .q).1.1 0).outfragresent = 1 ∧
    (getUser (sendChunkOrDataless s0 0 .q).1.1 0).oqFilled = 0 ∧
    (getUser (sendChunkOrDataless s0 0 .q).1.1 0).oqNext = 2 := by decide +kernel

/-- the same slot one resend earlier (`outfragresent = 5`): the fragment [1,2] goes out a 6th time and is counted -/
example :
    let s := putUser s0 0 { x0 with outfragresent := 5 }
    (sendChunkOrDataless s 0 .q).1.2 = [Event.ans ⟨4, 0x01020304, 4711⟩ 5 10 84 [] [128, (1 <<< 5) ||| 0, 1, 2] (.chunk 0)] ∧
    (getUser (sendChunkOrDataless s 0 .q).1.1 0).outfragresent = 6 ∧
    (getUser (sendChunkOrDataless s 0 .q).1.1 0).outpacket = x0.outpacket := by decide +kernel

/-- an ack that does not name the fragment in flight (or no packet / nothing sent yet) changes nothing -/
theorem processDownstreamAck_other (s : Srv) (u : Nat) (a b : Int)
    (h : (getUser s u).outpacket.len = 0 ∨ (getUser s u).outpacket.seqno ≠ a ∨ (getUser s u).outpacket.fragment ≠ b ∨
      (getUser s u).outpacket.sentlen = 0) :
    processDownstreamAck s u a b = s := by
  unfold processDownstreamAck
  simp only
  by_cases h1 : (getUser s u).outpacket.len = 0
  · rw [if_pos h1]
  rw [if_neg h1]
  by_cases h2 : (getUser s u).outpacket.seqno ≠ a ∨ (getUser s u).outpacket.fragment ≠ b
  · rw [if_pos h2]
  rw [if_neg h2]
  by_cases h3 : (getUser s u).outpacket.sentlen = 0
  · rw [if_pos h3]
  rcases h with h | h | h | h
  · exact absurd h h1
  · exact absurd (Or.inl h) h2
  · exact absurd (Or.inr h) h2
  · exact absurd h h3

/-- the ack of the fragment in flight, more to send: the offset advances by the acked length, the fragment number
is incremented, the resend counter is reset -/
theorem processDownstreamAck_advance (s : Srv) (u : Nat) (a b : Int)
    (h1 : (getUser s u).outpacket.len ≠ 0) (h2 : (getUser s u).outpacket.seqno = a) (h3 : (getUser s u).outpacket.fragment = b)
    (h4 : (getUser s u).outpacket.sentlen ≠ 0)
    (h5 : (getUser s u).outpacket.offset + (getUser s u).outpacket.sentlen < (getUser s u).outpacket.len) :
    processDownstreamAck s u a b =
      putUser s u { getUser s u with
        outpacket := { (getUser s u).outpacket with
          offset := (getUser s u).outpacket.offset + (getUser s u).outpacket.sentlen, sentlen := 0,
          fragment := sChar ((getUser s u).outpacket.fragment + 1) },
        outfragresent := 0 } := by
  have h23 : ¬ ((getUser s u).outpacket.seqno ≠ a ∨ (getUser s u).outpacket.fragment ≠ b) := by
    intro h; rcases h with h | h
    · exact h h2
    · exact h h3
  have h6 : ¬ ((getUser s u).outpacket.offset + (getUser s u).outpacket.sentlen ≥ (getUser s u).outpacket.len) := by omega
  simp only [processDownstreamAck, h1, h23, h4, h6, if_false]
  rw [setUser_eq_putUser]

/-- the session after the ack of the LAST fragment when nothing is queued: idle -/
def srvAckDone (x : Session) : Session :=
  { x with outpacket := { x.outpacket with len := 0, offset := 0, sentlen := 0,
                                           fragment := sChar (sChar (x.outpacket.fragment + 1) - 1) },
           outfragresent := 0 }

theorem srvAckDone_len (x : Session) : (srvAckDone x).outpacket.len = 0 := rfl
theorem srvAckDone_offset (x : Session) : (srvAckDone x).outpacket.offset = 0 := rfl
theorem srvAckDone_sentlen (x : Session) : (srvAckDone x).outpacket.sentlen = 0 := rfl
theorem srvAckDone_seqno (x : Session) : (srvAckDone x).outpacket.seqno = x.outpacket.seqno := rfl
theorem srvAckDone_data (x : Session) : (srvAckDone x).outpacket.data = x.outpacket.data := rfl
theorem srvAckDone_fragment (x : Session) :
    (srvAckDone x).outpacket.fragment = sChar (sChar (x.outpacket.fragment + 1) - 1) := rfl
theorem srvAckDone_outfragresent (x : Session) : (srvAckDone x).outfragresent = 0 := rfl
theorem nextOut_srvAckDone (x : Session) : nextOut (srvAckDone x) = nextOut x := rfl

/-- the `+1` / `-1` on the `char` cancel except at the wrap 127 → -128 → 127 (stays in range, so: always) -/
theorem sChar_inc_dec (f : Int) (h : -128 ≤ f ∧ f ≤ 127) : sChar (sChar (f + 1) - 1) = f := by
  unfold sChar; omega

/-- the ack of the last fragment: the packet is finished; idle, or the next queued packet is started -/
theorem processDownstreamAck_complete (s : Srv) (u : Nat) (a b : Int) (hu : u < s.users.length)
    (h1 : (getUser s u).outpacket.len ≠ 0) (h2 : (getUser s u).outpacket.seqno = a) (h3 : (getUser s u).outpacket.fragment = b)
    (h4 : (getUser s u).outpacket.sentlen ≠ 0)
    (h5 : (getUser s u).outpacket.len ≤ (getUser s u).outpacket.offset + (getUser s u).outpacket.sentlen) :
    processDownstreamAck s u a b =
      putUser s u (if (getUser s u).oqFilled = 0 then srvAckDone (getUser s u) else nextOut (getUser s u)) := by
  have h23 : ¬ ((getUser s u).outpacket.seqno ≠ a ∨ (getUser s u).outpacket.fragment ≠ b) := by
    intro h; rcases h with h | h
    · exact h h2
    · exact h h3
  have h6 : (getUser s u).outpacket.offset + (getUser s u).outpacket.sentlen ≥ (getUser s u).outpacket.len := h5
  rw [processDownstreamAck_eq s u a b hu]
  congr 1
  unfold ackSess
  rw [if_neg h1, if_neg h23, if_neg h4]
  simp only []
  rw [if_pos h6]
  show (fromQueue (srvAckDone (getUser s u))).1 = _
  by_cases hq : (getUser s u).oqFilled = 0
  · rw [if_pos hq, fromQueue_zero (srvAckDone (getUser s u)) hq]
  · rw [if_neg hq, fromQueue_pos (srvAckDone (getUser s u)) hq, nextOut_srvAckDone]

theorem processDownstreamAck_complete_idle (s : Srv) (u : Nat) (a b : Int) (hu : u < s.users.length)
    (h1 : (getUser s u).outpacket.len ≠ 0) (h2 : (getUser s u).outpacket.seqno = a) (h3 : (getUser s u).outpacket.fragment = b)
    (h4 : (getUser s u).outpacket.sentlen ≠ 0)
    (h5 : (getUser s u).outpacket.len ≤ (getUser s u).outpacket.offset + (getUser s u).outpacket.sentlen)
    (hq : (getUser s u).oqFilled = 0) :
    processDownstreamAck s u a b = putUser s u (srvAckDone (getUser s u)) := by
  rw [processDownstreamAck_complete s u a b hu h1 h2 h3 h4 h5, if_pos hq]

theorem processDownstreamAck_complete_next (s : Srv) (u : Nat) (a b : Int) (hu : u < s.users.length)
    (h1 : (getUser s u).outpacket.len ≠ 0) (h2 : (getUser s u).outpacket.seqno = a) (h3 : (getUser s u).outpacket.fragment = b)
    (h4 : (getUser s u).outpacket.sentlen ≠ 0)
    (h5 : (getUser s u).outpacket.len ≤ (getUser s u).outpacket.offset + (getUser s u).outpacket.sentlen)
    (hq : (getUser s u).oqFilled > 0) :
    processDownstreamAck s u a b = putUser s u (nextOut (getUser s u)) := by
  rw [processDownstreamAck_complete s u a b hu h1 h2 h3 h4 h5, if_neg (by omega)]

theorem processDownstreamAck_cases (s : Srv) (u : Nat) (a b : Int) (hu : u < s.users.length) :
    processDownstreamAck s u a b = s ∨
    (∃ x', processDownstreamAck s u a b = putUser s u x' ∧ x'.outfragresent = 0) := by
  by_cases h1 : (getUser s u).outpacket.len = 0
  · exact Or.inl (processDownstreamAck_other s u a b (Or.inl h1))
  by_cases h2 : (getUser s u).outpacket.seqno ≠ a
  · exact Or.inl (processDownstreamAck_other s u a b (Or.inr (Or.inl h2)))
  by_cases h3 : (getUser s u).outpacket.fragment ≠ b
  · exact Or.inl (processDownstreamAck_other s u a b (Or.inr (Or.inr (Or.inl h3))))
  have h2 := Decidable.not_not.1 h2
  have h3 := Decidable.not_not.1 h3
  by_cases h4 : (getUser s u).outpacket.sentlen = 0
  · exact Or.inl (processDownstreamAck_other s u a b (Or.inr (Or.inr (Or.inr h4))))
  by_cases h5 : (getUser s u).outpacket.offset + (getUser s u).outpacket.sentlen < (getUser s u).outpacket.len
  · exact Or.inr ⟨_, processDownstreamAck_advance s u a b h1 h2 h3 h4 h5, rfl⟩
  · refine Or.inr ⟨_, processDownstreamAck_complete s u a b hu h1 h2 h3 h4 (by omega), ?_⟩
    split <;> rfl

theorem checkUserAndIp_expired_iff (s : Srv) (u : Nat) (q : Query) (hu : u < s.cfg.createdUsers)
    (ha : (getUser s u).active = true) (hd : (getUser s u).disabled = false)
    (hip : s.cfg.checkIp = false ∨ (q.from_.fam = (getUser s u).host.fam ∧ (q.from_.fam = 4 ∨ q.from_.fam = 6) ∧
      (getUser s u).host.ip = q.from_.ip)) :
    checkUserAndIp s (u : Int) q = true ↔ (getUser s u).lastPkt + 60 < s.now := by
  have h0 : ¬ ((u : Int) < 0 ∨ (u : Int) ≥ (s.cfg.createdUsers : Int)) := by omega
  simp only [checkUserAndIp, h0, if_false, Int.toNat_natCast, ha, hd, Bool.not_true, Bool.or_self, Bool.false_eq_true]
  by_cases he : (getUser s u).lastPkt + 60 < s.now
  · simp only [he, if_true]
  · simp only [he, if_false, iff_false]
    rcases hip with hc | ⟨hf, h46, hi⟩
    · simp [hc]
    · by_cases hc : s.cfg.checkIp = true
      · rcases h46 with h4 | h6
        · simp [hc, hf.symm, h4, hi]
        · simp [hc, hf.symm, h6, hi]
      · simp [hc]

theorem live_iff (x : Session) (now : Nat) :
    live x now = true ↔ x.active = true ∧ ¬ x.disabled = true ∧ now < x.lastPkt + 60 := by
  unfold live
  simp only [Bool.and_eq_true, Bool.not_eq_true', decide_eq_true_eq, gt_iff_lt, Bool.not_eq_true, and_assoc]

/-- the two tests disagree at exactly one instant: at `now = last_pkt + 60` the user still passes `check_user_and_ip`
(its queries are answered) but is no longer `live` (no sweep, no tun delivery, not counted by `all_users_waiting_to_send`) -/
theorem expiry_boundary (s : Srv) (u : Nat) (q : Query) (hu : u < s.cfg.createdUsers)
    (ha : (getUser s u).active = true) (hd : (getUser s u).disabled = false) (hip : s.cfg.checkIp = false)
    (hn : s.now = (getUser s u).lastPkt + 60) :
    checkUserAndIp s (u : Int) q = false ∧ live (getUser s u) s.now = false := by
  constructor
  · have := checkUserAndIp_expired_iff s u q hu ha hd (Or.inl hip)
    cases h : checkUserAndIp s (u : Int) q
    · rfl
    · have := this.1 h; omega
  · cases h : live (getUser s u) s.now
    · rfl
    · have := ((live_iff _ _).1 h).2.2; omega

theorem live_iff_not_rejected (s : Srv) (u : Nat) (q : Query) (hu : u < s.cfg.createdUsers)
    (ha : (getUser s u).active = true) (hd : (getUser s u).disabled = false) (hip : s.cfg.checkIp = false)
    (hn : s.now ≠ (getUser s u).lastPkt + 60) :
    live (getUser s u) s.now = true ↔ checkUserAndIp s (u : Int) q = false := by
  rw [live_iff, ← Bool.not_eq_true, checkUserAndIp_expired_iff s u q hu ha hd (Or.inl hip)]
  simp only [ha, hd, true_and, Bool.false_eq_true, not_false_eq_true]
  omega

example :
    let s := { s0 with now := 1050 }
    (getUser s 0).lastPkt + 60 = s.now ∧ checkUserAndIp s 0 Query.zero = false ∧ live (getUser s 0) s.now = false := by
  decide +kernel

/-- a slot that `find_available_user` may hand out: unused, or silent for MORE than 60 s; and not disabled -/
def avail (now : Nat) (x : Session) : Prop :=
  (¬ x.active = true ∨ x.lastPkt + 60 < now) ∧ ¬ x.disabled = true

def slotAvail (now : Nat) (t : Users.Slot) : Prop :=
  (¬ t.active = true ∨ t.lastPkt + 60 < now) ∧ ¬ t.disabled = true

theorem slotAvail_toSlot (now : Nat) (x : Session) : slotAvail now (toSlot x) ↔ avail now x := Iff.rfl

/-- `avail` is the reusable slot of `SrvC04c.lean`, where the loop is characterised -/
theorem avail_iff (now : Nat) (x : Session) : avail now x ↔ C04L.ReusableM x now := by
  simp [avail, C04L.ReusableM]

theorem findAvailableUser_some_iff (s : Srv) (u : Nat) :
    (findAvailableUser s).1 = some u ↔
      u < s.users.length ∧ avail s.now (getUser s u) ∧ ∀ m, m < u → ¬ avail s.now (getUser s m) := by
  simp only [avail_iff]
  exact C04L.findAvailableUser_some_iff s u

theorem findAvailableUser_snd (s : Srv) (u : Nat) (h : (findAvailableUser s).1 = some u) :
    (findAvailableUser s).2 = setUser s u (claim s.now) :=
  C04L.findAvailableUser_snd s u h

theorem findAvailableUser_none_iff (s : Srv) :
    (findAvailableUser s).1 = none ↔ ∀ m, m < s.users.length → ¬ avail s.now (getUser s m) := by
  simp only [avail_iff]
  exact C04L.findAvailableUser_none_iff s

theorem get_nextOut (w : QSel) (x : Session) : w.get (nextOut x) = w.get x := by cases w <;> rfl
theorem get_dropOut (w : QSel) (x : Session) : w.get (dropOut x) = w.get x := by cases w <;> rfl
theorem scPkt_length_zero (x : Session) : (scPkt x 0).length = 2 := by
  simp [scPkt]

/-- after the drop (something queued) the server answers the waiting query with the FIRST fragment of the NEXT packet
`p = outpacketq[nexttouse]`.  (Pass `rfl` for `hx`.) -/
theorem server_serves_next_after_drop (s : Srv) (u : Nat) (w : QSel) (x : Session) (hx : getUser s u = x)
    (hu : u < s.users.length)
    (h1 : x.outpacket.len > 0) (h2 : x.outfragresent > 5) (h3 : x.oqFilled > 0) :
    (sendChunkOrDataless s u w).1.2.head? =
      some (writeDns (w.get x) (scPkt (nextOut x) (scDatalen (nextOut x))) x.downenc (.chunk u)) ∧
    (scPkt (nextOut x) (scDatalen (nextOut x))).drop 2 =
      ((x.outpacketq.getD x.oqNext Packet.zero).data.take (min (x.outpacketq.getD x.oqNext Packet.zero).len 65536)).take
        (scDatalen (nextOut x)) ∧
    scDatalen (nextOut x) = min (min x.fragsize (min (x.outpacketq.getD x.oqNext Packet.zero).len 65536)) 4094 := by
  refine ⟨?_, rfl, ?_⟩
  · have hd : dropResent x = nextOut x := by
      rw [dropResent_drop _ h1 h2, afterDrop, if_neg (by omega)]
    rw [(sendChunkOrDataless_slot s u w hu).2.1, hx, scSess_head, hd, get_nextOut]
    rfl
  · unfold scDatalen
    rw [nextOut_len, nextOut_offset]
    split
    · rfl
    · rename_i h
      have : min (x.outpacketq.getD x.oqNext Packet.zero).len 65536 = 0 := by omega
      rw [this]; omega

/-- after the drop (nothing queued) a dataless answer goes out and the slot is idle.  (Pass `rfl` for `hx`.) -/
theorem server_idle_after_drop (s : Srv) (u : Nat) (w : QSel) (x : Session) (hx : getUser s u = x)
    (hu : u < s.users.length)
    (h1 : x.outpacket.len > 0) (h2 : x.outfragresent > 5) (h3 : x.oqFilled = 0) :
    (sendChunkOrDataless s u w).1.2.head? = some (writeDns (w.get x) (scPkt (dropOut x) 0) x.downenc (.chunk u)) ∧
    (scPkt (dropOut x) 0).length = 2 ∧
    Keep (dropOut x) (getUser (sendChunkOrDataless s u w).1.1 u) ∧
    (getUser (sendChunkOrDataless s u w).1.1 u).outpacket.len = 0 ∧
    (getUser (sendChunkOrDataless s u w).1.1 u).outfragresent = 0 ∧
    (getUser (sendChunkOrDataless s u w).1.1 u).conn = x.conn ∧
    (sendChunkOrDataless s u w).1.1.users.length = s.users.length ∧
    (sendChunkOrDataless s u w).2 = false := by
  obtain ⟨e1, e2, e3⟩ := sendChunkOrDataless_slot s u w hu
  rw [hx] at e1 e2 e3
  have hd : dropResent x = dropOut x := by
    rw [dropResent_drop _ h1 h2, afterDrop, if_pos h3]
  have hp : prepare (dropOut x) = dropOut x := prepare_zero _ rfl
  obtain ⟨hk, hf⟩ := scSess_not_whole x u w (by
    rw [hd, hp]
    exact fun h => absurd h.1 (Nat.lt_irrefl 0))
  rw [hd, hp] at hk
  have hh := scSess_head x u w
  rw [hd, get_dropOut] at hh
  rw [e1, e2, e3]
  refine ⟨hh, scPkt_length_zero _, hk, congrArg (·.len) hk.outpacket, hk.outfragresent, hk.conn, ?_, hf⟩
  rw [sendChunkOrDataless_eq s u w hu]
  exact putUser_length s u _

/-- … so the next tun frame for this user is not queued behind a dead packet: it becomes the new outpacket -/
theorem tunnelTun_after_giveup (s : Srv) (u : Nat) (w : QSel) (hu : u < s.users.length)
    (h1 : (getUser s u).outpacket.len > 0) (h2 : (getUser s u).outfragresent > 5) (h3 : (getUser s u).oqFilled = 0)
    (hc : (getUser s u).conn = .dnsNull) (frame : List Nat) (hl : frame.length ≥ 24)
    (hf : findUserByIp (sendChunkOrDataless s u w).1.1 (ipDst frame) = some u) :
    tunnelTun (sendChunkOrDataless s u w).1.1 frame =
      sendWaiting (startNewOutpacket (sendChunkOrDataless s u w).1.1 u (compress frame) (compress frame).length) u := by
  obtain ⟨-, -, -, hlen, -, hconn, -, -⟩ := server_idle_after_drop s u w _ rfl hu h1 h2 h3
  revert hf hlen hconn
  generalize (sendChunkOrDataless s u w).1.1 = s'
  intro hf hlen hconn
  exact tunnelTun_idle_starts s' frame u hl hf (hconn.trans hc) hlen

end Iodine.C02L
