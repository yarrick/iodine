import IodineModel.Server.Handle
import IodineModel.Lemmas.Codec
import IodineModel.Common
import IodineModel.Lemmas.C11a
/-
C16: the ping fingerprint the handler checks (whole data part, dots removed, decoded)
agrees with the one `save_to_qmem_pingordata` stored (first label only) whenever one was stored
(`pingPrint_eq_saved`, with `first_dot_in_datalen`), and does not depend on the letter case of the name
(`pingBytes_lower`).
-/
namespace Iodine.C16L
open Iodine Iodine.Server Iodine.Gen Iodine.Codec

theorem decBits_append (c : Codec) (a b : List Nat) : decBits c (a ++ b) = decBits c a ++ decBits c b := by
  simp [decBits]

/-- the first bytes of a decoding depend on the first characters only -/
theorem decAll_take_append (c : Codec) (L R : List Nat) (j : Nat) (h : j ≤ (decAll c L).length) :
    (decAll c (L ++ R)).take j = (decAll c L).take j := by
  unfold decAll at h ⊢
  simp only [List.length_map, chunksN_length] at h
  simp only [← List.map_take]
  rw [decBits_append]
  rw [chunksN_take 8 _ j _ (by simp only [List.length_append]; omega),
    chunksN_take 8 _ j _ h, chunksN_append_left 8 j _ _ (by omega)]

theorem takeWhile_append_prefix {α : Type} (p : α → Bool) (l r : List α) :
    ∃ r', (l ++ r).takeWhile p = l.takeWhile p ++ r' := by
  induction l with
  | nil => exact ⟨r.takeWhile p, rfl⟩
  | cons a l ih =>
    obtain ⟨r', hr⟩ := ih
    simp only [List.cons_append, List.takeWhile_cons]
    cases p a
    · exact ⟨[], rfl⟩
    · exact ⟨r', by simp [hr]⟩

theorem no_dot_before_first (n : List Nat) (cp : Nat) (h : n.idxOf? 46 = some cp) :
    ∀ x ∈ (n.drop 1).take (cp - 1), x ≠ 46 := by
  obtain ⟨hlt, _, hbefore⟩ := List.idxOf?_eq_some_iff.mp h
  intro x hx
  obtain ⟨i, hi, rfl⟩ := List.mem_iff_getElem.mp hx
  simp only [List.length_take, List.length_drop] at hi
  simp only [List.getElem_take, List.getElem_drop]
  exact hbefore (1 + i) (by omega)

/-- If `save_to_qmem_pingordata` stores a fingerprint for the ping name `n` (first dot at `cp`, which lies in the
part of the name the handler decodes), it is the fingerprint the ping handler computes for `n`. -/
theorem pingPrint_eq_saved (n : List Nat) (d cp : Nat) (c : List Nat) (hcp : n.idxOf? 46 = some cp)
    (hle : cp ≤ min d 512)
    (hs : (if (dec b32 8 (cp - 1) (n.drop 1)).length < 4 then none
           else some ((dec b32 8 (cp - 1) (n.drop 1)).take 4)) = some c) :
    (Encoding.unpackData b32 65536 ((n.take (min d 512)).drop 1)).take 4 = c := by
  have hnd := no_dot_before_first n cp hcp
  generalize hM : min d 512 = M at hle ⊢
  -- the decoded part starts with the first label
  have hsplit : (n.take M).drop 1 =
      (n.drop 1).take (cp - 1) ++ (((n.drop 1).drop (cp - 1)).take (M - 1 - (cp - 1))) := by
    rw [List.drop_take]
    have : M - 1 = (cp - 1) + (M - 1 - (cp - 1)) := by omega
    conv => lhs; rw [this, List.take_add]
  generalize hlab : (n.drop 1).take (cp - 1) = label at hnd hsplit
  generalize ((n.drop 1).drop (cp - 1)).take (M - 1 - (cp - 1)) = rest at hsplit
  have hU : Encoding.undotify ((n.take M).drop 1) = label ++ Encoding.undotify rest := by
    rw [hsplit]
    unfold Encoding.undotify
    rw [List.filter_append]
    congr 1
    rw [List.filter_eq_self]
    intro x hx
    simpa [Encoding.DOT] using hnd x hx
  have hdec : dec b32 8 (cp - 1) (n.drop 1) = (decAll b32 (label.takeWhile (fun ch => ch != 0))).take 8 := by
    unfold dec cstr
    rw [hlab]
  rw [hdec] at hs
  split at hs
  · cases hs
  · rename_i hlen
    injection hs with hs
    subst hs
    simp only [List.length_take] at hlen
    unfold Encoding.unpackData
    simp only []
    rw [hU]
    unfold dec cstr
    rw [List.take_length]
    obtain ⟨r', hr'⟩ := takeWhile_append_prefix (fun ch => ch != 0) label (Encoding.undotify rest)
    rw [hr', List.take_take, List.take_take]
    have h4 : min 4 65536 = 4 := by decide
    have h8 : min 4 8 = 4 := by decide
    rw [h4, h8]
    exact decAll_take_append b32 _ r' 4 (by omega)

/-- the first dot of the name lies inside the data part: `query_datalen` returns 0 or the position just behind a dot -/
theorem first_dot_in_datalen (q t : List Nat) (d cp : Nat) (h : Common.queryDatalen q t = some d) (hd : 0 < d)
    (hcp : q.idxOf? 46 = some cp) : cp < d := by
  obtain ⟨_, _, _, _, h0 | ⟨sub, hq, hn⟩⟩ := Common.queryDatalen_split h
  · omega
  · obtain ⟨_, _, hbefore⟩ := List.idxOf?_eq_some_iff.mp hcp
    subst hq
    exact Nat.lt_of_not_le fun hle => hbefore sub.length (by omega) (by simp)

theorem pingBytes_lower (td n n' : List Nat) (h : n'.map Common.toLower = n.map Common.toLower) :
    Encoding.unpackData b32 65536 ((n'.take (min ((Common.queryDatalen n' td).getD 0) 512)).drop 1) =
    Encoding.unpackData b32 65536 ((n.take (min ((Common.queryDatalen n td).getD 0) 512)).drop 1) := by
  rw [Common.queryDatalen_lower n' n td h]
  generalize min ((Common.queryDatalen n td).getD 0) 512 = M
  rw [← C11L.unpackData_lower 65536 ((n'.take M).drop 1), ← C11L.unpackData_lower 65536 ((n.take M).drop 1)]
  rw [List.map_drop, List.map_drop, List.map_take, List.map_take, h]

end Iodine.C16L
