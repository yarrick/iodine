import IodineModel.Lemmas.C02qB5
/-
Upstream blackout: COMPOSITION WITNESSES (kernel-evaluated), `k = 7`, 8 and 3: `k` frames given up (the state is `bkW k`),
then the clean prompt path.  Each `compose_k` is the test on `bkW k`; `compose_k'` says the same of the state the `k` give-up
runs reach from `exW` (`bk_chain k`).
-/
namespace Iodine.C02L
open Iodine Iodine.Gen Iodine.World Iodine.C02

/-- TEST `k = 7`: one frame lost, the next delivered -/
theorem compose_k7 : cleanAfter (bkW 7) [fB 0, fB 1] [fB 1] = true := by
  unfold cleanAfter; rw [offerAllC_fast]; decide +kernel

/-- TEST `k = 8`: none lost (the numbers agree again) -/
theorem compose_k8 : cleanAfter (bkW 8) [fB 0, fB 1] [fB 0, fB 1] = true := by
  unfold cleanAfter; rw [offerAllC_fast]; decide +kernel

/-- TEST `k = 3`: none lost (3 ahead is outside the window) -/
theorem compose_k3 : cleanAfter (bkW 3) [fB 0, fB 1] [fB 0, fB 1] = true := by
  unfold cleanAfter; rw [offerAllC_fast]; decide +kernel

theorem compose_k7' :
    (offerAllC 0 80 (giveupRunUp [fA 0, fA 1, fA 2, fA 3, fA 4, fA 5, fA 6] exW) [fB 0, fB 1]).tunS = [fB 1] := by
  rw [bk_chain7]
  exact cleanAfter_tunS compose_k7

theorem compose_k8' :
    (offerAllC 0 80 (giveupRunUp [fA 0, fA 1, fA 2, fA 3, fA 4, fA 5, fA 6, fA 7] exW) [fB 0, fB 1]).tunS = [fB 0, fB 1] := by
  rw [bk_chain8]
  exact cleanAfter_tunS compose_k8

theorem compose_k3' : (offerAllC 0 80 (giveupRunUp [fA 0, fA 1, fA 2] exW) [fB 0, fB 1]).tunS = [fB 0, fB 1] := by
  rw [bk_chain3]
  exact cleanAfter_tunS compose_k3

end Iodine.C02L
