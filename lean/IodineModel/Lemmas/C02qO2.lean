import IodineModel.Lemmas.C02M6
import IodineModel.Lemmas.C02R5
import IodineModel.Lemmas.C02sched
/-
Overlapping transfers in lazy mode, the client's side.  While an upstream fragment is in flight (`UpSentL`: the client's half of
every joint invariant of the overlap) the client reads answers that carry downstream payload; each such step is a `CliDoes` fact
obtained from what `tunnel_dns` makes of the answer (`cliDoes_answer`).  The answer may belong to a query that is remembered but not
the most recent one (`RecvPrevL`: the lazy-mode hint does not fire); its header may acknowledge the fragment in flight (`sent_acked`,
`acked_next`) or an older one; its fragment may be expected (`midState`, `lastState`) or a duplicate (`tunnelDns_dup_prev`).
-/
namespace Iodine.C02L
open Iodine Iodine.Gen Iodine.World

/-- the client state after an expected fragment that is not the last was appended, `send_ping_soon` left alone -/
def midState (c : Client.Cli) (out : List Nat) (sq : Int) (o D f : Nat) : Client.Cli :=
  { ackBook c with inpkt := inAfter (ackBook c) out sq o D f }

/-- the client called `send_chunk` in the state `c0` for fragment `f` (offset `o`) of the upstream packet `out`, the data query is on
its way and the client is back in its `select` -/
structure UpSentL (P : Par) (out : List Nat) (w : W) (c0 : Client.Cli) (o f : Nat) : Prop where
  ph : w.cs.ph = .tunnel
  ready : CReadyL P c0 out o f
  cli : w.cs.c = { sentStateL c0 with sendPingSoon := 0 }
  up : w.up = upOfEvents (Client.sendChunk c0).evs

theorem UpSentL.query {P : Par} (hP : P.Ok) {out : List Nat} {w : W} {c0 : Client.Cli} {o f : Nat} (h : UpSentL P out w c0 o f) :
    ∃ name, w.cs = ⟨{ sentStateL c0 with sendPingSoon := 0 }, .tunnel⟩ ∧ w.up = [.query (sentState c0).chunkid P.ty name] ∧
      Client.sendChunk c0 = ⟨sentStateL c0, [.query (sentState c0).chunkid P.ty name], false⟩ ∧
      1 ≤ fragLen P (out.drop o) ∧ o + fragLen P (out.drop o) ≤ out.length ∧
      UpQ P (upQuery (sentState c0).chunkid P.ty name)
        ⟨c0.outpkt.seqno.toNat, f, c0.inpkt.seqno, c0.inpkt.fragment, fragLen P (out.drop o) == out.length - o⟩
        c0.datacmc ((out.drop o).take (fragLen P (out.drop o))) := by
  obtain ⟨name, hsend, hrest⟩ := send_readyL hP h.ready
  exact ⟨name, (cstate_eta w.cs h.ph).trans (by rw [h.cli]), h.up.trans (by rw [hsend]; rfl), hsend, hrest⟩

theorem cstatL_sps {P : Par} {c : Client.Cli} (hc : CStatL P c) (n : Nat) : CStatL P { c with sendPingSoon := n } :=
  (hc.toM.move (c' := { c with sendPingSoon := n }) rfl hc.cid hc.cmc hc.alive).lazy

theorem cstatL_ackNext {P : Par} {c : Client.Cli} (hc : CStatL P c) : CStatL P (ackNext c) :=
  (hc.toM.move (c' := ackNext c) rfl hc.cid hc.cmc hc.alive).lazy

theorem cstatL_ackDone {P : Par} {c : Client.Cli} (hc : CStatL P c) : CStatL P (ackDone c) :=
  (hc.toM.move (c' := ackDone c) rfl hc.cid hc.cmc hc.alive).lazy

theorem sentStateL_uc2 (c : Client.Cli) : (sentStateL c).useridChar2 = c.useridChar2 := by
  rw [sentStateL_eta]
  simp [sentState, Client.rotateChunkid]

theorem ackBook_outpkt (c : Client.Cli) : (ackBook c).outpkt = c.outpkt := by
  unfold ackBook Client.countRecv
  rfl

theorem hintBook_outpkt (c : Client.Cli) : (hintBook c).outpkt = c.outpkt := (book_keeps c 900).2.1

theorem upstream_ack_done_of {c b : Client.Cli} (ho : b.outpkt = c.outpkt) (h : Client.Hdr) (evs : List Client.CEvent)
    (sendNow : Bool) (read : Int) (hs : Client.isSending c = true) (hq : h.upSeq = c.outpkt.seqno)
    (hf : h.upFrag = c.outpkt.fragment) (hge : ¬ c.outpkt.offset + c.outpkt.sentlen < c.outpkt.len) :
    Client.upstream b h evs sendNow read = Client.finalPing (ackDone b) evs sendNow read := by
  unfold Client.isSending at hs
  rw [← ho] at hs hq hf hge
  exact upstream_ack_done b h evs sendNow read hs hq hf hge

/-- an answer whose header acknowledges fragment `f` of `c0`'s packet, seen from the state `c` after `send_chunk`: the
upstream-ack code finds its fragment acknowledged; more is to be sent iff the fragment was not the last one -/
theorem sent_acked {P : Par} {c0 c : Client.Cli} {out : List Nat} {o f : Nat} (hr : CReadyL P c0 out o f)
    (hsf : SentFacts c0 c) {h : Client.Hdr} (hus : h.upSeq = ((c0.outpkt.seqno.toNat : Nat) : Int)) (huf : h.upFrag = (f : Int)) :
    Client.isSending c = true ∧ h.upSeq = c.outpkt.seqno ∧ h.upFrag = c.outpkt.fragment ∧
      (c.outpkt.offset + c.outpkt.sentlen < c.outpkt.len ↔ o + fragLen P (out.drop o) < out.length) := by
  refine ⟨?_, ?_, ?_, ?_⟩
  · have hlen0 : out.length ≠ 0 := by have := hr.ho; omega
    unfold Client.isSending
    rw [hsf.olen, hr.len]
    simpa using hlen0
  · rw [hus, hsf.oseq]; have := hr.stat.oseq; omega
  · rw [huf, hsf.ofrag, hr.frag]
  · rw [hsf.ooff, hsf.osent, hsf.olen, cFragLen_readyL hr, hr.off, hr.len]

/-- … and more is to be sent, seen from a state `b` that the bookkeeping for the answer made of `c` (whatever that was: `ackBook`,
`hintBook`, a new `send_ping_soon`; the outpacket is `c`'s): the upstream-ack code sends the next fragment from `ackNext b`, which
is ready for it -/
theorem acked_next {P : Par} {c0 c b : Client.Cli} {out : List Nat} {o f : Nat} (hr : CReadyL P c0 out o f)
    (hsf : SentFacts c0 c) (hb : CStatL P b) (hcnt : CntOk b 1) (hout : b.outpkt = c.outpkt) {h : Client.Hdr}
    (hus : h.upSeq = ((c0.outpkt.seqno.toNat : Nat) : Int)) (huf : h.upFrag = (f : Int))
    (hlt : o + fragLen P (out.drop o) < out.length) (hf1 : f + 1 < 16) (evs : List Client.CEvent) (sendNow : Bool) (read : Int) :
    Client.upstream b h evs sendNow read = Client.afterSend (Client.sendChunk (ackNext b)) evs (.dnsChunk read) ∧
      CReadyL P (ackNext b) out (o + fragLen P (out.drop o)) (f + 1) := by
  obtain ⟨hs, hq, hf, hiff⟩ := sent_acked hr hsf hus huf
  refine ⟨?_, cstatL_ackNext hb, hcnt, ?_, ?_, ?_, ?_, hlt, hf1, hr.bytes⟩
  · unfold Client.isSending at hs
    rw [← hout] at hs hq hf hiff
    exact upstream_ack_more b h evs sendNow read hs hq hf (hiff.mpr hlt)
  · show b.outpkt.data = out
    rw [hout, hsf.odata]; exact hr.data
  · show b.outpkt.len = out.length
    rw [hout, hsf.olen]; exact hr.len
  · show b.outpkt.offset + b.outpkt.sentlen = o + fragLen P (out.drop o)
    rw [hout, hsf.ooff, hsf.osent, cFragLen_readyL hr, hr.off]
  · show Client.sChar (b.outpkt.fragment + 1) = ((f + 1 : Nat) : Int)
    rw [hout, hsf.ofrag, hr.frag, sChar_small _ (by omega)]
    omega

/-- what the client's bookkeeping for an answer (`ackBook`, a new `send_ping_soon`) and the acknowledgement
of the fragment in flight (`ackNext`, `ackDone`) keep of the state `c` they start from -/
structure BookFacts (c c' : Client.Cli) : Prop where
  cmc : c'.datacmc = c.datacmc
  seed : c'.randSeed = c.randSeed
  cid : c'.chunkid = c.chunkid
  now : c'.now = c.now
  oseq : c'.outpkt.seqno = c.outpkt.seqno

theorem BookFacts.refl (c : Client.Cli) : BookFacts c c := ⟨rfl, rfl, rfl, rfl, rfl⟩

theorem BookFacts.ackBook {c b : Client.Cli} (h : BookFacts c b) : BookFacts c (ackBook b) := by
  unfold _root_.Iodine.C02L.ackBook Client.countRecv
  exact ⟨h.cmc, h.seed, h.cid, h.now, h.oseq⟩

theorem BookFacts.sps {c b : Client.Cli} (h : BookFacts c b) (n : Nat) : BookFacts c { b with sendPingSoon := n } :=
  ⟨h.cmc, h.seed, h.cid, h.now, h.oseq⟩

theorem BookFacts.ackNext {c b : Client.Cli} (h : BookFacts c b) : BookFacts c (ackNext b) := by
  unfold _root_.Iodine.C02L.ackNext
  exact ⟨h.cmc, h.seed, h.cid, h.now, h.oseq⟩

theorem BookFacts.ackDone {c b : Client.Cli} (h : BookFacts c b) : BookFacts c (ackDone b) := by
  unfold _root_.Iodine.C02L.ackDone
  exact ⟨h.cmc, h.seed, h.cid, h.now, h.oseq⟩

theorem BookFacts.hintBook {c b : Client.Cli} (h : BookFacts c b) : BookFacts c (hintBook b) := h.ackBook.sps 900

theorem ackBook_inpkt (c : Client.Cli) : (ackBook c).inpkt = c.inpkt := by
  unfold ackBook Client.countRecv
  rfl

theorem ackNext_inpkt (c : Client.Cli) : (ackNext c).inpkt = c.inpkt := by
  unfold ackNext
  rfl

theorem ackDone_inpkt (c : Client.Cli) : (ackDone c).inpkt = c.inpkt := by
  unfold ackDone
  rfl

/-- the client in the tunnel phase on an answer: `tunnel_dns`, then back to `select` -/
theorem cliDoes_answer {P : Par} {c : Client.Cli} (hc : CStatL P c) {id ty : Nat} {name pkt : List Nat}
    {cs' : Client.CState} {evs : List Client.CEvent} {nx : Client.Next}
    (hst : Client.settle (Client.tunnelDns c ⟨(pkt.length : Int), id, answerType ty, 0, name.headD 0, pkt⟩) = (cs', evs, nx)) :
    CliDoes ⟨c, .tunnel⟩ (cliInput (.ans id ty name pkt)) cs' (upOfEvents evs) (tunOfCEvents evs) :=
  CliDoes.mk (by
    show Client.cstep ⟨c, .tunnel⟩ (.rq ⟨(pkt.length : Int), id, answerType ty, 0, name.headD 0, pkt⟩) = _
    rw [cstep_rq c _ hc.running hc.alive hc.conn, hst]) rfl rfl

theorem cliDoes_next {P : Par} (hP : P.Ok) {c : Client.Cli} (hc : CStatL P c) {id ty : Nat} {name pkt : List Nat}
    {c0' : Client.Cli} {k : Client.Resume} {out : List Nat} {o f : Nat}
    (htd : Client.tunnelDns c ⟨(pkt.length : Int), id, answerType ty, 0, name.headD 0, pkt⟩ =
      Client.afterSend (Client.sendChunk c0') [] k)
    (hr : CReadyL P c0' out o f) :
    CliDoes ⟨c, .tunnel⟩ (cliInput (.ans id ty name pkt)) ⟨{ sentStateL c0' with sendPingSoon := 0 }, .tunnel⟩
      (upOfEvents (Client.sendChunk c0').evs) [] := by
  have h := cliDoes_answer hc (id := id) (ty := ty) (name := name) (pkt := pkt) (htd ▸ hr.send.settle hP hr.stat.running [] k)
  rw [List.nil_append, hr.send.no_tun hP] at h
  exact h

theorem cliDoes_ping {P : Par} (hP : P.Ok) {c : Client.Cli} (hc : CStatL P c) {id ty : Nat} {name pkt : List Nat}
    {cd : Client.Cli} {n : Int}
    (htd : Client.tunnelDns c ⟨(pkt.length : Int), id, answerType ty, 0, name.headD 0, pkt⟩ = Client.finalPing cd [] true n)
    (hcd : CStatL P cd) (hcnt : CntOk cd 1) :
    ∃ name', CliDoes ⟨c, .tunnel⟩ (cliInput (.ans id ty name pkt)) ⟨pingStateL cd, .tunnel⟩
        [.query (pingStateL cd).chunkid P.ty name'] [] ∧
      PingQ P (upQuery (pingStateL cd).chunkid P.ty name') cd.inpkt.seqno cd.inpkt.fragment cd.randSeed := by
  obtain ⟨name', hset, hpq⟩ := settle_ping_now hP hcd.toM (Or.inr hcnt) [] n
  exact ⟨name', cliDoes_answer hc (htd ▸ hset), hpq⟩

theorem cliDoes_quiet {P : Par} {c : Client.Cli} (hc : CStatL P c) {id ty : Nat} {name pkt : List Nat}
    {cd : Client.Cli} {evs : List Client.CEvent} {n : Int}
    (htd : Client.tunnelDns c ⟨(pkt.length : Int), id, answerType ty, 0, name.headD 0, pkt⟩ = (cd, evs, .ret n))
    (hrun : cd.running = true) :
    CliDoes ⟨c, .tunnel⟩ (cliInput (.ans id ty name pkt)) ⟨cd, .tunnel⟩ (upOfEvents evs) (tunOfCEvents evs) :=
  cliDoes_answer hc (cs' := ⟨cd, .tunnel⟩) (evs := evs) (nx := .sel (Client.selectOf cd))
    (by rw [htd]; simp [Client.settle, Client.loopTop, hrun])

/-- the conditions under which the client processes the answer `rq` (payload `pkt`) to a query that is recent but NOT the most recent one -/
structure RecvPrevL (P : Par) (c : Client.Cli) (rq : Client.Rq) (pkt : List Nat) : Prop where
  cst : CStatL P c
  sps : c.sendPingSoon = 0
  name0 : Client.notData c rq.name0 = false
  rv : rq.rv = (pkt.length : Int)
  buf : rq.buf = pkt
  rid : Client.recentId c rq.id = true
  nid : rq.id ≠ c.chunkid

/-- general form: bookkeeping (no hint), the downstream code with `send_something_now = false`, then the upstream code -/
theorem tunnelDns_payload_prev {P : Par} {c : Client.Cli} {rq : Client.Rq} {pkt : List Nat} (h : RecvPrevL P c rq pkt)
    (hrv : 2 < pkt.length) (hbad : pkt.take 5 ≠ Client.ascii "BADIP")
    (hdup : (Client.decodeHdr pkt).dnSeq = c.inpkt.seqno ∨ Client.recentSeqno c.inpkt.seqno (Client.decodeHdr pkt).dnSeq = false)
    {c' : Client.Cli} {evs : List Client.CEvent} {sn : Bool}
    (hds : Client.downstream (ackBook c) (Client.decodeHdr pkt) pkt (pkt.length : Int) false = (c', evs, sn)) :
    Client.tunnelDns c rq = Client.upstream c' (Client.decodeHdr pkt) evs sn (pkt.length : Int) := by
  have hb := h.buf
  have hr := h.rv
  subst hb
  exact tunnelDns_via0 c rq h.name0 (by omega) (fun hh => hbad hh.2) h.rid h.sps (c1 := c)
    (by rw [hr]; exact dupeSeqno_keep _ _ _ (Or.inr hdup))
    (book_other c _ _ _ (Or.inr h.nid) (Or.inl (by omega))) hds

/-- an EXPECTED fragment that is not the last one, whose header acknowledges an OLD upstream fragment: appended, and the acknowledging ping is due at once -/
theorem tunnelDns_mid_prev {P : Par} {c : Client.Cli} {rq : Client.Rq} {pkt out : List Nat} {sq : Int} {o D f : Nat}
    (h : RecvPrevL P c rq pkt) (hp : FragPkt pkt out sq o D f false) (hD : 0 < D)
    (hdup : sq = c.inpkt.seqno ∨ Client.recentSeqno c.inpkt.seqno sq = false)
    (hE : CExpect c out sq o f) (hsq : 0 ≤ sq ∧ sq < 8) (hf : f < 16) (hle : o + D ≤ out.length) (h64 : out.length ≤ 65536)
    (hstale : ¬ ((Client.decodeHdr pkt).upSeq = c.outpkt.seqno ∧ (Client.decodeHdr pkt).upFrag = c.outpkt.fragment)) :
    Client.tunnelDns c rq = Client.finalPing (midState c out sq o D f) [] true ((2 + D : Nat) : Int) := by
  have hds := downstream_midW' (ackBook c) (Client.decodeHdr pkt) pkt out sq o D f false hE.toW
    h.cst.iseq hsq hf ⟨hp.hdr.1, hp.hdr.2.1⟩ hp.hdr.2.2 hp.len hp.body hD hle h64
  have hms : ({ ackBook c with inpkt := inAfter (ackBook c) out sq o D f } : Client.Cli) = midState c out sq o D f := rfl
  rw [hms] at hds
  rw [← hp.len] at hds
  rw [tunnelDns_payload_prev h (by rw [hp.len]; omega) hp.notbad (by rw [hp.hdr.1]; exact hdup) hds, hp.len]
  exact (upstream_other_ack (midState c out sq o D f) (Client.decodeHdr pkt) [] true ((2 + D : Nat) : Int)
    (by intro hh; exact hstale hh.2)).1

/-- the LAST expected fragment, header acknowledging an old upstream fragment: the packet is written to tun, a ping is due in 5 ms, nothing is sent -/
theorem tunnelDns_last_prev {P : Par} {c : Client.Cli} {rq : Client.Rq} {pkt frame : List Nat} {sq : Int} {o D f : Nat}
    (h : RecvPrevL P c rq pkt) (hp : FragPkt pkt (0x5a :: frame) sq o D f true) (hD : 0 < D)
    (hdup : sq = c.inpkt.seqno ∨ Client.recentSeqno c.inpkt.seqno sq = false)
    (hE : CExpect c (0x5a :: frame) sq o f) (hsq : 0 ≤ sq ∧ sq < 8) (hf : f < 16) (heq : o + D = (0x5a :: frame).length)
    (h64 : (0x5a :: frame).length ≤ 65536)
    (hstale : ¬ ((Client.decodeHdr pkt).upSeq = c.outpkt.seqno ∧ (Client.decodeHdr pkt).upFrag = c.outpkt.fragment)) :
    Client.tunnelDns c rq = (lastState c (0x5a :: frame) sq o D f, [Client.writeTun frame], .ret ((2 + D : Nat) : Int)) := by
  have hds := downstream_lastW' (ackBook c) (Client.decodeHdr pkt) pkt frame sq o D f false hE.toW
    h.cst.iseq hsq hf ⟨hp.hdr.1, hp.hdr.2.1⟩ hp.hdr.2.2 hp.len hp.body hD heq h64
  have hls : ({ ackBook c with inpkt := { inAfter (ackBook c) (0x5a :: frame) sq o D f with len := 0 }, sendPingSoon := 5 } : Client.Cli) =
      lastState c (0x5a :: frame) sq o D f := rfl
  rw [hls] at hds
  rw [← hp.len] at hds
  rw [tunnelDns_payload_prev h (by rw [hp.len]; omega) hp.notbad (by rw [hp.hdr.1]; exact hdup) hds, hp.len]
  rw [(upstream_other_ack (lastState c (0x5a :: frame) sq o D f) (Client.decodeHdr pkt) [Client.writeTun frame] false
    ((2 + D : Nat) : Int) (by intro hh; exact hstale hh.2)).1]
  simp [Client.finalPing]

theorem CExpect.congr {c c' : Client.Cli} {out : List Nat} {sq : Int} {o f : Nat} (h : CExpect c out sq o f)
    (he : c'.inpkt = c.inpkt) : CExpect c' out sq o f := by
  unfold CExpect at *
  rw [he]; exact h

/-- the answer to the query sent BEFORE the data query in flight, as the client sees it after `send_chunk` -/
theorem recvPrevL_sent {P : Par} {c0 : Client.Cli} {out : List Nat} {o f : Nat} (hr : CReadyL P c0 out o f) {n0 : Nat}
    (hnd : Client.notData c0 n0 = false) (ty : Nat) (pkt : List Nat) :
    RecvPrevL P { sentStateL c0 with sendPingSoon := 0 } ⟨(pkt.length : Int), c0.chunkid, ty, 0, n0, pkt⟩ pkt := by
  have hsf := sentFactsL c0
  have hsi := sentIdsL c0
  have huc2 : ({ sentStateL c0 with sendPingSoon := 0 } : Client.Cli).useridChar2 = c0.useridChar2 := sentStateL_uc2 c0
  refine ⟨cstat_sentL hr, hsf.sps, ?_, rfl, rfl, ?_, fun e => hsi.ne hr.stat.cid e.symm⟩
  · show Client.notData { sentStateL c0 with sendPingSoon := 0 } n0 = false
    unfold Client.notData at hnd ⊢
    rw [hsf.useridChar, huc2]; exact hnd
  · show Client.recentId { sentStateL c0 with sendPingSoon := 0 } c0.chunkid = true
    unfold Client.recentId
    rw [hsi.prev]; simp

theorem cstatL_last {P : Par} {c : Client.Cli} (hc : CStatL P c) (out : List Nat) {sq : Int} (o D : Nat) {f : Nat}
    (hsq : 0 ≤ sq ∧ sq < 8) (hf : f < 16) : CStatL P (lastState c out sq o D f) :=
  (cstatM_last hc.toM out sq o D f hsq hf).lazy

theorem cstatL_midState {P : Par} {c : Client.Cli} (hc : CStatL P c) (out : List Nat) {sq : Int} (o D : Nat) {f : Nat}
    (hsq : 0 ≤ sq ∧ sq < 8) (hf : f < 16) : CStatL P (midState c out sq o D f) := by
  unfold midState inAfter
  have hb := cstat_ackBookL hc
  exact ⟨hb.running, hb.conn, hb.lz, hb.uid, hb.uch, hb.td, hb.L, hb.enc, hb.ty, hb.cid, hb.cmc, hb.alive, hb.oseq, hsq,
    by show (0 : Int) ≤ (f : Int) ∧ (f : Int) < 16; omega, hb.seed⟩

theorem lastState_bookFacts (c : Client.Cli) (out : List Nat) (sq : Int) (o D f : Nat) :
    BookFacts c (lastState c out sq o D f) := by
  unfold lastState Client.countRecv
  exact ⟨rfl, rfl, rfl, rfl, rfl⟩

theorem midState_bookFacts (c : Client.Cli) (out : List Nat) (sq : Int) (o D f : Nat) :
    BookFacts c (midState c out sq o D f) := by
  unfold midState ackBook Client.countRecv
  exact ⟨rfl, rfl, rfl, rfl, rfl⟩

theorem midState_outpkt (c : Client.Cli) (out : List Nat) (sq : Int) (o D f : Nat) :
    (midState c out sq o D f).outpkt = c.outpkt := by
  unfold midState
  exact ackBook_outpkt c

/-- what the step lemmas read of the client `c2` that, in the state `c` with an upstream fragment in flight, took the last fragment
`f` of the downstream packet `sq` (`lastState`, from outside): the 5 ms ping timer is armed, the packet in flight untouched -/
structure TookLast (P : Par) (c c2 : Client.Cli) (sq : Int) (f : Nat) : Prop where
  stat : CStatL P c2
  cnt : CntOk c2 1
  book : BookFacts c c2
  outpkt : c2.outpkt = c.outpkt
  iseq : c2.inpkt.seqno = sq
  ifrag : c2.inpkt.fragment = (f : Int)
  sps : c2.sendPingSoon = 5
  res : c2.outchunkresent = c.outchunkresent

/-- the first copy when it is the LAST fragment of the downstream packet: the packet goes to the client's tun device, the
5 ms ping timer is armed, nothing is sent -/
theorem cliDoes_last_prev {P : Par} {c0 : Client.Cli} {outU : List Nat} {ou fu : Nat} (hr : CReadyL P c0 outU ou fu)
    {dname pkt : List Nat} (hnd : Client.notData c0 (dname.headD 0) = false)
    {fd : List Nat} {sq : Int} {od D f : Nat} (hp : FragPkt pkt (0x5a :: fd) sq od D f true) (hD : 0 < D)
    (hdup : sq = c0.inpkt.seqno ∨ Client.recentSeqno c0.inpkt.seqno sq = false)
    (hE : CExpect c0 (0x5a :: fd) sq od f) (hsq : 0 ≤ sq ∧ sq < 8) (hf : f < 16) (heq : od + D = (0x5a :: fd).length)
    (h64 : (0x5a :: fd).length ≤ 65536) (h4 : 4 ≤ fd.length)
    (hstale : ¬ ((Client.decodeHdr pkt).upSeq = c0.outpkt.seqno ∧ (Client.decodeHdr pkt).upFrag = (fu : Int))) :
    ∃ c2, CliDoes ⟨{ sentStateL c0 with sendPingSoon := 0 }, .tunnel⟩ (cliInput (.ans c0.chunkid P.ty dname pkt)) ⟨c2, .tunnel⟩ []
        [tunImage fd] ∧ TookLast P { sentStateL c0 with sendPingSoon := 0 } c2 sq f := by
  have hsf := sentFactsL c0
  have hcnt2 : CntOk { sentStateL c0 with sendPingSoon := 0 } 2 := (sentIdsL c0).cnt hr.cnt
  have hrp := recvPrevL_sent hr hnd (answerType P.ty) pkt
  generalize ({ sentStateL c0 with sendPingSoon := 0 } : Client.Cli) = c at hsf hrp hcnt2 ⊢
  have hlastp := tunnelDns_last_prev hrp hp hD (by rw [hsf.inpkt]; exact hdup) (hE.congr hsf.inpkt) hsq hf heq h64
    (by rw [hsf.oseq, hsf.ofrag, hr.frag]; exact hstale)
  have hst := cstatL_last hrp.cst (0x5a :: fd) od D hsq hf
  have h := cliDoes_quiet hrp.cst (id := c0.chunkid) (ty := P.ty) (name := dname) hlastp hst.running
  rw [tunOfC_writeTun fd h4] at h
  exact ⟨_, h, hst, cntOk_answered (d := 1) hcnt2 rfl rfl, lastState_bookFacts c _ sq od D f, rfl, rfl, rfl, rfl, rfl⟩

/-- the first copy when it is NOT the last fragment: appended, and the acknowledging ping goes out at once -/
theorem cliDoes_mid_prev {P : Par} (hP : P.Ok) {c0 : Client.Cli} {outU : List Nat} {ou fu : Nat} (hr : CReadyL P c0 outU ou fu)
    {dname pkt : List Nat} (hnd : Client.notData c0 (dname.headD 0) = false)
    {out : List Nat} {sq : Int} {od D f : Nat} (hp : FragPkt pkt out sq od D f false) (hD : 0 < D)
    (hdup : sq = c0.inpkt.seqno ∨ Client.recentSeqno c0.inpkt.seqno sq = false)
    (hE : CExpect c0 out sq od f) (hsq : 0 ≤ sq ∧ sq < 8) (hf : f < 16) (hle : od + D ≤ out.length)
    (h64 : out.length ≤ 65536)
    (hstale : ¬ ((Client.decodeHdr pkt).upSeq = c0.outpkt.seqno ∧ (Client.decodeHdr pkt).upFrag = (fu : Int))) :
    ∃ name', CliDoes ⟨{ sentStateL c0 with sendPingSoon := 0 }, .tunnel⟩ (cliInput (.ans c0.chunkid P.ty dname pkt))
        ⟨pingStateL (midState { sentStateL c0 with sendPingSoon := 0 } out sq od D f), .tunnel⟩
        [.query (pingStateL (midState { sentStateL c0 with sendPingSoon := 0 } out sq od D f)).chunkid P.ty name'] [] ∧
      PingQ P (upQuery (pingStateL (midState { sentStateL c0 with sendPingSoon := 0 } out sq od D f)).chunkid P.ty name')
        sq (f : Int) c0.randSeed := by
  have hsf := sentFactsL c0
  have hcnt2 : CntOk { sentStateL c0 with sendPingSoon := 0 } 2 := (sentIdsL c0).cnt hr.cnt
  have hrp := recvPrevL_sent hr hnd (answerType P.ty) pkt
  generalize ({ sentStateL c0 with sendPingSoon := 0 } : Client.Cli) = c at hsf hrp hcnt2 ⊢
  have hmidp := tunnelDns_mid_prev hrp hp hD (by rw [hsf.inpkt]; exact hdup) (hE.congr hsf.inpkt) hsq hf hle h64
    (by rw [hsf.oseq, hsf.ofrag, hr.frag]; exact hstale)
  have hc3 := cstatL_midState hrp.cst out od D hsq hf
  have hbf := midState_bookFacts c out sq od D f
  have hin : (midState c out sq od D f).inpkt = inAfter (ackBook c) out sq od D f := by unfold midState; rfl
  have hc3cnt : CntOk (midState c out sq od D f) 1 := (ackBook_cnt c hcnt2).congr rfl rfl
  generalize midState c out sq od D f = c3 at hmidp hc3 hbf hin hc3cnt ⊢
  obtain ⟨name', hcli, hpq⟩ := cliDoes_ping hP hrp.cst (id := c0.chunkid) (ty := P.ty) (name := dname) hmidp hc3 hc3cnt
  rw [hin, hbf.seed.trans hsf.seed] at hpq
  exact ⟨name', hcli, hpq⟩

/-- the downstream code on a DUPLICATE (same seqno, fragment number not above the current one; the reassembly buffer not
empty, or the current fragment not number 0, so that it is not taken for the first fragment of a new packet):
`send_ping_soon = 500`, nothing else -/
theorem downstream_dup (c : Client.Cli) (h : Client.Hdr) (buf : List Nat) (read : Int) (sn : Bool) (hr : 2 < read)
    (hdn : h.dnSeq = c.inpkt.seqno) (hdf : h.dnFrag ≤ c.inpkt.fragment) (hne : c.inpkt.len ≠ 0 ∨ c.inpkt.fragment ≠ 0) :
    Client.downstream c h buf read sn = ({ c with sendPingSoon := 500 }, [], sn) := by
  have ha : Client.acceptFragment c h = none := by
    unfold Client.acceptFragment
    rw [if_neg (by rw [hdn]; simp), if_neg (by intro hh; exact hne.elim (fun h1 => h1 hh.2.2) (fun h1 => h1 hh.1)), if_pos hdf]
  unfold Client.downstream
  rw [if_pos (by omega), ha]

/-- a DUPLICATE of the fragment received last (same seqno, fragment number not above the current one, reassembly buffer not
empty): refused (`send_ping_soon = 500`), then the upstream code looks at the acknowledgement in its header -/
theorem tunnelDns_dup_prev {P : Par} {c : Client.Cli} {rq : Client.Rq} {pkt : List Nat}
    (h : RecvPrevL P c rq pkt) (hrv : 2 < pkt.length) (hbad : pkt.take 5 ≠ Client.ascii "BADIP")
    (hdn : (Client.decodeHdr pkt).dnSeq = c.inpkt.seqno) (hdf : (Client.decodeHdr pkt).dnFrag ≤ c.inpkt.fragment)
    (hil : c.inpkt.len ≠ 0) :
    Client.tunnelDns c rq =
      Client.upstream { ackBook c with sendPingSoon := 500 } (Client.decodeHdr pkt) [] false (pkt.length : Int) :=
  tunnelDns_payload_prev h hrv hbad (Or.inl hdn)
    (downstream_dup (ackBook c) (Client.decodeHdr pkt) pkt (pkt.length : Int) false (by omega) hdn hdf (Or.inl hil))

end Iodine.C02L
