import IodineModel.Lemmas.SrvC03b
/-
The classification of one whole loop iteration (`next`, `out`) in terms of the state BEFORE the iteration
(`stepOutcome`), and what it says about one slot (`slotOutcome`).
-/
namespace Iodine.C03L
open Iodine Iodine.Server Iodine.Gen

/-- what a passed `check_user_and_ip` for user id `i` and source `src` says about the state before the iteration
whose `select` returned at time `now` -/
structure UserOkAt (s : Srv) (now : Nat) (i : Int) (src : Addr) : Prop where
  nonneg : 0 ≤ i
  lt : i < (s.cfg.createdUsers : Int)
  active : (getUser s i.toNat).active = true
  enabled : (getUser s i.toNat).disabled = false
  fresh : ¬ (getUser s i.toNat).lastPkt + 60 < now
  src : s.cfg.checkIp = true →
    src.fam = (getUser s i.toNat).host.fam ∧ src.ip = (getUser s i.toNat).host.ip ∧ (src.fam = 4 ∨ src.fam = 6)

theorem field_entry (s : Srv) (now' v : Nat) :
    (getUser (entry s now') v).active = (getUser s v).active ∧
    (getUser (entry s now') v).authenticated = (getUser s v).authenticated ∧
    (getUser (entry s now') v).authenticatedRaw = (getUser s v).authenticatedRaw ∧
    (getUser (entry s now') v).disabled = (getUser s v).disabled ∧
    (getUser (entry s now') v).seed = (getUser s v).seed ∧
    (getUser (entry s now') v).host = (getUser s v).host ∧
    (getUser (entry s now') v).lastPkt = (getUser s v).lastPkt := by
  obtain ⟨b, hb⟩ := getUser_entry s now' v
  rw [hb]
  exact ⟨rfl, rfl, rfl, rfl, rfl, rfl, rfl⟩

theorem UserOkAt.of_entry {s : Srv} {now : Nat} {i : Int} {q : Query} (h : UserOk (entry s now) i q) :
    UserOkAt s now i q.from_ := by
  obtain ⟨h1, h2, h3, h4, h5, h6⟩ := h
  obtain ⟨f1, f2, f3, f4, f5, f6, f7⟩ := field_entry s now i.toNat
  rw [f1] at h3; rw [f4] at h4; rw [f7] at h5; rw [f6] at h6
  exact ⟨h1, h2, h3, h4, h5, h6⟩

/-- one loop iteration, seen from the state before it -/
inductive StepOutcome (s : Srv) (st : Step) : Prop where
  | quiet
      (hp : ∀ v, prot (getUser (next s st) v) = prot (getUser s v))
      (hb : ∀ v, backlog (getUser (next s st) v) ≤ backlog (getUser s v))
      (he : ∀ e ∈ out s st, Harmless e)
      (hh : ∀ e ∈ (out s st).takeWhile (fun e => e != Event.sweep), NoChunk e)
  | tunIn (f : List Nat) (hi : st.inp = .tun f)
      (hp : ∀ v, prot (getUser (next s st) v) = prot (getUser s v))
      (he : ∀ e ∈ out s st, Harmless e ∨ ∃ d b, e = .raw d b)
  | alloc (q : Query) (u sd : Nat) (hi : st.inp = .q q)
      (cmd : CmdChar s.cfg q 86 ∨ CmdChar s.cfg q 118)
      (lt : u < s.users.length)
      (free : ((getUser s u).active = false ∨ (getUser s u).lastPkt + 60 < st.now) ∧ (getUser s u).disabled = false)
      (hp : ∀ v, v ≠ u → prot (getUser (next s st) v) = prot (getUser s v))
      (hb : ∀ v, backlog (getUser (next s st) v) ≤ backlog (getUser s v))
      (auth : (getUser (next s st) u).authenticated = false)
      (authRaw : (getUser (next s st) u).authenticatedRaw = false)
      (seed : (getUser (next s st) u).seed = sd)
      (active : (getUser (next s st) u).active = true)
      (conn : (getUser (next s st) u).conn = .dnsNull)
      (vack : ∃ dn, Event.ans q.from_ q.id q.type dn q.name (ascii "VACK" ++ beBytes 4 sd ++ [u % 256]) .ctrl ∈ out s st)
      (he : ∀ e ∈ out s st, Harmless e ∨
        ∃ dn, e = Event.ans q.from_ q.id q.type dn q.name (ascii "VACK" ++ beBytes 4 sd ++ [u % 256]) .ctrl)
      (hh : ∀ e ∈ (out s st).takeWhile (fun e => e != Event.sweep), NoChunk e)
  | login (q : Query) (dlen u : Nat) (hi : st.inp = .q q)
      (hd : Common.queryDatalen q.name s.cfg.topdomain = some dlen) (h2 : 2 ≤ dlen)
      (cmd : q.name.getD 0 0 = 76 ∨ q.name.getD 0 0 = 108)
      (len : 18 ≤ (Encoding.unpackData Codec.b32 65536 ((q.name.take (min dlen 512)).drop 1)).length)
      (uid : charVal ((Encoding.unpackData Codec.b32 65536 ((q.name.take (min dlen 512)).drop 1)).getD 0 0) = (u : Int))
      (hash : ((Encoding.unpackData Codec.b32 65536 ((q.name.take (min dlen 512)).drop 1)).drop 1).take 16
          = Login.loginCalcC s.cfg.password (getUser s u).seed)
      (ok : UserOkAt s st.now u q.from_)
      (hp : ∀ v, v ≠ u → prot (getUser (next s st) v) = prot (getUser s v))
      (hself : prot (getUser (next s st) u) = { prot (getUser s u) with authenticated := true })
      (hb : ∀ v, backlog (getUser (next s st) v) ≤ backlog (getUser s v))
      (he : ∀ e ∈ out s st, Harmless e)
      (hh : ∀ e ∈ (out s st).takeWhile (fun e => e != Event.sweep), NoChunk e)
  | authedQ (q : Query) (i : Int) (hi : st.inp = .q q) (hreq : reqSlot s.cfg st.inp = some i)
      (ok : UserOkAt s st.now i q.from_) (hauth : (getUser s i.toNat).authenticated = true)
      (hcore : ∀ v, core (getUser (next s st) v) = core (getUser s v))
      (hoth : ∀ v, v ≠ i.toNat → prot (getUser (next s st) v) = prot (getUser s v))
  | rawLogin (src : Addr) (bytes : List Nat) (u : Nat) (hi : st.inp = .rawf src bytes)
      (uid : u = bytes.getD 3 0 &&& RAW_HDR_USR_MASK)
      (hash : (((bytes.take 65536).drop RAW_HDR_LEN).take 16) = Login.loginCalcC s.cfg.password ((getUser s u).seed + 1))
      (lt : u < s.cfg.createdUsers)
      (active : (getUser s u).active = true)
      (enabled : (getUser s u).disabled = false)
      (auth : (getUser s u).authenticated = true)
      (fresh : ¬ (getUser s u).lastPkt + 60 < st.now)
      (hp : ∀ v, v ≠ u → prot (getUser (next s st) v) = prot (getUser s v))
      (hself : prot (getUser (next s st) u) =
        { prot (getUser s u) with host := src, conn := .rawUdp, authenticatedRaw := true })
      (hb : ∀ v, backlog (getUser (next s st) v) ≤ backlog (getUser s v))
      (he : ∀ e ∈ out s st, Harmless e)
      (hh : ∀ e ∈ (out s st).takeWhile (fun e => e != Event.sweep), NoChunk e)
  | authedRaw (src : Addr) (bytes : List Nat) (u : Nat) (hi : st.inp = .rawf src bytes)
      (hreq : reqSlot s.cfg st.inp = some (u : Int))
      (ok : UserOkAt s st.now u src) (hauth : (getUser s u).authenticated = true)
      (hraw : (getUser s u).authenticatedRaw = true)
      (hp : ∀ v, prot (getUser (next s st) v) = prot (getUser s v))

theorem harmless_marker : Harmless .sweep ∧ Harmless .tunskip := by
  constructor <;> (unfold Harmless; trivial)

theorem mem_out_of_dispatch (s : Srv) (st : Step) (e : Event)
    (h : e ∈ (dispatch (entry s st.now) st.inp (topOfLoop s).2.2).2) : e ∈ out s st := by
  obtain ⟨_, _, hb⟩ := body_eq (entry s st.now) st.inp (topOfLoop s).2.2
  show e ∈ (body (entry s st.now) st.inp (topOfLoop s).2.2).2
  rw [hb]; exact List.mem_append_left _ h

theorem mem_takeWhile_prefix (a b : List Event) (e : Event)
    (h : e ∈ (a ++ Event.sweep :: b).takeWhile (fun e => e != Event.sweep)) : e ∈ a := by
  induction a with
  | nil => simp at h
  | cons x a ih =>
    simp only [List.cons_append, List.takeWhile_cons] at h
    split at h
    · rcases List.mem_cons.mp h with rfl | h
      · exact List.mem_cons_self
      · exact List.mem_cons_of_mem _ (ih h)
    · cases h

theorem mem_dispatch_of_handlerEvents (s : Srv) (st : Step) (e : Event)
    (h : e ∈ (out s st).takeWhile (fun e => e != Event.sweep)) :
    e ∈ (dispatch (entry s st.now) st.inp (topOfLoop s).2.2).2 := by
  obtain ⟨_, _, hb⟩ := body_eq (entry s st.now) st.inp (topOfLoop s).2.2
  have : out s st = (body (entry s st.now) st.inp (topOfLoop s).2.2).2 := rfl
  rw [this, hb] at h
  exact mem_takeWhile_prefix _ _ e h

theorem stepOutcome (s : Srv) (st : Step) : StepOutcome s st := by
  have hn := next_eq s st
  have ho := mem_out s st
  have ho2 := mem_out_of_dispatch s st
  have ho3 := mem_dispatch_of_handlerEvents s st
  generalize hr : dispatch (entry s st.now) st.inp (topOfLoop s).2.2 = r at hn ho ho2 ho3
  have hd : Outcome (entry s st.now) st.inp r := hr ▸ outcome_dispatch _ _ _
  have hq : Quiet r.1 (sweep r.1) := quiet_sweep r.1
  have hpp : ∀ v, prot (getUser (next s st) v) = prot (getUser r.1 v) := by
    intro v; rw [hn]; exact prot_getUser_of_view hq.view v
  have hpb : ∀ v, backlog (getUser (next s st) v) ≤ backlog (getUser r.1 v) := by
    intro v; rw [hn]; exact hq.mle v
  have hev : ∀ (P : Event → Prop), (∀ e, Harmless e → P e) → (∀ e ∈ r.2, P e) → ∀ e ∈ out s st, P e := by
    intro P hP hr2 e he
    rcases ho e he with h | h | h | h
    · exact hr2 e h
    · subst h; exact hP _ harmless_marker.1
    · exact hP e (hq.evs e h)
    · subst h; exact hP _ harmless_marker.2
  cases hd with
  | quiet h =>
    refine StepOutcome.quiet ?_ ?_ ?_ ?_
    · intro v; rw [hpp, prot_getUser_of_view h.view, prot_entry]
    · intro v
      exact Nat.le_trans (hpb v) (Nat.le_trans (h.mle v) (Nat.le_of_eq (backlog_entry s st.now v)))
    · exact hev Harmless (fun e he => he) h.evs
    · exact fun e he => h.nochunk e (ho3 e he)
  | tunIn f hi hv he =>
    refine StepOutcome.tunIn f hi ?_ ?_
    · intro v; rw [hpp, prot_getUser_of_view hv, prot_entry]
    · exact hev _ (fun e he => Or.inl he) he
  | alloc q u sd hi h =>
    obtain ⟨f1, f2, f3, f4, f5, f6, f7⟩ := field_entry s st.now u
    have hpu := hpp u
    unfold prot at hpu
    simp only [Prot.mk.injEq] at hpu
    obtain ⟨dn, hdn⟩ := h.evs
    refine StepOutcome.alloc q u sd hi h.cmd (by simpa using h.lt) ?_ ?_ ?_ ?_ ?_ ?_ ?_ ?_ ?_ ?_ ?_
    · have := h.free
      rw [f1, f7, f4] at this
      exact this
    · intro v hv; rw [hpp, h.others v hv, prot_entry]
    · intro v
      by_cases hv : v = u
      · subst hv
        have := hpb v
        rw [h.backlog] at this
        omega
      · have := hpb v
        rw [h.others v hv, backlog_entry] at this
        exact this
    · rw [hpu.2.1]; exact h.auth
    · rw [hpu.2.2.1]; exact h.authRaw
    · rw [hpu.2.2.2.2.1]; exact h.seed
    · rw [hpu.1]; exact h.active
    · rw [hpu.2.2.2.2.2.2.2.2.2.2.2]; exact h.conn
    · refine ⟨dn, ho2 _ ?_⟩
      rw [hdn]; exact List.mem_singleton.mpr rfl
    · apply hev _ (fun e he => Or.inl he)
      intro e he
      rw [hdn] at he
      simp only [List.mem_cons, List.not_mem_nil, or_false] at he
      exact Or.inr ⟨dn, he⟩
    · intro e he
      have := ho3 e he
      rw [hdn] at this
      simp only [List.mem_cons, List.not_mem_nil, or_false] at this
      subst this
      rfl
  | login q dlen u hi h =>
    obtain ⟨f1, f2, f3, f4, f5, f6, f7⟩ := field_entry s st.now u
    refine StepOutcome.login q dlen u hi h.hd h.h2 h.cmd h.len h.uid ?_ ?_ ?_ ?_ ?_ ?_ ?_
    · have := h.hash; rw [f5] at this; exact this
    · have := UserOkAt.of_entry h.ok
      simpa using this
    · intro v hv; rw [hpp, h.others v hv, prot_entry]
    · rw [hpp, h.self]
      obtain ⟨b, hb⟩ := getUser_entry s st.now u
      rw [hb]; rfl
    · intro v
      by_cases hv : v = u
      · subst hv
        have := hpb v
        rw [h.self] at this
        obtain ⟨b, hb⟩ := getUser_entry s st.now v
        rw [hb] at this
        exact this
      · have := hpb v
        rw [h.others v hv, backlog_entry] at this
        exact this
    · exact hev Harmless (fun e he => he) h.evs
    · exact fun e he => h.nochunk e (ho3 e he)
  | authedQ q i hi hreq hchk hcore hoth =>
    obtain ⟨hok, hau⟩ := auth_of_check hchk
    obtain ⟨f1, f2, f3, f4, f5, f6, f7⟩ := field_entry s st.now i.toNat
    refine StepOutcome.authedQ q i hi hreq (UserOkAt.of_entry hok) (by rw [← f2]; exact hau) ?_ ?_
    · intro v
      rw [core_of_prot (hpp v), hcore v, core_of_prot (prot_entry s st.now v)]
    · intro v hv
      rw [hpp, hoth v hv, prot_entry]
  | rawLogin src bytes u hi h =>
    obtain ⟨f1, f2, f3, f4, f5, f6, f7⟩ := field_entry s st.now u
    refine StepOutcome.rawLogin src bytes u hi h.uid ?_ h.lt ?_ ?_ ?_ ?_ ?_ ?_ ?_ ?_ ?_
    · have := h.hash; rw [f5] at this; exact this
    · rw [← f1]; exact h.active
    · rw [← f4]; exact h.enabled
    · rw [← f2]; exact h.auth
    · have := h.fresh; rw [f7] at this; simpa using this
    · intro v hv; rw [hpp, h.others v hv, prot_entry]
    · rw [hpp, h.self]
      obtain ⟨b, hb⟩ := getUser_entry s st.now u
      rw [hb]; rfl
    · intro v
      by_cases hv : v = u
      · subst hv
        have := hpb v
        rw [h.self] at this
        obtain ⟨b, hb⟩ := getUser_entry s st.now v
        rw [hb] at this
        exact this
      · have := hpb v
        rw [h.others v hv, backlog_entry] at this
        exact this
    · exact hev Harmless (fun e he => he) h.evs
    · exact fun e he => h.nochunk e (ho3 e he)
  | authedRaw src bytes u hi hreq hchk hraw hv =>
    obtain ⟨hok, hau⟩ := auth_of_check hchk
    obtain ⟨f1, f2, f3, f4, f5, f6, f7⟩ := field_entry s st.now u
    have hok' := UserOkAt.of_entry hok
    simp only [Int.toNat_natCast] at hau
    refine StepOutcome.authedRaw src bytes u hi hreq hok' (by rw [← f2]; exact hau) (by rw [← f3]; exact hraw) ?_
    intro v; rw [hpp, prot_getUser_of_view hv, prot_entry]

/-- what one iteration does to ONE slot `w`: its `prot` stays; or a version handshake allocates it; or a login
request logs it in; or the datagram is a request of `w`, authenticated (and `core` stays); or a raw login frame
switches it to raw mode -/
inductive SlotOutcome (s : Srv) (st : Step) (w : Nat) : Prop where
  | same (hp : prot (getUser (next s st) w) = prot (getUser s w))
  | alloc (q : Query) (sd : Nat) (hi : st.inp = .q q)
      (cmd : CmdChar s.cfg q 86 ∨ CmdChar s.cfg q 118)
      (free : ((getUser s w).active = false ∨ (getUser s w).lastPkt + 60 < st.now) ∧ (getUser s w).disabled = false)
      (auth : (getUser (next s st) w).authenticated = false)
      (authRaw : (getUser (next s st) w).authenticatedRaw = false)
      (seed : (getUser (next s st) w).seed = sd)
      (conn : (getUser (next s st) w).conn = .dnsNull)
      (vack : ∃ dn, Event.ans q.from_ q.id q.type dn q.name (ascii "VACK" ++ beBytes 4 sd ++ [w % 256]) .ctrl ∈ out s st)
  | login (q : Query) (dlen : Nat) (hi : st.inp = .q q)
      (hd : Common.queryDatalen q.name s.cfg.topdomain = some dlen) (h2 : 2 ≤ dlen)
      (cmd : q.name.getD 0 0 = 76 ∨ q.name.getD 0 0 = 108)
      (len : 18 ≤ (Encoding.unpackData Codec.b32 65536 ((q.name.take (min dlen 512)).drop 1)).length)
      (uid : charVal ((Encoding.unpackData Codec.b32 65536 ((q.name.take (min dlen 512)).drop 1)).getD 0 0) = (w : Int))
      (hash : ((Encoding.unpackData Codec.b32 65536 ((q.name.take (min dlen 512)).drop 1)).drop 1).take 16
          = Login.loginCalcC s.cfg.password (getUser s w).seed)
      (ok : UserOkAt s st.now w q.from_)
      (hself : prot (getUser (next s st) w) = { prot (getUser s w) with authenticated := true })
  | request (q : Query) (hi : st.inp = .q q) (hreq : reqSlot s.cfg st.inp = some (w : Int))
      (ok : UserOkAt s st.now w q.from_) (hauth : (getUser s w).authenticated = true)
      (hcore : core (getUser (next s st) w) = core (getUser s w))
  | rawLogin (src : Addr) (bytes : List Nat) (hi : st.inp = .rawf src bytes)
      (uid : w = bytes.getD 3 0 &&& RAW_HDR_USR_MASK)
      (hash : (((bytes.take 65536).drop RAW_HDR_LEN).take 16) = Login.loginCalcC s.cfg.password ((getUser s w).seed + 1))
      (lt : w < s.cfg.createdUsers)
      (active : (getUser s w).active = true)
      (enabled : (getUser s w).disabled = false)
      (auth : (getUser s w).authenticated = true)
      (fresh : ¬ (getUser s w).lastPkt + 60 < st.now)
      (hself : prot (getUser (next s st) w) =
        { prot (getUser s w) with host := src, conn := .rawUdp, authenticatedRaw := true })

theorem slotOutcome (s : Srv) (st : Step) (w : Nat) : SlotOutcome s st w := by
  cases stepOutcome s st with
  | quiet hp hb he hh => exact .same (hp w)
  | tunIn f hi hp he => exact .same (hp w)
  | alloc q u sd hi cmd lt free hp hb auth authRaw seed active conn vack he hh =>
    by_cases hu : w = u
    · subst hu; exact .alloc q sd hi cmd free auth authRaw seed conn vack
    · exact .same (hp w hu)
  | login q dlen u hi hd h2 cmd len uid hash ok hp hself hb he hh =>
    by_cases hu : w = u
    · subst hu; exact .login q dlen hi hd h2 cmd len uid hash ok hself
    · exact .same (hp w hu)
  | authedQ q i hi hreq ok hauth hcore hoth =>
    obtain ⟨n, rfl⟩ := Int.eq_ofNat_of_zero_le ok.nonneg
    by_cases hu : w = n
    · subst hu; exact .request q hi hreq ok hauth (hcore w)
    · exact .same (hoth w hu)
  | rawLogin src bytes u hi uid hash lt active enabled auth fresh hp hself hb he hh =>
    by_cases hu : w = u
    · subst hu; exact .rawLogin src bytes hi uid hash lt active enabled auth fresh hself
    · exact .same (hp w hu)
  | authedRaw src bytes u hi hreq ok hauth hraw hp => exact .same (hp w)

end Iodine.C03L
