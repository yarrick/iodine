import IodineModel.Props.C10
import IodineModel.Client.Tunnel
import IodineModel.Lemmas.WireRt2
import IodineModel.Encoding
/-
The client's query survives its own DNS encoding.
`Client.wireQuery id ty edns host` is `dns_encode(QR_QUERY)` of the client followed by the repository's own
`dns_decode(QR_QUERY)`.  The encoder side is characterised in Lemmas/WirePut.lean (`dnsEncodeQuery_ok`: exact
bytes), the reads of the decoder in Lemmas/WireRt.lean, the bridges between dotted names, labels and the label automaton in
Props/C10.lean (`nameFacts`, `joinDots_labels`); `wireQuery_legal` puts them together.
-/
namespace Iodine.C02L
open Iodine.Wire

/-- the same function as `Wire.joinDots` (Lemmas/Strict.lean), in which the lemmas below are stated -/
def joinDots : List (List Nat) → List Nat
  | [] => []
  | [l] => l
  | l :: l' :: ls => l ++ 46 :: joinDots (l' :: ls)

theorem joinDots_length (ls : List (List Nat)) (hne : ls ≠ []) : (joinDots ls).length + 2 = labLen ls + 1 := by
  induction ls with
  | nil => exact absurd rfl hne
  | cons l ls ih =>
    cases ls with
    | nil => simp [joinDots]
    | cons l' ls =>
      have := ih (by simp)
      simp only [joinDots, List.length_append, List.length_cons, labLen_cons] at this ⊢
      omega

example : C10.LegalName [97, 98, 46, 116] :=
  C10.legalName_of_legalAux [97, 98, 46, 116] (by decide) (by decide) (by decide)

theorem readHeader_query {pkt : List Nat} (hl : pkt.length ≤ 65536) (id : Nat) (hid : id < 65536)
    (h6 h7 : Nat) (rest : List Nat)
    (hL : pkt = id / 256 % 256 :: id % 256 :: 1 :: 0 :: 0 :: 1 :: h6 :: h7 :: rest) :
    ∃ an, readHeader (rx pkt) = .ok { id := id, qr := 0, rcode := 0, qdcount := 1, ancount := an } := by
  refine ⟨sshort ((h6 <<< 8) ||| h7), ?_⟩
  rw [readHeader_bytes hl _ _ _ _ _ _ _ _ rest hL, shl8_or _ _ (Nat.mod_lt _ (by decide)), Strict.be16_val id hid, and_ffff id hid]
  rfl

/-- The decoder on "header (query, one question), uncompressed name, type, class, anything": the id, the
type and the dotted name. -/
theorem dnsDecodeQuery_enc {pkt : List Nat} (hl : pkt.length ≤ 65536) (id ty : Nat) (hid : id < 65536) (hty : ty < 65536)
    (h6 h7 h8 h9 h10 h11 cls : Nat) (ls : List (List Nat)) (post : List Nat)
    (hL : pkt = [id / 256 % 256, id % 256, 1, 0, 0, 1, h6, h7, h8, h9, h10, h11] ++
      (encName ls ++ (be16 ty ++ (be16 cls ++ post))))
    (hcls : cls < 65536) (hok : LabelsOK ls) (hlen : (Wire.joinDots ls).length ≤ 253)
    (hnz : ∀ c ∈ Wire.joinDots ls, c ≠ 0) :
    ∃ d, dnsDecodeQuery (rx pkt) = .ok d ∧ d.id = id ∧ d.type = ty ∧ d.name = Wire.joinDots ls := by
  obtain ⟨an, hh⟩ := readHeader_query hl id hid h6 h7
    (h8 :: h9 :: h10 :: h11 :: (encName ls ++ (be16 ty ++ (be16 cls ++ post)))) (by simpa using hL)
  have hplen : pkt.length = 12 + (labLen ls + 1) + 4 + post.length := by
    rw [hL]; simp; omega
  have hat : At pkt 12 (encName ls ++ (be16 ty ++ (be16 cls ++ post))) := by
    have := at_append' [id / 256 % 256, id % 256, 1, 0, 0, 1, h6, h7, h8, h9, h10, h11]
      (encName ls ++ (be16 ty ++ (be16 cls ++ post))) [] 12 rfl
    rw [hL]; simpa using this
  have hname := readname_labels hl 255 12 ls _ hok hat (by omega) (by omega)
  have hat1 : At pkt (12 + labLen ls + 1) (be16 ty ++ (be16 cls ++ post)) := by
    have := hat.right
    simpa [encName_length, Nat.add_assoc] using this
  have hty' := readshort_at hl hty hat1
  have hcl' := readshort_at hl hcls hat1.right
  simp only [Iodine.Wire.Put.be16_length] at hcl'
  have h1 : (Wire.joinDots ls ++ [0]).take 255 = Wire.joinDots ls ++ [0] := List.take_of_length_le (by simp; omega)
  refine ⟨{ rv := (Wire.joinDots ls).length, id := id, type := ty, rcode := 0, name := Wire.joinDots ls, buf := [] },
    ?_, rfl, rfl, rfl⟩
  unfold dnsDecodeQuery
  rw [if_neg (by rw [rx_plen]; omega), hh]
  simp only [bind_ok]
  rw [if_neg (by simp), if_neg (by simp), hname]
  simp only [bind_ok, h1, Wire.cstr_append_nul _ [] hnz]
  rw [if_neg (by omega),
    show checklenFails (rx pkt) 4 (12 + labLen ls + 1) = false by simp [checklenFails]; omega]
  simp only [Bool.false_eq_true, if_false, hty', bind_ok, hcl']
  rw [List.take_of_length_le (l := Wire.joinDots ls) (by omega), List.take_of_length_le (by omega)]

/-- **wireQuery_legal.**  For every legal host name the client's `dns_encode(QR_QUERY)` (4096-byte buffer, with or
without the EDNS0 record) followed by the repository's own `dns_decode(QR_QUERY)` gives back exactly the id, the
type and the name. -/
theorem wireQuery_legal (id ty : Nat) (edns : Bool) (host : List Nat)
    (hid : id < 65536) (hty : ty < 65536) (hn : C10.LegalName host) :
    Client.wireQuery id ty edns host = some (.query id ty host) := by
  have nf := C10.nameFacts hn
  have h253 := nf.le253
  have henc := Wire.DnsEncode.dnsEncodeQuery_ok 4096 id ty edns host nf.le63 (by split <;> omega)
  rw [nf.tok] at henc
  have hjoin := C10.joinDots_labels host
  obtain ⟨d, hd, hdid, hdty, hdname⟩ := dnsDecodeQuery_enc
    (pkt := be16 id ++ [0x01, 0] ++ be16 1 ++ be16 0 ++ be16 0 ++ be16 (if edns then 1 else 0) ++
      (Wire.DnsEncode.qBytes (C10.labels host) ty ++ (if edns then Wire.DnsEncode.optBytes else [])))
    (by cases edns <;> simp [nf.len, Wire.DnsEncode.optBytes] <;> omega)
    id ty hid hty 0 0 0 0 ((if edns then 1 else 0) / 256 % 256) ((if edns then 1 else 0) % 256) 1
    (C10.labels host) (if edns then Wire.DnsEncode.optBytes else [])
    (by simp [be16, Wire.DnsEncode.qBytes])
    (by omega) nf.ok (by rw [hjoin]; exact h253) (by rw [hjoin]; exact fun c hc => (hn.2.1 c hc).1)
  simp only [rx] at hd
  unfold Client.wireQuery
  rw [henc]
  simp only []
  rw [if_neg (by simp [be16]), hd]
  simp only [hdid, hdty, hdname, hjoin]

/-- non-vacuity: a concrete run (EDNS0 on and off) -/
example : Client.wireQuery 7727 10 true [48, 97, 98, 46, 116, 46, 97, 98] =
    some (.query 7727 10 [48, 97, 98, 46, 116, 46, 97, 98]) := by decide +kernel
example : C10.LegalName [48, 97, 98, 46, 116, 46, 97, 98] := by decide
example := wireQuery_legal 65535 65399 false [48, 97, 98, 46, 116, 46, 97, 98] (by decide) (by decide) (by decide)

/-- the boundary: a name of the maximal length 253 (labels 63.63.63.61) still comes back unchanged — `readname`
is called with `length = 255`, its loop test `len < length - 2` lets a label start up to `len = 252`. -/
def maxName : List Nat :=
  List.replicate 63 97 ++ 46 :: (List.replicate 63 98 ++ 46 :: (List.replicate 63 99 ++ 46 :: List.replicate 61 100))
example : maxName.length = 253 ∧ C10.LegalName maxName := by decide +kernel
example : Client.wireQuery 7727 10 true maxName = some (.query 7727 10 maxName) :=
  wireQuery_legal 7727 10 true maxName (by decide) (by decide) (by decide +kernel)

end Iodine.C02L
