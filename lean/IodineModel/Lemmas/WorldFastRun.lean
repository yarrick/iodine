import IodineModel.Lemmas.WorldFast
import IodineModel.Lemmas.C02sched
/-
`C02L.runSched` (a fixed number of steps of a schedule function: the blackout runs) as an instance of `World.Wire.iter`,
for the tests that evaluate such runs on `World.Wire.step wqFast` (`Lemmas/WorldFast.lean`).
-/
namespace Iodine.C02L
open Iodine Iodine.World

theorem runSched_over (ev : W → Ev) : runSched ev = Wire.iter step (fun _ => false) ev :=
  Wire.iter_unique _ (fun _ => rfl) (fun _ _ => rfl)

theorem runSched_fast (ev : W → Ev) : runSched ev = Wire.iter (Wire.step Client.wqFast) (fun _ => false) ev := by
  rw [runSched_over, step_fast]

end Iodine.C02L
