import IodineModel.Client.Loop
/-
Facts about the functions of the client tunnel model (IodineModel/Client/*.lean), read off their definitions: what `send_query`
leaves and emits and when it is its plain head, the give-up and resend of the timeout branch, which descriptors `select` watches,
the 60 s rule; and the normal form of `tunnel_dns` (`tunnelDns_eq`): its four exits in front of the reassembly and the stages of
the accepted branch (`tdStages`).  The bookkeeping of an accepted answer has names, `C02L.ackBook` and `C02L.hintBook`: the stages
and the lemmas of C02 about them are stated with these.
-/
namespace Iodine.Client

theorem rotateChunkid_lazymode (c : Cli) : (rotateChunkid c).lazymode = c.lazymode := by
  rw [rotateChunkid]

/-- `send_query` never produces the id 0. -/
theorem rotateChunkid_ne_zero (c : Cli) : (rotateChunkid c).chunkid ≠ 0 := by
  unfold rotateChunkid
  simp only
  split <;> omega

/-- The id stays a `uint16_t`. -/
theorem rotateChunkid_lt (c : Cli) : (rotateChunkid c).chunkid < 65536 := by
  unfold rotateChunkid
  simp only
  split <;> omega

theorem rotateChunkid_window (c : Cli) :
    (rotateChunkid c).chunkidPrev = c.chunkid ∧ (rotateChunkid c).chunkidPrev2 = c.chunkidPrev := by
  rw [rotateChunkid]; exact ⟨rfl, rfl⟩

/-- `send_query` rotates the ids whether or not the datagram could be built -/
theorem sendQueryPlain_state (c : Cli) (h : List Nat) : (sendQueryPlain c h).1.1 = rotateChunkid c := by
  rw [sendQueryPlain]
  cases wireQuery (rotateChunkid c).chunkid (rotateChunkid c).doQtype (rotateChunkid c).edns0 h <;> rfl

theorem sendQueryPlain_sendcnt (c : Cli) (h : List Nat) : (sendQueryPlain c h).1.1.sendcnt = c.sendcnt := by
  rw [sendQueryPlain_state, rotateChunkid]

theorem sendQueryPlain_lazymode (c : Cli) (h : List Nat) : (sendQueryPlain c h).1.1.lazymode = c.lazymode := by
  rw [sendQueryPlain_state, rotateChunkid_lazymode]

/-- The claim in the comment of `sendHandshakeQuery`: outside lazy mode the "too few answers" block of `send_query`
is dead, `send_query` is its plain head and never parks.  (`handshake_lazyoff` is only reached with
`lazymode = 0`, so the `send_query` inside `send_lazy_switch` cannot recurse into `handshake_lazyoff`.) -/
theorem sendQuery_of_not_lazy (c : Cli) (h : List Nat) (hl : c.lazymode = false) :
    sendQuery c h = ⟨(sendQueryPlain c h).1.1, (sendQueryPlain c h).1.2, false⟩ := by
  have hl' := sendQueryPlain_lazymode c h
  rw [hl] at hl'
  unfold sendQuery
  simp only
  split
  · simp [sendQueryCount, hl']
  · rfl

/-- `handshake_lazyoff` sends at most five switch queries: iteration 5 does not exist. -/
theorem lazyoffIter_five (c : Cli) (i : Nat) (hi : 5 ≤ i) : lazyoffIter c i = ⟨c, [], false⟩ := by
  unfold lazyoffIter
  have : ¬ (c.running = true ∧ i < 5) := by omega
  simp [this]

/-- Whatever was interrupted, its remaining code clears `send_ping_soon` and nothing else. -/
theorem resume_state (c : Cli) (k : Resume) : (resume c k).1 = { c with sendPingSoon := 0 } := by
  cases k <;> rfl

/-- "tun read only when `¬sending ∨ outchunkresent ≥ 2`" at the level of the `select` call. -/
theorem selectOf_tun (c : Cli) : (selectOf c).tun = true ↔ (isSending c = false ∨ c.outchunkresent ≥ 2) := by
  unfold selectOf
  cases isSending c <;> simp

theorem selectOf_dns (c : Cli) : (selectOf c).dns = true := rfl

/-- A tun frame read while a packet is in flight is dropped: state untouched, nothing sent. -/
theorem tunnelTun_sending (c : Cli) (f : List Nat) (h : isSending c = true) :
    tunnelTun c f = (c, [], .ret (-1)) := by
  simp [tunnelTun, h]

/-- Give-up after three resends: the fourth timeout with the same fragment still unacknowledged drops the packet
(the state the ping is sent from has no packet in flight and the resend counter is back to 0). -/
theorem timeoutBranch_giveup (c : Cli) (hs : isSending c = true) (h3 : c.outchunkresent = 3) :
    timeoutBranch c =
      afterSend (sendPing { c with outpkt := { c.outpkt with offset := 0, len := 0, sentlen := 0 }, outchunkresent := 0 })
        [] .timeout := by
  unfold timeoutBranch
  simp [hs, h3]

/-- … and below three resends the same fragment is sent again with the counter incremented. -/
theorem timeoutBranch_resend (c : Cli) (hs : isSending c = true) (h3 : c.outchunkresent < 3) :
    timeoutBranch c = afterSend (sendChunk { c with outchunkresent := c.outchunkresent + 1 }) [] .timeout := by
  unfold timeoutBranch
  simp [hs, h3]

theorem cstep_idle (c : Cli) (inp : CInput) : cstep ⟨c, .idle⟩ inp = (⟨c, .idle⟩, [], .none) := rfl

/-- The 60 s rule: once the last downstream data is more than 60 s old when `select` returns, `client_tunnel`
returns 0 without looking at what `select` delivered. -/
theorem tunnelStep_expired (c : Cli) (hexp : c.lastdownstreamtime + 60 < c.now) (q : Rq) :
    tunnelStep c (.rq q) = (⟨{ c with running := false }, .idle⟩, [], .finished 0) := by
  unfold tunnelStep
  simp [fire, afterSelect, hexp]

/-- non-vacuity of `sendQuery_of_not_lazy`'s contrapositive side: in lazy mode `send_query` does park. -/
example :
    let c : Cli := { Cli.boot with lazymode := true, selecttimeout := 1, sendcnt := 6, running := true,
                                   topdomain := [97, 46, 98, 99], doQtype := 10 }
    (sendQuery c [112, 97, 46, 97, 46, 98, 99]).parked = true := by decide +kernel

theorem wireQuery_query {id ty : Nat} {e : Bool} {h : List Nat} {ev : CEvent} (hw : wireQuery id ty e h = some ev) :
    ∃ id ty n, ev = .query id ty n := by
  unfold wireQuery at hw
  split at hw
  · split at hw
    · cases hw
    · split at hw <;> (injection hw with hw; subst hw; exact ⟨_, _, _, rfl⟩)
  · cases hw
  · cases hw

/-- `(size_t) x` of a hostname limit is the number itself -/
theorem sizeT_natCast (L : Nat) (h : L ≤ 255) : sizeT (L : Int) = L := by
  unfold sizeT
  omega

/-- the client's `build_hostname` in the normal case: what `Encoding.buildHostname` builds -/
theorem buildHostname_of_some (cd : Codec.Codec) (L buflen prev : Nat) (td d : List Nat) (b : Encoding.Built) (hL : L ≤ 255)
    (h : Encoding.buildHostname cd L buflen prev td d = some b) : buildHostname cd (L : Int) buflen prev td d = b := by
  unfold buildHostname
  rw [sizeT_natCast L hL, h]

end Iodine.Client

namespace Iodine.C02L
open Iodine Iodine.Client

/-- the bookkeeping of `tunnel_dns` on an accepted answer before the data part is looked at -/
def ackBook (c : Cli) : Cli := { countRecv c with lastdownstreamtime := c.now }

/-- the bookkeeping of `tunnel_dns` on an accepted answer to the MOST RECENT query in lazy mode, with no ping due before:
"we shouldn't get much replies to our most-recent query" -/
def hintBook (c : Cli) : Cli := { ackBook c with sendPingSoon := 900 }

end Iodine.C02L

namespace Iodine.Client
open Iodine.C02L (ackBook)

/-- `tunnel_dns` behind its three early exits and the id test, as the composition of its stages -/
def tdStages (c : Cli) (rq : Rq) : Cli × List CEvent × Stop :=
  let h := decodeHdr rq.buf
  let d := dupeSeqno { c with sendPingSoon := 0 } h rq.rv
  let b := datalessAdopt (lazyHint (ackBook d.1) rq.id) h d.2
  let r := downstream b h rq.buf d.2 (c.sendPingSoon != 0)
  upstream r.1 h r.2.1 r.2.2 d.2

theorem dupeSeqno_recentId (c : Cli) (h : Hdr) (rd : Int) (id : Nat) :
    recentId (countRecv (dupeSeqno c h rd).1) id = recentId c id := by
  unfold dupeSeqno
  split <;> rfl

/-- the four tests in front of the reassembly code decide on the incoming state: the id test, which the code makes after
`dupeSeqno` and the receive count, does not see what they change -/
theorem tunnelDns_eq (c : Cli) (rq : Rq) :
    tunnelDns c rq =
      if notData c rq.name0 then ({ c with sendPingSoon := 700 }, [], .ret (-1))
      else if rq.rv < 2 then ({ servfailCount c rq with sendPingSoon := 900 }, [], .ret (-1))
      else if rq.rv = 5 ∧ rq.buf.take 5 = ascii "BADIP" then (c, [], .ret (-1))
      else if !recentId c rq.id then
        let c1 := oosCount (countRecv (dupeSeqno { c with sendPingSoon := 0 } (decodeHdr rq.buf) rq.rv).1)
        if c.sendPingSoon != 0 then afterSend (sendPing c1) [] .dnsOosPing else (c1, [], .ret (-1))
      else tdStages c rq := by
  unfold tunnelDns tdStages
  simp only [dupeSeqno_recentId]
  rfl

/-- `select` reports a tun frame only when the input was that frame -/
theorem fire_tun {c : Cli} {sel : Sel} {inp : CInput} {f : List Nat} (h : (fire c sel inp).2 = .tun f) : inp = .tun f := by
  unfold fire at h
  split at h
  · cases h
  · split at h
    · simp only [Fired.tun.injEq] at h
      rw [h]
    · cases h
  · cases h

end Iodine.Client
