import IodineModel.Lemmas.SrvC04a
import IodineModel.Lemmas.SrvC04b
/-
For C14 (no unsolicited / surplus DNS answers).  A stored query stands for the keys `(from, id, name, type)` it may still
be answered under (`qKeys`); `held` is their multiset over `(q, q_sendrealsoon)` of all slots.  `Bal`: the answers of a
step plus what is held afterwards come out of what was held before plus what came in; `Inc` says it per session for the
tunnel-data answers.  The two step predicates of the handlers: `Keeps` (no key comes in) and `Takes` (the arriving query's
key does).  What does not touch the stored queries is known from its frame (`SameQ.of_frame`), `send_chunk_or_dataless` by
`sc_shape`.
-/
namespace Iodine.C14L
open Iodine Iodine.Server

/-- `(from, id, name, type)` -/
abbrev Key := Addr × Nat × List Nat × Nat

def keyOf (q : Query) : Key := (q.from_, q.id, q.name, q.type)

/-- key of the remembered duplicate of a stored query -/
def key2 (q : Query) : Key := (q.from2, q.id2, q.name, q.type)

/-- the keys a stored query stands for: nothing if `id = 0`, itself, and the remembered duplicate if `id2 ≠ 0` -/
def qKeys (q : Query) : List Key :=
  if q.id = 0 then [] else if q.id2 = 0 then [keyOf q] else [keyOf q, key2 q]

/-- the two stored queries of a slot -/
abbrev QP := Query × Query

def pairKeys (p : QP) : List Key := qKeys p.1 ++ qKeys p.2

def QQ (x : Session) : QP := (x.q, x.qs)

/-- all that matters of a state for C14: `(q, q_sendrealsoon)` of every slot -/
def qview (s : Srv) : List QP := s.users.map QQ

def heldV (v : List QP) : List Key := v.flatMap pairKeys

/-- the multiset of keys of all held queries -/
def held (s : Srv) : List Key := heldV (qview s)

def zeroP : QP := (Query.zero, Query.zero)

@[simp] theorem qKeys_zero : qKeys Query.zero = [] := rfl
@[simp] theorem pairKeys_zeroP : pairKeys zeroP = [] := rfl
@[simp] theorem QQ_zero (t : Nat) : QQ (Session.zero t) = zeroP := rfl

theorem qKeys_id0 {q : Query} (h : q.id = 0) : qKeys q = [] := by simp [qKeys, h]

@[simp] theorem qKeys_with_id0 (q : Query) : qKeys { q with id := 0 } = [] := by simp [qKeys]

/-- `q->id = 0` -/
def clearId (q : Query) : Query := { q with id := 0 }

@[simp] theorem qKeys_clearId (q : Query) : qKeys (clearId q) = [] := by simp [qKeys, clearId]

theorem map_modify {α β} (g : α → β) (f : α → α) (d : α) :
    ∀ (l : List α) (u : Nat), (l.modify u f).map g = (l.map g).set u (g (f (l.getD u d)))
  | [], _ => by simp
  | a :: l, 0 => by simp
  | a :: l, u + 1 => by simp [map_modify g f d l u]

theorem getD_map {α β} (g : α → β) (d : α) (l : List α) (u : Nat) :
    (l.map g).getD u (g d) = g (l.getD u d) := by
  simp only [List.getD_eq_getElem?_getD, List.getElem?_map]
  cases l[u]? <;> rfl

theorem count_heldV_set (k : Key) (p : QP) :
    ∀ (v : List QP) (u : Nat), u < v.length →
      (heldV (v.set u p)).count k + (pairKeys (v.getD u zeroP)).count k = (heldV v).count k + (pairKeys p).count k
  | [], _, h => by simp at h
  | a :: l, 0, _ => by simp [heldV, List.count_append]; omega
  | a :: l, u + 1, h => by
    have := count_heldV_set k p l u (by simpa using h)
    simp only [heldV, List.set_cons_succ, List.flatMap_cons, List.count_append, List.getD_cons_succ] at *
    omega

theorem count_heldV_set_le (k : Key) (p : QP) (v : List QP) (u : Nat) :
    (heldV (v.set u p)).count k + (pairKeys (v.getD u zeroP)).count k ≤ (heldV v).count k + (pairKeys p).count k := by
  by_cases h : u < v.length
  · exact Nat.le_of_eq (count_heldV_set k p v u h)
  · have h' : v.length ≤ u := Nat.le_of_not_lt h
    rw [List.set_eq_of_length_le h', List.getD_eq_getElem?_getD, List.getElem?_eq_none h']
    simp

theorem QQ_getUser (s : Srv) (u : Nat) : QQ (getUser s u) = (qview s).getD u zeroP := by
  unfold getUser qview
  rw [← QQ_zero 0, getD_map]

theorem qview_setUser (s : Srv) (u : Nat) (f : Session → Session) :
    qview (setUser s u f) = (qview s).set u (QQ (f (getUser s u))) := by
  unfold qview setUser getUser
  exact map_modify QQ f _ _ _

structure SameQ (s s' : Srv) : Prop where
  eq : qview s' = qview s

theorem SameQ.refl (s : Srv) : SameQ s s := ⟨rfl⟩
theorem SameQ.trans {a b c : Srv} (h1 : SameQ a b) (h2 : SameQ b c) : SameQ a c := ⟨by rw [h2.eq, h1.eq]⟩

theorem SameQ.held_eq {s s' : Srv} (h : SameQ s s') : held s' = held s := by unfold held; rw [h.eq]
theorem SameQ.qq {s s' : Srv} (h : SameQ s s') (u : Nat) : QQ (getUser s' u) = QQ (getUser s u) := by
  rw [QQ_getUser, QQ_getUser, h.eq]
theorem SameQ.q {s s' : Srv} (h : SameQ s s') (u : Nat) : (getUser s' u).q = (getUser s u).q :=
  congrArg Prod.fst (h.qq u)
theorem SameQ.qs {s s' : Srv} (h : SameQ s s') (u : Nat) : (getUser s' u).qs = (getUser s u).qs :=
  congrArg Prod.snd (h.qq u)
theorem SameQ.len {s s' : Srv} (h : SameQ s s') : s'.users.length = s.users.length := by
  have := congrArg List.length h.eq
  simpa [qview] using this

theorem set_getD_self {α} (d : α) : ∀ (v : List α) (u : Nat), v.set u (v.getD u d) = v
  | [], _ => rfl
  | a :: l, 0 => rfl
  | a :: l, u + 1 => by simp only [List.getD_cons_succ, List.set_cons_succ, set_getD_self d l u]

theorem sameQ_setUser' (s : Srv) (u : Nat) (f : Session → Session) (hf : QQ (f (getUser s u)) = QQ (getUser s u)) :
    SameQ s (setUser s u f) := by
  constructor
  rw [qview_setUser, hf, QQ_getUser, set_getD_self]

theorem sameQ_setUser (s : Srv) (u : Nat) (f : Session → Session) (hf : ∀ x, QQ (f x) = QQ x) :
    SameQ s (setUser s u f) := sameQ_setUser' s u f (hf _)

theorem sameQ_of_users {s s' : Srv} (h : s'.users = s.users) : SameQ s s' := by
  constructor; unfold qview; rw [h]

/-- a slot that holds a query is in the table: the zeroed slot read outside it holds none -/
theorem lt_of_held (s : Srv) (u : Nat) (w : QSel) (h : (w.get (getUser s u)).id ≠ 0) : u < s.users.length := by
  apply Nat.lt_of_not_le
  intro hge
  rw [C04L.getUser_of_ge s u hge] at h
  cases w <;> exact h rfl

def Le (A B : List Key) : Prop := ∀ k, A.count k ≤ B.count k

theorem Le.refl (A : List Key) : Le A A := fun _ => Nat.le_refl _
theorem Le.trans {A B C : List Key} (h1 : Le A B) (h2 : Le B C) : Le A C := fun k => Nat.le_trans (h1 k) (h2 k)

theorem count_held_setUser_le (k : Key) (s : Srv) (u : Nat) (f : Session → Session) :
    (held (setUser s u f)).count k + (pairKeys (QQ (getUser s u))).count k
      ≤ (held s).count k + (pairKeys (QQ (f (getUser s u)))).count k := by
  unfold held
  rw [qview_setUser, QQ_getUser]
  exact count_heldV_set_le k _ _ _

open Iodine.Gen

/-- keys consumed by an event; `arr` is the query that arrived in this iteration (an NS/A response is a DNS
answer to that query, sent to `dst`) -/
def evKeys (arr : Query) : Event → List Key
  | .ans dst id type _ name _ _ => [(dst, id, name, type)]
  | .nsa dst => [(dst, arr.id, arr.name, arr.type)]
  | _ => []

def keysOf (arr : Query) (evs : List Event) : List Key := evs.flatMap (evKeys arr)

@[simp] theorem keysOf_nil (arr : Query) : keysOf arr [] = [] := rfl
@[simp] theorem keysOf_cons (arr : Query) (e : Event) (evs : List Event) :
    keysOf arr (e :: evs) = evKeys arr e ++ keysOf arr evs := rfl
@[simp] theorem keysOf_append (arr : Query) (a b : List Event) :
    keysOf arr (a ++ b) = keysOf arr a ++ keysOf arr b := by simp [keysOf]
@[simp] theorem evKeys_writeDns (arr q : Query) (d : List Nat) (e : Nat) (t : Tag) :
    evKeys arr (writeDns q d e t) = [keyOf q] := rfl
@[simp] theorem evKeys_sendRaw (arr q : Query) (b : List Nat) (l u c : Nat) :
    evKeys arr (sendRaw b l u c q) = [] := rfl
@[simp] theorem evKeys_sendVersionResponse (arr : Query) (s : Srv) (kind : VersionAck) (p u : Nat) (q : Query) :
    evKeys arr (sendVersionResponse s kind p u q) = [keyOf q] := rfl

/-- Balance of a step from `s` to `r.1` with events `r.2`: the answers plus what is held afterwards (plus `xout`)
come out of what was held before plus `xin` -/
structure Bal (arr : Query) (s : Srv) (xin : List Key) (r : Res) (xout : List Key := []) : Prop where
  le : Le (keysOf arr r.2 ++ held r.1 ++ xout) (held s ++ xin)

theorem Bal.mk' {arr : Query} {s : Srv} {xin : List Key} {r : Res} {xout : List Key}
    (h : ∀ k, (keysOf arr r.2).count k + (held r.1).count k + xout.count k ≤ (held s).count k + xin.count k) :
    Bal arr s xin r xout := by
  constructor; intro k; have := h k; simp only [List.count_append]; omega

theorem Bal.cnt {arr : Query} {s : Srv} {xin : List Key} {r : Res} {xout : List Key} (h : Bal arr s xin r xout) (k : Key) :
    (keysOf arr r.2).count k + (held r.1).count k + xout.count k ≤ (held s).count k + xin.count k := by
  have := h.le k; simp only [List.count_append] at this; omega

theorem Bal.seq {arr : Query} {s : Srv} {xin xmid xout : List Key} {r1 r2 : Res}
    (h1 : Bal arr s xin r1 xmid) (h2 : Bal arr r1.1 xmid r2 xout) : Bal arr s xin (r2.1, r1.2 ++ r2.2) xout := by
  apply Bal.mk'; intro k
  have a := h1.cnt k; have b := h2.cnt k
  simp only [keysOf_append, List.count_append]; omega

theorem Bal.preSameQ {arr : Query} {s s' : Srv} {xin xout : List Key} {r : Res} (h : SameQ s s')
    (hb : Bal arr s' xin r xout) : Bal arr s xin r xout := by
  apply Bal.mk'; intro k; have := hb.cnt k; rw [h.held_eq] at this; exact this

theorem Bal.postSameQ {arr : Query} {s s' : Srv} {xin xout : List Key} {r : Res} (h : SameQ r.1 s')
    (hb : Bal arr s xin r xout) : Bal arr s xin (s', r.2) xout := by
  apply Bal.mk'; intro k; have := hb.cnt k; simp only [h.held_eq]; exact this

theorem bal_noans {arr : Query} {s s' : Srv} {x : List Key} {evs : List Event} (h : SameQ s s')
    (he : keysOf arr evs = []) : Bal arr s x (s', evs) [] := by
  apply Bal.mk'; intro k; simp [h.held_eq, he]

theorem SameQ.of_frame {U : Nat → Prop} {s s' : Srv} (h : C04L.Frame C04L.erMem U s s') : SameQ s s' :=
  ⟨h.map_eq QQ fun z => by cases z; rfl⟩

theorem SameQ.of_out {U : Nat → Prop} {s s' : Srv} (h : C04L.Frame C04L.erOut U s s') : SameQ s s' :=
  .of_frame (h.coarsen C04L.erMem_erOut)

theorem SameQ.set {s s' : Srv} (h : SameQ s s') (u : Nat) (f : Session → Session) (hf : ∀ x, QQ (f x) = QQ x) :
    SameQ s (setUser s' u f) := h.trans (sameQ_setUser _ _ _ hf)

theorem sameQ_popRand (s : Srv) : SameQ s (popRand s).2 := sameQ_of_users (C04L.popRand_users s)

theorem keysOf_scAnswer (arr q : Query) (pkt : List Nat) (dn u : Nat) (h : q.id ≠ 0) :
    keysOf arr (scAnswer q pkt dn u).2 = qKeys q := by
  unfold scAnswer qKeys
  by_cases h2 : q.id2 = 0
  · simp [h, h2]
  · simp [h, h2, keyOf, key2]

/-- the shape of `send_chunk_or_dataless`: bookkeeping that keeps the stored queries, the answers of `scAnswer`
to the selected query, the selected query marked answered (`id := 0`), more bookkeeping -/
theorem sc_shape (s : Srv) (u : Nat) (w : QSel) :
    ∃ (s3 : Srv) (pkt : List Nat) (dn : Nat), SameQ s s3 ∧
      SameQ (setUser s3 u fun y => w.set y (clearId (scAnswer (w.get (getUser s u)) pkt dn u).1))
        (sendChunkOrDataless s u w).1.1 ∧
      (sendChunkOrDataless s u w).1.2 = (scAnswer (w.get (getUser s u)) pkt dn u).2 := by
  have h1 : SameQ s (scPrepare (scDropResent s u) u) := .of_out (C04L.frame_sc_prep s u)
  have hw : w.get (getUser (scPrepare (scDropResent s u) u) u) = w.get (getUser s u) := by
    cases w
    · exact h1.q u
    · exact h1.qs u
  refine ⟨saveToDnscache (saveToQmemPingOrData (scPrepare (scDropResent s u) u) u
            (scAnswer (w.get (getUser s u)) (scPkt (getUser (scPrepare (scDropResent s u) u) u)
              (scDatalen (getUser (scPrepare (scDropResent s u) u) u)))
              (getUser (scPrepare (scDropResent s u) u) u).downenc u).1) u
            (scAnswer (w.get (getUser s u)) (scPkt (getUser (scPrepare (scDropResent s u) u) u)
              (scDatalen (getUser (scPrepare (scDropResent s u) u) u)))
              (getUser (scPrepare (scDropResent s u) u) u).downenc u).1
            (scPkt (getUser (scPrepare (scDropResent s u) u) u) (scDatalen (getUser (scPrepare (scDropResent s u) u) u))),
          scPkt (getUser (scPrepare (scDropResent s u) u) u) (scDatalen (getUser (scPrepare (scDropResent s u) u) u)),
          (getUser (scPrepare (scDropResent s u) u) u).downenc, ?_, ?_⟩
  · exact (h1.trans (.of_frame (C04L.frame_saveToQmemPingOrData _ u _))).trans (.of_frame (C04L.frame_saveToDnscache _ u _ _))
  · unfold sendChunkOrDataless
    simp only []
    rw [hw]
    split
    · exact ⟨.of_out ((C04L.frame_dropOut _ u).trans (C04L.frame_getFromOutpacketq _ u)), rfl⟩
    · exact ⟨SameQ.refl _, rfl⟩

theorem count_pairKeys_set (w : QSel) (y : Session) (v : Query) (k : Key) :
    (pairKeys (QQ (w.set y v))).count k + (qKeys (w.get y)).count k = (pairKeys (QQ y)).count k + (qKeys v).count k := by
  cases w <;> simp only [QSel.set, QSel.get, QQ, pairKeys, List.count_append] <;> omega

theorem QQ_set_get (w : QSel) (y : Session) (q : Query) (k : Key) :
    (pairKeys (QQ (w.set y (clearId q)))).count k + (qKeys (w.get y)).count k = (pairKeys (QQ y)).count k := by
  have := count_pairKeys_set w y (clearId q) k
  rwa [qKeys_clearId, List.count_nil, Nat.add_zero] at this

/-- `send_chunk_or_dataless` on a held query answers exactly the keys that query stands for and un-holds it -/
theorem sc_cnt (arr : Query) (s : Srv) (u : Nat) (w : QSel) (h : (w.get (getUser s u)).id ≠ 0) (k : Key) :
    (keysOf arr (sendChunkOrDataless s u w).1.2).count k + (held (sendChunkOrDataless s u w).1.1).count k
      ≤ (held s).count k := by
  obtain ⟨s3, pkt, dn, h3, h4, h5⟩ := sc_shape s u w
  rw [h5, keysOf_scAnswer _ _ _ _ _ h, h4.held_eq]
  have a := count_held_setUser_le k s3 u (fun y => w.set y (clearId (scAnswer (w.get (getUser s u)) pkt dn u).1))
  have b := QQ_set_get w (getUser s3 u) (scAnswer (w.get (getUser s u)) pkt dn u).1 k
  have hw : w.get (getUser s3 u) = w.get (getUser s u) := by
    cases w
    · exact h3.q u
    · exact h3.qs u
  rw [hw] at b
  rw [h3.held_eq] at a
  omega

theorem sc_bal (arr : Query) (s : Srv) (u : Nat) (w : QSel) (x : List Key) (h : (w.get (getUser s u)).id ≠ 0) :
    Bal arr s x (sendChunkOrDataless s u w).1 x := by
  apply Bal.mk'; intro k; have := sc_cnt arr s u w h k; omega

open Iodine.C04L

/-- keys of the tunnel-data answers for session `v` -/
def uKeys (v : Nat) : Event → List Key
  | .ans dst id type _ name _ tag => if tag = .chunk v ∨ tag = .dupe v then [(dst, id, name, type)] else []
  | _ => []

def ukeys (v : Nat) (evs : List Event) : List Key := evs.flatMap (uKeys v)

@[simp] theorem ukeys_nil (v : Nat) : ukeys v [] = [] := rfl
@[simp] theorem ukeys_cons (v : Nat) (e : Event) (evs : List Event) : ukeys v (e :: evs) = uKeys v e ++ ukeys v evs := rfl
@[simp] theorem ukeys_append (v : Nat) (a b : List Event) : ukeys v (a ++ b) = ukeys v a ++ ukeys v b := by
  simp [ukeys]

def NoChunk (evs : List Event) : Prop := ∀ v, ukeys v evs = []

theorem noChunk_one {e : Event} (h : ∀ v, uKeys v e = []) : NoChunk [e] := fun v => by simp [h v]

theorem noChunk_of_keysOf_nil {arr : Query} : ∀ {evs : List Event}, keysOf arr evs = [] → NoChunk evs
  | [], _, _ => rfl
  | e :: es, h, v => by
    rw [keysOf_cons, List.append_eq_nil_iff] at h
    rw [ukeys_cons, noChunk_of_keysOf_nil h.2 v, List.append_nil]
    cases e
    case ans => cases h.1
    all_goals rfl

def QV (s : Srv) (v : Nat) : QP := QQ (getUser s v)

theorem QV_eq (s : Srv) (v : Nat) : QV s v = ((getUser s v).q, (getUser s v).qs) := rfl

theorem SameQ.qv {s s' : Srv} (h : SameQ s s') (v : Nat) : QV s' v = QV s v := h.qq v

theorem getD_set {α} (d p : α) (l : List α) (u v : Nat) :
    (l.set u p).getD v d = if v = u ∧ u < l.length then p else l.getD v d := by
  simp only [List.getD_eq_getElem?_getD, List.getElem?_set]
  by_cases h : u = v
  · subst h
    by_cases h2 : u < l.length
    · simp [h2]
    · simp [h2]
  · have : ¬ v = u := fun e => h e.symm
    simp [h, this]

theorem QV_setUser (s : Srv) (u : Nat) (f : Session → Session) (v : Nat) :
    QV (setUser s u f) v = if v = u ∧ u < s.users.length then QQ (f (getUser s u)) else QV s v := by
  unfold QV
  rw [QQ_getUser, qview_setUser, getD_set, QQ_getUser]
  simp [qview]

/-- the tunnel-data answers (`.chunk v` / `.dupe v`) of a step go to keys that session `v` held before the step (or to
a key of `X`, the arriving query), and what a session holds afterwards it held before (or is in `X`) -/
structure Inc (X : List Key) (s : Srv) (r : Res) : Prop where
  ev : ∀ v k, k ∈ ukeys v r.2 → k ∈ pairKeys (QV s v) ∨ k ∈ X
  st : ∀ v k, k ∈ pairKeys (QV r.1 v) → k ∈ pairKeys (QV s v) ∨ k ∈ X

theorem Inc.seq {X : List Key} {s : Srv} {r1 r2 : Res} (h1 : Inc X s r1) (h2 : Inc X r1.1 r2) :
    Inc X s (r2.1, r1.2 ++ r2.2) := by
  constructor
  · intro v k hk
    rw [ukeys_append] at hk
    rcases List.mem_append.1 hk with hk | hk
    · exact h1.ev v k hk
    · rcases h2.ev v k hk with h | h
      · exact h1.st v k h
      · exact Or.inr h
  · intro v k hk
    rcases h2.st v k hk with h | h
    · exact h1.st v k h
    · exact Or.inr h

theorem Inc.mono {X Y : List Key} {s : Srv} {r : Res} (h : Inc X s r) (hxy : ∀ k ∈ X, k ∈ Y) : Inc Y s r :=
  ⟨fun v k hk => (h.ev v k hk).imp id (hxy k), fun v k hk => (h.st v k hk).imp id (hxy k)⟩

theorem inc_keep {X : List Key} {s s' : Srv} {evs : List Event} (h : SameQ s s') (he : NoChunk evs) :
    Inc X s (s', evs) :=
  ⟨fun v k hk => by rw [he v] at hk; exact absurd hk List.not_mem_nil,
   fun v k hk => by rw [h.qv v] at hk; exact Or.inl hk⟩

theorem Inc.preSameQ {X : List Key} {s s' : Srv} {r : Res} (h : SameQ s s') (hb : Inc X s' r) : Inc X s r :=
  ⟨fun v k hk => by have := hb.ev v k hk; rwa [h.qv v] at this,
   fun v k hk => by have := hb.st v k hk; rwa [h.qv v] at this⟩

theorem Inc.postSameQ {X : List Key} {s s' : Srv} {r : Res} (h : SameQ r.1 s') (hb : Inc X s r) : Inc X s (s', r.2) :=
  ⟨hb.ev, fun v k hk => by rw [h.qv v] at hk; exact hb.st v k hk⟩

theorem inc_setUser {X : List Key} (s : Srv) (u : Nat) (f : Session → Session) {evs : List Event}
    (hsub : ∀ k, k ∈ pairKeys (QQ (f (getUser s u))) → k ∈ pairKeys (QV s u) ∨ k ∈ X) (he : NoChunk evs) :
    Inc X s (setUser s u f, evs) := by
  constructor
  · intro v k hk; rw [he v] at hk; cases hk
  · intro v k hk
    rw [QV_setUser] at hk
    by_cases h : v = u ∧ u < s.users.length
    · rw [if_pos h] at hk; rw [h.1]; exact hsub k hk
    · rw [if_neg h] at hk; exact Or.inl hk

theorem mem_of_count_le {A B : List Key} {k : Key} (h : A.count k ≤ B.count k) (hk : k ∈ A) : k ∈ B := by
  have := List.count_pos_iff.2 hk
  exact List.count_pos_iff.1 (by omega)

theorem ukeys_scAnswer (v : Nat) (q : Query) (pkt : List Nat) (dn u : Nat) (h : q.id ≠ 0) :
    ukeys v (scAnswer q pkt dn u).2 = if v = u then qKeys q else [] := by
  unfold scAnswer qKeys
  by_cases h2 : q.id2 = 0
  · by_cases hv : v = u
    · subst hv; simp [h, h2, uKeys, writeDns, keyOf]
    · have : u ≠ v := fun e => hv e.symm
      simp [h2, uKeys, writeDns, hv, this]
  · by_cases hv : v = u
    · subst hv; simp [h, h2, uKeys, writeDns, keyOf, key2]
    · have : u ≠ v := fun e => hv e.symm
      simp [h2, uKeys, writeDns, hv, this]

theorem mem_pairKeys_of_get {w : QSel} {y : Session} {k : Key} (h : k ∈ qKeys (w.get y)) : k ∈ pairKeys (QQ y) := by
  cases w
  · exact List.mem_append_left _ h
  · exact List.mem_append_right _ h

theorem sc_inc (X : List Key) (s : Srv) (u : Nat) (w : QSel) (h : (w.get (getUser s u)).id ≠ 0) :
    Inc X s (sendChunkOrDataless s u w).1 := by
  obtain ⟨s3, pkt, dn, h3, h4, h5⟩ := sc_shape s u w
  constructor
  · intro v k hk
    rw [h5, ukeys_scAnswer _ _ _ _ _ h] at hk
    by_cases hv : v = u
    · rw [if_pos hv] at hk; subst hv
      exact Or.inl (mem_pairKeys_of_get hk)
    · rw [if_neg hv] at hk; cases hk
  · intro v k hk
    rw [h4.qv v, QV_setUser] at hk
    by_cases hv : v = u ∧ u < s3.users.length
    · rw [if_pos hv] at hk
      rw [hv.1]
      have c := QQ_set_get w (getUser s3 u) (scAnswer (w.get (getUser s u)) pkt dn u).1 k
      have := mem_of_count_le (B := pairKeys (QQ (getUser s3 u))) (by omega) hk
      rw [← h3.qv u]; exact Or.inl this
    · rw [if_neg hv, h3.qv v] at hk; exact Or.inl hk

/-- A step from `s` with result `r` that brings in no key: its answers plus what is held afterwards come out of what
was held before, session by session, and the number of slots stays. -/
structure Keeps (arr : Query) (s : Srv) (r : Res) : Prop where
  bal : Bal arr s [] r []
  inc : Inc [] s r
  len : r.1.users.length = s.users.length

theorem keeps_same {arr : Query} {s s' : Srv} {evs : List Event} (h : SameQ s s') (he : keysOf arr evs = []) :
    Keeps arr s (s', evs) :=
  ⟨bal_noans h he, inc_keep h (noChunk_of_keysOf_nil he), h.len⟩

theorem keeps_refl (arr : Query) (s : Srv) : Keeps arr s (s, []) := keeps_same (SameQ.refl s) rfl

theorem keeps_sc (arr : Query) (s : Srv) (u : Nat) (w : QSel) (h : (w.get (getUser s u)).id ≠ 0) :
    Keeps arr s (sendChunkOrDataless s u w).1 :=
  ⟨sc_bal arr s u w [] h, sc_inc [] s u w h, (frame_sendChunkOrDataless s u w).len⟩

theorem Keeps.seq {arr : Query} {s : Srv} {r1 r2 : Res} (h1 : Keeps arr s r1) (h2 : Keeps arr r1.1 r2) :
    Keeps arr s (r2.1, r1.2 ++ r2.2) :=
  ⟨h1.bal.seq h2.bal, h1.inc.seq h2.inc, h2.len.trans h1.len⟩

theorem Keeps.pre {arr : Query} {s s' : Srv} {r : Res} (h : SameQ s s') (hk : Keeps arr s' r) : Keeps arr s r :=
  ⟨hk.bal.preSameQ h, hk.inc.preSameQ h, hk.len.trans h.len⟩

theorem Keeps.post {arr : Query} {s s' : Srv} {r : Res} (hk : Keeps arr s r) (h : SameQ r.1 s') :
    Keeps arr s (s', r.2) :=
  ⟨hk.bal.postSameQ h, hk.inc.postSameQ h, h.len.trans hk.len⟩

theorem keeps_setUser {arr : Query} (s : Srv) (u : Nat) (f : Session → Session) {evs : List Event}
    (h : ∀ k, (pairKeys (QQ (f (getUser s u)))).count k ≤ (pairKeys (QQ (getUser s u))).count k)
    (he : keysOf arr evs = []) : Keeps arr s (setUser s u f, evs) := by
  refine ⟨Bal.mk' fun k => ?_, inc_setUser _ _ _ (fun k hk => ?_) (noChunk_of_keysOf_nil he), C04L.setUser_len _ _ _⟩
  · have a := count_held_setUser_le k s u f
    have b := h k
    simp only [he, List.count_nil] at *
    omega
  · exact Or.inl (mem_of_count_le (h k) hk)

theorem keeps_parkQuery (arr : Query) (s : Srv) (u : Nat) : Keeps arr s (setUser s u parkQuery, []) :=
  keeps_setUser s u parkQuery (fun k => by simp [parkQuery, QQ, pairKeys]) rfl

theorem keeps_q0 {arr : Query} (s : Srv) (u : Nat) (f : Session → Session) {evs : List Event}
    (hq : (f (getUser s u)).q.id = 0) (hqs : (f (getUser s u)).qs = (getUser s u).qs) (he : keysOf arr evs = []) :
    Keeps arr s (setUser s u f, evs) :=
  keeps_setUser s u f (fun k => by simp [QQ, pairKeys, qKeys_id0 hq, hqs]) he

/-- the key the arriving query may be held (and answered with tunnel data) under: none if its DNS id is 0 -/
def arrKeys (q : Query) : List Key := if q.id = 0 then [] else [keyOf q]

theorem qKeys_eq_arrKeys (q : Query) (h2 : q.id2 = 0) : qKeys q = arrKeys q := by
  unfold qKeys arrKeys; simp [h2]

theorem count_arrKeys_le (q : Query) (k : Key) : (arrKeys q).count k ≤ [keyOf q].count k := by
  unfold arrKeys
  split
  · exact Nat.zero_le _
  · exact Nat.le_refl _

/-- The handling of the arriving query `q`: as `Keeps`, with the key of `q` coming in. -/
structure Takes (arr q : Query) (s : Srv) (r : Res) : Prop where
  bal : Bal arr s [keyOf q] r []
  inc : Inc (arrKeys q) s r

theorem Keeps.takes {arr q : Query} {s : Srv} {r : Res} (h : Keeps arr s r) : Takes arr q s r :=
  ⟨Bal.mk' fun k => by have := h.bal.cnt k; simp only [List.count_nil] at this ⊢; omega, h.inc.mono fun _ hk => nomatch hk⟩

theorem takes_answer {arr q : Query} {s s' : Srv} {e : Event} (h : Keeps arr s (s', [])) (he : evKeys arr e = [keyOf q])
    (hu : ∀ v, uKeys v e = []) : Takes arr q s (s', [e]) := by
  refine ⟨Bal.mk' fun k => ?_, fun v k hk => ?_, fun v k hk => (h.inc.st v k hk).imp id fun hx => nomatch hx⟩
  · have := h.bal.cnt k
    simp only [keysOf_cons, he, keysOf_nil, List.count_append, List.count_nil] at *
    omega
  · rw [noChunk_one hu v] at hk; cases hk

theorem takes_ctrl {arr q : Query} {s s' : Srv} {d : List Nat} {e : Nat} (h : SameQ s s') :
    Takes arr q s (s', [writeDns q d e]) := takes_answer (keeps_same h rfl) rfl fun _ => rfl

/-- the keys of a waiting query `a` after it remembered the duplicate `q` -/
theorem count_qKeys_dup (a q : Query) (ht : q.type = a.type) (hn : q.name = a.name) (k : Key) :
    (qKeys { a with id2 := q.id, from2 := q.from_ }).count k ≤ (qKeys a).count k + (arrKeys q).count k := by
  have hk : key2 { a with id2 := q.id, from2 := q.from_ } = keyOf q := by simp [key2, keyOf, ht, hn]
  have hk1 : keyOf { a with id2 := q.id, from2 := q.from_ } = keyOf a := rfl
  unfold qKeys arrKeys
  rw [hk, hk1]
  by_cases ha : a.id = 0
  · simp [ha]
  by_cases hq : q.id = 0 <;> by_cases h2 : a.id2 = 0 <;>
    simp only [ha, hq, h2, if_false, if_true, List.count_cons, List.count_nil] <;> omega

theorem takes_setUser {arr q : Query} (s : Srv) (u : Nat) (f : Session → Session)
    (h : ∀ k, (pairKeys (QQ (f (getUser s u)))).count k ≤ (pairKeys (QQ (getUser s u))).count k + (arrKeys q).count k) :
    Takes arr q s (setUser s u f, []) := by
  refine ⟨Bal.mk' fun k => ?_, inc_setUser _ _ _ (fun k hk => ?_) fun _ => rfl⟩
  · have a := count_held_setUser_le k s u f
    have b := h k; have c := count_arrKeys_le q k
    simp only [keysOf_nil, List.count_nil] at *
    omega
  · have hk' : k ∈ pairKeys (QQ (getUser s u)) ++ arrKeys q :=
      mem_of_count_le (by rw [List.count_append]; exact h k) hk
    exact List.mem_append.1 hk'

theorem takes_dup {arr q : Query} {s s' : Srv} {u : Nat} (h : rememberDuplicate s u q = some s') :
    Takes arr q s (s', []) := by
  obtain ⟨w, ht, hn, rfl⟩ := rememberDuplicate_some h
  refine takes_setUser s u _ fun k => ?_
  have a := count_pairKeys_set w (getUser s u) { w.get (getUser s u) with id2 := q.id, from2 := q.from_ } k
  have b := count_qKeys_dup (w.get (getUser s u)) q ht hn k
  dsimp only at a b ⊢
  omega

/-- `memcpy(&users[u].q, q)`: the arriving query becomes a held one (whatever `q` held before is dropped) -/
theorem takes_saveQuery (arr : Query) (s : Srv) (u : Nat) (q : Query) (h2 : q.id2 = 0) :
    Takes arr q s (saveQuery s u q, []) := by
  refine takes_setUser s u _ fun k => ?_
  simp only [QQ, pairKeys, List.count_append, qKeys_eq_arrKeys q h2]
  omega

theorem saveQuery_len (s : Srv) (u : Nat) (q : Query) : (saveQuery s u q).users.length = s.users.length :=
  C04L.setUser_len _ _ _

theorem Keeps.save {arr q : Query} {s : Srv} {u : Nat} {r1 r2 : Res} (h1 : Keeps arr s r1) (h2 : q.id2 = 0)
    (h3 : Keeps arr (saveQuery r1.1 u q) r2) : Takes arr q s (r2.1, r1.2 ++ r2.2) := by
  have hs := takes_saveQuery arr r1.1 u q h2
  refine ⟨Bal.mk' fun k => ?_, ?_⟩
  · have a := h1.bal.cnt k; have b := hs.bal.cnt k; have c := h3.bal.cnt k
    simp only [keysOf_append, List.count_append, keysOf_nil, List.count_nil] at *
    omega
  · have := ((h1.inc.mono fun _ hk => nomatch hk).seq hs.inc).seq (h3.inc.mono fun _ hk => nomatch hk)
    rwa [List.append_nil] at this

end Iodine.C14L
