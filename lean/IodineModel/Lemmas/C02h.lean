import IodineModel.Lemmas.Encoding
import IodineModel.Lemmas.C02p
import IodineModel.Lemmas.Common
/-
What ONE datagram carries.  Header characters: the server's parse (`parseUpHdr`) of the header the client builds
(`chunkHeader`), the client's parse (`decodeHdr`) of the two header bytes the server builds (`scPkt`).  The upstream hop
(`up_hop`, over `C08.hostname_ok`): the name `hdr ++ build_hostname(…)` is a legal name, `query_datalen` finds the data part,
`unpack_data` of it is the consumed prefix of the payload.  The answer counting of `send_query` (`CntOk`, `bumpCnt`), and
`send_query`, `send_chunk`, `send_ping` as one query event each while its alarm stays silent — in immediate mode, or in lazy
mode while the counting is in balance (`sendQuery_bump`, `sendChunk_bump`, `sendPing_bump`).
-/
namespace Iodine.C02L
open Iodine

theorem b32_8to5_5to8 : ∀ v : Nat, v < 32 → Server.b32_8to5 (Client.b32_5to8 (v : Int)) = v := by decide

theorem sChar_small (x : Int) (h : -128 ≤ x ∧ x < 128) : Client.sChar x = x := by
  unfold Client.sChar; omega

theorem maskI_nonneg (x : Int) (m : Nat) (h0 : 0 ≤ x) (hm : 0 < m) : Client.maskI x m = x.toNat % m := by
  unfold Client.maskI
  rw [Int.toNat_emod h0 (by omega)]
  simp

theorem maskI_range (x : Int) (m : Nat) (h : 0 ≤ x ∧ x < (m : Int)) : Client.maskI x m = x.toNat := by
  rw [maskI_nonneg x m h.1 (by omega)]
  exact Nat.mod_eq_of_lt (by omega)

theorem nat_of_range (x : Int) (m : Nat) (h : 0 ≤ x ∧ x < (m : Int)) : ∃ n : Nat, x = (n : Int) ∧ n < m :=
  ⟨x.toNat, by omega, by omega⟩

theorem maskI_natCast (n m : Nat) (h : n < m) : Client.maskI (n : Int) m = n := by
  rw [maskI_range _ m (by omega)]; rfl

/-- header character 1: `(seqno & 7) << 2 | (fragment & 15) >> 2` -/
theorem hdrChar1 : ∀ a, a < 8 → ∀ f, f < 16 →
    a * 4 ||| f / 4 < 32 ∧ ((a * 4 ||| f / 4) >>> 2) &&& 7 = a ∧ (a * 4 ||| f / 4) &&& 3 = f / 4 := by decide

/-- header character 2: `(fragment & 3) << 3 | (inpkt.seqno & 7)` -/
theorem hdrChar2 : ∀ f, f < 16 → ∀ s, s < 8 →
    f % 4 * 8 ||| s < 32 ∧ ((f % 4 * 8 ||| s) >>> 3) &&& 3 = f % 4 ∧ (f % 4 * 8 ||| s) &&& 7 = s := by decide

/-- header character 3: `(inpkt.fragment & 15) << 1 | last` -/
theorem hdrChar3 : ∀ g, g < 16 → ∀ l, l < 2 →
    g * 2 ||| l < 32 ∧ (g * 2 ||| l) >>> 1 = g ∧ (g * 2 ||| l) &&& 1 = l := by decide

theorem fragJoin : ∀ f, f < 16 → (f / 4) <<< 2 ||| f % 4 = f := by decide

theorem parseUpHdr_chunkHeader (c : Client.Cli) (last : Bool) (rest : List Nat)
    (h1 : 0 ≤ c.outpkt.seqno ∧ c.outpkt.seqno < 8) (h2 : 0 ≤ c.outpkt.fragment ∧ c.outpkt.fragment < 16)
    (h3 : 0 ≤ c.inpkt.seqno ∧ c.inpkt.seqno < 8) (h4 : 0 ≤ c.inpkt.fragment ∧ c.inpkt.fragment < 16) :
    parseUpHdr (Client.chunkHeader c last ++ rest) =
      { upSeq := c.outpkt.seqno.toNat, upFrag := c.outpkt.fragment.toNat, dnSeq := c.inpkt.seqno,
        dnFrag := c.inpkt.fragment, last := last } := by
  obtain ⟨a, ea, ha⟩ := nat_of_range _ 8 h1
  obtain ⟨f, ef, hf⟩ := nat_of_range _ 16 h2
  obtain ⟨s, es, hs⟩ := nat_of_range _ 8 h3
  obtain ⟨g, eg, hg⟩ := nat_of_range _ 16 h4
  have e3 : Client.maskI (f : Int) 4 = f % 4 := maskI_nonneg _ _ (by omega) (by omega)
  have hl : (if last = true then 1 else 0) < 2 := by split <;> omega
  obtain ⟨k1, k2, k3⟩ := hdrChar1 a ha f hf
  obtain ⟨m1, m2, m3⟩ := hdrChar2 f hf s hs
  obtain ⟨n1, n2, n3⟩ := hdrChar3 g hg _ hl
  unfold parseUpHdr Client.chunkHeader
  simp only [List.cons_append, List.getD_cons_succ, List.getD_cons_zero, ea, ef, es, eg, maskI_natCast _ _ ha,
    maskI_natCast _ _ hf, maskI_natCast _ _ hs, maskI_natCast _ _ hg, e3, Int.toNat_natCast]
  rw [b32_8to5_5to8 _ k1, b32_8to5_5to8 _ m1, b32_8to5_5to8 _ n1, k2, k3, m2, m3, n2, n3, fragJoin f hf]
  cases last <;> simp

theorem chunkHeader_getD0 (c : Client.Cli) (last : Bool) : (Client.chunkHeader c last).getD 0 0 = c.useridChar := rfl

theorem chunkHeader_getD4 (c : Client.Cli) (last : Bool) : (Client.chunkHeader c last).getD 4 0 = cmcChar c.datacmc := by
  unfold Client.chunkHeader cmcChar
  simp only [List.getD_cons_succ, List.getD_cons_zero]

theorem cb32_chars : ∀ i, i < 32 → Gen.cb32.getD i 0 ≠ 46 ∧ Gen.cb32.getD i 0 ≠ 0 ∧ Gen.cb32.getD i 0 < 256 := by decide

theorem b32_5to8_char (x : Int) : Client.b32_5to8 x ≠ 46 ∧ Client.b32_5to8 x ≠ 0 ∧ Client.b32_5to8 x < 256 := by
  unfold Client.b32_5to8
  apply cb32_chars
  unfold Client.maskI
  omega

theorem hexLower_chars : ∀ u, u < 16 → hexLower u ≠ 46 ∧ hexLower u ≠ 0 ∧ hexLower u < 256 := by decide

theorem chunkHeader_chars (c : Client.Cli) (last : Bool) (u : Nat) (hu : u < 16) (hc : c.useridChar = hexLower u)
    (hd : c.datacmc < 36) : ∀ ch ∈ Client.chunkHeader c last, ch ≠ 46 ∧ ch ≠ 0 ∧ ch < 256 := by
  intro ch hch
  unfold Client.chunkHeader at hch
  simp only [List.mem_cons, List.not_mem_nil, or_false] at hch
  rcases hch with rfl | rfl | rfl | rfl | rfl
  · rw [hc]; exact hexLower_chars u hu
  · exact b32_5to8_char _
  · exact b32_5to8_char _
  · exact b32_5to8_char _
  · have := cmcChar_chars c.datacmc hd
    exact ⟨this.1, this.2.1, this.2.2.1⟩

theorem scHdr0 : ∀ s, s < 8 → ∀ f, f < 16 →
    (128 ||| (s <<< 4) ||| f) / 16 % 8 = s ∧ (128 ||| (s <<< 4) ||| f) % 16 = f := by decide

theorem scHdr1 : ∀ s, s < 8 → ∀ f, f < 16 → ∀ l, l < 2 →
    ((s <<< 5) ||| (f <<< 1) ||| l) / 32 % 8 = s ∧ ((s <<< 5) ||| (f <<< 1) ||| l) / 2 % 16 = f ∧
      ((s <<< 5) ||| (f <<< 1) ||| l) % 2 = l := by decide

theorem decodeHdr_scPkt (x : Server.Session) (n : Nat)
    (h1 : 0 ≤ x.inpacket.seqno ∧ x.inpacket.seqno < 8) (h2 : 0 ≤ x.inpacket.fragment ∧ x.inpacket.fragment < 16)
    (h3 : 0 ≤ x.outpacket.seqno ∧ x.outpacket.seqno < 8) (h4 : 0 ≤ x.outpacket.fragment ∧ x.outpacket.fragment < 16) :
    Client.decodeHdr (Server.scPkt x n) =
      { dnSeq := x.outpacket.seqno, dnFrag := x.outpacket.fragment, upSeq := x.inpacket.seqno,
        upFrag := x.inpacket.fragment,
        last := decide (x.outpacket.len > 0 ∧ x.outpacket.len = x.outpacket.offset + n) } := by
  obtain ⟨a, ea, ha⟩ := nat_of_range _ 8 h1
  obtain ⟨f, ef, hf⟩ := nat_of_range _ 16 h2
  obtain ⟨s, es, hs⟩ := nat_of_range _ 8 h3
  obtain ⟨g, eg, hg⟩ := nat_of_range _ 16 h4
  have e1 : ((a : Int) % 8).toNat = a := maskI_natCast a 8 ha
  have e2 : ((f : Int) % 16).toNat = f := maskI_natCast f 16 hf
  have e3 : ((s : Int) % 8).toNat = s := maskI_natCast s 8 hs
  have e4 : ((g : Int) % 16).toNat = g := maskI_natCast g 16 hg
  have hl : (if x.outpacket.len > 0 ∧ x.outpacket.len = x.outpacket.offset + n then 1 else 0) < 2 := by
    split <;> omega
  obtain ⟨k1, k2⟩ := scHdr0 a ha f hf
  obtain ⟨m1, m2, m3⟩ := scHdr1 s hs g hg _ hl
  unfold Client.decodeHdr Server.scPkt
  simp only [List.cons_append, List.getD_cons_succ, List.getD_cons_zero, ea, ef, es, eg, e1, e2, e3, e4]
  rw [k1, k2, m1, m2, m3]
  by_cases hc : x.outpacket.len > 0 ∧ x.outpacket.len = x.outpacket.offset + n
  · rw [if_pos hc, decide_eq_true hc]; rfl
  · rw [if_neg hc, decide_eq_false hc]; rfl

theorem scPkt_length (x : Server.Session) (n : Nat) :
    (Server.scPkt x n).length = 2 + min n (x.outpacket.data.length - x.outpacket.offset) := by
  unfold Server.scPkt
  simp only [List.length_append, List.length_cons, List.length_nil, List.length_take, List.length_drop]

theorem scPkt_drop2 (x : Server.Session) (n : Nat) :
    (Server.scPkt x n).drop 2 = (x.outpacket.data.drop x.outpacket.offset).take n := rfl

theorem built_chars {cd : Codec.Codec} {L : Nat} {td : List Nat} (S : UpSetting cd L td) (buflen prev : Nat)
    (d : List Nat) (b : Encoding.Built) (h : Encoding.buildHostname cd L buflen prev td d = some b) :
    ∀ ch ∈ b.name, ch ≠ 0 ∧ ch < 256 := by
  rw [Encoding.buildHostname_closeDot] at h
  split at h
  · cases h
  · cases h
    intro ch hch
    rcases List.mem_append.mp hch with hch | hch
    · rcases Encoding.mem_closeDot_dotify _ _ ch hch with rfl | hm
      · decide
      · have ht := C07.chars_in_table S.wf _ _ ch hm
        exact ⟨Codec.tbl_nonzero S.wf ch ht, S.byte ch ht⟩
    · exact S.td_bytes ch hch

/-- the hop for a header of `h ∈ {1, 5}` characters, in terms of `Encoding.buildHostname` -/
theorem up_hop {cd : Codec.Codec} {L : Nat} {td : List Nat} (S : UpSetting cd L td) (h : Nat) (hh : h = 1 ∨ h = 5)
    (hdr d : List Nat) (prev : Nat) (hlen : hdr.length = h) (hhd : ∀ ch ∈ hdr, ch ≠ 46 ∧ ch ≠ 0 ∧ ch < 256)
    (hd : d ≠ []) (hb : Codec.Bytes d) :
    ∃ b, Encoding.buildHostname cd L (4096 - h) prev td d = some b ∧
      Client.buildHostname cd (L : Int) (4096 - h) prev td d = b ∧
      C10.LegalName (hdr ++ b.name) ∧ 1 ≤ b.used ∧ b.used ≤ d.length ∧
      ∃ dlen, Common.queryDatalen (hdr ++ b.name) td = some dlen ∧ h + 1 ≤ dlen ∧ dlen ≤ 255 ∧
        Encoding.unpackData cd 65536 (((hdr ++ b.name).take (min dlen 512)).drop h) = d.take b.used ∧
        (∀ i, i < h → ((hdr ++ b.name).take (min dlen 512)).getD i 0 = hdr.getD i 0) := by
  have hS : C08.Setting cd L h hdr td d :=
    ⟨S.wf, S.nodot, S.hL, ⟨hlen, hh⟩, fun ch hch => (hhd ch hch).1, S.td_len, S.td_legal, hd, hb⟩
  obtain ⟨b, hb', G⟩ := C08.hostname_ok hS prev
  have hb'' : Encoding.buildHostname cd L (4096 - h) prev td d = some b := hb'
  refine ⟨b, hb'', Client.buildHostname_of_some cd L _ prev td d b S.hL.2 hb'', ?_, G.used.1, G.used.2, ?_⟩
  · refine C10.legalName_of_legalAux _ G.legal (by have := G.wire; omega) ?_
    intro ch hch
    rcases List.mem_append.mp hch with hch | hch
    · exact ⟨(hhd ch hch).2.1, (hhd ch hch).2.2⟩
    · exact built_chars S _ prev d b hb'' ch hch
  · obtain ⟨pre, hpre⟩ := G.suffix
    have htot : (hdr ++ b.name).length = pre.length + 1 + td.length := by
      rw [hpre]; simp only [List.length_append, List.length_cons, List.length_nil]
    have hw := G.wire
    have hq : Common.queryDatalen (hdr ++ b.name) td = some (pre.length + 1) :=
      (Common.queryDatalen_plain _ td _ S.td_len.1 S.td_plain).mpr
        ⟨pre ++ [46], td, hpre, rfl, Or.inr (by simp), by simp⟩
    have hext := G.extract
    unfold Encoding.serverExtract at hext
    rw [show (hdr ++ b.name).length - td.length = pre.length + 1 by omega] at hext
    have hmin : min (pre.length + 1) 512 = pre.length + 1 := by omega
    have hgt : h + 1 ≤ pre.length + 1 := by have := G.hdr_lt_datalen; omega
    refine ⟨pre.length + 1, hq, hgt, by omega, ?_, ?_⟩
    · rw [hmin]; exact hext
    · intro i hi
      rw [hmin]
      simp only [List.getD_eq_getElem?_getD, List.getElem?_take]
      rw [if_pos (by omega), List.getElem?_append_left (by omega)]

/-- **the upstream hop for a data query** (5-character header, negotiated codec) -/
theorem up_hop5 {cd : Codec.Codec} {L : Nat} {td : List Nat} (S : UpSetting cd L td) (hdr d : List Nat)
    (hh : hdr.length = 5) (hhd : ∀ ch ∈ hdr, ch ≠ 46 ∧ ch ≠ 0 ∧ ch < 256) (hd : d ≠ []) (hb : Codec.Bytes d) :
    let b := Client.buildHostname cd (L : Int) 4091 0 td d
    C10.LegalName (hdr ++ b.name) ∧ 1 ≤ b.used ∧ b.used ≤ d.length ∧
    ∃ dlen, Common.queryDatalen (hdr ++ b.name) td = some dlen ∧ 6 ≤ dlen ∧ dlen ≤ 255 ∧
      Encoding.unpackData cd 65536 (((hdr ++ b.name).take (min dlen 512)).drop 5) = d.take b.used ∧
      (∀ i, i < 5 → ((hdr ++ b.name).take (min dlen 512)).getD i 0 = hdr.getD i 0) ∧
      (hdr ++ b.name).getD 0 0 = hdr.getD 0 0 ∧
      (hdr ++ b.name).getD 4 0 = hdr.getD 4 0 ∧ 5 ≤ (hdr ++ b.name).length := by
  obtain ⟨b, -, hcb, hleg, hu1, hu2, dlen, hq, h6, h255, hun, hget⟩ := up_hop S 5 (Or.inr rfl) hdr d 0 hh hhd hd hb
  simp only [show (4096 : Nat) - 5 = 4091 from rfl] at hcb
  simp only [hcb]
  refine ⟨hleg, hu1, hu2, dlen, hq, h6, h255, hun, hget, ?_, ?_, ?_⟩
  · simp only [List.getD_eq_getElem?_getD]; rw [List.getElem?_append_left (by omega)]
  · simp only [List.getD_eq_getElem?_getD]; rw [List.getElem?_append_left (by omega)]
  · simp only [List.length_append]; omega

theorem encFull4_length (d : List Nat) (h4 : d.length = 4) : (Codec.encFull Codec.b32 d).length = 7 := by
  rw [Codec.encFull_length, h4]; rfl

theorem encFull_b32_nodot (d : List Nat) : ∀ ch ∈ Codec.encFull Codec.b32 d, ch ≠ 46 :=
  fun ch hch => C08.tables_nodot.1 ch (Codec.encFull_mem_tbl C07.wf_b32 d ch hch)

/-- the Base32 instance of a setting (the ping is always Base32) -/
theorem UpSetting.toB32 {cd : Codec.Codec} {L : Nat} {td : List Nat} (S : UpSetting cd L td) : UpSetting Codec.b32 L td :=
  ⟨C07.wf_b32, C08.tables_nodot.1, C07.tables_byte.1, S.hL, S.td_len, S.td_legal, S.td_plain, S.td_bytes⟩

/-- `build_hostname` of a 4-byte payload in Base32, explicitly: the seven characters, a dot, the domain -/
theorem ping_built {cd : Codec.Codec} {L : Nat} {td : List Nat} (S : UpSetting cd L td) (prev : Nat) (d : List Nat)
    (h4 : d.length = 4) :
    Encoding.buildHostname Codec.b32 L 4095 prev td d = some ⟨Codec.encFull Codec.b32 d ++ [46] ++ td, 4⟩ := by
  have hL := S.hL
  have ht := S.td_len
  have hlenE := encFull4_length d h4
  have henc : Codec.enc Codec.b32 (Encoding.hostSpace (min L 4095) td.length) d = ⟨Codec.encFull Codec.b32 d, 4, 8⟩ := by
    unfold Codec.enc Encoding.hostSpace
    have hn : Codec.nchars Codec.b32.k d.length = 7 := by rw [h4]; rfl
    simp only [hn]
    rw [if_pos (by omega), h4]
  rw [Encoding.buildHostname_eq _ _ _ _ _ _ (by omega) (by rw [henc]; exact encFull_b32_nodot d)
    (Or.inl (by rw [henc]; intro h; rw [show Codec.encFull Codec.b32 d = [] from h] at hlenE; simp at hlenE)), henc]
  dsimp only
  rw [Encoding.inner_short _ 0 (by omega)]
  rfl

/-- **the upstream hop for a one-character command** (`send_packet`: always Base32) -/
theorem up_hop1 {cd : Codec.Codec} {L : Nat} {td : List Nat} (S : UpSetting cd L td) (cmd : Nat) (d : List Nat)
    (hc : cmd ≠ 46 ∧ cmd ≠ 0 ∧ cmd < 256) (hd : d ≠ []) (hb : Codec.Bytes d) :
    let b := Client.buildHostname Codec.b32 (L : Int) 4095 cmd td d
    C10.LegalName (cmd :: b.name) ∧ 1 ≤ b.used ∧ b.used ≤ d.length ∧
    (∃ dlen, Common.queryDatalen (cmd :: b.name) td = some dlen ∧ 2 ≤ dlen ∧ dlen ≤ 255 ∧
      Encoding.unpackData Codec.b32 65536 (((cmd :: b.name).take (min dlen 512)).drop 1) = d.take b.used ∧
      ((cmd :: b.name).take (min dlen 512)).getD 0 0 = cmd ∧ (cmd :: b.name).getD 0 0 = cmd ∧
      1 ≤ (cmd :: b.name).length) ∧
    (d.length = 4 → b.used = 4) := by
  obtain ⟨b, hbe, hcb, hleg, hu1, hu2, dlen, hq, h6, h255, hun, hget⟩ :=
    up_hop S.toB32 1 (Or.inl rfl) [cmd] d cmd rfl (by intro ch hch; simp only [List.mem_singleton] at hch; subst hch; exact hc) hd hb
  simp only [show (4096 : Nat) - 1 = 4095 from rfl] at hcb hbe
  simp only [hcb]
  refine ⟨hleg, hu1, hu2, ⟨dlen, hq, h6, h255, hun, hget 0 (by omega), rfl, by simp⟩, ?_⟩
  intro h4
  exact congrArg Encoding.Built.used (Option.some.inj (hbe.symm.trans (ping_built S cmd d h4)))

/-- the invariant on `send_query_sendcnt` / `send_query_recvcnt`: not counting (`< 0` or `≥ 100`), or at most `d` more
queries sent than answers received -/
def CntOk (c : Client.Cli) (d : Nat) : Prop :=
  c.sendcnt < 0 ∨ 100 ≤ c.sendcnt ∨ c.sendcnt ≤ (c.recvcnt : Int) + (d : Int)

/-- what the block after `sendto` in `send_query` does when the alarm stays silent: it counts -/
def bumpCnt (c : Client.Cli) : Client.Cli :=
  if 0 ≤ c.sendcnt ∧ c.sendcnt < 100 ∧ c.lazymode then { c with sendcnt := c.sendcnt + 1 } else c

theorem bumpCnt_eta (c : Client.Cli) : bumpCnt c = { c with sendcnt := (bumpCnt c).sendcnt } := by
  unfold bumpCnt
  split <;> rfl

theorem bumpCnt_cnt (c : Client.Cli) (d : Nat) (h : CntOk c d) : CntOk (bumpCnt c) (d + 1) := by
  unfold bumpCnt
  split
  · unfold CntOk at *
    simp only
    omega
  · unfold CntOk at *
    omega

theorem bumpCnt_imm {c : Client.Cli} (h : c.lazymode = false) : bumpCnt c = c := by
  unfold bumpCnt
  rw [if_neg (by rw [h]; simp)]

/-- the alarm stays silent in immediate mode, and in lazy mode while the counting is in balance -/
theorem sendQueryCount_ok (c : Client.Cli) (h : c.lazymode = false ∨ CntOk c 1) :
    Client.sendQueryCount c = ⟨bumpCnt c, [], false⟩ := by
  unfold Client.sendQueryCount bumpCnt
  by_cases hc : 0 ≤ c.sendcnt ∧ c.sendcnt < 100 ∧ c.lazymode = true
  · rw [if_pos hc, if_pos hc]
    have h := h.resolve_left (by rw [hc.2.2]; simp)
    have h1 : ¬ (c.sendcnt + 1 > 6 ∧ c.recvcnt = 0) := by
      unfold CntOk at h; omega
    have h2 : ¬ (c.sendcnt + 1 > 10 ∧ 4 * (c.recvcnt : Int) < c.sendcnt + 1) := by
      unfold CntOk at h; omega
    have ht : Client.tooFewAnswers { c with sendcnt := c.sendcnt + 1 } = false := by
      unfold Client.tooFewAnswers
      simp only [Bool.or_eq_false_iff, Bool.and_eq_false_iff, decide_eq_false_iff_not, beq_eq_false_iff_ne]
      constructor
      · by_cases h3 : c.sendcnt + 1 > 6
        · right; intro h4; exact h1 ⟨h3, h4⟩
        · left; exact h3
      · by_cases h3 : c.sendcnt + 1 > 10
        · right; intro h4; exact h2 ⟨h3, h4⟩
        · left; exact h3
    simp only [ht, Bool.false_eq_true, if_false]
  · rw [if_neg hc, if_neg hc]

/-- `send_query`'s new id: everything but the three id fields stays -/
theorem rotateChunkid_eta (c : Client.Cli) : Client.rotateChunkid c =
    { c with chunkidPrev2 := c.chunkidPrev, chunkidPrev := c.chunkid,
             chunkid := if (c.chunkid + 7727) % 65536 = 0 then 7727 else (c.chunkid + 7727) % 65536 } := by
  unfold Client.rotateChunkid
  rfl

theorem CntOk.congr {c c' : Client.Cli} {d : Nat} (h : CntOk c d) (h1 : c'.sendcnt = c.sendcnt) (h2 : c'.recvcnt = c.recvcnt) :
    CntOk c' d := by
  unfold CntOk at *
  rw [h1, h2]
  exact h

theorem rotateChunkid_cnt (c : Client.Cli) (d : Nat) (h : CntOk c d) : CntOk (Client.rotateChunkid c) d :=
  h.congr (by rw [rotateChunkid_eta]) (by rw [rotateChunkid_eta])

theorem rotateChunkid_ne (c : Client.Cli) (h : c.chunkid < 65536) : (Client.rotateChunkid c).chunkid ≠ c.chunkid := by
  unfold Client.rotateChunkid
  simp only
  split <;> omega

/-- `send_query` of a legal name in immediate mode, or in lazy mode while the answer counting is in balance: new id, one
query event, the send is counted (lazy mode only), no parking -/
theorem sendQuery_bump (c : Client.Cli) (host : List Nat) (hcnt : c.lazymode = false ∨ CntOk c 1) (hqt : c.doQtype < 65536)
    (hleg : C10.LegalName host) :
    Client.sendQuery c host =
      ⟨bumpCnt (Client.rotateChunkid c), [.query (Client.rotateChunkid c).chunkid c.doQtype host], false⟩ := by
  have hdq : (Client.rotateChunkid c).doQtype = c.doQtype := by rw [rotateChunkid_eta]
  have hw : Client.wireQuery (Client.rotateChunkid c).chunkid (Client.rotateChunkid c).doQtype
      (Client.rotateChunkid c).edns0 host = some (.query (Client.rotateChunkid c).chunkid c.doQtype host) := by
    rw [hdq]
    exact wireQuery_legal _ _ _ _ (Client.rotateChunkid_lt c) hqt hleg
  have hp : Client.sendQueryPlain c host =
      ((Client.rotateChunkid c, [.query (Client.rotateChunkid c).chunkid c.doQtype host]), true) := by
    unfold Client.sendQueryPlain
    simp only [hw]
  have hcnt' : (Client.rotateChunkid c).lazymode = false ∨ CntOk (Client.rotateChunkid c) 1 :=
    hcnt.imp (fun h => by rw [rotateChunkid_eta]; exact h) (rotateChunkid_cnt c 1)
  unfold Client.sendQuery
  simp only [hp, if_true, sendQueryCount_ok _ hcnt', List.append_nil]

/-- **`send_chunk`** in immediate mode, or in lazy mode while the answer counting is in balance: the next fragment goes out
under a new id and data-CMC character; in lazy mode the send is counted. -/
theorem sendChunk_bump (c : Client.Cli) (L : Nat) (td : List Nat) (u : Nat)
    (hcnt : c.lazymode = false ∨ CntOk c 1) (hL : c.hostnameMaxlen = (L : Int)) (htd : c.topdomain = td)
    (S : UpSetting c.dataenc.codec L td) (hu : u < 16) (huc : c.useridChar = hexLower u) (hcmc : c.datacmc < 36)
    (hqt : c.doQtype < 65536)
    (hne : Client.outRest c.outpkt ≠ []) (hby : Codec.Bytes (Client.outRest c.outpkt)) :
    let b := Client.buildHostname c.dataenc.codec c.hostnameMaxlen 4091 0 c.topdomain (Client.outRest c.outpkt)
    let c2 : Client.Cli := { c with outpkt := { c.outpkt with sentlen := b.used } }
    let last : Bool := b.used == c.outpkt.len - c.outpkt.offset
    let c1 : Client.Cli := { c2 with datacmc := if c.datacmc + 1 ≥ 36 then 0 else c.datacmc + 1 }
    Client.sendChunk c =
      ⟨bumpCnt (Client.rotateChunkid c1),
       [.query (Client.rotateChunkid c1).chunkid c.doQtype (Client.chunkHeader c2 last ++ b.name)], false⟩ := by
  subst htd
  intro b c2 last c1
  have hleg := (up_hop5 S (Client.chunkHeader c2 last) (Client.outRest c.outpkt) rfl
    (chunkHeader_chars c2 last u hu huc hcmc) hne hby).1
  rw [← hL] at hleg
  have h0 : Client.sendChunk c = Client.sendQuery c1 (Client.chunkHeader c2 last ++ b.name) := rfl
  rw [h0]
  exact sendQuery_bump c1 _ hcnt hqt hleg

theorem sendChunk_imm (c : Client.Cli) (L : Nat) (td : List Nat) (u : Nat)
    (hlazy : c.lazymode = false) (hL : c.hostnameMaxlen = (L : Int)) (htd : c.topdomain = td)
    (S : UpSetting c.dataenc.codec L td) (hu : u < 16) (huc : c.useridChar = hexLower u) (hcmc : c.datacmc < 36)
    (hqt : c.doQtype < 65536)
    (hne : Client.outRest c.outpkt ≠ []) (hby : Codec.Bytes (Client.outRest c.outpkt)) :
    let b := Client.buildHostname c.dataenc.codec c.hostnameMaxlen 4091 0 c.topdomain (Client.outRest c.outpkt)
    let c2 : Client.Cli := { c with outpkt := { c.outpkt with sentlen := b.used } }
    let last : Bool := b.used == c.outpkt.len - c.outpkt.offset
    let c1 : Client.Cli := { c2 with datacmc := if c.datacmc + 1 ≥ 36 then 0 else c.datacmc + 1 }
    Client.sendChunk c =
      ⟨Client.rotateChunkid c1,
       [.query (Client.rotateChunkid c1).chunkid c.doQtype (Client.chunkHeader c2 last ++ b.name)], false⟩ := by
  intro b c2 last c1
  exact (sendChunk_bump c L td u (Or.inl hlazy) hL htd S hu huc hcmc hqt hne hby).trans
    (by rw [bumpCnt_imm (by rw [rotateChunkid_eta]; exact hlazy)])

/-- the four payload bytes of a ping, as `send_ping` computes them -/
def pingData (c : Client.Cli) : List Nat :=
  [Client.maskI c.userid 256, (Client.maskI c.inpkt.seqno 8 * 16 ||| Client.maskI c.inpkt.fragment 16) % 256,
   c.randSeed / 256 % 256, c.randSeed % 256]

theorem pingData_length (c : Client.Cli) : (pingData c).length = 4 := rfl

theorem pingData_bytes (c : Client.Cli) : Codec.Bytes (pingData c) := by
  intro x hx
  unfold pingData at hx
  simp only [List.mem_cons, List.not_mem_nil, or_false] at hx
  rcases hx with rfl | rfl | rfl | rfl
  · unfold Client.maskI; omega
  · exact Nat.mod_lt _ (by omega)
  · exact Nat.mod_lt _ (by omega)
  · exact Nat.mod_lt _ (by omega)

theorem pingByte1 : ∀ s, s < 8 → ∀ f, f < 16 → (s * 16 ||| f) % 256 = s * 16 ||| f := by decide

/-- the payload for values in range: user id, downstream ack nibbles, the 16-bit CMC big-endian -/
theorem pingData_eq (c : Client.Cli) (hu : 0 ≤ c.userid ∧ c.userid < 16) (hr : c.randSeed < 65536)
    (h3 : 0 ≤ c.inpkt.seqno ∧ c.inpkt.seqno < 8) (h4 : 0 ≤ c.inpkt.fragment ∧ c.inpkt.fragment < 16) :
    pingData c = [c.userid.toNat, c.inpkt.seqno.toNat * 16 ||| c.inpkt.fragment.toNat, c.randSeed / 256,
      c.randSeed % 256] := by
  unfold pingData
  rw [maskI_range c.userid 256 (by omega), maskI_range c.inpkt.seqno 8 (by omega),
    maskI_range c.inpkt.fragment 16 (by omega), pingByte1 _ (by omega) _ (by omega),
    Nat.mod_eq_of_lt (show c.randSeed / 256 < 256 by omega)]

/-- `send_ping` while `send_query`'s alarm stays silent (DNS mode) -/
theorem sendPing_bump (c : Client.Cli) (cd : Codec.Codec) (L : Nat) (td : List Nat)
    (hcnt : c.lazymode = false ∨ CntOk c 1) (hL : c.hostnameMaxlen = (L : Int)) (htd : c.topdomain = td)
    (S : UpSetting cd L td) (hqt : c.doQtype < 65536) (hconn : c.conn = .dnsNull) :
    Client.sendPing c =
      ⟨bumpCnt (Client.rotateChunkid { c with randSeed := (c.randSeed + 1) % 65536 }),
       [.query (Client.rotateChunkid { c with randSeed := (c.randSeed + 1) % 65536 }).chunkid c.doQtype
         (112 :: (Client.buildHostname Codec.b32 c.hostnameMaxlen 4095 112 c.topdomain (pingData c)).name)], false⟩ := by
  subst htd
  have hhop := up_hop1 S 112 (pingData c) (by omega) (by unfold pingData; simp) (pingData_bytes c)
  rw [← hL] at hhop
  have h0 : Client.sendPing c = Client.sendQuery { c with randSeed := (c.randSeed + 1) % 65536 }
      (112 :: (Client.buildHostname Codec.b32 c.hostnameMaxlen 4095 112 c.topdomain (pingData c)).name) := by
    unfold Client.sendPing
    rw [if_pos hconn]
    rfl
  rw [h0]
  exact sendQuery_bump { c with randSeed := (c.randSeed + 1) % 65536 } _ hcnt hqt hhop.1

/-- **`send_ping` in immediate mode** (DNS mode): the CMC steps, exactly one query `'p' ++ name` with a fresh id
goes out (that the name carries the whole 4-byte payload is the last part of `up_hop1`). -/
theorem sendPing_imm (c : Client.Cli) (cd : Codec.Codec) (L : Nat) (td : List Nat)
    (hlazy : c.lazymode = false) (hL : c.hostnameMaxlen = (L : Int)) (htd : c.topdomain = td)
    (S : UpSetting cd L td) (hqt : c.doQtype < 65536) (hconn : c.conn = .dnsNull) :
    let b := Client.buildHostname Codec.b32 c.hostnameMaxlen 4095 112 c.topdomain (pingData c)
    let c' : Client.Cli := { c with randSeed := (c.randSeed + 1) % 65536 }
    Client.sendPing c =
      ⟨Client.rotateChunkid c', [.query (Client.rotateChunkid c').chunkid c.doQtype (112 :: b.name)], false⟩ :=
  (sendPing_bump c cd L td (Or.inl hlazy) hL htd S hqt hconn).trans
    (by rw [bumpCnt_imm (by rw [rotateChunkid_eta]; exact hlazy)])

/-- user 3, Base32, domain `t.ab`, a 3-byte packet in flight -/
def exH : Client.Cli :=
  { Client.Cli.boot with topdomain := [116, 46, 97, 98], useridChar := 51, userid := 3, chunkid := 100, doQtype := 10,
                         conn := .dnsNull, running := true, datacmc := 35, randSeed := 513,
                         outpkt := { len := 3, sentlen := 0, offset := 0, data := [90, 1, 2], seqno := 5, fragment := 2 },
                         inpkt := { Client.Packet.zero with seqno := 6, fragment := 9 } }

theorem exH_setting : UpSetting exH.dataenc.codec 255 [116, 46, 97, 98] :=
  upSetting_of_enc .b32 255 _ (by omega) (by decide) (by decide) (by decide) (by decide)

example : Client.sendChunk exH =
    ⟨{ exH with outpkt := { exH.outpkt with sentlen := 3 }, datacmc := 0, chunkid := 7827, chunkidPrev := 100,
                chunkidPrev2 := 0 },
     [.query 7827 10 [51, 117, 119, 116, 57, 108, 105, 97, 113, 101, 46, 116, 46, 97, 98]], false⟩ := by
  have h := sendChunk_imm exH 255 [116, 46, 97, 98] 3 rfl rfl rfl exH_setting (by decide) (by decide) (by decide)
    (by decide) (by decide) (by unfold Codec.Bytes; decide)
  rw [h]
  decide +kernel

example : parseUpHdr [51, 117, 119, 116, 57, 108, 105, 97, 113, 101, 46, 116, 46, 97, 98] =
    { upSeq := 5, upFrag := 2, dnSeq := 6, dnFrag := 9, last := true } := by decide +kernel

example : (Client.sendPing exH).evs = [.query 7827 10 [112, 97, 110, 117, 113, 101, 97, 105, 46, 116, 46, 97, 98]] := by
  have h := sendPing_imm exH _ 255 [116, 46, 97, 98] rfl rfl rfl exH_setting (by decide) rfl
  rw [h]
  decide +kernel

end Iodine.C02L
