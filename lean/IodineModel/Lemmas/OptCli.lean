import IodineModel.Client.Options
import IodineModel.Lemmas.Opt
import IodineModel.Lemmas.Ite
/-
Helper lemmas about the model of iodine.c's `main()` (Client/Options.lean): the invariant of the option loop, and what has been
established when `client_handshake()` is called.
-/
namespace Iodine.OptL
open Iodine Iodine.Getopt Iodine.Client.Options

theorem clamp_bounds (lo hi x : Int) (h : lo ≤ hi) : lo ≤ clamp lo hi x ∧ clamp lo hi x ≤ hi := by
  unfold clamp; split <;> (try split) <;> omega

theorem setQtype_cases (cur : Nat) (a : List Nat) :
    setQtype cur a ∈ [10, 65399, 16, 33, 15, 5, 1] ∨ setQtype cur a = cur := by
  let P (r : Nat) : Prop := r ∈ [10, 65399, 16, 33, 15, 5, 1] ∨ r = cur
  refine ite_both (P := P) (Or.inl ?_) <| ite_both (P := P) (Or.inl ?_) <| ite_both (P := P) (Or.inl ?_) <|
    ite_both (P := P) (Or.inl ?_) <| ite_both (P := P) (Or.inl ?_) <| ite_both (P := P) (Or.inl ?_) <|
    ite_both (P := P) (Or.inl ?_) (Or.inr rfl)
  all_goals decide

theorem setDownenc_cases (cur : Nat) (a : List Nat) :
    setDownenc cur a ∈ [32, 84, 83, 85, 86, 82] ∨ setDownenc cur a = cur := by
  let P (r : Nat) : Prop := r ∈ [32, 84, 83, 85, 86, 82] ∨ r = cur
  refine ite_both (P := P) (Or.inl ?_) <| ite_both (P := P) (Or.inl ?_) <| ite_both (P := P) (Or.inl ?_) <|
    ite_both (P := P) (Or.inl ?_) <| ite_both (P := P) (Or.inl ?_) (Or.inr rfl)
  all_goals decide

/-- invariant of the client's option loop -/
structure CInv (o : Opts) (prev : Option (List Nat)) : Prop where
  pw : o.password = blk prev
  ml : 10 ≤ o.hostnameMaxlen ∧ o.hostnameMaxlen ≤ 255
  qt : o.doQtype ∈ [10, 65399, 16, 33, 15, 5, 1] ∨ o.doQtype = 65432
  dn : o.downenc ∈ [32, 84, 83, 85, 86, 82]
  sel : 1 ≤ o.selecttimeout ∧ o.selecttimeout < 2 ^ 31
  lazy : o.lazymode = 0 ∨ o.lazymode = 1

theorem cinv_init : CInv {} none := ⟨rfl, by decide, Or.inr rfl, by decide, by decide, Or.inr rfl⟩

theorem cli_optStep_inv (o o' : Opts) (x : Opt) (prev : Option (List Nat)) (hi : CInv o prev)
    (h : optStep o x = .ok o') : CInv o' ((pArg x).or prev) := by
  obtain ⟨hpw, hml, hqt, hdn, hsel, hlazy⟩ := hi
  unfold optStep at h
  split at h
  all_goals try (dsimp only at h)
  all_goals try (split at h)
  all_goals try (simp at h; done)
  all_goals (simp only [Except.ok.injEq] at h; subst h; refine ⟨?_, ?_, ?_, ?_, ?_, ?_⟩)
  -- most options leave most fields alone
  all_goals first | exact hpw | exact hml | exact hqt | exact hdn | exact hsel | exact hlazy | skip
  all_goals try (exact clamp_bounds 10 255 _ (by decide))
  all_goals try exact strncpy_set _ _ (by rw [hpw, blk_length])
  all_goals
    have a1 := atoi_lt ‹List Nat›
    have c1 := clamp_bounds 0 1 (atoi ‹List Nat›) (by decide)
    have q1 := setQtype_cases o.doQtype ‹List Nat›
    have d1 := setDownenc_cases o.downenc ‹List Nat›
    dsimp only
    first
      | omega
      | (split <;> omega)
      | (rcases q1 with q1 | q1
         · exact Or.inl q1
         · rw [q1]; exact hqt)
      | (rcases d1 with d1 | d1
         · exact d1
         · rw [d1]; exact hdn)

theorem cli_optLoop_inv : ∀ (xs : List Opt) (o o' : Opts) (prev : Option (List Nat)), CInv o prev →
    optLoop o xs = .ok o' → CInv o' (lastPFrom xs prev) :=
  optLoop_inv (fun _ => rfl) (fun o x xs => by rw [optLoop]; cases optStep o x <;> rfl) cli_optStep_inv

theorem cli_startup_final (env : Env) (o : Opts) (uid : Option Nat) (fin f : Final) (evs : List Ev)
    (h : (startup env o uid fin evs).final = some f) : f = fin := by
  unfold startup at h
  simp only at h
  repeat' split at h
  all_goals try (simp at h; done)
  all_goals (simp only [Option.some.injEq] at h; exact h.symm)

/-- what has been checked when `client_handshake()` is called -/
theorem afterOpts_final (env : Env) (o : Opts) (rest : List (List Nat)) (f : Final) (h : (afterOpts env o rest).final = some f) :
    ∃ td fam ip, f = finalOf env o td (passwordPhase env.envPass env.typed o.password).1 fam ip ∧
      Common.checkTopdomain td false = 0 ∧ 1 ≤ o.fragsize ∧ o.fragsize ≤ 65535 := by
  unfold afterOpts at h
  simp only at h
  repeat' split at h
  all_goals try (simp [usage] at h; done)
  all_goals
    have := cli_startup_final _ _ _ _ _ _ h
    refine ⟨_, _, _, this, by omega, by omega, by omega⟩

theorem clientMain_final (env : Env) (argv : List (List Nat)) (f : Final) (h : (clientMain env argv).final = some f) :
    ∃ o td fam ip, optLoop {} (getoptAll optstring argv).1 = .ok o ∧
      f = finalOf env o td (passwordPhase env.envPass env.typed o.password).1 fam ip ∧
      Common.checkTopdomain td false = 0 ∧ 1 ≤ o.fragsize ∧ o.fragsize ≤ 65535 := by
  unfold clientMain at h
  simp only at h
  split at h
  · simp at h
  · rename_i o ho
    obtain ⟨td, fam, ip, h1, h2, h3, h4⟩ := afterOpts_final env o _ f h
    exact ⟨o, td, fam, ip, ho, h1, h2, h3, h4⟩

theorem cli_startup_run (env : Env) (o : Opts) (uid : Option Nat) (fin : Final) (evs : List Ev) (c : Int)
    (h : (startup env o uid fin evs).outcome = .run c) : (startup env o uid fin evs).final = some fin := by
  unfold startup at h ⊢
  simp only at h ⊢
  repeat' split
  all_goals simp_all

theorem afterOpts_run (env : Env) (o : Opts) (rest : List (List Nat)) (c : Int) :
    ∀ r, r = afterOpts env o rest → r.outcome = .run c → ∃ f, r.final = some f := by
  intro r hr h
  unfold afterOpts at hr
  simp only at hr
  repeat' split at hr
  all_goals subst hr
  all_goals try (simp [usage] at h; done)
  all_goals exact ⟨_, cli_startup_run _ _ _ _ _ c h⟩

end Iodine.OptL
