import IodineModel.Lemmas.C11b
/-
C11: the explicit list of the 18 character maps of the relay family and the finite facts about
the regenerated constants (`cb32 … cb128`, `pat64 … pat128e`, `DOWNCODECCHECK1`), checked by kernel
evaluation over that list.  `Props/C11.lean` defines the family declaratively (`RelayMap`) and shows that every
member's map is in `familyFns`.

The reverse tables of the codecs are `mkRev` searches, which go through the whole list of writes for a character
outside the alphabet; `fast c` reads a 256-entry table instead and is proved equal to `c` (`fast_b32 … fast_b128`): the
sweeps over the family, where most characters are mapped out of the alphabet, run on `fast`.
-/
namespace Iodine.C11L
open Iodine Iodine.Gen Iodine.Codec Iodine.Encoding

/-! ### the maps -/

def caseFns : List (Nat → Nat) := [fun c => c, toLowerC, toUpperC]
def bitFns : List (Nat → Nat) := [fun c => c, fun c => c % 128]
def punctFns : List (Nat → Nat) :=
  [fun c => c, fun c => if c = 43 then 32 else c, fun c => if c = 95 then 45 else c]

/-- {case: keep | lower | upper} ∘ {8-bit: keep | strip} ∘ {punctuation: keep | '+'↦' ' | '_'↦'-'},
index `6·case + 3·bits + punct` -/
def familyFns : List (Nat → Nat) :=
  caseFns.flatMap fun cf => bitFns.flatMap fun bf => punctFns.map fun pf => fun c => cf (bf (pf c))

def IdOn (f : Nat → Nat) (A : List Nat) : Prop := ∀ c ∈ A, f c = c
instance (f : Nat → Nat) (A : List Nat) : Decidable (IdOn f A) := by unfold IdOn; infer_instance
instance (c : Codec) (f : Nat → Nat) (s : List Nat) : Decidable (Transparent c f s) := by
  unfold Transparent; infer_instance
instance (f : Nat → Nat) (s : List Nat) : Decidable (DotPreserving f s) := by
  unfold DotPreserving; infer_instance

theorem idOn_iff_map {f : Nat → Nat} {A : List Nat} : IdOn f A ↔ A.map f = A := map_eq_self_iff.symm

/-! ### fast reverse tables -/

theorem mkRev_eq_zero {writes : List (Nat × Nat)} {c : Nat} (h : ∀ w ∈ writes, w.1 ≠ c) : mkRev writes c = 0 := by
  unfold mkRev
  have : writes.reverse.find? (fun w => w.1 == c) = none := by
    rw [List.find?_eq_none]
    intro w hw
    have := h w (List.mem_reverse.mp hw)
    simpa using this
  rw [this]

def revTab (c : Codec) : List Nat := (List.range 256).map c.rev

def fast (c : Codec) : Codec := { c with rev := fun ch => (revTab c).getD ch 0 }

theorem fast_eq (c : Codec) (h : ∀ ch, 256 ≤ ch → c.rev ch = 0) : fast c = c := by
  have : (fun ch => (revTab c).getD ch 0) = c.rev := by
    funext ch
    unfold revTab
    by_cases hch : ch < 256
    · simp [List.getD_eq_getElem?_getD, hch]
    · rw [h ch (by omega), List.getD_eq_getElem?_getD, List.getElem?_eq_none (by simp; omega)]
      rfl
  unfold fast
  rw [this]

theorem rev_big_of_keys {writes : List (Nat × Nat)} (hk : ∀ w ∈ writes, w.1 < 256) :
    ∀ ch, 256 ≤ ch → mkRev writes ch = 0 :=
  fun ch hch => mkRev_eq_zero fun w hw e => by have := hk w hw; omega

theorem fast_b32 : fast b32 = b32 :=
  fast_eq b32 (rev_big_of_keys (writes := rev32Writes) (by decide +kernel))
theorem fast_b64 : fast b64 = b64 :=
  fast_eq b64 (rev_big_of_keys (writes := revWrites cb64) (by decide +kernel))
theorem fast_b64u : fast b64u = b64u :=
  fast_eq b64u (rev_big_of_keys (writes := revWrites cb64u) (by decide +kernel))
theorem fast_b128 : fast b128 = b128 :=
  fast_eq b128 (rev_big_of_keys (writes := revWrites cb128) (by decide +kernel))

/-! ### upstream: the probe strings against the alphabets -/

/-- Base128: the five probe strings together contain the whole alphabet. -/
theorem cover_b128 : ∀ c ∈ cb128, ∃ p ∈ [pat128a, pat128b, pat128c, pat128d, pat128e], c ∈ p := by
  decide +kernel

/-- Base64: `pat64` contains the whole alphabet except the digits '3' … '8'. -/
theorem cover_b64 : ∀ c ∈ cb64, c ∈ pat64 ∨ (51 ≤ c ∧ c ≤ 56) := by decide +kernel
theorem cover_b64u : ∀ c ∈ cb64u, c ∈ pat64u ∨ (51 ≤ c ∧ c ≤ 56) := by decide +kernel

theorem family_fixes_digits : ∀ f ∈ familyFns, ∀ c, c < 65 → c ≠ 43 → f c = c := by
  decide +kernel

/-- every map of the family is a composition of one map from each of the three lists -/
theorem mem_familyFns {f : Nat → Nat} (hf : f ∈ familyFns) :
    ∃ cf ∈ caseFns, ∃ bf ∈ bitFns, ∃ pf ∈ punctFns, f = fun c => cf (bf (pf c)) := by
  simp only [familyFns, List.mem_flatMap, List.mem_map] at hf
  obtain ⟨cf, hcf, bf, hbf, pf, hpf, rfl⟩ := hf
  exact ⟨cf, hcf, bf, hbf, pf, hpf, rfl⟩

/-- all images stay bytes: each of the three stages keeps bytes bytes -/
theorem family_lt : ∀ f ∈ familyFns, ∀ c, c < 256 → f c < 256 := by
  intro f hf c hc
  obtain ⟨cf, hcf, bf, hbf, pf, hpf, rfl⟩ := mem_familyFns hf
  have hp : pf c < 256 := by
    simp only [punctFns, List.mem_cons, List.mem_nil_iff, or_false] at hpf
    rcases hpf with rfl | rfl | rfl <;> dsimp only <;> first | omega | (split <;> omega)
  have hb : bf (pf c) < 256 := by
    simp only [bitFns, List.mem_cons, List.mem_nil_iff, or_false] at hbf
    rcases hbf with rfl | rfl <;> dsimp only <;> omega
  simp only [caseFns, List.mem_cons, List.mem_nil_iff, or_false] at hcf
  rcases hcf with rfl | rfl | rfl
  · exact hb
  · show toLowerC _ < 256
    unfold toLowerC; split <;> omega
  · show toUpperC _ < 256
    unfold toUpperC; split <;> omega

/-! ### Base32 survives every map of the family -/

theorem family_b32_dot : ∀ f ∈ familyFns, Transparent b32 f (DOT :: cb32) := by
  rw [← fast_b32]; decide +kernel

theorem family_b32_transparent : ∀ f ∈ familyFns, Transparent b32 f cb32 :=
  fun f hf => (family_b32_dot f hf).sub fun _ h => List.mem_cons_of_mem _ h

/-- the family turns no byte except '.' (and, when stripping, 0xAE) into a dot and no byte except 0 (and
0x80) into NUL; in particular no alphabet character -/
theorem family_dots : ∀ f ∈ familyFns, f DOT = DOT ∧
    DotPreserving f (DOT :: (cb32 ++ cb64 ++ cb64u ++ cb128)) := by decide +kernel

/-- codec letters keep their meaning for `dns_namedec` (which accepts both cases) -/
theorem family_letters : ∀ f ∈ familyFns, ∀ l ∈ [104, 105, 106, 107, 116, 115, 117, 118, 114],
    f l = l ∨ f l + 32 = l := by decide +kernel

end Iodine.C11L
