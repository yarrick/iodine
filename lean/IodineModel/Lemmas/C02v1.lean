import IodineModel.World
/-
Generic facts about the joined model `World`: the prompt run as a counted relation (`promptSteps`; `runPromptCount_of_steps`,
`runPrompt_of_steps`, `run_of_steps`: what the model's drivers compute for a counted run that ends quiescent), `run_append`, the
translations of event lists, and the inductions over offers made one after the other (`offerAll_induct`, `offerAllC_induct`,
`offerAllS_induct`; `offerAllC_first`, `offerAllS_first`; `offerAllS_lossy`: when some of the frames are lost).
-/
namespace Iodine.C02L
open Iodine Iodine.World

/-- exactly `k` prompt steps from `w`, none of them taken from a quiescent state -/
def promptSteps (u : Nat) : Nat → W → Option W
  | 0, w => some w
  | k + 1, w => if quiet u w then none else promptSteps u k (step w (promptEv w))

theorem promptSteps_succ {u : Nat} {w : W} (hq : quiet u w = false) (k : Nat) :
    promptSteps u (k + 1) w = promptSteps u k (step w (promptEv w)) := by
  simp [promptSteps, hq]

theorem promptSteps_add (u : Nat) : ∀ (a b : Nat) (w w' : W), promptSteps u a w = some w' →
    promptSteps u (a + b) w = promptSteps u b w' := by
  intro a
  induction a with
  | zero => intro b w w' h; simp only [promptSteps, Option.some.injEq] at h; subst h; simp
  | succ a ih =>
    intro b w w' h
    have : a + 1 + b = (a + b) + 1 := by omega
    rw [this]
    by_cases hq : quiet u w = true
    · simp [promptSteps, hq] at h
    · have hq' : quiet u w = false := by simpa using hq
      rw [promptSteps_succ hq'] at h ⊢
      exact ih b _ _ h

theorem runPromptCount_of_steps (u : Nat) : ∀ (k : Nat) (w w' : W), promptSteps u k w = some w' → quiet u w' = true →
    ∀ fuel n, k ≤ fuel → runPromptCount u fuel w n = (w', n + k) := by
  intro k
  induction k with
  | zero =>
    intro w w' h hq fuel n _
    simp only [promptSteps, Option.some.injEq] at h
    subst h
    cases fuel with
    | zero => rfl
    | succ m => simp [runPromptCount, hq]
  | succ k ih =>
    intro w w' h hq fuel n hf
    unfold promptSteps at h
    split at h
    · cases h
    · rename_i hnq
      cases fuel with
      | zero => omega
      | succ m =>
        unfold runPromptCount
        rw [if_neg hnq, ih _ _ h hq m (n + 1) (by omega)]
        congr 1
        omega

theorem runPromptCount_fst (u : Nat) : ∀ (fuel : Nat) (w : W) (n : Nat), (runPromptCount u fuel w n).1 = runPrompt u fuel w
  | 0, _, _ => rfl
  | fuel + 1, w, n => by
    unfold runPromptCount runPrompt
    by_cases hq : quiet u w = true
    · rw [if_pos hq, if_pos hq]
    · rw [if_neg hq, if_neg hq]; exact runPromptCount_fst u fuel _ _

theorem runPrompt_of_steps (u : Nat) (k : Nat) (w w' : W) (h : promptSteps u k w = some w') (hq : quiet u w' = true)
    (fuel : Nat) (hf : k ≤ fuel) : runPrompt u fuel w = w' := by
  rw [← runPromptCount_fst u fuel w 0, runPromptCount_of_steps u k w w' h hq fuel 0 hf]

theorem run_of_steps {u k fuel : Nat} {w w' : W} (h : promptSteps u k w = some w') (hq : quiet u w' = true) (hf : k ≤ fuel) :
    runPromptCount u fuel w 0 = (runPrompt u fuel w, k) ∧ runPrompt u fuel w = w' := by
  have h2 := runPrompt_of_steps u k w w' h hq fuel hf
  rw [runPromptCount_of_steps u k w w' h hq fuel 0 hf, h2, Nat.zero_add]
  exact ⟨rfl, rfl⟩

theorem offerAllC_first {u fuel k : Nat} {w w' : W} {f : List Nat} (fs : List (List Nat))
    (h : promptSteps u k (step w (.offerC f)) = some w') (hq : quiet u w' = true) (hk : k ≤ fuel) :
    offerAllC u fuel w (f :: fs) = offerAllC u fuel w' fs := by
  show offerAllC u fuel (runPrompt u fuel (step w (.offerC f))) fs = _
  rw [runPrompt_of_steps u _ _ _ h hq fuel hk]

theorem offerAllS_first {u fuel k : Nat} {w w' : W} {f : List Nat} (fs : List (List Nat))
    (h : promptSteps u k (step w (.offerS f)) = some w') (hq : quiet u w' = true) (hk : k ≤ fuel) :
    offerAllS u fuel w (f :: fs) = offerAllS u fuel w' fs := by
  show offerAllS u fuel (runPrompt u fuel (step w (.offerS f))) fs = _
  rw [runPrompt_of_steps u _ _ _ h hq fuel hk]

theorem run_append (w : W) (a b : List Ev) : run w (a ++ b) = run (run w a) b := by
  induction a generalizing w with
  | nil => rfl
  | cons e a ih => exact ih (step w e)

theorem downOfEvents_append (a b : List Server.Event) : downOfEvents (a ++ b) = downOfEvents a ++ downOfEvents b := by
  induction a with
  | nil => rfl
  | cons e r ih =>
    cases e <;> simp only [List.cons_append, downOfEvents, ih] <;> split <;> simp

theorem tunOfSEvents_append (a b : List Server.Event) : tunOfSEvents (a ++ b) = tunOfSEvents a ++ tunOfSEvents b := by
  induction a with
  | nil => rfl
  | cons e r ih => cases e <;> simp [tunOfSEvents, ih]

theorem upOfEvents_append (a b : List Client.CEvent) : upOfEvents (a ++ b) = upOfEvents a ++ upOfEvents b := by
  induction a with
  | nil => rfl
  | cons e r ih => cases e <;> simp [upOfEvents, ih]

theorem tunOfCEvents_append (a b : List Client.CEvent) : tunOfCEvents (a ++ b) = tunOfCEvents a ++ tunOfCEvents b := by
  induction a with
  | nil => rfl
  | cons e r ih => cases e <;> simp [tunOfCEvents, ih]

@[simp] theorem downOfEvents_sweep : downOfEvents [Server.Event.sweep] = [] := rfl
@[simp] theorem tunOfSEvents_sweep : tunOfSEvents [Server.Event.sweep] = [] := rfl

theorem downOfEvents_writeDns (q : Server.Query) (d : List Nat) (dn : Nat) (t : Server.Tag) (h : q.from_ = clientAddr) :
    downOfEvents [Server.writeDns q d dn t] = [.ans q.id q.type q.name d] := by
  simp [downOfEvents, Server.writeDns, h]

@[simp] theorem tunOfSEvents_writeDns (q : Server.Query) (d : List Nat) (dn : Nat) (t : Server.Tag) :
    tunOfSEvents [Server.writeDns q d dn t] = [] := rfl

/-- what the receiving side (server or client) writes to its tun device for a frame: the frame with the 4-byte tun header
rewritten -/
def tunImage (frame : List Nat) : List Nat := [0, 0, 8, 0] ++ frame.drop 4

theorem tunOfC_writeTun (frame : List Nat) (h4 : 4 ≤ frame.length) :
    tunOfCEvents [Client.writeTun frame] = [tunImage frame] := by
  unfold Client.writeTun tunImage
  simp only [tunOfCEvents]
  congr 1
  apply List.take_of_length_le
  simp
  omega

/-- Offers one after the other: if every single offer, followed by the prompt schedule, leads from a state satisfying `Q`
to one satisfying `Q` again, writes exactly its frame to the peer's tun device and keeps every offer admissible (`ok`),
then the whole list is delivered, each direction in order. -/
theorem offerAll_induct {u fuel : Nat} {Q : W → Prop} {ok : W → Offer → Prop}
    (hup : ∀ w f, Q w → ok w (.toServer f) →
      Q (runPrompt u fuel (step w (.offerC f))) ∧
      (runPrompt u fuel (step w (.offerC f))).tunS = w.tunS ++ [tunImage f] ∧
      (runPrompt u fuel (step w (.offerC f))).tunC = w.tunC ∧
      ∀ o, ok w o → ok (runPrompt u fuel (step w (.offerC f))) o)
    (hdown : ∀ w f, Q w → ok w (.toClient f) →
      Q (runPrompt u fuel (step w (.offerS f))) ∧
      (runPrompt u fuel (step w (.offerS f))).tunC = w.tunC ++ [tunImage f] ∧
      (runPrompt u fuel (step w (.offerS f))).tunS = w.tunS ∧
      ∀ o, ok w o → ok (runPrompt u fuel (step w (.offerS f))) o) :
    ∀ (offers : List Offer) (w : W), Q w → (∀ o ∈ offers, ok w o) →
      Q (offerAll u fuel w offers) ∧
      (offerAll u fuel w offers).tunS = w.tunS ++ (Offer.ups offers).map tunImage ∧
      (offerAll u fuel w offers).tunC = w.tunC ++ (Offer.downs offers).map tunImage := by
  intro offers
  induction offers with
  | nil => intro w hq _; exact ⟨hq, by simp [offerAll, Offer.ups], by simp [offerAll, Offer.downs]⟩
  | cons o os ih =>
    intro w hq hok
    have ho := hok o List.mem_cons_self
    cases o with
    | toServer f =>
      obtain ⟨h1, h2, h3, h4⟩ := hup w f hq ho
      have := ih _ h1 (fun g hg => h4 g (hok g (List.mem_cons_of_mem _ hg)))
      unfold offerAll
      refine ⟨this.1, ?_, ?_⟩
      · rw [this.2.1, h2]; simp [Offer.ups]
      · rw [this.2.2, h3]; simp [Offer.downs]
    | toClient f =>
      obtain ⟨h1, h2, h3, h4⟩ := hdown w f hq ho
      have := ih _ h1 (fun g hg => h4 g (hok g (List.mem_cons_of_mem _ hg)))
      unfold offerAll
      refine ⟨this.1, ?_, ?_⟩
      · rw [this.2.1, h3]; simp [Offer.ups]
      · rw [this.2.2, h2]; simp [Offer.downs]

theorem offerAllC_induct {u fuel : Nat} {Q : W → Prop} {ok : W → List Nat → Prop}
    (h : ∀ w f, Q w → ok w f →
      Q (runPrompt u fuel (step w (.offerC f))) ∧
      (runPrompt u fuel (step w (.offerC f))).tunS = w.tunS ++ [tunImage f] ∧
      (runPrompt u fuel (step w (.offerC f))).tunC = w.tunC ∧
      ∀ g, ok w g → ok (runPrompt u fuel (step w (.offerC f))) g) :
    ∀ (frames : List (List Nat)) (w : W), Q w → (∀ f ∈ frames, ok w f) →
      Q (offerAllC u fuel w frames) ∧
      (offerAllC u fuel w frames).tunS = w.tunS ++ frames.map tunImage ∧
      (offerAllC u fuel w frames).tunC = w.tunC := by
  intro frames
  induction frames with
  | nil => intro w hq _; exact ⟨hq, by simp [offerAllC], rfl⟩
  | cons f fs ih =>
    intro w hq hok
    obtain ⟨h1, h2, h3, h4⟩ := h w f hq (hok f List.mem_cons_self)
    have := ih _ h1 (fun g hg => h4 g (hok g (List.mem_cons_of_mem _ hg)))
    unfold offerAllC
    exact ⟨this.1, by rw [this.2.1, h2]; simp, by rw [this.2.2, h3]⟩

theorem offerAllS_induct {u fuel : Nat} {Q : W → Prop} {ok : W → List Nat → Prop}
    (h : ∀ w f, Q w → ok w f →
      Q (runPrompt u fuel (step w (.offerS f))) ∧
      (runPrompt u fuel (step w (.offerS f))).tunC = w.tunC ++ [tunImage f] ∧
      (runPrompt u fuel (step w (.offerS f))).tunS = w.tunS ∧
      ∀ g, ok w g → ok (runPrompt u fuel (step w (.offerS f))) g) :
    ∀ (frames : List (List Nat)) (w : W), Q w → (∀ f ∈ frames, ok w f) →
      Q (offerAllS u fuel w frames) ∧
      (offerAllS u fuel w frames).tunC = w.tunC ++ frames.map tunImage ∧
      (offerAllS u fuel w frames).tunS = w.tunS := by
  intro frames
  induction frames with
  | nil => intro w hq _; exact ⟨hq, by simp [offerAllS], rfl⟩
  | cons f fs ih =>
    intro w hq hok
    obtain ⟨h1, h2, h3, h4⟩ := h w f hq (hok f List.mem_cons_self)
    have := ih _ h1 (fun g hg => h4 g (hok g (List.mem_cons_of_mem _ hg)))
    unfold offerAllS
    exact ⟨this.1, by rw [this.2.1, h2]; simp, by rw [this.2.2, h3]⟩

/-- Frames offered one after the other when some of them are LOST.  `Q d w`: a family of states between offers, `Q 0` the one
from which nothing is lost (in the uses `d` is how far the sender's sequence number is ahead); `lost d w`: how many of the next
frames are lost from `Q d w`.  Each offer either delivers its frame and ends in `Q 0`, or loses it and leaves one frame less to
lose: then exactly the first `lost d w` frames are lost, the others arrive once and in order, and the run ends in `Q 0` when more
frames were offered than are lost; `lost` at the end says what is still to lose. -/
theorem offerAllS_lossy {u fuel : Nat} {Q : Nat → W → Prop} {ok : W → List Nat → Prop} {lost : Nat → W → Nat}
    (h0 : ∀ w, Q 0 w → lost 0 w = 0)
    (h : ∀ d w f, Q d w → ok w f → ∃ w', runPrompt u fuel (step w (.offerS f)) = w' ∧
      w'.tunS = w.tunS ∧ (∀ g, ok w g → ok w' g) ∧
      ((lost d w = 0 ∧ Q 0 w' ∧ w'.tunC = w.tunC ++ [tunImage f]) ∨
        (∃ d', lost d w = lost d' w' + 1 ∧ Q d' w' ∧ w'.tunC = w.tunC))) :
    ∀ (frames : List (List Nat)) (d : Nat) (w : W), Q d w → (∀ f ∈ frames, ok w f) →
      ∃ d', Q d' (offerAllS u fuel w frames) ∧ (lost d w < frames.length ∨ d = 0 → d' = 0) ∧
        (offerAllS u fuel w frames).tunC = w.tunC ++ (frames.drop (lost d w)).map tunImage ∧
        (offerAllS u fuel w frames).tunS = w.tunS ∧
        lost d' (offerAllS u fuel w frames) = lost d w - frames.length := by
  intro frames
  induction frames with
  | nil =>
    intro d w hq _
    refine ⟨d, hq, fun hc => hc.elim (fun hlt => absurd hlt (Nat.not_lt_zero _)) id, ?_, rfl, rfl⟩
    simp [offerAllS]
  | cons f fs ih =>
    intro d w hq hok
    obtain ⟨w', hw', hS, hk, hcase⟩ := h d w f hq (hok f List.mem_cons_self)
    have hok' : ∀ g ∈ fs, ok w' g := fun g hg => hk g (hok g (List.mem_cons_of_mem _ hg))
    unfold offerAllS
    rw [hw']
    rcases hcase with ⟨hz, hq', hC⟩ | ⟨d1, hs, hq', hC⟩
    · obtain ⟨d', a1, a2, a3, a4, a5⟩ := ih 0 _ hq' hok'
      refine ⟨d', a1, fun _ => a2 (Or.inr rfl), ?_, a4.trans hS, by rw [a5, h0 _ hq', hz, Nat.zero_sub, Nat.zero_sub]⟩
      rw [a3, h0 _ hq', hC, hz, List.drop_zero, List.drop_zero, List.map_cons, List.append_assoc]
      rfl
    · obtain ⟨d', a1, a2, a3, a4, a5⟩ := ih d1 _ hq' hok'
      refine ⟨d', a1, fun hc => a2 ?_, ?_, a4.trans hS, by rw [a5, hs, List.length_cons, Nat.add_sub_add_right]⟩
      · rcases hc with hlt | hd0
        · rw [hs] at hlt; exact Or.inl (Nat.lt_of_succ_lt_succ hlt)
        · subst hd0; rw [h0 _ hq] at hs; exact absurd hs (Nat.succ_ne_zero _).symm
      · rw [a3, hC, hs, List.drop_succ_cons]

end Iodine.C02L
