import IodineModel.Lemmas.HsSys
import IodineModel.Lemmas.C11b
import IodineModel.Lemmas.CliFrame
/-
Lemmas about the handshake step machine: the machine driven by a FIXED path (`HsPath`: one reply, or none,
per probe content — a relay of C11 is a fixed transformation, the server's replies are determined by the query)
reaches, phase by phase, the decisions of the abstract negotiation `C11L.clientHandshakeTail`.  Every phase is a retry loop;
what such a loop does on a fixed path is said once (`reach_loop`; `reach_retry` is its induction over the tries), the phases
are its instances.
-/
namespace Iodine.Client
open Iodine Iodine.Gen

/-- what the path answers to each probe of the handshake after the login (`none`: never an answer); the payload is what
`read_dns_withq` delivers (`in[0..read)`) -/
structure HsPath where
  edns : Option (List Nat)
  up : List Nat → Option (List Nat)
  switchUp : Nat → Option (List Nat)
  down : Nat → Option (List Nat)
  switchDown : Option (List Nat)
  lazy : Option (List Nat)
  frag : Nat → Option (List Nat)
  setFrag : Option (List Nat)

def HsPath.replyAt (π : HsPath) : HPos → Option (List Nat)
  | .edns _ => π.edns
  | .upenc p _ => π.up (upPattern p)
  | .switchCodec b _ => π.switchUp b
  | .downenc c _ _ => π.down c
  | .switchDown _ => π.switchDown
  | .lazy _ => π.lazy
  | .frag pr _ _ _ => π.frag pr
  | .setFrag _ _ => π.setFrag
  | _ => none

/-- replies are non-empty and fit every `in[]` of the handshake -/
def HsPath.Ok (π : HsPath) : Prop := ∀ p buf, π.replyAt p = some buf → 0 < buf.length ∧ buf.length ≤ 4095

/-- what the path makes the parked `select` return: the reply to the outstanding query (right id, right first character,
right away), or a timeout -/
def envInput (π : HsPath) (s : HState) : CInput :=
  match s.pos with
  | none => .tick
  | some p =>
    match π.replyAt p with
    | some buf => .rq ⟨buf.length, s.c.chunkid, s.c.doQtype, 0, p.wait.1, buf⟩
    | none => .tick

inductive Reaches (π : HsPath) : HOut → HOut → Prop
  | refl (o : HOut) : Reaches π o o
  | step {o o' : HOut} : Reaches π (hstep o.1 (envInput π o.1)) o' → Reaches π o o'

theorem Reaches.trans {π : HsPath} {a b c : HOut} (h1 : Reaches π a b) (h2 : Reaches π b c) : Reaches π a c := by
  induction h1 with
  | refl => exact h2
  | step _ ih => exact Reaches.step (ih h2)

theorem step_tick (π : HsPath) (s : HState) (p : HPos) (hp : s.pos = some p) (hr : p.rawLogin? = none)
    (hn : π.replyAt p = none) :
    hstep s (envInput π s) = hsGot { s with c := { s.c with now := s.c.now + p.wait.2.1 }, inb := [] } p (-3) := by
  obtain ⟨c, pos, inb, args, pw, dev⟩ := s
  simp only at hp
  subst hp
  simp only [hstep, envInput, hn, fire, advanceClock, hstepAt, hr, hsWaitIn, hsWaitRound]
  congr 3
  simp [HPos.sel]

theorem step_reply (π : HsPath) (s : HState) (p : HPos) (hp : s.pos = some p) (hr : p.rawLogin? = none)
    (buf : List Nat) (hn : π.replyAt p = some buf) (hl : buf.length ≤ 4095) :
    hstep s (envInput π s) = hsGot { s with inb := buf } p buf.length := by
  obtain ⟨c, pos, inb, args, pw, dev⟩ := s
  simp only at hp
  subst hp
  have hb : 4095 ≤ p.wait.2.2 := by cases p <;> simp [HPos.wait]
  have hk : min buf.length p.wait.2.2 = buf.length := by omega
  have hneg : ¬ ((buf.length : Int) < 0) := by omega
  simp only [hstep, envInput, hn, fire, hstepAt, hr, hsWaitIn, hsWaitRound]
  simp [hk, hneg]

/-- the statics the decisions of the handshake tail depend on / result in -/
structure Neg where
  running : Bool
  dataenc : Enc
  downenc : Nat
  lazymode : Bool
  selecttimeout : Int
  edns0 : Bool
  doQtype : Nat
deriving DecidableEq, Repr

def neg (c : Cli) : Neg := ⟨c.running, c.dataenc, c.downenc, c.lazymode, c.selecttimeout, c.edns0, c.doQtype⟩

/-- what a phase that only sends and waits leaves alone: the statics of `neg` and the arguments of `client_handshake` -/
def Keep (s s' : HState) : Prop := neg s'.c = neg s.c ∧ s'.args = s.args

theorem Keep.refl (s : HState) : Keep s s := ⟨rfl, rfl⟩
theorem Keep.trans {a b c : HState} (h1 : Keep a b) (h2 : Keep b c) : Keep a c := ⟨h2.1.trans h1.1, h2.2.trans h1.2⟩

theorem neg_of_frame {c c' : Cli} (h : CFrame erIds c c') : neg c' = neg c := h.get neg fun _ => rfl

theorem neg_setLazymode (c : Cli) (b : Bool) : neg { c with lazymode := b } = { neg c with lazymode := b } := rfl

/-- a list of (zero-extended) bytes starts with the literal -/
def litAt (buf : List Nat) (lit : String) : Bool :=
  (List.range (ascii lit).length).all fun k => buf.getD k 0 == (ascii lit).getD k 0

def litAtN (buf : List Nat) (lit : String) : Bool := decide (buf.length ≥ (ascii lit).length) && litAt buf lit

-- four facts about lists read through `getD`, as `in[]` is

theorem getD_drop (l : List Nat) (n k : Nat) : (l.drop n).getD k 0 = l.getD (k + n) 0 := by
  simp [List.getD_eq_getElem?_getD, List.getElem?_drop, Nat.add_comm]

theorem getD_append_lt (buf tail : List Nat) (k : Nat) (h : k < buf.length) : (buf ++ tail).getD k 0 = buf.getD k 0 := by
  simp [List.getD_eq_getElem?_getD, List.getElem?_append_left h]

theorem all_range_congr (n : Nat) (f g : Nat → Bool) (h : ∀ k, k < n → f k = g k) :
    (List.range n).all f = (List.range n).all g := by
  rw [Bool.eq_iff_iff]
  simp only [List.all_eq_true, List.mem_range]
  constructor
  · intro hf k hk; rw [← h k hk]; exact hf k hk
  · intro hg k hk; rw [h k hk]; exact hg k hk

theorem all_range_eq (a l rest : List Nat) (h : a.length = l.length) :
    ((List.range l.length).all fun k => (a ++ rest).getD k 0 == l.getD k 0) = decide (a = l) := by
  rw [Bool.eq_iff_iff]
  simp only [List.all_eq_true, List.mem_range, beq_iff_eq, decide_eq_true_eq]
  constructor
  · intro hall
    apply List.ext_getElem h
    intro k h1 h2
    have := hall k h2
    simp only [List.getD_eq_getElem?_getD, List.getElem?_append_left h1, List.getElem?_eq_getElem h1,
      List.getElem?_eq_getElem h2, Option.getD_some] at this
    exact this
  · intro e k hk
    subst e
    simp [List.getD_eq_getElem?_getD, List.getElem?_append_left hk]

/-- the length guard of the four switch handshakes suffices: what lies in `in[]` behind the reply (`junk`) is not looked at -/
theorem inIsN_junk (s : HState) (buf junk : List Nat) (hi : s.inb = buf ++ junk) (lit : String) :
    s.inIsN buf.length lit = litAtN buf lit := by
  unfold HState.inIsN litAtN
  by_cases h : buf.length ≥ (ascii lit).length
  · have hi' : (buf.length : Int) ≥ ((ascii lit).length : Int) := by omega
    simp only [hi', h, decide_true, Bool.true_and]
    unfold HState.inIs litAt
    apply all_range_congr
    intro k hk
    unfold HState.inAt
    rw [hi, getD_append_lt _ _ _ (by omega)]
  · have hi' : ¬ (buf.length : Int) ≥ ((ascii lit).length : Int) := by omega
    simp [hi', h]

theorem inIsN_eq (s : HState) (buf : List Nat) (h : s.inb = buf) (lit : String) : s.inIsN buf.length lit = litAtN buf lit :=
  inIsN_junk s buf [] (by rw [h, List.append_nil]) lit

theorem inIsCheck_eq (s : HState) (buf rest : List Nat) (hi : s.inb = buf ++ rest) (hl : buf.length = DOWNCODECCHECK1.length) :
    inIsCheck s = decide (buf = DOWNCODECCHECK1) := by
  unfold inIsCheck HState.inAt
  rw [hi]
  exact all_range_eq buf DOWNCODECCHECK1 rest hl

/-- `handshake_downenctest` / `handshake_edns0_check` on the reply `buf` decide as the abstract `downencTest` -/
theorem checkReply_reply (s : HState) (buf rest : List Nat) (hi : s.inb = buf ++ rest) (hp : 0 < buf.length) :
    checkReply s buf.length = some (C11L.downencTest (some buf)) := by
  unfold checkReply C11L.downencTest
  have h1 : ¬ ((buf.length : Int) = -2) := by omega
  have h2 : (buf.length : Int) > 0 := by omega
  simp only [h1, if_false, h2, true_and]
  by_cases hl : buf.length = DOWNCODECCHECK1.length
  · have : ¬ ((buf.length : Int) ≠ (DOWNCODECCHECK1.length : Int)) := by omega
    simp only [this, if_false, if_true]
    rw [inIsCheck_eq s buf rest hi hl]
    simp [hl]
    intro _; omega
  · have : (buf.length : Int) ≠ (DOWNCODECCHECK1.length : Int) := by omega
    simp [this, hl]

theorem checkReply_timeout (s : HState) : checkReply s (-3) = none := by
  simp [checkReply]

theorem Keep.running {s s' : HState} (h : Keep s s') : s'.c.running = s.c.running := congrArg Neg.running h.1
theorem Keep.doQtype {s s' : HState} (h : Keep s s') : s'.c.doQtype = s.c.doQtype := congrArg Neg.doQtype h.1
theorem Keep.downenc {s s' : HState} (h : Keep s s') : s'.c.downenc = s.c.downenc := congrArg Neg.downenc h.1
theorem Keep.lazymode {s s' : HState} (h : Keep s s') : s'.c.lazymode = s.c.lazymode := congrArg Neg.lazymode h.1
theorem Keep.dataenc {s s' : HState} (h : Keep s s') : s'.c.dataenc = s.c.dataenc := congrArg Neg.dataenc h.1
theorem Keep.edns0 {s s' : HState} (h : Keep s s') : s'.c.edns0 = s.c.edns0 := congrArg Neg.edns0 h.1
theorem Keep.selecttimeout {s s' : HState} (h : Keep s s') : s'.c.selecttimeout = s.c.selecttimeout := congrArg Neg.selecttimeout h.1

/-- the state in which a `select` that timed out finds the thread -/
def afterTick (s : HState) (r : Res) (p : HPos) : HState :=
  { s with c := { r.1 with now := r.1.now + p.wait.2.1 }, pos := some p, inb := [] }

/-- the state after the path's reply `buf` has been received at `p` -/
def afterReply (s : HState) (r : Res) (p : HPos) (buf : List Nat) : HState :=
  { s with c := r.1, pos := some p, inb := buf }

theorem park_step_tick (π : HsPath) (s : HState) (r : Res) (evs : List CEvent) (p : HPos) (hr : p.rawLogin? = none)
    (hn : π.replyAt p = none) {o : HOut} (h : Reaches π (hsGot (afterTick s r p) p (-3)) o) : Reaches π (s.park r evs p) o := by
  apply Reaches.step
  rw [step_tick π (s.park r evs p).1 p rfl hr hn]
  exact h

theorem park_step_reply (π : HsPath) (s : HState) (r : Res) (evs : List CEvent) (p : HPos) (hr : p.rawLogin? = none)
    (buf : List Nat) (hn : π.replyAt p = some buf) (hl : buf.length ≤ 4095) {o : HOut}
    (h : Reaches π (hsGot (afterReply s r p buf) p buf.length) o) : Reaches π (s.park r evs p) o := by
  apply Reaches.step
  rw [step_reply π (s.park r evs p).1 p rfl hr buf hn hl]
  exact h

/-- what `handshake_waitdns` returns at `p` on the path -/
def pathRead (π : HsPath) (p : HPos) : Int :=
  match π.replyAt p with
  | none => -3
  | some buf => buf.length

/-- the state in which the loop body runs when the `select` at `p` has returned on the path -/
def afterPath (π : HsPath) (s : HState) (r : Res) (p : HPos) : HState :=
  match π.replyAt p with
  | none => afterTick s r p
  | some buf => afterReply s r p buf

theorem keep_afterPath (π : HsPath) (s : HState) (r : Res) (p : HPos) (h : neg r.1 = neg s.c) : Keep s (afterPath π s r p) := by
  unfold afterPath
  cases π.replyAt p <;> exact ⟨h, rfl⟩

theorem afterPath_inb (π : HsPath) (s : HState) (r : Res) (p : HPos) : (afterPath π s r p).inb = (π.replyAt p).getD [] := by
  unfold afterPath
  cases π.replyAt p <;> rfl

theorem park_step (π : HsPath) (hπ : π.Ok) (s : HState) (r : Res) (evs : List CEvent) (p : HPos) (hr : p.rawLogin? = none)
    {o : HOut} (h : Reaches π (hsGot (afterPath π s r p) p (pathRead π p)) o) : Reaches π (s.park r evs p) o := by
  unfold afterPath pathRead at h
  cases hn : π.replyAt p with
  | none => rw [hn] at h; exact park_step_tick π s r evs p hr hn h
  | some buf => rw [hn] at h; exact park_step_reply π s r evs p hr buf hn (hπ p buf hn).2 h

/-- A retry loop of `n` tries (`head`: its head, parking at `pos i` behind `send`) whose every try is in vain on the
path — no reply, or one the loop body passes over (`hgot`) —: the thread goes through all tries and arrives at the head
with the loop condition false. -/
theorem reach_retry (π : HsPath) (hπ : π.Ok) (n : Nat) (head : HState → List CEvent → Nat → HOut) (send : HState → Res)
    (pos : Nat → HPos) (hraw : ∀ i, (pos i).rawLogin? = none) (hneg : ∀ s, neg (send s).1 = neg s.c)
    (hhead : ∀ s evs i, s.c.running = true → i < n → head s evs i = s.park (send s) evs (pos i))
    (hgot : ∀ (s : HState) i, i < n → s.inb = (π.replyAt (pos i)).getD [] →
      hsGot s (pos i) (pathRead π (pos i)) = head s [] (i + 1)) :
    ∀ k i, i + k = n → ∀ (s : HState) (evs : List CEvent), s.c.running = true →
      ∃ s' evs', Reaches π (head s evs i) (head s' evs' n) ∧ Keep s s' := by
  intro k
  induction k with
  | zero =>
    intro i hi s evs _
    have : i = n := by omega
    subst this
    exact ⟨s, evs, Reaches.refl _, Keep.refl _⟩
  | succ k ih =>
    intro i hi s evs hrun
    have hk := keep_afterPath π s (send s) (pos i) (hneg s)
    obtain ⟨s', evs', h1, h2⟩ := ih (i + 1) (by omega) (afterPath π s (send s) (pos i)) [] (by rw [hk.running]; exact hrun)
    refine ⟨s', evs', ?_, hk.trans h2⟩
    rw [hhead s evs i hrun (by omega)]
    apply park_step π hπ _ _ _ _ (hraw i)
    rw [hgot _ i (by omega) (afterPath_inb π s _ _)]
    exact h1

/-- what a retry loop makes of the path's reply: the loop body's verdict `cls` on it, or — no reply, or one the loop body
passes over — what the loop ends with when its tries are used up -/
def loopRes {R : Type} (dflt : R) (cls : List Nat → Option R) : Option (List Nat) → R
  | none => dflt
  | some buf => (cls buf).getD dflt

/-- A RETRY LOOP ON THE PATH.  `head` parks at `pos i` behind `send` while `i < n` and leaves through `exit` with the
verdict `dflt` after that; the loop body leaves through `exit` with the verdict `cls` reaches on the reply, or goes to the
next try.  Since the path answers every try alike, the loop ends with the verdict on the path's reply at the FIRST try, or
(no reply, no verdict) with `dflt` after all tries. -/
theorem reach_loop (π : HsPath) (hπ : π.Ok) {R : Type} (n : Nat) (head : HState → List CEvent → Nat → HOut)
    (send : HState → Res) (pos : Nat → HPos) (exit : HState → List CEvent → R → HOut) (dflt : R) (cls : List Nat → Option R)
    (hn : 0 < n) (hraw : ∀ i, (pos i).rawLogin? = none) (hfr : ∀ s : HState, CFrame erIds s.c (send s).1)
    (hrep : ∀ i, π.replyAt (pos i) = π.replyAt (pos 0))
    (hhead : ∀ s evs i, s.c.running = true → head s evs i = if i < n then s.park (send s) evs (pos i) else exit s evs dflt)
    (htick : ∀ s i, hsGot s (pos i) (-3) = head s [] (i + 1))
    (hgot : ∀ (s : HState) i buf, s.inb = buf → 0 < buf.length →
      hsGot s (pos i) buf.length = (cls buf).elim (head s [] (i + 1)) (exit s []))
    (s : HState) (evs : List CEvent) (hrun : s.c.running = true) :
    ∃ s' evs', Reaches π (head s evs 0) (exit s' evs' (loopRes dflt cls (π.replyAt (pos 0)))) ∧ Keep s s' := by
  have hneg : ∀ s, neg (send s).1 = neg s.c := fun s => neg_of_frame (hfr s)
  have hlt : ∀ s evs i, s.c.running = true → i < n → head s evs i = s.park (send s) evs (pos i) :=
    fun s evs i hr hi => by rw [hhead s evs i hr, if_pos hi]
  have vain : (∀ (s : HState) i, i < n → s.inb = (π.replyAt (pos i)).getD [] →
        hsGot s (pos i) (pathRead π (pos i)) = head s [] (i + 1)) →
      ∃ s' evs', Reaches π (head s evs 0) (exit s' evs' dflt) ∧ Keep s s' := by
    intro hv
    obtain ⟨s', evs', h, k⟩ := reach_retry π hπ n head send pos hraw hneg hlt hv n 0 (Nat.zero_add n) s evs hrun
    rw [hhead s' evs' n (by rw [k.running]; exact hrun), if_neg (Nat.lt_irrefl n)] at h
    exact ⟨s', evs', h, k⟩
  cases hdn : π.replyAt (pos 0) with
  | none =>
    refine vain fun s i _ _ => ?_
    rw [pathRead, hrep i, hdn]; exact htick s i
  | some buf =>
    have hok := hπ _ buf hdn
    cases hc : cls buf with
    | none =>
      simp only [loopRes, hc, Option.getD_none]
      refine vain fun s i _ hb => ?_
      rw [hrep i, hdn] at hb
      rw [pathRead, hrep i, hdn, hgot s i buf hb hok.1, hc]; rfl
    | some r =>
      -- the first try is answered and the loop body leaves with the verdict
      refine ⟨afterReply s (send s) (pos 0) buf, [], ?_, hneg s, rfl⟩
      rw [hlt s evs 0 hrun hn]
      simp only [loopRes, hc, Option.getD_some]
      apply park_step_reply π s _ evs _ (hraw 0) buf hdn hok.2
      rw [hgot _ 0 buf rfl hok.1, hc]
      exact Reaches.refl _

theorem downencTestHead_lt (s : HState) (evs : List CEvent) (codec : Nat) (b64 : Bool) (i : Nat) (hrun : s.c.running = true)
    (hi : i < 3) : downencTestHead s evs codec b64 i = s.park (sendDownenctest s.c codec) evs (.downenc codec b64 i) := by
  rw [downencTestHead, if_pos ⟨hrun, hi⟩]

def HsPath.downT (π : HsPath) (codec : Nat) : Bool := C11L.downencTest (π.down codec)

theorem reach_downencTest (π : HsPath) (hπ : π.Ok) (codec : Nat) (b64 : Bool) (s : HState) (evs : List CEvent)
    (hrun : s.c.running = true) :
    ∃ s' evs', Reaches π (downencTestHead s evs codec b64 0) (downencTestRet s' evs' codec b64 (π.downT codec)) ∧ Keep s s' := by
  have h := reach_loop π hπ 3 (fun s evs i => downencTestHead s evs codec b64 i) (fun s => sendDownenctest s.c codec)
    (fun i => .downenc codec b64 i) (fun s evs ok => downencTestRet s evs codec b64 ok) false
    (fun buf => some (C11L.downencTest (some buf))) (by omega) (fun _ => rfl) (fun _ => frame_sendDownenctest _ _) (fun _ => rfl)
    (fun s evs i hr => by simp only [downencTestHead, hr, true_and])
    (fun s i => by show downencTestGot s codec b64 i (-3) = _; rw [downencTestGot, checkReply_timeout])
    (fun s i buf hb hp => by
      show downencTestGot s codec b64 i buf.length = _
      rw [downencTestGot, checkReply_reply s buf [] (by rw [hb, List.append_nil]) hp]; rfl)
    s evs hrun
  have e : loopRes false (fun buf => some (C11L.downencTest (some buf))) (π.replyAt (.downenc codec b64 0)) =
      C11L.downencTest (π.down codec) := by
    show loopRes _ _ (π.down codec) = _
    cases π.down codec <;> rfl
  rwa [e] at h

theorem reach_edns (π : HsPath) (hπ : π.Ok) (s : HState) (evs : List CEvent) (hrun : s.c.running = true) :
    ∃ s' evs', Reaches π (ednsHead s evs 0) (ednsRet s' evs' (C11L.downencTest π.edns)) ∧ Keep s s' := by
  have h := reach_loop π hπ 3 ednsHead (fun s => sendDownenctest s.c (ednsCodec s.c)) .edns ednsRet false
    (fun buf => some (C11L.downencTest (some buf))) (by omega) (fun _ => rfl) (fun _ => frame_sendDownenctest _ _) (fun _ => rfl)
    (fun s evs i hr => by simp only [ednsHead, hr, true_and])
    (fun s i => by show ednsGot s i (-3) = _; rw [ednsGot, checkReply_timeout])
    (fun s i buf hb hp => by
      show ednsGot s i buf.length = _
      rw [ednsGot, checkReply_reply s buf [] (by rw [hb, List.append_nil]) hp]; rfl)
    s evs hrun
  have e : loopRes false (fun buf => some (C11L.downencTest (some buf))) (π.replyAt (.edns 0)) = C11L.downencTest π.edns := by
    show loopRes _ _ π.edns = _
    cases π.edns <;> rfl
  rwa [e] at h

/-- the return value of `handshake_upenctest` -/
def upResInt : C11L.UpRes → Int
  | .caseSwap => -1
  | .differ => 0
  | .same => 1

theorem upencTestGot_reply (s : HState) (p i : Nat) (buf : List Nat) (hi : s.inb = buf) (hp : 0 < buf.length) :
    upencTestGot s p i buf.length = upencTestRet s [] p (upResInt (C11L.upencTest (upPattern p) (some buf))) := by
  unfold upencTestGot C11L.upencTest
  have h1 : ¬ ((buf.length : Int) = -2) := by omega
  have h2 : (buf.length : Int) > 0 := by omega
  have h3 : ¬ buf.length = 0 := by omega
  simp only [h1, if_false, h2, true_and, h3, HState.inAt, hi]
  by_cases hs : buf.length < (upPattern p).length + 4
  · have : (buf.length : Int) < ((upPattern p).length : Int) + 4 := by omega
    simp [this, hs, upResInt]
  · have : ¬ (buf.length : Int) < ((upPattern p).length : Int) + 4 := by omega
    simp only [this, if_false, hs]
    simp only [List.getD_eq_getElem?_getD]
    by_cases h4 : buf[4]?.getD 0 = 65
    · simp [h4, upResInt]
    · simp only [h4, if_false]
      by_cases h5 : buf[5]?.getD 0 = 97
      · simp [h5, upResInt]
      · simp only [h5, if_false]
        have hlen : ((buf.drop 4).take (upPattern p).length).length = (upPattern p).length := by
          simp; omega
        have hall := all_range_eq ((buf.drop 4).take (upPattern p).length) (upPattern p) ((buf.drop 4).drop (upPattern p).length) hlen
        rw [List.take_append_drop] at hall
        simp only [getD_drop] at hall
        simp only [List.getD_eq_getElem?_getD] at hall
        rw [hall]
        by_cases he : (buf.drop 4).take (upPattern p).length = upPattern p
        · simp [he, upResInt]
        · simp [he, upResInt]

theorem upencTestGot_timeout (s : HState) (p i : Nat) : upencTestGot s p i (-3) = upencTestHead s [] p (i + 1) := by
  simp [upencTestGot]

theorem upencTestHead_lt (s : HState) (evs : List CEvent) (p i : Nat) (hrun : s.c.running = true) (hi : i < 3) :
    upencTestHead s evs p i = s.park (sendUpenctest s.c (upPattern p)) evs (.upenc p i) := by
  rw [upencTestHead, if_pos ⟨hrun, hi⟩]

/-- the probe outcomes of the path, as the abstract negotiation sees them -/
def HsPath.upT (π : HsPath) (s : List Nat) : C11L.UpRes := C11L.upencTest s (π.up s)

theorem reach_upencTest (π : HsPath) (hπ : π.Ok) (p : Nat) (s : HState) (evs : List CEvent) (hrun : s.c.running = true) :
    ∃ s' evs', Reaches π (upencTestHead s evs p 0) (upencTestRet s' evs' p (upResInt (π.upT (upPattern p)))) ∧ Keep s s' := by
  have h := reach_loop π hπ 3 (fun s evs i => upencTestHead s evs p i) (fun s => sendUpenctest s.c (upPattern p))
    (fun i => .upenc p i) (fun s evs res => upencTestRet s evs p res) 0
    (fun buf => some (upResInt (C11L.upencTest (upPattern p) (some buf)))) (by omega) (fun _ => rfl)
    (fun _ => frame_sendUpenctest _ _) (fun _ => rfl)
    (fun s evs i hr => by simp only [upencTestHead, hr, true_and, Bool.not_true, Bool.false_eq_true, if_false])
    (fun s i => upencTestGot_timeout s p i) (fun s i buf hb hp => upencTestGot_reply s p i buf hb hp) s evs hrun
  have e : loopRes 0 (fun buf => some (upResInt (C11L.upencTest (upPattern p) (some buf)))) (π.replyAt (.upenc p 0)) =
      upResInt (C11L.upencTest (upPattern p) (π.up (upPattern p))) := by
    show loopRes _ _ (π.up (upPattern p)) = _
    cases π.up (upPattern p) <;> rfl
  rwa [e] at h

theorem upencTestRet_neg (s : HState) (evs : List CEvent) (p : Nat) : upencTestRet s evs p (-1) = upencRet s evs 0 := by
  have h : (-1 : Int) < 0 := by omega
  rw [upencTestRet]
  by_cases h5 : p < 5
  · rw [if_pos h5, if_pos h]
  · rw [if_neg h5]
    by_cases h' : p = 5
    · rw [if_pos h', if_pos h]
    · rw [if_neg h', if_pos h]

theorem upencTestRet_zero_lt5 (s : HState) (evs : List CEvent) (p : Nat) (hp : p < 5) (hrun : s.c.running = true) :
    upencTestRet s evs p 0 = upencTestHead { s with inb := [] } evs 5 0 := by
  rw [upencTestHead_lt { s with inb := [] } _ _ 0 hrun (by omega)]
  simp [upencTestRet, hp, hrun]

theorem upencTestRet_one_lt4 (s : HState) (evs : List CEvent) (p : Nat) (hp : p < 4) (hrun : s.c.running = true) :
    upencTestRet s evs p 1 = upencTestHead { s with inb := [] } evs (p + 1) 0 := by
  rw [upencTestHead_lt { s with inb := [] } _ _ 0 hrun (by omega)]
  have h5 : p < 5 := by omega
  have h4 : ¬ p = 4 := by omega
  simp [upencTestRet, h5, h4, hrun]

theorem upencTestRet_one_4 (s : HState) (evs : List CEvent) : upencTestRet s evs 4 1 = upencRet s evs 3 := by
  simp [upencTestRet]

theorem upencTestRet_zero_5 (s : HState) (evs : List CEvent) (hrun : s.c.running = true) :
    upencTestRet s evs 5 0 = upencTestHead { s with inb := [] } evs 6 0 := by
  rw [upencTestHead_lt { s with inb := [] } _ _ 0 hrun (by omega)]
  simp [upencTestRet, hrun]

theorem upencTestRet_one_5 (s : HState) (evs : List CEvent) : upencTestRet s evs 5 1 = upencRet s evs 1 := by
  simp [upencTestRet]

theorem upencTestRet_zero_6 (s : HState) (evs : List CEvent) : upencTestRet s evs 6 0 = upencRet s evs 0 := by
  simp [upencTestRet]

theorem upencTestRet_one_6 (s : HState) (evs : List CEvent) : upencTestRet s evs 6 1 = upencRet s evs 2 := by
  simp [upencTestRet]

theorem reach_up6 (π : HsPath) (hπ : π.Ok) (s : HState) (evs : List CEvent) (hrun : s.c.running = true) :
    ∃ s' evs', Reaches π (upencTestHead s evs 6 0)
      (upencRet s' evs' (match π.upT pat64u with | .caseSwap => 0 | .same => 2 | .differ => 0)) ∧ Keep s s' := by
  obtain ⟨s1, e1, h1, k1⟩ := reach_upencTest π hπ 6 s evs hrun
  refine ⟨s1, e1, ?_, k1⟩
  rw [show upPattern 6 = pat64u from rfl] at h1
  cases hr : π.upT pat64u <;> rw [hr] at h1 <;> simp only [upResInt] at h1
  · rw [upencTestRet_neg] at h1; exact h1
  · rw [upencTestRet_zero_6] at h1; exact h1
  · rw [upencTestRet_one_6] at h1; exact h1

theorem reach_up5 (π : HsPath) (hπ : π.Ok) (s : HState) (evs : List CEvent) (hrun : s.c.running = true) :
    ∃ s' evs', Reaches π (upencTestHead s evs 5 0) (upencRet s' evs' (C11L.upencTry64 π.upT)) ∧ Keep s s' := by
  obtain ⟨s1, e1, h1, k1⟩ := reach_upencTest π hπ 5 s evs hrun
  rw [show upPattern 5 = pat64 from rfl] at h1
  unfold C11L.upencTry64
  cases hr : π.upT pat64 <;> rw [hr] at h1 <;> simp only [upResInt] at h1
  · rw [upencTestRet_neg] at h1; exact ⟨s1, e1, h1, k1⟩
  · rw [upencTestRet_zero_5 _ _ (by rw [k1.running]; exact hrun)] at h1
    obtain ⟨s2, e2, h2, k2⟩ := reach_up6 π hπ { s1 with inb := [] } e1 (by rw [show ({ s1 with inb := [] } : HState).c = s1.c from rfl, k1.running]; exact hrun)
    exact ⟨s2, e2, h1.trans h2, k1.trans (Keep.trans ⟨rfl, rfl⟩ k2)⟩
  · rw [upencTestRet_one_5] at h1; exact ⟨s1, e1, h1, k1⟩

/-- one rung of the Base128 ladder of `handshake_upenc_autodetect` on the path (pattern `p < 5`): a case swap ends the
detection with Base32, a difference leads to the Base64 tries, and on `same` the detection goes on as `next` says -/
theorem reach_up128 (π : HsPath) (hπ : π.Ok) (p : Nat) (hp : p < 5) (v : Nat)
    (next : ∀ (s : HState) (evs : List CEvent), s.c.running = true →
      ∃ s' evs', Reaches π (upencTestRet s evs p 1) (upencRet s' evs' v) ∧ Keep s s')
    (s : HState) (evs : List CEvent) (hrun : s.c.running = true) :
    ∃ s' evs', Reaches π (upencTestHead s evs p 0)
      (upencRet s' evs' (match π.upT (upPattern p) with | .caseSwap => 0 | .differ => C11L.upencTry64 π.upT | .same => v)) ∧
      Keep s s' := by
  obtain ⟨s1, e1, h1, k1⟩ := reach_upencTest π hπ p s evs hrun
  have hr1 : s1.c.running = true := by rw [k1.running]; exact hrun
  cases hr : π.upT (upPattern p) <;> rw [hr] at h1 <;> simp only [upResInt] at h1
  · rw [upencTestRet_neg] at h1; exact ⟨s1, e1, h1, k1⟩
  · rw [upencTestRet_zero_lt5 _ _ p hp hr1] at h1
    obtain ⟨s2, e2, h2, k2⟩ := reach_up5 π hπ { s1 with inb := [] } e1 hr1
    exact ⟨s2, e2, h1.trans h2, k1.trans (Keep.trans ⟨rfl, rfl⟩ k2)⟩
  · obtain ⟨s2, e2, h2, k2⟩ := next s1 e1 hr1
    exact ⟨s2, e2, h1.trans h2, k1.trans k2⟩

/-- `handshake_upenc_autodetect` on the path returns what `C11L.upencAutodetect` computes from the path's replies: the five
rungs of the Base128 ladder, one on top of the other -/
theorem reach_upencAutodetect (π : HsPath) (hπ : π.Ok) (s : HState) (evs : List CEvent) (hrun : s.c.running = true) :
    ∃ s' evs', Reaches π (upencTestHead s evs 0 0) (upencRet s' evs' (C11L.upencAutodetect π.upT)) ∧ Keep s s' := by
  -- on `same`, the rung `p < 4` goes on with the rung `p + 1`
  have step : ∀ p, p < 4 → ∀ v, (∀ (s : HState) (evs : List CEvent), s.c.running = true →
        ∃ s' evs', Reaches π (upencTestHead s evs (p + 1) 0) (upencRet s' evs' v) ∧ Keep s s') →
      ∀ (s : HState) (evs : List CEvent), s.c.running = true →
        ∃ s' evs', Reaches π (upencTestRet s evs p 1) (upencRet s' evs' v) ∧ Keep s s' := by
    intro p hp v h s evs hr
    rw [upencTestRet_one_lt4 _ _ p hp hr]
    obtain ⟨s', evs', h', k'⟩ := h { s with inb := [] } evs hr
    exact ⟨s', evs', h', Keep.trans ⟨rfl, rfl⟩ k'⟩
  have r4 := reach_up128 π hπ 4 (by omega) 3 fun s evs _ => ⟨s, evs, by rw [upencTestRet_one_4]; exact Reaches.refl _, Keep.refl _⟩
  have r3 := reach_up128 π hπ 3 (by omega) _ (step 3 (by omega) _ r4)
  have r2 := reach_up128 π hπ 2 (by omega) _ (step 2 (by omega) _ r3)
  have r1 := reach_up128 π hπ 1 (by omega) _ (step 1 (by omega) _ r2)
  exact reach_up128 π hπ 0 (by omega) _ (step 0 (by omega) _ r1) s evs hrun

/-- a reply that `handshake_switch_codec` / `handshake_switch_downenc` / `handshake_try_lazy` read as a refusal -/
def isBad (buf : List Nat) : Bool := litAtN buf "BADLEN" || (litAtN buf "BADIP" || litAtN buf "BADCODEC")

/-- the server acknowledged the switch of the upstream codec -/
def HsPath.switchAck (π : HsPath) (bits : Nat) : Bool :=
  match π.switchUp bits with
  | some buf => !isBad buf
  | none => false

theorem isBad_iff (buf : List Nat) :
    isBad buf = true ↔ (litAtN buf "BADLEN" = true ∨ litAtN buf "BADIP" = true ∨ litAtN buf "BADCODEC" = true) := by
  simp [isBad]

/-- `handshake_switch_codec(bits)` returned, the server having acknowledged the switch (`ack`) or not -/
def switchCodecRet (bits : Nat) (s : HState) (evs : List CEvent) (ack : Bool) : HOut :=
  afterSwitchCodec (if ack then { s with c := { s.c with dataenc := encOfBits bits } } else s) evs

theorem switchCodecGot_reply (s : HState) (bits i : Nat) (buf : List Nat) (hb : s.inb = buf) (hp : 0 < buf.length) :
    switchCodecGot s bits i buf.length = switchCodecRet bits s [] (!isBad buf) := by
  have hpos : (buf.length : Int) > 0 := by omega
  rw [switchCodecGot, if_pos hpos, inIsN_eq s buf hb, inIsN_eq s buf hb, inIsN_eq s buf hb, switchCodecRet]
  by_cases hbad : isBad buf = true
  · rw [if_pos ((isBad_iff buf).mp hbad), hbad]; rfl
  · rw [if_neg (mt (isBad_iff buf).mpr hbad), Bool.eq_false_iff.mpr hbad]; rfl

/-- `handshake_switch_codec(bits)` on the path: `dataenc` is switched iff the path's reply is an acknowledgement -/
theorem reach_switchCodec (π : HsPath) (hπ : π.Ok) (bits : Nat) (s : HState) (evs : List CEvent) (hrun : s.c.running = true) :
    ∃ s' evs', Reaches π (switchCodecHead s evs bits 0) (afterSwitchCodec s' evs') ∧
      neg s'.c = { neg s.c with dataenc := if π.switchAck bits then encOfBits bits else s.c.dataenc } ∧ s'.args = s.args := by
  obtain ⟨s', evs', h, k⟩ := reach_loop π hπ 5 (fun s evs i => switchCodecHead s evs bits i)
    (fun s => sendHandshakeQuery s.c [115, b32_5to8 s.c.userid, b32_5to8 (bits : Int)]) (fun i => .switchCodec bits i)
    (switchCodecRet bits) false (fun buf => some (!isBad buf)) (by omega) (fun _ => rfl)
    (fun _ => frame_sendHandshakeQuery _ _) (fun _ => rfl)
    (fun s evs i hr => by simp only [switchCodecHead, hr, true_and, switchCodecRet, Bool.false_eq_true, if_false])
    (fun s i => by show switchCodecGot s bits i (-3) = _; rw [switchCodecGot, if_neg (by omega)])
    (fun s i buf hb hp => switchCodecGot_reply s bits i buf hb hp) s evs hrun
  have e : loopRes false (fun buf => some (!isBad buf)) (π.replyAt (.switchCodec bits 0)) = π.switchAck bits := by
    show loopRes _ _ (π.switchUp bits) = _
    unfold HsPath.switchAck
    cases π.switchUp bits <;> rfl
  rw [e] at h
  refine ⟨_, evs', h, ?_, ?_⟩
  · cases π.switchAck bits
    · exact k.1
    · show ({ neg s'.c with dataenc := _ } : Neg) = _
      rw [k.1]; rfl
  · cases π.switchAck bits <;> exact k.2

/-- `handshake_switch_downenc` changes nothing on the client, whatever the path answers -/
theorem reach_switchDown (π : HsPath) (hπ : π.Ok) (s : HState) (evs : List CEvent) (hrun : s.c.running = true) :
    ∃ s' evs', Reaches π (switchDownHead s evs 0) (afterSwitchDown s' evs') ∧ Keep s s' :=
  reach_loop π hπ 5 switchDownHead (fun s => sendHandshakeQuery s.c (switchDownPrefix s.c)) .switchDown
    (fun s evs (_ : Unit) => afterSwitchDown s evs) () (fun _ => some ()) (by omega) (fun _ => rfl)
    (fun _ => frame_sendHandshakeQuery _ _) (fun _ => rfl)
    (fun s evs i hr => by simp only [switchDownHead, hr, true_and])
    (fun s i => by show switchDownGot s i (-3) = _; rw [switchDownGot, if_neg (by omega)])
    (fun s i buf _ hp => by show switchDownGot s i buf.length = _; rw [switchDownGot, if_pos (by omega)]; rfl)
    s evs hrun

theorem downencFinish_running (s : HState) (evs : List CEvent) (a b c : Bool) (hrun : s.c.running = true) :
    downencFinish s evs a b c = downencRet s evs (if c then 86 else if a then 83 else if b then 85 else 32) := by
  unfold downencFinish
  simp only [hrun, Bool.not_true, Bool.false_eq_true, if_false]
  cases c <;> cases a <;> cases b <;> rfl

/-- `handshake_downenc_autodetect` (query type neither NULL nor PRIVATE) on the path returns what
`C11L.downencAutodetect` computes from the path's replies -/
theorem reach_downencAutodetect (π : HsPath) (hπ : π.Ok) (s : HState) (evs : List CEvent) (hrun : s.c.running = true)
    (hq : ¬ (s.c.doQtype = T_NULL ∨ s.c.doQtype = T_PRIVATE)) :
    ∃ s' evs', Reaches π (downencTestHead s evs 83 false 0)
      (downencRet s' evs' (C11L.downencAutodetect s.c.doQtype π.downT)) ∧ Keep s s' := by
  have run : ∀ {a b : HState}, Keep a b → a.c.running = true → b.c.running = true := fun k h => by rw [k.running]; exact h
  have kin : ∀ a : HState, Keep a { a with inb := [] } := fun a => ⟨rfl, rfl⟩
  unfold C11L.downencAutodetect
  simp only [hq, if_false]
  obtain ⟨s1, e1, h1, k1⟩ := reach_downencTest π hπ 83 false s evs hrun
  have r1 := run k1 hrun
  -- the 'V' test and what follows it, shared by the two ways of getting there
  have fromV : ∀ (b64 : Bool) (sa : HState) (ea : List CEvent), sa.c.running = true → sa.c.doQtype = s.c.doQtype →
      ∃ s' evs', Reaches π (downencTestHead sa ea 86 b64 0)
        (downencRet s' evs' (if π.downT 86 && decide (s.c.doQtype = T_TXT) && π.downT 82 then 82
          else if π.downT 86 then 86 else if b64 then 83 else 85)) ∧ Keep sa s' := by
    intro b64 sa ea ra qa
    obtain ⟨s2, e2, h2, k2⟩ := reach_downencTest π hπ 86 b64 sa ea ra
    have r2 := run k2 ra
    cases h86 : π.downT 86 <;> rw [h86] at h2
    · -- base128 fails
      simp only [downencTestRet, show ¬ (86 = 83) by omega, show ¬ (86 = 85) by omega, if_false, if_true,
        Bool.false_eq_true, and_false, false_and] at h2
      rw [downencFinish_running _ _ _ _ _ r2] at h2
      refine ⟨s2, e2, ?_, k2⟩
      cases b64 <;> simpa using h2
    · by_cases hT : s.c.doQtype = T_TXT
      · have hT2 : s2.c.doQtype = T_TXT := by rw [k2.doQtype, qa, hT]
        simp only [downencTestRet, show ¬ (86 = 83) by omega, show ¬ (86 = 85) by omega, if_false, if_true,
          r2, hT2, and_self] at h2
        rw [← downencTestHead_lt { s2 with inb := [] } e2 82 b64 0 r2 (by omega)] at h2
        obtain ⟨s3, e3, h3, k3⟩ := reach_downencTest π hπ 82 b64 { s2 with inb := [] } e2 r2
        have r3 := run k3 r2
        cases h82 : π.downT 82 <;> rw [h82] at h3
        · simp only [downencTestRet, show ¬ (82 = 83) by omega, show ¬ (82 = 85) by omega, show ¬ (82 = 86) by omega,
            if_false, Bool.false_eq_true] at h3
          rw [downencFinish_running _ _ _ _ _ r3] at h3
          refine ⟨s3, e3, h2.trans (by simpa [hT] using h3), k2.trans ((kin s2).trans k3)⟩
        · simp only [downencTestRet, show ¬ (82 = 83) by omega, show ¬ (82 = 85) by omega, show ¬ (82 = 86) by omega,
            if_false, if_true] at h3
          refine ⟨s3, e3, h2.trans (by simpa [hT] using h3), k2.trans ((kin s2).trans k3)⟩
      · have hT2 : ¬ s2.c.doQtype = T_TXT := by rw [k2.doQtype, qa]; exact hT
        simp only [downencTestRet, show ¬ (86 = 83) by omega, show ¬ (86 = 85) by omega, if_false, if_true,
          r2, hT2, and_false, and_true] at h2
        rw [downencFinish_running _ _ _ _ _ r2] at h2
        refine ⟨s2, e2, by simpa [hT] using h2, k2⟩
  cases h83 : π.downT 83 <;> rw [h83] at h1
  · -- Base64 fails: try Base64u
    simp only [downencTestRet, if_true, Bool.false_eq_true, if_false, r1] at h1
    rw [← downencTestHead_lt { s1 with inb := [] } e1 85 false 0 r1 (by omega)] at h1
    obtain ⟨s2, e2, h2, k2⟩ := reach_downencTest π hπ 85 false { s1 with inb := [] } e1 r1
    have r2 := run k2 r1
    cases h85 : π.downT 85 <;> rw [h85] at h2
    · simp only [downencTestRet, show ¬ (85 = 83) by omega, if_false, if_true, Bool.false_eq_true, false_and] at h2
      rw [downencFinish_running _ _ _ _ _ r2] at h2
      exact ⟨s2, e2, h1.trans (by simpa using h2), k1.trans ((kin s1).trans k2)⟩
    · simp only [downencTestRet, show ¬ (85 = 83) by omega, if_false, if_true, r2, and_self] at h2
      rw [← downencTestHead_lt { s2 with inb := [] } e2 86 false 0 r2 (by omega)] at h2
      obtain ⟨s3, e3, h3, k3⟩ := fromV false { s2 with inb := [] } e2 r2
        (by show s2.c.doQtype = _; rw [k2.doQtype]; show s1.c.doQtype = _; rw [k1.doQtype])
      refine ⟨s3, e3, h1.trans (h2.trans (by simpa using h3)), k1.trans ((kin s1).trans (k2.trans ((kin s2).trans k3)))⟩
  · simp only [downencTestRet, if_true, r1] at h1
    rw [← downencTestHead_lt { s1 with inb := [] } e1 86 true 0 r1 (by omega)] at h1
    obtain ⟨s3, e3, h3, k3⟩ := fromV true { s1 with inb := [] } e1 r1 (by show s1.c.doQtype = _; rw [k1.doQtype])
    refine ⟨s3, e3, h1.trans (by simpa using h3), k1.trans ((kin s1).trans k3)⟩

/-- the server answered "Lazy" (and no refusal) -/
def HsPath.lazyAck (π : HsPath) : Bool :=
  match π.lazy with
  | some buf => !isBad buf && litAtN buf "Lazy"
  | none => false

/-- what the (up to three) tries for fragment size `n` leave behind when every try gets the reply `reply`:
`fragsize_check` on that reply -/
def fragRes (n : Nat) (reply : Option (List Nat)) : C11L.ProbeRes :=
  match reply with
  | none => .bad
  | some buf =>
    if buf.length < 2 then .bad
    else if buf.length ≥ 5 ∧ litAt buf "BADIP" = true then .bad
    else if buf.getD 0 0 * 256 + buf.getD 1 0 ≠ n then .bad
    else if buf.length ≠ n then .bad
    else if buf.length < 3 then .ok
    else if buf.getD 2 0 ≠ 107 then .fatal
    else if (List.range (n - 3)).all fun j =>
        buf.getD (3 + j) 0 == ((if buf.length > 3 then buf.getD 3 0 else 0) + 107 * j) % 256 then .ok
    else .bad

def HsPath.probes (π : HsPath) : C11L.HsProbes :=
  { edns0 := C11L.downencTest π.edns, up := π.upT, switchUp := π.switchAck, down := π.downT, lazyAck := π.lazyAck,
    frag := fun n => fragRes n (π.frag n) }

/-- `dataenc` as the number of bits `handshake_switch_codec` is called with -/
def bitsOf : Enc → Nat
  | .b32 => 5
  | .b64 => 6
  | .b64u => 26
  | .b128 => 7

/-- the configuration the abstract negotiation starts from, read off the state in which the login returned -/
def cfgOf (s : HState) : C11L.HsCfg :=
  { qtype := s.c.doQtype, downenc := s.c.downenc, lazymode := s.c.lazymode, autoFrag := s.args.autoFrag,
    fragsize := s.args.fragsize.toNat }

theorem bitsOf_encOfBits {b : Nat} (h : b = 5 ∨ b = 6 ∨ b = 26 ∨ b = 7) : bitsOf (encOfBits b) = b := by
  rcases h with rfl | rfl | rfl | rfl <;> rfl

theorem afterSwitchCodec_running (s : HState) (evs : List CEvent) (hrun : s.c.running = true) :
    afterSwitchCodec s evs =
      if s.c.downenc = 32 then
        if s.c.doQtype = T_NULL ∨ s.c.doQtype = T_PRIVATE then downencRet s evs 32
        else downencTestHead { s with inb := [] } evs 83 false 0
      else afterDownenc s evs := by
  simp [afterSwitchCodec, hrun]

/-- **codec part of the refinement**: from `dnsc_use_edns0 = 1` on, the machine driven by the path reaches the point behind
the downstream codec autodetection (`if (downenc != ' ') handshake_switch_downenc`) with EDNS0, upstream codec and
downstream codec as `C11L.clientHandshakeTail` computes them from the path's replies (`C11L.clientHandshakeTail_eq`) -/
theorem reach_codecs (π : HsPath) (hπ : π.Ok) (s : HState) (evs : List CEvent) (hrun : s.c.running = true)
    (henc : s.c.dataenc = .b32) :
    ∃ s' evs', Reaches π (dnsBranch s evs) (afterDownenc s' evs') ∧
      neg s'.c = { neg s.c with
        edns0 := C11L.downencTest π.edns, dataenc := encOfBits (C11L.upBitsOf π.probes),
        downenc := if s.c.downenc = 32 then C11L.downencAutodetect s.c.doQtype π.downT else s.c.downenc } ∧
      s'.args = s.args := by
  have run : ∀ {a b : HState}, Keep a b → a.c.running = true → b.c.running = true := fun k h => by rw [k.running]; exact h
  obtain ⟨s1, e1, h1, k1⟩ := reach_edns π hπ { s with c := { s.c with edns0 := true }, inb := [] } evs hrun
  have r1 := run k1 hrun
  -- the state in which handshake_upenc_autodetect starts
  obtain ⟨sa, hsa, ka, ea0⟩ : ∃ sa : HState, ednsRet s1 e1 (C11L.downencTest π.edns) = upencTestHead sa e1 0 0 ∧
      (neg sa.c = { neg s.c with edns0 := C11L.downencTest π.edns } ∧ sa.args = s.args) ∧ sa.inb = [] := by
    cases hE : C11L.downencTest π.edns
    · refine ⟨{ s1 with c := { s1.c with edns0 := false }, inb := [] }, by simp [ednsRet, r1], ⟨?_, k1.2⟩, rfl⟩
      show ({ neg s1.c with edns0 := false } : Neg) = _
      rw [k1.1]; rfl
    · exact ⟨{ s1 with inb := [] }, by simp [ednsRet, r1], ⟨k1.1, k1.2⟩, rfl⟩
  have ra : sa.c.running = true := (congrArg Neg.running ka.1).trans hrun
  rw [hsa] at h1
  obtain ⟨s2, e2, h2, k2⟩ := reach_upencAutodetect π hπ sa e1 ra
  have r2 := run k2 ra
  obtain ⟨s3, e3, h3, n3, a3⟩ : ∃ s3 e3, Reaches π (upencRet s2 e2 (C11L.upencAutodetect π.upT)) (afterSwitchCodec s3 e3) ∧
      neg s3.c = { neg s2.c with dataenc := encOfBits (C11L.upBitsOf π.probes) } ∧ s3.args = s2.args := by
    have hd2 : s2.c.dataenc = .b32 := by
      rw [k2.dataenc]; have := congrArg Neg.dataenc ka.1; simpa [neg, henc] using this
    have key : ∀ bits, bits = 6 ∨ bits = 26 ∨ bits = 7 →
        ∃ s3 e3, Reaches π (switchCodecHead { s2 with inb := [] } e2 bits 0) (afterSwitchCodec s3 e3) ∧
          neg s3.c = { neg s2.c with dataenc := encOfBits (if π.switchAck bits then bits else 5) } ∧ s3.args = s2.args := by
      intro bits hb
      obtain ⟨s3, e3, h3, n3, a3⟩ := reach_switchCodec π hπ bits { s2 with inb := [] } e2 r2
      refine ⟨s3, e3, h3, ?_, a3⟩
      rw [n3]
      show ({ neg s2.c with dataenc := _ } : Neg) = _
      cases π.switchAck bits
      · simp [hd2, encOfBits]
      · simp
    unfold C11L.upBitsOf
    simp only [HsPath.probes]
    by_cases u1 : C11L.upencAutodetect π.upT = 1
    · obtain ⟨s3, e3, h3, n3, a3⟩ := key 6 (Or.inl rfl)
      refine ⟨s3, e3, ?_, ?_, a3⟩
      · simpa [upencRet, r2, u1] using h3
      · simpa [u1] using n3
    · by_cases u2 : C11L.upencAutodetect π.upT = 2
      · obtain ⟨s3, e3, h3, n3, a3⟩ := key 26 (Or.inr (Or.inl rfl))
        refine ⟨s3, e3, ?_, ?_, a3⟩
        · simpa [upencRet, r2, u2] using h3
        · simpa [u2] using n3
      · by_cases u3 : C11L.upencAutodetect π.upT = 3
        · obtain ⟨s3, e3, h3, n3, a3⟩ := key 7 (Or.inr (Or.inr rfl))
          refine ⟨s3, e3, ?_, ?_, a3⟩
          · simpa [upencRet, r2, u3] using h3
          · simpa [u3] using n3
        · refine ⟨s2, e2, ?_, ?_, rfl⟩
          · simp only [upencRet, r2, u1, u2, u3, Bool.not_true, Bool.false_eq_true, if_false]
            exact Reaches.refl _
          · simp [u1, u2, u3, encOfBits, neg, hd2]
  have hN : neg s3.c = { neg s.c with edns0 := (C11L.downencTest π.edns),
                                      dataenc := encOfBits (C11L.upBitsOf π.probes) } := by
    rw [n3, k2.1, ka.1]
  have r3 : s3.c.running = true := (congrArg Neg.running hN).trans hrun
  have q3 : s3.c.doQtype = s.c.doQtype := congrArg Neg.doQtype hN
  have d3 : s3.c.downenc = s.c.downenc := congrArg Neg.downenc hN
  have a3' : s3.args = s.args := by rw [a3, k2.2, ka.2]
  have base := h1.trans (h2.trans h3)
  rw [afterSwitchCodec_running s3 e3 r3] at base
  -- the end state: `downenc` set to `d`, nothing else since `s3`
  have fin : ∀ (c4 : Cli) (d : Nat), neg c4 = neg s3.c →
      neg { c4 with downenc := d } = { neg s.c with
        edns0 := C11L.downencTest π.edns, dataenc := encOfBits (C11L.upBitsOf π.probes), downenc := d } := fun c4 d h => by
    show ({ neg c4 with downenc := d } : Neg) = _
    rw [h, hN]
  by_cases hd : s.c.downenc = 32
  · have hd3 : s3.c.downenc = 32 := by rw [d3, hd]
    simp only [hd3, if_true] at base
    simp only [hd, if_true]
    by_cases hq : s.c.doQtype = T_NULL ∨ s.c.doQtype = T_PRIVATE
    · have hq3 : s3.c.doQtype = T_NULL ∨ s3.c.doQtype = T_PRIVATE := by rw [q3]; exact hq
      simp only [hq3, if_true] at base
      refine ⟨{ s3 with c := { s3.c with downenc := 32 } }, e3, base, ?_, a3'⟩
      rw [show C11L.downencAutodetect s.c.doQtype π.downT = 32 by simp [C11L.downencAutodetect, hq]]
      exact fin s3.c 32 rfl
    · have hq3 : ¬ (s3.c.doQtype = T_NULL ∨ s3.c.doQtype = T_PRIVATE) := by rw [q3]; exact hq
      simp only [hq3, if_false] at base
      obtain ⟨s4, e4, h4, k4⟩ := reach_downencAutodetect π hπ { s3 with inb := [] } e3 r3 hq3
      refine ⟨{ s4 with c := { s4.c with downenc := C11L.downencAutodetect s.c.doQtype π.downT } }, e4, ?_, fin s4.c _ k4.1,
        k4.2.trans a3'⟩
      have : ({ s3 with inb := [] } : HState).c.doQtype = s.c.doQtype := q3
      rw [this] at h4
      exact base.trans h4
  · have hd3 : ¬ s3.c.downenc = 32 := by rw [d3]; exact hd
    simp only [hd3, if_false] at base
    simp only [hd, if_false]
    exact ⟨s3, e3, base, hN, a3'⟩

/-- `handshake_set_fragsize(f)` on the path: the handshake returns, nothing on the client changes -/
theorem reach_setFrag (π : HsPath) (hπ : π.Ok) (f : Int) (s : HState) (evs : List CEvent) (hrun : s.c.running = true) :
    ∃ s' evs', Reaches π (setFragHead s evs f 0) (hsEnd s' evs') ∧ Keep s s' :=
  reach_loop π hπ 5 (fun s evs i => setFragHead s evs f i) (fun s => sendSetFragsize s.c f) (fun i => .setFrag f i)
    (fun s evs (_ : Unit) => hsEnd s evs) () (fun _ => some ()) (by omega) (fun _ => rfl)
    (fun _ => frame_sendSetFragsize _ _) (fun _ => rfl)
    (fun s evs i hr => by simp only [setFragHead, hr, true_and])
    (fun s i => by show setFragGot s f i (-3) = _; rw [setFragGot, if_neg (by omega)])
    (fun s i buf _ hp => by show setFragGot s f i buf.length = _; rw [setFragGot, if_pos (by omega)]; rfl)
    s evs hrun

theorem neg_lazyRevert (s : HState) : neg (lazyRevert s).c = { neg s.c with lazymode := false, selecttimeout := 1 } := rfl

/-- `handshake_try_lazy` returned: the server answered "Lazy" (`ack`), or (`codec_revert:`) it refused or never answered -/
def lazyRet (s : HState) (evs : List CEvent) (ack : Bool) : HOut :=
  afterLazy (if ack then { s with c := { s.c with lazymode := true } } else lazyRevert s) evs

/-- what the loop body of `handshake_try_lazy` makes of a reply: a refusal, "Lazy", or nothing -/
def lazyCls (buf : List Nat) : Option Bool :=
  if isBad buf then some false else if litAtN buf "Lazy" then some true else none

theorem lazyGot_reply (s : HState) (i : Nat) (buf : List Nat) (hb : s.inb = buf) (hp : 0 < buf.length) :
    lazyGot s i buf.length = (lazyCls buf).elim (lazyHead s [] (i + 1)) (lazyRet s []) := by
  have hpos : (buf.length : Int) > 0 := by omega
  rw [lazyGot, if_pos hpos, inIsN_eq s buf hb, inIsN_eq s buf hb, inIsN_eq s buf hb, inIsN_eq s buf hb, lazyCls]
  by_cases hbad : isBad buf = true
  · rw [if_pos ((isBad_iff buf).mp hbad), if_pos hbad]; rfl
  · rw [if_neg (mt (isBad_iff buf).mpr hbad), if_neg hbad]
    by_cases hz : litAtN buf "Lazy" = true
    · rw [if_pos hz, if_pos hz]; rfl
    · rw [if_neg hz, if_neg hz]; rfl

/-- `handshake_try_lazy` on the path: lazy mode iff the path's reply is "Lazy"; otherwise legacy mode with a 1 s interval -/
theorem reach_lazy (π : HsPath) (hπ : π.Ok) (s : HState) (evs : List CEvent) (hrun : s.c.running = true) :
    ∃ s' evs', Reaches π (lazyHead s evs 0) (afterLazy s' evs') ∧
      neg s'.c = { neg s.c with lazymode := π.lazyAck, selecttimeout := if π.lazyAck then s.c.selecttimeout else 1 } ∧
      s'.args = s.args := by
  obtain ⟨s', evs', h, k⟩ := reach_loop π hπ 5 lazyHead (fun s => sendLazySwitch s.c) .lazy lazyRet false lazyCls (by omega)
    (fun _ => rfl) (fun _ => frame_sendLazySwitch _) (fun _ => rfl)
    (fun s evs i hr => by simp only [lazyHead, hr, true_and, Bool.not_true, Bool.false_eq_true, if_false, lazyRet])
    (fun s i => by show lazyGot s i (-3) = _; rw [lazyGot, if_neg (by omega)])
    (fun s i buf hb hp => lazyGot_reply s i buf hb hp) s evs hrun
  have e : loopRes false lazyCls (π.replyAt (.lazy 0)) = π.lazyAck := by
    show loopRes _ _ π.lazy = _
    unfold HsPath.lazyAck
    cases π.lazy with
    | none => rfl
    | some buf => simp only [loopRes, lazyCls]; cases isBad buf <;> cases litAtN buf "Lazy" <;> rfl
  rw [e] at h
  refine ⟨_, evs', h, ?_, ?_⟩
  · cases π.lazyAck
    · show neg (lazyRevert s').c = _
      rw [neg_lazyRevert, k.1]; rfl
    · show neg { s'.c with lazymode := true } = _
      rw [neg_setLazymode, k.1]; rfl
  · cases π.lazyAck <;> exact k.2

/-- `max_fragsize` after the tries for size `pr` have left `r` behind (`C11L.probeMax`) -/
def maxAfter (pr : Nat) (m : Int) : C11L.ProbeRes → Int
  | .ok => pr
  | .bad => m
  | .fatal => -1

/-- `fragsize_check` returns 1 on the reply (the `for` loop is left): it is long enough to hold a size, is no BADIP and
acknowledges the proposed size -/
def fragBreak (buf : List Nat) (pr : Nat) : Bool :=
  decide (¬ buf.length < 2 ∧ ¬ (buf.length ≥ 5 ∧ litAt buf "BADIP" = true) ∧ buf.getD 0 0 * 256 + buf.getD 1 0 = pr)

/-- a reply on which `fragsize_check` says "keep checking" counts as `.bad` -/
theorem fragRes_of_continue {buf : List Nat} {pr : Nat} (h : fragBreak buf pr = false) : fragRes pr (some buf) = .bad := by
  have h := of_decide_eq_false h
  unfold fragRes
  simp only
  by_cases c0 : buf.length < 2
  · rw [if_pos c0]
  rw [if_neg c0]
  by_cases c1 : buf.length ≥ 5 ∧ litAt buf "BADIP" = true
  · rw [if_pos c1]
  rw [if_neg c1]
  by_cases c2 : buf.getD 0 0 * 256 + buf.getD 1 0 ≠ pr
  · rw [if_pos c2]
  · exact absurd ⟨c0, c1, Decidable.of_not_not c2⟩ h

/-- `fragsize_check` on a reply, in the terms of the abstract search: the new `max_fragsize` is the one of the probe result
`fragRes`.  The length guards suffice: whatever lies in `in[]` BEHIND the reply (`junk`: what earlier replies or the stack
left there) is not looked at. -/
theorem fragsizeCheck_junk (s : HState) (buf junk : List Nat) (hi : s.inb = buf ++ junk) (pr : Nat) (m : Int) :
    fragsizeCheck s buf.length pr m = (maxAfter pr m (fragRes pr (some buf)), fragBreak buf pr) := by
  unfold fragsizeCheck fragRes fragBreak
  have g : ∀ k, k < buf.length → s.inAt k = buf.getD k 0 := by
    intro k hk; unfold HState.inAt; rw [hi]; exact getD_append_lt _ _ _ hk
  have hbadip : buf.length ≥ 5 → s.inIs "BADIP" = litAt buf "BADIP" := by
    intro h5
    unfold HState.inIs litAt
    apply all_range_congr
    intro k hk
    have : (ascii "BADIP").length = 5 := by decide
    rw [g k (by omega)]
  have stay : ∀ {p : Prop} [Decidable p], ¬ p → ((m, false) : Int × Bool) = (maxAfter pr m .bad, decide p) :=
    fun hp => Prod.ext rfl (decide_eq_false hp).symm
  simp only
  by_cases c0 : buf.length < 2
  · have c0i : (buf.length : Int) < 2 := by omega
    rw [if_pos c0i, if_pos c0]; exact stay fun h => h.1 c0
  · have c0i : ¬ (buf.length : Int) < 2 := by omega
    rw [if_neg c0i, if_neg c0, g 0 (by omega), g 1 (by omega)]
    by_cases c1 : buf.length ≥ 5 ∧ litAt buf "BADIP" = true
    · have c1' : ((buf.length : Int) ≥ 5 ∧ s.inIs "BADIP" = true) := ⟨by omega, by rw [hbadip c1.1]; exact c1.2⟩
      rw [if_pos c1', if_pos c1]; exact stay fun h => h.2.1 c1
    · have c1' : ¬ ((buf.length : Int) ≥ 5 ∧ s.inIs "BADIP" = true) :=
        fun ⟨a, b⟩ => c1 ⟨by omega, by rw [← hbadip (by omega)]; exact b⟩
      rw [if_neg c1', if_neg c1]
      by_cases c2 : buf.getD 0 0 * 256 + buf.getD 1 0 ≠ pr
      · rw [if_pos c2, if_pos c2]; exact stay fun h => c2 h.2.2
      · rw [if_neg c2, if_neg c2]
        have ha : buf.getD 0 0 * 256 + buf.getD 1 0 = pr := Decidable.of_not_not c2
        rw [decide_eq_true (⟨c0, c1, ha⟩ : _ ∧ _ ∧ _)]
        by_cases c3 : buf.length = pr
        · have c3i : ¬ ((buf.length : Int) ≠ (pr : Int)) := by omega
          have c3n : ¬ buf.length ≠ pr := by omega
          rw [if_neg c3i, if_neg c3n]
          by_cases c5 : buf.length < 3
          · have c5i : (buf.length : Int) < 3 := by omega
            rw [if_pos c5i, if_pos c5, ha]; rfl
          · have c5i : ¬ (buf.length : Int) < 3 := by omega
            rw [if_neg c5i, if_neg c5, g 2 (by omega)]
            by_cases c4 : buf.getD 2 0 ≠ 107
            · rw [if_pos c4, if_pos c4]; rfl
            · rw [if_neg c4, if_neg c4]
              have hv : (if (buf.length : Int) > 3 then s.inAt 3 else 0) = (if buf.length > 3 then buf.getD 3 0 else 0) := by
                by_cases h : buf.length > 3
                · have : (buf.length : Int) > 3 := by omega
                  rw [if_pos this, if_pos h, g 3 h]
                · have : ¬ (buf.length : Int) > 3 := by omega
                  rw [if_neg this, if_neg h]
              have hall : ((List.range (pr - 3)).all fun j =>
                    s.inAt (3 + j) == ((if (buf.length : Int) > 3 then s.inAt 3 else 0) + 107 * j) % 256) =
                  ((List.range (pr - 3)).all fun j =>
                    buf.getD (3 + j) 0 == ((if buf.length > 3 then buf.getD 3 0 else 0) + 107 * j) % 256) := by
                rw [hv]
                apply all_range_congr
                intro k hk
                rw [g (3 + k) (by omega)]
              rw [hall, ha]
              by_cases c6 : ((List.range (pr - 3)).all fun j =>
                  buf.getD (3 + j) 0 == ((if buf.length > 3 then buf.getD 3 0 else 0) + 107 * j) % 256) = true
              · rw [if_pos c6, if_pos c6]; rfl
              · rw [if_neg c6, if_neg c6]; rfl
        · have c3i : (buf.length : Int) ≠ (pr : Int) := by omega
          have c3n : buf.length ≠ pr := c3
          rw [if_pos c3i, if_pos c3n]; rfl

theorem fragsizeCheck_reply (s : HState) (buf : List Nat) (hi : s.inb = buf) (pr : Nat) (m : Int) :
    fragsizeCheck s buf.length pr m = (maxAfter pr m (fragRes pr (some buf)), fragBreak buf pr) :=
  fragsizeCheck_junk s buf [] (by rw [hi, List.append_nil]) pr m

theorem fragHead_lt (s : HState) (evs : List CEvent) (pr rg : Nat) (m : Int) (i : Nat) (hrun : s.c.running = true) (hi : i < 3) :
    fragHead s evs pr rg m i = s.park (sendFragsizeProbe s.c pr) evs (.frag pr rg m i) := by
  simp [fragHead, hrun, hi]

/-- the `for` loop of `handshake_autoprobe_fragsize` for one proposed size, on the path -/
theorem reach_fragInner (π : HsPath) (hπ : π.Ok) (pr rg : Nat) (m : Int)
    (s : HState) (evs : List CEvent) (hrun : s.c.running = true) :
    ∃ s' evs', Reaches π (fragHead s evs pr rg m 0) (fragHead s' evs' pr rg (maxAfter pr m (fragRes pr (π.frag pr))) 3) ∧
      Keep s s' := by
  have h := reach_loop π hπ 3 (fun s evs i => fragHead s evs pr rg m i) (fun s => sendFragsizeProbe s.c pr)
    (fun i => .frag pr rg m i) (fun s evs m' => fragHead s evs pr rg m' 3) m
    (fun buf => if fragBreak buf pr then some (maxAfter pr m (fragRes pr (some buf))) else none) (by omega) (fun _ => rfl)
    (fun _ => frame_sendFragsizeProbe _ _) (fun _ => rfl)
    (fun s evs i hr => by
      by_cases hi : i < 3
      · rw [if_pos hi, fragHead_lt s evs pr rg m i hr hi]
      · rw [if_neg hi]; simp only [fragHead, hi, and_false, if_false, show ¬ 3 < 3 by omega])
    (fun s i => by show fragGot s pr rg m i (-3) = _; rw [fragGot, if_neg (by omega)])
    (fun s i buf hb hp => by
      have hpos : (buf.length : Int) > 0 := by omega
      show fragGot s pr rg m i buf.length = _
      rw [fragGot, if_pos hpos]
      simp only [fragsizeCheck_reply s buf hb]
      cases hbrk : fragBreak buf pr
      · simp only [Bool.false_eq_true, if_false, fragRes_of_continue hbrk]; rfl
      · simp only [if_true]; rfl)
    s evs hrun
  have e : loopRes m (fun buf => if fragBreak buf pr then some (maxAfter pr m (fragRes pr (some buf))) else none)
      (π.replyAt (.frag pr rg m 0)) = maxAfter pr m (fragRes pr (π.frag pr)) := by
    show loopRes _ _ (π.frag pr) = _
    cases π.frag pr with
    | none => rfl
    | some buf =>
      cases hbrk : fragBreak buf pr
      · simp only [loopRes, hbrk, Bool.false_eq_true, if_false, Option.getD_none, fragRes_of_continue hbrk]; rfl
      · simp only [loopRes, hbrk, if_true, Option.getD_some]
  rwa [e] at h

/-- behind the `for` loop: the rest of one turn of the `while` loop -/
theorem fragHead_three (s : HState) (evs : List CEvent) (pr rg : Nat) (m : Int) (hrun : s.c.running = true) :
    fragHead s evs pr rg m 3 =
      if m < 0 then fragFinish s evs m
      else if rg / 2 > 0 ∧ (rg / 2 ≥ 8 ∨ m < 300) then
        fragHead s evs (if m = (pr : Int) then pr + rg / 2 else pr - rg / 2) (rg / 2) m 0
      else fragFinish s evs m := by
  rw [fragHead_lt s evs _ (rg / 2) m 0 hrun (by omega)]
  simp [fragHead, hrun]

theorem reach_fragLoop (π : HsPath) (hπ : π.Ok) :
    ∀ (fuel : Nat) (st : C11L.FragSt) (s : HState) (evs : List CEvent), s.c.running = true → C11L.fragCond st = true →
      st.range < 2 ^ fuel →
      ∃ s' evs', Reaches π (fragHead s evs st.proposed st.range st.max 0)
        (fragFinish s' evs' (C11L.fragLoop (fun n => fragRes n (π.frag n)) fuel st).max) ∧ Keep s s' := by
  intro fuel
  induction fuel with
  | zero =>
    intro st s evs _ hc hr
    simp [C11L.fragCond] at hc
    omega
  | succ fuel ih =>
    intro st s evs hrun hc hr
    obtain ⟨s1, e1, h1, k1⟩ := reach_fragInner π hπ st.proposed st.range st.max s evs hrun
    have r1 : s1.c.running = true := by rw [k1.running]; exact hrun
    rw [fragHead_three s1 e1 _ _ _ r1] at h1
    have hpm : maxAfter st.proposed st.max (fragRes st.proposed (π.frag st.proposed)) =
        C11L.probeMax (fun n => fragRes n (π.frag n)) st := by
      unfold C11L.probeMax maxAfter
      rfl
    rw [hpm] at h1
    unfold C11L.fragLoop
    simp only [hc, if_true, C11L.fragStep]
    generalize C11L.probeMax (fun n => fragRes n (π.frag n)) st = M at h1 ⊢
    by_cases hneg : M < 0
    · simp only [hneg, if_true] at h1 ⊢
      exact ⟨s1, e1, h1, k1⟩
    · simp only [hneg, if_false] at h1 ⊢
      by_cases heq : M = (st.proposed : Int)
      · simp only [heq, if_true] at h1 ⊢
        by_cases hc2 : st.range / 2 > 0 ∧ (st.range / 2 ≥ 8 ∨ (st.proposed : Int) < 300)
        · simp only [hc2, and_self, if_true] at h1
          obtain ⟨s2, e2, h2, k2⟩ := ih ⟨st.proposed + st.range / 2, st.range / 2, st.proposed, st.proposed :: st.asked⟩ s1 e1 r1
            (by simp only [C11L.fragCond]; simpa using hc2) (by show st.range / 2 < 2 ^ fuel; omega)
          exact ⟨s2, e2, h1.trans h2, k1.trans k2⟩
        · simp only [hc2, if_false] at h1
          refine ⟨s1, e1, ?_, k1⟩
          have : C11L.fragCond ⟨st.proposed + st.range / 2, st.range / 2, st.proposed, st.proposed :: st.asked⟩ = false := by
            simp only [C11L.fragCond]; simpa using hc2
          cases fuel <;> simp [C11L.fragLoop, this] <;> exact h1
      · simp only [heq, if_false] at h1 ⊢
        by_cases hc2 : st.range / 2 > 0 ∧ (st.range / 2 ≥ 8 ∨ M < 300)
        · simp only [hc2, and_self, if_true] at h1
          obtain ⟨s2, e2, h2, k2⟩ := ih ⟨st.proposed - st.range / 2, st.range / 2, M, st.proposed :: st.asked⟩ s1 e1 r1
            (by simp only [C11L.fragCond]; simpa using hc2) (by show st.range / 2 < 2 ^ fuel; omega)
          exact ⟨s2, e2, h1.trans h2, k1.trans k2⟩
        · simp only [hc2, if_false] at h1
          refine ⟨s1, e1, ?_, k1⟩
          have : C11L.fragCond ⟨st.proposed - st.range / 2, st.range / 2, M, st.proposed :: st.asked⟩ = false := by
            simp only [C11L.fragCond]; simpa using hc2
          cases fuel <;> simp [C11L.fragLoop, this] <;> exact h1

/-- what a finished run must show to agree with the abstract result `R` on lazy mode, return value and fragment size -/
def EndsWith (π : HsPath) (start : HOut) (s : HState) (R : C11L.HsResult) : Prop :=
  ∃ o : HOut, Reaches π start o ∧ o.1.pos = none ∧ o.2.2 = .finished R.rc ∧
    o.1.c.lazymode = R.lazymode ∧ o.1.c.dataenc = s.c.dataenc ∧ o.1.c.downenc = s.c.downenc ∧ o.1.c.edns0 = s.c.edns0 ∧
    (∀ f, R.setFrag = some f → ∃ (sm : HState) (em : List CEvent) (fi : Int), Reaches π start (setFragEnter sm em fi) ∧ fi.toNat = f)

/-- from `if (autodetect_frag_size)` on: the return value and the size `handshake_set_fragsize` is asked for, in the form
`C11L.clientHandshakeTail_eq` gives them -/
theorem reach_afterLazy (π : HsPath) (hπ : π.Ok)
    (s : HState) (evs : List CEvent) (hrun : s.c.running = true) :
    ∃ o : HOut, Reaches π (afterLazy s evs) o ∧ o.1.pos = none ∧ Keep s o.1 ∧
      o.2.2 = .finished (if s.args.autoFrag = true ∧ C11L.autoprobeFragsize (fun n => fragRes n (π.frag n)) = 0 then 1 else 0) ∧
      (¬ (s.args.autoFrag = true ∧ C11L.autoprobeFragsize (fun n => fragRes n (π.frag n)) = 0) →
        ∃ (sm : HState) (em : List CEvent) (fi : Int), Reaches π (afterLazy s evs) (setFragEnter sm em fi) ∧
          fi.toNat = if s.args.autoFrag then C11L.autoprobeFragsize (fun n => fragRes n (π.frag n)) else s.args.fragsize.toNat) := by
  have fin : ∀ (sa : HState) (ea : List CEvent) (f : Int), sa.c.running = true →
      ∃ o : HOut, Reaches π (setFragEnter sa ea f) o ∧ o.1.pos = none ∧ Keep sa o.1 ∧ o.2.2 = .finished 0 := by
    intro sa ea f ra
    obtain ⟨s4, e4, h4, k4⟩ := reach_setFrag π hπ f { sa with inb := [] } ea ra
    have r4 : s4.c.running = true := by rw [k4.running]; exact ra
    refine ⟨hsEnd s4 e4, h4, rfl, Keep.trans ⟨rfl, rfl⟩ k4, ?_⟩
    simp [hsEnd, HState.done, r4]
  have hnr : ¬ ((!s.c.running) = true) := by simp [hrun]
  unfold afterLazy
  simp only [hnr]
  by_cases ha : s.args.autoFrag = true
  · simp only [ha, if_true]
    have hE : fragEnter s evs = fragHead { s with inb := [] } evs 768 768 0 0 := by simp [fragEnter, hrun]
    rw [hE]
    obtain ⟨s3, e3, h3', k3⟩ := reach_fragLoop π hπ 10 C11L.fragInit { s with inb := [] } evs hrun (by decide) (by decide)
    have r3 : s3.c.running = true := by rw [k3.running]; exact hrun
    have hM : (C11L.fragLoop (fun n => fragRes n (π.frag n)) 10 C11L.fragInit).max = (C11L.fragSearch (fun n => fragRes n (π.frag n))).max := rfl
    rw [hM] at h3'
    have h3'' : Reaches π (fragHead { s with inb := [] } evs 768 768 0 0)
        (fragFinish s3 e3 (C11L.fragSearch (fun n => fragRes n (π.frag n))).max) := h3'
    unfold C11L.autoprobeFragsize
    simp only
    by_cases hm : (C11L.fragSearch (fun n => fragRes n (π.frag n))).max ≤ 2
    · simp only [hm, if_true]
      refine ⟨fragFinish s3 e3 (C11L.fragSearch (fun n => fragRes n (π.frag n))).max, h3'', ?_, ?_, ?_⟩
      · simp [fragFinish, r3, hm, HState.done]
      · simp only [fragFinish, r3, hm, HState.done]
        simp only [Bool.not_true, Bool.false_eq_true, if_false, if_true]
        exact ⟨k3.1, k3.2⟩
      · simp [fragFinish, r3, hm, HState.done]
    · simp only [hm, if_false]
      have hne : ¬ ((C11L.fragSearch (fun n => fragRes n (π.frag n))).max - 2).toNat = 0 := by omega
      simp only [hne]
      have hF : fragFinish s3 e3 (C11L.fragSearch (fun n => fragRes n (π.frag n))).max =
          setFragEnter s3 e3 ((C11L.fragSearch (fun n => fragRes n (π.frag n))).max - 2) := by
        have : ¬ ((C11L.fragSearch (fun n => fragRes n (π.frag n))).max - 2 = 0) := by omega
        simp [fragFinish, r3, hm, this]
      rw [hF] at h3''
      obtain ⟨o, ho, hp, hk, hr⟩ := fin s3 e3 _ r3
      exact ⟨o, h3''.trans ho, hp, (Keep.trans ⟨rfl, rfl⟩ k3).trans hk, hr, fun _ => ⟨s3, e3, _, h3'', rfl⟩⟩
  · simp only [ha]
    obtain ⟨o, ho, hp, hk, hr⟩ := fin s evs s.args.fragsize hrun
    exact ⟨o, ho, hp, hk, hr, fun _ => ⟨s, evs, _, Reaches.refl _, rfl⟩⟩

/-- **the refinement**: from `dnsc_use_edns0 = 1` on (DNS mode), the handshake machine driven by the path `π` returns,
with the return value, EDNS0 flag, upstream codec, downstream codec and lazy mode that the abstract negotiation
`C11L.clientHandshakeTail` computes from the path's probe outcomes, and it asks `handshake_set_fragsize` for the abstract
fragment size -/
theorem hs_refines (π : HsPath) (hπ : π.Ok)
    (s : HState) (evs : List CEvent) (hrun : s.c.running = true) (henc : s.c.dataenc = .b32) :
    ∃ o : HOut, Reaches π (dnsBranch s evs) o ∧ o.1.pos = none ∧
      o.2.2 = .finished (C11L.clientHandshakeTail (cfgOf s) π.probes).rc ∧
      o.1.c.edns0 = (C11L.clientHandshakeTail (cfgOf s) π.probes).edns0 ∧
      bitsOf o.1.c.dataenc = (C11L.clientHandshakeTail (cfgOf s) π.probes).upBits ∧
      o.1.c.downenc = (C11L.clientHandshakeTail (cfgOf s) π.probes).downenc ∧
      o.1.c.lazymode = (C11L.clientHandshakeTail (cfgOf s) π.probes).lazymode ∧
      (∀ f, (C11L.clientHandshakeTail (cfgOf s) π.probes).setFrag = some f →
        ∃ (sm : HState) (em : List CEvent) (fi : Int), Reaches π (dnsBranch s evs) (setFragEnter sm em fi) ∧ fi.toNat = f) := by
  obtain ⟨s5, e5, base, n5, a5⟩ := reach_codecs π hπ s evs hrun henc
  have r5 : s5.c.running = true := (congrArg Neg.running n5).trans hrun
  have l5 : s5.c.lazymode = s.c.lazymode := congrArg Neg.lazymode n5
  have ed5 : s5.c.edns0 = C11L.downencTest π.edns := congrArg Neg.edns0 n5
  have d5 : s5.c.downenc = _ := congrArg Neg.downenc n5
  have b5 : bitsOf s5.c.dataenc = C11L.upBitsOf π.probes :=
    (congrArg (fun n => bitsOf n.dataenc) n5).trans (bitsOf_encOfBits (C11L.upBitsOf_mem _))
  obtain ⟨s6, e6, h6, k6⟩ : ∃ s6 e6, Reaches π (afterDownenc s5 e5) (afterSwitchDown s6 e6) ∧ Keep s5 s6 := by
    have hnr : ¬ ((!s5.c.running) = true) := by simp [r5]
    unfold afterDownenc
    simp only [hnr]
    by_cases hd : s5.c.downenc ≠ 32
    · rw [if_neg (by simp), if_pos hd]
      obtain ⟨s6, e6, h6, k6⟩ := reach_switchDown π hπ { s5 with inb := [] } e5 r5
      exact ⟨s6, e6, h6, Keep.trans ⟨rfl, rfl⟩ k6⟩
    · rw [if_neg (by simp), if_neg hd]
      exact ⟨s5, e5, Reaches.refl _, Keep.refl _⟩
  have r6 : s6.c.running = true := by rw [k6.running]; exact r5
  obtain ⟨s7, e7, h7, r7, a7, l7, d7, dn7, ed7⟩ : ∃ s7 e7, Reaches π (afterSwitchDown s6 e6) (afterLazy s7 e7) ∧
      s7.c.running = true ∧ s7.args = s6.args ∧ s7.c.lazymode = (if s6.c.lazymode then π.lazyAck else false) ∧
      s7.c.dataenc = s6.c.dataenc ∧ s7.c.downenc = s6.c.downenc ∧ s7.c.edns0 = s6.c.edns0 := by
    have hnr : ¬ ((!s6.c.running) = true) := by simp [r6]
    unfold afterSwitchDown
    simp only [hnr]
    by_cases hl : s6.c.lazymode = true
    · simp only [hl, if_true]
      obtain ⟨s7, e7, h7, n7, a7⟩ := reach_lazy π hπ { s6 with inb := [] } e6 r6
      exact ⟨s7, e7, h7, (congrArg Neg.running n7).trans r6, a7, congrArg Neg.lazymode n7, congrArg Neg.dataenc n7,
        congrArg Neg.downenc n7, congrArg Neg.edns0 n7⟩
    · have hl' : s6.c.lazymode = false := by simpa using hl
      simp only [hl', Bool.false_eq_true, if_false]
      exact ⟨s6, e6, Reaches.refl _, r6, rfl, hl', rfl, rfl, rfl⟩
  obtain ⟨o, ho, hp, hk, hrc, hsf⟩ := reach_afterLazy π hπ s7 e7 r7
  have a7' : s7.args = s.args := by rw [a7, k6.2, a5]
  rw [a7'] at hrc hsf
  have start7 := base.trans (h6.trans h7)
  rw [C11L.clientHandshakeTail_eq]
  refine ⟨o, start7.trans ho, hp, hrc, ?_, ?_, ?_, ?_, ?_⟩
  · rw [hk.edns0, ed7, k6.edns0]; exact ed5
  · rw [hk.dataenc, d7, k6.dataenc]; exact b5
  · rw [hk.downenc, dn7, k6.downenc]; exact d5
  · rw [hk.lazymode, l7, k6.lazymode, l5]; rfl
  · intro f hf
    by_cases hc : s.args.autoFrag = true ∧ C11L.autoprobeFragsize (fun n => fragRes n (π.frag n)) = 0
    · exact absurd ((if_pos hc).symm.trans hf) nofun
    · obtain ⟨sm, em, fi, hr, hfi⟩ := hsf hc
      exact ⟨sm, em, fi, start7.trans hr, hfi.trans (Option.some.inj ((if_neg hc).symm.trans hf))⟩

end Iodine.Client
