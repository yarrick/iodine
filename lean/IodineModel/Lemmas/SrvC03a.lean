import IodineModel.Lemmas.SrvC16a
import IodineModel.Lemmas.SrvC04f
/-
For C03 (privileged effects need authentication): the "protected view" of a server state (the fields the privileged
commands change), the downstream backlog measure, event classes, and the behaviour of the data path
(`sendChunkOrDataless` and everything below it, the sweep, the top of the loop) with respect to them.  That the data
path keeps the protected view follows from its frames (`view_of_frame` over the `Frame erData` lemmas); the backlog
is followed function by function.  Last, the iteration as `entry`, then `dispatch`, then the sweep (`next_eq`,
`mem_out`).
-/
namespace Iodine.C03L
open Iodine Iodine.Server Iodine.Gen

theorem setUser_of_ge (s : Srv) {u : Nat} (f : Session → Session) (h : s.users.length ≤ u) :
    setUser s u f = s :=
  C16L.setUser_oob s u f h

@[simp] theorem setUser_cfg (s : Srv) (u : Nat) (f : Session → Session) : (setUser s u f).cfg = s.cfg := rfl
@[simp] theorem setUser_now (s : Srv) (u : Nat) (f : Session → Session) : (setUser s u f).now = s.now := rfl
@[simp] theorem setUser_rand (s : Srv) (u : Nat) (f : Session → Session) : (setUser s u f).rand = s.rand := rfl
@[simp] theorem setUser_fw (s : Srv) (u : Nat) (f : Session → Session) : (setUser s u f).fw = s.fw := rfl

/-- the fields of a slot that only the privileged commands (and the allocation by `V`) may change -/
structure Prot where
  active : Bool
  authenticated : Bool
  authenticatedRaw : Bool
  disabled : Bool
  seed : Nat
  tunIp : Nat
  host : Addr
  encoder : Enc
  downenc : Nat
  lazy : Bool
  fragsize : Nat
  conn : Conn
deriving DecidableEq

def prot (x : Session) : Prot :=
  ⟨x.active, x.authenticated, x.authenticatedRaw, x.disabled, x.seed, x.tunIp, x.host, x.encoder, x.downenc,
   x.lazy, x.fragsize, x.conn⟩

def view (s : Srv) : Config × Nat × List Prot := (s.cfg, s.now, s.users.map prot)

theorem view_setUser (s : Srv) (u : Nat) (f : Session → Session) (h : ∀ x, prot (f x) = prot x) :
    view (setUser s u f) = view s := by
  unfold view setUser
  simp only [Prod.mk.injEq, true_and]
  apply List.ext_getElem?
  intro j
  simp only [List.getElem?_map, List.getElem?_modify]
  cases hj : s.users[j]? with
  | none => simp
  | some x =>
    by_cases hu : u = j
    · simp [hu, h]
    · simp [hu]

theorem prot_getUser_of_view {s s' : Srv} (h : view s' = view s) (v : Nat) :
    prot (getUser s' v) = prot (getUser s v) := by
  unfold view at h
  simp only [Prod.mk.injEq] at h
  have h3 := congrArg (fun l => l[v]?) h.2.2
  simp only [List.getElem?_map] at h3
  unfold getUser
  simp only [List.getD_eq_getElem?_getD]
  cases h1 : s'.users[v]? <;> cases h2 : s.users[v]? <;> simp [h1, h2] at h3 ⊢
  exact h3

theorem cfg_of_view {s s' : Srv} (h : view s' = view s) : s'.cfg = s.cfg := by
  unfold view at h; simp only [Prod.mk.injEq] at h; exact h.1

theorem now_of_view {s s' : Srv} (h : view s' = view s) : s'.now = s.now := by
  unfold view at h; simp only [Prod.mk.injEq] at h; exact h.2.1

theorem length_of_view {s s' : Srv} (h : view s' = view s) : s'.users.length = s.users.length := by
  unfold view at h; simp only [Prod.mk.injEq] at h
  have := congrArg List.length h.2.2
  simpa using this

/-- number of downstream packets a slot holds: the one in flight plus the queued ones -/
def backlog (x : Session) : Nat := x.oqFilled + (if x.outpacket.len > 0 then 1 else 0)

def MLe (s s' : Srv) : Prop := ∀ v, backlog (getUser s' v) ≤ backlog (getUser s v)

theorem MLe.refl (s : Srv) : MLe s s := fun _ => Nat.le_refl _

theorem MLe.trans {a b c : Srv} (h1 : MLe a b) (h2 : MLe b c) : MLe a c :=
  fun v => Nat.le_trans (h2 v) (h1 v)

theorem MLe.set (s : Srv) (u : Nat) (f : Session → Session)
    (h : backlog (f (getUser s u)) ≤ backlog (getUser s u)) : MLe s (setUser s u f) := by
  intro v
  rw [C04L.getUser_setUser]
  split
  · next hc => rw [hc.1]; exact h
  · exact Nat.le_refl _

/-- an answer produced by the data path: tagged with the session it carries data for -/
def ChunkEv (e : Event) : Prop :=
  match e with
  | .ans _ _ _ _ _ _ tag => tag ≠ .ctrl
  | _ => False

theorem prot_erData (z : Session) : prot (C04L.erData z) = prot z := by cases z; rfl

theorem view_of_frame {U : Nat → Prop} {s s' : Srv} (h : C04L.Frame C04L.erData U s s') : view s' = view s := by
  unfold view
  rw [h.cfg, h.now, h.map_eq prot prot_erData]

theorem view_sendChunkOrDataless (s : Srv) (u : Nat) (w : QSel) : view (sendChunkOrDataless s u w).1.1 = view s :=
  view_of_frame (C04L.frame_sendChunkOrDataless s u w)

theorem mle_getFromOutpacketq (s : Srv) (u : Nat) : MLe s (getFromOutpacketq s u).1 := by
  rw [getFromOutpacketq]
  refine ite_both' (P := fun r : Srv × Bool => MLe s r.1) (fun _ => MLe.refl s) fun h => ?_
  -- the packet taken from the queue becomes the one in flight: one write to the slot
  dsimp only
  rw [startNewOutpacket, C04L.setUser_setUser]
  refine MLe.set s u _ ?_
  unfold backlog
  dsimp only
  split <;> split <;> omega

theorem mle_dropOut (s : Srv) (u : Nat) : MLe s (setUser s u dropOut) := by
  refine MLe.set s u _ ?_
  unfold backlog dropOut
  dsimp only
  split <;> omega

theorem mle_scDropResent (s : Srv) (u : Nat) : MLe s (scDropResent s u) := by
  rw [scDropResent]
  exact ite_both ((mle_dropOut s u).trans (mle_getFromOutpacketq _ u)) (MLe.refl s)

theorem mle_scPrepare (s : Srv) (u : Nat) : MLe s (scPrepare s u) := by
  rw [scPrepare]
  exact ite_both (MLe.set s u _ (Nat.le_refl _)) (MLe.refl s)

theorem mle_saveToDnscache (s : Srv) (u : Nat) (q : Query) (a : List Nat) : MLe s (saveToDnscache s u q a) :=
  saveToDnscache_ind (P := MLe s) s u q a (MLe.refl s) fun g hg =>
    MLe.set s u g (by obtain ⟨c, l, h⟩ := hg (getUser s u); rw [h]; exact Nat.le_refl _)

theorem mle_saveToQmemPingOrData (s : Srv) (u : Nat) (q : Query) : MLe s (saveToQmemPingOrData s u q) :=
  saveToQmemPingOrData_ind (P := MLe s) s u q (MLe.refl s) fun g hg =>
    MLe.set s u g (by obtain ⟨a, b, c, d, h⟩ := hg (getUser s u); rw [h]; exact Nat.le_refl _)

theorem backlog_qset (w : QSel) (y : Session) (q : Query) : backlog (w.set y q) = backlog y := by cases w <;> rfl

theorem mle_scCore (s : Srv) (u : Nat) (w : QSel) (q : Query) (pkt : List Nat) :
    MLe s (setUser (saveToDnscache (saveToQmemPingOrData s u q) u q pkt) u fun y => w.set y { q with id := 0 }) :=
  ((mle_saveToQmemPingOrData s u q).trans (mle_saveToDnscache _ u q pkt)).trans
    (MLe.set _ u _ (Nat.le_of_eq (backlog_qset w _ _)))

theorem mle_sendChunkOrDataless (s : Srv) (u : Nat) (w : QSel) : MLe s (sendChunkOrDataless s u w).1.1 := by
  have h1 : MLe s (scPrepare (scDropResent s u) u) := (mle_scDropResent s u).trans (mle_scPrepare _ u)
  unfold sendChunkOrDataless
  dsimp only
  exact ite_both (P := fun r : Res × Bool => MLe s r.1.1)
    (((h1.trans (mle_scCore _ u w _ _)).trans (mle_dropOut _ u)).trans (mle_getFromOutpacketq _ u))
    (h1.trans (mle_scCore _ u w _ _))

theorem chunkEv_scAnswer (q : Query) (pkt : List Nat) (dn u : Nat) : ∀ e ∈ (scAnswer q pkt dn u).2, ChunkEv e := by
  have c : ∀ (q' : Query) (t : Tag), t ≠ .ctrl → ChunkEv (writeDns q' pkt dn t) := fun _ _ h => h
  rw [scAnswer]
  refine ite_both (P := fun r : Query × List Event => ∀ e ∈ r.2, ChunkEv e) (fun e he => ?_) fun e he => ?_
  · rcases List.mem_cons.1 he with rfl | he
    · exact c _ _ nofun
    · rw [List.mem_singleton.1 he]; exact c _ _ nofun
  · rw [List.mem_singleton.1 he]; exact c _ _ nofun

theorem chunkEv_sendChunkOrDataless (s : Srv) (u : Nat) (w : QSel) :
    ∀ e ∈ (sendChunkOrDataless s u w).1.2, ChunkEv e := by
  obtain ⟨pkt, dn, h⟩ := C04L.sendChunkOrDataless_events s u w
  rw [h]; exact chunkEv_scAnswer _ _ _ _

/-- an event that is none of: a tun write, a raw DATA frame, an `I` answer (answer to an `i`/`I` query whose data
starts with 'I'), a VACK (answer to a `v`/`V` query whose data starts with "VACK") -/
def Harmless : Event → Prop
  | .ans _ _ _ _ name data tag =>
      tag = .ctrl →
        ¬ ((name.getD 0 0 = 73 ∨ name.getD 0 0 = 105) ∧ data.head? = some 73) ∧
        ¬ ((name.getD 0 0 = 86 ∨ name.getD 0 0 = 118) ∧ data.take 4 = ascii "VACK")
  | .raw _ bytes => bytes.getD 3 0 &&& 240 ≠ 32
  | .tunw _ => False
  | _ => True

def NoChunk : Event → Prop
  | .ans _ _ _ _ _ _ tag => tag = .ctrl
  | _ => True

theorem Harmless.of_chunkEv {e : Event} (h : ChunkEv e) : Harmless e := by
  cases e <;> simp_all [ChunkEv, Harmless]

structure Quiet (s : Srv) (r : Res) : Prop where
  view : view r.1 = view s
  mle : MLe s r.1
  evs : ∀ e ∈ r.2, Harmless e

theorem Quiet.refl_nil (s : Srv) : Quiet s (s, []) := ⟨rfl, MLe.refl s, by simp⟩

theorem Quiet.andThen {s : Srv} {r : Res} {f : Srv → Res} (h1 : Quiet s r) (h2 : Quiet r.1 (f r.1)) :
    Quiet s (andThen r f) := by
  refine ⟨?_, ?_, ?_⟩
  · simp only [Server.andThen]; rw [h2.view, h1.view]
  · exact h1.mle.trans h2.mle
  · intro e he
    simp only [Server.andThen, List.mem_append] at he
    rcases he with he | he
    · exact h1.evs e he
    · exact h2.evs e he

theorem quiet_sendChunkOrDataless (s : Srv) (u : Nat) (w : QSel) : Quiet s (sendChunkOrDataless s u w).1 :=
  ⟨view_sendChunkOrDataless s u w, mle_sendChunkOrDataless s u w,
   fun e he => Harmless.of_chunkEv (chunkEv_sendChunkOrDataless s u w e he)⟩

theorem quiet_sweepFrom : ∀ (n i : Nat) (s : Srv), Quiet s (sweepFrom n i s) := by
  intro n
  induction n with
  | zero => intro i s; exact Quiet.refl_nil s
  | succ n ih =>
    intro i s
    unfold sweepFrom
    simp only []
    apply Quiet.andThen
    · split
      · exact quiet_sendChunkOrDataless s i .qs
      · exact Quiet.refl_nil s
    · exact ih _ _

theorem quiet_sweep (s : Srv) : Quiet s (sweep s) := quiet_sweepFrom _ _ _

/-- the state a handler sees: after the top of the loop, with the clock of `select`'s return -/
def entry (s : Srv) (now' : Nat) : Srv := { (topOfLoop s).1 with now := now' }

theorem getUser_entry (s : Srv) (now' v : Nat) :
    ∃ b, getUser (entry s now') v = { getUser s v with qsNew := b } :=
  getUser_handlerPhase s now' v

@[simp] theorem entry_cfg (s : Srv) (now' : Nat) : (entry s now').cfg = s.cfg := rfl
@[simp] theorem entry_now (s : Srv) (now' : Nat) : (entry s now').now = now' := rfl
@[simp] theorem entry_length (s : Srv) (now' : Nat) : (entry s now').users.length = s.users.length := by
  simp [entry, topOfLoop, length_clearNewFrom]

theorem prot_entry (s : Srv) (now' v : Nat) : prot (getUser (entry s now') v) = prot (getUser s v) := by
  obtain ⟨b, hb⟩ := getUser_entry s now' v
  rw [hb]; rfl

theorem backlog_entry (s : Srv) (now' v : Nat) : backlog (getUser (entry s now') v) = backlog (getUser s v) := by
  obtain ⟨b, hb⟩ := getUser_entry s now' v
  rw [hb]; rfl

theorem lastPkt_entry (s : Srv) (now' v : Nat) : (getUser (entry s now') v).lastPkt = (getUser s v).lastPkt := by
  obtain ⟨b, hb⟩ := getUser_entry s now' v
  rw [hb]

theorem next_eq (s : Srv) (st : Step) :
    next s st = (sweep (dispatch (entry s st.now) st.inp (topOfLoop s).2.2).1).1 :=
  C04L.body_fst _ _ _

theorem mem_body (s : Srv) (inp : Input) (t : Bool) (e : Event) (h : e ∈ (body s inp t).2) :
    e ∈ (dispatch s inp t).2 ∨ e = .sweep ∨ e ∈ (sweep (dispatch s inp t).1).2 ∨ e = .tunskip := by
  obtain ⟨note, hn, hb⟩ := body_eq s inp t
  rw [hb, List.mem_append, List.mem_cons, List.mem_append] at h
  refine h.imp_right (Or.imp_right (Or.imp_right fun h => ?_))
  rcases hn with rfl | rfl
  · cases h
  · exact List.mem_singleton.1 h

theorem mem_out (s : Srv) (st : Step) (e : Event) (h : e ∈ out s st) :
    e ∈ (dispatch (entry s st.now) st.inp (topOfLoop s).2.2).2 ∨ e = .sweep ∨
    e ∈ (sweep (dispatch (entry s st.now) st.inp (topOfLoop s).2.2).1).2 ∨ e = .tunskip :=
  mem_body _ _ _ e h

end Iodine.C03L
