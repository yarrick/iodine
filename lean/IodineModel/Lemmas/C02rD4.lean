import IodineModel.Lemmas.C02qD3
import IodineModel.Lemmas.C02qM8
/-
C02, downstream, immediate mode — RECOVERY over a sequence of frames offered to the server from a desynchronised quiescent
state (`recovery_down_imm`): `recovery_down` (C02qM8) over the dichotomy `down_packet_imm_any` (C02qD3) — with the server's
number `d < 8` ahead a frame is lost (`d ↦ d + 1`; at `d = 7` dropped as a duplicate fragment if the client's last fragment number
is not 0) or taken (`d ≤ 3`; `d = 7` through the "weird situation" clause if that number is 0 and the buffer is empty).  Its two
uses: `recovery_after_giveups_down_imm` (something is delivered; as `recovery_after_giveups_down_lazy`, C02qM8) and
`recovery_after_giveups_down_imm_partial` (`d ∈ 4..7`, fragment number not 0: exactly `8 − d` are lost, also when nothing follows).
-/
namespace Iodine.C02L
open Iodine Iodine.Gen Iodine.World

/-- `recovery_down` (`C02qM8`) for immediate mode, with timer room (`Roomy`, restored by every packet). -/
theorem recovery_down_imm {P : Par} (hP : P.Ok) (fuel : Nat) (hfuel : 36 ≤ fuel) :
    ∀ (frames : List (List Nat)) (d : Nat) (w : W), QuietImmD P 0 d w → d < 8 →
      (4 ≤ d → w.cs.c.inpkt.fragment = 0 → w.cs.c.inpkt.len = 0) →
      Roomy P w → w.cs.c.selecttimeout ≤ 9 → 0 < (Server.getUser w.srv P.u).fragsize →
      (∀ f ∈ frames, DownFrameOk (Server.getUser w.srv P.u).tunIp (Server.getUser w.srv P.u).fragsize f) →
      lostDown' d (decide (w.cs.c.inpkt.fragment = 0)) ≤ frames.length →
      (frames.length = lostDown' d (decide (w.cs.c.inpkt.fragment = 0)) → d = 0 ∨ (4 ≤ d ∧ w.cs.c.inpkt.fragment ≠ 0)) →
      QuietImm P (offerAllS P.u fuel w frames) ∧
      (offerAllS P.u fuel w frames).tunC = w.tunC ++ (frames.drop (lostDown' d (decide (w.cs.c.inpkt.fragment = 0)))).map tunImage ∧
      (offerAllS P.u fuel w frames).tunS = w.tunS := by
  intro frames d w hq hd8 hlen0 hr hsel hF hok hl hall
  have h := recovery_down (P := P) (fuel := fuel) (Q := QuietImmD P 0) (E := fun w => Roomy P w ∧ w.cs.c.selecttimeout ≤ 9)
    (fun hq hd8 hlen0 hE f hF hf => by
      obtain ⟨w', e, b1, b2, b3, b4, b5, hcase⟩ := down_packet_imm_any hP fuel hfuel hq hd8 hlen0 hE.1 hE.2 f hF hf
      exact ⟨w', e, b1, b2, b3, ⟨b4, by rw [b5]; exact hE.2⟩, hcase.imp_left fun ⟨hz, h2, h4⟩ => ⟨hz, quietImmD_zero.2 h2, h4⟩⟩)
    frames d w hq hd8 hlen0 ⟨hr, hsel⟩ hF hok hl hall
  exact ⟨quietImmD_zero.1 h.1, h.2⟩

/-- Immediate mode, the server's downstream sequence number `d < 8` ahead of the
client's, timer room; if the client's fragment number is 0 its reassembly buffer is empty.  Of the frames offered to the
server one after the other (each after the joint state is quiescent again) exactly the first `lostDown' d (fragment = 0)`
are LOST; all the others arrive at the client's tun device exactly once and in order; the joint state is synchronised and
quiescent. -/
theorem recovery_after_giveups_down_imm {P : Par} (hP : P.Ok) (fuel : Nat) (hfuel : 36 ≤ fuel) :
    ∀ (frames : List (List Nat)) (d : Nat) (w : W), QuietImmD P 0 d w → d < 8 →
      (4 ≤ d → w.cs.c.inpkt.fragment = 0 → w.cs.c.inpkt.len = 0) →
      Roomy P w → w.cs.c.selecttimeout ≤ 9 → 0 < (Server.getUser w.srv P.u).fragsize →
      (∀ f ∈ frames, DownFrameOk (Server.getUser w.srv P.u).tunIp (Server.getUser w.srv P.u).fragsize f) →
      lostDown' d (decide (w.cs.c.inpkt.fragment = 0)) < frames.length →
      QuietImm P (offerAllS P.u fuel w frames) ∧
      (offerAllS P.u fuel w frames).tunC = w.tunC ++ (frames.drop (lostDown' d (decide (w.cs.c.inpkt.fragment = 0)))).map tunImage ∧
      (offerAllS P.u fuel w frames).tunS = w.tunS :=
  fun frames d w hq hd hlen0 hr hsel hF hok hl =>
    recovery_down_imm hP fuel hfuel frames d w hq hd hlen0 hr hsel hF hok (Nat.le_of_lt hl) (fun he => absurd he (Nat.ne_of_gt hl))

/-- Immediate mode, the server's downstream sequence number `d ∈ 4..7` ahead of
the client's (what `d` downstream packets given up in a row leave behind), the client's last fragment number not 0, timer room:
of the frames offered to the server one after the other (each after the joint state is quiescent again) exactly the first
`8 − d` are LOST; all the others arrive at the client's tun device exactly once and in order; the joint state is synchronised
and quiescent. -/
theorem recovery_after_giveups_down_imm_partial {P : Par} (hP : P.Ok) (fuel : Nat) (hfuel : 36 ≤ fuel)
    (lost rest : List (List Nat)) (w : W) (d : Nat) (hd : 4 ≤ d ∧ d ≤ 7) (hlen : lost.length = 8 - d)
    (hq : QuietImmD P 0 d w) (hfr : w.cs.c.inpkt.fragment ≠ 0) (hr : Roomy P w) (hsel : w.cs.c.selecttimeout ≤ 9)
    (hF : 0 < (Server.getUser w.srv P.u).fragsize)
    (hok : ∀ f ∈ lost ++ rest, DownFrameOk (Server.getUser w.srv P.u).tunIp (Server.getUser w.srv P.u).fragsize f) :
    QuietImm P (offerAllS P.u fuel w (lost ++ rest)) ∧
    (offerAllS P.u fuel w (lost ++ rest)).tunC = w.tunC ++ rest.map tunImage ∧
    (offerAllS P.u fuel w (lost ++ rest)).tunS = w.tunS := by
  have hfr' : decide (w.cs.c.inpkt.fragment = 0) = false := by simpa using hfr
  have hn : lostDown' d (decide (w.cs.c.inpkt.fragment = 0)) = lost.length := by
    rw [hfr', lostDown'_false, hlen]; unfold lostDown; rw [if_neg (by omega)]
  have := recovery_down_imm hP fuel hfuel (lost ++ rest) d w hq (by omega) (fun _ h => absurd h hfr) hr hsel hF hok
    (by rw [hn, List.length_append]; exact Nat.le_add_right _ _) (fun _ => Or.inr ⟨hd.1, hfr⟩)
  rw [hn, List.drop_left] at this
  exact this

end Iodine.C02L
