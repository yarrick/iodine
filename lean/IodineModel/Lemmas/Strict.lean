import IodineModel.Wire.Strict
/-
Facts about the strict parser (IodineModel/Wire/Strict.lean): it inverts the reference wire encodings
`encLabels` / `encName` / pointers / character strings, and the record parser composes.  `joinDots` is the dotted text of a label
sequence, the form in which iodine holds a name.  Nothing here mentions the model of dns.c.
-/
namespace Iodine.Wire

/-- labels on the wire: length byte followed by the label bytes -/
def encLabels (ls : List (List Nat)) : List Nat := ls.flatMap (fun l => l.length :: l)
/-- number of bytes of `encLabels ls` -/
def labLen (ls : List (List Nat)) : Nat := (ls.map (fun l => l.length + 1)).sum
/-- an uncompressed name: labels and the root byte -/
def encName (ls : List (List Nat)) : List Nat := encLabels ls ++ [0]
/-- a compression pointer to offset `off` -/
def encPtr (off : Nat) : List Nat := [192 + off / 256, off % 256]
/-- big-endian 16 and 32 bit -/
def be16 (v : Nat) : List Nat := [v / 256 % 256, v % 256]
def be32 (v : Nat) : List Nat := [v / 16777216 % 256, v / 65536 % 256, v / 256 % 256, v % 256]

@[simp] theorem encLabels_nil : encLabels [] = [] := rfl
@[simp] theorem encLabels_cons (l : List Nat) (ls) : encLabels (l :: ls) = l.length :: l ++ encLabels ls := by
  simp [encLabels]
theorem encLabels_append (a b : List (List Nat)) : encLabels (a ++ b) = encLabels a ++ encLabels b := by
  simp [encLabels]
@[simp] theorem labLen_nil : labLen [] = 0 := rfl
@[simp] theorem labLen_cons (l : List Nat) (ls) : labLen (l :: ls) = l.length + 1 + labLen ls := by
  simp [labLen]
theorem labLen_append (a b : List (List Nat)) : labLen (a ++ b) = labLen a + labLen b := by
  simp [labLen]
@[simp] theorem encLabels_length (ls) : (encLabels ls).length = labLen ls := by
  induction ls with
  | nil => rfl
  | cons l ls ih => simp [ih]; omega
@[simp] theorem encName_length (ls) : (encName ls).length = labLen ls + 1 := by simp [encName]

def LabelsOK (ls : List (List Nat)) : Prop := ∀ l ∈ ls, 1 ≤ l.length ∧ l.length ≤ 63

theorem LabelsOK.tail {l : List Nat} {ls} (h : LabelsOK (l :: ls)) : LabelsOK ls :=
  fun x hx => h x (by simp [hx])

theorem length_le_labLen (ls : List (List Nat)) (h : LabelsOK ls) : 2 * ls.length ≤ labLen ls := by
  induction ls with
  | nil => simp
  | cons l ls ih =>
    have := h l (by simp)
    have := ih h.tail
    simp; omega

/-- the labels as a dotted name (iodine's representation of a host name) -/
def joinDots : List (List Nat) → List Nat
  | [] => []
  | [l] => l
  | l :: l' :: r => l ++ 46 :: joinDots (l' :: r)

theorem joinDots_cons_cons (l l' : List Nat) (r : List (List Nat)) :
    joinDots (l :: l' :: r) = l ++ 46 :: joinDots (l' :: r) := rfl

theorem joinDots_length (ls : List (List Nat)) (h : ls ≠ []) : (joinDots ls).length + 1 = labLen ls := by
  induction ls with
  | nil => exact absurd rfl h
  | cons l r ih =>
    cases r with
    | nil => simp [joinDots, labLen]
    | cons l' r =>
      have := ih (by simp)
      simp only [joinDots_cons_cons, List.length_append, List.length_cons, labLen_cons] at this ⊢
      omega

theorem joinDots_cons_head (c : Nat) (a : List Nat) (rest : List (List Nat)) :
    joinDots ((c :: a) :: rest) = c :: joinDots (a :: rest) := by
  cases rest with
  | nil => rfl
  | cons b r => rfl

theorem mem_joinDots {c : Nat} {l : List Nat} : ∀ {ls : List (List Nat)}, l ∈ ls → c ∈ l → c ∈ joinDots ls
  | [_], hl, hc => by rw [List.mem_singleton.mp hl] at hc; exact hc
  | _ :: l' :: r, hl, hc => by
    rw [joinDots_cons_cons]
    rcases List.mem_cons.mp hl with rfl | hl
    · exact List.mem_append_left _ hc
    · exact List.mem_append_right _ (List.mem_cons_of_mem _ (mem_joinDots hl hc))

namespace Strict

@[simp] theorem wireLen_eq (n : Name) : wireLen n = labLen n + 1 := rfl

/-- compression targets contributed by the explicit labels `ls` starting at `pos`, when the name
continues with `tl` -/
def entriesT : Nat → Name → Name → List (Nat × Name)
  | _, [], _ => []
  | pos, l :: ls, tl => (pos, l :: ls ++ tl) :: entriesT (pos + 1 + l.length) ls tl

theorem lookup_append_of_some {k : List (Nat × Name)} {off : Nat} {n : Name} (e : List (Nat × Name))
    (h : lookup k off = some n) : lookup (k ++ e) off = some n := by
  induction k with
  | nil => simp [lookup] at h
  | cons x k ih =>
    obtain ⟨o, m⟩ := x
    simp only [List.cons_append, lookup] at h ⊢
    by_cases heq : o = off
    · simpa [heq] using h
    · simp only [heq, if_false] at h ⊢; exact ih h

theorem lookup_append_of_none {k : List (Nat × Name)} {off : Nat} (e : List (Nat × Name))
    (h : lookup k off = none) : lookup (k ++ e) off = lookup e off := by
  induction k with
  | nil => rfl
  | cons x k ih =>
    obtain ⟨o, m⟩ := x
    simp only [List.cons_append, lookup] at h ⊢
    by_cases heq : o = off
    · simp [heq] at h
    · simp only [heq, if_false] at h ⊢; exact ih h

theorem lookup_entriesT_none (ls tl : Name) : ∀ (pos off : Nat), (off < pos ∨ pos + labLen ls ≤ off) →
    lookup (entriesT pos ls tl) off = none := by
  induction ls with
  | nil => intro pos off _; rfl
  | cons l ls ih =>
    intro pos off h
    simp only [labLen_cons] at h
    simp only [entriesT, lookup]
    rw [if_neg (by omega)]
    exact ih _ _ (by omega)

/-- the target registered for the label that starts after the labels `a` -/
theorem lookup_entriesT_mid (a b tl : Name) (hb : b ≠ []) (ha : LabelsOK a) : ∀ (pos : Nat),
    lookup (entriesT pos (a ++ b) tl) (pos + labLen a) = some (b ++ tl) := by
  induction a with
  | nil =>
    intro pos
    cases b with
    | nil => exact absurd rfl hb
    | cons l b => simp [entriesT, lookup]
  | cons l a ih =>
    intro pos
    have := ha l (by simp)
    simp only [List.cons_append, entriesT, lookup, labLen_cons]
    rw [if_neg (by omega)]
    have h := ih ha.tail (pos + 1 + l.length)
    rw [show pos + (l.length + 1 + labLen a) = pos + 1 + l.length + labLen a by omega]
    exact h

/-- explicit labels in front of whatever ends the name -/
theorem nameLoop_labels (ls : Name) (hls : LabelsOK ls) (start : Nat) (k : List (Nat × Name))
    (tailB rest : List Nat) (tn : Name) (tes : List (Nat × Name)) (s' : St) :
    ∀ (fuel pos : Nat),
    nameLoop fuel start ⟨tailB ++ rest, pos + labLen ls, k⟩ = some (tn, tes, s') →
    nameLoop (fuel + ls.length) start ⟨encLabels ls ++ tailB ++ rest, pos, k⟩ =
      some (ls ++ tn, entriesT pos ls tn ++ tes, s') := by
  induction ls with
  | nil => intro fuel pos h; simpa [entriesT] using h
  | cons l ls ih =>
    intro fuel pos h
    have hl := hls l (by simp)
    simp only [labLen_cons] at h
    have h' := ih hls.tail fuel (pos + 1 + l.length)
      (by rw [show pos + 1 + l.length + labLen ls = pos + (l.length + 1 + labLen ls) by omega]; exact h)
    simp only [List.length_cons, encLabels_cons, List.cons_append, List.append_assoc]
    rw [show fuel + (ls.length + 1) = (fuel + ls.length) + 1 by omega]
    unfold nameLoop
    simp only []
    rw [if_neg (by omega), if_pos (by omega)]
    rw [if_neg (by simp)]
    simp only [List.drop_left', List.take_left', List.append_assoc] at h' ⊢
    rw [h']
    simp [entriesT]

/-- a root-terminated name -/
theorem parseName_enc (ls : Name) (hls : LabelsOK ls) (hlen : labLen ls + 1 ≤ 255) (pos : Nat)
    (k : List (Nat × Name)) (rest : List Nat) :
    parseName ⟨encName ls ++ rest, pos, k⟩ =
      some (ls, ⟨rest, pos + labLen ls + 1, k ++ entriesT pos ls []⟩) := by
  have hn := length_le_labLen ls hls
  have h0 : nameLoop ((127 - ls.length) + 1) pos ⟨[0] ++ rest, pos + labLen ls, k⟩ =
      some ([], [], ⟨rest, pos + labLen ls + 1, k⟩) := by
    simp [nameLoop]
  have h := nameLoop_labels ls hls pos k [0] rest [] [] _ _ pos h0
  unfold parseName
  simp only [encName]
  rw [show (128 : Nat) = (127 - ls.length) + 1 + ls.length by omega, h]
  simp only [List.append_nil, wireLen_eq]
  rw [if_pos (by omega)]

theorem parseName_labels_ptr (ls : Name) (hls : LabelsOK ls) (off pos : Nat) (k : List (Nat × Name))
    (tn : Name) (rest : List Nat) (hoff : off < 16384) (hback : off < pos)
    (hk : lookup k off = some tn) (hlen : labLen ls + labLen tn + 1 ≤ 255) :
    parseName ⟨encLabels ls ++ encPtr off ++ rest, pos, k⟩ =
      some (ls ++ tn, ⟨rest, pos + labLen ls + 2, k ++ (entriesT pos ls tn ++ [(pos + labLen ls, tn)])⟩) := by
  have hn := length_le_labLen ls hls
  have h0 : nameLoop ((127 - ls.length) + 1) pos ⟨encPtr off ++ rest, pos + labLen ls, k⟩ =
      some (tn, [(pos + labLen ls, tn)], ⟨rest, pos + labLen ls + 2, k⟩) := by
    simp only [encPtr, nameLoop, List.cons_append, List.nil_append]
    rw [if_neg (by omega), if_neg (by omega), if_pos (by omega)]
    have : (192 + off / 256 - 192) * 256 + off % 256 = off := by omega
    simp only [this]
    rw [if_pos hback, hk]
  have h := nameLoop_labels ls hls pos k (encPtr off) rest tn _ _ _ pos h0
  unfold parseName
  simp only []
  rw [show (128 : Nat) = (127 - ls.length) + 1 + ls.length by omega, h]
  simp only [wireLen_eq, labLen_append]
  rw [if_pos (by omega)]

theorem parseName_ptr (off pos : Nat) (k : List (Nat × Name)) (tn : Name) (rest : List Nat)
    (hoff : off < 16384) (hback : off < pos) (hk : lookup k off = some tn) (hlen : labLen tn + 1 ≤ 255) :
    parseName ⟨encPtr off ++ rest, pos, k⟩ = some (tn, ⟨rest, pos + 2, k ++ [(pos, tn)]⟩) := by
  have h := parseName_labels_ptr [] (by intro l hl; simp at hl) off pos k tn rest hoff hback hk (by simpa using hlen)
  simpa [entriesT] using h

/-! ### fixed-size readers -/

theorem be16_val (v : Nat) (h : v < 65536) : v / 256 % 256 * 256 + v % 256 = v := by omega
theorem be32_val (v : Nat) (h : v < 4294967296) :
    ((v / 16777216 % 256 * 256 + v / 65536 % 256) * 256 + v / 256 % 256) * 256 + v % 256 = v := by omega

theorem u16_be16 (v : Nat) (h : v < 65536) (rest : List Nat) (pos : Nat) (k) :
    u16 ⟨be16 v ++ rest, pos, k⟩ = some (v, ⟨rest, pos + 2, k⟩) := by
  simp [be16, u16, be16_val v h]

theorem u32_be32 (v : Nat) (h : v < 4294967296) (rest : List Nat) (pos : Nat) (k) :
    u32 ⟨be32 v ++ rest, pos, k⟩ = some (v, ⟨rest, pos + 4, k⟩) := by
  simp [be32, u32, be32_val v h]

theorem takeN_append (d rest : List Nat) (pos : Nat) (k) :
    takeN d.length ⟨d ++ rest, pos, k⟩ = some (d, ⟨rest, pos + d.length, k⟩) := by
  simp [takeN]

/-! ### records -/

def rrFixed (ty cls ttl rdlen : Nat) : List Nat := be16 ty ++ be16 cls ++ be32 ttl ++ be16 rdlen

@[simp] theorem rrFixed_length (ty cls ttl rdlen : Nat) : (rrFixed ty cls ttl rdlen).length = 10 := rfl

/-- A record = owner bytes, fixed part, RDATA; the owner and the typed RDATA are parsed by the given facts. -/
theorem parseRR_compose (sec : Section) (ownerB rd rest : List Nat) (pos pos1 : Nat)
    (k k1 k2 : List (Nat × Name)) (owner : Name) (ty cls ttl : Nat) (view : RData)
    (hty : ty < 65536) (hcls : cls < 65536) (httl : ttl < 4294967296) (hrd : rd.length < 65536)
    (hown : ∀ tl, parseName ⟨ownerB ++ tl, pos, k⟩ = some (owner, ⟨tl, pos1, k1⟩))
    (hview : parseRData sec owner ty rd.length ⟨rd ++ rest, pos1 + 10, k1⟩ =
      some (view, ⟨rest, pos1 + 10 + rd.length, k2⟩)) :
    parseRR sec ⟨ownerB ++ (rrFixed ty cls ttl rd.length ++ (rd ++ rest)), pos, k⟩ =
      some (⟨owner, ty, cls, ttl, rd, view⟩, ⟨rest, pos1 + 10 + rd.length, k2⟩) := by
  unfold parseRR
  rw [hown]
  simp only [rrFixed, List.append_assoc]
  rw [u16_be16 ty hty]; simp only []
  rw [u16_be16 cls hcls]; simp only []
  rw [u32_be32 ttl httl]; simp only []
  rw [u16_be16 _ hrd]; simp only []
  rw [if_neg (by simp)]
  rw [show pos1 + 2 + 2 + 4 + 2 = pos1 + 10 by omega, hview]
  simp

def OpaqueType (ty : Nat) : Prop :=
  ty ≠ 1 ∧ ty ≠ 2 ∧ ty ≠ 5 ∧ ty ≠ 12 ∧ ty ≠ 15 ∧ ty ≠ 16 ∧ ty ≠ 33 ∧ ty ≠ 41

instance (ty : Nat) : Decidable (OpaqueType ty) := by unfold OpaqueType; infer_instance

theorem parseRData_other (sec : Section) (owner : Name) (ty : Nat) (h : OpaqueType ty) (rd rest : List Nat)
    (pos : Nat) (k) :
    parseRData sec owner ty rd.length ⟨rd ++ rest, pos, k⟩ = some (.other, ⟨rest, pos + rd.length, k⟩) := by
  obtain ⟨h1, h2, h5, h12, h15, h16, h33, h41⟩ := h
  unfold parseRData
  rw [if_neg h1, if_neg (by omega), if_neg h15, if_neg h33, if_neg h16, if_neg h41, takeN_append]
  rfl

theorem parseRData_a (sec : Section) (owner : Name) (rd rest : List Nat) (hrd : rd.length = 4) (pos : Nat) (k) :
    parseRData sec owner 1 rd.length ⟨rd ++ rest, pos, k⟩ = some (.a rd, ⟨rest, pos + rd.length, k⟩) := by
  unfold parseRData
  rw [if_pos rfl, if_pos hrd, ← hrd, takeN_append]
  rfl

theorem parseRData_name (sec : Section) (owner : Name) (ty rdlen : Nat) (h : ty = 2 ∨ ty = 5 ∨ ty = 12)
    (s s' : St) (n : Name) (hn : parseName s = some (n, s')) :
    parseRData sec owner ty rdlen s = some (.name n, s') := by
  unfold parseRData
  rw [if_neg (by omega), if_pos h, hn]
  rfl

theorem parseRData_mx (sec : Section) (owner : Name) (rdlen pref : Nat) (hp : pref < 65536)
    (nb : List Nat) (pos : Nat) (k) (s' : St) (n : Name)
    (hn : parseName ⟨nb, pos + 2, k⟩ = some (n, s')) :
    parseRData sec owner 15 rdlen ⟨be16 pref ++ nb, pos, k⟩ = some (.mx pref n, s') := by
  unfold parseRData
  rw [if_neg (by omega), if_neg (by omega), if_pos rfl, u16_be16 pref hp]
  simp only [hn]
  rfl

theorem parseRData_srv (sec : Section) (owner : Name) (rdlen prio weight port : Nat)
    (h1 : prio < 65536) (h2 : weight < 65536) (h3 : port < 65536)
    (nb : List Nat) (pos : Nat) (k) (s' : St) (n : Name)
    (hn : parseName ⟨nb, pos + 6, k⟩ = some (n, s')) :
    parseRData sec owner 33 rdlen ⟨be16 prio ++ (be16 weight ++ (be16 port ++ nb)), pos, k⟩ =
      some (.srv prio weight port n, s') := by
  unfold parseRData
  rw [if_neg (by omega), if_neg (by omega), if_neg (by omega), if_pos rfl, u16_be16 prio h1]
  simp only []
  rw [u16_be16 weight h2]
  simp only []
  rw [u16_be16 port h3]
  simp only []
  rw [show pos + 2 + 2 + 2 = pos + 6 by omega, hn]
  rfl

/-- character strings: the same shape as labels, but up to 255 bytes -/
theorem txtStrings_enc (ss : List (List Nat)) (h : ∀ s ∈ ss, s.length ≤ 255) :
    ∀ fuel, ss.length < fuel → txtStrings fuel (encLabels ss) = some ss := by
  induction ss with
  | nil => intro fuel hf; cases fuel with
    | zero => omega
    | succ f => rfl
  | cons s ss ih =>
    intro fuel hf
    cases fuel with
    | zero => omega
    | succ f =>
      simp only [encLabels_cons, List.cons_append, txtStrings]
      rw [if_neg (by simp)]
      simp only [List.drop_left', List.take_left']
      rw [ih (fun x hx => h x (by simp [hx])) f (by simpa using hf)]

theorem labLen_ge_length (ss : List (List Nat)) : ss.length ≤ labLen ss := by
  induction ss with
  | nil => simp
  | cons l ls ih => simp; omega

theorem parseRData_txt (sec : Section) (owner : Name) (s0 : List Nat) (ss : List (List Nat))
    (h : ∀ s ∈ s0 :: ss, s.length ≤ 255) (rest : List Nat) (pos : Nat) (k) :
    parseRData sec owner 16 (labLen (s0 :: ss)) ⟨encLabels (s0 :: ss) ++ rest, pos, k⟩ =
      some (.txt (s0 :: ss), ⟨rest, pos + labLen (s0 :: ss), k⟩) := by
  unfold parseRData
  rw [if_neg (by omega), if_neg (by omega), if_neg (by omega), if_neg (by omega), if_pos rfl]
  have := takeN_append (encLabels (s0 :: ss)) rest pos k
  rw [encLabels_length] at this
  rw [this]
  simp only []
  rw [txtStrings_enc (s0 :: ss) h _ (by have := labLen_ge_length (s0 :: ss); omega)]

theorem parseRData_opt_empty (rest : List Nat) (pos : Nat) (k) :
    parseRData .additional [] 41 0 ⟨rest, pos, k⟩ = some (.opt [], ⟨rest, pos, k⟩) := by
  simp [parseRData, takeN, optOptions]

/-! ### sections -/

theorem parseRRs_cons (sec : Section) (n : Nat) (s s' s'' : St) (rr : RR) (rrs : List RR)
    (h1 : parseRR sec s = some (rr, s')) (h2 : parseRRs sec n s' = some (rrs, s'')) :
    parseRRs sec (n + 1) s = some (rr :: rrs, s'') := by
  simp [parseRRs, h1, h2]

theorem parseRRs_one (sec : Section) (s s' : St) (rr : RR) (h1 : parseRR sec s = some (rr, s')) :
    parseRRs sec 1 s = some ([rr], s') :=
  parseRRs_cons sec 0 s s' s' rr [] h1 rfl

/-- one question with an uncompressed name at offset 12 -/
theorem parseQuestions_one (ls : Name) (hls : LabelsOK ls) (hlen : labLen ls + 1 ≤ 255) (ty cls : Nat)
    (hty : ty < 65536) (hcls : cls < 65536) (rest : List Nat) :
    parseQuestions 1 ⟨encName ls ++ (be16 ty ++ (be16 cls ++ rest)), 12, []⟩ =
      some ([(ls, ty, cls)], ⟨rest, 12 + labLen ls + 1 + 4, entriesT 12 ls []⟩) := by
  simp only [parseQuestions, parseQuestion]
  rw [parseName_enc ls hls hlen]
  simp only []
  rw [u16_be16 ty hty]; simp only []
  rw [u16_be16 cls hcls]
  simp

/-- the 12 header bytes -/
def msgHeader (id flags qd an ns ar : Nat) : List Nat :=
  be16 id ++ be16 flags ++ be16 qd ++ be16 an ++ be16 ns ++ be16 ar

theorem parseBody_of (id flags qd an ns ar : Nat) (hid : id < 65536) (hf : flags < 65536)
    (hqd : qd < 65536) (han : an < 65536) (hns : ns < 65536) (har : ar < 65536) (body : List Nat)
    (q : List (Name × Nat × Nat)) (a n r : List RR) (s1 s2 s3 s4 : St)
    (h1 : parseQuestions qd ⟨body, 12, []⟩ = some (q, s1))
    (h2 : parseRRs .answer an s1 = some (a, s2))
    (h3 : parseRRs .authority ns s2 = some (n, s3))
    (h4 : parseRRs .additional ar s3 = some (r, s4))
    (hend : s4.inp = []) :
    parseBody (msgHeader id flags qd an ns ar ++ body) = some ⟨id, flags, q, a, n, r⟩ := by
  simp only [msgHeader, be16, List.cons_append, List.nil_append, parseBody]
  rw [be16_val id hid, be16_val flags hf, be16_val qd hqd, be16_val an han, be16_val ns hns, be16_val ar har]
  rw [h1]; simp only []
  rw [h2]; simp only []
  rw [h3]; simp only []
  rw [h4]; simp only []
  simp [hend]

theorem parseRR_ptr (sec : Section) (off pos : Nat) (k k2 : List (Nat × Name)) (owner : Name)
    (hk : lookup k off = some owner) (hoff : off < 16384) (hback : off < pos) (hlen : labLen owner + 1 ≤ 255)
    (ty cls ttl : Nat) (rd rest : List Nat) (view : RData)
    (hty : ty < 65536) (hcls : cls < 65536) (httl : ttl < 4294967296) (hrd : rd.length < 65536)
    (hview : parseRData sec owner ty rd.length ⟨rd ++ rest, pos + 12, k ++ [(pos, owner)]⟩ =
      some (view, ⟨rest, pos + 12 + rd.length, k2⟩)) :
    parseRR sec ⟨encPtr off ++ (rrFixed ty cls ttl rd.length ++ (rd ++ rest)), pos, k⟩ =
      some (⟨owner, ty, cls, ttl, rd, view⟩, ⟨rest, pos + 12 + rd.length, k2⟩) := by
  have := parseRR_compose sec (encPtr off) rd rest pos (pos + 2) k (k ++ [(pos, owner)]) k2 owner ty cls ttl view
    hty hcls httl hrd (fun tl => parseName_ptr off pos k owner tl hoff hback hk hlen)
    (by rw [show pos + 2 + 10 = pos + 12 by omega]; exact hview)
  rw [this, show pos + 2 + 10 = pos + 12 by omega]

/-! ### byte ranges -/

def Bytes (l : List Nat) : Prop := ∀ x ∈ l, x < 256

instance (l : List Nat) : Decidable (Bytes l) := by unfold Bytes; infer_instance

theorem Bytes_append {a b : List Nat} : Bytes (a ++ b) ↔ Bytes a ∧ Bytes b := by
  simp only [Bytes, List.mem_append]
  constructor
  · intro h; exact ⟨fun x hx => h x (Or.inl hx), fun x hx => h x (Or.inr hx)⟩
  · rintro ⟨h1, h2⟩ x (hx | hx)
    · exact h1 x hx
    · exact h2 x hx

theorem Bytes_nil : Bytes [] := by intro x hx; simp at hx
theorem Bytes_cons {a : Nat} {l : List Nat} : Bytes (a :: l) ↔ a < 256 ∧ Bytes l := by
  simp [Bytes]
theorem Bytes_be16 (v : Nat) : Bytes (be16 v) := by
  intro x hx; simp [be16] at hx; omega
theorem Bytes_be32 (v : Nat) : Bytes (be32 v) := by
  intro x hx; simp [be32] at hx; omega
theorem Bytes_rrFixed (ty cls ttl rdlen : Nat) : Bytes (rrFixed ty cls ttl rdlen) := by
  simp only [rrFixed, Bytes_append]
  exact ⟨⟨⟨Bytes_be16 _, Bytes_be16 _⟩, Bytes_be32 _⟩, Bytes_be16 _⟩
theorem Bytes_msgHeader (id flags qd an ns ar : Nat) : Bytes (msgHeader id flags qd an ns ar) := by
  simp only [msgHeader, Bytes_append]
  exact ⟨⟨⟨⟨⟨Bytes_be16 _, Bytes_be16 _⟩, Bytes_be16 _⟩, Bytes_be16 _⟩, Bytes_be16 _⟩, Bytes_be16 _⟩
theorem Bytes_encLabels (ls : List (List Nat)) (hl : ∀ l ∈ ls, l.length < 256) (hb : ∀ l ∈ ls, Bytes l) :
    Bytes (encLabels ls) := by
  induction ls with
  | nil => exact Bytes_nil
  | cons l ls ih =>
    simp only [encLabels_cons, List.cons_append, Bytes_cons, Bytes_append]
    exact ⟨hl l (by simp), hb l (by simp), ih (fun x hx => hl x (by simp [hx])) (fun x hx => hb x (by simp [hx]))⟩
theorem Bytes_encName (ls : List (List Nat)) (hl : ∀ l ∈ ls, l.length < 256) (hb : ∀ l ∈ ls, Bytes l) :
    Bytes (encName ls) := by
  simp only [encName, Bytes_append]
  exact ⟨Bytes_encLabels ls hl hb, by simp [Bytes]⟩
theorem Bytes_encPtr (off : Nat) (h : off < 16384) : Bytes (encPtr off) := by
  intro x hx; simp [encPtr] at hx; omega

theorem parseMsg_of_bytes (l : List Nat) (h : Bytes l) : parseMsg l = parseBody l := by
  unfold parseMsg
  rw [if_pos]
  simpa [Bytes] using h

/-- whatever follows the header and a well-formed first question: if the message parses at all, it has
this id and this question -/
theorem parseMsg_echo (id f1 an ns ar ty : Nat) (ls : Name) (t : List Nat) (m : Msg)
    (hid : id < 65536) (hty : ty < 65536) (hls : LabelsOK ls) (hlen : labLen ls + 1 ≤ 255)
    (h : parseMsg (be16 id ++ [f1, 0] ++ be16 1 ++ be16 an ++ be16 ns ++ be16 ar ++
      (encName ls ++ (be16 ty ++ (be16 1 ++ t)))) = some m) :
    m.id = id ∧ m.qd = [(ls, ty, 1)] := by
  unfold parseMsg at h
  split at h
  · simp only [be16, List.cons_append, List.nil_append, parseBody] at h
    rw [be16_val id hid, show 1 / 256 % 256 * 256 + 1 % 256 = 1 by decide] at h
    have hq := parseQuestions_one ls hls hlen ty 1 hty (by omega) t
    simp only [be16] at hq
    simp only [List.cons_append, List.nil_append] at hq
    rw [hq] at h
    simp only at h
    split at h
    · cases h
    · split at h
      · cases h
      · split at h
        · cases h
        · split at h
          · cases h; exact ⟨rfl, rfl⟩
          · cases h
  · cases h

end Strict
end Iodine.Wire
