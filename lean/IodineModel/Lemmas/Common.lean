import IodineModel.Common
/-
Lemmas about `tolower`, `check_topdomain` and `query_datalen` (Common.lean), phrased in the model's own vocabulary
(`plainChar`, `toLower`, `atBoundary`); the declarative specification of C17 lives in Props/C17.lean.
The label-splitting function of the specification enters `ctLoop_iff`/`checkTopdomain_iff` only through
its two characteristic equations `h1`, `h2`.  `query_datalen` against its specification comes from one induction over a
star-free stretch of the domain (`qdScan_stretch`); the last two sections say what an accepted name looks like and that the
letter case of a name is not seen.
-/
namespace Iodine.Common

/-- `tolower` with its test spelled as a proposition (the form the specifications use) -/
theorem toLower_eq_ite (c : Nat) : toLower c = if 65 ≤ c ∧ c ≤ 90 then c + 32 else c := by
  unfold toLower
  by_cases h : 65 ≤ c ∧ c ≤ 90
  · simp [h]
  · rw [if_neg h]
    have : ¬ ((decide (65 ≤ c) && decide (c ≤ 90)) = true) := by simpa using h
    rw [if_neg this]

/-- lower-casing produces and removes no character that is not a letter -/
theorem toLower_eq_iff (c v : Nat) (hv : v < 65 ∨ (90 < v ∧ v < 97) ∨ 122 < v) : toLower c = v ↔ c = v := by
  rw [toLower_eq_ite]
  split <;> omega

theorem toLower_eq_const {a b k : Nat} (hk : k < 65 ∨ (90 < k ∧ k < 97) ∨ 122 < k) (h : toLower a = toLower b) :
    a = k ↔ b = k := by
  rw [← toLower_eq_iff a k hk, ← toLower_eq_iff b k hk, h]

theorem toLower_idem (a : Nat) : toLower (toLower a) = toLower a := by
  simp only [toLower_eq_ite]
  split
  · split <;> omega
  · rfl

/-! ### check_topdomain -/

theorem plainChar_dot : plainChar 46 = true := by decide
theorem plainChar_star : plainChar 42 = false := by decide

theorem toLower_eq_star {c d : Nat} (hd : plainChar d = true) (h : toLower c = toLower d) : c ≠ 42 := fun hc => by
  rw [(toLower_eq_const (k := 42) (by omega) h).mp hc, plainChar_star] at hd
  cases hd

theorem ctStep_dot (w : Bool) (s1 i dots chunk : Nat) :
    ctStep w s1 46 i dots chunk = if chunk = 0 ∨ 63 < chunk then none else some (dots + 1, 0) := by
  unfold ctStep
  by_cases h0 : chunk = 0
  · simp [h0]
  · by_cases h1 : 63 < chunk
    · simp [h0, h1]
    · simp [h0, h1, plainChar_dot]

theorem ctStep_nondot_pos (w : Bool) (s1 c i dots chunk : Nat) (hc : c ≠ 46) :
    ctStep w s1 c (i + 1) dots chunk = if plainChar c = true then some (dots, chunk + 1) else none := by
  unfold ctStep
  simp only [if_neg hc, Nat.add_one_ne_zero, if_false]
  split <;> simp

theorem ctStep_nondot_zero (w : Bool) (s1 c dots chunk : Nat) (hc : c ≠ 46) :
    ctStep w s1 c 0 dots chunk =
      if plainChar c = true ∨ (w = true ∧ c = 42 ∧ s1 = 46) then some (dots, chunk + 1) else none := by
  unfold ctStep
  simp only [if_neg hc, if_true]
  by_cases hp : plainChar c = true
  · simp [hp]
  · by_cases hw : w = true <;> by_cases h42 : c = 42 <;> by_cases hs : s1 = 46 <;> simp [hp, hw, h42, hs]

/-- The loop from index ≥ 1 on, started in the middle of a label `cur` already read. -/
theorem ctLoop_iff (split : List Nat → List (List Nat))
    (h1 : ∀ cur, 46 ∉ cur → split cur = [cur])
    (h2 : ∀ cur rest, 46 ∉ cur → split (cur ++ 46 :: rest) = cur :: split rest)
    (w : Bool) (s1 : Nat) (rest : List Nat) :
    ∀ (i dots : Nat) (cur : List Nat), 46 ∉ cur →
      (ctLoop w s1 rest (i + 1) dots cur.length = 0 ↔
        (∀ c ∈ rest, plainChar c = true) ∧
        (∀ l ∈ split (cur ++ rest), 1 ≤ l.length ∧ l.length ≤ 63) ∧
        2 ≤ dots + (split (cur ++ rest)).length) := by
  induction rest with
  | nil =>
    intro i dots cur hcur
    simp only [ctLoop, List.append_nil, h1 cur hcur, List.mem_singleton, forall_eq, List.length_singleton,
      List.not_mem_nil, false_imp_iff, implies_true, true_and]
    by_cases hd : dots = 0
    · simp [hd]
    · by_cases h0 : cur.length = 0
      · simp [hd, h0]
      · by_cases h63 : cur.length > 63
        · simp only [if_neg hd, if_neg h0, if_pos h63]
          constructor
          · intro h; cases h
          · intro h; omega
        · simp only [if_neg hd, if_neg h0, if_neg h63]
          constructor
          · intro _; omega
          · intro _; trivial
  | cons c rest ih =>
    intro i dots cur hcur
    by_cases hc : c = 46
    · subst hc
      simp only [ctLoop, ctStep_dot, h2 cur rest hcur]
      by_cases hch : cur.length = 0 ∨ 63 < cur.length
      · simp only [if_pos hch]
        constructor
        · intro h; cases h
        · intro ⟨_, hl, _⟩
          have := hl cur (List.mem_cons_self)
          omega
      · simp only [if_neg hch]
        have := ih (i + 1) (dots + 1) [] (by simp)
        simp only [List.length_nil, List.nil_append] at this
        rw [this]
        simp only [List.mem_cons, forall_eq_or_imp, plainChar_dot, true_and, List.length_cons]
        constructor
        · intro ⟨a, b, c⟩; exact ⟨a, ⟨by omega, b⟩, by omega⟩
        · intro ⟨a, ⟨_, b⟩, c⟩; exact ⟨a, b, by omega⟩
    · simp only [ctLoop, ctStep_nondot_pos _ _ _ _ _ _ hc]
      have hcur' : 46 ∉ cur ++ [c] := by
        simp only [List.mem_append, List.mem_singleton, not_or]
        exact ⟨hcur, fun h => hc h.symm⟩
      have := ih (i + 1) dots (cur ++ [c]) hcur'
      simp only [List.length_append, List.length_singleton, List.append_assoc, List.singleton_append] at this
      by_cases hp : plainChar c = true
      · rw [if_pos hp]
        simp only [this, List.mem_cons, forall_eq_or_imp, hp, true_and]
      · rw [if_neg hp]
        constructor
        · intro h; cases h
        · intro ⟨h, _⟩; exact (hp (h c List.mem_cons_self)).elim

/-- `check_topdomain` accepts exactly the strings described on the right; `split` is any function with the
two characteristic properties of "split on '.'". -/
theorem checkTopdomain_iff (split : List Nat → List (List Nat))
    (h1 : ∀ cur, 46 ∉ cur → split cur = [cur])
    (h2 : ∀ cur rest, 46 ∉ cur → split (cur ++ 46 :: rest) = cur :: split rest)
    (s : List Nat) (w : Bool) :
    checkTopdomain s w = 0 ↔
      3 ≤ s.length ∧ s.length ≤ 128 ∧
      ((∀ c ∈ s, plainChar c = true) ∨
        (w = true ∧ ∃ r, s = 42 :: 46 :: r ∧ ∀ c ∈ r, plainChar c = true)) ∧
      2 ≤ (split s).length ∧ ∀ l ∈ split s, 1 ≤ l.length ∧ l.length ≤ 63 := by
  unfold checkTopdomain
  by_cases hl3 : s.length < 3
  · simp only [if_pos hl3]
    constructor
    · intro h; cases h
    · intro ⟨h, _⟩; omega
  by_cases hl128 : s.length > 128
  · simp only [if_neg hl3, if_pos hl128]
    constructor
    · intro h; cases h
    · intro ⟨_, h, _⟩; omega
  simp only [if_neg hl3, if_neg hl128]
  match s, hl3 with
  | [], hl3 => simp at hl3
  | c :: rest, _ =>
    by_cases hc : c = 46
    · subst hc
      simp only [List.head?_cons, if_true]
      constructor
      · intro h; cases h
      · intro ⟨_, _, _, _, hl⟩
        have := h2 [] rest (by simp)
        simp only [List.nil_append] at this
        rw [this] at hl
        have := hl [] List.mem_cons_self
        simp at this
    · have hne : ¬ (c :: rest).head? = some 46 := by simp [hc]
      simp only [if_neg hne, ctLoop, ctStep_nondot_zero _ _ _ _ _ hc]
      have hL := ctLoop_iff split h1 h2 w ((c :: rest).getD 1 0) rest 0 0 [c]
        (by simp only [List.mem_singleton]; exact fun h => hc h.symm)
      simp only [List.length_singleton, List.singleton_append, Nat.zero_add] at hL
      have hlen : 3 ≤ (c :: rest).length ∧ (c :: rest).length ≤ 128 := by omega
      by_cases hfirst : plainChar c = true ∨ (w = true ∧ c = 42 ∧ (c :: rest).getD 1 0 = 46)
      · simp only [if_pos hfirst, hL]
        constructor
        · intro ⟨hr, hlab, hcnt⟩
          refine ⟨hlen.1, hlen.2, ?_, hcnt, hlab⟩
          rcases hfirst with hp | ⟨hw, h42, h1'⟩
          · left
            intro x hx
            rcases List.mem_cons.mp hx with rfl | hx
            · exact hp
            · exact hr x hx
          · right
            refine ⟨hw, ?_⟩
            match rest, hr, h1' with
            | [], _, h1' => simp at h1'
            | d :: r, hr, h1' =>
              simp only [List.getD_cons_succ, List.getD_cons_zero] at h1'
              refine ⟨r, by rw [h42, h1'], fun x hx => hr x (List.mem_cons_of_mem _ hx)⟩
        · intro ⟨_, _, hch, hcnt, hlab⟩
          refine ⟨?_, hlab, hcnt⟩
          rcases hch with hp | ⟨_, r, hs, hr⟩
          · exact fun x hx => hp x (List.mem_cons_of_mem _ hx)
          · simp only [List.cons.injEq] at hs
            rw [hs.2]
            intro x hx
            rcases List.mem_cons.mp hx with rfl | hx
            · exact plainChar_dot
            · exact hr x hx
      · simp only [if_neg hfirst]
        constructor
        · intro h; cases h
        · intro ⟨_, _, hch, _, _⟩
          exfalso
          apply hfirst
          rcases hch with hp | ⟨hw, r, hs, _⟩
          · exact Or.inl (hp c List.mem_cons_self)
          · simp only [List.cons.injEq] at hs
            right
            refine ⟨hw, hs.1, ?_⟩
            rw [hs.2]; rfl

/-! ### query_datalen -/

theorem atBoundary_iff (l : List Nat) : atBoundary l = true ↔ (l = [] ∨ l.head? = some 46) := by
  unfold atBoundary
  simp [List.isEmpty_iff]

/-- The wildcard phase (`topdomain[tpos] == '*'`), entered on a character that is not `'.'`. -/
theorem qdScan_star (qr : List Nat) :
    ∀ (n : Nat), qr.head? ≠ some 46 →
      (qdScan qr [42] = some n ↔
        ∃ lr pr, qr = lr ++ pr ∧ lr ≠ [] ∧ 46 ∉ lr ∧ 42 ∉ lr ∧ atBoundary pr = true ∧ n = pr.length) := by
  induction qr with
  | nil =>
    intro n _
    simp only [qdScan]
    constructor
    · intro h; cases h
    · intro ⟨lr, pr, h, hne, _⟩
      exact (hne (List.append_eq_nil_iff.mp h.symm).1).elim
  | cons qc qrest ih =>
    intro n hhead
    have hqc : qc ≠ 46 := by simpa using hhead
    simp only [qdScan, if_true]
    by_cases h42 : qc = 42
    · simp only [if_pos h42]
      constructor
      · intro h; cases h
      · intro ⟨lr, pr, hq, hne, _, hs, _⟩
        match lr, hne with
        | x :: lr', _ =>
          simp only [List.cons_append, List.cons.injEq] at hq
          exact (hs (by rw [← hq.1, h42]; exact List.mem_cons_self)).elim
    · simp only [if_neg h42]
      by_cases hb : atBoundary qrest = true
      · simp only [if_pos hb]
        constructor
        · intro h
          refine ⟨[qc], qrest, rfl, by simp, ?_, ?_, hb, ?_⟩
          · simpa using fun h => hqc h.symm
          · simpa using fun h => h42 h.symm
          · simpa using h.symm
        · intro ⟨lr, pr, hq, hne, hd, _, _, hn⟩
          match lr, hne with
          | x :: lr', _ =>
            simp only [List.cons_append, List.cons.injEq] at hq
            have hlr : lr' = [] := by
              match lr', hq with
              | [], _ => rfl
              | y :: l'', hq =>
                exfalso
                rcases (atBoundary_iff _).mp hb with h | h
                · rw [h] at hq; simp at hq
                · rw [hq.2] at h
                  simp only [List.cons_append, List.head?_cons, Option.some.injEq] at h
                  exact hd (by rw [h]; simp)
            subst hlr
            simp only [List.nil_append] at hq
            rw [hn, hq.2]
      · simp only [if_neg hb]
        have hhead' : qrest.head? ≠ some 46 := fun h => hb ((atBoundary_iff _).mpr (Or.inr h))
        rw [ih n hhead']
        constructor
        · intro ⟨lr, pr, hq, _, hd, hs, hb', hn⟩
          refine ⟨qc :: lr, pr, by rw [hq]; rfl, by simp, ?_, ?_, hb', hn⟩
          · simp only [List.mem_cons, not_or]; exact ⟨fun h => hqc h.symm, hd⟩
          · simp only [List.mem_cons, not_or]; exact ⟨fun h => h42 h.symm, hs⟩
        · intro ⟨lr, pr, hq, hne, hd, hs, hb', hn⟩
          match lr, hne with
          | x :: lr', _ =>
            simp only [List.cons_append, List.cons.injEq] at hq
            have hne' : lr' ≠ [] := by
              intro h
              subst h
              simp only [List.nil_append] at hq
              exact hb (hq.2 ▸ hb')
            exact ⟨lr', pr, hq.2, hne', fun h => hd (List.mem_cons_of_mem _ h),
              fun h => hs (List.mem_cons_of_mem _ h), hb', hn⟩

/-- Matching a `'*'`-free stretch `tr'` of the (reversed) domain: the comparison goes on with what follows it (`tl`), or,
at the end of the domain, ends in the boundary test. -/
theorem qdScan_stretch (tr' tl : List Nat) :
    ∀ (qr : List Nat) (n : Nat), 42 ∉ tr' → (tr' ≠ [] ∨ tl ≠ []) →
      (qdScan qr (tr' ++ tl) = some n ↔
        ∃ sr rest, qr = sr ++ rest ∧ sr.map toLower = tr'.map toLower ∧
          (if tl = [] then atBoundary rest = true ∧ n = rest.length else qdScan rest tl = some n)) := by
  induction tr' with
  | nil =>
    intro qr n _ hne
    have htl : tl ≠ [] := hne.resolve_left (fun h => h rfl)
    simp only [List.nil_append, List.map_nil, List.map_eq_nil_iff, if_neg htl]
    constructor
    · intro h; exact ⟨[], qr, rfl, rfl, h⟩
    · intro ⟨sr, rest, hq, hs, h⟩
      subst hs
      simpa [hq] using h
  | cons tc tr'' ih =>
    intro qr n hstar _
    have htc : tc ≠ 42 := fun h => hstar (h ▸ List.mem_cons_self)
    have hstar' : 42 ∉ tr'' := fun h => hstar (List.mem_cons_of_mem _ h)
    -- a split of the query whose first part matches `tc :: tr''` starts with a character matching `tc`
    have hcons : ∀ {P : List Nat → Prop} {qc : Nat} {qrest : List Nat},
        (∃ sr rest, qc :: qrest = sr ++ rest ∧ sr.map toLower = (tc :: tr'').map toLower ∧ P rest) ↔
          toLower qc = toLower tc ∧ ∃ sr rest, qrest = sr ++ rest ∧ sr.map toLower = tr''.map toLower ∧ P rest := by
      intro P qc qrest
      constructor
      · intro ⟨sr, rest, hq, hm, h⟩
        match sr, hm with
        | [], hm => simp at hm
        | x :: sr', hm =>
          simp only [List.cons_append, List.cons.injEq] at hq
          simp only [List.map_cons, List.cons.injEq] at hm
          exact ⟨hq.1 ▸ hm.1, sr', rest, hq.2, hm.2, h⟩
      · intro ⟨heq, sr, rest, hq, hm, h⟩
        exact ⟨qc :: sr, rest, by rw [hq]; rfl, by simp [heq, hm], h⟩
    match qr with
    | [] =>
      simp only [qdScan]
      constructor
      · intro h; cases h
      · intro ⟨sr, rest, hq, hm, _⟩
        have : sr = [] := (List.append_eq_nil_iff.mp hq.symm).1
        subst this
        simp at hm
    | qc :: qrest =>
      rw [hcons]
      simp only [List.cons_append, qdScan, if_neg htc]
      by_cases heq : toLower qc = toLower tc
      · simp only [heq, true_and]
        by_cases hend : tr'' = [] ∧ tl = []
        · -- the domain ends here
          obtain ⟨h1, h2⟩ := hend
          subst h1 h2
          simp only [List.append_nil, List.isEmpty_nil, if_true, List.map_nil, List.map_eq_nil_iff]
          constructor
          · intro h
            split at h
            · rename_i hb
              exact ⟨[], qrest, rfl, rfl, hb, by simpa using h.symm⟩
            · cases h
          · intro ⟨sr, rest, hq, hs, hb, hn⟩
            subst hs
            simp only [List.nil_append] at hq
            subst hq
            simp [hb, hn]
        · have hne : tr'' ≠ [] ∨ tl ≠ [] := by
            by_cases h1 : tr'' = []
            · exact Or.inr (fun h2 => hend ⟨h1, h2⟩)
            · exact Or.inl h1
          have hie : (tr'' ++ tl).isEmpty = false := by
            rcases hne with h | h <;> simp [h]
          simp only [hie, Bool.false_eq_true, if_false]
          exact ih qrest n hstar' hne
      · simp only [heq, false_and]
        constructor
        · intro h; cases h
        · intro h; exact h.elim

/-! ### query_datalen, un-reversed -/

theorem boundary_reverse (l : List Nat) :
    atBoundary l.reverse = true ↔ (l = [] ∨ l.getLast? = some 46) := by
  rw [atBoundary_iff, List.reverse_eq_nil_iff, List.head?_reverse]

theorem map_reverse_eq {f : Nat → Nat} {a b : List Nat} :
    a.reverse.map f = b.reverse.map f ↔ a.map f = b.map f := by
  rw [List.map_reverse, List.map_reverse]
  exact List.reverse_inj

/-- Domain without `'*'`. -/
theorem queryDatalen_plain (q t : List Nat) (n : Nat) (ht3 : 3 ≤ t.length) (hstar : 42 ∉ t) :
    queryDatalen q t = some n ↔
      ∃ pre suf, q = pre ++ suf ∧ suf.map toLower = t.map toLower ∧
        (pre = [] ∨ pre.getLast? = some 46) ∧ n = pre.length := by
  unfold queryDatalen
  by_cases hlen : q.length < t.length
  · have : (decide (t.length < 3) || decide (q.length < t.length)) = true := by simp [hlen]
    rw [if_pos this]
    constructor
    · intro h; cases h
    · intro ⟨pre, suf, hq, hm, _⟩
      have h1 : suf.length = t.length := by simpa using congrArg List.length hm
      have h2 : q.length = pre.length + suf.length := by rw [hq, List.length_append]
      omega
  · have : ¬ (decide (t.length < 3) || decide (q.length < t.length)) = true := by
      simp only [Bool.or_eq_true, decide_eq_true_eq]; omega
    rw [if_neg this]
    have hne : t.reverse ≠ [] := by
      intro h; rw [List.reverse_eq_nil_iff] at h; subst h; simp at ht3
    have := qdScan_stretch t.reverse [] q.reverse n (by simpa using hstar) (Or.inl hne)
    simp only [List.append_nil, if_pos] at this
    rw [this]
    constructor
    · intro ⟨sr, pr, hq, hm, hb, hn⟩
      refine ⟨pr.reverse, sr.reverse, ?_, ?_, ?_, ?_⟩
      · rw [← List.reverse_append, ← hq, List.reverse_reverse]
      · rw [← map_reverse_eq, List.reverse_reverse]; exact hm
      · rw [← boundary_reverse, List.reverse_reverse]; exact hb
      · rw [List.length_reverse]; exact hn
    · intro ⟨pre, suf, hq, hm, hb, hn⟩
      refine ⟨suf.reverse, pre.reverse, ?_, ?_, ?_, ?_⟩
      · rw [hq, List.reverse_append]
      · rw [map_reverse_eq]; exact hm
      · rw [boundary_reverse]; exact hb
      · rw [List.length_reverse]; exact hn

/-- When the plain part `t'` (starting with `'.'`) has been matched and the query has no `".."`, the
wildcard phase is entered on a character that is not `'.'`. -/
theorem star_entry (q sr rest t' : List Nat) (hq : ¬ [46, 46] <:+: q) (h : q.reverse = sr ++ rest)
    (hm : sr.map toLower = t'.reverse.map toLower) (hdot : t'.head? = some 46) :
    rest.head? ≠ some 46 := by
  intro hr
  match t', hdot with
  | d :: t'', hdot =>
    simp only [List.head?_cons, Option.some.injEq] at hdot
    subst hdot
    have hm' : sr.reverse.map toLower = (46 :: t'').map toLower := by
      rw [← map_reverse_eq, List.reverse_reverse]; exact hm
    match hs : sr.reverse, hm' with
    | x :: s', hm' =>
      simp only [List.map_cons, List.cons.injEq] at hm'
      have hx : x = 46 := (toLower_eq_const (k := 46) (by omega) hm'.1).mpr rfl
      subst hx
      match rest, hr with
      | y :: rest', hr =>
        simp only [List.head?_cons, Option.some.injEq] at hr
        subst hr
        apply hq
        refine ⟨rest'.reverse, s', ?_⟩
        have : q = (sr ++ 46 :: rest').reverse := by rw [← h, List.reverse_reverse]
        rw [this, List.reverse_append, hs]
        simp

/-- Domain `'*' :: t'` with `t'` free of `'*'` and starting with `'.'`; query without `".."`. -/
theorem queryDatalen_wild (q t' : List Nat) (n : Nat) (ht : 2 ≤ t'.length) (hstar : 42 ∉ t')
    (hdot : t'.head? = some 46) (hq : ¬ [46, 46] <:+: q) :
    queryDatalen q (42 :: t') = some n ↔
      ∃ pre lab suf', q = pre ++ (lab ++ suf') ∧ lab ≠ [] ∧ 46 ∉ lab ∧ 42 ∉ lab ∧
        suf'.map toLower = t'.map toLower ∧ (pre = [] ∨ pre.getLast? = some 46) ∧ n = pre.length := by
  unfold queryDatalen
  by_cases hlen : q.length < (42 :: t').length
  · have : (decide ((42 :: t').length < 3) || decide (q.length < (42 :: t').length)) = true := by
      simp only [Bool.or_eq_true, decide_eq_true_eq]; exact Or.inr hlen
    rw [if_pos this]
    constructor
    · intro h; cases h
    · intro ⟨pre, lab, suf', hq', hne, _, _, hm, _⟩
      have h1 : suf'.length = t'.length := by simpa using congrArg List.length hm
      have h2 : q.length = pre.length + (lab.length + suf'.length) := by
        rw [hq', List.length_append, List.length_append]
      have h3 : 0 < lab.length := List.length_pos_iff.mpr hne
      simp only [List.length_cons] at hlen
      omega
  · have : ¬ (decide ((42 :: t').length < 3) || decide (q.length < (42 :: t').length)) = true := by
      simp only [Bool.or_eq_true, decide_eq_true_eq, List.length_cons] at hlen ⊢; omega
    rw [if_neg this, List.reverse_cons,
      qdScan_stretch t'.reverse [42] q.reverse n (by simpa using hstar) (Or.inr (by simp))]
    simp only [List.cons_ne_nil, if_false]
    constructor
    · intro ⟨sr, rest, hqr, hm, hs⟩
      have hhead := star_entry q sr rest t' hq hqr hm hdot
      obtain ⟨lr, pr, hrest, hne, hd, hst, hb, hn⟩ := (qdScan_star rest n hhead).mp hs
      refine ⟨pr.reverse, lr.reverse, sr.reverse, ?_, ?_, ?_, ?_, ?_, ?_, ?_⟩
      · rw [← List.reverse_append, ← List.reverse_append, List.append_assoc, ← hrest, ← hqr,
          List.reverse_reverse]
      · simpa using hne
      · simpa using hd
      · simpa using hst
      · rw [← map_reverse_eq, List.reverse_reverse]; exact hm
      · rw [← boundary_reverse, List.reverse_reverse]; exact hb
      · rw [List.length_reverse]; exact hn
    · intro ⟨pre, lab, suf', hq', hne, hd, hst, hm, hb, hn⟩
      have hqr : q.reverse = suf'.reverse ++ (lab.reverse ++ pre.reverse) := by
        rw [hq', List.reverse_append, List.reverse_append, List.append_assoc]
      have hm' : suf'.reverse.map toLower = t'.reverse.map toLower := map_reverse_eq.mpr hm
      have hhead := star_entry q _ _ t' hq hqr hm' hdot
      refine ⟨suf'.reverse, lab.reverse ++ pre.reverse, hqr, hm', ?_⟩
      rw [qdScan_star _ n hhead]
      refine ⟨lab.reverse, pre.reverse, rfl, by simpa using hne, by simpa using hd,
        by simpa using hst, (boundary_reverse _).mpr hb, by rw [List.length_reverse]; exact hn⟩

/-! ### what a name that `query_datalen` accepts looks like -/

theorem qdScan_split : ∀ (l t : List Nat) (n : Nat), qdScan l t = some n →
    ∃ a b, l = a ++ b ∧ a ≠ [] ∧ b.length = n ∧ atBoundary b = true
  | [], _, _, h => by simp [qdScan] at h
  | _ :: _, [], _, h => by simp [qdScan] at h
  | qc :: qrest, tc :: trest, n, h => by
    unfold qdScan at h
    split at h
    · split at h
      · cases h
      · split at h
        · rename_i hb
          cases h
          exact ⟨[qc], qrest, rfl, by simp, rfl, hb⟩
        · obtain ⟨a, b, hab, _, hn, hb⟩ := qdScan_split qrest (tc :: trest) n h
          exact ⟨qc :: a, b, by rw [hab]; rfl, by simp, hn, hb⟩
    · split at h
      · split at h
        · split at h
          · rename_i hb
            cases h
            exact ⟨[qc], qrest, rfl, by simp, rfl, hb⟩
          · cases h
        · obtain ⟨a, b, hab, _, hn, hb⟩ := qdScan_split qrest trest n h
          exact ⟨qc :: a, b, by rw [hab]; rfl, by simp, hn, hb⟩
      · cases h

/-- the name `query_datalen` accepts is `pre ++ top` with `|pre| = domain_len`, `top` non-empty, and `pre` empty or ending
in a dot -/
theorem queryDatalen_split {q t : List Nat} {n : Nat} (h : queryDatalen q t = some n) :
    ∃ top, top ≠ [] ∧ q.drop n = top ∧ n ≤ q.length ∧ (n = 0 ∨ ∃ sub, q = sub ++ 46 :: top ∧ sub.length + 1 = n) := by
  unfold queryDatalen at h
  split at h
  · cases h
  · obtain ⟨a, b, hab, ha, hn, hb⟩ := qdScan_split _ _ _ h
    have hq : q = b.reverse ++ a.reverse := by
      have := congrArg List.reverse hab
      simpa using this
    refine ⟨a.reverse, by simpa using ha, ?_, ?_, ?_⟩
    · rw [hq, List.drop_left' (by simpa using hn)]
    · rw [hq]; simp; omega
    · rw [atBoundary_iff] at hb
      rcases hb with hb | hb
      · left; rw [← hn, hb]; rfl
      · right
        cases b with
        | nil => simp at hb
        | cons c r =>
          simp only [List.head?_cons, Option.some.injEq] at hb
          subst hb
          refine ⟨r.reverse, ?_, ?_⟩
          · rw [hq]; simp
          · rw [← hn]; simp

/-- the length tests at the head of `query_datalen` -/
theorem queryDatalen_some_le {q t : List Nat} {n : Nat} (h : queryDatalen q t = some n) :
    3 ≤ t.length ∧ t.length ≤ q.length := by
  unfold queryDatalen at h
  split at h
  · cases h
  · next hc => simp at hc; omega

/-! ### `query_datalen` does not see the letter case of the name -/

theorem atBoundary_map_toLower (s : List Nat) : atBoundary (s.map toLower) = atBoundary s := by
  cases s with
  | nil => rfl
  | cons a s =>
    simp only [atBoundary, List.map_cons, List.isEmpty_cons, List.head?_cons, Bool.false_or]
    exact Bool.eq_iff_iff.mpr (by simp only [beq_iff_eq, Option.some.injEq]; exact toLower_eq_iff a 46 (by omega))

theorem qdScan_map_toLower (s : List Nat) : ∀ tr, qdScan (s.map toLower) tr = qdScan s tr := by
  induction s with
  | nil => intro tr; rfl
  | cons a s ih =>
    intro tr
    cases tr with
    | nil => rfl
    | cons tc trest =>
      have h42 := toLower_eq_iff a 42 (by omega)
      simp only [List.map_cons, qdScan, atBoundary_map_toLower, List.length_map, ih, toLower_idem, h42]

theorem queryDatalen_map_toLower (q t : List Nat) : queryDatalen (q.map toLower) t = queryDatalen q t := by
  unfold queryDatalen
  rw [List.length_map, ← List.map_reverse, qdScan_map_toLower]

/-- two names that differ only in the case of letters — any letters, each one separately — match alike -/
theorem queryDatalen_lower (n n' t : List Nat) (h : n.map toLower = n'.map toLower) :
    queryDatalen n t = queryDatalen n' t := by
  rw [← queryDatalen_map_toLower n, h, queryDatalen_map_toLower]

end Iodine.Common
