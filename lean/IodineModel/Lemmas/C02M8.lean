import IodineModel.Lemmas.C02M6
import IodineModel.Lemmas.WorldFast
/-
C02 / lazy mode, DOWNSTREAM — presentation in terms of `runPrompt` / `runPromptCount`, and NON-VACUITY: the concrete lazy
session `exWL` of `C02L10.lean` (user 0, "t.ab", Base32, NULL queries, downstream fragments of 30 bytes; the client's first
ping is held by the server) satisfies the hypotheses, and the theorems applied to it.  Also: the state after an UPSTREAM
packet (`exWU`, `send_ping_soon = 20`) — quiescent as well, but a one-fragment downstream packet offered there needs 2
scheduler steps, not 3 (`lazy_down_count_depends_on_ping_due`).
-/
namespace Iodine.C02L
open Iodine Iodine.World

/-- **clean path, downstream, lazy mode** (every frame that needs `g ≤ 16` fragments), from ANY quiescent joint state in lazy
mode.  `offerS frame` followed by the prompt schedule reaches, after exactly `downStepsL sps g` scheduler steps (`2·g + 1`;
2 if `g = 1` and a ping was due at the client), a quiescent state again (with no ping due); the client has written exactly
one frame to its tun device — the offered one — and the server none. -/
theorem clean_path_downstream_lazy_counted {P : Par} (hP : P.Ok) {w : W} (hq : QuietLazy P w)
    (frame : List Nat) (hF : 0 < (Server.getUser w.srv P.u).fragsize)
    (hok : DownFrameOk (Server.getUser w.srv P.u).tunIp (Server.getUser w.srv P.u).fragsize frame) :
    ∃ w', (∀ fuel, 2 * downFrags (Server.getUser w.srv P.u).fragsize (frame.length + 1) (frame.length + 1) + 1 ≤ fuel →
        runPrompt P.u fuel (step w (.offerS frame)) = w') ∧
      (∀ fuel, 2 * downFrags (Server.getUser w.srv P.u).fragsize (frame.length + 1) (frame.length + 1) + 1 ≤ fuel →
        runPromptCount P.u fuel (step w (.offerS frame)) 0 =
          (w', downStepsL w.cs.c.sendPingSoon (downFrags (Server.getUser w.srv P.u).fragsize (frame.length + 1) (frame.length + 1)))) ∧
      QuietLazy P w' ∧ w'.cs.c.sendPingSoon = 0 ∧ w'.tunC = w.tunC ++ [tunImage frame] ∧ w'.tunS = w.tunS := by
  obtain ⟨w', h1, h2, h3, h4, h5, _⟩ := down_packet_lazy hP hq frame hF hok
  have hle := downStepsL_le w.cs.c.sendPingSoon (downFrags (Server.getUser w.srv P.u).fragsize (frame.length + 1) (frame.length + 1))
  refine ⟨w', fun fuel hf => runPrompt_of_steps P.u _ _ _ h1 h2.quiet fuel (by omega), fun fuel hf => ?_, h2, h3, h4, h5⟩
  have := runPromptCount_of_steps P.u _ _ _ h1 h2.quiet fuel 0 (by omega)
  simpa using this

/-- … and from a quiescent state in which no ping is due at the client: exactly `2·g + 1` steps -/
theorem clean_path_downstream_lazy_nodue {P : Par} (hP : P.Ok) {w : W} (hq : QuietLazy P w) (hsps : w.cs.c.sendPingSoon = 0)
    (frame : List Nat) (hF : 0 < (Server.getUser w.srv P.u).fragsize)
    (hok : DownFrameOk (Server.getUser w.srv P.u).tunIp (Server.getUser w.srv P.u).fragsize frame) :
    ∃ w', (∀ fuel, 2 * downFrags (Server.getUser w.srv P.u).fragsize (frame.length + 1) (frame.length + 1) + 1 ≤ fuel →
        runPrompt P.u fuel (step w (.offerS frame)) = w') ∧
      (∀ fuel, 2 * downFrags (Server.getUser w.srv P.u).fragsize (frame.length + 1) (frame.length + 1) + 1 ≤ fuel →
        runPromptCount P.u fuel (step w (.offerS frame)) 0 =
          (w', 2 * downFrags (Server.getUser w.srv P.u).fragsize (frame.length + 1) (frame.length + 1) + 1)) ∧
      QuietLazy P w' ∧ w'.cs.c.sendPingSoon = 0 ∧ w'.tunC = w.tunC ++ [tunImage frame] ∧ w'.tunS = w.tunS := by
  have := clean_path_downstream_lazy_counted hP hq frame hF hok
  unfold downStepsL at this
  rw [if_neg (fun hc => hc.1 hsps)] at this
  exact this

/-! ### non-vacuity -/

theorem exWL_sps : exWL.cs.c.sendPingSoon = 0 := by rw [exWL_client]; rfl

/-- the demo session as far as the examples need it: downstream fragments of 30 bytes, the client's tunnel address
10.0.0.2, nothing written to either tun device, nothing received downstream yet -/
theorem exWL_facts : (Server.getUser exWL.srv exPL.u).fragsize = 30 ∧ (Server.getUser exWL.srv exPL.u).tunIp = 0x0a000002 ∧
    (exWL.tunS = [] ∧ exWL.tunC = []) ∧ exWL.cs.c.inpkt.fragment = 0 ∧ exWL.cs.c.inpkt.len = 0 := by decide +kernel

theorem exWL_fragsize : (Server.getUser exWL.srv exPL.u).fragsize = 30 := exWL_facts.1

theorem exWL_tunIp : (Server.getUser exWL.srv exPL.u).tunIp = 0x0a000002 := exWL_facts.2.1

/-- a frame of 30 payload bytes addressed to the client's tunnel address 10.0.0.2: 55 compressed bytes, two fragments -/
theorem ex_acceptable_down_lazy :
    DownFrameOk (Server.getUser exWL.srv exPL.u).tunIp (Server.getUser exWL.srv exPL.u).fragsize (demoFrame 2 30) ∧
    downFrags 30 ((demoFrame 2 30).length + 1) ((demoFrame 2 30).length + 1) = 2 := by
  rw [exWL_fragsize, exWL_tunIp]
  exact ⟨⟨by decide, by decide, by decide +kernel, by decide +kernel⟩, by decide +kernel⟩

/-- the theorem applied: the 2-fragment frame arrives at the client's tun device after exactly 5 scheduler steps, unchanged -/
example : ∃ w', runPromptCount 0 5 (step exWL (.offerS (demoFrame 2 30))) 0 = (w', 5) ∧ QuietLazy exPL w' ∧
    w'.cs.c.sendPingSoon = 0 ∧ w'.tunC = [demoFrame 2 30] ∧ w'.tunS = [] := by
  obtain ⟨w', _, h2, h3, h4, h5, h6⟩ := clean_path_downstream_lazy_nodue exPL_ok ex_quiescent_lazy exWL_sps (demoFrame 2 30)
    (by rw [exWL_fragsize]; decide) ex_acceptable_down_lazy.1
  have hi : tunImage (demoFrame 2 30) = demoFrame 2 30 := by decide
  have ht := exWL_facts.2.2.1
  refine ⟨w', ?_, h3, h4, by rw [h5, hi, ht.2]; rfl, by rw [h6, ht.1]⟩
  have := h2 5 (by rw [exWL_fragsize, ex_acceptable_down_lazy.2]; omega)
  rw [exWL_fragsize, ex_acceptable_down_lazy.2] at this
  exact this

/-- … and a sequence of three frames (one, two and five fragments) -/
example : (offerAllS 0 40 exWL [demoFrame 2 4, demoFrame 2 30, demoFrame 2 100]).tunC =
    [demoFrame 2 4, demoFrame 2 30, demoFrame 2 100] := by
  have hok : ∀ f ∈ [demoFrame 2 4, demoFrame 2 30, demoFrame 2 100],
      DownFrameOk (Server.getUser exWL.srv exPL.u).tunIp (Server.getUser exWL.srv exPL.u).fragsize f := by
    intro f hf
    simp only [List.mem_cons, List.not_mem_nil, or_false] at hf
    rw [exWL_fragsize, exWL_tunIp]
    rcases hf with rfl | rfl | rfl
    · exact ⟨by decide, by decide, by decide +kernel, by decide +kernel⟩
    · exact ⟨by decide, by decide, by decide +kernel, by decide +kernel⟩
    · exact ⟨by decide +kernel, by decide +kernel, by decide +kernel, by decide +kernel⟩
  have := (down_sequence_lazy exPL_ok 40 (by omega) _ exWL ex_quiescent_lazy (by rw [exWL_fragsize]; decide) hok).2.1
  have ht := exWL_facts.2.2.1.2
  show (offerAllS exPL.u 40 exWL _).tunC = _
  rw [this, ht]
  decide

/-- the step counts of the three runs, as the theorem predicts them: 3, 5 and 11 (`test_lazy_down_1/2/5` in `C02t2.lean`) -/
example : 2 * downFrags 30 ((demoFrame 2 4).length + 1) ((demoFrame 2 4).length + 1) + 1 = 3 ∧
    2 * downFrags 30 ((demoFrame 2 30).length + 1) ((demoFrame 2 30).length + 1) + 1 = 5 ∧
    2 * downFrags 30 ((demoFrame 2 100).length + 1) ((demoFrame 2 100).length + 1) + 1 = 11 := by decide +kernel

/-! ### the step count does depend on whether a ping was due: the state after an upstream packet -/

/-- `exWL` after one upstream packet (one fragment) was carried -/
def exWU : W := runPrompt 0 40 (step exWL (.offerC (demoFrame 9 4)))

theorem ex_quiescent_after_up : QuietLazy exPL exWU := by
  have hok : UpFrameOk exPL (Server.getUser exWL.srv exPL.u).tunIp (demoFrame 9 4) :=
    ⟨by decide, by decide, by unfold Codec.Bytes; decide, by decide +kernel, by decide +kernel⟩
  obtain ⟨w', h1, _, h3, _⟩ := clean_path_upstream_lazy exPL_ok ex_quiescent_lazy (demoFrame 9 4) hok
  have := h1 40 (by have := hok.frags; omega)
  have e : exWU = w' := this
  rw [e]; exact h3

/-- … the "Packet completed" branch of the client left `send_ping_soon = 20` behind -/
theorem exWU_facts : exWU.cs.c.sendPingSoon = 20 ∧ (Server.getUser exWU.srv exPL.u).fragsize = 30 ∧
    (Server.getUser exWU.srv exPL.u).tunIp = 0x0a000002 := by
  rw [show exWU = Wire.runPrompt (Wire.step Client.wqFast) 0 40 (Wire.step Client.wqFast exWL (.offerC (demoFrame 9 4))) by
    unfold exWU; rw [runPrompt_fast, step_fast]]
  decide +kernel

/-- From the quiescent state `exWU` (a ping is due at the client in 20 ms) the one-fragment frame `demoFrame 2 4` is delivered
exactly once after 2 scheduler steps — the third step of the `2·g + 1` schedule does not exist: the statement "`2·g + 1` steps from
every `QuietLazy` state" is FALSE, which is why `clean_path_downstream_lazy_nodue` (above) asks for `send_ping_soon = 0` and
`down_packet_lazy` counts `downStepsL`. -/
theorem lazy_down_count_depends_on_ping_due :
    QuietLazy exPL exWU ∧
    DownFrameOk (Server.getUser exWU.srv exPL.u).tunIp (Server.getUser exWU.srv exPL.u).fragsize (demoFrame 2 4) ∧
    downFrags (Server.getUser exWU.srv exPL.u).fragsize ((demoFrame 2 4).length + 1) ((demoFrame 2 4).length + 1) = 1 ∧
    promptSteps exPL.u (2 * 1 + 1) (step exWU (.offerS (demoFrame 2 4))) = none ∧
    ∃ w', promptSteps exPL.u 2 (step exWU (.offerS (demoFrame 2 4))) = some w' ∧ QuietLazy exPL w' ∧
      w'.tunC = exWU.tunC ++ [demoFrame 2 4] ∧ w'.tunS = exWU.tunS := by
  have hok : DownFrameOk (Server.getUser exWU.srv exPL.u).tunIp (Server.getUser exWU.srv exPL.u).fragsize (demoFrame 2 4) := by
    rw [exWU_facts.2.1, exWU_facts.2.2]
    exact ⟨by decide, by decide, by decide +kernel, by decide +kernel⟩
  have hg : downFrags (Server.getUser exWU.srv exPL.u).fragsize ((demoFrame 2 4).length + 1) ((demoFrame 2 4).length + 1) = 1 := by
    rw [exWU_facts.2.1]; decide +kernel
  obtain ⟨w', h1, h2, _, h4, h5, _⟩ := down_packet_lazy exPL_ok ex_quiescent_after_up (demoFrame 2 4)
    (by rw [exWU_facts.2.1]; decide) hok
  rw [hg, exWU_facts.1] at h1
  have h1' : promptSteps exPL.u 2 (step exWU (.offerS (demoFrame 2 4))) = some w' := h1
  have hi : tunImage (demoFrame 2 4) = demoFrame 2 4 := by decide
  refine ⟨ex_quiescent_after_up, hok, hg, ?_, w', h1', h2, by rw [h4, hi], h5⟩
  rw [promptSteps_add exPL.u 2 1 _ w' h1']
  simp [promptSteps, h2.quiet]

end Iodine.C02L
