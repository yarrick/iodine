/-
Runs of a step machine `step : σ → ι → σ × ω` over a list of inputs, in the two shapes the files about the client's machines
(`Client.hstep`, `Client.cstep`) use — `foldl` over OUTPUTS `fun o i => step o.1 i` and `foldl` over STATES
`fun s i => (step s i).1` —, and the two ways a step lemma is lifted to runs: an invariant (`run_inv`) and a budget of silent
timeouts (`run_budget`).
-/
namespace Iodine.Runs

theorem fst_foldl {σ ω ι : Type} (step : σ → ι → σ × ω) (l : List ι) : ∀ o : σ × ω,
    (l.foldl (fun o i => step o.1 i) o).1 = l.foldl (fun s i => (step s i).1) o.1 := by
  induction l with
  | nil => intro o; rfl
  | cons i r ih => intro o; exact ih _

/-- **invariant along a run.**  `P` speaks of a whole output (state, events, next `select`); a step re-establishes it for
inputs satisfying `A`. -/
theorem run_inv {σ ω ι : Type} (step : σ → ι → σ × ω) (P : σ × ω → Prop) (A : ι → Prop)
    (hstep : ∀ o i, P o → A i → P (step o.1 i)) (l : List ι) (hA : ∀ i ∈ l, A i) (o : σ × ω) (h0 : P o) :
    P (l.foldl (fun o i => step o.1 i) o) :=
  List.foldlRecOn l _ h0 fun o ho i hi => hstep o i ho (hA i hi)

/-- **budget of silent timeouts.**  `μ` is never raised by a step and drops by `tk i` at input `i`, unless the step escapes
(`esc`); `E s l` is any predicate that holds when some step of the run of `l` from `s` escapes.  Then a run with at least
`μ s` timeouts escapes or ends with `μ = 0`. -/
theorem run_budget {σ ι : Type} (step : σ → ι → σ) (μ : σ → Nat) (tk : ι → Bool) (I : σ → Prop) (A : ι → Prop)
    (esc : σ → ι → Prop) (E : σ → List ι → Prop)
    (hI : ∀ s i, I s → A i → I (step s i))
    (hμ : ∀ s i, I s → A i → esc s i ∨ μ (step s i) ≤ μ s - (tk i).toNat)
    (hE1 : ∀ s i r, esc s i → E s (i :: r)) (hE2 : ∀ s i r, E (step s i) r → E s (i :: r)) :
    ∀ (l : List ι) (s : σ), I s → (∀ i ∈ l, A i) → μ s ≤ (l.filter tk).length → E s l ∨ μ (l.foldl step s) = 0 := by
  intro l
  induction l with
  | nil => intro s _ _ h; exact Or.inr (Nat.le_zero.mp h)
  | cons i r ih =>
    intro s hs hA h
    rcases hμ s i hs (hA i List.mem_cons_self) with he | hm
    · exact Or.inl (hE1 s i r he)
    · have hr : μ (step s i) ≤ (r.filter tk).length := by
        rw [List.filter_cons] at h
        cases hi : tk i <;> simp [hi] at h hm <;> omega
      exact (ih (step s i) (hI s i hs (hA i List.mem_cons_self)) (fun j hj => hA j (List.mem_cons_of_mem _ hj)) hr).imp
        (hE2 s i r) id

end Iodine.Runs
