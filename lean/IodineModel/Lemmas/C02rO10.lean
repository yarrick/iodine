import IodineModel.Lemmas.C02L10
import IodineModel.Lemmas.WorldFast
/-
Overlapping transfers in lazy mode: concrete schedules of the endings on the demo session (kernel-evaluated).
-/
namespace Iodine.C02L
open Iodine Iodine.Gen Iodine.World

/-- the concrete schedules of the three endings (kernel-evaluated; `exWL`, upstream × downstream fragments):
2 × 2 (E3) 8 events, 1 × 2 (E2, then the last downstream fragment) 6 events, 2 × 1 (E1, then the last upstream fragment) 8 events -/
theorem overlap_traces_finding :
    promptTrace 0 12 (step (step exWL (.offerC (demoFrame 9 60))) (.offerS (demoFrame 2 30))) =
      [.deliverUp, .deliverDown, .deliverUp, .deliverDown, .deliverUp, .deliverDown, .deliverDown, .deliverUp] ∧
    promptTrace 0 12 (step (step exWL (.offerC (demoFrame 9 4))) (.offerS (demoFrame 2 30))) =
      [.deliverUp, .deliverDown, .deliverUp, .deliverDown, .deliverDown, .deliverUp] ∧
    promptTrace 0 12 (step (step exWL (.offerC (demoFrame 9 60))) (.offerS (demoFrame 2 4))) =
      [.deliverUp, .deliverDown, .deliverDown, .deliverUp, .tickS, .deliverDown, .tickC, .deliverUp] := by
  rw [promptTrace_fast, step_fast]; decide +kernel


end Iodine.C02L
