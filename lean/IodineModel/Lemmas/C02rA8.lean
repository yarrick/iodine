import IodineModel.Lemmas.C02rA3
/-
NON-VACUITY of the bridge from a fault prefix to the clean path (`renewed_quietImm`), on the freshness counterexample.
`qaWC` (after the 104-event drop prefix) is `QuietBut` and `RingWF`, but NOT `FreshNext … 1` (the next data-CMC value 0 is
remembered 10 saves ago: that is the counterexample).  Its next packet is mishandled (`freshness_loss_mishandles`) and delivered by the
client's resend: `qaSchedD`, the offer and the 6 prompt events, lead to `qaWD` (written out as a literal; `qa_stageD`: the run
ends in it).  `qaWD` is `QuietBut`, `RingWF`, `PAged … 1` — and `FreshNext … 36`: the two stale entries (`a` = 0, `o` = 14)
are overwritten before the counter reaches them again.  (The static `Fresh … n` holds only for `n ≤ 12`: `qaWD_not_fresh13`.)
So the bridge applies: the NEXT 15 (or up to 36) one-fragment packets are delivered on the clean path and the state is `QuietImm` again —
without evaluating that run.
-/
namespace Iodine.C02L
open Iodine Iodine.World

/-- the offer of the mishandled packet and the six events of the prompt schedule that deliver it -/
def qaSchedD : List Ev := [.offerC qaF1, .deliverUp, .deliverDown, .tickC, .deliverUp, .tickS, .deliverDown]

def qaWD : W :=
  { cs := { c := { topdomain := [116, 46, 97, 98], randSeed := 6, outpkt := { len := 0, sentlen := 0, offset := 0, data := [90, 0, 0, 8, 0, 69, 0, 0, 24, 0, 0, 0, 0, 64, 17, 0, 0, 10, 0, 0, 2, 10, 0, 0, 9, 3, 10, 17, 24], seqno := 1, fragment := 0 }, inpkt := { len := 0, sentlen := 0, offset := 0, data := [], seqno := 0, fragment := 0 }, outchunkresent := 0, userid := 0, useridChar := 48, useridChar2 := 48, chunkid := 13308, chunkidPrev := 5581, chunkidPrev2 := 63390, dataenc := Iodine.Client.Enc.b32, downenc := 32, doQtype := 10, conn := Iodine.Client.Conn.dnsNull, selecttimeout := 1, lazymode := false, sendPingSoon := 20, lastdownstreamtime := 1026, lastrawping := 1000, sendcnt := 0, recvcnt := 11, hostnameMaxlen := 100, packrecv := 11, packrecvOos := 0, packrecvServfail := 0, datacmc := 2, running := true, edns0 := false, now := 1026 }, ph := Iodine.Client.Phase.tunnel },
    srv := { Iodine.C02.exW.srv with users := Iodine.C02.exW.srv.users.set 0 ({ active := true, authenticated := true, authenticatedRaw := false, optionsLocked := false, disabled := false, lastPkt := 1026, seed := 0, tunIp := 167772162, host := { fam := 4, ip := 167774722, port := 40000 }, q := { name := [48, 101, 97, 98, 98, 108, 105, 97, 97, 97, 99, 97, 97, 105, 117, 97, 97, 97, 103, 97, 97, 97, 97, 97, 97, 97, 113, 97, 114, 97, 97, 97, 97, 117, 97, 97, 97, 97, 105, 102, 97, 97, 97, 97, 106, 97, 109, 102, 98, 99, 103, 97, 46, 116, 46, 97, 98], type := 10, id := 0, from_ := { fam := 4, ip := 167774722, port := 40000 }, id2 := 0, from2 := { fam := 0, ip := 0, port := 0 }, dest := { fam := 4, ip := 167774721, port := 53 } }, qs := { name := [48, 101, 97, 98, 98, 108, 105, 97, 97, 97, 99, 97, 97, 105, 117, 97, 97, 97, 103, 97, 97, 97, 97, 97, 97, 97, 113, 97, 114, 97, 97, 97, 97, 117, 97, 97, 97, 97, 105, 102, 97, 97, 97, 97, 106, 97, 109, 102, 98, 99, 103, 97, 46, 116, 46, 97, 98], type := 10, id := 0, from_ := { fam := 4, ip := 167774722, port := 40000 }, id2 := 0, from2 := { fam := 0, ip := 0, port := 0 }, dest := { fam := 4, ip := 167774721, port := 53 } }, qsNew := false, inpacket := { len := 0, sentlen := 0, offset := 0, data := [90, 0, 0, 8, 0, 69, 0, 0, 24, 0, 0, 0, 0, 64, 17, 0, 0, 10, 0, 0, 2, 10, 0, 0, 9, 3, 10, 17, 24], seqno := 1, fragment := 0 }, outpacket := { len := 0, sentlen := 0, offset := 0, data := [], seqno := 0, fragment := 0 }, outfragresent := 0, encoder := Iodine.Server.Enc.b32, downenc := 84, fragsize := 30, conn := Iodine.Server.Conn.dnsNull, lazy := false, qmemping := [{ cmc := [0, 0, 0, 0], type := 0 }, { cmc := [0, 0, 0, 0], type := 0 }, { cmc := [0, 0, 0, 0], type := 0 }, { cmc := [0, 0, 0, 0], type := 0 }, { cmc := [0, 0, 0, 0], type := 0 }, { cmc := [0, 0, 0, 0], type := 0 }, { cmc := [0, 0, 0, 0], type := 0 }, { cmc := [0, 0, 0, 0], type := 0 }, { cmc := [0, 0, 0, 0], type := 0 }, { cmc := [0, 0, 0, 0], type := 0 }, { cmc := [0, 0, 0, 0], type := 0 }, { cmc := [0, 0, 0, 0], type := 0 }, { cmc := [0, 0, 0, 0], type := 0 }, { cmc := [0, 0, 0, 0], type := 0 }, { cmc := [0, 0, 0, 0], type := 0 }, { cmc := [0, 0, 0, 0], type := 0 }, { cmc := [0, 0, 0, 0], type := 0 }, { cmc := [0, 0, 0, 0], type := 0 }, { cmc := [0, 0, 0, 0], type := 0 }, { cmc := [0, 0, 0, 0], type := 0 }, { cmc := [0, 0, 0, 0], type := 0 }, { cmc := [0, 0, 0, 0], type := 0 }, { cmc := [0, 0, 0, 0], type := 0 }, { cmc := [0, 0, 0, 0], type := 0 }, { cmc := [0, 0, 0, 0], type := 0 }, { cmc := [0, 0, 0, 0], type := 0 }, { cmc := [0, 0, 0, 0], type := 0 }, { cmc := [0, 0, 0, 0], type := 0 }, { cmc := [0, 0, 0, 0], type := 0 }, { cmc := [0, 0, 0, 0], type := 0 }], qmempingLast := 0, qmemdata := [{ cmc := [0, 0, 0, 0], type := 0 }, { cmc := [101, 97, 98, 97], type := 10 }, { cmc := [117, 97, 98, 111], type := 10 }, { cmc := [101, 97, 98, 50], type := 10 }, { cmc := [105, 97, 98, 51], type := 10 }, { cmc := [109, 97, 98, 52], type := 10 }, { cmc := [113, 97, 98, 53], type := 10 }, { cmc := [117, 97, 98, 54], type := 10 }, { cmc := [121, 97, 98, 55], type := 10 }, { cmc := [50, 97, 98, 56], type := 10 }, { cmc := [97, 97, 98, 57], type := 10 }, { cmc := [101, 97, 98, 98], type := 10 }, { cmc := [0, 0, 0, 0], type := 0 }, { cmc := [0, 0, 0, 0], type := 0 }, { cmc := [0, 0, 0, 0], type := 0 }], qmemdataLast := 11, outpacketq := [{ len := 0, sentlen := 0, offset := 0, data := [], seqno := 0, fragment := 0 }, { len := 0, sentlen := 0, offset := 0, data := [], seqno := 0, fragment := 0 }, { len := 0, sentlen := 0, offset := 0, data := [], seqno := 0, fragment := 0 }, { len := 0, sentlen := 0, offset := 0, data := [], seqno := 0, fragment := 0 }], oqNext := 0, oqFilled := 0, dnscache := [{ q := { name := [48, 121, 97, 98, 55, 108, 105, 97, 97, 97, 99, 97, 97, 105, 117, 97, 97, 97, 103, 97, 97, 97, 97, 97, 97, 97, 113, 97, 114, 97, 97, 97, 97, 117, 97, 97, 97, 97, 105, 102, 97, 97, 97, 97, 106, 97, 109, 102, 98, 99, 103, 97, 46, 116, 46, 97, 98], type := 10, id := 47936, from_ := { fam := 4, ip := 167774722, port := 40000 }, id2 := 0, from2 := { fam := 0, ip := 0, port := 0 }, dest := { fam := 4, ip := 167774721, port := 53 } }, answer := [224, 0], answerlen := 2 }, { q := { name := [48, 50, 97, 98, 56, 108, 105, 97, 97, 97, 99, 97, 97, 105, 117, 97, 97, 97, 103, 97, 97, 97, 97, 97, 97, 97, 113, 97, 114, 97, 97, 97, 97, 117, 97, 97, 97, 97, 105, 102, 97, 97, 97, 97, 106, 97, 109, 102, 98, 99, 103, 97, 46, 116, 46, 97, 98], type := 10, id := 55663, from_ := { fam := 4, ip := 167774722, port := 40000 }, id2 := 0, from2 := { fam := 0, ip := 0, port := 0 }, dest := { fam := 4, ip := 167774721, port := 53 } }, answer := [240, 0], answerlen := 2 }, { q := { name := [48, 97, 97, 98, 57, 108, 105, 97, 97, 97, 99, 97, 97, 105, 117, 97, 97, 97, 103, 97, 97, 97, 97, 97, 97, 97, 113, 97, 114, 97, 97, 97, 97, 117, 97, 97, 97, 97, 105, 102, 97, 97, 97, 97, 106, 97, 109, 102, 98, 99, 103, 97, 46, 116, 46, 97, 98], type := 10, id := 63390, from_ := { fam := 4, ip := 167774722, port := 40000 }, id2 := 0, from2 := { fam := 0, ip := 0, port := 0 }, dest := { fam := 4, ip := 167774721, port := 53 } }, answer := [128, 0], answerlen := 2 }, { q := { name := [48, 101, 97, 98, 98, 108, 105, 97, 97, 97, 99, 97, 97, 105, 117, 97, 97, 97, 103, 97, 97, 97, 97, 97, 97, 97, 113, 97, 114, 97, 97, 97, 97, 117, 97, 97, 97, 97, 105, 102, 97, 97, 97, 97, 106, 97, 109, 102, 98, 99, 103, 97, 46, 116, 46, 97, 98], type := 10, id := 13308, from_ := { fam := 4, ip := 167774722, port := 40000 }, id2 := 0, from2 := { fam := 0, ip := 0, port := 0 }, dest := { fam := 4, ip := 167774721, port := 53 } }, answer := [144, 0], answerlen := 2 }], dcLast := 3 }), now := 1026 },
    up := [], down := [], tunC := [], tunS := [[0, 0, 8, 0, 69, 0, 0, 24, 0, 0, 0, 0, 64, 17, 0, 0, 10, 0, 0, 2, 10, 0, 0, 9, 3, 10, 17, 24], [0, 0, 8, 0, 69, 0, 0, 24, 0, 0, 0, 0, 64, 17, 0, 0, 10, 0, 0, 2, 10, 0, 0, 9, 3, 10, 17, 24], [0, 0, 8, 0, 69, 0, 0, 24, 0, 0, 0, 0, 64, 17, 0, 0, 10, 0, 0, 2, 10, 0, 0, 9, 3, 10, 17, 24], [0, 0, 8, 0, 69, 0, 0, 24, 0, 0, 0, 0, 64, 17, 0, 0, 10, 0, 0, 2, 10, 0, 0, 9, 3, 10, 17, 24], [0, 0, 8, 0, 69, 0, 0, 24, 0, 0, 0, 0, 64, 17, 0, 0, 10, 0, 0, 2, 10, 0, 0, 9, 3, 10, 17, 24], [0, 0, 8, 0, 69, 0, 0, 24, 0, 0, 0, 0, 64, 17, 0, 0, 10, 0, 0, 2, 10, 0, 0, 9, 3, 10, 17, 24], [0, 0, 8, 0, 69, 0, 0, 24, 0, 0, 0, 0, 64, 17, 0, 0, 10, 0, 0, 2, 10, 0, 0, 9, 3, 10, 17, 24], [0, 0, 8, 0, 69, 0, 0, 24, 0, 0, 0, 0, 64, 17, 0, 0, 10, 0, 0, 2, 10, 0, 0, 9, 3, 10, 17, 24], [0, 0, 8, 0, 69, 0, 0, 24, 0, 0, 0, 0, 64, 17, 0, 0, 10, 0, 0, 2, 10, 0, 0, 9, 3, 10, 17, 24], [0, 0, 8, 0, 69, 0, 0, 24, 0, 0, 0, 0, 64, 17, 0, 0, 10, 0, 0, 2, 10, 0, 0, 9, 3, 10, 17, 24], [0, 0, 8, 0, 69, 0, 0, 24, 0, 0, 0, 0, 64, 17, 0, 0, 10, 0, 0, 2, 10, 0, 0, 9, 3, 10, 17, 24]] }

theorem qa_stageD : run qaWC qaSchedD = qaWD := by
  rw [run_fast]; decide +kernel

/-- `qaWD` is reached from the demo state by the 104 + 7 events, so all its slots are well-formed — no evaluation needed -/
theorem qaWD_srvWF : SrvWF qaWD.srv := by
  rw [← qa_stageD, ← qa_runC]
  exact srvWF_run _ (srvWF_run _ (srvWF_demoServer _ _ _))

theorem qaWD_but : QuietBut Iodine.C02.exP qaWD :=
  quietBut_exP qaWD (by decide +kernel) (by decide +kernel) (by decide +kernel) (by decide +kernel)

/-- no ping reached the server in the whole run: the ping memories are as fresh as at the start -/
theorem qaWD_paged : PAged Iodine.C02.exP (Server.getUser qaWD.srv 0) qaWD.cs.c.randSeed 1 := by
  have hw := qaWD_srvWF.get 0
  refine ⟨hw.plen, hw.plast, hw.clen, hw.clast, ?_, ?_⟩
  · intro i hi c ⟨h1, _⟩
    have : ∀ i, i < 30 → ((Server.getUser qaWD.srv 0).qmemping.getD
        (C16L.ringPos Gen.QMEMPING_LEN (Server.getUser qaWD.srv 0).qmempingLast i) Server.QmemEntry.zero).type = 0 := by
      decide +kernel
    rw [this i hi] at h1
    exact absurd h1 (by decide)
  · intro i hi c ⟨_, h1, _⟩
    have : ∀ i, i < 4 → ((Server.getUser qaWD.srv 0).dnscache.getD
        (C16L.ringPos Gen.DNSCACHE_LEN (Server.getUser qaWD.srv 0).dcLast i) Server.DnsCacheEntry.zero).q.name.getD 0 0 ≠ 112 := by
      decide +kernel
    exact absurd h1 (this i hi)

/-- the counterexample state itself fails `FreshNext` for a single value: the bridge rightly does not apply to it -/
theorem qaWC_not_freshNext : ¬ FreshNext Iodine.C02.exP (Server.getUser qaWC.srv 0) qaWC.cs.c.datacmc 1 := by
  intro h
  have hw : RingWF (Server.getUser qaWC.srv 0) := by
    have : SrvWF qaWC.srv := by rw [← qa_runC]; exact srvWF_run _ (srvWF_demoServer _ _ _)
    exact this.get 0
  exact qa_dropC_not_fresh (h.fresh (n := 0) hw (by decide +kernel))

/-- after the mishandled packet: `FreshNext` for a whole period of the counter -/
theorem qaWD_freshNext : FreshNext Iodine.C02.exP (Server.getUser qaWD.srv 0) qaWD.cs.c.datacmc 36 := by
  have hk : qaWD.cs.c.datacmc = 2 := by decide +kernel
  rw [hk]
  refine ⟨?_, ?_⟩
  · intro i hi j _ hij ⟨h1, _, h3⟩
    have : ∀ i, i < 15 → ∀ j, j < 15 → i + j < 15 →
        ((Server.getUser qaWD.srv 0).qmemdata.getD
          (C16L.ringPos Gen.QMEMDATA_LEN (Server.getUser qaWD.srv 0).qmemdataLast i) Server.QmemEntry.zero).type = 10 →
        ((Server.getUser qaWD.srv 0).qmemdata.getD
          (C16L.ringPos Gen.QMEMDATA_LEN (Server.getUser qaWD.srv 0).qmemdataLast i) Server.QmemEntry.zero).cmc.getD 3 0 ≠
          cmcChar ((2 + j) % 36) := by decide +kernel
    have hij' : i + j < 15 := hij
    exact this i hi j (by omega) hij' h1 h3
  · intro i hi j _ hij ⟨h1, _, _, h4⟩
    have : ∀ i, i < 4 → ∀ j, j < 4 → i + j < 4 →
        ((Server.getUser qaWD.srv 0).dnscache.getD
          (C16L.ringPos Gen.DNSCACHE_LEN (Server.getUser qaWD.srv 0).dcLast i) Server.DnsCacheEntry.zero).q.type = 10 →
        ((Server.getUser qaWD.srv 0).dnscache.getD
          (C16L.ringPos Gen.DNSCACHE_LEN (Server.getUser qaWD.srv 0).dcLast i) Server.DnsCacheEntry.zero).q.name.getD 4 0 ≠
          cmcChar ((2 + j) % 36) := by decide +kernel
    have hij' : i + j < 4 := hij
    exact this i hi j (by omega) hij' h1 h4

/-- … whereas the static condition of C02v2 holds for 12 values only (the entry `o` = 14 is still remembered) -/
theorem qaWD_not_fresh13 : ¬ Fresh Iodine.C02.exP (Server.getUser qaWD.srv 0) qaWD.cs.c.datacmc 13 := by
  intro h
  have hk : qaWD.cs.c.datacmc = 2 := by decide +kernel
  rw [hk] at h
  have hm : (⟨[117, 97, 98, 111], 10⟩ : Server.QmemEntry) ∈ (Server.getUser qaWD.srv 0).qmemdata := by decide +kernel
  exact h.qmem _ hm rfl ⟨12, by decide, by decide⟩

theorem qaF1_one : UpFrame1 Iodine.C02.exP (Server.getUser qaWD.srv 0).tunIp qaF1 :=
  ⟨by decide, by decide, by unfold Codec.Bytes; decide, by decide +kernel, by decide +kernel⟩

/-- **the bridge applied to the counterexample**: after the prefix of 32 lost datagrams and the one mishandled packet, fifteen more
packets are delivered exactly once and in order by the prompt schedule and the joint state is `QuietImm` — the invariant of all
the clean-path theorems — again.  (The run of `15 · 4` scheduler events is NOT evaluated.) -/
theorem qa_bridge :
    QuietImm Iodine.C02.exP (offerAllC 0 3 qaWD (List.replicate 15 qaF1)) ∧
    (offerAllC 0 3 qaWD (List.replicate 15 qaF1)).tunS = qaWD.tunS ++ (List.replicate 15 qaF1).map tunImage ∧
    (offerAllC 0 3 qaWD (List.replicate 15 qaF1)).tunC = qaWD.tunC :=
  renewed_quietImm Iodine.C02.exP_ok 3 (Nat.le_refl 3) (List.replicate 15 qaF1) qaWD qaWD_but (qaWD_srvWF.get 0)
    (qaWD_freshNext.mono (by simp)) (by simp) (fun f hf => by rw [(List.mem_replicate.1 hf).2]; exact qaF1_one) qaWD_paged

/-- non-vacuity of `renew_packet`, `renew_sequence`, `renewed_aged` (which `qa_bridge` uses, with the ping clause added) -/
example :
    QuietBut Iodine.C02.exP (offerAllC Iodine.C02.exP.u 3 qaWD (List.replicate 15 qaF1)) ∧
    Aged Iodine.C02.exP (Server.getUser (offerAllC Iodine.C02.exP.u 3 qaWD (List.replicate 15 qaF1)).srv Iodine.C02.exP.u)
      (offerAllC Iodine.C02.exP.u 3 qaWD (List.replicate 15 qaF1)).cs.c.datacmc 1 ∧
    (offerAllC Iodine.C02.exP.u 3 qaWD (List.replicate 15 qaF1)).tunS = qaWD.tunS ++ (List.replicate 15 qaF1).map tunImage ∧
    (offerAllC Iodine.C02.exP.u 3 qaWD (List.replicate 15 qaF1)).tunC = qaWD.tunC :=
  renewed_aged Iodine.C02.exP_ok 3 (Nat.le_refl 3) (List.replicate 15 qaF1) qaWD qaWD_but (qaWD_srvWF.get 0)
    (qaWD_freshNext.mono (by simp)) (by simp) (fun f hf => by rw [(List.mem_replicate.1 hf).2]; exact qaF1_one)

/-- non-vacuity of `freshness_renewal_after_fault_prefix` (`Props/C02c.lean`): its hypotheses hold for the run of 111 events from the demo state (the only faults are 32
lost upstream datagrams) -/
example : SrvWF Iodine.C02.exW.srv ∧ QuietBut Iodine.C02.exP (run Iodine.C02.exW (qaSchedC ++ qaSchedD)) ∧
    FreshNext Iodine.C02.exP (Server.getUser (run Iodine.C02.exW (qaSchedC ++ qaSchedD)).srv 0)
      (run Iodine.C02.exW (qaSchedC ++ qaSchedD)).cs.c.datacmc 36 := by
  have hr : run Iodine.C02.exW (qaSchedC ++ qaSchedD) = qaWD := by rw [run_append, qa_runC, qa_stageD]
  rw [hr]
  exact ⟨srvWF_demoServer _ _ _, qaWD_but, qaWD_freshNext⟩

/-- non-vacuity of `QuietImm.recoverable`: the demo state -/
example : Recoverable Iodine.C02.exP 15 4 21 Iodine.C02.exW := Iodine.C02.ex_quiescent.recoverable

/-- non-vacuity of `CleanBoth` / `CleanBoth.renew` (C02rA3): on the slot of `qaWD` (data-CMC counter 2, ping counter 6) one data cycle
(a query name with `c` = `cmcChar 2` in position 4) and one ping cycle (the name the client's `send_ping` builds for seed 6:
`paaaaabq.t.ab`) -/
example : ∃ x, CleanBoth Iodine.C02.exP 1 1 2 (Server.getUser qaWD.srv 0, 2, 6) (x, 3, 7) ∧
    AgedTo Iodine.C02.exP x 3 1 2 1 ∧ PAgedTo Iodine.C02.exP x 7 1 2 1 := by
  have h0 := CleanBoth.nil (P := Iodine.C02.exP) (Server.getUser qaWD.srv 0, 2, 6)
  have h1 := CleanBoth.data h0 { Server.Query.zero with name := [48, 97, 97, 97, 99, 97], type := 10, id := 1 } [192, 0]
    (by decide) (by decide) (by decide) (by decide)
  have h2 := CleanBoth.ping h1
    { Server.Query.zero with name := [112, 97, 97, 97, 97, 97, 98, 113, 46, 116, 46, 97, 98], type := 10, id := 2 } [192, 0]
    (by decide) (by decide) 8 (by decide) (by decide +kernel) (by decide +kernel) (by decide +kernel) (by decide +kernel)
  obtain ⟨_, _, a, p⟩ := h2.renew (by decide) (qaWD_srvWF.get 0) (by decide) (by decide)
  exact ⟨_, h2, a, p⟩

end Iodine.C02L
