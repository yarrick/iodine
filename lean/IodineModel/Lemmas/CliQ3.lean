import IodineModel.Lemmas.CliQ1
import IodineModel.Props.C01
/-
C08 lifted to client sessions: every query of the TUNNEL machine (`Client/Tunnel.lean`, `Client/Loop.lean`) is legal, and a
data chunk carries the advertised slice of the packet.

The invariant of the tunnel phase is `Late` (Lemmas/CliQ1.lean).  `QPost` is the postcondition (`CGood o`: of a step): the
state is `Late` again, all query events are `EvOk`, and every query event whose name starts with the user-id character — a
data chunk — satisfies `Carries` with respect to the state the step ends in: the name carries
`outpkt.data[offset .. offset + sentlen)` and the header fields of that state (Props/C01.lean `hop_lossless_up_at`).
-/
namespace Iodine.CliQ
open Iodine Iodine.Client Iodine.Gen

variable {L : Nat} {td : List Nat}

/-- `c'` agrees with `c` on what `Late` looks at; the packet in flight may have been given up -/
structure SameW (c c' : Cli) : Prop where
  td : c'.topdomain = c.topdomain
  ml : c'.hostnameMaxlen = c.hostnameMaxlen
  dn : c'.downenc = c.downenc
  cmc : c'.datacmc = c.datacmc
  data : c'.outpkt.data = c.outpkt.data
  len : c'.outpkt.len = c.outpkt.len ∨ c'.outpkt.len = 0
  ty : c'.doQtype = c.doQtype
  uc : c'.useridChar = c.useridChar

theorem Late.sameW {c c' : Cli} (h : Late L td c) (e : SameW c c') : Late L td c' := by
  obtain ⟨⟨hb, ht⟩, u, hu, huc⟩ := h
  refine ⟨⟨⟨e.td ▸ hb.td, e.ml ▸ hb.maxlen, e.dn ▸ hb.downenc, e.cmc ▸ hb.cmc, e.data ▸ hb.pkt, ?_⟩, e.ty ▸ ht⟩,
    u, hu, e.uc ▸ huc⟩
  rcases e.len with h | h
  · rw [h, e.data]; exact hb.pktlen
  · exact Or.inl h

/-- the statics `SameW` looks at -/
def wkey (c : Cli) : List Nat × Int × Nat × Nat × List Nat × Nat × Nat × Nat :=
  (c.topdomain, c.hostnameMaxlen, c.downenc, c.datacmc, c.outpkt.data, c.outpkt.len, c.doQtype, c.useridChar)

/-- a state that differs from `c` in other statics only -/
theorem SameW.of_key {c c' : Cli} (h : wkey c' = wkey c) : SameW c c' := by
  simp only [wkey, Prod.mk.injEq] at h
  exact ⟨h.1, h.2.1, h.2.2.1, h.2.2.2.1, h.2.2.2.2.1, .inl h.2.2.2.2.2.1, h.2.2.2.2.2.2.1, h.2.2.2.2.2.2.2⟩

theorem SameW.refl (c : Cli) : SameW c c := .of_key rfl

theorem SameW.trans {a b c : Cli} (h1 : SameW a b) (h2 : SameW b c) : SameW a c := by
  refine ⟨h2.td.trans h1.td, h2.ml.trans h1.ml, h2.dn.trans h1.dn, h2.cmc.trans h1.cmc, h2.data.trans h1.data, ?_,
    h2.ty.trans h1.ty, h2.uc.trans h1.uc⟩
  rcases h2.len with h | h
  · rcases h1.len with h' | h'
    · exact Or.inl (h.trans h')
    · exact Or.inr (h.trans h')
  · exact Or.inr h

/-- a state that differs from `c` in other statics only and has given the packet in flight up -/
theorem SameW.gaveUp {c c' : Cli} (h : wkey c' = wkey { c with outpkt := { c.outpkt with len := 0 } }) : SameW c c' :=
  SameW.trans (b := { c with outpkt := { c.outpkt with len := 0 } }) ⟨rfl, rfl, rfl, rfl, rfl, .inr rfl, rfl, rfl⟩ (.of_key h)

theorem SameW.of_frame {c c' : Cli} (h : CFrame erTime c c') : SameW c c' := .of_key (h.get wkey fun _ => rfl)

def NoQ (evs : List CEvent) : Prop := ∀ e ∈ evs, ∀ id ty n, e ≠ .query id ty n

theorem noq_nil : NoQ [] := fun _ h => nomatch h

theorem noq_one {e : CEvent} (h : ∀ id ty n, e ≠ .query id ty n) : NoQ [e] := List.forall_mem_singleton.mpr h

theorem noq_append {a b : List CEvent} (ha : NoQ a) (hb : NoQ b) : NoQ (a ++ b) :=
  List.forall_mem_append.mpr ⟨ha, hb⟩

theorem evsOk_of_noq {evs : List CEvent} (h : NoQ evs) : EvsOk L td evs := by
  intro e he
  cases e with
  | query id ty n => exact absurd rfl (h _ he id ty n)
  | rawtx _ => trivial
  | tunw _ => trivial
  | sys _ => trivial

/-- the upstream data query `name` carries the fragment `outpkt.data[offset .. offset + sentlen)` of the state `c`, and its
header: `C08.ChunkCarries` with the guard as `send_chunk` has it.  (`Downstream.Carries` of Lemmas/MxClient.lean is another
notion: a host name of an MX/SRV answer and its chunk.) -/
def Carries (td : List Nat) (c : Cli) (name : List Nat) : Prop :=
  outRest c.outpkt ≠ [] →
    1 ≤ c.outpkt.sentlen ∧ c.outpkt.sentlen ≤ (outRest c.outpkt).length ∧
    (name.take (min (name.length - td.length) 512)).getD 0 0 = c.useridChar ∧
    C01.upSeqOf (name.take (min (name.length - td.length) 512)) = maskI c.outpkt.seqno 8 ∧
    C01.upFragOf (name.take (min (name.length - td.length) 512)) = maskI c.outpkt.fragment 16 ∧
    C01.lastOf (name.take (min (name.length - td.length) 512)) = (c.outpkt.sentlen == c.outpkt.len - c.outpkt.offset) ∧
    C01.dnSeqOf (name.take (min (name.length - td.length) 512)) = maskI c.inpkt.seqno 8 ∧
    C01.dnFragOf (name.take (min (name.length - td.length) 512)) = maskI c.inpkt.fragment 16 ∧
    Encoding.unpackData c.dataenc.codec 65536 ((name.take (min (name.length - td.length) 512)).drop 5) =
      (c.outpkt.data.drop c.outpkt.offset).take c.outpkt.sentlen

/-- a data query is made of fields that the senders and the bookkeeping leave alone -/
theorem Carries.frame {c c' : Cli} {name : List Nat} (h : Carries td c name) (e : CFrame erTime c c') : Carries td c' name := by
  have pkt : c'.outpkt = c.outpkt := congrArg (·.outpkt) e
  have uc : c'.useridChar = c.useridChar := congrArg (·.useridChar) e
  have inp : c'.inpkt = c.inpkt := congrArg (·.inpkt) e
  have enc : c'.dataenc = c.dataenc := congrArg (·.dataenc) e
  unfold Carries at h ⊢
  rw [pkt, uc, inp, enc]
  exact h

/-- every data query among `evs` carries what the state `c` says -/
def ChunkPost (td : List Nat) (c : Cli) (evs : List CEvent) : Prop :=
  ∀ id ty name, CEvent.query id ty name ∈ evs → name.getD 0 0 = c.useridChar → Carries td c name

theorem ChunkPost.frame {c c' : Cli} {evs : List CEvent} (h : ChunkPost td c evs) (e : CFrame erTime c c') :
    ChunkPost td c' evs := by
  intro id ty name hm hn
  rw [show c'.useridChar = c.useridChar from congrArg (·.useridChar) e] at hn
  exact (h id ty name hm hn).frame e

theorem hexLower_not_po : ∀ u, u < 16 → C02L.hexLower u ≠ 111 ∧ C02L.hexLower u ≠ 112 := by decide

/-- queries that all start with `p` or `o` are no data queries -/
theorem chunkPost_of_po {c : Cli} {evs : List CEvent} (hu : UidOk c)
    (h : ∀ id ty name, CEvent.query id ty name ∈ evs → name.getD 0 0 = 112 ∨ name.getD 0 0 = 111) :
    ChunkPost td c evs := by
  intro id ty name hm hn
  obtain ⟨u, hu, huc⟩ := hu
  have := hexLower_not_po u hu
  rcases h id ty name hm with h | h <;> (rw [hn, huc] at h; omega)

theorem chunkPost_of_noq {c : Cli} {evs : List CEvent} (h : NoQ evs) : ChunkPost td c evs := by
  intro id ty name hm _
  exact absurd rfl (h _ hm id ty name)

theorem chunkPost_append {c : Cli} {a b : List CEvent} (ha : ChunkPost td c a) (hb : ChunkPost td c b) :
    ChunkPost td c (a ++ b) := by
  intro id ty name hm hn
  rcases List.mem_append.mp hm with h | h
  · exact ha id ty name h hn
  · exact hb id ty name h hn

/-- `send_chunk`'s own query -/
theorem carries_chunk (E : Env L td) (c : Cli) (hl : Late L td c) : Carries td (C01.chunkSent c) (C01L.chunkName c) := by
  intro hne
  have hne' : outRest c.outpkt ≠ [] := hne
  obtain ⟨⟨hb, _⟩, u, hu, huc⟩ := hl
  have htd := hb.td
  subst htd
  have hby : Codec.Bytes (outRest c.outpkt) := by
    intro x hx
    exact hb.pkt x (List.mem_of_mem_take (List.mem_of_mem_drop hx))
  have huc46 : c.useridChar ≠ 46 := by rw [huc]; exact (C02L.hexLower_chars u hu).1
  obtain ⟨_, _, _, h1, h2, _, _, _, g0, g1, g2, g3, g4, g5, g6, g7⟩ :=
    C01.hop_lossless_up_at c L hb.maxlen E.hL E.td_len E.td_legal huc46 hne' hby
  exact ⟨h1, h2, g0, g1, g2, g3, g4, g5, g6.trans g7⟩

/-- what a sender that ends in `send_query host` delivers -/
structure SentOk (L : Nat) (td : List Nat) (c : Cli) (host : List Nat) (s : Sent) : Prop where
  frame : CFrame erTime c s.c
  evs : EvsOk L td s.evs
  names : ∀ id ty name, CEvent.query id ty name ∈ s.evs → name = host ∨ name.getD 0 0 = 111
  sent : ∃ id ty, CEvent.query id ty host ∈ s.evs

theorem sendLazySwitch_x (E : Env L td) (c : Cli) (hm : Mid L td c) :
    EvsOk L td (sendLazySwitch c).2 ∧
      (∀ id ty name, CEvent.query id ty name ∈ (sendLazySwitch c).2 → name.getD 0 0 = 111) ∧
      ∃ id ty name, CEvent.query id ty name ∈ (sendLazySwitch c).2 := by
  obtain ⟨e, h⟩ := sendHandshakeQuery_ok E c [111, b32_5to8 c.userid, if c.lazymode then 108 else 105] hm
    (by simp) (by simp) (forall_mem_three (by omega) (C02L.b32_5to8_char _) (by split <;> omega))
  unfold sendLazySwitch
  rw [e] at h ⊢
  refine ⟨h, ?_, _, _, _, List.mem_cons_self⟩
  intro id ty name hmem
  simp only [List.mem_singleton, CEvent.query.injEq] at hmem
  rw [hmem.2.2]; rfl

theorem lazyoffIter_x (E : Env L td) (c : Cli) (i : Nat) (hm : Mid L td c) :
    EvsOk L td (lazyoffIter c i).evs ∧
      (∀ id ty name, CEvent.query id ty name ∈ (lazyoffIter c i).evs → name.getD 0 0 = 111) ∧
      ((lazyoffIter c i).parked = true → ∃ id ty name, CEvent.query id ty name ∈ (lazyoffIter c i).evs) := by
  have hs := sendLazySwitch_x E c hm
  unfold lazyoffIter
  split
  · exact ⟨hs.1, hs.2.1, fun _ => hs.2.2⟩
  · exact ⟨evsOk_nil, fun _ _ _ h => (by cases h), nofun⟩

theorem sendQueryCount_x (E : Env L td) (c : Cli) (hm : Mid L td c) :
    EvsOk L td (sendQueryCount c).evs ∧
      ∀ id ty name, CEvent.query id ty name ∈ (sendQueryCount c).evs → name.getD 0 0 = 111 := by
  have hx := lazyoffIter_x E { c with sendcnt := c.sendcnt + 1, lazymode := false, selecttimeout := 1 } 0
    (hm.frame rfl)
  have nil : EvsOk L td ([] : List CEvent) ∧ ∀ id ty name, CEvent.query id ty name ∈ ([] : List CEvent) → name.getD 0 0 = 111 :=
    ⟨evsOk_nil, fun _ _ _ h => (by cases h)⟩
  exact ite_both (P := fun s : Sent => EvsOk L td s.evs ∧ ∀ id ty name, CEvent.query id ty name ∈ s.evs → name.getD 0 0 = 111)
    (ite_both (P := fun s : Sent => EvsOk L td s.evs ∧ ∀ id ty name, CEvent.query id ty name ∈ s.evs → name.getD 0 0 = 111)
      (ite_both (P := fun s : Sent => EvsOk L td s.evs ∧ ∀ id ty name, CEvent.query id ty name ∈ s.evs → name.getD 0 0 = 111)
        nil ⟨hx.1, hx.2.1⟩) nil) nil

/-- `send_query(fd, host)` for a name that is `NameOk` -/
theorem sendQuery_ok (E : Env L td) (c : Cli) (host : List Nat) (hm : Mid L td c) (hn : NameOk L td host) :
    SentOk L td c host (sendQuery c host) := by
  obtain ⟨e, he⟩ := sendQueryPlain_ok (L := L) (td := td) c host hm.2 hn
  have hx := sendQueryCount_x E (rotateChunkid c) (hm.frame (frame_rotate c).ids)
  rw [e] at he
  refine ⟨(frame_sendQuery c host).q, ?_, ?_, ?_⟩
  all_goals unfold sendQuery; rw [e]; simp only [if_true]
  · exact evsOk_append he hx.1
  · intro id ty name hmem
    rcases List.mem_append.mp hmem with h | h
    · simp only [List.mem_singleton, CEvent.query.injEq] at h
      exact Or.inl h.2.2
    · exact Or.inr (hx.2 id ty name h)
  · exact ⟨_, _, List.mem_append_left _ List.mem_cons_self⟩

/-- the postcondition of the tunnel machine: the state is `Late` again, the events are legal, the data queries among them
carry what the state says — read at a sender's result (`SGood`, which adds that something was sent), a handler's (`TGood`)
and a step's (`CGood`) -/
structure QPost (L : Nat) (td : List Nat) (c : Cli) (l : List CEvent) : Prop where
  late : Late L td c
  evs : EvsOk L td l
  chunk : ChunkPost td c l

theorem QPost.noq {c : Cli} {evs : List CEvent} (hl : Late L td c) (he : NoQ evs) : QPost L td c evs :=
  ⟨hl, evsOk_of_noq he, chunkPost_of_noq he⟩

theorem QPost.frame {c c' : Cli} {evs : List CEvent} (h : QPost L td c evs) (e : CFrame erTime c c') : QPost L td c' evs :=
  ⟨h.late.frame e, h.evs, h.chunk.frame e⟩

theorem QPost.pre {c : Cli} {pre evs : List CEvent} (h : QPost L td c evs) (hp : NoQ pre) : QPost L td c (pre ++ evs) :=
  ⟨h.late, evsOk_append (evsOk_of_noq hp) h.evs, chunkPost_append (chunkPost_of_noq hp) h.chunk⟩

structure SGood (L : Nat) (td : List Nat) (s : Sent) : Prop extends QPost L td s.c s.evs where
  /-- a datagram has left the process (what "no wedge" needs) -/
  tx : ∃ e ∈ s.evs, (∃ id ty n, e = .query id ty n) ∨ ∃ b, e = .rawtx b

abbrev TGood (L : Nat) (td : List Nat) (r : Cli × List CEvent × Stop) : Prop := QPost L td r.1 r.2.1

abbrev CGood (L : Nat) (td : List Nat) (o : CState × List CEvent × Next) : Prop := QPost L td o.1.c o.2.1

/-- `send_packet(fd, cmd, data, datalen)` with the answer counting of `send_query` -/
theorem sendPacket_ok (E : Env L td) (c : Cli) (cmd : Nat) (d : List Nat) (hm : Mid L td c)
    (hc : cmd ≠ 46 ∧ cmd ≠ 0 ∧ cmd < 256) (hd : d ≠ []) (hb : Codec.Bytes d) :
    SentOk L td c (cmd :: (Client.buildHostname Codec.b32 (L : Int) 4095 cmd td d).name) (sendPacket c cmd d) := by
  obtain ⟨_, hn, _⟩ := hsSendPacket_ok E c cmd d hm hc hd hb
  unfold sendPacket
  rw [hm.1.td, hm.1.maxlen]
  exact sendQuery_ok E c _ hm hn

theorem sendPing_good (E : Env L td) (c : Cli) (hl : Late L td c) : SGood L td (sendPing c) := by
  unfold sendPing
  split
  · have hl' : Late L td { c with randSeed := (c.randSeed + 1) % 65536 } := hl.frame rfl
    have hs := sendPacket_ok E { c with randSeed := (c.randSeed + 1) % 65536 } 112
      [maskI c.userid 256, (maskI c.inpkt.seqno 8 * 16 ||| maskI c.inpkt.fragment 16) % 256,
       c.randSeed / 256 % 256, c.randSeed % 256] hl'.1 (by omega) (by simp) (C02L.pingData_bytes c)
    have hlate := hl'.frame hs.frame
    obtain ⟨id0, ty0, hsent⟩ := hs.sent
    refine ⟨⟨hlate, hs.evs, chunkPost_of_po hlate.2 ?_⟩, _, hsent, .inl ⟨_, _, _, rfl⟩⟩
    intro id ty name hmem
    rcases hs.names id ty name hmem with h | h
    · left; rw [h]; rfl
    · right; exact h
  · exact ⟨.noq (hl.frame rfl) (noq_one (by intro id ty n h; simp [sendRaw] at h)), _, List.mem_cons_self, .inr ⟨_, rfl⟩⟩

theorem chunkHeader_ok (c : Cli) (last : Bool) (hu : UidOk c) (hcmc : c.datacmc < 36) :
    ∀ ch ∈ chunkHeader c last, ch ≠ 46 ∧ ch ≠ 0 ∧ ch < 256 := by
  obtain ⟨u, hu, huc⟩ := hu
  exact C02L.chunkHeader_chars c last u hu huc hcmc

theorem sendChunk_good (E : Env L td) (c : Cli) (hl : Late L td c) : SGood L td (sendChunk c) := by
  have hb := hl.1.1
  have hlate' : Late L td (C01.chunkSent c) := by
    obtain ⟨⟨hb, ht⟩, hu⟩ := hl
    refine ⟨⟨⟨hb.td, hb.maxlen, hb.downenc, ?_, hb.pkt, hb.pktlen⟩, ht⟩, hu⟩
    show (if c.datacmc + 1 ≥ 36 then 0 else c.datacmc + 1) < 36
    split <;> omega
  have hby : Codec.Bytes (outRest c.outpkt) := by
    intro x hx
    exact hb.pkt x (List.mem_of_mem_take (List.mem_of_mem_drop hx))
  have hname : NameOk L td (C01L.chunkName c) := by
    unfold C01L.chunkName C01L.chunkBuilt
    rw [hb.td, hb.maxlen]
    exact chunkName_ok E c.dataenc _ _ rfl (chunkHeader_ok c _ hl.2 hb.cmc) hby
  have hs := sendQuery_ok E (C01.chunkSent c) (C01L.chunkName c) hlate'.1 hname
  show SGood L td (sendQuery (C01.chunkSent c) (C01L.chunkName c))
  have hfin := hlate'.frame hs.frame
  obtain ⟨id0, ty0, hsent⟩ := hs.sent
  refine ⟨⟨hfin, hs.evs, ?_⟩, _, hsent, .inl ⟨_, _, _, rfl⟩⟩
  intro id ty name hmem hn
  rcases hs.names id ty name hmem with h | h
  · rw [h]
    exact (carries_chunk E c hl).frame hs.frame
  · obtain ⟨u, hu, huc⟩ := hfin.2
    have := hexLower_not_po u hu
    have hh := (hn.symm.trans h).symm.trans huc
    omega

theorem afterSend_good (s : Sent) (pre : List CEvent) (k : Resume) (hs : SGood L td s) (hp : NoQ pre) :
    TGood L td (afterSend s pre k) := by
  unfold afterSend
  split
  · exact hs.toQPost.pre hp
  · exact (hs.toQPost.pre hp).frame (frame_resume s.c k).book

theorem bytes_take {d : List Nat} (n : Nat) (h : Codec.Bytes d) : Codec.Bytes (d.take n) :=
  fun x hx => h x (List.mem_of_mem_take hx)

theorem tunnelTun_good (E : Env L td) (c : Cli) (frame : List Nat) (hl : Late L td c) (hf : Codec.Bytes frame) :
    TGood L td (tunnelTun c frame) := by
  unfold tunnelTun
  simp only
  split
  · exact QPost.noq hl noq_nil
  · split
    · exact QPost.noq hl noq_nil
    · have hl1 : Late L td { c with
          outpkt := { c.outpkt with data := (compress (frame.take 65536)).take 65536, sentlen := 0, offset := 0,
                                    seqno := sChar (((c.outpkt.seqno + 1) % 8 : Int)),
                                    len := (compress (frame.take 65536)).length, fragment := 0 },
          outchunkresent := 0 } := by
        obtain ⟨⟨hb, ht⟩, hu⟩ := hl
        refine ⟨⟨⟨hb.td, hb.maxlen, hb.downenc, hb.cmc, ?_, Or.inr ?_⟩, ht⟩, hu⟩
        · apply bytes_take
          intro x hx
          rcases List.mem_cons.mp hx with rfl | hx
          · omega
          · exact hf x (List.mem_of_mem_take hx)
        · show ((compress (frame.take 65536)).take 65536).length = min (compress (frame.take 65536)).length 65536
          rw [List.length_take, Nat.min_comm]
      split
      · exact afterSend_good _ _ _ (sendChunk_good E _ hl1) noq_nil
      · refine QPost.noq (hl1.sameW (.gaveUp rfl)) ?_
        exact noq_one (by intro id ty n h; simp [sendRaw] at h)

/-- the raw-mode handler sends no query and leaves alone what `Late` looks at; so do the stages of the reassembly below -/
theorem readRaw_good (c : Cli) (data : List Nat) : SameW c (readRaw c data).1 ∧ NoQ (readRaw c data).2 := by
  have both := @ite_both Res (fun r => SameW c r.1 ∧ NoQ r.2)
  have q : ∀ x, SameW c x → SameW c x ∧ NoQ ([] : List CEvent) := fun _ h => ⟨h, noq_nil⟩
  unfold readRaw
  extract_lets d b3 cmd c'
  have hc : SameW c c' := ite_both (.of_key rfl) (.refl c)
  refine both (q c (.refl c)) <| both (q c (.refl c)) <| both (q c (.refl c)) <| both (q c' hc) ?_
  cases uncompress (d.drop RAW_HDR_LEN) 65536 with
  | some out => exact ⟨hc, noq_one (by intro id ty n h; simp [writeTun] at h)⟩
  | none => exact q c' hc

theorem sameW_datalessAdopt (c : Cli) (h : Hdr) (read : Int) : SameW c (datalessAdopt c h read) := by
  unfold datalessAdopt
  split <;> exact .of_key rfl

theorem sameW_acceptFragment (c c' : Cli) (h : Hdr) (ha : acceptFragment c h = some c') : SameW c c' := by
  unfold acceptFragment at ha
  repeat' split at ha
  all_goals first
    | (injection ha with ha; subst ha; first | exact SameW.refl _ | exact .of_key rfl)
    | cases ha

theorem sameW_appendFragment (c : Cli) (h : Hdr) (buf : List Nat) (read : Int) : SameW c (appendFragment c h buf read) :=
  (.of_key rfl)

theorem deliver_good (c : Cli) : SameW c (deliver c).1 ∧ NoQ (deliver c).2 := by
  unfold deliver
  refine ⟨(.of_key rfl), ?_⟩
  simp only
  split
  · exact noq_one (by intro id ty n h; simp [writeTun] at h)
  · exact noq_nil

theorem downstream_good (c : Cli) (h : Hdr) (buf : List Nat) (read : Int) (sn : Bool) :
    SameW c (downstream c h buf read sn).1 ∧ NoQ (downstream c h buf read sn).2.1 := by
  unfold downstream
  split
  · split
    · exact ⟨(.of_key rfl), noq_nil⟩
    · rename_i c' ha
      have h1 := sameW_acceptFragment c c' h ha
      have h2 := sameW_appendFragment c' h buf read
      have h3 := deliver_good (appendFragment c' h buf read)
      simp only
      split
      · split
        · exact ⟨(h1.trans h2).trans (h3.1.trans (.of_key rfl)), h3.2⟩
        · exact ⟨(h1.trans h2).trans h3.1, h3.2⟩
      · split
        · exact ⟨(h1.trans h2).trans (.of_key rfl), noq_nil⟩
        · exact ⟨h1.trans h2, noq_nil⟩
  · exact ⟨SameW.refl c, noq_nil⟩

theorem finalPing_good (E : Env L td) (c : Cli) (evs : List CEvent) (sn : Bool) (read : Int) (hl : Late L td c)
    (he : NoQ evs) : TGood L td (finalPing c evs sn read) := by
  unfold finalPing
  split
  · exact afterSend_good _ _ _ (sendPing_good E c hl) he
  · exact QPost.noq hl he

theorem upstream_good (E : Env L td) (c : Cli) (h : Hdr) (evs : List CEvent) (sn : Bool) (read : Int) (hl : Late L td c)
    (he : NoQ evs) : TGood L td (upstream c h evs sn read) := by
  unfold upstream
  split
  · simp only
    split
    · apply finalPing_good E _ _ _ _ _ he
      split <;> exact hl.sameW (.gaveUp rfl)
    · exact afterSend_good _ _ _ (sendChunk_good E _ (hl.sameW (.of_key rfl))) he
  · exact finalPing_good E _ _ _ _ hl he

theorem tunnelDns_good (E : Env L td) (c : Cli) (rq : Rq) (hl : Late L td c) : TGood L td (tunnelDns c rq) := by
  have hc := frame_tdCount c (decodeHdr rq.buf) rq.rv
  rw [tunnelDns_eq]
  refine ite_both (QPost.noq (hl.sameW (.of_key rfl)) noq_nil) <|
    ite_both (QPost.noq (hl.sameW ((SameW.of_frame (frame_servfailCount c rq).book).trans (.of_key rfl))) noq_nil) <|
    ite_both (QPost.noq hl noq_nil) <| ite_both ?_ ?_
  · extract_lets cOos
    have hOos : Late L td cOos := hl.frame (hc.trans (frame_oosCount _)).book
    exact ite_both (afterSend_good _ _ _ (sendPing_good E _ hOos) noq_nil) (QPost.noq hOos noq_nil)
  · unfold tdStages
    extract_lets h d b r
    -- up to the reassembly only bookkeeping
    have hHint : Late L td (lazyHint (C02L.ackBook d.1) rq.id) :=
      hl.frame (hc.book.trans (CFrame.trans (b := C02L.ackBook d.1) rfl (frame_lazyHint _ rq.id).book))
    have h6 := downstream_good b h rq.buf d.2 (c.sendPingSoon != 0)
    exact upstream_good E _ _ _ _ _ (hHint.sameW ((sameW_datalessAdopt _ h d.2).trans h6.1)) h6.2

theorem tunnelDnsInput_good (E : Env L td) (c : Cli) (inp : CInput) (hl : Late L td c) :
    TGood L td (tunnelDnsInput c inp) := by
  unfold tunnelDnsInput
  split
  · split
    · exact tunnelDns_good E _ _ hl
    · exact tunnelDns_good E _ _ hl
  · split
    · exact QPost.noq (hl.sameW (readRaw_good _ _).1) (readRaw_good _ _).2
    · exact QPost.noq (hl.sameW (readRaw_good _ _).1) (readRaw_good _ _).2

theorem timeoutBranch_good (E : Env L td) (c : Cli) (hl : Late L td c) : TGood L td (timeoutBranch c) := by
  unfold timeoutBranch
  split
  · split
    · exact afterSend_good _ _ _ (sendChunk_good E _ (hl.sameW (.of_key rfl))) noq_nil
    · exact afterSend_good _ _ _ (sendPing_good E _ (hl.sameW (.gaveUp rfl))) noq_nil
  · exact afterSend_good _ _ _ (sendPing_good E _ hl) noq_nil

theorem loopTop_good {c : Cli} {evs : List CEvent} (h : QPost L td c evs) : CGood L td (loopTop c evs) :=
  ite_both (P := CGood L td) h h

theorem settle_good (r : Cli × List CEvent × Stop) (h : TGood L td r) : CGood L td (settle r) := by
  unfold settle
  split
  · exact loopTop_good h
  · exact h

theorem after_good (evs : List CEvent) (r : CState × List CEvent × Next) (he : NoQ evs) (h : CGood L td r) :
    CGood L td (after evs r) :=
  h.pre he

theorem startTunnel_good (c : Cli) (hl : Late L td c) : CGood L td (startTunnel c) :=
  loopTop_good (.noq (hl.sameW (.of_key rfl)) noq_nil)

theorem rawKeepalive_good (c : Cli) : SameW c (rawKeepalive c).1 ∧ NoQ (rawKeepalive c).2 := by
  refine ⟨.of_frame (frame_rawKeepalive c), ?_⟩
  unfold rawKeepalive
  split
  · exact noq_one (by intro id ty n h; simp [sendRaw] at h)
  · exact noq_nil

def ByteIn : CInput → Prop
  | .tun f => Codec.Bytes f
  | _ => True

theorem tunnelStep_good (E : Env L td) (c : Cli) (inp : CInput) (hl : Late L td c) (hb : ByteIn inp) :
    CGood L td (tunnelStep c inp) := by
  have hl1 : Late L td (afterSelect (fire c (selectOf c) inp).1) :=
    hl.frame ((frame_fire c _ inp).trans (frame_afterSelect _).book)
  unfold tunnelStep
  simp only
  split
  · exact .noq hl1 noq_nil
  · have hk := rawKeepalive_good (afterSelect (fire c (selectOf c) inp).1)
    split
    · exact settle_good _ (timeoutBranch_good E _ hl1)
    · rename_i frame hf
      exact after_good _ _ hk.2 (settle_good _ (tunnelTun_good E _ _ (hl1.sameW hk.1) (show ByteIn (.tun frame) from fire_tun hf ▸ hb)))
    · exact after_good _ _ hk.2 (settle_good _ (tunnelDnsInput_good E _ _ (hl1.sameW hk.1)))

theorem lazyoffReturn_good {c : Cli} {evs : List CEvent} (k : Resume) (h : QPost L td c evs) :
    CGood L td (lazyoffReturn c k evs) := by
  unfold lazyoffReturn
  exact loopTop_good (h.frame (frame_resume c k).book)

theorem lazyoffNext_good (E : Env L td) (c : Cli) (i : Nat) (k : Resume) (hl : Late L td c) :
    CGood L td (lazyoffNext c i k) := by
  have hx := lazyoffIter_x E c (i + 1) hl.1
  have hlate := hl.frame (frame_lazyoffIter c (i + 1)).ids
  have h : QPost L td (lazyoffIter c (i + 1)).c (lazyoffIter c (i + 1)).evs :=
    ⟨hlate, hx.1, chunkPost_of_po hlate.2 fun id ty name h => Or.inr (hx.2.1 id ty name h)⟩
  unfold lazyoffNext
  simp only
  split
  · exact h
  · exact lazyoffReturn_good k h

theorem lazyoffTail_good (E : Env L td) (c : Cli) (i : Nat) (k : Resume) (read : Int) (buf : List Nat) (hl : Late L td c) :
    CGood L td (if (lazyoffGot c read buf).2 then lazyoffReturn (lazyoffGot c read buf).1 k []
      else lazyoffNext (lazyoffGot c read buf).1 i k) := by
  have hl2 := hl.frame (frame_lazyoffGot c read buf).q
  split
  · exact lazyoffReturn_good k (.noq hl2 noq_nil)
  · exact lazyoffNext_good E _ _ _ hl2

theorem lazyoffStep_good (E : Env L td) (c : Cli) (i : Nat) (k : Resume) (inp : CInput) (hl : Late L td c) :
    CGood L td (lazyoffStep c i k inp) := by
  have hl0 : Late L td (fire c waitSel inp).1 := hl.frame (frame_fire c _ inp)
  unfold lazyoffStep
  simp only
  split
  · exact .noq hl0 noq_nil
  · rename_i c' read hw
    have hl1 : Late L td c' := hl0.frame (frame_waitdnsRound hw)
    exact lazyoffTail_good E _ _ _ _ _ hl1

theorem cstep_good (E : Env L td) (s : CState) (inp : CInput) (hl : Late L td s.c) (hb : ByteIn inp) :
    CGood L td (cstep s inp) := by
  unfold cstep
  split
  · exact .noq hl noq_nil
  · exact tunnelStep_good E _ _ hl hb
  · exact lazyoffStep_good E _ _ _ _ hl

end Iodine.CliQ
