import IodineModel.Server.Options
import IodineModel.Lemmas.Opt
/-
Helper lemmas about the model of iodined.c's `main()` (Server/Options.lean): what the option loop leaves in the password
buffer and in `mtu`, what `validate` has established when it lets a command line through, what `startup` copies into the
globals.
-/
namespace Iodine.OptL
open Iodine Iodine.Getopt Iodine.Server.Options
open Iodine.C19 (pad32)

/-- invariant of the server's option loop -/
structure SInv (o : Opts) (prev : Option (List Nat)) : Prop where
  pw : o.password = blk prev
  mtu : o.mtu < 2 ^ 31

theorem sinv_init : SInv {} none := ⟨rfl, by decide⟩

theorem srv_optStep_inv (o o' : Opts) (x : Opt) (prev : Option (List Nat)) (hi : SInv o prev)
    (h : optStep o x = .ok o') : SInv o' ((pArg x).or prev) := by
  obtain ⟨hpw, hmtu⟩ := hi
  unfold optStep at h
  split at h
  all_goals try (split at h)
  all_goals try (cases h; done)
  all_goals (injection h with h; subst h; refine ⟨?_, ?_⟩)
  -- every option but `-P` leaves the buffer alone, every option but `-m` leaves `mtu` alone
  all_goals first | exact hpw | exact hmtu | exact atoi_lt _ | skip
  rename_i a
  show (strncpy o.password a 33).set 32 0 = pad32 a ++ [0]
  exact strncpy_set _ _ (by rw [hpw, blk_length])

theorem srv_optLoop_inv : ∀ (xs : List Opt) (o o' : Opts) (prev : Option (List Nat)), SInv o prev →
    optLoop o xs = .ok o' → SInv o' (lastPFrom xs prev) :=
  optLoop_inv (fun _ => rfl) (fun o x xs => by rw [optLoop]; cases optStep o x <;> rfl) srv_optStep_inv

/-- what `validate` has established when it lets a command line through -/
structure ValidOk (env : Env) (o : Opts) (v : Validated) : Prop where
  o_eq : v.o = o
  ip : v.myIp ≠ 0xffffffff
  ip_le : v.myIp ≤ 0xffffffff
  td : Common.checkTopdomain v.topdomain true = 0
  mtu : 0 < o.mtu
  port : 1 ≤ o.port ∧ o.port ≤ 65535
  nm : 8 ≤ v.netmask ∧ v.netmask ≤ 30
  ns : v.nsIp ≠ 0xffffffff
  bind : o.bindEnable = true → 1 ≤ o.bindPort ∧ o.bindPort ≤ 65535
  pw : v.password = (passwordPhase env.envPass env.typed o.password).1

/-- a test that ends in `usage` was passed if the whole went through -/
theorem of_ite_usage {α : Type} {c : Prop} [Decidable c] {tag : String} {evs : List Ev}
    {e : Except (Exit × List Ev) α} {x : α} (h : (if c then usage tag evs else e) = .ok x) : ¬ c ∧ e = .ok x := by
  by_cases hc : c
  · rw [if_pos hc] at h; cases h
  · rw [if_neg hc] at h; exact ⟨hc, h⟩

theorem validate_ok (env : Env) (o : Opts) (rest : List (List Nat)) (v : Validated) (evs : List Ev)
    (h : validate env o rest = .ok (v, evs)) : ValidOk env o v := by
  unfold validate at h
  split at h
  · rename_i a0 a1
    extract_lets ipStr netmask myIp pw foreground r p at h
    -- the tests in the order of the C code; every intermediate result that can fail is a variable
    obtain ⟨hip, h⟩ := of_ite_usage h
    obtain ⟨htd, h⟩ := of_ite_usage h
    clear_value pw
    rcases pw with e | uid
    · cases h
    obtain ⟨hmtu, h⟩ := of_ite_usage h
    obtain ⟨hport, h⟩ := of_ite_usage h
    generalize listen4 env o [] = l4 at h
    rcases l4 with e | ⟨dns4, evs4⟩
    · cases h
    dsimp only at h
    generalize listen6 env o o.addrfamily evs4 = l6 at h
    rcases l6 with e | ⟨fam, evs6⟩
    · cases h
    dsimp only at h
    obtain ⟨hbind, h⟩ := of_ite_usage h
    obtain ⟨_, h⟩ := of_ite_usage h
    generalize (if o.nsGetExternal = true then _ else _ : Except (Exit × List Ev) (Nat × List Ev)) = ext at h
    rcases ext with e | ⟨nsIp, evsx⟩
    · cases h
    dsimp only at h
    obtain ⟨hns, h⟩ := of_ite_usage h
    obtain ⟨hnm, h⟩ := of_ite_usage h
    injection h with h
    injection h with h _
    subst h
    have hnm' : 8 ≤ netmask ∧ netmask ≤ 30 := by omega
    have hbp : o.bindEnable = true → 1 ≤ o.bindPort ∧ o.bindPort ≤ 65535 := fun hb => by
      have := not_or.mp fun hh => hbind ⟨hb, hh⟩
      omega
    exact ⟨rfl, hip, inetAddr_le _, Decidable.of_not_not htd, by omega, by omega, hnm', hns, hbp, rfl⟩
  · cases h

/-- `startup` copies what `validate` decided into the globals -/
theorem startup_final (env : Env) (v : Validated) (evs : List Ev) (f : Final) (h : (startup env v evs).final = some f) :
    ∃ v4 v6, f = finalOf v v4 v6 := by
  unfold startup at h
  repeat' split at h
  all_goals try (simp at h; done)
  all_goals
    simp only [Option.some.injEq] at h
    exact ⟨_, _, h.symm⟩

/-- `tunnel()` is entered only with the globals set -/
theorem startup_run (env : Env) (v : Validated) (evs : List Ev) (c : Int) (h : (startup env v evs).outcome = .run c) :
    ∃ f, (startup env v evs).final = some f := by
  unfold startup at h ⊢
  repeat' split at h
  all_goals try (simp at h; done)
  all_goals simp_all

/-- the three phases of `serverMain`, for a run that reaches `tunnel()` -/
theorem serverMain_final (env : Env) (argv : List (List Nat)) (f : Final) (h : (serverMain env argv).final = some f) :
    ∃ o v evs v4 v6, optLoop {} (getoptAll optstring argv).1 = .ok o ∧
      validate env o (getoptAll optstring argv).2 = .ok (v, evs) ∧ f = finalOf v v4 v6 := by
  unfold serverMain at h
  simp only at h
  split at h
  · simp at h
  · rename_i o ho
    split at h
    · simp at h
    · rename_i v evs hv
      obtain ⟨v4, v6, hf⟩ := startup_final env v evs f h
      exact ⟨o, v, evs, v4, v6, ho, hv, hf⟩

end Iodine.OptL
