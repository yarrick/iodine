import IodineModel.Lemmas.C02up1
import IodineModel.Lemmas.C02mode
import IodineModel.Lemmas.C02sched
import IodineModel.Lemmas.C02q0
/-
Upstream, both DNS modes — the client's side of an answer and of its timer, the joint invariant `InFlight` (a fragment is in flight
towards a server that waits) and ONE exchange theorem: the fragment reaches the server, which answers at once; the answer reaches the
client (two scheduler steps).  What happens next is decided by comparing the numbers of the server's reassembly buffer after the
fragment with the client's fragment in flight: equal and more to send (`InFlight.acked_more`: the fragment was stored,
`InFlight.mid_step`, or dropped while the buffer happens to carry these numbers, the false acknowledgement), equal and nothing more
to send (`InFlight.acked_done`, stated below with the quiescent state it ends in), or different (the client goes on waiting for its
timer: `InFlight.bounced`, C02up5).  Then the quiescent joint state with the two sequence-number distances as parameters (`QuietMD`),
the last fragment (three steps), the induction over the fragments, `offerC`, one whole packet and a sequence of packets.  `Exchanged`, `Completed`, `Idled` say what such steps leave as it was.
-/
namespace Iodine.C02L
open Iodine Iodine.Gen Iodine.World

/-! ### the client in mode `lz` -/

/-- a client state in mode `lz` from which `send_chunk` is about to send fragment `f` (offset `o`) of the compressed packet `out`
(`CReady`: `lz = false`, `CReadyL`: `lz = true`) -/
structure CReadyM (P : Par) (lz : Bool) (c : Client.Cli) (out : List Nat) (o f : Nat) : Prop where
  stat : CStatM P lz c
  cnt : CntM lz c 1
  data : c.outpkt.data = out
  len : c.outpkt.len = out.length
  off : c.outpkt.offset = o
  frag : c.outpkt.fragment = (f : Int)
  olt : o < out.length
  flt : f < 16
  bytes : Codec.Bytes out

theorem CReady.toM {P : Par} {c : Client.Cli} {out : List Nat} {o f : Nat} (h : CReady P c out o f) : CReadyM P false c out o f :=
  ⟨h.stat.toM, Or.inl rfl, h.data, h.len, h.off, h.frag, h.ho, h.hf, h.bytes⟩
theorem CReadyM.lazy {P : Par} {c : Client.Cli} {out : List Nat} {o f : Nat} (h : CReadyM P true c out o f) : CReadyL P c out o f :=
  ⟨h.stat.lazy, h.cnt.resolve_left Bool.noConfusion, h.data, h.len, h.off, h.frag, h.olt, h.flt, h.bytes⟩

section
variable {P : Par} {lz : Bool} {c0 : Client.Cli} {out : List Nat} {o f : Nat}

theorem CReadyM.send (h : CReadyM P lz c0 out o f) : CSend P c0 out o f :=
  ⟨h.cnt.send h.stat, h.stat.uch, h.stat.td, h.stat.L, h.stat.enc, h.stat.ty, h.stat.cmc, h.stat.oseq, h.stat.iseq, h.stat.ifrag,
    h.data, h.len, h.off, h.frag, h.olt, h.flt, h.bytes⟩

theorem CReadyM.query (hP : P.Ok) (h : CReadyM P lz c0 out o f) :
    ∃ name,
      Client.sendChunk c0 = ⟨sentStateL c0, [.query (sentState c0).chunkid P.ty name], false⟩ ∧
      1 ≤ fragLen P (out.drop o) ∧ o + fragLen P (out.drop o) ≤ out.length ∧
      UpQ P (upQuery (sentState c0).chunkid P.ty name)
        ⟨c0.outpkt.seqno.toNat, f, c0.inpkt.seqno, c0.inpkt.fragment, fragLen P (out.drop o) == out.length - o⟩
        c0.datacmc ((out.drop o).take (fragLen P (out.drop o))) :=
  h.send.sends hP

theorem CReadyM.sending_after (h : CReadyM P lz c0 out o f) : Client.isSending (afterChunk c0) = true :=
  isSending_of_len ((sentFactsL c0).olen.trans h.len) (by have := h.olt; omega)

theorem CReadyM.settle (hP : P.Ok) (h : CReadyM P lz c0 out o f) (pre : List Client.CEvent) (k : Client.Resume) :
    Client.settle (Client.afterSend (Client.sendChunk c0) pre k) =
      (⟨afterChunk c0, .tunnel⟩, pre ++ (Client.sendChunk c0).evs, .sel (Client.selectOf (afterChunk c0))) :=
  h.send.settle hP h.stat.running pre k

theorem CReadyM.no_tun (hP : P.Ok) (h : CReadyM P lz c0 out o f) : tunOfCEvents (Client.sendChunk c0).evs = [] :=
  h.send.no_tun hP

/-- the packet `tunnel_tun` builds from a frame of fewer than 65536 bytes -/
theorem newPacket_readyM {c : Client.Cli} (hc : CStatM P lz c) (hcnt : CntM lz c 1) (frame : List Nat)
    (hl : frame.length < 65536) (hb : Codec.Bytes frame) : CReadyM P lz (newPacket c frame) (0x5a :: frame) 0 0 := by
  have ht : frame.take 65536 = frame := List.take_of_length_le (by omega)
  have hs : Client.sChar ((c.outpkt.seqno + 1) % 8) = (c.outpkt.seqno + 1) % 8 := sChar_small _ (by omega)
  refine ⟨⟨hc.running, hc.conn, hc.mode, hc.uid, hc.uch, hc.td, hc.L, hc.enc, hc.ty, hc.cid, hc.cmc, hc.alive, ?_, hc.iseq, hc.ifrag,
    hc.seed⟩, hcnt, ?_, ?_, rfl, rfl, by simp, by omega, ?_⟩
  · show 0 ≤ Client.sChar ((c.outpkt.seqno + 1) % 8) ∧ Client.sChar ((c.outpkt.seqno + 1) % 8) < 8
    rw [hs]; omega
  · show (Client.compress (frame.take 65536)).take 65536 = 0x5a :: frame
    rw [ht]; unfold Client.compress
    exact List.take_of_length_le (by simp; omega)
  · show (frame.take 65536).length + 1 = (0x5a :: frame).length
    rw [ht]; simp
  · intro b hb'
    rcases List.mem_cons.1 hb' with h | h
    · subst h; decide
    · exact hb b h

/-! ### the client reads the server's answer -/

/-- A dataless answer to the query `A` the server answers in mode `lz` — the client's most recent query (immediate) or the one
before it (lazy) — that announces nothing new downstream, when no ping is due, goes straight to the upstream-ack code. -/
theorem cstep_answerM {c : Client.Cli} (hc : CStatM P lz c) (hsps : c.sendPingSoon = 0) (A : Server.Query) (pkt : List Nat)
    (hA0 : A.name.getD 0 0 = hexLower P.u ∨ A.name.getD 0 0 = 112)
    (hAid : A.id = if lz then c.chunkidPrev else c.chunkid) (hne : lz = true → A.id ≠ c.chunkid)
    (hlen : (pkt.length : Int) = 2) (hdn : (Client.decodeHdr pkt).dnSeq = c.inpkt.seqno) :
    Client.cstep ⟨c, .tunnel⟩ (cliInput (.ans A.id A.type A.name pkt)) =
      Client.settle (Client.upstream (ackBook c) (Client.decodeHdr pkt) [] false 2) := by
  have hrec : Client.recentId c A.id = true ∧ (c.lazymode = false ∨ A.id ≠ c.chunkid) := by
    unfold Client.recentId
    cases lz
    · rw [hAid, if_neg Bool.false_ne_true]
      exact ⟨by simp, Or.inl hc.mode⟩
    · rw [hAid, if_pos rfl]
      exact ⟨by simp, Or.inr (by rw [← if_pos (c := true = true) (t := c.chunkidPrev) (e := c.chunkid) rfl, ← hAid]; exact hne rfl)⟩
  have ht := tunnelDns_dataless c ⟨(pkt.length : Int), A.id, answerType A.type, 0, A.name.headD 0, pkt⟩
    (by rw [headD_eq_getD]; exact notData_held hc.uch _ hA0) hlen hrec.1 hsps hrec.2 hdn
  rw [← ht]
  exact cstep_rq c _ hc.running hc.alive hc.conn

/-- … the answer that follows the send from `c0` -/
theorem CReadyM.cstep_answer (h : CReadyM P lz c0 out o f) (A : Server.Query) (pkt : List Nat)
    (hA0 : A.name.getD 0 0 = hexLower P.u ∨ A.name.getD 0 0 = 112)
    (hAid : A.id = if lz then c0.chunkid else (sentState c0).chunkid)
    (hlen : (pkt.length : Int) = 2) (hdn : (Client.decodeHdr pkt).dnSeq = c0.inpkt.seqno) :
    Client.cstep ⟨afterChunk c0, .tunnel⟩ (cliInput (.ans A.id A.type A.name pkt)) =
      Client.settle (Client.upstream (ackBook (afterChunk c0)) (Client.decodeHdr pkt) [] false 2) := by
  have hsf : SentFacts c0 (afterChunk c0) := sentFactsL c0
  have hsi : SentIdsL c0 (afterChunk c0) := sentIdsL c0
  refine cstep_answerM h.stat.after_chunk hsf.sps A pkt hA0 ?_ (fun e => ?_) hlen (by rw [hdn, hsf.inpkt])
  · rw [hAid, hsi.cid, hsi.prev]
  · subst e
    rw [hAid, if_pos rfl]
    exact fun e => hsi.ne h.stat.cid e.symm

theorem CReadyM.acked (h : CReadyM P lz c0 out o f) : Acked c0 (ackBook (afterChunk c0)) :=
  Acked.of_sentFacts (sentFactsL c0) (sentIdsL c0).cid h.stat.cmc

theorem CReadyM.cnt_acked (h : CReadyM P lz c0 out o f) : CntM lz (ackBook (afterChunk c0)) 1 :=
  h.cnt.imp id fun e => ackBook_cnt _ ((sentIdsL c0).cnt e)

/-- the header acknowledges the fragment in flight and more is to be sent: the next fragment goes out -/
theorem CReadyM.ack_more (hP : P.Ok) (h : CReadyM P lz c0 out o f) (hdr : Client.Hdr) (hus : hdr.upSeq = c0.outpkt.seqno)
    (huf : hdr.upFrag = (f : Int)) (hlt : o + fragLen P (out.drop o) < out.length) (hf1 : f + 1 < 16) :
    ∃ c0', CReadyM P lz c0' out (o + fragLen P (out.drop o)) (f + 1) ∧ Acked c0 c0' ∧ c0'.selecttimeout = c0.selecttimeout ∧
      Client.settle (Client.upstream (ackBook (afterChunk c0)) hdr [] false 2) =
        (⟨afterChunk c0', .tunnel⟩, (Client.sendChunk c0').evs,
         .sel (Client.selectOf (afterChunk c0'))) := by
  have hsf : SentFacts c0 (afterChunk c0) := sentFactsL c0
  have hb := h.stat.after_chunk.ackBook
  have hacked := h.acked
  have hcnt := h.cnt_acked
  generalize (afterChunk c0) = c at hsf hb hacked hcnt
  obtain ⟨n1, n2, n3, n4⟩ := h.send.next hsf hf1
  have hready' : CReadyM P lz (ackNext (ackBook c)) out (o + fragLen P (out.drop o)) (f + 1) :=
    ⟨hb.move rfl hb.cid hb.cmc hb.alive, hcnt, n1, n2, n3, n4, hlt, hf1, h.bytes⟩
  refine ⟨ackNext (ackBook c), hready', ⟨hacked.cid, hacked.oseq, hacked.inpkt, hacked.cmc, hacked.seed, hacked.now, hacked.ldt⟩, hsf.selto, ?_⟩
  rw [h.send.upstream_more hsf hdr hus huf hlt]
  exact hready'.settle hP [] _

/-- the header acknowledges the last fragment: the packet is complete, the client idle -/
theorem CReadyM.ack_done (h : CReadyM P lz c0 out o f) (hdr : Client.Hdr) (hus : hdr.upSeq = c0.outpkt.seqno)
    (huf : hdr.upFrag = (f : Int)) (heq : o + fragLen P (out.drop o) = out.length) :
    ∃ cd, CStatM P lz cd ∧ CntM lz cd 1 ∧ Client.isSending cd = false ∧ Acked c0 cd ∧
      cd.selecttimeout = c0.selecttimeout ∧ cd.sendPingSoon = 20 ∧
      Client.settle (Client.upstream (ackBook (afterChunk c0)) hdr [] false 2) =
        (⟨cd, .tunnel⟩, [], .sel (Client.selectOf cd)) := by
  have hsf : SentFacts c0 (afterChunk c0) := sentFactsL c0
  have hb := h.stat.after_chunk.ackBook
  have hacked := h.acked
  have hcnt := h.cnt_acked
  generalize (afterChunk c0) = c at hsf hb hacked hcnt
  have hst : CStatM P lz (ackDone (ackBook c)) := hb.move rfl hb.cid hb.cmc hb.alive
  refine ⟨ackDone (ackBook c), hst, hcnt, rfl, ⟨hacked.cid, hacked.oseq, hacked.inpkt, hacked.cmc, hacked.seed, hacked.now, hacked.ldt⟩,
    hsf.selto, ?_, ?_⟩
  · show (if c.sendPingSoon = 0 ∨ c.sendPingSoon > 20 then 20 else c.sendPingSoon) = 20
    rw [if_pos (Or.inl hsf.sps)]
  · rw [h.send.upstream_done hsf hdr hus huf heq]
    simp [Client.finalPing, Client.settle, Client.loopTop, hst.running]

/-- the header acknowledges something else: the client only books the answer -/
theorem CReadyM.ack_other (h : CReadyM P lz c0 out o f) (hdr : Client.Hdr)
    (hno : ¬ (hdr.upSeq = c0.outpkt.seqno ∧ hdr.upFrag = (f : Int))) :
    Client.settle (Client.upstream (ackBook (afterChunk c0)) hdr [] false 2) =
      (⟨ackBook (afterChunk c0), .tunnel⟩, [],
       .sel (Client.selectOf (ackBook (afterChunk c0)))) := by
  have hsf : SentFacts c0 (afterChunk c0) := sentFactsL c0
  have hb := h.stat.after_chunk.ackBook
  generalize (afterChunk c0) = c at hsf hb
  have hbk : (ackBook c).outpkt = c.outpkt := rfl
  rw [(upstream_other_ack (ackBook c) hdr [] false 2
    (by intro ⟨_, h2, h3⟩; rw [hbk, hsf.oseq] at h2; rw [hbk, hsf.ofrag, h.frag] at h3; exact hno ⟨h2, h3⟩)).1]
  simp [Client.finalPing, Client.settle, Client.loopTop, hb.running]

end

/-! ### the client's timer while a fragment is in flight -/

/-- the timeout of `client_tunnel`'s `select` while a packet is in flight (and no ping is due "soon"): 1 s -/
theorem selectOf_sending (c : Client.Cli) (hs : Client.isSending c = true) (hsps : c.sendPingSoon = 0) :
    (Client.selectOf c).to = 1000000 := by
  unfold Client.selectOf
  simp [hs, hsps]

theorem advanceClock_sending (c : Client.Cli) (hs : Client.isSending c = true) (hsps : c.sendPingSoon = 0) :
    Client.advanceClock c (Client.selectOf c) = { c with now := c.now + 1 } := by
  unfold Client.advanceClock
  rw [selectOf_sending c hs hsps]
  rfl

/-- A timeout with a fragment in flight that was resent fewer than three times, in either mode and whatever the timer (the 1 s
of a client waiting for its answer, the 5 ms of `send_ping_soon`): the whole seconds of the timeout pass, the resend is
counted, and the fragment goes out again from the state `c1`. -/
theorem cliDoes_resend {P : Par} (hP : P.Ok) {lz : Bool} {c : Client.Cli} {out : List Nat} {o f : Nat}
    (h : CReadyM P lz c out o f) (hr : c.outchunkresent < 3)
    (ha : ¬ c.lastdownstreamtime + 60 < (Client.advanceClock c (Client.selectOf c)).now) :
    ∃ c1, c1 = { Client.advanceClock c (Client.selectOf c) with outchunkresent := c.outchunkresent + 1 } ∧
      CReadyM P lz c1 out o f ∧
      CliDoes ⟨c, .tunnel⟩ .tick ⟨afterChunk c1, .tunnel⟩ (upOfEvents (Client.sendChunk c1).evs) [] := by
  have hs : Client.isSending c = true := isSending_of_len h.len (by have := h.olt; omega)
  have h1 : CReadyM P lz { Client.advanceClock c (Client.selectOf c) with outchunkresent := c.outchunkresent + 1 } out o f :=
    ⟨h.stat.move rfl h.stat.cid h.stat.cmc ha, h.cnt.imp id fun hc => hc.congr rfl rfl, h.data, h.len, h.off, h.frag, h.olt,
      h.flt, h.bytes⟩
  have hstep : Client.tunnelStep c .tick = Client.settle (Client.afterSend (Client.sendChunk
      { Client.advanceClock c (Client.selectOf c) with outchunkresent := c.outchunkresent + 1 }) [] .timeout) := by
    rw [tunnelStep_tick c h.stat.running ha, Client.timeoutBranch_resend _ (by exact hs) (by exact hr)]
    rfl
  generalize ({ Client.advanceClock c (Client.selectOf c) with outchunkresent := c.outchunkresent + 1 } : Client.Cli) = c1
    at h1 hstep
  refine ⟨c1, rfl, h1, CliDoes.mk (evs := (Client.sendChunk c1).evs) (nx := .sel (Client.selectOf (afterChunk c1))) ?_ rfl
    (h1.no_tun hP)⟩
  show Client.tunnelStep c .tick = _
  rw [hstep, h1.settle hP [] _, List.nil_append]

/-- after an answer that acknowledged something else, the same fragment is ready to be sent again -/
theorem CReadyM.bounced {P : Par} {lz : Bool} {c0 : Client.Cli} {out : List Nat} {o f : Nat} (h : CReadyM P lz c0 out o f) :
    CReadyM P lz (ackBook (afterChunk c0)) out o f := by
  have hsf : SentFacts c0 (afterChunk c0) := sentFactsL c0
  have hb := h.stat.after_chunk.ackBook
  have hcnt := h.cnt_acked
  generalize afterChunk c0 = c at hsf hb hcnt
  exact ⟨hb, hcnt, hsf.odata.trans h.data, hsf.olen.trans h.len, hsf.ooff.trans h.off, hsf.ofrag.trans h.frag, h.olt, h.flt, h.bytes⟩

/-! ### the joint invariant: a fragment in flight -/

/-- Fragment `f` (offset `o`) of the upstream packet `out` is in flight (`c0` = the client state `send_chunk` was called in)
towards a server that waits (`SrvWait`).  Nothing is said about how the fragment's numbers relate to the server's reassembly
buffer: that decides what happens next and is a hypothesis of the step lemmas (`Expect`, `Dup`). -/
structure InFlight (P : Par) (m : Mode) (out : List Nat) (w : W) (c0 : Client.Cli) (o f : Nat) : Prop where
  ph : w.cs.ph = .tunnel
  ready : CReadyM P m.lz c0 out o f
  cli : w.cs.c = afterChunk c0
  up : w.up = upOfEvents (Client.sendChunk c0).evs
  down : w.down = []
  srv : SStat P w.srv
  oq : (Server.getUser w.srv P.u).oqFilled = 0
  syncd : (Server.getUser w.srv P.u).outpacket.seqno = c0.inpkt.seqno
  wait : SrvWait P m (Server.getUser w.srv P.u) c0.chunkid c0.datacmc c0.randSeed

section
variable {P : Par} {m : Mode} {out : List Nat} {w : W} {c0 : Client.Cli} {o f : Nat}

theorem InFlight.cs (h : InFlight P m out w c0 o f) : w.cs = ⟨afterChunk c0, .tunnel⟩ := by
  rw [cstate_eta w.cs h.ph, h.cli]

/-- the query in flight, as the server will read it -/
theorem InFlight.query (hP : P.Ok) (h : InFlight P m out w c0 o f) :
    ∃ name, w.up = [.query (sentState c0).chunkid P.ty name] ∧
      UpQ P (upQuery (sentState c0).chunkid P.ty name)
        ⟨c0.outpkt.seqno.toNat, f, c0.inpkt.seqno, c0.inpkt.fragment, fragLen P (out.drop o) == out.length - o⟩
        c0.datacmc ((out.drop o).take (fragLen P (out.drop o))) ∧
      1 ≤ fragLen P (out.drop o) ∧ o + fragLen P (out.drop o) ≤ out.length := by
  obtain ⟨name, hsend, hm1, hm2, hQ⟩ := h.ready.query hP
  exact ⟨name, by rw [h.up, hsend]; rfl, hQ, hm1, hm2⟩

/-- **One exchange** (two scheduler steps) in which the server hands no packet on: the fragment reaches the server, whose
reassembly buffer becomes `I` — plus the stored bytes if the fragment is accepted (`ok`) —; a query of the session is answered at
once with `I`'s numbers as the upstream ack; the answer reaches the client, whose upstream-ack code `upstream` decides how the
step ends. -/
theorem InFlight.exchange (hP : P.Ok) (hm : m.Ok) (h : InFlight P m out w c0 o f) {I : Server.Packet} {ok : Bool}
    (hup : recvPkt (Server.getUser w.srv P.u).inpacket c0.outpkt.seqno.toNat f = (I, ok))
    (hnl : ok = true → o + fragLen P (out.drop o) < out.length)
    (hIs : 0 ≤ I.seqno ∧ I.seqno < 8) (hIf : 0 ≤ I.fragment ∧ I.fragment < 16) :
    ∃ s' payload pkt,
      Encoding.unpackData P.ec.codec 65536 payload = (out.drop o).take (fragLen P (out.drop o)) ∧
      Answered P w.srv s' (if ok then (stored (Server.getUser w.srv P.u) I payload).inpacket else I) pkt ∧
      SrvWait P m (Server.getUser s' P.u) (sentState c0).chunkid ((c0.datacmc + 1) % 36) c0.randSeed ∧
      (Client.decodeHdr pkt).upSeq = I.seqno ∧ (Client.decodeHdr pkt).upFrag = I.fragment ∧
      ∀ (cs' : Client.CState) (evs : List Client.CEvent) (nx : Client.Next),
        Client.settle (Client.upstream (ackBook (afterChunk c0)) (Client.decodeHdr pkt) [] false 2) =
          (cs', evs, nx) → cs'.c.now = c0.now →
        promptSteps P.u 2 w =
          some { w with srv := s', down := [], cs := cs', up := upOfEvents evs, tunC := w.tunC ++ tunOfCEvents evs } := by
  obtain ⟨name, hwup, hQ, _, hm2⟩ := h.query hP
  obtain ⟨s', payload, pkt, hpl, hdoes, hans, hwait, hq'⟩ :=
    srv_answers hP hm h.srv h.ready.stat.cmc h.wait hQ hup
      (fun e => by rw [beq_eq_false_iff_ne]; have := hnl e; omega) hIs hIf
  obtain ⟨hAfrom, hAid, hA0⟩ := h.wait.ans hQ.heldBase (Or.inl hQ.c0)
  rw [upQuery_id] at hAid hwait
  generalize ansQ m.lz (Server.getUser w.srv P.u).q (upQuery (sentState c0).chunkid P.ty name) = A at hdoes hAid hA0
  obtain ⟨y, hpkt, hyo, hyi⟩ := hans.pkt
  have hJ : (if ok then (stored (Server.getUser w.srv P.u) I payload).inpacket else I).seqno = I.seqno ∧
      (if ok then (stored (Server.getUser w.srv P.u) I payload).inpacket else I).fragment = I.fragment := by
    cases ok <;> exact ⟨rfl, rfl⟩
  obtain ⟨hlen2, hdn, hus, huf⟩ := ack_hdr (x := Server.getUser w.srv P.u) hpkt (by rw [hyi, hJ.1]; exact hIs)
    (by rw [hyi, hJ.2]; exact hIf) hyo h.srv.x.oseq h.srv.x.ofrag
  have hstep := h.ready.cstep_answer A pkt hA0 hAid hlen2 (by rw [hdn]; exact h.syncd)
  refine ⟨s', payload, pkt, hpl, ?_, hwait, by rw [hus, hyi, hJ.1], by rw [huf, hyi, hJ.2], fun cs' evs nx hset hnow => ?_⟩
  · exact hans
  have hcs := h.cs
  have hdn0 := h.down
  obtain ⟨cs, srv, up, down, tC, tS⟩ := w
  subst hcs hdn0 hwup
  rw [ps_up0 hdoes, ps_down (CliDoes.mk (hstep.trans hset) rfl rfl),
    srvAt_same (hnow.trans (sentFactsL c0).now.symm), List.append_nil]
  rfl

/-- the state after an exchange in which the client was acknowledged and sent the next fragment from `c0'` -/
theorem InFlight.next (h : InFlight P m out w c0 o f) {s' : Server.Srv} {J : Server.Packet} {pkt : List Nat}
    (hans : Answered P w.srv s' J pkt)
    (hwait : SrvWait P m (Server.getUser s' P.u) (sentState c0).chunkid ((c0.datacmc + 1) % 36) c0.randSeed)
    {c0' : Client.Cli} {o' f' : Nat} (hready : CReadyM P m.lz c0' out o' f') (hack : Acked c0 c0') :
    InFlight P m out { w with srv := s', down := [], cs := ⟨afterChunk c0', .tunnel⟩,
                              up := upOfEvents (Client.sendChunk c0').evs } c0' o' f' :=
  ⟨rfl, hready, rfl, rfl, rfl, hans.stat, by rw [hans.kept.oqFilled]; exact h.oq,
    by rw [hans.kept.outpacket, hack.inpkt]; exact h.syncd, by rw [hack.cid, hack.cmc, hack.seed]; exact hwait⟩

/-- what an exchange that ends with the next fragment in flight (sent from `c0'`) leaves as it was -/
structure Exchanged (P : Par) (w w' : W) (c0 c0' : Client.Cli) : Prop where
  tunS : w'.tunS = w.tunS
  tunC : w'.tunC = w.tunC
  kept : Kept (Server.getUser w'.srv P.u) (Server.getUser w.srv P.u)
  acked : Acked c0 c0'
  selto : c0'.selecttimeout = c0.selecttimeout
  now : w'.srv.now = w.srv.now

/-- **The server's buffer after the fragment carries the numbers of the fragment in flight, and more is to be sent** (2 steps):
the client is acknowledged and sends the next fragment. -/
theorem InFlight.acked_more (hP : P.Ok) (hm : m.Ok) (h : InFlight P m out w c0 o f) {I : Server.Packet} {ok : Bool}
    (hup : recvPkt (Server.getUser w.srv P.u).inpacket c0.outpkt.seqno.toNat f = (I, ok))
    (hIs : I.seqno = c0.outpkt.seqno) (hIf : I.fragment = (f : Int))
    (hlt : o + fragLen P (out.drop o) < out.length) (hf1 : f + 1 < 16) :
    ∃ w' c0' payload, promptSteps P.u 2 w = some w' ∧
      InFlight P m out w' c0' (o + fragLen P (out.drop o)) (f + 1) ∧
      Encoding.unpackData P.ec.codec 65536 payload = (out.drop o).take (fragLen P (out.drop o)) ∧
      (Server.getUser w'.srv P.u).inpacket = (if ok then (stored (Server.getUser w.srv P.u) I payload).inpacket else I) ∧
      Exchanged P w w' c0 c0' := by
  obtain ⟨s', payload, pkt, hpl, hans, hwait, hus, huf, hrun⟩ := h.exchange hP hm hup (fun _ => hlt)
    (by rw [hIs]; exact h.ready.stat.oseq) (by rw [hIf]; have := h.ready.flt; omega)
  obtain ⟨c0', hready', hack, hsel, hset⟩ := h.ready.ack_more hP (Client.decodeHdr pkt) (hus.trans hIs) (huf.trans hIf) hlt hf1
  have h2 := hrun _ _ _ hset ((sentFactsL c0').now.trans hack.now)
  rw [hready'.no_tun hP, List.append_nil] at h2
  exact ⟨_, c0', payload, h2, h.next hans hwait hready' hack, hpl, hans.inp, ⟨rfl, rfl, hans.kept, hack, hsel, hans.now⟩⟩

/-- **A fragment that is not the last one reaches a server that expects it** (2 steps): stored, acknowledged, the next fragment
is in flight and expected.  The server assembles the bytes `T` and holds their first `oS`; the bytes still to come are the client's. -/
theorem InFlight.mid_step (hP : P.Ok) (hm : m.Ok) (h : InFlight P m out w c0 o f) {T : List Nat} {oS : Nat}
    (hE : Expect (Server.getUser w.srv P.u) T c0.outpkt.seqno.toNat oS f) (htail : T.drop oS = out.drop o)
    (h64 : T.length ≤ 65536) (hlt : o + fragLen P (out.drop o) < out.length) (hf1 : f + 1 < 16) :
    ∃ w' c0', promptSteps P.u 2 w = some w' ∧
      InFlight P m out w' c0' (o + fragLen P (out.drop o)) (f + 1) ∧
      Expect (Server.getUser w'.srv P.u) T c0'.outpkt.seqno.toNat (oS + fragLen P (out.drop o)) (f + 1) ∧
      Exchanged P w w' c0 c0' := by
  obtain ⟨hsq, hsqc⟩ := seqno_toNat h.ready.stat.oseq
  obtain ⟨I, hup, hI⟩ := recvPkt_expect hE h.srv.x.iseq
  obtain ⟨w', c0', payload, hrun, hfl, hpl, hinp, hex⟩ :=
    h.acked_more hP hm hup (hI.1.trans hsqc) hI.2.1 hlt hf1
  have hlen : T.length - oS = out.length - o := by
    have := congrArg List.length htail
    simpa only [List.length_drop] using this
  obtain ⟨e1, e2, e3, e4, e5, _⟩ := expect_stored hP (sq := c0.outpkt.seqno.toNat) (f := f) (x := Server.getUser w.srv P.u)
    (out := T) (o := oS) (m := fragLen P (out.drop o)) h.srv.x.enc payload (by rw [htail]; exact hpl) hI (by omega) h64
  have hinp' : (Server.getUser w'.srv P.u).inpacket = (stored (Server.getUser w.srv P.u) I payload).inpacket := hinp
  refine ⟨w', c0', hrun, hfl, Or.inr ⟨by omega, ?_, ?_, ?_, ?_, ?_⟩, hex⟩
  all_goals rw [hinp']
  · rw [e1, hex.acked.oseq]
  · rw [e2]; omega
  · exact e3
  · exact e4
  · rw [e5]; exact List.take_take .. |>.trans (by simp)

end

/-! ### the quiescent joint state -/

/-- Quiescent, mode `m`; the client's upstream sequence number is `du` ahead of the server's, the server's downstream number `dd`
ahead of the client's.  `QuietImmDS P du dd sl sp` is the case `m = .imm sl sp`, `QuietLazyD P du dd` the case `m = .lazy`. -/
structure QuietMD (P : Par) (m : Mode) (du dd : Nat) (w : W) : Prop where
  ph : w.cs.ph = .tunnel
  cst : CStatM P m.lz w.cs.c
  cnt : CntM m.lz w.cs.c 1
  idleC : Client.isSending w.cs.c = false
  up : w.up = []
  down : w.down = []
  srv : SStat P w.srv
  oq : (Server.getUser w.srv P.u).oqFilled = 0
  syncu : w.cs.c.outpkt.seqno = ((Server.getUser w.srv P.u).inpacket.seqno + du) % 8
  syncd : (Server.getUser w.srv P.u).outpacket.seqno = (w.cs.c.inpkt.seqno + dd) % 8
  wait : SrvWait P m (Server.getUser w.srv P.u) w.cs.c.chunkid w.cs.c.datacmc w.cs.c.randSeed

/-- distance 0, as `QuietMD P m 0 0` spells "in step" -/
theorem seqno_add_zero {y : Int} (h : 0 ≤ y ∧ y < 8) : (y + ((0 : Nat) : Int)) % 8 = y := by omega

theorem quietMD_imm {P : Par} {sl sp du dd : Nat} {w : W} : QuietMD P (.imm sl sp) du dd w ↔ QuietImmDS P du dd sl sp w :=
  ⟨fun h => ⟨h.ph, h.cst.imm, h.idleC, h.up, h.down, h.srv, h.wait.waits.idleImm h.wait.lazy, h.oq, h.syncu, h.syncd,
      h.wait.mem.1, h.wait.mem.2⟩,
   fun h => ⟨h.ph, h.cst.toM, Or.inl rfl, h.idleC, h.up, h.down, h.srv, h.oq, h.syncu, h.syncd,
      ⟨h.idle.waits, h.idle.lazy, fun e => Bool.noConfusion e, h.aged, h.paged⟩⟩⟩

theorem quietMD_lazy {P : Par} {du dd : Nat} {w : W} : QuietMD P .lazy du dd w ↔ QuietLazyD P du dd w :=
  ⟨fun h => ⟨h.ph, h.cst.lazy, h.cnt.resolve_left Bool.noConfusion, h.idleC, h.up, h.down, h.srv, h.wait.waits.idleLazy, h.oq,
      h.wait.mem.1, h.wait.held rfl, h.syncu, h.syncd, h.wait.mem.2⟩,
   fun h => ⟨h.ph, h.cst.toM, Or.inr h.cnt, h.idleC, h.up, h.down, h.srv, h.oq, h.syncu, h.syncd,
      ⟨h.idle.waits, h.idle.lazy, fun _ => h.heldid, h.held, h.mem⟩⟩⟩

/-- in step, the quiescent states are those the clean-path statements name -/
theorem quietMD_imm_zero {P : Par} {sl sp : Nat} {w : W} : QuietMD P (.imm sl sp) 0 0 w ↔ QuietImmS P sl sp w :=
  quietMD_imm.trans quietImmDS_zero

theorem quietMD_lazy_zero {P : Par} {w : W} : QuietMD P .lazy 0 0 w ↔ QuietLazy P w :=
  quietMD_lazy.trans quietLazyD_zero

theorem QuietMD.quiet {P : Par} {m : Mode} {du dd : Nat} {w : W} (h : QuietMD P m du dd w) : quiet P.u w = true := by
  have hw := h.wait.waits
  have hl := h.wait.lazy
  refine quiet_of_idle h.up h.down h.idleC hw.out h.oq hw.qs ?_
  cases hlz : m.lz <;> rw [hlz] at hw hl
  · exact Or.inr ⟨hl, hw.q⟩
  · exact Or.inl ⟨hl, hw.q.1⟩

/-- Quiescent and in step: the client `cd` has read the acknowledgement of the last fragment sent from `c0` and is idle; the
server's slot carries the numbers of that fragment's packet and waits. -/
theorem QuietMD.of_acked {P : Par} {m : Mode} {c0 cd : Client.Cli} {s' : Server.Srv} {tC tS : List (List Nat)}
    (hc0 : CStatM P m.lz c0) (hst : CStatM P m.lz cd) (hcnt : CntM m.lz cd 1) (hidle : Client.isSending cd = false)
    (hack : Acked c0 cd) (hS : SStat P s') (hoq : (Server.getUser s' P.u).oqFilled = 0)
    (hi : (Server.getUser s' P.u).inpacket.seqno = c0.outpkt.seqno)
    (ho : (Server.getUser s' P.u).outpacket.seqno = c0.inpkt.seqno)
    (hwait : SrvWait P m (Server.getUser s' P.u) (sentState c0).chunkid ((c0.datacmc + 1) % 36) c0.randSeed) :
    QuietMD P m 0 0 ⟨⟨cd, .tunnel⟩, s', [], [], tC, tS⟩ := by
  refine ⟨rfl, hst, hcnt, hidle, rfl, rfl, hS, hoq, ?_, ?_, ?_⟩
  · show cd.outpkt.seqno = ((Server.getUser s' P.u).inpacket.seqno + ((0 : Nat) : Int)) % 8
    rw [hi, hack.oseq]; exact (seqno_add_zero hc0.oseq).symm
  · show (Server.getUser s' P.u).outpacket.seqno = (cd.inpkt.seqno + ((0 : Nat) : Int)) % 8
    rw [ho, hack.inpkt]; exact (seqno_add_zero hc0.iseq).symm
  · show SrvWait P m (Server.getUser s' P.u) cd.chunkid cd.datacmc cd.randSeed
    rw [hack.cid, hack.cmc, hack.seed]; exact hwait

/-! ### the last fragment -/

/-- The three scheduler steps of a last fragment, from the per-side facts: the query reaches the server, which answers nothing
(and may write to its tun device); nothing is in flight, the client is still sending and waits one second, the server 20 ms for
its parked query: the server's timer fires and its sweep answers; the answer reaches the client, which sends nothing. -/
theorem ps_last {u : Nat} {c : Client.Cli} {cs' : Client.CState} {srv s' s'' : Server.Srv} {d : UpD} {a : DownD}
    {tC tS tn : List (List Nat)} (h1 : SrvDoes srv (srvInput d) 0 s' [] tn) (hsend : Client.isSending c = true)
    (hsel : (Client.selectOf c).to = 1000000) (hn : (Server.topOfLoop s').2.1 = 20000)
    (h2 : SrvDoes s' .tick 0 s'' [a] []) (h3 : CliDoes ⟨c, .tunnel⟩ (cliInput a) cs' [] []) (hnow : cs'.c.now = c.now) :
    promptSteps u 3 ⟨⟨c, .tunnel⟩, srv, [d], [], tC, tS⟩ = some ⟨cs', s'', [], [], tC, tS ++ tn⟩ := by
  rw [ps_up0 h1,
    ps_tickS0 (quiet_false_of_sending hsend) hn (by decide)
      (fun t ht => by
        have : (Client.selectOf c).to = t := Option.some.inj (timeoutC_tunnel.symm.trans ht)
        rw [← this, hsel]; decide) h2,
    ps_down h3, srvAt_same hnow]
  simp only [List.append_nil]
  rfl

section
variable {P : Par} {m : Mode} {out : List Nat} {w : W} {c0 : Client.Cli} {o f : Nat}

/-- The packet in flight (sent from `c0`) has been completed: what the steps from `w` to `w'` left as it was — the client's tun
device, the slot's settings, the client's timeout and sequence number, the server's clock — and where they end: the ping timer at
20 ms, each side having heard from the other at its current time. -/
structure Completed (P : Par) (w w' : W) (c0 : Client.Cli) : Prop where
  tunC : w'.tunC = w.tunC
  kept : Kept (Server.getUser w'.srv P.u) (Server.getUser w.srv P.u)
  sps : w'.cs.c.sendPingSoon = 20
  selto : w'.cs.c.selecttimeout = c0.selecttimeout
  oseq : w'.cs.c.outpkt.seqno = c0.outpkt.seqno
  now : w'.srv.now = w.srv.now
  last : (Server.getUser w'.srv P.u).lastPkt = w'.srv.now
  ldt : w'.cs.c.lastdownstreamtime = w'.cs.c.now

theorem Completed.after {P : Par} {w w1 w' : W} {c0 c1 : Client.Cli} (h : Completed P w1 w' c1) (e : Exchanged P w w1 c0 c1) :
    Completed P w w' c0 :=
  ⟨h.tunC.trans e.tunC, h.kept.trans e.kept, h.sps, h.selto.trans e.selto, h.oseq.trans e.acked.oseq, h.now.trans e.now, h.last,
    h.ldt⟩

/-- `t` seconds have passed on both clocks between `w` and `w'`, and nothing else has happened to the tun devices, to the server's
reassembly buffer and to what is kept of its slot -/
structure Idled (P : Par) (w w' : W) (t : Nat) : Prop where
  tunS : w'.tunS = w.tunS
  tunC : w'.tunC = w.tunC
  inp : (Server.getUser w'.srv P.u).inpacket = (Server.getUser w.srv P.u).inpacket
  kept : Kept (Server.getUser w'.srv P.u) (Server.getUser w.srv P.u)
  srvNow : w'.srv.now = w.srv.now + t
  cliNow : w'.cs.c.now = w.cs.c.now + t

theorem Idled.refl (P : Par) (w : W) : Idled P w w 0 := ⟨rfl, rfl, rfl, Kept.refl _, rfl, rfl⟩

theorem Idled.trans {P : Par} {w w1 w' : W} {s t : Nat} (a : Idled P w w1 s) (b : Idled P w1 w' t) : Idled P w w' (s + t) :=
  ⟨b.tunS.trans a.tunS, b.tunC.trans a.tunC, b.inp.trans a.inp, b.kept.trans a.kept, by rw [b.srvNow, a.srvNow]; omega,
    by rw [b.cliNow, a.cliNow]; omega⟩

/-- **The server drops the fragment as a duplicate, its buffer carries the numbers of the fragment in flight, and that was the
last fragment** (2 steps): the client believes the packet delivered; quiescent and in step, the server's buffer untouched. -/
theorem InFlight.acked_done (hP : P.Ok) (hm : m.Ok) (h : InFlight P m out w c0 o f)
    (hdup : Dup (Server.getUser w.srv P.u).inpacket c0.outpkt.seqno.toNat f)
    (hIs : (Server.getUser w.srv P.u).inpacket.seqno = c0.outpkt.seqno)
    (hIf : (Server.getUser w.srv P.u).inpacket.fragment = (f : Int)) (heq : o + fragLen P (out.drop o) = out.length) :
    ∃ w', promptSteps P.u 2 w = some w' ∧ QuietMD P m 0 0 w' ∧ Idled P w w' 0 ∧
      w'.cs.c.selecttimeout = c0.selecttimeout ∧ w'.cs.c.sendPingSoon = 20 := by
  obtain ⟨s', _, pkt, _, hans, hwait, hus, huf, hrun⟩ := h.exchange hP hm (recvPkt_dup hdup) (fun e => by cases e)
    h.srv.x.iseq h.srv.x.ifrag
  obtain ⟨cd, hcdstat, hcdcnt, hcdidle, hack, hcdsel, hcdsps, hset⟩ := h.ready.ack_done (Client.decodeHdr pkt)
    (hus.trans hIs) (huf.trans hIf) heq
  have h2 := hrun _ _ _ hset hack.now
  rw [show tunOfCEvents [] = [] from rfl, List.append_nil, show upOfEvents [] = [] from rfl] at h2
  have hinp : (Server.getUser s' P.u).inpacket = (Server.getUser w.srv P.u).inpacket := hans.inp
  exact ⟨_, h2, QuietMD.of_acked h.ready.stat hcdstat hcdcnt hcdidle hack hans.stat (by rw [hans.kept.oqFilled]; exact h.oq)
      (hinp ▸ hIs) (by rw [hans.kept.outpacket]; exact h.syncd) hwait,
    ⟨rfl, rfl, hinp, hans.kept, hans.now, by rw [h.cli]; exact hack.now.trans (sentFactsL c0).now.symm⟩, hcdsel, hcdsps⟩

/-- **The last fragment reaches a server that expects it** (3 steps): the server hands the assembled bytes `T` to
`handle_full_packet` and parks the query to be answered; its 20 ms timer fires before the client's second and the sweep
acknowledges; the client is idle again: quiescent, in step. -/
theorem InFlight.last_step (hP : P.Ok) (hm : m.Ok) (h : InFlight P m out w c0 o f) {T : List Nat} {oS : Nat}
    (hE : Expect (Server.getUser w.srv P.u) T c0.outpkt.seqno.toNat oS f) (htail : T.drop oS = out.drop o)
    (h64 : T.length ≤ 65536) (heq : o + fragLen P (out.drop o) = out.length)
    (hns : ∀ fr, Server.uncompress T 65536 = some fr → 24 ≤ fr.length → Server.ipDst fr ≠ (Server.getUser w.srv P.u).tunIp) :
    ∃ w', promptSteps P.u 3 w = some w' ∧ QuietMD P m 0 0 w' ∧ w'.tunS = w.tunS ++ junkUp T ∧
      (Server.getUser w'.srv P.u).inpacket.fragment = (f : Int) ∧ Completed P w w' c0 := by
  obtain ⟨name, hwup, hQ, hm1, hm2⟩ := h.query hP
  have hlast : (fragLen P (out.drop o) == out.length - o) = true := by rw [beq_iff_eq]; omega
  rw [hlast] at hQ
  obtain ⟨hsq, hsqc⟩ := seqno_toNat h.ready.stat.oseq
  have hlen : T.length - oS = out.length - o := by
    have := congrArg List.length htail
    simpa only [List.length_drop] using this
  have hoS : oS < T.length := by have := h.ready.olt; omega
  obtain ⟨s', hdoes1, ha1, hiseq, hifrag, hpark⟩ :=
    srv_last hP hm h.srv h.ready.stat.cmc h.wait (T := T) (o := oS) (by rw [htail]; exact hQ) hE hsq h.ready.flt (by omega) h64 hns
  obtain ⟨_, hAid, hA0⟩ := h.wait.ans hQ.heldBase (Or.inl hQ.c0)
  rw [upQuery_id] at hAid
  generalize ansQ m.lz (Server.getUser w.srv P.u).q (upQuery (sentState c0).chunkid P.ty name) = A at hpark hAid hA0
  have hsending := h.ready.sending_after
  obtain ⟨s'', hn, hdoes2, ha2, hin2, hwait2⟩ := srv_tick hP hm ha1.stat h.ready.stat.cmc hpark hQ
  rw [upQuery_id] at hwait2
  have hselto : (Client.selectOf (afterChunk c0)).to = 1000000 := by
    simp [Client.selectOf, hsending]
  generalize hpkt : Server.scPkt (Server.getUser s' P.u) 0 = pkt at hdoes2
  obtain ⟨hlen2, hdn, hus, huf⟩ := ack_hdr (x := Server.getUser s' P.u) (y := Server.getUser s' P.u) hpkt.symm
    (by rw [hiseq]; omega) (by rw [hifrag]; have := h.ready.flt; omega) rfl ha1.stat.x.oseq ha1.stat.x.ofrag
  have hstep3 := h.ready.cstep_answer A pkt hA0 hAid hlen2 (by rw [hdn, ha1.kept.outpacket]; exact h.syncd)
  obtain ⟨cd, hcdstat, hcdcnt, hcdidle, hack, hcdsel, hcdsps, hset⟩ := h.ready.ack_done (Client.decodeHdr pkt)
    (by rw [hus, hiseq]; exact hsqc) (by rw [huf, hifrag]) heq
  have hcs := h.cs
  have hdn0 := h.down
  have hoq := h.oq
  have hsyncd := h.syncd
  obtain ⟨cs, srv, up, down, tC, tS⟩ := w
  subst hcs hdn0 hwup
  refine ⟨⟨⟨cd, .tunnel⟩, s'', [], [], tC, tS ++ junkUp T⟩, ?_, ?_, rfl, by rw [hin2]; exact hifrag,
    ⟨rfl, ha2.kept.trans ha1.kept, hcdsps, hcdsel, hack.oseq, ha2.now.trans ha1.now,
      ha2.last.trans (ha1.last.trans (ha2.now.trans ha1.now).symm), hack.ldt.trans hack.now.symm⟩⟩
  · exact ps_last hdoes1 hsending hselto hn hdoes2 (CliDoes.mk (hstep3.trans hset) rfl rfl)
      (hack.now.trans (sentFactsL c0).now.symm)
  · exact QuietMD.of_acked h.ready.stat hcdstat hcdcnt hcdidle hack ha2.stat (by rw [ha2.kept.oqFilled, ha1.kept.oqFilled]; exact hoq)
      (by rw [hin2, hiseq]; exact hsqc) (by rw [ha2.kept.outpacket, ha1.kept.outpacket]; exact hsyncd) hwait2

/-! ### all fragments -/

/-- **All the fragments from number `f` on**: `2·g + 1` steps for `g` fragments; the server writes what `handle_full_packet`
makes of the bytes `T` it assembled. -/
theorem InFlight.run (hP : P.Ok) (hm : m.Ok) {T : List Nat} (h64 : T.length ≤ 65536) :
    ∀ (fuel : Nat) (w : W) (c0 : Client.Cli) (o oS f : Nat), InFlight P m out w c0 o f →
      Expect (Server.getUser w.srv P.u) T c0.outpkt.seqno.toNat oS f → T.drop oS = out.drop o →
      (out.drop o).length ≤ fuel → f + upFrags P fuel (out.drop o) ≤ 16 →
      (∀ fr, Server.uncompress T 65536 = some fr → 24 ≤ fr.length → Server.ipDst fr ≠ (Server.getUser w.srv P.u).tunIp) →
      ∃ w', promptSteps P.u (2 * upFrags P fuel (out.drop o) + 1) w = some w' ∧ QuietMD P m 0 0 w' ∧
        w'.tunS = w.tunS ++ junkUp T ∧
        (Server.getUser w'.srv P.u).inpacket.fragment + 1 = ((f + upFrags P fuel (out.drop o) : Nat) : Int) ∧
        Completed P w w' c0 := by
  intro fuel
  induction fuel with
  | zero =>
    intro w c0 o oS f h _ _ hl
    have := h.ready.olt
    simp only [List.length_drop] at hl
    omega
  | succ fuel ih =>
    intro w c0 o oS f h hE htail hl hf hns
    have hho := h.ready.olt
    simp only [List.length_drop] at hl
    obtain ⟨_, _, _, hm1, hm2⟩ := h.query hP
    rw [upFrags_step P fuel (drop_ne_nil hho), List.drop_drop] at hf ⊢
    by_cases hlast : o + fragLen P (out.drop o) = out.length
    · rw [hlast, List.drop_length, upFrags_nil]
      obtain ⟨w', h1, h2, h3, h4, h5⟩ := h.last_step hP hm hE htail h64 hlast hns
      exact ⟨w', h1, h2, h3, by rw [h4]; omega, h5⟩
    · have hlt : o + fragLen P (out.drop o) < out.length := by omega
      have hg1 := upFrags_pos P (fuel := fuel) (by omega) (drop_ne_nil hlt)
      obtain ⟨w1, c1, hs, hfl, hE1, hex⟩ := h.mid_step hP hm hE htail h64 hlt (by omega)
      obtain ⟨w', h1, h2, h3, h4, h5⟩ := ih w1 c1 _ _ _ hfl hE1
        (by rw [← List.drop_drop, htail, List.drop_drop])
        (by simp only [List.length_drop]; omega) (by omega) (by rw [hex.kept.tunIp]; exact hns)
      refine ⟨w', ?_, h2, by rw [h3, hex.tunS], by omega, h5.after hex⟩
      rw [show 2 * (1 + upFrags P fuel (out.drop (o + fragLen P (out.drop o)))) + 1 =
        2 + (2 * upFrags P fuel (out.drop (o + fragLen P (out.drop o))) + 1) from by omega,
        promptSteps_add P.u 2 _ w w1 hs, h1]

end

/-! ### `offerC` and one packet -/

section
variable {P : Par} {m : Mode} {w : W}

/-- `tunnel_tun` on an idle client, as a fact about the client alone: the frame is read, compressed, and the first fragment of
the new packet goes out; no time passes -/
theorem cliDoes_tun (hP : P.Ok) {lz : Bool} {c : Client.Cli} (hc : CStatM P lz c) (hcnt : CntM lz c 1)
    (hidle : Client.isSending c = false) (frame : List Nat) (hne : frame ≠ []) (hl : frame.length < 65536)
    (hb : Codec.Bytes frame) :
    CliDoes ⟨c, .tunnel⟩ (.tun frame) ⟨afterChunk (newPacket c frame), .tunnel⟩
      (upOfEvents (Client.sendChunk (newPacket c frame)).evs) [] := by
  have hready := newPacket_readyM hc hcnt frame hl hb
  have hstep : Client.cstep ⟨c, .tunnel⟩ (.tun frame) =
      (⟨afterChunk (newPacket c frame), .tunnel⟩, (Client.sendChunk (newPacket c frame)).evs,
       .sel (Client.selectOf (afterChunk (newPacket c frame)))) := by
    rw [cstep_tun c frame hc.running hc.alive hidle hne hc.conn]
    exact hready.settle hP [] _
  exact CliDoes.mk hstep rfl (hready.no_tun hP)

/-- `offerC` from a quiescent state, whatever the distance `du`: the first fragment of the new packet is in flight; its sequence
number is `du + 1` ahead of the server's -/
theorem QuietMD.offer (hP : P.Ok) {du : Nat} (hq : QuietMD P m du 0 w) (frame : List Nat) (hne : frame ≠ [])
    (hl : frame.length < 65536) (hb : Codec.Bytes frame) :
    ∃ w1, step w (.offerC frame) = w1 ∧ InFlight P m (0x5a :: frame) w1 (newPacket w.cs.c frame) 0 0 ∧
      w1.tunS = w.tunS ∧ w1.tunC = w.tunC ∧ w1.srv = w.srv ∧
      (newPacket w.cs.c frame).outpkt.seqno = ((Server.getUser w.srv P.u).inpacket.seqno + ((du + 1 : Nat) : Int)) % 8 := by
  obtain ⟨⟨c, ph⟩, srv, up, down, tC, tS⟩ := w
  obtain rfl : ph = .tunnel := hq.ph
  obtain rfl : up = [] := hq.up
  have hcst : CStatM P m.lz c := hq.cst
  have hx := hq.srv.x.iseq
  have hsu : c.outpkt.seqno = ((Server.getUser srv P.u).inpacket.seqno + du) % 8 := hq.syncu
  have hsd : (Server.getUser srv P.u).outpacket.seqno = (c.inpkt.seqno + ((0 : Nat) : Int)) % 8 := hq.syncd
  have hseq : (newPacket c frame).outpkt.seqno = ((Server.getUser srv P.u).inpacket.seqno + ((du + 1 : Nat) : Int)) % 8 := by
    have := hcst.oseq
    rw [newPacket_oseq hcst.oseq, hsu]
    omega
  rw [step_offerC_mk (tunSelC_idle hq.idleC) (cliDoes_tun hP hcst hq.cnt hq.idleC frame hne hl hb),
    srvAt_same (sentFactsL (newPacket c frame)).now, List.nil_append, List.append_nil]
  exact ⟨_, rfl, ⟨rfl, newPacket_readyM hcst hq.cnt frame hl hb, rfl, rfl, hq.down, hq.srv, hq.oq,
    show (Server.getUser srv P.u).outpacket.seqno = c.inpkt.seqno by have := hcst.iseq; omega, hq.wait⟩, rfl, rfl, rfl, hseq⟩

/-- **One packet upstream**, the client's sequence number up to three ahead of the server's (the server takes numbers 1..4 ahead
of its own for new packets): after `2·g + 1` steps quiescent and IN STEP again, the frame written exactly once.  The server's
fragment number is that of the last fragment, `g - 1`; its clock has not moved, and each side has heard from the other at its
current time. -/
theorem QuietMD.up_packet (hP : P.Ok) (hm : m.Ok) {du : Nat} (hq : QuietMD P m du 0 w) (hd : du ≤ 3) (frame : List Nat)
    (h24 : 24 ≤ frame.length) (hl : frame.length < 65536) (hb : Codec.Bytes frame)
    (hdst : Server.ipDst frame ≠ (Server.getUser w.srv P.u).tunIp)
    (hg16 : upFrags P (frame.length + 1) (0x5a :: frame) ≤ 16) :
    ∃ w', promptSteps P.u (2 * upFrags P (frame.length + 1) (0x5a :: frame) + 1) (step w (.offerC frame)) = some w' ∧
      QuietMD P m 0 0 w' ∧ w'.tunS = w.tunS ++ [tunImage frame] ∧
      (Server.getUser w'.srv P.u).inpacket.fragment + 1 = (upFrags P (frame.length + 1) (0x5a :: frame) : Int) ∧
      Completed P w w' (newPacket w.cs.c frame) := by
  have hne : frame ≠ [] := by intro hc; rw [hc] at h24; simp at h24
  obtain ⟨w1, hw1, hfl, ht1, ht2, hsrv, hseq⟩ := hq.offer hP frame hne hl hb
  have hoseq := hfl.ready.stat.oseq
  have hE : Expect (Server.getUser w1.srv P.u) (0x5a :: frame) (newPacket w.cs.c frame).outpkt.seqno.toNat 0 0 :=
    Or.inl ⟨rfl, rfl, du + 1, by omega, by omega, by rw [hsrv, ← hseq]; omega⟩
  obtain ⟨w', h1, h2, h3, h4, h5⟩ := InFlight.run hP hm (T := 0x5a :: frame) (by simp; omega) (frame.length + 1) w1 _ 0 0 0
    hfl hE rfl (by simp) (by simpa using hg16) (by rw [hsrv]; exact notSelf_compress hdst (by omega))
  rw [junkUp_marker frame h24 (by omega)] at h3
  rw [hw1]
  exact ⟨w', by simpa using h1, h2, by rw [h3, ht1], by simpa using h4,
    ⟨h5.tunC.trans ht2, hsrv ▸ h5.kept, h5.sps, h5.selto, h5.oseq, h5.now.trans (congrArg Server.Srv.now hsrv), h5.last, h5.ldt⟩⟩

/-- **A sequence of packets upstream**: each frame is offered after the previous one was delivered; all of them arrive exactly
once, in order, and the joint state is quiescent and in step again. -/
theorem QuietMD.up_sequence (hP : P.Ok) (hm : m.Ok) (fuel : Nat) (hfuel : 33 ≤ fuel) (frames : List (List Nat))
    (hq : QuietMD P m 0 0 w) (hok : ∀ f ∈ frames, UpFrameOk P (Server.getUser w.srv P.u).tunIp f) :
    QuietMD P m 0 0 (offerAllC P.u fuel w frames) ∧
    (offerAllC P.u fuel w frames).tunS = w.tunS ++ frames.map tunImage ∧
    (offerAllC P.u fuel w frames).tunC = w.tunC :=
  offerAllC_induct (Q := QuietMD P m 0 0) (ok := fun w f => UpFrameOk P (Server.getUser w.srv P.u).tunIp f)
    (fun w f hq hf => by
      obtain ⟨w', h1, h2, h3, _, h5⟩ := hq.up_packet hP hm (Nat.zero_le 3) f hf.h24 hf.hl hf.bytes hf.dst hf.frags
      rw [runPrompt_of_steps P.u _ _ _ h1 h2.quiet fuel (fuel_covers hf.frags hfuel)]
      exact ⟨h2, h3, h5.tunC, fun g hg => by show UpFrameOk P (Server.getUser w'.srv P.u).tunIp g; rw [h5.kept.tunIp]; exact hg⟩)
    frames w hq hok

end

end Iodine.C02L
