import IodineModel.Lemmas.C02d14
import IodineModel.Lemmas.C02sched
/-
RAW UDP mode (`conn = CONN_RAW_UDP`).  Per side: one turn of `client_tunnel`'s loop for a tun frame, a raw DATA datagram and
a raw ping, each preceded by the keepalive check `rawKeepalive` (`cstep_raw_*` : `CliDoes`), and the loop iterations of a
single-client server (`iteration_raw_*` : `SrvDoes`, keeping `RawSrvKept`).  Joined: from the quiescent state `QuietRaw` a
frame offered on one side is written to the peer's tun device exactly once after ONE step of the prompt scheduler
(`raw_up_cut`, `raw_down_cut`), after three when the client's keepalive is due and a ping exchange refreshes both sides'
timers (`raw_up_keepalive_cut`, `raw_down_keepalive_cut`).  `send_raw` cuts the compressed packet at 4092 bytes: the
theorems speak of the first 4091 bytes of the frame.
-/
namespace Iodine.C02L
open Iodine Iodine.Gen Iodine.World Iodine.Server

/-- a raw-mode datagram: the three magic bytes, command nibble | user nibble, payload -/
def rawFrame (u cmd : Nat) (payload : List Nat) : List Nat := [16, 209, 158, cmd ||| u] ++ payload

/-- the nibble arithmetic of both `send_raw`s and both decoders, for the commands DATA (32) and PING (48) -/
theorem nibble_facts : ∀ u, u < 16 →
    (32 ||| u) % 256 = (32 ||| u) ∧ (48 ||| u) % 256 = (48 ||| u) ∧ u &&& 15 = u ∧
    (32 ||| u) &&& 15 = u ∧ (32 ||| u) &&& 240 = 32 ∧ (48 ||| u) &&& 15 = u ∧ (48 ||| u) &&& 240 = 48 := by decide

theorem rawFrame_length (u cmd : Nat) (p : List Nat) : (rawFrame u cmd p).length = p.length + 4 := by
  simp [rawFrame]

/-- the client's static state in the raw-mode tunnel phase, nothing being sent -/
structure RawCli (u : Nat) (c : Client.Cli) : Prop where
  running : c.running = true
  conn : c.conn = .rawUdp
  uid : c.userid = (u : Int)
  alive : ¬ c.lastdownstreamtime + 60 < c.now
  idle : c.outpkt.len = 0

theorem RawCli.notSending {u : Nat} {c : Client.Cli} (hc : RawCli u c) : Client.isSending c = false := by
  simp [Client.isSending, hc.idle]

/-- the raw keepalive is due: `lastrawping + selecttimeout <= time(NULL)` -/
def kaDue (c : Client.Cli) : Prop := (c.lastrawping : Int) + c.selecttimeout ≤ (c.now : Int)

instance (c : Client.Cli) : Decidable (kaDue c) := by unfold kaDue; infer_instance

def upKa (u : Nat) (c : Client.Cli) : List UpD := if kaDue c then [.raw (rawFrame u 48 [])] else []

def evKa (u : Nat) (c : Client.Cli) : List Client.CEvent := if kaDue c then [.rawtx (rawFrame u 48 [])] else []

def cliKa (c : Client.Cli) : Client.Cli := if kaDue c then { c with lastrawping := c.now } else c

theorem upKa_due {u : Nat} {c : Client.Cli} (h : kaDue c) : upKa u c = [.raw (rawFrame u 48 [])] := if_pos h
theorem upKa_not_due {u : Nat} {c : Client.Cli} (h : ¬ kaDue c) : upKa u c = [] := if_neg h

theorem sendRaw_ping {u : Nat} {c : Client.Cli} (huid : c.userid = (u : Int)) (hu : u < 16) :
    Client.sendRaw c [] 0 RAW_HDR_CMD_PING = .rawtx (rawFrame u 48 []) := by
  unfold Client.sendRaw rawFrame
  rw [huid, maskI_natCast u 16 hu]
  show Client.CEvent.rawtx (rawHeader.take 3 ++ [(48 ||| u) % 256] ++ _) = _
  rw [(nibble_facts u hu).2.1]
  rfl

theorem rawKeepalive_raw {u : Nat} {c : Client.Cli} (hc : RawCli u c) (hu : u < 16) :
    Client.rawKeepalive c = (cliKa c, evKa u c) := by
  unfold Client.rawKeepalive cliKa evKa
  by_cases hd : kaDue c
  · rw [if_pos ⟨by rw [hc.conn]; decide, hd⟩, if_pos hd, if_pos hd, sendRaw_ping hc.uid hu]
  · rw [if_neg (fun h => hd h.2), if_neg hd, if_neg hd]

theorem upOfEvents_ka (u : Nat) (c : Client.Cli) :
    upOfEvents (evKa u c) = upKa u c := by
  unfold upKa evKa
  split <;> rfl

theorem tunOfCEvents_ka (u : Nat) (c : Client.Cli) :
    tunOfCEvents (evKa u c) = [] := by
  unfold evKa
  split <;> rfl

theorem cliKa_frame (c : Client.Cli) : cliKa c = { c with lastrawping := (cliKa c).lastrawping } := by
  unfold cliKa
  split <;> rfl

theorem RawCli.ka {u : Nat} {c : Client.Cli} (hc : RawCli u c) : RawCli u (cliKa c) := by
  rw [cliKa_frame]
  exact ⟨hc.running, hc.conn, hc.uid, hc.alive, hc.idle⟩

theorem cliKa_lastrawping (c : Client.Cli) : (cliKa c).lastrawping = if kaDue c then c.now else c.lastrawping := by
  unfold cliKa
  split <;> rfl

/-- the client after `tunnel_tun` in raw mode: the packet was built in `outpkt` and sent at once (`outpkt.len = 0`) -/
def cliUp (c : Client.Cli) (f : List Nat) : Client.Cli := (Client.sendRawData (newPacket (cliKa c) f)).1

theorem cliUp_flat (c : Client.Cli) (f : List Nat) :
    cliUp c f = { c with lastrawping := (cliKa c).lastrawping, outchunkresent := 0,
                         outpkt := { (newPacket c f).outpkt with len := 0 } } := by
  unfold cliUp cliKa
  split <;> rfl

theorem RawCli.up {u : Nat} {c : Client.Cli} (hc : RawCli u c) (f : List Nat) : RawCli u (cliUp c f) := by
  rw [cliUp_flat]
  exact ⟨hc.running, hc.conn, hc.uid, hc.alive, rfl⟩

theorem cliUp_facts (c : Client.Cli) (f : List Nat) :
    (cliUp c f).now = c.now ∧ (cliUp c f).selecttimeout = c.selecttimeout ∧
    (cliUp c f).lastdownstreamtime = c.lastdownstreamtime ∧ (cliUp c f).lastrawping = (cliKa c).lastrawping := by
  rw [cliUp_flat]
  exact ⟨rfl, rfl, rfl, rfl⟩

/-- what `send_raw` lets through of a compressed frame: `packet[4096]` minus the 4 header bytes -/
theorem take_cut (f : List Nat) : (0x5a :: f).take (min (4096 - RAW_HDR_LEN) (f.length + 1)) = 0x5a :: f.take 4091 := by
  have e : min (4096 - RAW_HDR_LEN) (f.length + 1) = min 4091 f.length + 1 := by simp only [RAW_HDR_LEN]; omega
  rw [e, List.take_succ_cons]
  congr 1
  by_cases h : f.length ≤ 4091
  · rw [List.take_of_length_le (by omega), List.take_of_length_le h]
  · rw [show min 4091 f.length = 4091 by omega]

theorem sendRawData_evs {u : Nat} {c : Client.Cli} (huid : c.userid = (u : Int)) (hu : u < 16) (f : List Nat)
    (hlen : f.length < 65536) :
    (Client.sendRawData (newPacket c f)).2 = [.rawtx (rawFrame u 32 (0x5a :: f.take 4091))] := by
  have ht : f.take 65536 = f := List.take_of_length_le (by omega)
  have huid' : (newPacket c f).userid = (u : Int) := huid
  unfold Client.sendRawData Client.sendRaw rawFrame
  rw [huid', maskI_natCast u 16 hu]
  show [Client.CEvent.rawtx (rawHeader.take 3 ++ [(RAW_HDR_CMD_DATA ||| u) % 256] ++
    ((Client.compress (f.take 65536)).take 65536).take (min (4096 - RAW_HDR_LEN) ((f.take 65536).length + 1)))] = _
  rw [ht]
  have h1 : (Client.compress f).take 65536 = 0x5a :: f := by
    unfold Client.compress
    exact List.take_of_length_le (by simp; omega)
  rw [h1, take_cut]
  have := (nibble_facts u hu).1
  show [Client.CEvent.rawtx (rawHeader.take 3 ++ [(32 ||| u) % 256] ++ (0x5a :: f.take 4091))] = _
  rw [this]
  rfl

/-- **client, tun frame, raw mode**: keepalive if due, then the (compressed) frame in one raw datagram — the first
4091 bytes of it: `send_raw` cuts the compressed packet at `4096 - 4` bytes -/
theorem cstep_raw_tun {u : Nat} {c : Client.Cli} (hc : RawCli u c) (hu : u < 16) (f : List Nat) (hne : f ≠ [])
    (hlen : f.length < 65536) :
    CliDoes ⟨c, .tunnel⟩ (.tun f) ⟨cliUp c f, .tunnel⟩ (upKa u c ++ [.raw (rawFrame u 32 (0x5a :: f.take 4091))]) [] := by
  have hs := hc.notSending
  refine CliDoes.mk (evs := evKa u c ++ [.rawtx (rawFrame u 32 (0x5a :: f.take 4091))])
    (nx := .sel (Client.selectOf (cliUp c f))) ?_ (by rw [upOfEvents_append, upOfEvents_ka]; rfl)
    (by rw [tunOfCEvents_append, tunOfCEvents_ka]; rfl)
  show Client.tunnelStep c (.tun f) = _
  have hcd : (c.conn = Client.Conn.dnsNull) = False := by rw [hc.conn]; simp
  rw [tunnelStep_tun_accept_raw c f hc.running hc.alive hs hne, rawKeepalive_raw hc hu]
  simp only [hcd, if_false, Client.settle, Client.loopTop]
  have hr : (Client.sendRawData (newPacket (cliKa c) f)).1.running = true := hc.ka.running
  rw [if_pos hr, sendRawData_evs hc.ka.uid hu f hlen]
  rfl

/-- the client after a raw DATA or PING datagram of its own user id: `lastdownstreamtime = time(NULL)` -/
def cliDown (c : Client.Cli) : Client.Cli := { cliKa c with lastdownstreamtime := (cliKa c).now }

theorem cliDown_flat (c : Client.Cli) :
    cliDown c = { c with lastrawping := (cliKa c).lastrawping, lastdownstreamtime := c.now } := by
  unfold cliDown cliKa
  split <;> rfl

theorem RawCli.down {u : Nat} {c : Client.Cli} (hc : RawCli u c) : RawCli u (cliDown c) := by
  rw [cliDown_flat]
  exact ⟨hc.running, hc.conn, hc.uid, by show ¬ c.now + 60 < c.now; omega, hc.idle⟩

theorem cliDown_facts (c : Client.Cli) :
    (cliDown c).now = c.now ∧ (cliDown c).selecttimeout = c.selecttimeout ∧
    (cliDown c).lastdownstreamtime = c.now ∧ (cliDown c).lastrawping = (cliKa c).lastrawping := by
  rw [cliDown_flat]
  exact ⟨rfl, rfl, rfl, rfl⟩

/-- `read_dns_withq` (raw half) on a DATA datagram of the own user id carrying a compressed frame -/
theorem readRaw_data {u : Nat} {c : Client.Cli} (huid : c.userid = (u : Int)) (hu : u < 16) (f : List Nat)
    (hlen : f.length + 5 ≤ 65536) :
    Client.readRaw c (rawFrame u 32 (0x5a :: f)) = ({ c with lastdownstreamtime := c.now }, [Client.writeTun f]) := by
  obtain ⟨_, _, _, n1, n2, _, _⟩ := nibble_facts u hu
  have ht : (rawFrame u 32 (0x5a :: f)).take 65536 = rawFrame u 32 (0x5a :: f) :=
    List.take_of_length_le (by rw [rawFrame_length]; simp; omega)
  unfold Client.readRaw
  rw [ht]
  simp only [rawFrame, List.cons_append, List.nil_append, List.length_cons, RAW_HDR_LEN, rawHeader,
    RAW_HDR_USR_MASK, RAW_HDR_CMD_MASK, RAW_HDR_CMD_DATA, RAW_HDR_CMD_PING]
  have h1 : ¬ (f.length + 1 + 1 + 1 + 1 + 1 < 4) := by omega
  have h2 : f.length ≤ 65536 := by omega
  simp [h1, h2, n1, n2, huid, Client.uncompress]

theorem readRaw_ping {u : Nat} {c : Client.Cli} (huid : c.userid = (u : Int)) (hu : u < 16) :
    Client.readRaw c (rawFrame u 48 []) = ({ c with lastdownstreamtime := c.now }, []) := by
  obtain ⟨_, _, _, _, _, n1, n2⟩ := nibble_facts u hu
  unfold Client.readRaw
  simp [rawFrame, RAW_HDR_LEN, rawHeader, RAW_HDR_USR_MASK, RAW_HDR_CMD_MASK, RAW_HDR_CMD_DATA, RAW_HDR_CMD_PING, n1, n2, huid]

/-- a raw datagram of the own user id: keepalive if due, `lastdownstreamtime` refreshed, then whatever `readRaw` does -/
theorem cstep_raw_dns {u : Nat} {c : Client.Cli} (hc : RawCli u c) (hu : u < 16) (b : List Nat) (evs : List Client.CEvent)
    (hread : Client.readRaw (cliKa c) b = ({ cliKa c with lastdownstreamtime := (cliKa c).now }, evs)) :
    CliDoes ⟨c, .tunnel⟩ (cliInput (.raw b)) ⟨cliDown c, .tunnel⟩ (upKa u c ++ upOfEvents evs) (tunOfCEvents evs) := by
  have hfire : Client.fire c (Client.selectOf c) (.rawans b) = (c, .dns (.rawans b)) := rfl
  refine CliDoes.mk (evs := evKa u c ++ evs) (nx := .sel (Client.selectOf (cliDown c))) ?_
    (by rw [upOfEvents_append, upOfEvents_ka]) (by rw [tunOfCEvents_append, tunOfCEvents_ka]; rfl)
  show Client.tunnelStep c (.rawans b) = _
  rw [tunnelStep_alive_raw c _ hc.running (by rw [hfire]; exact hc.alive), hfire]
  simp only
  rw [rawKeepalive_raw hc hu]
  unfold Client.tunnelDnsInput
  rw [if_neg (by rw [hc.ka.conn]; decide)]
  have hr : ({ cliKa c with lastdownstreamtime := (cliKa c).now } : Client.Cli).running = true := hc.ka.running
  simp only [Client.tunnelDnsRaw, hread, Client.settle, Client.loopTop]
  rw [if_pos hr]
  rfl

/-- **client, raw DATA datagram**: keepalive if due, `lastdownstreamtime` refreshed, the frame written to tun -/
theorem cstep_raw_data {u : Nat} {c : Client.Cli} (hc : RawCli u c) (hu : u < 16) (f : List Nat) (h4 : 4 ≤ f.length)
    (hlen : f.length + 5 ≤ 65536) :
    CliDoes ⟨c, .tunnel⟩ (cliInput (.raw (rawFrame u 32 (0x5a :: f)))) ⟨cliDown c, .tunnel⟩ (upKa u c) [tunImage f] := by
  have h := cstep_raw_dns hc hu _ _ (readRaw_data hc.ka.uid hu f hlen)
  rwa [tunOfC_writeTun f h4, show upOfEvents [Client.writeTun f] = [] from rfl, List.append_nil] at h

/-- **client, raw PING datagram**: keepalive if due, `lastdownstreamtime` refreshed, nothing else -/
theorem cstep_raw_ping {u : Nat} {c : Client.Cli} (hc : RawCli u c) (hu : u < 16) :
    CliDoes ⟨c, .tunnel⟩ (cliInput (.raw (rawFrame u 48 []))) ⟨cliDown c, .tunnel⟩ (upKa u c) [] := by
  have h := cstep_raw_dns hc hu _ _ (readRaw_ping hc.ka.uid hu)
  rwa [show upOfEvents [] = [] from rfl, List.append_nil] at h

/-! ### the server's loop iterations -/

/-- the slot of a raw-mode session with nothing pending -/
structure RawSlot (x : Session) (now : Nat) : Prop where
  active : x.active = true
  auth : x.authenticated = true
  authRaw : x.authenticatedRaw = true
  enabled : x.disabled = false
  conn : x.conn = .rawUdp
  live : now < x.lastPkt + 60
  qfrom : x.q.from_ = clientAddr
  qid : x.q.id = 0
  qsid : x.qs.id = 0
  out : x.outpacket.len = 0
  oq : x.oqFilled = 0
  imm : x.lazy = false

/-- a server whose only session is the raw-mode session `u` of the client at `clientAddr` -/
structure RawSrv (u : Nat) (s : Srv) : Prop where
  solo : Solo u s
  slot : RawSlot (getUser s u) s.now
  ip : s.cfg.checkIp = false ∨ (getUser s u).host = clientAddr

def srvTop (x : Session) : Session := { x with qsNew := false }

/-- the slot after `handle_raw_data` + `handle_full_packet` for the compressed frame `0x5a :: f` -/
def srvUp (x : Session) (f : List Nat) (now : Nat) : Session :=
  { x with lastPkt := now, q := rawQuery clientAddr,
           inpacket := { x.inpacket with offset := 0, data := 0x5a :: f, len := 0 } }

/-- the slot when `handle_raw_data` calls `handle_full_packet` -/
def srvIn (x : Session) (f : List Nat) (now : Nat) : Session :=
  { x with lastPkt := now, q := rawQuery clientAddr,
           inpacket := { x.inpacket with offset := 0, data := 0x5a :: f, len := (0x5a :: f).length } }

/-- the slot after `handle_raw_ping` -/
def srvPing (x : Session) (now : Nat) : Session := { x with lastPkt := now, q := rawQuery clientAddr }

theorem RawSlot.top {x : Session} {now : Nat} (h : RawSlot x now) : RawSlot (srvTop x) now :=
  ⟨h.active, h.auth, h.authRaw, h.enabled, h.conn, h.live, h.qfrom, h.qid, h.qsid, h.out, h.oq, h.imm⟩

theorem RawSlot.up {x : Session} {now : Nat} (h : RawSlot x now) (f : List Nat) : RawSlot (srvUp x f now) now :=
  ⟨h.active, h.auth, h.authRaw, h.enabled, h.conn, by show now < now + 60; omega, rfl, rfl, h.qsid, h.out, h.oq, h.imm⟩

theorem RawSlot.ping {x : Session} {now : Nat} (h : RawSlot x now) : RawSlot (srvPing x now) now :=
  ⟨h.active, h.auth, h.authRaw, h.enabled, h.conn, by show now < now + 60; omega, rfl, rfl, h.qsid, h.out, h.oq, h.imm⟩

theorem RawSlot.isLive {x : Session} {now : Nat} (h : RawSlot x now) : Server.live x now = true := by
  simp [Server.live, h.active, h.enabled]; exact h.live

theorem topSess_raw {x : Session} {now : Nat} (h : RawSlot x now) : topSess x now = srvTop x := topSess_of_live h.isLive

theorem sweepSess_raw {x : Session} (h : x.conn = .rawUdp) (u now : Nat) : sweepSess x u now = (x, []) := by
  unfold sweepSess
  rw [if_neg (by rw [h]; simp)]

structure RawSrvKept (u : Nat) (s s' : Srv) : Prop where
  inv : RawSrv u s'
  now : s'.now = s.now
  tunIp : (getUser s' u).tunIp = (getUser s u).tunIp

theorem RawSrv.put {u : Nat} {s : Srv} (h : RawSrv u s) (y : Session) {l : Nat} (hy : RawSlot y s.now)
    (hk : y.host = (getUser s u).host ∧ y.tunIp = (getUser s u).tunIp ∧ y.lastPkt = l) :
    RawSrvKept u s { putUser s u y with now := s.now } ∧ (getUser { putUser s u y with now := s.now } u).lastPkt = l := by
  have hg := getUser_put_now s u y s.now h.solo.lt
  refine ⟨⟨⟨(h.solo.putUser y).withNow _, by rw [hg]; exact hy, ?_⟩, rfl, by rw [hg, hk.2.1]⟩, by rw [hg, hk.2.2]⟩
  rw [hg, hk.1]
  exact h.ip

theorem srvTop_same (x : Session) :
    (srvTop x).host = x.host ∧ (srvTop x).tunIp = x.tunIp ∧ (srvTop x).lastPkt = x.lastPkt := ⟨rfl, rfl, rfl⟩

theorem srvUp_same (x : Session) (f : List Nat) (n : Nat) :
    (srvUp (srvTop x) f n).host = x.host ∧ (srvUp (srvTop x) f n).tunIp = x.tunIp ∧ (srvUp (srvTop x) f n).lastPkt = n :=
  ⟨rfl, rfl, rfl⟩

theorem srvPing_same (x : Session) (n : Nat) :
    (srvPing (srvTop x) n).host = x.host ∧ (srvPing (srvTop x) n).tunIp = x.tunIp ∧ (srvPing (srvTop x) n).lastPkt = n :=
  ⟨rfl, rfl, rfl⟩

/-- the state the handlers of an iteration run on -/
theorem RawSrv.top {u : Nat} {s : Srv} (h : RawSrv u s) :
    RawSrv u { putUser s u (srvTop (getUser s u)) with now := s.now } :=
  (h.put _ h.slot.top (srvTop_same _)).1.inv

theorem checkAuth_raw {u : Nat} {s : Srv} (h : RawSrv u s) :
    checkAuthenticatedUserAndIp s (u : Int) (rawQuery clientAddr) = false := by
  have h1 : ¬ ((u : Int) < 0 ∨ (u : Int) ≥ (s.cfg.createdUsers : Int)) := by
    rw [h.solo.created]; have := h.solo.lt; omega
  have h2 : ¬ ((getUser s u).lastPkt + 60 < s.now) := by have := h.slot.live; omega
  unfold checkAuthenticatedUserAndIp checkUserAndIp
  simp only [h1, if_false, Int.toNat_natCast, h.slot.active, h.slot.enabled, h.slot.auth, h2, Bool.not_true, Bool.or_self,
    Bool.false_eq_true]
  rcases h.ip with hip | hip
  · simp [hip]
  · simp [hip, rawQuery, clientAddr]

/-- **server, raw DATA datagram** carrying a frame that is not for the session itself: written to tun -/
theorem rawDecode_data {u : Nat} {s : Srv} (h : RawSrv u s) (hu : u < 16) (f : List Nat) (h24 : 24 ≤ f.length)
    (hlen : f.length + 5 ≤ 65536) (hdst : ipDst f ≠ (getUser s u).tunIp) :
    rawDecode s (rawFrame u 32 (0x5a :: f)) clientAddr =
      some (putUser s u (srvUp (getUser s u) f s.now), [Server.writeTun f]) := by
  obtain ⟨_, _, _, n1, n2, _, _⟩ := nibble_facts u hu
  have hl := h.solo.lt
  have hd : handleRawData s (0x5a :: f) (rawQuery clientAddr) u =
      (putUser s u (srvUp (getUser s u) f s.now), [Server.writeTun f]) := by
    unfold handleRawData
    rw [checkAuth_raw h]
    simp only [Bool.false_eq_true, if_false, h.slot.authRaw, Bool.not_true]
    rw [setUser_eq_putUser]
    show handleFullPacket (putUser s u (srvIn (getUser s u) f s.now)) u = _
    generalize hx1 : srvIn (getUser s u) f s.now = x1
    have hg : getUser (putUser s u x1) u = x1 := getUser_putUser_self _ _ _ hl
    have htk : x1.inpacket.data.take x1.inpacket.len = 0x5a :: f := by
      subst hx1
      exact List.take_of_length_le (Nat.le_refl _)
    have hns : ¬ selfAddressed (getUser (putUser s u x1) u) (putUser s u x1).now := by
      rw [hg]
      rintro ⟨out, ho, _, _, _, _, _, hd⟩
      rw [htk, uncompress_compress f (by omega)] at ho
      cases ho
      apply hdst
      rw [hd]; subst hx1; rfl
    rw [handleFullPacket_eq (h.solo.putUser x1) hns, hg, putUser_putUser]
    have hfe : fullEvs x1 = [Server.writeTun f] := by
      unfold fullEvs
      rw [htk, uncompress_compress f (by omega)]
      simp only
      rw [if_pos (by omega)]
    rw [hfe]
    subst hx1
    rfl
  unfold rawDecode
  simp only [rawFrame, List.cons_append, List.nil_append, List.length_cons, RAW_HDR_LEN, rawHeader,
    RAW_HDR_USR_MASK, RAW_HDR_CMD_MASK, RAW_HDR_CMD_DATA, RAW_HDR_CMD_PING, RAW_HDR_CMD_LOGIN]
  have h1 : ¬ (f.length + 1 + 1 + 1 + 1 + 1 < 4) := by omega
  simp [h1, n1, n2, hd]

/-- **server, raw PING datagram**: answered with a raw ping to the sender -/
theorem rawDecode_ping {u : Nat} {s : Srv} (h : RawSrv u s) (hu : u < 16) :
    rawDecode s (rawFrame u 48 []) clientAddr =
      some (putUser s u (srvPing (getUser s u) s.now), [Event.raw clientAddr (rawFrame u 48 [])]) := by
  obtain ⟨_, _, n0, _, _, n1, n2⟩ := nibble_facts u hu
  have hd : handleRawPing s (rawQuery clientAddr) u =
      (putUser s u (srvPing (getUser s u) s.now), [Event.raw clientAddr (rawFrame u 48 [])]) := by
    unfold handleRawPing
    rw [checkAuth_raw h]
    simp only [Bool.false_eq_true, if_false, h.slot.authRaw, Bool.not_true]
    rw [setUser_eq_putUser]
    unfold Server.sendRaw rawFrame
    simp only [RAW_HDR_CMD_PING, n0]
    rfl
  unfold rawDecode
  simp [rawFrame, RAW_HDR_LEN, rawHeader, RAW_HDR_USR_MASK, RAW_HDR_CMD_MASK, RAW_HDR_CMD_DATA, RAW_HDR_CMD_PING,
    RAW_HDR_CMD_LOGIN, n1, n2, hd]

/-- **server, tun frame for the raw-mode session**: one raw datagram to the address remembered in `q`, carrying the
first 4091 bytes of the frame (`send_raw`: `packet[4096]`) -/
theorem tunnelTun_raw {u : Nat} {s : Srv} (h : RawSrv u s) (hu : u < 16) (f : List Nat) (h24 : 24 ≤ f.length)
    (hdst : ipDst f = (getUser s u).tunIp) :
    Server.tunnelTun s f = (s, [Event.raw clientAddr (rawFrame u 32 (0x5a :: f.take 4091))]) := by
  obtain ⟨_, _, n0, _, _, _, _⟩ := nibble_facts u hu
  unfold Server.tunnelTun
  rw [if_neg (by omega), if_neg (by omega), findUserByIp_solo h.solo]
  simp only
  rw [if_pos ⟨h.slot.active, h.slot.auth, by simp [h.slot.enabled], by have := h.slot.live; omega, hdst⟩]
  simp only [h.slot.conn]
  rw [if_neg (by simp)]
  unfold Server.sendRaw rawFrame
  simp only [h.slot.qfrom, n0, RAW_HDR_CMD_DATA]
  have : (Server.compress f).take (min (4096 - RAW_HDR_LEN) (Server.compress f).length) = 0x5a :: f.take 4091 := by
    unfold Server.compress
    rw [List.length_cons]
    exact take_cut f
  rw [this]
  rfl

/-- a raw datagram of the client that `rawDecode`, on the state the handlers run on, turns into the raw-mode slot `y` and
the events `evs`: the iteration does just that (the sweep skips raw-mode slots) -/
theorem iteration_raw_dgram {u : Nat} {s : Srv} (h : RawSrv u s) (b : List Nat) (hb : b.length ≤ 65536) {y : Session}
    {evs : List Event} {l : Nat}
    (hd : rawDecode { putUser s u (srvTop (getUser s u)) with now := s.now } b clientAddr =
      some ({ putUser s u y with now := s.now }, evs))
    (hy : RawSlot y s.now) (hk : y.host = (getUser s u).host ∧ y.tunIp = (getUser s u).tunIp ∧ y.lastPkt = l) :
    ∃ s', SrvDoes s (srvInput (.raw b)) 0 s' (downOfEvents evs) (tunOfSEvents evs) ∧ RawSrvKept u s s' ∧
      (getUser s' u).lastPkt = l := by
  have hit := iteration_solo h.solo (.rawf clientAddr b) s.now y evs (by intro g hc; cases hc) (by
    rw [topSess_raw h.slot]
    unfold dispatch
    simp only
    rw [List.take_of_length_le hb, hd])
  rw [sweepSess_raw hy.conn] at hit
  exact ⟨_, SrvDoes.mk hit (by simp [downOfEvents_append, downOfEvents]) (by simp [tunOfSEvents_append, tunOfSEvents]),
    h.put _ hy hk⟩

/-- **server, raw DATA datagram**: the frame is written to the tun device, the client has been heard from -/
theorem iteration_raw_data {u : Nat} {s : Srv} (h : RawSrv u s) (hu : u < 16) (f : List Nat) (h24 : 24 ≤ f.length)
    (hlen : f.length + 5 ≤ 65536) (hdst : ipDst f ≠ (getUser s u).tunIp) :
    ∃ s', SrvDoes s (srvInput (.raw (rawFrame u 32 (0x5a :: f)))) 0 s' [] [tunImage f] ∧ RawSrvKept u s s' ∧
      (getUser s' u).lastPkt = s.now := by
  have hg := getUser_put_now s u (srvTop (getUser s u)) s.now h.solo.lt
  have hd := rawDecode_data h.top hu f h24 hlen (by rw [hg]; exact hdst)
  rw [hg, putUser_put_now] at hd
  exact iteration_raw_dgram h _ (by rw [rawFrame_length]; simp; omega) hd (h.slot.top.up f) (srvUp_same _ f _)

/-- **server, raw PING datagram**: answered, the client has been heard from -/
theorem iteration_raw_ping {u : Nat} {s : Srv} (h : RawSrv u s) (hu : u < 16) :
    ∃ s', SrvDoes s (srvInput (.raw (rawFrame u 48 []))) 0 s' [.raw (rawFrame u 48 [])] [] ∧ RawSrvKept u s s' ∧
      (getUser s' u).lastPkt = s.now := by
  have hg := getUser_put_now s u (srvTop (getUser s u)) s.now h.solo.lt
  have hd := rawDecode_ping h.top hu
  rw [hg, putUser_put_now] at hd
  have hit := iteration_raw_dgram h _ (by rw [rawFrame_length]; simp) hd h.slot.top.ping (srvPing_same _ _)
  rwa [show downOfEvents [Event.raw clientAddr (rawFrame u 48 [])] = [.raw (rawFrame u 48 [])] by simp [downOfEvents]] at hit

theorem tunSelS_raw {u : Nat} {s : Srv} (h : RawSrv u s) : (topOfLoop s).2.2 = true :=
  tunSelS_solo h.solo h.slot.isLive (Or.inl h.slot.conn)

/-- **server, tun frame for the session**: one raw DATA datagram, the slot untouched -/
theorem iteration_raw_tun {u : Nat} {s : Srv} (h : RawSrv u s) (hu : u < 16) (f : List Nat) (h24 : 24 ≤ f.length)
    (hlen : f.length < 65536) (hdst : ipDst f = (getUser s u).tunIp) :
    ∃ s', SrvDoes s (.tun f) 0 s' [.raw (rawFrame u 32 (0x5a :: f.take 4091))] [] ∧ RawSrvKept u s s' ∧
      (getUser s' u).lastPkt = (getUser s u).lastPkt := by
  have hl := h.solo.lt
  have hg := getUser_put_now s u (srvTop (getUser s u)) s.now hl
  have hd := tunnelTun_raw h.top hu f h24 (by rw [hg]; exact hdst)
  have hit := iteration_tun h.solo f s.now (srvTop (getUser s u)) [Event.raw clientAddr (rawFrame u 32 (0x5a :: f.take 4091))]
    (tunSelS_raw h) (by
      rw [topSess_raw h.slot, List.take_of_length_le (by omega), hd])
  rw [sweepSess_raw h.slot.top.conn] at hit
  exact ⟨_, SrvDoes.mk hit (by simp [downOfEvents]) rfl, h.put _ h.slot.top (srvTop_same _)⟩

/-! ### the joined model -/

/-- the joint invariant of a raw-mode session `u` (datagrams may be in flight) -/
structure RawInv (u : Nat) (w : W) : Prop where
  /-- the client thread is parked in the `select` of `client_tunnel` -/
  ph : w.cs.ph = .tunnel
  /-- the user id fits the nibble of the raw header -/
  u16 : u < 16
  cli : RawCli u w.cs.c
  srv : RawSrv u w.srv

/-- **quiescent raw-mode joint state**: the invariant, and nothing in flight -/
structure QuietRaw (u : Nat) (w : W) : Prop where
  inv : RawInv u w
  up : w.up = []
  down : w.down = []

theorem QuietRaw.quiet {u : Nat} {w : W} (h : QuietRaw u w) : quiet u w = true :=
  have hs := h.inv.srv.slot
  quiet_of_idle h.up h.down h.inv.cli.notSending hs.out hs.oq hs.qsid (Or.inr ⟨hs.imm, hs.qid⟩)

theorem QuietRaw.mk_eq {u : Nat} {c : Client.Cli} {ph : Client.Phase} {srv : Server.Srv} {up : List UpD} {down : List DownD}
    {tC tS : List (List Nat)} (h : QuietRaw u ⟨⟨c, ph⟩, srv, up, down, tC, tS⟩) :
    ph = .tunnel ∧ up = [] ∧ down = [] ∧ u < 16 ∧ RawCli u c ∧ RawSrv u srv :=
  ⟨h.inv.ph, h.up, h.down, h.inv.u16, h.inv.cli, h.inv.srv⟩

structure RawKept (u : Nat) (w w' : W) : Prop where
  tunIp : (Server.getUser w'.srv u).tunIp = (Server.getUser w.srv u).tunIp
  nowS : w'.srv.now = w.srv.now
  nowC : w'.cs.c.now = w.cs.c.now
  selto : w'.cs.c.selecttimeout = w.cs.c.selecttimeout

/-- later in the turn in which `c` made its keepalive check (`c'`: same clock, `lastrawping` as the check left it) the keepalive
is not due: it either was not, or `lastrawping` is the current time -/
theorem not_due_after (c c' : Client.Cli) (hsel : 0 < c.selecttimeout) (e1 : c'.now = c.now)
    (e2 : c'.selecttimeout = c.selecttimeout) (e3 : c'.lastrawping = (cliKa c).lastrawping) : ¬ kaDue c' := by
  unfold kaDue
  rw [e1, e2, e3, cliKa_lastrawping]
  split
  · omega
  · next hnd => exact hnd

/-- the cut at 4091 bytes keeps the IP header -/
theorem ipDst_cut (f : List Nat) : Server.ipDst (f.take 4091) = Server.ipDst f := by
  unfold Server.ipDst
  rw [List.drop_take, List.take_take]
  rfl

theorem cut_length (f : List Nat) (h24 : 24 ≤ f.length) : 24 ≤ (f.take 4091).length ∧ (f.take 4091).length + 5 ≤ 65536 := by
  rw [List.length_take]; omega

/-- **One packet upstream, raw mode, keepalive not due, any length.**  From a quiescent raw-mode joint state, the first
4091 bytes of a frame (`send_raw` cuts the compressed packet at `4096 - 4` bytes, silently) that is not addressed to the
client's own tunnel address are written to the server's tun device after ONE step of the prompt schedule; quiescent again.
The server has heard from the client (`last_pkt`), the client has heard nothing (`lastdownstreamtime` unchanged). -/
theorem raw_up_cut {u : Nat} {w : W} (hq : QuietRaw u w) (f : List Nat) (h24 : 24 ≤ f.length) (hlen : f.length < 65536)
    (hdst : Server.ipDst f ≠ (Server.getUser w.srv u).tunIp) (hnd : ¬ kaDue w.cs.c) :
    ∃ w', promptSteps u 1 (step w (.offerC f)) = some w' ∧ QuietRaw u w' ∧
      w'.tunS = w.tunS ++ [tunImage (f.take 4091)] ∧ w'.tunC = w.tunC ∧ RawKept u w w' ∧
      (Server.getUser w'.srv u).lastPkt = w'.srv.now ∧
      w'.cs.c.lastdownstreamtime = w.cs.c.lastdownstreamtime ∧ w'.cs.c.lastrawping = w.cs.c.lastrawping := by
  obtain ⟨⟨c, ph⟩, srv, up, down, tunC, tunS⟩ := w
  obtain ⟨rfl, rfl, rfl, hu, hcli, hsrv⟩ := hq.mk_eq
  replace hnd : ¬ kaDue c := hnd
  have hne : f ≠ [] := by intro hc; rw [hc] at h24; simp at h24
  have hC := cstep_raw_tun hcli hu f hne hlen
  rw [upKa_not_due hnd, List.nil_append] at hC
  obtain ⟨s', hS, hk, hlp⟩ := iteration_raw_data hsrv hu (f.take 4091) (cut_length f h24).1 (cut_length f h24).2
    (by rw [ipDst_cut]; exact hdst)
  have hc := cliUp_facts c f
  refine ⟨⟨⟨cliUp c f, .tunnel⟩, s', [], [], tunC, tunS ++ [tunImage (f.take 4091)]⟩, ?_, ⟨⟨rfl, hu, hcli.up f, hk.inv⟩, rfl, rfl⟩,
    rfl, rfl, ⟨hk.tunIp, hk.now, hc.1, hc.2.1⟩, hlp.trans hk.now.symm, hc.2.2.1,
    hc.2.2.2.trans ((cliKa_lastrawping c).trans (if_neg hnd))⟩
  rw [step_offerC_mk (tunSelC_idle hcli.notSending) hC, srvAt_same hc.1, List.nil_append, ps_up0 hS, List.append_nil]
  rfl

/-- **One packet upstream, raw mode, keepalive due, any length** (`lastrawping + selecttimeout <= time(NULL)`; the case the
keepalive was added for: traffic in one direction only).  The client sends a raw ping in front of the data datagram;
the prompt schedule delivers the ping (the server answers it), the data datagram (written to the server's tun device),
and the server's ping answer: THREE steps, quiescent again.  Afterwards both sides have heard from each other:
`last_pkt = now` on the server, `lastdownstreamtime = lastrawping = now` on the client. -/
theorem raw_up_keepalive_cut {u : Nat} {w : W} (hq : QuietRaw u w) (f : List Nat) (h24 : 24 ≤ f.length)
    (hlen : f.length < 65536) (hdst : Server.ipDst f ≠ (Server.getUser w.srv u).tunIp)
    (hd : kaDue w.cs.c) (hsel : 0 < w.cs.c.selecttimeout) :
    ∃ w', promptSteps u 3 (step w (.offerC f)) = some w' ∧ QuietRaw u w' ∧
      w'.tunS = w.tunS ++ [tunImage (f.take 4091)] ∧ w'.tunC = w.tunC ∧ RawKept u w w' ∧
      (Server.getUser w'.srv u).lastPkt = w'.srv.now ∧
      w'.cs.c.lastdownstreamtime = w'.cs.c.now ∧ w'.cs.c.lastrawping = w'.cs.c.now := by
  obtain ⟨⟨c, ph⟩, srv, up, down, tunC, tunS⟩ := w
  obtain ⟨rfl, rfl, rfl, hu, hcli, hsrv⟩ := hq.mk_eq
  replace hd : kaDue c := hd
  have hne : f ≠ [] := by intro hc; rw [hc] at h24; simp at h24
  have hC1 := cstep_raw_tun hcli hu f hne hlen
  rw [upKa_due hd, List.singleton_append] at hC1
  obtain ⟨s2, hS2, hk2, _⟩ := iteration_raw_ping hsrv hu
  obtain ⟨s3, hS3, hk3, hlp3⟩ := iteration_raw_data hk2.inv hu (f.take 4091) (cut_length f h24).1 (cut_length f h24).2
    (by rw [hk2.tunIp, ipDst_cut]; exact hdst)
  have hc := cliUp_facts c f
  have hnd : ¬ kaDue (cliUp c f) := not_due_after c _ hsel hc.1 hc.2.1 hc.2.2.2
  have hC4 := cstep_raw_ping (hcli.up f) hu
  rw [upKa_not_due hnd] at hC4
  have hc' := cliDown_facts (cliUp c f)
  refine ⟨⟨⟨cliDown (cliUp c f), .tunnel⟩, s3, [], [], tunC, tunS ++ [tunImage (f.take 4091)]⟩, ?_,
    ⟨⟨rfl, hu, (hcli.up f).down, hk3.inv⟩, rfl, rfl⟩, rfl, rfl,
    ⟨hk3.tunIp.trans hk2.tunIp, hk3.now.trans hk2.now, hc'.1.trans hc.1, hc'.2.1.trans hc.2.1⟩,
    hlp3.trans hk3.now.symm, hc'.2.2.1.trans hc'.1.symm, ?_⟩
  · rw [step_offerC_mk (tunSelC_idle hcli.notSending) hC1, srvAt_same hc.1, List.nil_append, ps_up0 hS2, ps_up hS3,
      List.append_nil, ps_down0 hC4 hc'.1]
    simp only [promptSteps, List.append_nil]
  · refine (hc'.2.2.2.trans ((cliKa_lastrawping _).trans (if_neg hnd))).trans ?_
    refine (hc.2.2.2.trans ?_).trans (hc'.1.trans hc.1).symm
    exact (cliKa_lastrawping c).trans (if_pos hd)

/-- **One packet downstream, raw mode, keepalive not due, any length.**  The first 4091 bytes of a frame addressed to the client's
tunnel address, offered to the server, are written to the client's tun device after ONE step of the prompt schedule;
quiescent again.  The client has heard from the server (`lastdownstreamtime = now`), the server nothing. -/
theorem raw_down_cut {u : Nat} {w : W} (hq : QuietRaw u w) (f : List Nat) (h24 : 24 ≤ f.length) (hlen : f.length < 65536)
    (hdst : Server.ipDst f = (Server.getUser w.srv u).tunIp) (hnd : ¬ kaDue w.cs.c) :
    ∃ w', promptSteps u 1 (step w (.offerS f)) = some w' ∧ QuietRaw u w' ∧
      w'.tunC = w.tunC ++ [tunImage (f.take 4091)] ∧ w'.tunS = w.tunS ∧ RawKept u w w' ∧
      w'.cs.c.lastdownstreamtime = w'.cs.c.now ∧
      (Server.getUser w'.srv u).lastPkt = (Server.getUser w.srv u).lastPkt ∧ w'.cs.c.lastrawping = w.cs.c.lastrawping := by
  obtain ⟨⟨c, ph⟩, srv, up, down, tunC, tunS⟩ := w
  obtain ⟨rfl, rfl, rfl, hu, hcli, hsrv⟩ := hq.mk_eq
  replace hnd : ¬ kaDue c := hnd
  obtain ⟨s1, hS, hk, hlp⟩ := iteration_raw_tun hsrv hu f h24 hlen hdst
  have hC := cstep_raw_data hcli hu (f.take 4091) (by have := (cut_length f h24).1; omega) (cut_length f h24).2
  rw [upKa_not_due hnd] at hC
  have hc := cliDown_facts c
  refine ⟨⟨⟨cliDown c, .tunnel⟩, s1, [], [], tunC ++ [tunImage (f.take 4091)], tunS⟩, ?_, ⟨⟨rfl, hu, hcli.down, hk.inv⟩, rfl, rfl⟩,
    rfl, rfl, ⟨hk.tunIp, hk.now, hc.1, hc.2.1⟩, hc.2.2.1.trans hc.1.symm, hlp,
    hc.2.2.2.trans ((cliKa_lastrawping c).trans (if_neg hnd))⟩
  rw [step_offerS_mk (tunSelS_raw hsrv) hS, List.nil_append, ps_down0 hC hc.1, List.append_nil]
  rfl

/-- **One packet downstream, raw mode, keepalive due, any length.**  The client writes the frame to its tun device and, the
keepalive being due, sends a raw ping; the server answers it; the answer arrives: THREE steps, quiescent again, both
sides have heard from each other. -/
theorem raw_down_keepalive_cut {u : Nat} {w : W} (hq : QuietRaw u w) (f : List Nat) (h24 : 24 ≤ f.length)
    (hlen : f.length < 65536) (hdst : Server.ipDst f = (Server.getUser w.srv u).tunIp)
    (hd : kaDue w.cs.c) (hsel : 0 < w.cs.c.selecttimeout) :
    ∃ w', promptSteps u 3 (step w (.offerS f)) = some w' ∧ QuietRaw u w' ∧
      w'.tunC = w.tunC ++ [tunImage (f.take 4091)] ∧ w'.tunS = w.tunS ∧ RawKept u w w' ∧
      w'.cs.c.lastdownstreamtime = w'.cs.c.now ∧
      (Server.getUser w'.srv u).lastPkt = w'.srv.now ∧ w'.cs.c.lastrawping = w'.cs.c.now := by
  obtain ⟨⟨c, ph⟩, srv, up, down, tunC, tunS⟩ := w
  obtain ⟨rfl, rfl, rfl, hu, hcli, hsrv⟩ := hq.mk_eq
  replace hd : kaDue c := hd
  obtain ⟨s1, hS1, hk1, _⟩ := iteration_raw_tun hsrv hu f h24 hlen hdst
  have hC2 := cstep_raw_data hcli hu (f.take 4091) (by have := (cut_length f h24).1; omega) (cut_length f h24).2
  rw [upKa_due hd] at hC2
  obtain ⟨s3, hS3, hk3, hlp3⟩ := iteration_raw_ping hk1.inv hu
  have hc := cliDown_facts c
  have hnd : ¬ kaDue (cliDown c) := not_due_after c _ hsel hc.1 hc.2.1 hc.2.2.2
  have hC4 := cstep_raw_ping hcli.down hu
  rw [upKa_not_due hnd] at hC4
  have hc' := cliDown_facts (cliDown c)
  refine ⟨⟨⟨cliDown (cliDown c), .tunnel⟩, s3, [], [], tunC ++ [tunImage (f.take 4091)], tunS⟩, ?_,
    ⟨⟨rfl, hu, hcli.down.down, hk3.inv⟩, rfl, rfl⟩, rfl, rfl,
    ⟨hk3.tunIp.trans hk1.tunIp, hk3.now.trans hk1.now, hc'.1.trans hc.1, hc'.2.1.trans hc.2.1⟩,
    hc'.2.2.1.trans hc'.1.symm, hlp3.trans hk3.now.symm, ?_⟩
  · rw [step_offerS_mk (tunSelS_raw hsrv) hS1, List.nil_append, ps_down0 hC2 hc.1, ps_up0 hS3, ps_down0 hC4 hc'.1]
    simp only [promptSteps, List.append_nil]
  · refine (hc'.2.2.2.trans ((cliKa_lastrawping _).trans (if_neg hnd))).trans ?_
    refine (hc.2.2.2.trans ?_).trans (hc'.1.trans hc.1).symm
    exact (cliKa_lastrawping c).trans (if_pos hd)

end Iodine.C02L
