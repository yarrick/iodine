import IodineModel.Lemmas.SrvC04f
/-
An explicit bound (for C05) on the NUMBER OF EVENTS (`sendto` / `write_tun` calls, hence encoder calls) one iteration
of the server's `tunnel()` loop produces, for every state and every input: no handler loops on its input.  "At most `k` events"
is not closed under sequencing, so the bound is read off the handlers' case lists (Lemmas/HandlerCases: how many
`send_chunk_or_dataless` a handler can reach), not off the primitive steps of Lemmas/Steps.
-/
namespace Iodine.C05L
open Iodine Iodine.Server Iodine.Gen

theorem ev_nil (s : Srv) {k : Nat} : ((s, []) : Res).2.length ≤ k := Nat.zero_le _

theorem ev_one (s : Srv) (e : Event) {k : Nat} (hk : 1 ≤ k) : ((s, [e]) : Res).2.length ≤ k := hk

theorem ev_andThen (r : Res) (f : Srv → Res) : (andThen r f).2.length = r.2.length + (f r.1).2.length := by
  unfold andThen
  exact List.length_append

/-! ### send_chunk_or_dataless -/

theorem scAnswer_events_le (q : Query) (pkt : List Nat) (dn u : Nat) : (scAnswer q pkt dn u).2.length ≤ 2 := by
  unfold scAnswer
  exact ite_both (P := fun r : Query × List Event => r.2.length ≤ 2) (Nat.le_refl 2) (by decide : 1 ≤ 2)

/-- `send_chunk_or_dataless` calls `write_dns` once, or twice when a duplicate is remembered -/
theorem sc_events_le (s : Srv) (u : Nat) (w : QSel) : (sendChunkOrDataless s u w).1.2.length ≤ 2 := by
  unfold sendChunkOrDataless
  extract_lets s1 x datalen pkt a s2 s3 src s4 r
  have ha : a.2.length ≤ 2 := scAnswer_events_le _ _ _ _
  split
  · exact ha
  · exact ha

theorem stepRes_events_le {s : Srv} {u : Nat} {r : Res} (h : StepRes s u r) : r.2.length ≤ 2 :=
  h.elim (P := fun r => r.2.length ≤ 2) (Nat.zero_le 2) (sc_events_le s u) (Nat.zero_le 2)

theorem sendWaiting_events_le (s : Srv) (u : Nat) : (sendWaiting s u).2.length ≤ 2 :=
  stepRes_events_le (sendWaiting_cases s u)

/-! ### tun and forwarding -/

theorem deliverToUser_events_le (s : Srv) (t : Nat) (d : List Nat) (n : Nat) : (deliverToUser s t d n).2.length ≤ 2 := by
  unfold deliverToUser
  extract_lets y
  exact ite_both (P := fun r : Res => r.2.length ≤ 2)
    (ite_both (P := fun r : Res => r.2.length ≤ 2) (sendWaiting_events_le _ t) (ev_nil _))
    (ev_one _ _ (by decide))

theorem tunnelTun_events_le (s : Srv) (frame : List Nat) : (tunnelTun s frame).2.length ≤ 2 := by
  rcases tunnelTun_cases s frame with e | ⟨u, e⟩ <;> rw [e]
  · exact Nat.zero_le 2
  · exact deliverToUser_events_le s u _ _

theorem handleFullPacket_events_le (s : Srv) (u : Nat) : (handleFullPacket s u).2.length ≤ 2 := by
  obtain ⟨r, e, hr⟩ := handleFullPacket_cases s u
  rw [e]
  rcases hr with rfl | ⟨_, _, _, rfl⟩ | ⟨t, d, n, rfl⟩
  · exact Nat.zero_le 2
  · exact (by decide : 1 ≤ 2)
  · exact deliverToUser_events_le s t d n

/-! ### the one-answer commands -/

theorem ev_oneAns {q : Query} {evs : List Event} (h : OneAns q evs) : evs.length ≤ 1 := by
  obtain ⟨_, _, rfl⟩ := h; exact Nat.le_refl 1

theorem ev_rawAns {q : Query} {u : Nat} {evs : List Event} (h : RawAns q u evs) : evs.length ≤ 1 := by
  rcases h with rfl | ⟨_, _, _, rfl⟩
  · exact Nat.zero_le 1
  · exact Nat.le_refl 1

/-! ### ping and data -/

theorem answerFromDnscache_one {s : Srv} {u : Nat} {q : Query} {e : Event} (_h : answerFromDnscache s u q = some e) (s' : Srv) :
    ((s', [e]) : Res).2.length ≤ 1 := Nat.le_refl 1

/-- ping, after the filters: `q_sendrealsoon`, the waiting `q`, the new query: at most three `send_chunk_or_dataless` -/
theorem pingFresh_events_le (s : Srv) (u : Nat) (q : Query) (unpacked : List Nat) :
    (pingFresh s u q unpacked).2.length ≤ 6 := by
  rw [pingFresh_eq]; unfold pingRest
  extract_lets r1 r2 r3
  have h1 : r1.2.length ≤ 2 := stepRes_events_le (pingQs_cases _ u)
  have h2 : r2.1.2.length ≤ 2 := stepRes_events_le (pingQ_cases _ u)
  have h3 : r3.2.length ≤ 2 := stepRes_events_le (pingNew_cases _ u _)
  clear_value r1 r2 r3
  show (r1.2 ++ r2.1.2 ++ r3.2).length ≤ 6
  rw [List.length_append, List.length_append]
  omega

theorem filterRes_events_le {s : Srv} {q : Query} {uid : Int} {fresh r : Res} {k : Nat}
    (hr : FilterRes s q uid fresh r) (hf : fresh.2.length ≤ k) (hk : 1 ≤ k) : r.2.length ≤ k := by
  rcases hr with rfl | rfl | ⟨_, _, ⟨_, _, rfl⟩ | rfl | ⟨_, _, rfl⟩ | rfl⟩
  · exact Nat.zero_le k
  · exact hk
  · exact hk
  · exact hk
  · exact Nat.zero_le k
  · exact hf

theorem handlePing_events_le (s : Srv) (q : Query) (inb : List Nat) : (handlePing s q inb).2.length ≤ 6 :=
  filterRes_events_le (handlePing_cases s q inb) (pingFresh_events_le _ _ _ _) (by decide)

/-- data, after the filters: forwarding / tun write (≤ 2), then at most three `send_chunk_or_dataless` -/
theorem dataFresh_events_le (s : Srv) (u : Nat) (q : Query) (inb : List Nat) : (dataFresh s u q inb).2.length ≤ 8 := by
  rw [C05N.dataFresh_eq]; unfold C05N.dataRest
  extract_lets r3 r4 r5 s6 r7
  have h3 : r3.2.length ≤ 2 := ite_both (P := fun r : Res => r.2.length ≤ 2) (handleFullPacket_events_le _ u) (ev_nil _)
  have h4 : r4.1.2.length ≤ 2 := stepRes_events_le (dataStepQs_cases _ u)
  have h5 : r5.1.2.length ≤ 2 := stepRes_events_le (dataStepQ_cases _ u _ _ _)
  have h7 : r7.2.length ≤ 2 := stepRes_events_le (dataStepFinal_cases _ u _ _ _)
  clear_value r3 r4 r5 r7
  show (r3.2 ++ r4.1.2 ++ r5.1.2 ++ r7.2).length ≤ 8
  rw [List.length_append, List.length_append, List.length_append]
  omega

theorem handleData_events_le (s : Srv) (q : Query) (dlen : Nat) (inb : List Nat) : (handleData s q dlen inb).2.length ≤ 8 :=
  filterRes_events_le (handleData_cases s q dlen inb) (dataFresh_events_le _ _ _ _) (by decide)

/-! ### the request kinds -/

theorem handleNullRequest_events_le (s : Srv) (q : Query) (dlen : Nat) : (handleNullRequest s q dlen).2.length ≤ 8 := by
  have one : ∀ {evs : List Event}, OneAns q evs → evs.length ≤ 8 := fun h => Nat.le_trans (ev_oneAns h) (by decide)
  refine handleNullRequest_letter (P := fun r => r.2.length ≤ 8) s q dlen (ev_nil s) fun _ l _ => ?_
  cases l
  · exact one (handleVersion_ans s q _)
  · exact one (handleLogin_ans s q _)
  · exact one (handleIp_ans s q _)
  · exact one (handleZ_ans s q _)
  · exact one (handleSwitchCodec_ans s q dlen _)
  · exact one (handleOptions_ans s q dlen _)
  · exact one (handleDownCodecCheck_ans s q dlen _)
  · exact one (handleFragsizeProbe_ans s q dlen _)
  · exact one (handleSetFragsize_ans s q _)
  · exact Nat.le_trans (handlePing_events_le s q _) (by decide)
  · exact handleData_events_le s q dlen _

theorem handleNsRequest_events_le (s : Srv) (q : Query) (dlen : Nat) : (handleNsRequest s q dlen).2.length ≤ 1 := by
  unfold handleNsRequest
  exact ite_both (P := fun r : Res => r.2.length ≤ 1) (ev_nil s) (Nat.le_refl 1)

theorem handleARequest_events_le (s : Srv) (q : Query) (f : Bool) : (handleARequest s q f).2.length ≤ 1 := by
  unfold handleARequest
  extract_lets dest
  exact ite_both (P := fun r : Res => r.2.length ≤ 1) (ev_nil s) (Nat.le_refl 1)

theorem forwardQuery_events_le (s : Srv) (q : Query) : (forwardQuery s q).2.length ≤ 1 := Nat.le_refl 1

theorem tunnelDns_events_le (s : Srv) (q : Query) : (tunnelDns s q).2.length ≤ 8 :=
  have one : ∀ {r : Res}, r.2.length ≤ 1 → r.2.length ≤ 8 := fun h => Nat.le_trans h (by decide)
  tunnelDns_ind (P := fun r => r.2.length ≤ 8) s q (ev_nil s) (fun _ => one (handleARequest_events_le _ _ _))
    (fun _ _ _ => handleNullRequest_events_le _ _ _) (fun _ => one (handleNsRequest_events_le _ _ _))
    (one (forwardQuery_events_le _ _))

/-! ### raw mode, bind -/

theorem handleRawData_events_le (s : Srv) (packet : List Nat) (q : Query) (u : Nat) :
    (handleRawData s packet q u).2.length ≤ 2 := by
  unfold handleRawData
  exact ite_both (P := fun r : Res => r.2.length ≤ 2) (ev_nil s) <|
    ite_both (P := fun r : Res => r.2.length ≤ 2) (ev_nil s) (handleFullPacket_events_le _ _)

theorem rawDecode_events_le (s : Srv) (packet : List Nat) (src : Addr) (r : Res) (h : rawDecode s packet src = some r) :
    r.2.length ≤ 2 := by
  rcases (rawDecode_cases h).2.2 with ⟨_, rfl⟩ | ⟨_, rfl⟩ | ⟨_, rfl⟩ | rfl
  · exact Nat.le_trans (ev_rawAns (handleRawLogin_ans _ _ _ _)) (by decide)
  · exact handleRawData_events_le _ _ _ _
  · exact Nat.le_trans (ev_rawAns (handleRawPing_ans _ _ _)) (by decide)
  · exact Nat.zero_le 2

theorem tunnelBind_events_le (s : Srv) (d : List Nat) : (tunnelBind s d).2.length ≤ 1 := by
  unfold tunnelBind
  split
  · exact ev_nil s
  · split
    · exact ev_nil s
    · exact ev_one s _ (Nat.le_refl 1)

/-! ### one iteration -/

/-- the handler selected by the input produces at most 8 events (the data handler: forwarding/tun write, then up to three
`send_chunk_or_dataless`) -/
theorem dispatch_events_le (s : Srv) (inp : Input) (tunsel : Bool) : (dispatch s inp tunsel).2.length ≤ 8 :=
  dispatch_ind (P := fun r => r.2.length ≤ 8) s inp tunsel (ev_nil s)
    (fun _ _ => Nat.le_trans (tunnelTun_events_le s _) (by decide)) (fun q _ => tunnelDns_events_le s q)
    (fun src _ r _ hr => Nat.le_trans (rawDecode_events_le s _ src r hr) (by decide))
    fun _ _ => Nat.le_trans (tunnelBind_events_le s _) (by decide)

theorem sweepFrom_events_le : ∀ (n i : Nat) (s : Srv), (sweepFrom n i s).2.length ≤ 2 * n
  | 0, _, _ => Nat.le_refl 0
  | n + 1, i, s => by
    unfold sweepFrom
    extract_lets x r
    have hr : r.2.length ≤ 2 := ite_both (P := fun r : Res => r.2.length ≤ 2) (sc_events_le s i .qs) (ev_nil s)
    clear_value r
    rw [ev_andThen]
    have := sweepFrom_events_le n (i + 1) r.1
    omega

theorem sweep_events_le (s : Srv) : (sweep s).2.length ≤ 2 * s.cfg.createdUsers := sweepFrom_events_le _ 0 s

/-- everything after `select`: handler (≤ 8), the `sweep` marker, the sweep (≤ 2 per created user), possibly `tunskip` -/
theorem body_events_le (s : Srv) (inp : Input) (tunsel : Bool) :
    (body s inp tunsel).2.length ≤ 2 * s.cfg.createdUsers + 10 := by
  have hc : (dispatch s inp tunsel).1.cfg = s.cfg := (C04L.frame_dispatch s inp tunsel).cfg
  have h1 : (andThen (andThen (dispatch s inp tunsel) (fun s => (s, [Event.sweep]))) sweep).2.length
      ≤ 2 * s.cfg.createdUsers + 9 := by
    rw [ev_andThen, ev_andThen]
    have hd := dispatch_events_le s inp tunsel
    have hs := sweep_events_le (andThen (dispatch s inp tunsel) (fun s => (s, [Event.sweep]))).1
    have hc' : (andThen (dispatch s inp tunsel) (fun s => (s, [Event.sweep]))).1.cfg = s.cfg := hc
    rw [hc'] at hs
    show (dispatch s inp tunsel).2.length + 1 + _ ≤ _
    omega
  unfold body
  generalize andThen (andThen (dispatch s inp tunsel) (fun s => (s, [Event.sweep]))) sweep = r at h1
  cases inp with
  | tun frame =>
    simp only []
    split
    · omega
    · show (r.2 ++ [Event.tunskip]).length ≤ _
      rw [List.length_append]
      show r.2.length + 1 ≤ _
      omega
  | _ => simp only []; omega

theorem out_length_le (s : Srv) (st : Step) : (out s st).length ≤ 2 * s.cfg.createdUsers + 10 :=
  body_events_le { (topOfLoop s).1 with now := st.now } st.inp _

end Iodine.C05L
