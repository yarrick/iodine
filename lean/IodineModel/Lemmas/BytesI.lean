import IodineModel.Lemmas.BytesD
import IodineModel.Lemmas.BytesE
import IodineModel.Lemmas.C05Sn
import IodineModel.Lemmas.BytesJ
import IodineModel.Lemmas.SrvC04f
import IodineModel.Props.C17
/-
The byte-level server: the invariant of the process behind well-formed datagrams (`WfInv`: `ProcInv` of Lemmas/C05Sn at good
keys, and a top domain `check_topdomain` accepted) and its step, for inputs whose decoded questions are legal and for inputs with
plain question labels ON THE WIRE.  What `read_dns` hands on for plain labels is a legal name or a legal name followed by one dot
(`toInput_q_plain`); a name with a trailing dot is never inside the tunnel domain (`queryDatalen_trailing_dot`), so it is neither
stored nor answered by `write_dns`, `handle_ns_request`, `handle_a_request` — only forwarded (`fwdBytes_wellformed`).  In front: the
part of a legal query name that `query_datalen` matches against an accepted top domain has at most 191 characters (`matched_top_le`).
-/
namespace Iodine.BytesL
open Iodine Iodine.Server Iodine.Wire Iodine.C10 Iodine.C14L Iodine.Gen Iodine.Common

/-! ### the matched top domain is short -/

theorem labels_head_prefix : ∀ (lab B : List Nat), 46 ∉ lab → ∃ l ls, labels (lab ++ B) = l :: ls ∧ lab.length ≤ l.length
  | [], B, _ => by
    cases h : labels B with
    | nil => exact absurd h (labels_ne_nil B)
    | cons l ls => exact ⟨l, ls, by simpa using h, by simp⟩
  | c :: lab, B, hd => by
    have hc : c ≠ 46 := fun e => hd (e ▸ List.mem_cons_self)
    obtain ⟨l, ls, hl, hlen⟩ := labels_head_prefix lab B (fun e => hd (List.mem_cons_of_mem _ e))
    refine ⟨c :: l, ls, ?_, by simp; omega⟩
    simp only [List.cons_append, labels, if_neg hc, hl]

theorem dotfree_infix_le (m : Nat) : ∀ (A lab B : List Nat), (∀ l ∈ labels (A ++ lab ++ B), l.length ≤ m) → 46 ∉ lab →
    lab.length ≤ m
  | [], lab, B, h, hd => by
    obtain ⟨l, ls, hl, hlen⟩ := labels_head_prefix lab B hd
    have := h l (by simp only [List.nil_append]; rw [hl]; exact List.mem_cons_self)
    omega
  | c :: A, lab, B, h, hd => by
    apply dotfree_infix_le m A lab B _ hd
    intro l hl
    simp only [List.cons_append, labels] at h
    split at h
    · exact h l (List.mem_cons_of_mem _ hl)
    · cases hq : labels (A ++ lab ++ B) with
      | nil => rw [hq] at hl; cases hl
      | cons l0 ls =>
        rw [hq] at h hl
        simp only [List.mem_cons] at hl
        rcases hl with rfl | hl
        · have := h (c :: l) List.mem_cons_self
          simp at this; omega
        · exact h l (List.mem_cons_of_mem _ hl)

/-- **The top domain matched by `query_datalen`** in a legal query name, for a top domain that `check_topdomain` accepts
(plain, or `*.` + plain; at most 128 characters), has at most 191 characters: the domain itself, or one label (≤ 63) and the
domain without its `*`. -/
theorem matched_top_le {q t : List Nat} {n : Nat} (hq : LegalName q) (ht : checkTopdomain t true = 0)
    (h : queryDatalen q t = some n) : (q.drop n).length ≤ 191 := by
  have hv := (C17.check_topdomain_iff_spec t true).1 ht
  obtain ⟨pre, suf, hqs, hm, _, hn⟩ := (C17.query_datalen_iff_spec q t n hv (noDoubleDot_of_legal hq)).1 h
  have hdrop : q.drop n = suf := by rw [hqs, hn, List.drop_left]
  rw [hdrop]
  have h128 := hv.2.1
  unfold C17.SufMatches at hm
  split at hm
  · obtain ⟨lab, suf', hs, _, hdot, _, hci⟩ := hm
    have hl : suf'.length = t.tail.length := by
      have := congrArg List.length hci
      simpa using this
    have hlab : lab.length ≤ 63 := by
      apply dotfree_infix_le 63 pre lab suf' _ hdot
      intro l hl
      rw [List.append_assoc, ← hs, ← hqs] at hl
      exact (hq.2.2 l hl).2
    rw [hs, List.length_append, hl, List.length_tail]
    omega
  · have := congrArg List.length hm
    simp only [List.length_map] at this
    omega

/-! ### the invariant of the process, for well-formed datagrams -/

/-- what iodined's `main` guarantees about the configuration -/
def CfgOk (cfg : Config) : Prop := CfgBound cfg ∧ checkTopdomain cfg.topdomain true = 0

structure WfInv (b : BSrv) : Prop extends ProcInv GoodKey b where
  top : checkTopdomain b.srv.cfg.topdomain true = 0

theorem wfInv_start (cfg : Config) (hc : CfgOk cfg) (rnd : List Nat) : WfInv (bstart cfg rnd) :=
  ⟨procInv_start _ cfg hc.1 rnd, hc.2⟩

theorem wfInv_step_of {b : BSrv} (hb : WfInv b) (inp : BInput) (now' : Nat) (hby : ByteInput inp)
    (hleg : ∀ q, toInput b.srv inp = .q q → queryDatalen q.name b.srv.cfg.topdomain ≠ none → LegalName q.name) :
    WfInv (biteration b inp now').1 ∧ AnsInv GoodKey (out b.srv ⟨toInput b.srv inp, now'⟩) ∧
      AnsOK (out b.srv ⟨toInput b.srv inp, now'⟩) := by
  have h := procInv_step hb.toProcInv inp hby now' fun q hq hty hm => goodKey_of_legal hq hty (hleg q hq hm)
  have : (biteration b inp now').1.srv.cfg = b.srv.cfg := C04L.iteration_cfg b.srv (toInput b.srv inp) now'
  exact ⟨⟨h.1, this ▸ hb.top⟩, h.2.1, h.2.2.1⟩

theorem wfInv_step {b : BSrv} (hb : WfInv b) (inp : BInput) (now' : Nat) (hl : LegalInput inp) (hby : ByteInput inp) :
    WfInv (biteration b inp now').1 ∧ AnsInv GoodKey (out b.srv ⟨toInput b.srv inp, now'⟩) ∧
      AnsOK (out b.srv ⟨toInput b.srv inp, now'⟩) :=
  wfInv_step_of hb inp now' hby fun _ hq _ => (toInput_q hq).2.2.2 hl

/-! ### the name `read_dns` hands on -/

/-- the non-empty pieces between the dots -/
def labelSeq (n : List Nat) : List (List Nat) := (labels n).filter (fun l => !l.isEmpty)

theorem labelSeq_eq_tokens (n : List Nat) : labelSeq n = Wire.Put.tokens n := by
  unfold labelSeq Wire.Put.tokens
  rw [labels_eq_split]

theorem labelSeq_legal {n : List Nat} (h : LegalName n) : labelSeq n = labels n := by
  unfold labelSeq
  rw [List.filter_eq_self]
  intro l hl
  have := (h.2.2 l hl).1
  cases l with
  | nil => simp at this
  | cons a l => rfl

theorem labelSeq_trailing_dot (m : List Nat) : labelSeq (m ++ [46]) = labelSeq m := by
  unfold labelSeq
  rw [labels_trailing_dot, List.filter_append]
  simp

/-- a legal name, or a legal name (of at most 252 characters) followed by one dot; `ls` is its label sequence -/
def WeakLegal (n : List Nat) (ls : List (List Nat)) : Prop :=
  (LegalName n ∧ labels n = ls) ∨ ∃ m, n = m ++ [46] ∧ LegalName m ∧ m.length ≤ 252 ∧ labels m = ls

theorem WeakLegal.labelSeq {n : List Nat} {ls : List (List Nat)} (h : WeakLegal n ls) : labelSeq n = ls := by
  rcases h with ⟨h1, h2⟩ | ⟨m, rfl, h1, _, h2⟩
  · rw [labelSeq_legal h1, h2]
  · rw [labelSeq_trailing_dot, labelSeq_legal h1, h2]

theorem weakLegal_of_shape {n : List Nat} {ls : List (List Nat)} (h : Shape n ls) (hne : n ≠ []) (hlen : n.length ≤ 253) :
    WeakLegal n ls := by
  obtain ⟨hg, ho | ⟨init, last, hls, ho⟩⟩ := h
  · obtain ⟨init, last, hls, ho'⟩ := dotEnd_snoc (ho ▸ hne)
    rw [← ho] at ho'
    have hl2 : (dotEnd init ++ last).length ≤ 252 := by
      have := congrArg List.length ho'
      simp only [List.length_append, List.length_cons, List.length_nil] at this ⊢
      omega
    obtain ⟨h1, h2⟩ := legal_of_shape_last init last (hls ▸ hg) (by omega)
    exact Or.inr ⟨_, ho', h1, hl2, by rw [h2, hls]⟩
  · subst hls
    obtain ⟨h1, h2⟩ := legal_of_shape_last init last hg (by rw [← ho]; exact hlen)
    exact Or.inl ⟨ho ▸ h1, ho ▸ h2⟩

theorem not_legal_trailing_dot {m : List Nat} (h : LegalName (m ++ [46])) : False := by
  have := (h.2.2 [] (by rw [labels_trailing_dot]; simp)).1
  simp at this

theorem not_legal_dotEnd {n : List Nat} {ls : List (List Nat)} (h : LegalName n) (hn : n = dotEnd ls) (hne : n ≠ []) : False := by
  obtain ⟨init, last, _, e⟩ := dotEnd_snoc (hn ▸ hne)
  exact not_legal_trailing_dot (e ▸ hn ▸ h)

/-- the question labels on the wire (first 64 KiB of the datagram, `readname`'s budget of 10 activations) are plain -/
def PlainQuestion (bytes : List Nat) : Prop := ∀ l ∈ wireLabels (bytes.take 65536) 10 12, PlainLabel l

/-- the same for any input of an iteration -/
def PlainInput : BInput → Prop
  | .dgram _ bytes => PlainQuestion bytes
  | _ => True

/-- **What `read_dns` hands on** for a datagram of bytes with plain question labels: a legal name, or a legal name followed by one
dot; its label sequence is a prefix of the labels on the wire. -/
theorem decodeInput_q_plain {s : Srv} {src : Addr} {bytes : List Nat} {q : Query} (h : decodeInput s src bytes = .q q)
    (hb : IsBytes bytes) (hp : PlainQuestion bytes) :
    ∃ ls, ls <+: wireLabels (bytes.take 65536) 10 12 ∧ WeakLegal q.name ls ∧
      (LegalName q.name → ls = wireLabels (bytes.take 65536) 10 12) := by
  rcases decodeInput_cases s src bytes with h' | h' | ⟨d, hd, hrv, h'⟩ <;> rw [h'] at h <;> cases h
  rcases dnsDecodeQuery_plain (pkt := (bytes.take 65536).toArray) (isBytes_take _ hb) hp hd with
    hl | ⟨ls, hpre, hsh, hx, hne, hlen⟩
  · exact absurd hl hrv
  · exact ⟨ls, hpre, weakLegal_of_shape hsh hne hlen, fun hleg => hx.resolve_right fun hx => not_legal_dotEnd hleg hx hne⟩

theorem toInput_q_plain {s : Srv} {inp : BInput} {q : Query} (h : toInput s inp = .q q)
    (hb : ByteInput inp) (hp : PlainInput inp) : ∃ ls, WeakLegal q.name ls := by
  cases inp with
  | dgram src bytes =>
    obtain ⟨ls, _, hw, _⟩ := decodeInput_q_plain (s := s) h hb hp
    exact ⟨ls, hw⟩
  | tun f => cases h
  | bind b => cases h
  | tick => cases h

/-! ### a trailing dot is outside every tunnel domain -/

theorem splitOn_trailing (x : List Nat) : ∃ pre, pre ≠ [] ∧ C17.splitOn 46 (x ++ [46]) = pre ++ [[]] := by
  induction x with
  | nil => exact ⟨[[]], by simp, by simp [C17.splitOn]⟩
  | cons c x ih =>
    obtain ⟨pre, hne, hpre⟩ := ih
    simp only [List.cons_append, C17.splitOn]
    split
    · exact ⟨[] :: pre, by simp, by rw [hpre]; rfl⟩
    · cases pre with
      | nil => exact absurd rfl hne
      | cons p ps =>
        rw [hpre]
        exact ⟨(c :: p) :: ps, by simp, rfl⟩

/-- a top domain that `check_topdomain` accepts ends in a letter, a digit or '-' -/
theorem topdomain_last {t : List Nat} (ht : checkTopdomain t true = 0) :
    ∃ init tc, t = init ++ [tc] ∧ tc ≠ 42 ∧ toLower tc ≠ 46 ∧ 3 ≤ t.length := by
  obtain ⟨h3, _, hch, _, hlab⟩ := (C17.check_topdomain_iff_spec t true).1 ht
  have hne : t ≠ [] := by intro e; rw [e] at h3; simp at h3
  have ht' : t = t.dropLast ++ [t.getLast hne] := (List.dropLast_concat_getLast hne).symm
  have hdom : C17.DomChar (t.getLast hne) := by
    rcases hch with h | ⟨_, _, h⟩
    · exact h _ (List.getLast_mem hne)
    · apply h
      have hd : t.drop 2 ≠ [] := by
        intro e
        have := congrArg List.length e
        simp only [List.length_drop, List.length_nil] at this
        omega
      rw [← List.getLast_drop hd]
      exact List.getLast_mem hd
  have h46 : t.getLast hne ≠ 46 := by
    intro e
    obtain ⟨pre, _, hpre⟩ := splitOn_trailing t.dropLast
    rw [show t.dropLast ++ [46] = t by rw [← e]; exact ht'.symm] at hpre
    have := (hlab [] (by rw [hpre]; simp)).1
    simp at this
  refine ⟨t.dropLast, t.getLast hne, ht', ?_, ?_, h3⟩
  · intro e
    rw [e] at hdom
    revert hdom
    decide
  · intro e
    apply h46
    unfold toLower at e
    split at e
    · rename_i h
      simp only [Bool.and_eq_true, decide_eq_true_eq] at h
      omega
    · exact e

theorem queryDatalen_trailing_dot (m t : List Nat) (ht : checkTopdomain t true = 0) : queryDatalen (m ++ [46]) t = none := by
  obtain ⟨init, tc, rfl, h42, h46, _⟩ := topdomain_last ht
  unfold queryDatalen
  split
  · rfl
  · simp only [List.reverse_append, List.reverse_cons, List.reverse_nil, List.nil_append, List.cons_append, qdScan]
    rw [if_neg h42, if_neg (fun e => h46 (by rw [← e]; rfl))]

/-- one byte-level iteration on a datagram of bytes with plain question labels keeps the invariant, every `write_dns` goes to a
good key and carries bytes: a decoded name with a trailing dot lies outside the tunnel domain -/
theorem wfInv_step_plain {b : BSrv} (hb : WfInv b) (inp : BInput) (now' : Nat) (hby : ByteInput inp) (hpl : PlainInput inp) :
    WfInv (biteration b inp now').1 ∧ AnsInv GoodKey (out b.srv ⟨toInput b.srv inp, now'⟩) ∧
      AnsOK (out b.srv ⟨toInput b.srv inp, now'⟩) := by
  refine wfInv_step_of hb inp now' hby fun q hq hmatch => ?_
  obtain ⟨ls, ⟨h1, _⟩ | ⟨m, hm, _⟩⟩ := toInput_q_plain hq hby hpl
  · exact h1
  · exact absurd (hm ▸ queryDatalen_trailing_dot m _ hb.top) hmatch

/-! ### the forwarded query -/

theorem tokens_trailing_dot (m : List Nat) : Wire.Put.tokens (m ++ [46]) = Wire.Put.tokens m := by
  rw [← labelSeq_eq_tokens, ← labelSeq_eq_tokens, labelSeq_trailing_dot]

/-- **`forward_query`.**  For a 16-bit id and type and a name that is legal or legal with one trailing dot, the datagram is sent and
is a well-formed query: that id, flags RD, one question with the label sequence of the name, the type, class IN; no answer or
authority records; one additional record, the EDNS0 OPT. -/
theorem fwdBytes_wellformed (q : Query) (ls : List (List Nat)) (hid : q.id < 65536) (hty : q.type < 65536)
    (hw : WeakLegal q.name ls) :
    ∃ bytes, fwdBytes q = some bytes ∧
      Wire.Strict.parseMsg bytes = some ⟨q.id, 0x0100, [(ls, q.type, 1)], [], [], [optRR]⟩ := by
  unfold fwdBytes
  have key : ∀ m, LegalName m → labels m = ls → Wire.DnsEncode.dnsEncodeQuery 65536 q.id q.type true q.name =
      Wire.DnsEncode.dnsEncodeQuery 65536 q.id q.type true m →
      ∃ bytes, sent (Wire.DnsEncode.dnsEncodeQuery 65536 q.id q.type true q.name) = some bytes ∧
        Wire.Strict.parseMsg bytes = some ⟨q.id, 0x0100, [(ls, q.type, 1)], [], [], [optRR]⟩ := by
    intro m hm hl he
    obtain ⟨pkt, h1, h2, h3⟩ := query_wellformed 65536 q.id q.type true m hid hty hm (by have := hm.1; simp; omega)
    rw [he, h1]
    refine ⟨pkt, ?_, by rw [h3, hl]; rfl⟩
    unfold sent
    simp only
    rw [if_neg (by rw [h2]; simp)]
  rcases hw with ⟨h1, h2⟩ | ⟨m, hm, h1, hlen, h2⟩
  · exact key q.name h1 h2 rfl
  · apply key m h1 h2
    have nf := nameFacts h1
    rw [hm, Wire.DnsEncode.dnsEncodeQuery_ok 65536 q.id q.type true (m ++ [46]) (by rw [tokens_trailing_dot]; exact nf.le63)
        (by simp only [List.length_append, List.length_cons, List.length_nil]; simp; omega),
      Wire.DnsEncode.dnsEncodeQuery_ok 65536 q.id q.type true m nf.le63 (by simp; omega), tokens_trailing_dot]

end Iodine.BytesL
