import IodineModel.Client.Handshake
import IodineModel.Lemmas.Client
import IodineModel.Lemmas.Ite
/-
What each function of the client may write — and what the senders emit —, said once per function.

`CFrame er c c'`: `c'` agrees with `c` outside the fields the erasure `er` blanks.  Four nested erasures cover the senders and
the bookkeeping of `tunnel_dns` and `client_tunnel`: the ids and the CMC seed (`erIds`), the answer counting of `send_query`
(`erQ`), the scheduler's timers and counters (`erBook`), the clocks (`erTime`); a second branch from `erQ` follows a handler
to its end: the keepalive time (`erPing`), what `send_chunk` notes of the fragment (`erChunk`), `send_ping_soon` (`erSnd`);
`erNow` is the clock alone, what `select` returning writes.  After the erasures, each function with what it writes (`frame_`)
and, for the senders, that it emits queries only (`onlyQ_`).
An invariant that reads none of the blanked fields is carried across a frame fact by one lemma (`CliQ.Mid.frame`, `Late.frame`,
`Carries.frame`); a relation of one property that keeps fewer fields (`C06L.Keep`, `SameP`, `CliQ.SameW`, `neg` of the
negotiation) follows from it by one conversion lemma.
-/
namespace Iodine.Client
open Iodine

def CFrame (er : Cli → Cli) (c c' : Cli) : Prop := er c' = er c

theorem CFrame.refl (er : Cli → Cli) (c : Cli) : CFrame er c c := rfl

theorem CFrame.trans {er : Cli → Cli} {a b c : Cli} (h1 : CFrame er a b) (h2 : CFrame er b c) : CFrame er a c :=
  Eq.trans h2 h1

/-- a frame fact holds for every coarser erasure -/
theorem CFrame.coarsen {er er2 : Cli → Cli} {c c' : Cli} (h : CFrame er c c') (hc : ∀ x, er2 (er x) = er2 x) :
    CFrame er2 c c' :=
  (hc c').symm.trans ((congrArg er2 h).trans (hc c))

/-- a function of the fields the erasure leaves alone has the same value -/
theorem CFrame.get {er : Cli → Cli} {c c' : Cli} {α : Type} (h : CFrame er c c') (f : Cli → α) (hf : ∀ x, f (er x) = f x) :
    f c' = f c :=
  (hf c').symm.trans ((congrArg f h).trans (hf c))

/-- the ids of `send_query` and the CMC seed: what a handshake query writes -/
def erIds (c : Cli) : Cli := { c with chunkid := 0, chunkidPrev := 0, chunkidPrev2 := 0, randSeed := 0 }

/-- … and the answer counting of `send_query` with its way into `handshake_lazyoff` -/
def erQ (c : Cli) : Cli := { erIds c with sendcnt := 0, recvcnt := 0, selecttimeout := 0, lazymode := false }

/-- … and the timers and counters of `tunnel_dns` and `client_tunnel`: the scheduler's bookkeeping -/
def erBook (c : Cli) : Cli :=
  { erQ c with sendPingSoon := 0, packrecv := 0, packrecvOos := 0, packrecvServfail := 0, running := false }

/-- … and the clocks -/
def erTime (c : Cli) : Cli := { erBook c with now := 0, lastdownstreamtime := 0, lastrawping := 0 }

/-- `erQ` and the time of the raw-mode keepalive: what `send_ping` writes in either mode -/
def erPing (c : Cli) : Cli := { erQ c with lastrawping := 0 }

/-- … and `outpkt.sentlen`, `datacmc`: what `send_chunk` writes -/
def erChunk (c : Cli) : Cli := { erPing c with outpkt := { c.outpkt with sentlen := 0 }, datacmc := 0 }

/-- … and `send_ping_soon`: what a sender and the rest of its handler write -/
def erSnd (c : Cli) : Cli := { erChunk c with sendPingSoon := 0 }

/-- the clock alone: what `select` returning writes -/
def erNow (c : Cli) : Cli := { c with now := 0 }

theorem erQ_erIds (x : Cli) : erQ (erIds x) = erQ x := rfl
theorem erPing_erQ (x : Cli) : erPing (erQ x) = erPing x := rfl
theorem erChunk_erQ (x : Cli) : erChunk (erQ x) = erChunk x := rfl
theorem erChunk_erPing (x : Cli) : erChunk (erPing x) = erChunk x := rfl
theorem erSnd_erChunk (x : Cli) : erSnd (erChunk x) = erSnd x := rfl
theorem erBook_erQ (x : Cli) : erBook (erQ x) = erBook x := rfl
theorem erTime_erIds (x : Cli) : erTime (erIds x) = erTime x := rfl
theorem erTime_erQ (x : Cli) : erTime (erQ x) = erTime x := rfl
theorem erTime_erBook (x : Cli) : erTime (erBook x) = erTime x := rfl
theorem erTime_erPing (x : Cli) : erTime (erPing x) = erTime x := rfl
theorem erTime_erNow (x : Cli) : erTime (erNow x) = erTime x := rfl

theorem CFrame.ids {c c' : Cli} (h : CFrame erIds c c') : CFrame erTime c c' := h.coarsen erTime_erIds
theorem CFrame.q {c c' : Cli} (h : CFrame erQ c c') : CFrame erTime c c' := h.coarsen erTime_erQ
theorem CFrame.book {c c' : Cli} (h : CFrame erBook c c') : CFrame erTime c c' := h.coarsen erTime_erBook
theorem CFrame.ping {c c' : Cli} (h : CFrame erPing c c') : CFrame erTime c c' := h.coarsen erTime_erPing

/-! ### per function: what it writes (`frame_`) and that it emits queries only (`onlyQ_`; in raw mode `send_ping` one raw frame) -/

def OnlyQ (evs : List CEvent) : Prop := ∀ e ∈ evs, ∃ id ty n, e = CEvent.query id ty n

theorem onlyQ_nil : OnlyQ [] := fun _ h => nomatch h

/-- what holds of every query holds of every event of a list of queries -/
theorem OnlyQ.all {P : CEvent → Prop} {l : List CEvent} (h : OnlyQ l) (hP : ∀ id ty n, P (.query id ty n)) : ∀ e ∈ l, P e := by
  intro e he
  obtain ⟨id, ty, n, rfl⟩ := h e he
  exact hP id ty n

theorem onlyQ_append {a b : List CEvent} (ha : OnlyQ a) (hb : OnlyQ b) : OnlyQ (a ++ b) :=
  List.forall_mem_append.mpr ⟨ha, hb⟩

theorem frame_rotate (c : Cli) : CFrame erIds c (rotateChunkid c) := by unfold CFrame erIds rotateChunkid; rfl

theorem frame_bumpSeed (c : Cli) : CFrame erIds c (bumpSeed c) := rfl

theorem frame_sendQueryPlain (c : Cli) (h : List Nat) : CFrame erIds c (sendQueryPlain c h).1.1 := by
  rw [sendQueryPlain_state]; exact frame_rotate c

/-- what `send_query` puts on the wire is a query (or, `dns_encode` failing, nothing) -/
theorem onlyQ_sendQueryPlain (c : Cli) (h : List Nat) : OnlyQ (sendQueryPlain c h).1.2 := by
  rw [sendQueryPlain]
  cases hw : wireQuery (rotateChunkid c).chunkid (rotateChunkid c).doQtype (rotateChunkid c).edns0 h with
  | none => exact onlyQ_nil
  | some ev => exact fun e he => List.mem_singleton.mp he ▸ wireQuery_query hw

theorem frame_sendHandshakeQuery (c : Cli) (p : List Nat) : CFrame erIds c (sendHandshakeQuery c p).1 :=
  (frame_bumpSeed c).trans (frame_sendQueryPlain _ _)

theorem onlyQ_sendHandshakeQuery (c : Cli) (p : List Nat) : OnlyQ (sendHandshakeQuery c p).2 := by
  unfold sendHandshakeQuery; exact onlyQ_sendQueryPlain _ _

theorem frame_sendLazySwitch (c : Cli) : CFrame erIds c (sendLazySwitch c).1 := frame_sendHandshakeQuery c _

theorem onlyQ_sendLazySwitch (c : Cli) : OnlyQ (sendLazySwitch c).2 := onlyQ_sendHandshakeQuery c _

theorem frame_lazyoffIter (c : Cli) (i : Nat) : CFrame erIds c (lazyoffIter c i).c :=
  ite_both (P := fun s : Sent => CFrame erIds c s.c) (frame_sendLazySwitch c) (.refl _ c)

theorem onlyQ_lazyoffIter (c : Cli) (i : Nat) : OnlyQ (lazyoffIter c i).evs :=
  ite_both (P := fun s : Sent => OnlyQ s.evs) (onlyQ_sendLazySwitch c) onlyQ_nil

theorem frame_sendQueryCount (c : Cli) : CFrame erQ c (sendQueryCount c).c :=
  ite_both (P := fun s : Sent => CFrame erQ c s.c)
    (ite_both (P := fun s : Sent => CFrame erQ c s.c)
      (ite_both (P := fun s : Sent => CFrame erQ c s.c) rfl
        (CFrame.trans (b := { c with sendcnt := c.sendcnt + 1, lazymode := false, selecttimeout := 1 }) rfl
          ((frame_lazyoffIter _ 0).coarsen erQ_erIds)))
      rfl)
    rfl

theorem onlyQ_sendQueryCount (c : Cli) : OnlyQ (sendQueryCount c).evs :=
  ite_both (P := fun s : Sent => OnlyQ s.evs)
    (ite_both (P := fun s : Sent => OnlyQ s.evs)
      (ite_both (P := fun s : Sent => OnlyQ s.evs) onlyQ_nil (onlyQ_lazyoffIter _ 0)) onlyQ_nil) onlyQ_nil

theorem frame_sendQuery (c : Cli) (h : List Nat) : CFrame erQ c (sendQuery c h).c :=
  have h1 : CFrame erQ c (sendQueryPlain c h).1.1 := (frame_sendQueryPlain c h).coarsen erQ_erIds
  ite_both (P := fun s : Sent => CFrame erQ c s.c) (h1.trans (frame_sendQueryCount _)) h1

theorem onlyQ_sendQuery (c : Cli) (h : List Nat) : OnlyQ (sendQuery c h).evs :=
  ite_both (P := fun s : Sent => OnlyQ s.evs) (onlyQ_append (onlyQ_sendQueryPlain c h) (onlyQ_sendQueryCount _))
    (onlyQ_sendQueryPlain c h)

theorem frame_sendPacket (c : Cli) (cmd : Nat) (d : List Nat) : CFrame erQ c (sendPacket c cmd d).c := frame_sendQuery _ _

theorem onlyQ_sendPacket (c : Cli) (cmd : Nat) (d : List Nat) : OnlyQ (sendPacket c cmd d).evs := onlyQ_sendQuery _ _

theorem frame_sendPing_dns (c : Cli) (hc : c.conn = .dnsNull) : CFrame erQ c (sendPing c).c := by
  rw [sendPing, if_pos hc]
  exact CFrame.trans (b := { c with randSeed := (c.randSeed + 1) % 65536 }) rfl (frame_sendPacket _ _ _)

/-- `send_ping` in either mode (in raw mode it notes the time of the keepalive) -/
theorem frame_sendPing_any (c : Cli) : CFrame erPing c (sendPing c).c :=
  ite_both (P := fun s : Sent => CFrame erPing c s.c)
    (CFrame.trans (b := { c with randSeed := (c.randSeed + 1) % 65536 }) rfl ((frame_sendPacket _ _ _).coarsen erPing_erQ)) rfl

theorem onlyQ_sendPing (c : Cli) (hc : c.conn = .dnsNull) : OnlyQ (sendPing c).evs := by
  rw [sendPing, if_pos hc]; exact onlyQ_sendPacket _ _ _

/-- `send_ping` in raw mode: the keepalive frame -/
theorem sendPing_raw (c : Cli) (hc : c.conn ≠ .dnsNull) : (sendPing c).evs = [sendRaw c [] 0 Gen.RAW_HDR_CMD_PING] := by
  rw [sendPing, if_neg hc]

theorem frame_resume (c : Cli) (k : Resume) : CFrame erBook c (resume c k).1 := by rw [resume_state]; rfl

theorem frame_sendChunk (c : Cli) : CFrame erChunk c (sendChunk c).c := by
  unfold sendChunk
  exact CFrame.trans (b := _) rfl ((frame_sendQuery _ _).coarsen erChunk_erQ)

theorem onlyQ_sendChunk (c : Cli) : OnlyQ (sendChunk c).evs := by unfold sendChunk; exact onlyQ_sendQuery _ _

/-- a sender and the rest of its handler -/
theorem frame_afterSend {c : Cli} {s : Sent} (h : CFrame erChunk c s.c) (pre : List CEvent) (k : Resume) :
    CFrame erSnd c (afterSend s pre k).1 :=
  have h' : CFrame erSnd c s.c := h.coarsen erSnd_erChunk
  ite_both (P := fun r : Cli × List CEvent × Stop => CFrame erSnd c r.1) h'
    (h'.trans (by rw [resume_state]; rfl))

theorem frame_finalPing (c : Cli) (evs : List CEvent) (sn : Bool) (read : Int) : CFrame erSnd c (finalPing c evs sn read).1 :=
  ite_both (P := fun r : Cli × List CEvent × Stop => CFrame erSnd c r.1)
    (frame_afterSend ((frame_sendPing_any c).coarsen erChunk_erPing) evs _) rfl

theorem frame_hsSendPacket (c : Cli) (cmd : Nat) (d : List Nat) : CFrame erIds c (hsSendPacket c cmd d).1 := by
  unfold hsSendPacket; exact frame_sendQueryPlain _ _

theorem onlyQ_hsSendPacket (c : Cli) (cmd : Nat) (d : List Nat) : OnlyQ (hsSendPacket c cmd d).2 := by
  unfold hsSendPacket; exact onlyQ_sendQueryPlain _ _

theorem frame_sendVersion (c : Cli) : CFrame erIds c (sendVersion c).1 :=
  (frame_bumpSeed c).trans (frame_hsSendPacket _ _ _)

theorem onlyQ_sendVersion (c : Cli) : OnlyQ (sendVersion c).2 := onlyQ_hsSendPacket _ _ _

theorem frame_sendLogin (c : Cli) (login : List Nat) : CFrame erIds c (sendLogin c login).1 :=
  (frame_bumpSeed c).trans (frame_hsSendPacket _ _ _)

theorem onlyQ_sendLogin (c : Cli) (login : List Nat) : OnlyQ (sendLogin c login).2 := onlyQ_hsSendPacket _ _ _

theorem frame_sendSetFragsize (c : Cli) (f : Int) : CFrame erIds c (sendSetFragsize c f).1 :=
  (frame_bumpSeed c).trans (frame_hsSendPacket _ _ _)

theorem onlyQ_sendSetFragsize (c : Cli) (f : Int) : OnlyQ (sendSetFragsize c f).2 := onlyQ_hsSendPacket _ _ _

theorem frame_sendDownenctest (c : Cli) (codec : Nat) : CFrame erIds c (sendDownenctest c codec).1 :=
  frame_sendHandshakeQuery c _

theorem onlyQ_sendDownenctest (c : Cli) (codec : Nat) : OnlyQ (sendDownenctest c codec).2 := onlyQ_sendHandshakeQuery c _

theorem frame_sendUpenctest (c : Cli) (s : List Nat) : CFrame erIds c (sendUpenctest c s).1 := by
  unfold sendUpenctest; exact (frame_bumpSeed c).trans (frame_sendQueryPlain _ _)

theorem onlyQ_sendUpenctest (c : Cli) (s : List Nat) : OnlyQ (sendUpenctest c s).2 := by
  unfold sendUpenctest; exact onlyQ_sendQueryPlain _ _

theorem frame_sendFragsizeProbe (c : Cli) (f : Nat) : CFrame erIds c (sendFragsizeProbe c f).1 := by
  unfold sendFragsizeProbe; exact (frame_bumpSeed c).trans (frame_sendQueryPlain _ _)

theorem onlyQ_sendFragsizeProbe (c : Cli) (f : Nat) : OnlyQ (sendFragsizeProbe c f).2 := by
  unfold sendFragsizeProbe; exact onlyQ_sendQueryPlain _ _

/-! ### the bookkeeping of `tunnel_dns` and `client_tunnel` -/

theorem frame_servfailCount (c : Cli) (rq : Rq) : CFrame erBook c (servfailCount c rq) :=
  ite_both (ite_both rfl <| ite_both rfl <| ite_both rfl rfl) rfl

theorem frame_dupeSeqno (c : Cli) (h : Hdr) (read : Int) : CFrame erBook c (dupeSeqno c h read).1 :=
  ite_both (P := fun r : Cli × Int => CFrame erBook c r.1) rfl rfl

theorem frame_countRecv (c : Cli) : CFrame erBook c (countRecv c) := rfl

/-- `tunnel_dns` from `send_ping_soon = 0` to the id test -/
theorem frame_tdCount (c : Cli) (h : Hdr) (rv : Int) :
    CFrame erBook c (countRecv (dupeSeqno { c with sendPingSoon := 0 } h rv).1) :=
  (CFrame.trans (b := { c with sendPingSoon := 0 }) rfl (frame_dupeSeqno _ h rv)).trans (frame_countRecv _)

theorem frame_oosCount (c : Cli) : CFrame erBook c (oosCount c) := ite_both rfl rfl

theorem frame_lazyHint (c : Cli) (id : Nat) : CFrame erBook c (lazyHint c id) := ite_both (ite_both rfl rfl) rfl

theorem frame_afterSelect (c : Cli) : CFrame erBook c (afterSelect c) := ite_both rfl rfl

theorem frame_fire_now (c : Cli) (sel : Sel) (inp : CInput) : CFrame erNow c (fire c sel inp).1 := by
  cases inp with
  | tun f => exact ite_both (P := fun r : Cli × Fired => CFrame erNow c r.1) rfl rfl
  | _ => rfl

theorem frame_fire (c : Cli) (sel : Sel) (inp : CInput) : CFrame erTime c (fire c sel inp).1 :=
  (frame_fire_now c sel inp).coarsen erTime_erNow

theorem frame_rawKeepalive (c : Cli) : CFrame erTime c (rawKeepalive c).1 :=
  ite_both (P := fun r : Cli × List CEvent => CFrame erTime c r.1) rfl rfl

theorem frame_lazyoffGot (c : Cli) (read : Int) (buf : List Nat) : CFrame erQ c (lazyoffGot c read buf).1 :=
  ite_both (P := fun r : Cli × Bool => CFrame erQ c r.1) rfl rfl

/-! ### the way back to the top of the loop, and the excursion into `handshake_lazyoff` -/

theorem loopTop_c (c : Cli) (evs : List CEvent) : (loopTop c evs).1.c = c :=
  ite_both (P := fun o : CState × List CEvent × Next => o.1.c = c) rfl rfl

theorem loopTop_evs (c : Cli) (evs : List CEvent) : (loopTop c evs).2.1 = evs :=
  ite_both (P := fun o : CState × List CEvent × Next => o.2.1 = evs) rfl rfl

/-- a handler's result goes back to the top of the loop, or the thread stays parked in `handshake_lazyoff`: state and events
are the handler's -/
theorem settle_c (r : Cli × List CEvent × Stop) : (settle r).1.c = r.1 := by
  unfold settle
  cases r.2.2 with
  | ret _ => exact loopTop_c _ _
  | park _ => rfl

theorem settle_evs (r : Cli × List CEvent × Stop) : (settle r).2.1 = r.2.1 := by
  unfold settle
  cases r.2.2 with
  | ret _ => exact loopTop_evs _ _
  | park _ => rfl

theorem lazyoffReturn_evs (c : Cli) (k : Resume) (evs : List CEvent) : (lazyoffReturn c k evs).2.1 = evs :=
  loopTop_evs _ _

theorem frame_waitdnsRound {c : Cli} {w : WaitIn} {r : Cli × Int} (h : waitdnsRound c w = some r) : CFrame erTime c r.1 := by
  cases w with
  | timeout => cases h; rfl
  | ans rq =>
    rw [waitdnsRound] at h
    by_cases h1 : rq.id ≠ c.chunkid ∨ (rq.name0 ≠ 111 ∧ rq.name0 ≠ 79)
    · rw [if_pos h1] at h; cases h
    · rw [if_neg h1] at h
      have hc : CFrame erTime c (if rq.rv < 0 ∧ rq.rcode = 2 then { c with now := c.now + 1 } else c) := ite_both rfl rfl
      by_cases h2 : rq.rv < 0
      · simp only [if_pos h2] at h; cases h; exact hc
      · simp only [if_neg h2] at h; cases h; exact hc

theorem frame_lazyoffReturn (c : Cli) (k : Resume) (evs : List CEvent) : CFrame erTime c (lazyoffReturn c k evs).1.c := by
  rw [lazyoffReturn, loopTop_c]; exact (frame_resume c k).book

theorem frame_lazyoffNext (c : Cli) (i : Nat) (k : Resume) : CFrame erTime c (lazyoffNext c i k).1.c :=
  have h := (frame_lazyoffIter c (i + 1)).ids
  ite_both (P := fun o : CState × List CEvent × Next => CFrame erTime c o.1.c) h (h.trans (frame_lazyoffReturn _ k _))

theorem frame_lazyoffStep (c : Cli) (i : Nat) (k : Resume) (inp : CInput) : CFrame erTime c (lazyoffStep c i k inp).1.c := by
  have h0 := frame_fire c waitSel inp
  unfold lazyoffStep
  simp only
  split
  · exact h0
  · rename_i c' read hw
    have h1 : CFrame erTime c c' := h0.trans (frame_waitdnsRound hw)
    have h2 : ∀ buf, CFrame erTime c (lazyoffGot c' read buf).1 := fun buf => h1.trans (frame_lazyoffGot c' read buf).q
    exact ite_both (P := fun o : CState × List CEvent × Next => CFrame erTime c o.1.c)
      ((h2 _).trans (frame_lazyoffReturn _ k _)) ((h2 _).trans (frame_lazyoffNext _ i k))

theorem onlyQ_lazyoffNext (c : Cli) (i : Nat) (k : Resume) : OnlyQ (lazyoffNext c i k).2.1 :=
  ite_both (P := fun o : CState × List CEvent × Next => OnlyQ o.2.1) (onlyQ_lazyoffIter _ _)
    (by rw [lazyoffReturn_evs]; exact onlyQ_lazyoffIter _ _)

/-- every event of a step taken in `handshake_lazyoff`'s `select` is a query (the next switch request) -/
theorem onlyQ_lazyoffStep (c : Cli) (i : Nat) (k : Resume) (inp : CInput) : OnlyQ (lazyoffStep c i k inp).2.1 := by
  unfold lazyoffStep
  simp only
  split
  · exact onlyQ_nil
  · exact ite_both (P := fun o : CState × List CEvent × Next => OnlyQ o.2.1)
      (by rw [lazyoffReturn_evs]; exact onlyQ_nil) (onlyQ_lazyoffNext _ _ _)

end Iodine.Client
