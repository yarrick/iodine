import IodineModel.Lemmas.C02qD5
import IodineModel.Lemmas.C02qD7
import IodineModel.Lemmas.C02rD4
/-
C02 / downstream, immediate mode, desynchronised start — non-vacuity of `down_packet_imm_desync_ok`,
`idle_poll_resyncs_down`, `down_packet_imm_desync_drop7`, `recovery_after_giveups_down_imm_partial`, and the two outcomes at
`d = 7` on concrete runs.
-/
namespace Iodine.C02L
open Iodine Iodine.Gen Iodine.World

/-- `w` with the client's last downstream fragment number set to `fr` -/
def withFrag (w : W) (fr : Int) : W :=
  { w with cs := ⟨{ w.cs.c with inpkt := { w.cs.c.inpkt with fragment := fr } }, w.cs.ph⟩ }

theorem quietImmD_withFrag {P : Par} {w : W} {d : Nat} (h : QuietImmD P 0 d w) (fr : Int) (hfr : 0 ≤ fr ∧ fr < 16) :
    QuietImmD P 0 d (withFrag w fr) := by
  have hc := h.cst
  exact ⟨h.ph, ⟨hc.running, hc.conn, hc.imm, hc.uid, hc.uch, hc.td, hc.L, hc.enc, hc.ty, hc.cid, hc.cmc, hc.alive, hc.oseq, hc.iseq,
    hfr, hc.seed⟩, h.idleC, h.up, h.down, h.srv, h.idle, h.oq, h.syncu, h.syncd, h.aged, h.paged⟩

theorem roomy_withFrag {P : Par} {w : W} (h : Roomy P w) (fr : Int) : Roomy P (withFrag w fr) := ⟨h.to, h.cli, h.srv⟩

/-- the demo session desynchronised by `d`, the client's last packet having had two fragments -/
def exDf (d : Nat) : W := withFrag (exD d) 1

theorem exDf_quiet (d : Nat) : QuietImmD C02.exP 0 d (exDf d) := quietImmD_withFrag (exD_quiet d) 1 (by decide)

theorem exDf_roomy (d : Nat) : Roomy C02.exP (exDf d) := roomy_withFrag (exD_roomy d) 1

/-- non-vacuity of `down_packet_imm_desync_ok`, and the theorem applied: desynchronised by 3 the two-fragment frame arrives
after the usual 8 steps and the session is synchronised -/
example : ∃ w', promptSteps 0 8 (step (exD 3) (.offerS (demoFrame 2 30))) = some w' ∧ QuietImm C02.exP w' ∧
    w'.tunC = [demoFrame 2 30] ∧ w'.tunS = [] := by
  obtain ⟨w', h1, h2, h3, h4, _⟩ := down_packet_imm_desync_ok C02.exP_ok (exD_quiet 3) (by decide) (demoFrame 2 30)
    (by decide +kernel) C02.ex_acceptable_down.1 (exD_roomy 3).to (exD_roomy 3).cli (exD_roomy 3).srv
  have hg : downSteps (downFrags (Server.getUser (exD 3).srv C02.exP.u).fragsize ((demoFrame 2 30).length + 1) ((demoFrame 2 30).length + 1)) = 8 := by
    decide +kernel
  rw [hg] at h1
  have hi : tunImage (demoFrame 2 30) = demoFrame 2 30 := by decide
  exact ⟨w', h1, h2, by rw [h3, hi]; rfl, h4⟩

/-- non-vacuity of `idle_poll_resyncs_down`: desynchronised by 2, one poll synchronises the demo session -/
example : ∃ w1, run (exD 2) [.tickC, .deliverUp, .deliverDown] = w1 ∧ QuietImm C02.exP w1 ∧ w1.cs.c.sendPingSoon = 500 ∧
    w1.tunC = [] ∧ w1.tunS = [] := by
  obtain ⟨w1, _, h1, h2, h3, _, h5, h6, _⟩ := idle_poll_resyncs_down C02.exP_ok (exD_quiet 2) (by decide)
    (exD_roomy 2).to (exD_roomy 2).cli (exD_roomy 2).srv
  exact ⟨w1, h1, h2, h3, h5, h6⟩

/-- non-vacuity of `down_packet_imm_desync_drop7` -/
example : ∃ w', promptSteps 0 21 (step (exDf 7) (.offerS (demoFrame 2 30))) = some w' ∧ QuietImm C02.exP w' ∧
    w'.tunC = [] ∧ w'.tunS = [] := by
  obtain ⟨w', h1, h2, h3, h4, _⟩ := down_packet_imm_desync_drop7 C02.exP_ok (exDf_quiet 7) (by decide) (demoFrame 2 30)
    (by decide +kernel) (by decide) (by decide) (by decide +kernel) (exDf_roomy 7).to (exDf_roomy 7).cli (exDf_roomy 7).srv
  have hg : downFrags (Server.getUser (exDf 7).srv C02.exP.u).fragsize ((demoFrame 2 30).length + 1) ((demoFrame 2 30).length + 1) = 2 := by
    decide +kernel
  rw [hg] at h1
  exact ⟨w', h1, h2, h3, h4⟩

/-- Concrete runs.  The server's number 7 ahead, i.e. the next packet carries the client's OWN number:
with `inpkt.fragment = 0` (and `inpkt.len = 0`) the client takes it through the "weird situation" clause — delivered in the usual
8 steps (the counted run is evaluated by the kernel; `down_packet_imm_desync7_ok` is the general statement); with
`inpkt.fragment = 1` fragment 0 is a "duplicate fragment" — lost after 21 steps (`down_packet_imm_desync_drop7` applied).  Either
way the numbers are equal afterwards. -/
theorem desync7_both_outcomes :
    runPromptCount 0 40 (step (exD 7) (.offerS (demoFrame 2 30))) 0 =
      (runPrompt 0 40 (step (exD 7) (.offerS (demoFrame 2 30))), 8) ∧
    (runPrompt 0 40 (step (exD 7) (.offerS (demoFrame 2 30)))).tunC = [demoFrame 2 30] ∧
    runPromptCount 0 40 (step (exDf 7) (.offerS (demoFrame 2 30))) 0 =
      (runPrompt 0 40 (step (exDf 7) (.offerS (demoFrame 2 30))), 21) ∧
    (runPrompt 0 40 (step (exDf 7) (.offerS (demoFrame 2 30)))).tunC = [] ∧
    (Server.getUser (runPrompt 0 40 (step (exD 7) (.offerS (demoFrame 2 30)))).srv 0).outpacket.seqno =
      (runPrompt 0 40 (step (exD 7) (.offerS (demoFrame 2 30)))).cs.c.inpkt.seqno ∧
    (Server.getUser (runPrompt 0 40 (step (exDf 7) (.offerS (demoFrame 2 30)))).srv 0).outpacket.seqno =
      (runPrompt 0 40 (step (exDf 7) (.offerS (demoFrame 2 30)))).cs.c.inpkt.seqno := by
  -- `fragment = 1`: `down_packet_imm_desync_drop7`; `fragment = 0`: one evaluation of the counted run
  have he : (runPromptCount 0 40 (step (exD 7) (.offerS (demoFrame 2 30))) 0).2 = 8 ∧
      (runPromptCount 0 40 (step (exD 7) (.offerS (demoFrame 2 30))) 0).1.tunC = [demoFrame 2 30] ∧
      (Server.getUser (runPromptCount 0 40 (step (exD 7) (.offerS (demoFrame 2 30))) 0).1.srv 0).outpacket.seqno =
        (runPromptCount 0 40 (step (exD 7) (.offerS (demoFrame 2 30))) 0).1.cs.c.inpkt.seqno := by
    rw [runPromptCount_fast, step_fast]; decide +kernel
  rw [runPromptCount_fst] at he
  obtain ⟨w2, c1, c2, c3, _⟩ := down_packet_imm_desync_drop7 C02.exP_ok (exDf_quiet 7) (by decide) (demoFrame 2 30)
    (by decide +kernel) (by decide) (by decide) (by decide +kernel) (exDf_roomy 7).to (exDf_roomy 7).cli (exDf_roomy 7).srv
  have hg : downFrags (Server.getUser (exDf 7).srv C02.exP.u).fragsize ((demoFrame 2 30).length + 1) ((demoFrame 2 30).length + 1) = 2 := by
    decide +kernel
  rw [hg] at c1
  obtain ⟨d1, d2⟩ := run_of_steps (u := 0) (fuel := 40) c1 c2.quiet (by decide)
  refine ⟨?_, he.2.1, d1, ?_, he.2.2, ?_⟩
  · rw [← he.1, ← runPromptCount_fst 0 40 _ 0]
  · rw [d2, c3]; rfl
  · rw [d2]; exact c2.syncd

/-- non-vacuity of `recovery_after_giveups_down_imm_partial`, and the theorem applied: 5 ahead, last fragment number 1: of
five frames the first three are lost, the last two arrive -/
example : (offerAllS 0 40 (exDf 5) [demoFrame 2 30, demoFrame 2 4, demoFrame 2 31, demoFrame 2 5, demoFrame 2 32]).tunC =
    [demoFrame 2 5, demoFrame 2 32] := by
  have hok : ∀ f ∈ [demoFrame 2 30, demoFrame 2 4, demoFrame 2 31] ++ [demoFrame 2 5, demoFrame 2 32],
      DownFrameOk (Server.getUser (exDf 5).srv C02.exP.u).tunIp (Server.getUser (exDf 5).srv C02.exP.u).fragsize f := by
    intro f hf
    simp only [List.cons_append, List.nil_append, List.mem_cons, List.not_mem_nil, or_false] at hf
    rcases hf with rfl | rfl | rfl | rfl | rfl <;>
      exact ⟨by decide, by decide, by decide +kernel, by decide +kernel⟩
  have := (recovery_after_giveups_down_imm_partial C02.exP_ok 40 (by decide) [demoFrame 2 30, demoFrame 2 4, demoFrame 2 31]
    [demoFrame 2 5, demoFrame 2 32] (exDf 5) 5 (by decide) (by decide) (exDf_quiet 5) (by decide) (exDf_roomy 5) (by decide)
    (by decide +kernel) hok).2.1
  show (offerAllS C02.exP.u 40 (exDf 5) ([demoFrame 2 30, demoFrame 2 4, demoFrame 2 31] ++ [demoFrame 2 5, demoFrame 2 32])).tunC = _
  rw [this]
  decide

end Iodine.C02L
