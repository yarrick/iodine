import IodineModel.Lemmas.C02rH5
import IodineModel.Lemmas.C02rH7
import IodineModel.Lemmas.C02qO9
import IodineModel.Lemmas.C02L9
import IodineModel.Lemmas.C02qD3
/-
The runs of the overlap in lazy mode: the upstream remainder (`UpFlightA`: `UpFlightNQ` or `UpFlightNQP`) to
quiescence, and the induction over the rounds of `BothFlightL`.  Both inductions carry a fuel and a budget of fragment numbers per
direction; what sending one fragment leaves of them is `upFrags_send` (C02v7) resp. `downFrags_send` (C02down1).
-/
namespace Iodine.C02L
open Iodine Iodine.Gen Iodine.World

/-- the upstream remainder after the downstream packet is complete: every further fragment but the last costs two scheduler
steps (the server answers at once), the last one five (`deliverUp tickS deliverDown tickC deliverUp`) -/
theorem upflight_run {P : Par} (hP : P.Ok) {frame : List Nat} (h64 : (0x5a :: frame).length ≤ 65536) (h24 : 24 ≤ frame.length) :
    ∀ (fuel : Nat) (w : W) (c0 : Client.Cli) (o f : Nat), UpFlightA P (0x5a :: frame) w c0 o f →
      ((0x5a :: frame).drop o).length ≤ fuel → f + upFrags P fuel ((0x5a :: frame).drop o) ≤ 16 →
      Server.ipDst frame ≠ (Server.getUser w.srv P.u).tunIp →
      ∃ w', promptSteps P.u (2 * upFrags P fuel ((0x5a :: frame).drop o) + 3) w = some w' ∧
        QuietLazy P w' ∧
        w'.tunS = w.tunS ++ [[0, 0, 8, 0] ++ frame.drop 4] ∧ w'.tunC = w.tunC ∧
        (Server.getUser w'.srv P.u).tunIp = (Server.getUser w.srv P.u).tunIp ∧
        (Server.getUser w'.srv P.u).fragsize = (Server.getUser w.srv P.u).fragsize := by
  intro fuel
  induction fuel with
  | zero =>
    intro w c0 o f h hl
    exact absurd (List.eq_nil_of_length_eq_zero (Nat.le_zero.1 hl)) (drop_ne_nil h.ready.ho)
  | succ fuel ih =>
    intro w c0 o f h hl hf hdst
    obtain ⟨_, _, hm1, hm2, _⟩ := send_readyL hP h.ready
    obtain ⟨hU1, hU2, hU3⟩ := upFrags_send P (drop_ne_nil h.ready.ho) hm1 hl hf
    have hu := upFrags_step P fuel (drop_ne_nil h.ready.ho)
    rw [List.drop_drop] at hu hU1 hU2 hU3
    rw [hu]
    by_cases hlast : o + fragLen P ((0x5a :: frame).drop o) = (0x5a :: frame).length
    · -- last fragment
      have hnil : (0x5a :: frame).drop (o + fragLen P ((0x5a :: frame).drop o)) = [] := by
        rw [hlast]; exact List.drop_length
      rw [hnil, upFrags_nil]
      exact upflight_last_step hP h h64 hlast h24 hdst
    · -- one more fragment, then the rest
      have hlt : o + fragLen P ((0x5a :: frame).drop o) < (0x5a :: frame).length := Nat.lt_of_le_of_ne hm2 hlast
      obtain ⟨w1, c1, hs, hfl, ht1, ht2, hsq, htip, hfrg⟩ := upflight_mid_step hP h h64 hlt (hU3 (drop_ne_nil hlt))
      obtain ⟨w', h1, h2, h3, h4, h6, h7⟩ := ih w1 c1 _ _ hfl.toA hU1 hU2 (by rw [htip]; exact hdst)
      refine ⟨w', ?_, ?_, ?_, ?_, ?_, ?_⟩
      · have := promptSteps_add P.u 2 (2 * upFrags P fuel ((0x5a :: frame).drop (o + fragLen P ((0x5a :: frame).drop o))) + 3) w w1 hs
        rw [h1] at this
        rw [← this]
        congr 1
        rw [Nat.mul_add, Nat.mul_one, Nat.add_assoc]
      · exact h2
      · rw [h3, ht1]
      · rw [h4, ht2]
      · rw [h6, htip]
      · rw [h7, hfrg]

/-- **the rounds**: from `BothFlightL` with the server's downstream packet still pending (at least two downstream fragments
in all) to quiescence — `both_round_lazy` while neither fragment in flight is the last one, then one of the three endings -/
theorem both_run_lazy {P : Par} (hP : P.Ok) {fru frd : List Nat} (h64u : (0x5a :: fru).length ≤ 65536)
    (h64d : (0x5a :: frd).length ≤ 65536) (h24 : 24 ≤ fru.length) (h4 : 4 ≤ frd.length) {sq : Int} (F : Nat) :
    ∀ (fuel fuelD : Nat) (w : W) (c0 : Client.Cli) (ou fu od D fd : Nat),
      BothFlightL P (0x5a :: fru) (0x5a :: frd) w c0 ou fu sq od D fd →
      D < (0x5a :: frd).length → (Server.getUser w.srv P.u).fragsize = F →
      ((0x5a :: fru).drop ou).length ≤ fuel → (0x5a :: frd).length - od ≤ fuelD →
      fu + upFrags P fuel ((0x5a :: fru).drop ou) ≤ 16 → fd + downFrags F fuelD ((0x5a :: frd).length - od) ≤ 16 →
      Server.ipDst fru ≠ (Server.getUser w.srv P.u).tunIp →
      ∃ n w', promptSteps P.u n w = some w' ∧ QuietLazy P w' ∧
        w'.tunS = w.tunS ++ [[0, 0, 8, 0] ++ fru.drop 4] ∧ w'.tunC = w.tunC ++ [tunImage frd] ∧
        (Server.getUser w'.srv P.u).tunIp = (Server.getUser w.srv P.u).tunIp ∧
        (Server.getUser w'.srv P.u).fragsize = (Server.getUser w.srv P.u).fragsize := by
  intro fuel
  induction fuel with
  | zero =>
    intro fuelD w c0 ou fu od D fd h _ _ hlu
    exact absurd (List.eq_nil_of_length_eq_zero (Nat.le_zero.1 hlu)) (drop_ne_nil h.ready.ho)
  | succ fuel ih =>
    intro fuelD w c0 ou fu od D fd h hnd hF hlu hld hfu hfd hdst
    have hod : od < (0x5a :: frd).length := Nat.lt_of_lt_of_le (Nat.lt_add_of_pos_right h.hD) h.hle
    have hr0 : (0x5a :: frd).length - od ≠ 0 := Nat.sub_ne_zero_of_lt hod
    cases fuelD with
    | zero => exact absurd (Nat.le_zero.1 hld) hr0
    | succ fD =>
      obtain ⟨_, _, hm1, hm2, _⟩ := send_readyL hP h.ready
      have hDd : D = downLen F ((0x5a :: frd).length - od) := by rw [← hF]; exact h.hDdef
      -- what is left of the two budgets once the fragments in flight are through
      obtain ⟨hU1, hU2, hU3⟩ := upFrags_send P (drop_ne_nil h.ready.ho) hm1 hlu hfu
      obtain ⟨hfd16, hD1, hD2, hD3⟩ := downFrags_send F hr0 (hDd ▸ h.hD) hld hfd
      rw [List.drop_drop] at hU1 hU2 hU3
      rw [← hDd, Nat.sub_sub] at hD1 hD2 hD3
      generalize hm : fragLen P ((0x5a :: fru).drop ou) = m at *
      by_cases hlastU : ou + m = (0x5a :: fru).length
      · by_cases hlastD : od + D = (0x5a :: frd).length
        · -- (E3)
          obtain ⟨w', h1, h2, _, h4', h5, h6, h7⟩ :=
            e3_step hP h rfl rfl h64u h64d (by rw [hm]; exact hlastU) h24 hdst hlastD hnd h4 hfd16
          exact ⟨4, w', h1, h2, h4', h5, h6, h7⟩
        · -- (E2)
          have hltD : od + D < (0x5a :: frd).length := Nat.lt_of_le_of_ne h.hle hlastD
          have hr1 : (0x5a :: frd).length - (od + D) ≠ 0 := Nat.sub_ne_zero_of_lt hltD
          obtain ⟨w1, hs, hDF, _, htS1, htC1, htip1, hfr1⟩ :=
            e2_step hP h rfl h64u h64d (by rw [hm]; exact hlastU) h24 hdst hltD (hD3 hr1)
          rw [hF] at hDF
          obtain ⟨k, rfl⟩ : ∃ k, fD = k + 1 := Nat.exists_eq_succ_of_ne_zero (fun e => hr1 (Nat.le_zero.1 (e ▸ hD1)))
          obtain ⟨-, hE1, hE2, -⟩ := downFrags_send F hr1 hDF.hD hD1 hD2
          generalize hD' : downLen F ((0x5a :: frd).length - (od + D)) = D' at hDF hE1 hE2
          rw [Nat.sub_sub] at hE1 hE2
          obtain ⟨w', h1, h2, _, h4', h5, h6, h7⟩ := down_flight_run_lazy hP h64d h4 F k w1 (od + D) D' (fd + 1) hDF.toM
            (by rw [hfr1, hF]) hE1 (Nat.lt_of_succ_le (Nat.le_trans (Nat.le_of_eq (Nat.add_right_comm (fd + 1) _ 1)) hE2))
          refine ⟨4 + (2 * downFrags F k ((0x5a :: frd).length - (od + D + D')) +
            lastStepsL w1.cs.c.sendPingSoon ((0x5a :: frd).length - (od + D + D'))), w', ?_, h2, ?_, ?_, ?_, ?_⟩
          · rw [promptSteps_add P.u 4 _ w w1 hs]; exact h1
          · rw [h5, htS1]
          · rw [h4', htC1]
          · rw [h7, htip1]
          · rw [h6, hF]
      · have hltU : ou + m < (0x5a :: fru).length := Nat.lt_of_le_of_ne hm2 hlastU
        have hrest : (0x5a :: fru).drop (ou + m) ≠ [] := drop_ne_nil hltU
        by_cases hlastD : od + D = (0x5a :: frd).length
        · -- (E1), the server's packet still pending
          obtain ⟨w1, c1, hs, hNQ, htS1, htC1, _, htip1, hfr1⟩ := e1_step_pending hP h hlastD hnd hfd16 h64u h64d h4
            (by rw [hm]; exact hltU) (hU3 hrest)
          rw [hm] at hNQ
          obtain ⟨w', h1, h2, h3, h4', h6, h7⟩ := upflight_run hP h64u h24 fuel w1 c1 _ _ hNQ.toA hU1 hU2
            (by rw [htip1]; exact hdst)
          refine ⟨3 + (2 * upFrags P fuel ((0x5a :: fru).drop (ou + m)) + 3), w', ?_, h2, ?_, ?_, ?_, ?_⟩
          · rw [promptSteps_add P.u 3 _ w w1 hs]; exact h1
          · rw [h3, htS1]
          · rw [h4', htC1]
          · rw [h6, htip1]
          · rw [h7, hfr1]
        · -- one more round
          have hltD : od + D < (0x5a :: frd).length := Nat.lt_of_le_of_ne h.hle hlastD
          obtain ⟨w1, c1, hs, hB, htS1, htC1, _, htip1, hfr1⟩ := both_round_lazy hP h h64u h64d (by rw [hm]; exact hltU)
            (hU3 hrest) hltD (hD3 (Nat.sub_ne_zero_of_lt hltD))
          rw [hm, hF] at hB
          have hD'lt : downLen F ((0x5a :: frd).length - (od + D)) < (0x5a :: frd).length :=
            Nat.lt_of_le_of_lt (downLen_le F _)
              (Nat.sub_lt (Nat.lt_of_le_of_lt (Nat.zero_le _) hod) (Nat.lt_of_lt_of_le h.hD (Nat.le_add_left D od)))
          obtain ⟨n, w', h1, h2, h3, h4', h6, h7⟩ := ih fD w1 c1 _ _ _ _ _ hB hD'lt (by rw [hfr1, hF]) hU1 hD1 hU2 hD2
            (by rw [htip1]; exact hdst)
          refine ⟨4 + n, w', ?_, h2, ?_, ?_, ?_, ?_⟩
          · rw [promptSteps_add P.u 4 _ w w1 hs]; exact h1
          · rw [h3, htS1]
          · rw [h4', htC1]
          · rw [h6, htip1]
          · rw [h7, hfr1]

#print axioms both_run_lazy

end Iodine.C02L
