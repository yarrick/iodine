import IodineModel.Lemmas.C02rO7
import IodineModel.Props.C02
/-
Overlapping transfers in lazy mode, the GENERAL theorem `overlap_lazy`: a frame offered on each side of a quiescent
joint state before anything is delivered (either order); the prompt schedule delivers each exactly once and ends quiescent.
Then `clean_path_two_simultaneous_offers_lazy`, the same in the vocabulary of `Props/C02.lean` (its restatement in `Props/C02c.lean`
is the form the property C02 cites), and
non-vacuity of `overlap_lazy` and of the three endings on the lazy demo session `exWL` (`C02L10.lean`).
-/
namespace Iodine.C02L
open Iodine Iodine.Gen Iodine.World

/-- Lazy mode, from a quiescent joint state: a frame `fu` offered to the client and a frame `fd` offered to
the server — in either order, BEFORE anything is delivered — lead to the same joint state; from it the prompt schedule reaches
after finitely many (`n`) steps a quiescent state again; `fu` was written to the server's tun device exactly once, `fd` to the
client's exactly once, nothing else.  Every pair of acceptable frames (`≤ 16` fragments each way). -/
theorem overlap_lazy {P : Par} (hP : P.Ok) {w : W} (hq : QuietLazy P w) (fu fd : List Nat)
    (hu : UpFrameOk P (Server.getUser w.srv P.u).tunIp fu)
    (hd : DownFrameOk (Server.getUser w.srv P.u).tunIp (Server.getUser w.srv P.u).fragsize fd)
    (hF : 0 < (Server.getUser w.srv P.u).fragsize) :
    step (step w (.offerS fd)) (.offerC fu) = step (step w (.offerC fu)) (.offerS fd) ∧
    ∃ n w', promptSteps P.u n (step (step w (.offerC fu)) (.offerS fd)) = some w' ∧ QuietLazy P w' ∧
      w'.tunS = w.tunS ++ [tunImage fu] ∧ w'.tunC = w.tunC ++ [tunImage fd] ∧
      (Server.getUser w'.srv P.u).tunIp = (Server.getUser w.srv P.u).tunIp ∧
      (Server.getUser w'.srv P.u).fragsize = (Server.getUser w.srv P.u).fragsize := by
  obtain ⟨w2, hcs, hsc, hB, htS, htC, htip, hfr⟩ := both_offer_lazy hP hq fu fd hu hd hF
  have h64u : (0x5a :: fu).length ≤ 65536 := by have := hu.hl; simp; omega
  have h64d : (0x5a :: fd).length ≤ 65536 := by have := hd.hl; simp; omega
  have h4 : 4 ≤ fd.length := by have := hd.h24; omega
  refine ⟨by rw [hsc, hcs], ?_⟩
  rw [hcs]
  obtain ⟨_, _, hm1, hm2, _⟩ := send_readyL hP hB.ready
  have hufr := hu.frags
  have hne : (0x5a :: fu) ≠ [] := by simp
  have hu1 := upFrags_step P fu.length hne
  rw [hu1] at hufr
  simp only [List.drop_zero, Nat.zero_add] at hm1 hm2
  by_cases hD1 : downLen (Server.getUser w.srv P.u).fragsize (0x5a :: fd).length = (0x5a :: fd).length
  · by_cases hU1 : fragLen P (0x5a :: fu) = (0x5a :: fu).length
    · -- one fragment each way
      obtain ⟨_, w', h1, h2, h3, h4', h5, h6⟩ := overlap_single_lazy hP hq fu fd hu hd hF hU1 hD1
      rw [hcs] at h1
      exact ⟨5, w', h1, h2, h3, h4', h5, h6⟩
    · -- (E1) with a one-fragment downstream packet
      have hlt : 0 + fragLen P ((0x5a :: fu).drop 0) < (0x5a :: fu).length := by
        simp only [List.drop_zero, Nat.zero_add]; omega
      obtain ⟨w3, c1, hs, hNQ, htS1, htC1, _, htip1, hfr1⟩ := e1_step_dropped hP hB hD1 h64u h64d h4 hlt (by omega)
      simp only [List.drop_zero, Nat.zero_add] at hNQ
      have hg1 : 1 ≤ upFrags P fu.length ((0x5a :: fu).drop (fragLen P (0x5a :: fu))) :=
        upFrags_pos P (by have := hu.h24; omega) (drop_ne_nil (by omega))
      obtain ⟨w', h1, h2, h3, h4', h6, h7⟩ := upflight_run hP h64u hu.h24 fu.length w3 c1 _ _ hNQ.toA
        (by simp only [List.length_drop, List.length_cons]; omega) (by omega) (by rw [htip1, htip]; exact hu.dst)
      refine ⟨3 + (2 * upFrags P fu.length ((0x5a :: fu).drop (fragLen P (0x5a :: fu))) + 3), w', ?_, h2, ?_, ?_, ?_, ?_⟩
      · rw [promptSteps_add P.u 3 _ w2 w3 hs]; exact h1
      · rw [h3, htS1, htS]; rfl
      · rw [h4', htC1, htC]
      · rw [h6, htip1, htip]
      · rw [h7, hfr1, hfr]
  · -- at least two downstream fragments: the rounds
    have hlt : downLen (Server.getUser w.srv P.u).fragsize (0x5a :: fd).length < (0x5a :: fd).length := by
      have := downLen_le (Server.getUser w.srv P.u).fragsize (0x5a :: fd).length
      omega
    obtain ⟨n, w', h1, h2, h3, h4', h6, h7⟩ := both_run_lazy hP h64u h64d hu.h24 h4 (Server.getUser w.srv P.u).fragsize
      (fu.length + 1) (fd.length + 1) w2 _ 0 0 0 _ 0 hB hlt hfr (by simp) (by simp)
      (by simp only [List.drop_zero, Nat.zero_add]; exact hu.frags)
      (by simp only [Nat.zero_add, Nat.sub_zero, List.length_cons]; exact hd.frags)
      (by rw [htip]; exact hu.dst)
    exact ⟨n, w', h1, h2, by rw [h3, htS]; rfl, by rw [h4', htC], by rw [h6, htip], by rw [h7, hfr]⟩

#print axioms overlap_lazy

/-- `overlap_lazy` in the vocabulary of `Props/C02.lean`.  Lazy mode, a quiescent joint state:
a frame is offered on EACH side before anything is delivered, in either order.  Both orders give the same joint state; the
prompt schedule, given enough fuel, makes exactly `n` steps from it and stops in a quiescent state in which the server's tun
device has received exactly `fu` and the client's exactly `fd` (each once).  For every pair of acceptable frames (at most 16
fragments each way), every fragment size `≥ 1`. -/
theorem clean_path_two_simultaneous_offers_lazy {P : Par} (hP : C02.Params P) {w : W} (hq : C02.QuiescentLazy P w)
    (fu fd : List Nat) (hu : C02.AcceptableUp P (Server.getUser w.srv P.u).tunIp fu)
    (hd : C02.AcceptableDown (Server.getUser w.srv P.u).tunIp (Server.getUser w.srv P.u).fragsize fd)
    (hF : 0 < (Server.getUser w.srv P.u).fragsize) :
    ∃ n w', (∀ fuel, n ≤ fuel → runPromptCount P.u fuel (step (step w (.offerC fu)) (.offerS fd)) 0 = (w', n)) ∧
      (∀ fuel, n ≤ fuel → runPromptCount P.u fuel (step (step w (.offerS fd)) (.offerC fu)) 0 = (w', n)) ∧
      (∀ fuel, n ≤ fuel → runPrompt P.u fuel (step (step w (.offerC fu)) (.offerS fd)) = w') ∧
      (∀ fuel, n ≤ fuel → runPrompt P.u fuel (step (step w (.offerS fd)) (.offerC fu)) = w') ∧
      C02.QuiescentLazy P w' ∧ w'.tunS = w.tunS ++ [tunImage fu] ∧ w'.tunC = w.tunC ++ [tunImage fd] :=
  by
  obtain ⟨hcomm, n, w', h1, h2, h3, h4, _⟩ := overlap_lazy hP hq fu fd hu hd hF
  have hr : ∀ fuel, n ≤ fuel → runPromptCount P.u fuel (step (step w (.offerC fu)) (.offerS fd)) 0 = (w', n) := by
    intro fuel hf
    have := runPromptCount_of_steps P.u _ _ _ h1 h2.quiet fuel 0 hf
    simpa using this
  have hr2 : ∀ fuel, n ≤ fuel → runPrompt P.u fuel (step (step w (.offerC fu)) (.offerS fd)) = w' :=
    fun fuel hf => runPrompt_of_steps P.u _ _ _ h1 h2.quiet fuel hf
  exact ⟨n, w', hr, fun fuel hf => by rw [hcomm]; exact hr fuel hf, hr2, fun fuel hf => by rw [hcomm]; exact hr2 fuel hf, h2, h3, h4⟩

/-! ### non-vacuity on `exWL` (upstream fragments of 54 bytes, downstream fragments of 30 bytes) -/

/-- 2 × 2 fragments (ending E3): the theorem applied -/
example : ∃ n w', runPrompt 0 n (step (step exWL (.offerC (demoFrame 9 30))) (.offerS (demoFrame 2 30))) = w' ∧
    runPrompt 0 n (step (step exWL (.offerS (demoFrame 2 30))) (.offerC (demoFrame 9 30))) = w' ∧
    QuietLazy exPL w' ∧ w'.tunS = [demoFrame 9 30] ∧ w'.tunC = [demoFrame 2 30] := by
  obtain ⟨n, w', _, _, h3, h4, h5, h6, h7⟩ := clean_path_two_simultaneous_offers_lazy exPL_ok ex_quiescent_lazy
    (demoFrame 9 30) (demoFrame 2 30) ex_acceptable_lazy.1 ex_acceptable_down_lazy.1 (by rw [exWL_facts.1]; decide)
  refine ⟨n, w', h3 n (Nat.le_refl _), h4 n (Nat.le_refl _), h5, ?_, ?_⟩
  · rw [h6, exWL_tun_emptyrO.1]; decide
  · rw [h7, exWL_tun_emptyrO.2]; decide

/-- 3 × 1 fragments (ending E1, downstream packet dropped already; then `UpFlightNQ`), 1 × 5 fragments (ending E2), 3 × 2
fragments (one round, then ending E1 with the packet pending: `UpFlightNQP`), 2 × 5 (one round, then E2) -/
example : (∃ n w', runPrompt 0 n (step (step exWL (.offerC (demoFrame 9 100))) (.offerS (demoFrame 2 4))) = w' ∧
      QuietLazy exPL w' ∧ w'.tunS = [demoFrame 9 100] ∧ w'.tunC = [demoFrame 2 4]) ∧
    (∃ n w', runPrompt 0 n (step (step exWL (.offerC (demoFrame 9 4))) (.offerS (demoFrame 2 100))) = w' ∧
      QuietLazy exPL w' ∧ w'.tunS = [demoFrame 9 4] ∧ w'.tunC = [demoFrame 2 100]) ∧
    (∃ n w', runPrompt 0 n (step (step exWL (.offerC (demoFrame 9 100))) (.offerS (demoFrame 2 30))) = w' ∧
      QuietLazy exPL w' ∧ w'.tunS = [demoFrame 9 100] ∧ w'.tunC = [demoFrame 2 30]) ∧
    (∃ n w', runPrompt 0 n (step (step exWL (.offerC (demoFrame 9 30))) (.offerS (demoFrame 2 100))) = w' ∧
      QuietLazy exPL w' ∧ w'.tunS = [demoFrame 9 30] ∧ w'.tunC = [demoFrame 2 100]) := by
  have hF : 0 < (Server.getUser exWL.srv exPL.u).fragsize := by rw [exWL_facts.1]; decide
  have key : ∀ fu fd, UpFrameOk exPL (Server.getUser exWL.srv exPL.u).tunIp fu →
      DownFrameOk (Server.getUser exWL.srv exPL.u).tunIp (Server.getUser exWL.srv exPL.u).fragsize fd →
      tunImage fu = fu → tunImage fd = fd →
      ∃ n w', runPrompt 0 n (step (step exWL (.offerC fu)) (.offerS fd)) = w' ∧ QuietLazy exPL w' ∧ w'.tunS = [fu] ∧ w'.tunC = [fd] := by
    intro fu fd hu hd e1 e2
    obtain ⟨n, w', _, _, h3, _, h5, h6, h7⟩ := clean_path_two_simultaneous_offers_lazy exPL_ok ex_quiescent_lazy fu fd hu hd hF
    exact ⟨n, w', h3 n (Nat.le_refl _), h5, by rw [h6, exWL_tun_emptyrO.1, e1]; rfl, by rw [h7, exWL_tun_emptyrO.2, e2]; rfl⟩
  exact ⟨key _ _ ex_up100rO ex_overlap_frames.2.1 (by decide +kernel) (by decide),
    key _ _ ex_overlap_frames.1 ex_down100rO (by decide) (by decide +kernel),
    key _ _ ex_up100rO ex_acceptable_down_lazy.1 (by decide +kernel) (by decide),
    key _ _ ex_acceptable_lazy.1 ex_down100rO (by decide) (by decide +kernel)⟩

#print axioms clean_path_two_simultaneous_offers_lazy

end Iodine.C02L
