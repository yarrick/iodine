import IodineModel.Server.Bytes
import IodineModel.Lemmas.DownstreamE2E
import IodineModel.Lemmas.DownstreamMx
import IodineModel.Props.C10
import IodineModel.Lemmas.Ite
/-
`write_dns` of the byte-level server (Server/Bytes.lean) as a whole.

`writeDns_echo`: for a legal question name, one of the seven tunnel record types and a payload of 1..4096 bytes,
`write_dns` sends a datagram (for every downstream codec byte) that the strict parser accepts and that echoes id,
name and type — the per-format theorems of Props/C10.lean (`echo` over `AnswerCase`) applied to what
`write_dns` / `write_dns_nameenc` hand to `dns_encode`.
-/
namespace Iodine.BytesL
open Iodine Iodine.Codec Iodine.Encoding Iodine.Wire Iodine.Wire.Strict Iodine.Wire.Put Iodine.Wire.DnsEncode
open Iodine.Server.WriteDns Iodine.C10 Iodine.Downstream

/-- NULL, PRIVATE, TXT, SRV, MX, CNAME, A: the types `tunnel_dns` hands to `handle_null_request` -/
def TunnelType (ty : Nat) : Prop := ty = 10 ∨ ty = 65399 ∨ ty = 16 ∨ ty = 33 ∨ ty = 15 ∨ ty = 5 ∨ ty = 1

instance (ty : Nat) : Decidable (TunnelType ty) := by unfold TunnelType; infer_instance

theorem mxBuild_tdOk (dn : Nat) : ∀ (fuel : Nat) (td : Td) (boff : Nat) (data : List Nat), TdOk td →
    TdOk (mxBuild fuel td boff data dn).1
  | 0, td, _, _, h => h
  | fuel + 1, td, boff, data, h => by
    unfold mxBuild
    split
    · exact h
    · have h1 : TdOk (nameenc td (65536 - boff) data dn).td := tdStep_ok h
      extract_lets r
      split
      · exact h1
      · split
        · exact h1
        · have ih := mxBuild_tdOk dn fuel r.td (boff + r.name.length + 1) (data.drop r.used) h1
          split <;> (rename_i heq; rw [heq] at ih; exact ih)

theorem writeDnsR_tdOk (td : Td) (h : TdOk td) (id ty : Nat) (qn p : List Nat) (dn : Nat) :
    TdOk (writeDnsR td id ty qn p dn).1 := by
  unfold writeDnsR
  split
  · exact tdStep_ok h
  · split
    · have := mxBuild_tdOk dn (p.length + 1) td 0 p h
      split <;> (rename_i heq; rw [heq] at this; exact this)
    · split <;> exact h

theorem writeDns_tdOk (td : Td) (h : TdOk td) (q : Nat × Nat × List Nat) (p : List Nat) (dn : Nat) :
    TdOk (writeDns td q p dn).1 := by
  have := writeDnsR_tdOk td h q.1 q.2.1 q.2.2 p dn
  unfold writeDns
  split <;> (rename_i heq; rw [heq] at this; exact this)

/-- `write_dns` sends iff `dns_encode` produced a non-empty message -/
theorem writeDns_of_R {td td' : Td} {q : Nat × Nat × List Nat} {p pkt : List Nat} {dn : Nat}
    (h : writeDnsR td q.1 q.2.1 q.2.2 p dn = (td', .ok pkt)) (hne : pkt ≠ []) :
    writeDns td q p dn = (td', some pkt) := by
  unfold writeDns
  rw [h]
  simp only []
  rw [if_neg (by
    have : 0 < pkt.length := List.length_pos_iff.2 hne
    omega)]

theorem txtText_bytes (p : List Nat) (dn : Nat) (hp : IsBytes p) : IsBytes (txtText p dn) := by
  -- a flavour letter and characters of a codec's table
  have henc : ∀ {c : Codec} (_ : WF c) (_ : ∀ ch ∈ c.tbl, ch < 256) (l cap : Nat), l < 256 →
      IsBytes (l :: (enc c cap p).chars) := fun wf ht l cap hl b hb => by
    rcases List.mem_cons.1 hb with rfl | hb
    · exact hl
    · exact ht b (C07.chars_in_table wf cap p b hb)
  unfold txtText
  extract_lets space
  refine ite_both (henc C07.wf_b64 C07.tables_byte.2.1 _ _ (by decide)) <|
    ite_both (henc C07.wf_b64u C07.tables_byte.2.2.1 _ _ (by decide)) <|
    ite_both (henc C07.wf_b128 C07.tables_byte.2.2.2 _ _ (by decide)) <|
    ite_both (fun b hb => ?_) (henc C07.wf_b32 C07.tables_byte.1 _ _ (by decide))
  rcases List.mem_cons.1 hb with rfl | hb
  · decide
  · exact hp b (List.mem_of_mem_take hb)

/-- what `echo` of Props/C10.lean concludes about a datagram -/
def Echoes (id ty : Nat) (qn pkt : List Nat) : Prop :=
  ∃ m, parseMsg pkt = some m ∧ m.id = id ∧ m.flags = 0x8400 ∧ m.qd = [(labels qn, ty, 1)] ∧ m.an ≠ [] ∧
    (∀ r ∈ m.an, r.owner = labels qn ∧ r.cls = 1) ∧ m.ns = [] ∧ m.ar = []

theorem parseMsg_ne_nil {pkt : List Nat} {m : Msg} (h : parseMsg pkt = some m) : pkt ≠ [] := by
  intro he
  subst he
  have : parseMsg [] = none := by decide
  rw [this] at h
  cases h

/-- **`write_dns` as a whole.**  Legal question name, tunnel record type, payload of 1..4096 bytes, any codec byte:
the datagram is sent, is well-formed and echoes the question. -/
theorem writeDns_echo (td : Td) (htd : TdOk td) (id ty : Nat) (qn p : List Nat) (dn : Nat)
    (hid : id < 65536) (hty : TunnelType ty) (hqn : LegalName qn) (hpb : IsBytes p)
    (hp1 : 1 ≤ p.length) (hp : p.length ≤ 4096) :
    ∃ td' pkt, writeDns td (id, ty, qn) p dn = (td', some pkt) ∧ TdOk td' ∧ Echoes id ty qn pkt := by
  have h253 := hqn.1
  have hpne : p ≠ [] := by intro h; rw [h] at hp1; simp at hp1
  have key : ∀ (td' : Td) (data : List Nat) (datalen : Nat), AnswerCase 65536 qn.length ty data datalen →
      writeDnsR td id ty qn p dn = (td', dnsEncodeAnswer 65536 id ty qn data datalen) →
      ∃ td' pkt, writeDns td (id, ty, qn) p dn = (td', some pkt) ∧ TdOk td' ∧ Echoes id ty qn pkt := by
    intro td' data datalen hc hw
    obtain ⟨pkt, m, henc, hm, h1, h2, h3, h4, h5, h6, h7⟩ := echo 65536 id ty qn data datalen hid hqn (Nat.le_refl _) hc
    rw [henc] at hw
    have htd' : TdOk td' := by
      have := writeDnsR_tdOk td htd id ty qn p dn
      rw [hw] at this; exact this
    exact ⟨td', pkt, writeDns_of_R (q := (id, ty, qn)) hw (parseMsg_ne_nil hm), htd', m, hm, h1, h2, h3, h4, h5, h6, h7⟩
  have mx : ty = 15 ∨ ty = 33 →
      ∃ td' pkt, writeDns td (id, ty, qn) p dn = (td', some pkt) ∧ TdOk td' ∧ Echoes id ty qn pkt := by
    intro hty
    have hbuild := mxBuild_eq dn (p.length + 1) td 0 p htd hpb hpne (by omega) (by omega)
    have hprops := mxItems_props dn (p.length + 1) td p htd hpb (by omega) hpne
    have hcount := mxItems_length dn (p.length + 1) td p (by omega) hpne
    have hne := mxItems_ne_nil dn p.length td p
    generalize hmb : mxBuild (p.length + 1) td 0 p dn = res at hbuild
    obtain ⟨td', o⟩ := res
    simp only at hbuild
    subst hbuild
    generalize mxItems (p.length + 1) td p dn = items at hprops hcount hne hmb
    have hleg : ∀ x ∈ items.map (·.1), LegalName x := by
      intro x hx
      simp only [List.mem_map] at hx
      obtain ⟨it, hit, rfl⟩ := hx
      exact (hprops it hit).2
    generalize hns : items.map (·.1) = names at hleg hmb
    have hnl : names.length = items.length := by rw [← hns]; simp
    obtain ⟨d, dns, rfl⟩ : ∃ d dns, names = d :: dns := by
      cases names with
      | nil => rw [List.length_nil] at hnl; exact absurd (List.eq_nil_of_length_eq_zero hnl.symm) hne
      | cons d dns => exact ⟨d, dns, rfl⟩
    have hsz := mxSize_le ty (d :: dns) (fun x hx => (hleg x hx).1)
    have hlen27 : (d :: dns).length ≤ 28 := by rw [hnl]; omega
    refine key td' (mxPack (d :: dns) ++ []) 65536 (.mx ty d dns [] 65536 hty hleg (by omega)) ?_
    unfold writeDnsR
    rw [if_neg (by rcases hty with h | h <;> simp [h, T_CNAME, T_A]),
      if_pos (by rcases hty with h | h <;> simp [h, T_MX, T_SRV]), hmb]
    simp
  have cname : ty = 5 ∨ ty = 1 →
      ∃ td' pkt, writeDns td (id, ty, qn) p dn = (td', some pkt) ∧ TdOk td' ∧ Echoes id ty qn pkt := by
    intro hty
    have hs := nameenc_shape td htd 1024 (by omega) p hpb dn
    have hl := hs.legal.1
    exact key (nameenc td 1024 p dn).td ((nameenc td 1024 p dn).name ++ 0 :: []) 1024 (.cname ty _ [] 1024 hty hs.legal (by omega))
      (by rcases hty with rfl | rfl <;> simp [writeDnsR, T_CNAME, T_A])
  rcases hty with rfl | rfl | rfl | rfl | rfl | rfl | rfl
  · exact key td p p.length (.raw 10 p (by decide) (by decide) hpb (by omega)) (by simp [writeDnsR, T_CNAME, T_A, T_MX, T_SRV, T_TXT])
  · exact key td p p.length (.raw 65399 p (by decide) (by decide) hpb (by omega)) (by simp [writeDnsR, T_CNAME, T_A, T_MX, T_SRV, T_TXT])
  · -- TXT
    have hl := txtText_length p dn hp
    have hle := txtLen_le dn p.length hp
    have hne : txtText p dn ≠ [] := by
      intro h; rw [h, List.length_nil] at hl; omega
    exact key td (txtText p dn) (txtText p dn).length (.txt _ (txtText_bytes p dn hpb) hne (by omega))
      (by simp [writeDnsR, T_CNAME, T_A, T_MX, T_SRV, T_TXT])
  · exact mx (Or.inr rfl)
  · exact mx (Or.inl rfl)
  · exact cname (Or.inl rfl)
  · exact cname (Or.inr rfl)

/-- … so whatever `write_dns` sends under these hypotheses echoes the question -/
theorem writeDns_sent_echoes {td : Td} (htd : TdOk td) {id ty : Nat} {qn p : List Nat} {dn : Nat}
    (hid : id < 65536) (hty : TunnelType ty) (hqn : LegalName qn) (hpb : IsBytes p)
    (hp1 : 1 ≤ p.length) (hp : p.length ≤ 4096) {bytes : List Nat} (hw : (writeDns td (id, ty, qn) p dn).2 = some bytes) :
    Echoes id ty qn bytes := by
  obtain ⟨td', pkt, hwd, _, he⟩ := writeDns_echo td htd id ty qn p dn hid hty hqn hpb hp1 hp
  rw [hwd] at hw
  cases hw
  exact he

end Iodine.BytesL
