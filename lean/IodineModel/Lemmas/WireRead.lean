import IodineModel.Wire.Read
import IodineModel.Wire.DnsDecode
/-
The read side of the wire: for C12 (a datagram is interpreted from its own bytes only) and for the no-fault part of
C05/C06.

Every model function `f` is walked through once, by a lemma `f_same` about two runs of `f` on buffers that
hold the same datagram and different residue (`Same`): the runs agree, because every read is guarded by a
comparison with `packetlen`; the result satisfies a postcondition; and with `packetlen ≤ cap` the run does
not fault (`Good`).  Props/C12.lean states the three parts separately, as projections of `f_same`.
`readname_loop` is executed once, for an arbitrary invariant at its loop test (`nameLoop_walk`); `nameLoop_same` and the
simulation of the loop on plain labels (Lemmas/BytesJ) are instances.
-/
namespace Iodine.Wire

/-! ### the Except monad -/

@[simp] theorem bind_ok {ε α β} (a : α) (f : α → Except ε β) : (Except.ok a >>= f) = f a := rfl
@[simp] theorem bind_error {ε α β} (e : ε) (f : α → Except ε β) : (Except.error e >>= f) = Except.error e := rfl
theorem bind_eq_ok {ε α β} {x : Except ε α} {f : α → Except ε β} {c : β} (h : (x >>= f) = .ok c) :
    ∃ a, x = .ok a ∧ f a = .ok c := by
  cases x with
  | error e => cases h
  | ok a => exact ⟨a, rfl, h⟩
@[simp] theorem map_ok {ε α β} (a : α) (f : α → β) : (Except.ok a : Except ε α).map f = .ok (f a) := rfl
@[simp] theorem map_error {ε α β} (e : ε) (f : α → β) : (Except.error e : Except ε α).map f = .error e := rfl

def IsOk {ε α} (x : Except ε α) : Prop := ∃ a, x = .ok a

theorem isOk_ok {ε α} (a : α) : IsOk (Except.ok a : Except ε α) := ⟨a, rfl⟩

/-- the only possible fault is a write outside an array (never a read outside the receive buffer) -/
def OnlyWriteFault {α} (x : Except Fault α) : Prop := ∀ f, x = .error f → f = .oobWrite

def Good {α} (P : Prop) (x : Except Fault α) : Prop := (P → IsOk x) ∧ OnlyWriteFault x

theorem IsOk.good {α} {P : Prop} {x : Except Fault α} (h : IsOk x) : Good P x := by
  obtain ⟨a, rfl⟩ := h
  exact ⟨fun _ => ⟨a, rfl⟩, fun f hf => by cases hf⟩

theorem good_ok {α} {P : Prop} (a : α) : Good P (Except.ok a : Except Fault α) := (isOk_ok a).good

theorem good_oobWrite {α} {P : Prop} (hP : ¬ P) : Good P (Except.error .oobWrite : Except Fault α) :=
  ⟨fun h => absurd h hP, fun f hf => by cases hf; rfl⟩

theorem Good.mono {α} {P Q : Prop} {x : Except Fault α} (h : Good P x) (hPQ : Q → P) : Good Q x :=
  ⟨fun hq => h.1 (hPQ hq), h.2⟩

/-! ### push -/

theorem push_ok {cap : Nat} {out : List Nat} (x : Nat) (h : out.length < cap) :
    push cap out x = .ok (out ++ [x]) := by
  simp only [push, h, if_true]

theorem good_push {P : Prop} (cap : Nat) (out : List Nat) (x : Nat) (h : P → out.length < cap) :
    Good P (push cap out x) := by
  by_cases hc : out.length < cap
  · rw [push_ok x hc]; exact good_ok _
  · simp only [push, hc, if_false]
    exact good_oobWrite (fun hp => hc (h hp))

/-! ### two runs on the same datagram -/

/-- `x₁`, `x₂` are the same computation on two buffers.  `ok` stands for "the datagram lies inside the buffer"
(`packetlen ≤ cap`), `Q` for what the caller must provide for no write fault, `P` is the postcondition. -/
structure Same {α} (ok Q : Prop) (P : α → Prop) (x₁ x₂ : Except Fault α) : Prop where
  eq : x₁ = x₂
  post : ∀ a, x₂ = .ok a → P a
  good : ok → Good Q x₂

namespace Same
variable {α β : Type} {ok Q : Prop} {P : α → Prop}

theorem pure (a : α) (h : P a) : Same ok Q P (.ok a) (.ok a) :=
  ⟨rfl, fun _ e => by cases e; exact h, fun _ => good_ok a⟩

/-- a computation that does not look at the buffer -/
theorem of_good {x : Except Fault α} (h : Good Q x) : Same ok Q (fun _ => True) x x :=
  ⟨rfl, fun _ _ => trivial, fun _ => h⟩

theorem mono {P' : α → Prop} {x₁ x₂ : Except Fault α} (h : Same ok Q P x₁ x₂) (hP : ∀ a, P a → P' a) :
    Same ok Q P' x₁ x₂ :=
  ⟨h.eq, fun a e => hP a (h.post a e), h.good⟩

/-- a write fault where the caller does not provide `Q` -/
theorem error {R : α → Prop} {e : Fault} (h : ok → ¬ Q ∧ e = .oobWrite) : Same ok Q R (.error e) (.error e) :=
  ⟨rfl, fun _ h => (by cases h), fun hok => ⟨fun hq => absurd hq (h hok).1, fun f hf => by cases hf; exact (h hok).2⟩⟩

/-- a fault of `x` that is acceptable for `x` is acceptable wherever it propagates to -/
theorem error_of_good {R : β → Prop} {e : Fault} (h : ok → Good Q (.error e : Except Fault α)) :
    Same ok Q R (.error e) (.error e) := by
  refine error fun hok => ⟨fun hq => ?_, (h hok).2 e rfl⟩
  obtain ⟨a, ha⟩ := (h hok).1 hq
  cases ha

/-- sequencing; the continuation learns which value the second run returned -/
theorem bind_eq {R : β → Prop} {x₁ x₂ : Except Fault α} {f₁ f₂ : α → Except Fault β} (hx : Same ok Q P x₁ x₂)
    (hf : ∀ a, x₂ = .ok a → P a → Same ok Q R (f₁ a) (f₂ a)) : Same ok Q R (x₁ >>= f₁) (x₂ >>= f₂) := by
  obtain ⟨rfl, hpost, hgood⟩ := hx
  cases x₁ with
  | error e => exact error_of_good hgood
  | ok a => exact hf a rfl (hpost a rfl)

theorem bind {R : β → Prop} {x₁ x₂ : Except Fault α} {f₁ f₂ : α → Except Fault β} (hx : Same ok Q P x₁ x₂)
    (hf : ∀ a, P a → Same ok Q R (f₁ a) (f₂ a)) : Same ok Q R (x₁ >>= f₁) (x₂ >>= f₂) :=
  hx.bind_eq fun a _ => hf a

theorem map {R : β → Prop} {x₁ x₂ : Except Fault α} (f : α → β) (hx : Same ok Q P x₁ x₂)
    (hf : ∀ a, P a → R (f a)) : Same ok Q R (x₁.map f) (x₂.map f) := by
  obtain ⟨rfl, hpost, hgood⟩ := hx
  cases x₁ with
  | error e => exact error_of_good hgood
  | ok a => exact pure _ (hf a (hpost a rfl))

theorem ite {c : Prop} [Decidable c] {a₁ a₂ b₁ b₂ : Except Fault α} (ht : c → Same ok Q P a₁ a₂)
    (he : ¬ c → Same ok Q P b₁ b₂) : Same ok Q P (if c then a₁ else b₁) (if c then a₂ else b₂) := by
  by_cases h : c
  · rw [if_pos h, if_pos h]; exact ht h
  · rw [if_neg h, if_neg h]; exact he h

theorem run {x₁ x₂ : Except Fault α} (h : Same ok Q P x₁ x₂) (hok : ok) (hq : Q) : ∃ a, x₂ = .ok a ∧ P a := by
  obtain ⟨a, ha⟩ := (h.good hok).1 hq
  exact ⟨a, ha, h.post a ha⟩

end Same

/-! ### reads of the receive buffer -/

theorem get_ok (b : RxBuf) (hcap : b.plen ≤ b.cap) (i : Nat) (h : i < b.plen) :
    b.get i = .ok (b.pkt.getD i 0) := by
  have : ¬ b.cap ≤ i := by omega
  simp only [RxBuf.get, this, if_false]
  rw [if_pos h]

/-- `D` holds of everything `readname` can store: a byte of the datagram, the dot, the NUL -/
structure Stored (pkt : Array Nat) (D : Nat → Prop) : Prop where
  zero : D 0
  dot : D 46
  get : ∀ i, i < pkt.size → D (pkt.getD i 0)

theorem Stored.triv (pkt : Array Nat) : Stored pkt (fun _ => True) := ⟨trivial, trivial, fun _ _ => trivial⟩

section
variable {pkt r₁ r₂ : Array Nat} {cap : Nat} {Q : Prop} {D : Nat → Prop}

theorem get_same (i : Nat) (h : i < pkt.size) :
    Same (pkt.size ≤ cap) Q (fun x => x = pkt.getD i 0) ((RxBuf.mk pkt r₁ cap).get i) ((RxBuf.mk pkt r₂ cap).get i) := by
  refine ⟨by simp only [RxBuf.get, h, if_true], fun a ha => ?_, fun hok => ?_⟩
  · simp only [RxBuf.get, h, if_true] at ha
    split at ha
    · cases ha
    · rw [← Except.ok.inj ha]; simp [Array.getD, h]
  rw [get_ok ⟨pkt, r₂, cap⟩ hok i h]
  exact good_ok _

/-! ### readname -/

theorem getD_toList (pkt : Array Nat) (i : Nat) : pkt.toList.getD i 0 = pkt.getD i 0 := by
  rw [Array.getD_eq_getD_getElem?]; simp [List.getD]

theorem getD_eq_getElem {P : List Nat} {i : Nat} (h : i < P.length) : P.getD i 0 = P[i] := by
  simp [List.getD, h]

theorem mem_of_getD_lt {P : List Nat} {i : Nat} (h : i < P.length) : P.getD i 0 ∈ P := by
  rw [getD_eq_getElem h]; exact List.getElem_mem _

/-- `copyLabel` copies `k ≤ c` bytes of the datagram: all `c`, or up to the end of the datagram, or until the array is
full (one byte is kept for the NUL) -/
theorem copyLabel_walk (length : Nat) : ∀ c s out, s ≤ pkt.size → out.length < length →
    Same (pkt.size ≤ cap) Q (fun r => ∃ k, k ≤ c ∧ r.1 = s + k ∧ s + k ≤ pkt.size ∧
        r.2 = out ++ (pkt.toList.drop s).take k ∧ r.2.length < length ∧
        (k = c ∨ ¬ r.1 < pkt.size ∨ ¬ r.2.length + 1 < length))
      (copyLabel ⟨pkt, r₁, cap⟩ length c s out) (copyLabel ⟨pkt, r₂, cap⟩ length c s out) := by
  intro c
  induction c with
  | zero => intro s out hs h; exact .pure _ ⟨0, Nat.le_refl _, rfl, hs, by simp, h, .inl rfl⟩
  | succ c ih =>
    intro s out hs h
    simp only [copyLabel]
    refine .ite (fun hc => ?_) (fun hc => .pure _ ⟨0, Nat.zero_le _, rfl, hs, by simp, h, ?_⟩)
    · have hsP : s < pkt.toList.length := by simpa using hc.2
      refine (get_same s hc.2).bind fun x hx => ?_
      simp only [push_ok x h, bind_ok]
      refine (ih (s + 1) (out ++ [x]) hc.2 (by simp; omega)).mono fun r ⟨k, hk, h1, h2, h3, h4, h5⟩ =>
        ⟨k + 1, by omega, by omega, by omega, ?_, h4, h5.imp_left (by omega)⟩
      rw [h3, hx, List.drop_eq_getElem_cons hsP, List.take_succ_cons, ← getD_toList, getD_eq_getElem hsP]
      simp
    · by_cases h1 : out.length + 1 < length
      · exact .inr (.inl fun h2 => hc ⟨h1, h2⟩)
      · exact .inr (.inr h1)

/-- what a `readname` call leaves at the start of its `dst[length]`: nothing, or at most `length` bytes
the last of which is the terminating NUL (the C return value is the number of these bytes) -/
def NameOut (length : Nat) (w : List Nat) : Prop := w.length ≤ length ∧ (w = [] ∨ ∃ w', w = w' ++ [0])

theorem nameOut_nil (length : Nat) : NameOut length [] := ⟨Nat.zero_le _, Or.inl rfl⟩

theorem nameOut_snoc {length : Nat} {out : List Nat} (h : out.length < length) : NameOut length (out ++ [0]) :=
  ⟨by simp only [List.length_append, List.length_cons, List.length_nil]; omega, Or.inr ⟨out, rfl⟩⟩

theorem all_snoc {D : Nat → Prop} {out : List Nat} {x : Nat} (h : ∀ y ∈ out, D y) (hx : D x) : ∀ y ∈ out ++ [x], D y := by
  intro y hy
  rcases List.mem_append.1 hy with hy | hy
  · exact h y hy
  · rw [List.mem_singleton.1 hy]; exact hx

/-- **One activation of `readname_loop`, executed once for every property of what it stores**, given the recursive calls
(`Rc` is what they return).  The two runs are on buffers with the same datagram, so the result neither depends on the
residue nor faults.  `I fuel s out` is an invariant AT THE LOOP TEST (it may depend on the position) and `Post` a
postcondition on the bytes stored; a property supplies four facts: what holds when the loop ends with the NUL (`fin`),
behind a compression pointer (`ptr`), when a label fills the array and when the loop goes round (`lab`).
`fuel ≥ packetlen - s` suffices: every iteration advances `s`. -/
theorem nameLoop_walk (length : Nat) (rec₁ rec₂ : Nat → Nat → Except Fault (List Nat)) (src0 : Nat)
    {Rc : Nat → Nat → List Nat → Prop} {I : Nat → Nat → List Nat → Prop} {Post : List Nat → Prop}
    (hrec : ∀ off len, 0 < len → Same (pkt.size ≤ cap) Q (Rc off len) (rec₁ off len) (rec₂ off len))
    (nil : Post [])
    (fin : ∀ {fuel s out}, I fuel s out → out.length < length → Post (out ++ [0]))
    (ptr : ∀ {fuel s out sub}, I (fuel + 1) s out → s + 1 < pkt.size → out.length + 2 < length →
      pkt.getD s 0 ≠ 0 → pkt.getD s 0 &&& 192 = 192 →
      ((pkt.getD s 0 &&& 63) <<< 8 ||| pkt.getD (s + 1) 0 &&& 255) < pkt.size →
      Rc ((pkt.getD s 0 &&& 63) <<< 8 ||| pkt.getD (s + 1) 0 &&& 255) (length - out.length) sub →
      ¬ (sub.length = 0 ∧ out.length > 0) → Post (out ++ sub))
    (lab : ∀ {fuel s out k}, I (fuel + 1) s out → s < pkt.size → out.length + 2 < length →
      pkt.getD s 0 ≠ 0 → ¬ pkt.getD s 0 &&& 192 = 192 → pkt.getD s 0 &&& 192 = 0 →
      k ≤ pkt.getD s 0 → s + 1 + k ≤ pkt.size → (out ++ (pkt.toList.drop (s + 1)).take k).length < length →
      (k = pkt.getD s 0 ∨ ¬ s + 1 + k < pkt.size ∨ ¬ (out ++ (pkt.toList.drop (s + 1)).take k).length + 1 < length) →
      (¬ (out ++ (pkt.toList.drop (s + 1)).take k).length + 1 < length →
        Post (out ++ (pkt.toList.drop (s + 1)).take k ++ [0])) ∧
      ((out ++ (pkt.toList.drop (s + 1)).take k).length + 1 < length →
        (s + 1 + k < pkt.size → pkt.getD (s + 1 + k) 0 ≠ 0 →
          I fuel (s + 1 + k) (out ++ (pkt.toList.drop (s + 1)).take k ++ [46])) ∧
        (¬ (s + 1 + k < pkt.size ∧ pkt.getD (s + 1 + k) 0 ≠ 0) →
          I fuel (s + 1 + k) (out ++ (pkt.toList.drop (s + 1)).take k)))) :
    ∀ fuel s out, pkt.size - s ≤ fuel → out.length < length → I fuel s out →
      Same (pkt.size ≤ cap) Q (fun r => Post r.2)
        (nameLoop ⟨pkt, r₁, cap⟩ length rec₁ src0 fuel s out) (nameLoop ⟨pkt, r₂, cap⟩ length rec₂ src0 fuel s out) := by
  have finish : ∀ {fuel s out} (s' : Nat), I fuel s out → out.length < length → Same (pkt.size ≤ cap) Q (fun r => Post r.2)
      (nameFinish ⟨pkt, r₁, cap⟩ length s' out) (nameFinish ⟨pkt, r₂, cap⟩ length s' out) := by
    intro fuel s out s' hi ho
    simp only [nameFinish, push_ok _ ho, bind_ok]
    exact .pure _ (fin hi ho)
  intro fuel
  induction fuel with
  | zero =>
    intro s out hf ho hi
    unfold nameLoop
    have hs : ¬ s < pkt.size := by omega
    simp only [RxBuf.plen, hs, not_false_eq_true, if_true]
    exact finish s hi ho
  | succ fuel ih =>
    intro s out hf ho hi
    unfold nameLoop
    by_cases hs : s < pkt.size
    · simp only [RxBuf.plen, hs, not_true_eq_false, if_false]
      refine (get_same s hs).bind fun c hc => ?_
      subst hc
      by_cases h1 : pkt.getD s 0 = 0 ∨ ¬out.length + 2 < length
      · simp only [h1, if_true]
        exact finish s hi ho
      · simp only [h1, if_false]
        have hc0 : pkt.getD s 0 ≠ 0 := fun h => h1 (.inl h)
        have hl : out.length + 2 < length := by
          apply Decidable.byContradiction; intro h; exact h1 (Or.inr h)
        by_cases h2 : pkt.getD s 0 &&& 192 = 192
        · -- compression pointer
          simp only [h2, if_true]
          by_cases h3 : s + 1 < pkt.size
          · simp only [h3, not_true_eq_false, if_false]
            refine (get_same (s + 1) h3).bind fun c2 hc2 => ?_
            subst hc2
            refine .ite (fun _ => .ite (fun _ => .pure _ nil) (fun _ => finish (s + 1) hi ho)) (fun h4 => ?_)
            refine (hrec _ (length - out.length) (by omega)).bind fun sub hsub => ?_
            refine .ite (fun _ => ?_) (fun h6 => .pure _ (ptr hi h3 hl hc0 h2 (by omega) hsub h6))
            simp only [push_ok _ ho, bind_ok]
            exact .pure _ (fin hi ho)
          · simp only [h3, not_false_eq_true, if_true]
            exact finish (s + 1) hi ho
        · simp only [h2, if_false]
          by_cases h3 : pkt.getD s 0 &&& 192 = 0
          · -- an ordinary label
            simp only [ne_eq, h3, not_true_eq_false, if_false]
            refine (copyLabel_walk length _ (s + 1) out hs ho).bind fun x hx => ?_
            obtain ⟨s', out'⟩ := x
            obtain ⟨k, hk, rfl, hsk, rfl, ho', hwhy⟩ := hx
            have key := lab (k := k) hi hs hl hc0 h2 h3 hk hsk ho' hwhy
            simp only at ho' hwhy key ⊢
            refine .ite (fun h4 => ?_) (fun h4 => ?_)
            · simp only [nameFinish, push_ok _ ho', bind_ok]
              exact .pure _ (key.1 (by omega))
            have key2 := key.2 (by omega)
            by_cases h5 : s + 1 + k < pkt.size
            · simp only [h5, if_true]
              refine (get_same _ h5).bind fun x hx => ?_
              subst hx
              refine .ite (fun h6 => ?_) (fun h6 => ih _ _ (by omega) ho' (key2.2 fun h => h6 h.2))
              simp only [push_ok _ ho', bind_ok]
              exact ih _ _ (by omega) (by simp only [List.length_append, List.length_cons, List.length_nil] at *; omega)
                (key2.1 h5 h6)
            · simp only [h5, if_false]
              exact ih _ _ (by omega) ho' (key2.2 fun h => h5 h.1)
          · -- reserved label type
            simp only [ne_eq, h3, not_false_eq_true, if_true]
            exact .ite (fun _ => .pure _ nil) (fun _ => finish (s + 1) hi ho)
    · simp only [RxBuf.plen, hs, not_false_eq_true, if_true]
      exact finish s hi ho

/-- everything `readname_loop` stores satisfies `D`; the bytes stored end in the NUL -/
theorem nameLoop_same (hD : Stored pkt D) (length : Nat) (rec₁ rec₂ : Nat → Nat → Except Fault (List Nat))
    (src0 : Nat)
    (hrec : ∀ off len, 0 < len →
      Same (pkt.size ≤ cap) Q (fun w => NameOut len w ∧ ∀ x ∈ w, D x) (rec₁ off len) (rec₂ off len)) :
    ∀ fuel s out, pkt.size - s ≤ fuel → out.length < length → (∀ x ∈ out, D x) →
      Same (pkt.size ≤ cap) Q (fun r => NameOut length r.2 ∧ ∀ x ∈ r.2, D x)
        (nameLoop ⟨pkt, r₁, cap⟩ length rec₁ src0 fuel s out) (nameLoop ⟨pkt, r₂, cap⟩ length rec₂ src0 fuel s out) := by
  have hcopy : ∀ s k, ∀ x ∈ (pkt.toList.drop s).take k, D x := fun s k x hx => by
    obtain ⟨i, hi, rfl⟩ := List.getElem_of_mem (List.mem_of_mem_drop (List.mem_of_mem_take hx))
    have := hD.get i (by simpa using hi)
    rwa [← getD_toList, getD_eq_getElem hi] at this
  have all2 : ∀ {a b : List Nat}, (∀ x ∈ a, D x) → (∀ x ∈ b, D x) → ∀ x ∈ a ++ b, D x :=
    fun ha hb x hx => (List.mem_append.1 hx).elim (ha x) (hb x)
  intro fuel s out hf ho hd
  refine nameLoop_walk (I := fun _ _ out => out.length < length ∧ ∀ x ∈ out, D x)
    (Post := fun w => NameOut length w ∧ ∀ x ∈ w, D x) length rec₁ rec₂ src0 hrec ⟨nameOut_nil _, nofun⟩
    (fun hi ho => ⟨nameOut_snoc ho, all_snoc hi.2 hD.zero⟩) ?_ ?_ fuel s out hf ho ⟨ho, hd⟩
  · intro fuel s out sub hi _ hl _ _ _ ⟨⟨hlen, hterm⟩, hsd⟩ h6
    refine ⟨⟨by simp only [List.length_append]; omega, ?_⟩, all2 hi.2 hsd⟩
    rcases hterm with h | ⟨w', hw'⟩
    · subst h
      have : out = [] := List.eq_nil_of_length_eq_zero (by simp only [List.length_nil, true_and] at h6; omega)
      left; simp only [this, List.append_nil]
    · right; exact ⟨out ++ w', by rw [hw', List.append_assoc]⟩
  · intro fuel s out k hi _ _ _ _ _ _ _ ho' _
    have hd' := all2 hi.2 (hcopy (s + 1) k)
    exact ⟨fun _ => ⟨nameOut_snoc ho', all_snoc hd' hD.zero⟩, fun h =>
      ⟨fun _ _ => ⟨by simp only [List.length_append, List.length_cons, List.length_nil] at *; omega, all_snoc hd' hD.dot⟩,
        fun _ => ⟨ho', hd'⟩⟩⟩

theorem readnameLoop_same (hD : Stored pkt D) : ∀ loop src length, 0 < length →
    Same (pkt.size ≤ cap) Q (fun r => NameOut length r.2 ∧ ∀ x ∈ r.2, D x)
      (readnameLoop ⟨pkt, r₁, cap⟩ loop src length) (readnameLoop ⟨pkt, r₂, cap⟩ loop src length) := by
  intro loop
  induction loop with
  | zero => intro src length _; exact .pure _ ⟨nameOut_nil _, nofun⟩
  | succ loop ih =>
    intro src length hl
    simp only [readnameLoop]
    exact nameLoop_same hD length _ _ src (fun off len hlen => (ih off len hlen).map _ fun _ h => h)
      pkt.size src [] (by omega) (by simpa using hl) nofun

theorem readname_same (hD : Stored pkt D) (src length : Nat) (hl : 3 ≤ length) :
    Same (pkt.size ≤ cap) Q (fun r => NameOut length r.2 ∧ ∀ x ∈ r.2, D x)
      (readname ⟨pkt, r₁, cap⟩ src length) (readname ⟨pkt, r₂, cap⟩ src length) := by
  have : ¬ length < 3 := by omega
  simp only [readname, this, if_false]
  exact readnameLoop_same hD 10 src length (by omega)

/-! ### readshort, readlong, readdata, readtxtbin -/

theorem readshort_same (src : Nat) (h : src + 2 ≤ pkt.size) :
    Same (pkt.size ≤ cap) Q (fun r => r.1 < 65536 ∧ r.2 = src + 2)
      (readshort ⟨pkt, r₁, cap⟩ src) (readshort ⟨pkt, r₂, cap⟩ src) := by
  unfold readshort
  refine (get_same src (by omega)).bind fun p0 _ => ?_
  refine (get_same (src + 1) (by omega)).bind fun p1 _ => ?_
  exact .pure _ ⟨Nat.mod_lt _ (by omega), rfl⟩

theorem readlong_same (src : Nat) (h : src + 4 ≤ pkt.size) :
    Same (pkt.size ≤ cap) Q (fun r => r.2 = src + 4) (readlong ⟨pkt, r₁, cap⟩ src) (readlong ⟨pkt, r₂, cap⟩ src) := by
  unfold readlong
  refine (get_same src (by omega)).bind fun p0 _ => ?_
  refine (get_same (src + 1) (by omega)).bind fun p1 _ => ?_
  refine (get_same (src + 2) (by omega)).bind fun p2 _ => ?_
  refine (get_same (src + 3) (by omega)).bind fun p3 _ => ?_
  exact .pure _ rfl

theorem readRRHeader_same (data : Nat) (h : data + 10 ≤ pkt.size) :
    Same (pkt.size ≤ cap) Q (fun r => r.2.2 = data + 10)
      (readRRHeader ⟨pkt, r₁, cap⟩ data) (readRRHeader ⟨pkt, r₂, cap⟩ data) := by
  unfold readRRHeader
  refine (readshort_same data (by omega)).bind fun x hx => ?_
  obtain ⟨ty, d⟩ := x
  obtain rfl : d = data + 2 := hx.2
  refine (readshort_same _ (by omega)).bind fun x hx => ?_
  obtain ⟨_, d⟩ := x
  obtain rfl : d = data + 2 + 2 := hx.2
  refine (readlong_same _ (by omega)).bind fun x hx => ?_
  obtain ⟨_, d⟩ := x
  obtain rfl : d = data + 2 + 2 + 4 := hx
  refine (readshort_same _ (by omega)).bind fun x hx => ?_
  obtain ⟨rlen, d⟩ := x
  obtain rfl : d = data + 2 + 2 + 4 + 2 := hx.2
  exact .pure _ rfl

theorem readBytes_same : ∀ n src, src + n ≤ pkt.size →
    Same (pkt.size ≤ cap) Q (fun l => l.length = n) (readBytes ⟨pkt, r₁, cap⟩ n src) (readBytes ⟨pkt, r₂, cap⟩ n src) := by
  intro n
  induction n with
  | zero => intro src _; exact .pure _ rfl
  | succ n ih =>
    intro src h
    simp only [readBytes]
    refine (get_same src (by omega)).bind fun x _ => ?_
    refine (ih (src + 1) (by omega)).bind fun l hl => ?_
    exact .pure _ (by simp [hl])

theorem readdata_same (src len dstcap : Nat) (h : src + len ≤ pkt.size) (hd : len ≤ dstcap) :
    Same (pkt.size ≤ cap) Q (fun r => r.1.length = len)
      (readdata ⟨pkt, r₁, cap⟩ src len dstcap) (readdata ⟨pkt, r₂, cap⟩ src len dstcap) := by
  have : ¬ dstcap < len := by omega
  simp only [readdata, this, if_false]
  refine (readBytes_same len src h).bind fun l hl => ?_
  exact .pure _ hl

/-- `srcremain` strictly decreases, and what has been stored plus `dstremain` stays within `dst` -/
theorem readtxtbinGo_same (dstcap : Nat) :
    ∀ fuel src srcremain dstremain out, src + srcremain ≤ pkt.size → srcremain ≤ fuel →
      out.length + dstremain ≤ dstcap →
      Same (pkt.size ≤ cap) Q (fun r => r.1 ≤ r.2.2.length ∧ r.2.2.length ≤ dstcap)
        (readtxtbinGo ⟨pkt, r₁, cap⟩ dstcap fuel src srcremain dstremain out)
        (readtxtbinGo ⟨pkt, r₂, cap⟩ dstcap fuel src srcremain dstremain out) := by
  intro fuel
  induction fuel with
  | zero =>
    intro src srcremain dstremain out _ hf hd
    unfold readtxtbinGo
    have : srcremain = 0 := by omega
    simp only [this, if_true]
    exact .pure _ ⟨Nat.le_refl _, by simp only; omega⟩
  | succ fuel ih =>
    intro src srcremain dstremain out h hf hd
    unfold readtxtbinGo
    refine .ite (fun _ => .pure _ ⟨Nat.le_refl _, by simp only; omega⟩) (fun h0 => ?_)
    refine (get_same src (by omega)).bind fun tocopy _ => ?_
    refine .ite (fun _ => .pure _ ⟨Nat.zero_le _, by simp only; omega⟩) (fun h1 => ?_)
    refine .ite (fun _ => .pure _ ⟨Nat.zero_le _, by simp only; omega⟩) (fun h2 => ?_)
    refine (readBytes_same tocopy (src + 1) (by omega)).bind fun bytes hb => ?_
    have h3 : ¬ out.length + tocopy > dstcap := by omega
    simp only [h3, if_false]
    exact ih _ _ _ _ (by omega) (by omega) (by simp [hb]; omega)

theorem readtxtbin_same (src srcremain dstremain : Nat) (h : src + srcremain ≤ pkt.size) :
    Same (pkt.size ≤ cap) Q (fun r => r.1 ≤ r.2.2.length ∧ r.2.2.length ≤ dstremain)
      (readtxtbin ⟨pkt, r₁, cap⟩ src srcremain dstremain) (readtxtbin ⟨pkt, r₂, cap⟩ src srcremain dstremain) :=
  readtxtbinGo_same dstremain srcremain src srcremain dstremain [] h (Nat.le_refl _) (by simp)

end

theorem nameFinish_indep (pkt r₁ r₂ : Array Nat) (cap length s : Nat) (out : List Nat) :
    nameFinish ⟨pkt, r₁, cap⟩ length s out = nameFinish ⟨pkt, r₂, cap⟩ length s out := rfl

theorem readname_indep (pkt r₁ r₂ : Array Nat) (cap src length : Nat) :
    readname ⟨pkt, r₁, cap⟩ src length = readname ⟨pkt, r₂, cap⟩ src length := by
  by_cases h : length < 3
  · simp only [readname, h, if_true]
  · exact (readname_same (Q := True) (.triv pkt) src length (by omega)).eq

/-! ### dns_decode -/

theorem checklenFails_indep (pkt r₁ r₂ : Array Nat) (cap x data : Nat) :
    checklenFails ⟨pkt, r₁, cap⟩ x data = checklenFails ⟨pkt, r₂, cap⟩ x data := rfl

theorem checklen_le {pkt r : Array Nat} {cap x data : Nat} (h : ¬ checklenFails ⟨pkt, r, cap⟩ x data = true) :
    x + data ≤ pkt.size := by
  simp only [checklenFails, RxBuf.plen, decide_eq_true_eq] at h
  omega

theorem cstr_length_le (a : List Nat) : (cstr a).length ≤ a.length := (List.takeWhile_sublist _).length_le

theorem cstr_append_zero_le (w r : List Nat) : (cstr (w ++ 0 :: r)).length ≤ w.length := by
  induction w with
  | nil => simp [cstr]
  | cons x xs ih =>
    simp only [cstr, List.cons_append, List.takeWhile_cons] at *
    split
    · simp only [List.length_cons]; omega
    · simp

theorem cstr_take_le (l : List Nat) : ∀ n, (cstr (l.take n)).length ≤ (cstr l).length := by
  induction l with
  | nil => intro n; simp [cstr]
  | cons x xs ih =>
    intro n
    cases n with
    | zero => simp [cstr]
    | succ n =>
      have := ih n
      simp only [cstr, List.take_succ_cons, List.takeWhile_cons] at *
      split
      · simp only [List.length_cons]; omega
      · simp

/-- `readname(…, names[k], 255); names[k][255] = 0` keeps the string in `names[k]` shorter than 255 -/
theorem names_entry (old w : List Nat) (hold : (cstr old).length ≤ 254) (hw : NameOut 255 w) :
    (cstr ((overwrite old w).take 255)).length ≤ 254 := by
  obtain ⟨hlen, hterm⟩ := hw
  rcases hterm with h | ⟨w', h⟩
  · subst h
    simp only [overwrite, List.nil_append, List.length_nil, List.drop_zero]
    exact Nat.le_trans (cstr_take_le old 255) hold
  · subst h
    simp only [overwrite]
    rw [List.take_append, List.take_of_length_le hlen, List.append_assoc]
    simp only [List.length_append, List.length_cons, List.length_nil] at hlen
    exact Nat.le_trans (cstr_append_zero_le w' _) (by omega)

/-- invariant of the `names` array in the MX/SRV loop: 250 strings shorter than 255, the last one empty
(`pref < 2500` never selects `names[249]`) -/
def NamesInv (names : List (List Nat)) : Prop :=
  names.length = 250 ∧ (∀ e ∈ names, (cstr e).length ≤ 254) ∧ names[249]? = some []

theorem namesInv_init : NamesInv namesInit := by
  refine ⟨by simp only [namesInit, List.length_replicate], ?_, ?_⟩
  · intro e he
    simp only [namesInit, List.mem_replicate] at he
    simp [he.2, cstr]
  · simp only [namesInit]
    rw [List.getElem?_replicate]
    simp

theorem namesInv_set {names : List (List Nat)} (h : NamesInv names) (k : Nat) (hk : k < 249) (w : List Nat)
    (hw : NameOut 255 w) :
    NamesInv (names.set k ((overwrite (names.getD k []) w).take 255)) := by
  obtain ⟨h1, h2, h3⟩ := h
  refine ⟨by simp [h1], ?_, ?_⟩
  · intro e he
    rcases List.mem_or_eq_of_mem_set he with he | he
    · exact h2 e he
    · subst he
      apply names_entry _ _ _ hw
      have hk' : k < names.length := by omega
      rw [List.getD_eq_getElem?_getD, List.getElem?_eq_getElem hk', Option.getD_some]
      exact h2 _ (List.getElem_mem hk')
  · rw [List.getElem?_set_ne (by omega)]; exact h3

theorem subSizeT_le (buflen k : Nat) (h : k ≤ buflen) : subSizeT buflen k ≤ buflen - k := by
  simp only [subSizeT]
  omega

/-- no wrap-around when `buflen` is a `size_t` -/
theorem subSizeT_eq (buflen k : Nat) (h : k ≤ buflen) (hb : buflen < 18446744073709551616) :
    subSizeT buflen k = buflen - k := by
  unfold subSizeT
  omega

/-- the output loop over the remaining `names` (the last of which is empty) stays inside `buf` as soon as
`offset < buflen` — which the guard `offset + 2 >= buflen → break` maintains -/
theorem mxOut_good (buflen : Nat) :
    ∀ names out, names ≠ [] → (∀ e, names.getLast? = some e → cstr e = []) →
      Good (out.length < buflen) (mxOut buflen names out) := by
  intro names
  induction names with
  | nil => intro out h; exact absurd rfl h
  | cons nm rest ih =>
    intro out _ hlast
    simp only [mxOut]
    have hfin : Good (out.length < buflen)
        (push buflen out 0 >>= fun out' => (Except.ok (out.length, out') : Except Fault (Nat × List Nat))) := by
      by_cases hc : out.length < buflen
      · rw [push_ok 0 hc]; exact good_ok _
      · have hp : push buflen out 0 = .error .oobWrite := by simp only [push, hc, if_false]
        rw [hp, bind_error]
        exact good_oobWrite hc
    by_cases hs : cstr nm = []
    · simp only [hs, if_true]; exact hfin
    · simp only [hs, if_false]
      have hrest : rest ≠ [] := by
        intro h
        subst h
        exact hs (hlast nm rfl)
      have hlast' : ∀ e, rest.getLast? = some e → cstr e = [] := by
        intro e he
        apply hlast e
        cases rest with
        | nil => exact absurd rfl hrest
        | cons r rs => rw [List.getLast?_cons_cons]; exact he
      by_cases hg : out.length + 2 ≥ buflen
      · simp only [if_pos hg]; exact hfin
      · simp only [if_neg hg]
        by_cases hl0 : min (cstr nm).length (subSizeT buflen (out.length + 2)) = 0
        · simp only [if_pos hl0]; exact hfin
        · simp only [if_neg hl0]
          have hsub := subSizeT_le buflen (out.length + 2) (by omega)
          generalize hL : min (cstr nm).length (subSizeT buflen (out.length + 2)) = l at *
          have hov : ¬ out.length + l > buflen := by omega
          simp only [if_neg hov]
          have htl : ((cstr nm).take l).length = l := by
            rw [List.length_take]; omega
          have hc : (out ++ (cstr nm).take l).length < buflen := by
            simp only [List.length_append, htl]; omega
          rw [push_ok 0 hc, bind_ok]
          refine (ih _ hrest hlast').mono ?_
          intro _
          simp only [List.length_append, List.length_cons, List.length_nil, htl]
          omega

section
variable {pkt r₁ r₂ : Array Nat} {cap : Nat} {Q : Prop}

theorem rawRdata_same (buflen data rlen : Nat) :
    Same (pkt.size ≤ cap) Q (fun _ => True)
      (rawRdata ⟨pkt, r₁, cap⟩ buflen data rlen) (rawRdata ⟨pkt, r₂, cap⟩ buflen data rlen) := by
  unfold rawRdata
  refine .ite (fun _ => .pure _ trivial) (fun h => ?_)
  have := checklen_le h
  refine (readdata_same data _ rdataSize (by omega) (by omega)).bind fun x _ => ?_
  exact .ite (fun _ => .pure _ trivial) (fun _ => .pure _ trivial)

theorem answerNull_same (buflen : Nat) (q : Decoded) (data : Nat) :
    Same (pkt.size ≤ cap) Q (fun _ => True)
      (answerNull ⟨pkt, r₁, cap⟩ buflen q data) (answerNull ⟨pkt, r₂, cap⟩ buflen q data) := by
  unfold answerNull
  refine (readname_same (.triv pkt) data 256 (by omega)).bind fun x _ => ?_
  obtain ⟨d, w⟩ := x
  refine .ite (fun _ => .pure _ trivial) (fun h => ?_)
  have := checklen_le h
  refine (readRRHeader_same d (by omega)).bind fun x _ => ?_
  obtain ⟨ty, rlen, d'⟩ := x
  refine (rawRdata_same buflen d' rlen).bind fun r _ => ?_
  cases r with
  | none => exact .pure _ trivial
  | some r => exact .pure _ trivial

theorem answerCname_same (buflen : Nat) (q : Decoded) (data : Nat) :
    Same (pkt.size ≤ cap) (0 < buflen) (fun _ => True)
      (answerCname ⟨pkt, r₁, cap⟩ buflen q data) (answerCname ⟨pkt, r₂, cap⟩ buflen q data) := by
  unfold answerCname
  refine (readname_same (.triv pkt) data 256 (by omega)).bind fun x _ => ?_
  obtain ⟨d, w⟩ := x
  refine .ite (fun _ => .pure _ trivial) (fun h => ?_)
  have := checklen_le h
  refine (readRRHeader_same d (by omega)).bind fun x _ => ?_
  obtain ⟨ty, rlen, d'⟩ := x
  refine .ite (fun _ => ?_) (fun _ => .ite (fun _ => ?_) (fun _ => .pure _ trivial))
  · refine (readname_same (.triv pkt) d' 255 (by omega)).bind fun y _ => ?_
    obtain ⟨d2, w2⟩ := y
    exact .ite (fun hb => .error fun _ => ⟨by omega, rfl⟩) (fun _ => .pure _ trivial)
  · refine (rawRdata_same buflen d' rlen).bind fun r _ => ?_
    cases r with
    | none => exact .pure _ trivial
    | some r => exact .pure _ trivial

theorem answerTxt_same (buflen : Nat) (q : Decoded) (data : Nat) :
    Same (pkt.size ≤ cap) Q (fun _ => True)
      (answerTxt ⟨pkt, r₁, cap⟩ buflen q data) (answerTxt ⟨pkt, r₂, cap⟩ buflen q data) := by
  unfold answerTxt
  refine (readname_same (.triv pkt) data 256 (by omega)).bind fun x _ => ?_
  obtain ⟨d, w⟩ := x
  refine .ite (fun _ => .pure _ trivial) (fun h => ?_)
  have := checklen_le h
  refine (readRRHeader_same d (by omega)).bind fun x hx => ?_
  obtain ⟨ty, rlen, d'⟩ := x
  refine .ite (fun _ => .pure _ trivial) (fun h2 => ?_)
  have := checklen_le h2
  refine (readtxtbin_same d' rlen rdataSize (by omega)).bind fun r _ => ?_
  obtain ⟨rv, s', o⟩ := r
  exact .ite (fun _ => .pure _ trivial) (fun _ => .pure _ trivial)

theorem mxLoop_same : ∀ n data names type, NamesInv names →
    Same (pkt.size ≤ cap) Q (fun r => ∀ nm t, r = some (nm, t) → NamesInv nm)
      (mxLoop ⟨pkt, r₁, cap⟩ n data names type) (mxLoop ⟨pkt, r₂, cap⟩ n data names type) := by
  intro n
  induction n with
  | zero => intro data names type hn; exact .pure _ (fun nm t h => by cases h; exact hn)
  | succ n ih =>
    intro data names type hn
    have hnone : ∀ nm t, (none : Option (List (List Nat) × Nat)) = some (nm, t) → NamesInv nm :=
      fun _ _ h => nomatch h
    rw [mxLoop, mxLoop]
    refine (readname_same (.triv pkt) data 256 (by omega)).bind fun x _ => ?_
    obtain ⟨d, w⟩ := x
    refine .ite (fun _ => .pure _ hnone) (fun h => ?_)
    have := checklen_le h
    refine (readRRHeader_same d (by omega)).bind fun x hx => ?_
    obtain ⟨t, rl, d'⟩ := x
    obtain rfl : d' = d + 10 := hx
    refine (readshort_same (d + 10) (by omega)).bind fun x _ => ?_
    obtain ⟨pref, d''⟩ := x
    dsimp only
    refine .ite (fun _ => .pure _ hnone) (fun _ => ?_)
    -- the rest of the iteration, for either value of `names`
    have hstep : ∀ nms, NamesInv nms → Same (pkt.size ≤ cap) Q (fun r => ∀ nm t, r = some (nm, t) → NamesInv nm)
        (if checklenFails ⟨pkt, r₁, cap⟩ 0 (d + 10 + rl) = true then .ok none
          else mxLoop ⟨pkt, r₁, cap⟩ n (d + 10 + rl) nms t)
        (if checklenFails ⟨pkt, r₂, cap⟩ 0 (d + 10 + rl) = true then .ok none
          else mxLoop ⟨pkt, r₂, cap⟩ n (d + 10 + rl) nms t) :=
      fun nms hnms => .ite (fun _ => .pure _ hnone) (fun _ => ih _ _ _ hnms)
    refine .ite (fun h3 => .ite (fun hk => absurd hk (by omega)) (fun _ => ?_)) (fun _ => hstep _ hn)
    refine (readname_same (.triv pkt) _ 255 (by omega)).bind fun y hy => ?_
    obtain ⟨d2, w2⟩ := y
    exact hstep _ (namesInv_set hn _ (by omega) _ hy.1)

theorem answerMx_same (buflen : Nat) (q : Decoded) (data ancount : Nat) :
    Same (pkt.size ≤ cap) (0 < buflen) (fun _ => True)
      (answerMx ⟨pkt, r₁, cap⟩ buflen q data ancount) (answerMx ⟨pkt, r₂, cap⟩ buflen q data ancount) := by
  unfold answerMx
  refine (mxLoop_same ancount data namesInit 0 namesInv_init).bind fun r hr => ?_
  cases r with
  | none => exact .pure _ trivial
  | some r =>
    obtain ⟨nm, t⟩ := r
    obtain ⟨h1, _, h3⟩ := hr nm t rfl
    have hne : nm ≠ [] := by intro h; rw [h] at h1; cases h1
    have hlast : ∀ e, nm.getLast? = some e → cstr e = [] := by
      intro e he
      rw [List.getLast?_eq_getElem?, h1, h3] at he
      cases he
      rfl
    refine (Same.of_good ((mxOut_good buflen nm [] hne hlast).mono fun h => h)).bind fun x _ => ?_
    exact .pure _ trivial

theorem readHeader_same (h : 12 ≤ pkt.size) :
    Same (pkt.size ≤ cap) Q (fun hd => hd.id < 65536) (readHeader ⟨pkt, r₁, cap⟩) (readHeader ⟨pkt, r₂, cap⟩) := by
  unfold readHeader
  refine (get_same 0 (by omega)).bind fun b0 _ => ?_
  refine (get_same 1 (by omega)).bind fun b1 _ => ?_
  refine (get_same 2 (by omega)).bind fun b2 _ => ?_
  refine (get_same 3 (by omega)).bind fun b3 _ => ?_
  refine (get_same 4 (by omega)).bind fun b4 _ => ?_
  refine (get_same 5 (by omega)).bind fun b5 _ => ?_
  refine (get_same 6 (by omega)).bind fun b6 _ => ?_
  refine (get_same 7 (by omega)).bind fun b7 _ => ?_
  exact .pure _ (Nat.lt_succ_of_le Nat.and_le_right)

theorem dnsGetId_same :
    Same (pkt.size ≤ cap) Q (fun _ => True) (dnsGetId ⟨pkt, r₁, cap⟩) (dnsGetId ⟨pkt, r₂, cap⟩) := by
  unfold dnsGetId
  refine .ite (fun _ => .pure _ trivial) (fun h => ?_)
  simp only [RxBuf.plen] at h
  refine (get_same 0 (by omega)).bind fun b0 _ => ?_
  refine (get_same 1 (by omega)).bind fun b1 _ => ?_
  exact .pure _ trivial

theorem dnsDecodeAnswer_same (buflen : Nat) :
    Same (pkt.size ≤ cap) (0 < buflen) (fun _ => True)
      (dnsDecodeAnswer buflen ⟨pkt, r₁, cap⟩) (dnsDecodeAnswer buflen ⟨pkt, r₂, cap⟩) := by
  unfold dnsDecodeAnswer
  refine .ite (fun _ => .pure _ trivial) (fun h => ?_)
  simp only [RxBuf.plen] at h
  refine (readHeader_same (by omega)).bind fun hd _ => ?_
  refine .ite (fun _ => .pure _ trivial) (fun _ => .ite (fun _ => .pure _ trivial) (fun _ => ?_))
  refine (readname_same (.triv pkt) 12 256 (by omega)).bind fun x _ => ?_
  obtain ⟨d, name⟩ := x
  refine .ite (fun _ => .pure _ trivial) (fun h3 => ?_)
  have := checklen_le h3
  refine (readshort_same d (by omega)).bind fun x hx => ?_
  obtain ⟨ty, d'⟩ := x
  obtain rfl : d' = d + 2 := hx.2
  refine (readshort_same (d + 2) (by omega)).bind fun x _ => ?_
  obtain ⟨_, d''⟩ := x
  refine .ite (fun _ => .pure _ trivial) (fun _ => ?_)
  exact .ite (fun _ => answerNull_same buflen _ _) fun _ => .ite (fun _ => answerCname_same buflen _ _) fun _ =>
    .ite (fun _ => answerMx_same buflen _ _ _) fun _ => .ite (fun _ => answerTxt_same buflen _ _) fun _ =>
    .pure _ trivial

/-- what `dns_decode(QR_QUERY)` returns: a refusal (`rv ≤ 0`, neither id nor type set), or a 16-bit id and type and the
question name `readname` extracted, cut at its NUL (at most 253 characters), `rv` being the length of the name -/
def QueryOut (b : RxBuf) (d : Decoded) : Prop :=
  (d.rv ≤ 0 ∧ d.id = 0 ∧ d.type = 0) ∨
  ∃ dd w, readname b 12 255 = .ok (dd, w) ∧ ¬ (cstr (w.take 255)).length > 253 ∧ d.id < 65536 ∧ d.type < 65536 ∧
    d.name = ((cstr (w.take 255)).take 256).take 255 ∧ d.rv = d.name.length

theorem dnsDecodeQuery_same :
    Same (pkt.size ≤ cap) Q (QueryOut ⟨pkt, r₂, cap⟩) (dnsDecodeQuery ⟨pkt, r₁, cap⟩) (dnsDecodeQuery ⟨pkt, r₂, cap⟩) := by
  have no : ∀ {d : Decoded}, d.rv ≤ 0 → d.id = 0 → d.type = 0 → QueryOut ⟨pkt, r₂, cap⟩ d :=
    fun h1 h2 h3 => .inl ⟨h1, h2, h3⟩
  have m1 : (-1 : Int) ≤ 0 := by decide
  unfold dnsDecodeQuery
  refine .ite (fun _ => .pure _ (no (Int.le_refl 0) rfl rfl)) (fun h => ?_)
  simp only [RxBuf.plen] at h
  refine (readHeader_same (by omega)).bind fun hd hid => ?_
  refine .ite (fun _ => .pure _ (no m1 rfl rfl)) (fun _ => .ite (fun _ => .pure _ (no m1 rfl rfl)) (fun _ => ?_))
  refine (readname_same (.triv pkt) 12 255 (by omega)).bind_eq fun x hrn _ => ?_
  obtain ⟨d, w⟩ := x
  refine .ite (fun _ => .pure _ (no m1 rfl rfl)) (fun h4 => .ite (fun _ => .pure _ (no (Int.le_refl 0) rfl rfl)) (fun h3 => ?_))
  have := checklen_le h3
  refine (readshort_same d (by omega)).bind fun x hx => ?_
  obtain ⟨ty, d'⟩ := x
  obtain rfl : d' = d + 2 := hx.2
  refine (readshort_same (d + 2) (by omega)).bind fun x _ => ?_
  exact .pure _ (.inr ⟨d, w, hrn, h4, hid, hx.1, rfl, rfl⟩)

end

end Iodine.Wire
