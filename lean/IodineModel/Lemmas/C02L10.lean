import IodineModel.Lemmas.C02L9
/-
Lazy mode, upstream — presentation in terms of `runPrompt` / `runPromptCount`, and NON-VACUITY: a concrete lazy
session (`World.demoLazy` with host names of 100 characters: user 0, "t.ab", Base32, NULL queries; the client's first ping
has been sent and is held by the server) satisfies `QuietLazy`, and the theorem applied to it.
-/
namespace Iodine.C02L
open Iodine Iodine.World

/-! ### the theorem in terms of the executable prompt run -/

/-- **clean path, upstream, lazy mode** (every payload that needs `g ≤ 16` fragments).  From a quiescent joint state in lazy
mode, `offerC frame` followed by the prompt schedule reaches, after exactly `2·g + 1` scheduler steps, a quiescent state
again; the server has written exactly one frame to its tun device — the offered one — and the client none. -/
theorem clean_path_upstream_lazy {P : Par} (hP : P.Ok) {w : W} (hq : QuietLazy P w) (frame : List Nat)
    (hok : UpFrameOk P (Server.getUser w.srv P.u).tunIp frame) :
    ∃ w', (∀ fuel, 2 * upFrags P (frame.length + 1) (0x5a :: frame) + 1 ≤ fuel →
        runPrompt P.u fuel (step w (.offerC frame)) = w') ∧
      (∀ fuel, 2 * upFrags P (frame.length + 1) (0x5a :: frame) + 1 ≤ fuel →
        runPromptCount P.u fuel (step w (.offerC frame)) 0 = (w', 2 * upFrags P (frame.length + 1) (0x5a :: frame) + 1)) ∧
      QuietLazy P w' ∧ w'.tunS = w.tunS ++ [tunImage frame] ∧ w'.tunC = w.tunC := by
  obtain ⟨w', h1, h2, h3, h4, _⟩ := up_packet_lazy hP hq frame hok.h24 hok.hl hok.bytes hok.dst hok.frags
  refine ⟨w', fun fuel hf => (run_of_steps h1 h2.quiet hf).2, fun fuel hf => ?_, h2, h3, h4⟩
  obtain ⟨a, b⟩ := run_of_steps h1 h2.quiet hf
  rw [b] at a
  exact a

/-! ### non-vacuity -/

def exPL : Par := ⟨0, demoDomain, 100, .b32, .b32, 10⟩

/-- `World.demoLazy .b32 .b32` with `hostnameMaxlen := 100` -/
def exWL : W :=
  run ⟨⟨{ demoClient true false .b32 with hostnameMaxlen := 100 }, .tunnel⟩, demoServer true false .b32, [], [], [], []⟩
    [.tickC, .deliverUp]

theorem exPL_ok : exPL.Ok :=
  ⟨by decide, upSetting_of_enc .b32 100 demoDomain (by decide) (by decide) (by decide) (by decide) (by decide),
   trivial, by unfold TunnelType; decide⟩

/-- the client after its first ping -/
def exCL : Client.Cli :=
  { demoClient true false .b32 with
      hostnameMaxlen := 100, randSeed := 1, chunkid := 8727, chunkidPrev := 1000, sendcnt := 1, now := 1004 }

/-- the ping the server holds -/
def exHL : Server.Query :=
  { name := [112, 97, 97, 97, 97, 97, 97, 97, 46, 116, 46, 97, 98], type := 10, id := 8727, from_ := clientAddr, id2 := 0,
    from2 := Server.Addr.zero, dest := serverAddr }

/-- the server's slot 0: the ping is held, nothing else has happened -/
def exUL : Server.Session := { Server.getUser (demoServer true false .b32) 0 with q := exHL, lastPkt := 1004 }

def exSL : Server.Srv := { Server.setUser (demoServer true false .b32) 0 (fun _ => exUL) with now := 1004 }

/-- the two steps of `exWL`, run once -/
theorem exWL_eq : exWL = ⟨⟨exCL, .tunnel⟩, exSL, [], [], [], []⟩ := by decide +kernel

theorem exWL_client : exWL.cs = ⟨exCL, .tunnel⟩ := by rw [exWL_eq]

theorem exWL_tun : exWL.tunS = [] ∧ exWL.tunC = [] := by rw [exWL_eq]; exact ⟨rfl, rfl⟩

theorem exWL_user : Server.getUser exWL.srv 0 = exUL := by rw [exWL_eq]; decide +kernel

theorem exSL_solo : Solo 0 exSL := by
  have hlen : exSL.users.length = 16 := by decide +kernel
  refine ⟨by rw [hlen]; decide, by decide +kernel, ?_⟩
  intro v hv
  by_cases h : v < 16
  · have : ∀ v, v < 16 → v ≠ 0 → (Server.getUser exSL v).active = false := by decide +kernel
    exact this v h hv
  · unfold Server.getUser
    rw [List.getD_eq_getElem?_getD, List.getElem?_eq_none (by rw [hlen]; omega)]
    rfl

/-- nothing is remembered yet -/
theorem exUL_mem_empty :
    (∀ i, i < 15 → (exUL.qmemdata.getD (C16L.ringPos Gen.QMEMDATA_LEN exUL.qmemdataLast i) Server.QmemEntry.zero).type = 0) ∧
    (∀ i, i < 30 → (exUL.qmemping.getD (C16L.ringPos Gen.QMEMPING_LEN exUL.qmempingLast i) Server.QmemEntry.zero).type = 0) ∧
    (∀ i, i < 4 → (exUL.dnscache.getD (C16L.ringPos Gen.DNSCACHE_LEN exUL.dcLast i) Server.DnsCacheEntry.zero).q.type = 0) := by
  decide +kernel

theorem exUL_aged : Aged exPL exUL 0 1 := by
  refine ⟨by decide +kernel, by decide +kernel, by decide +kernel, by decide +kernel, ?_, ?_⟩
  · intro i hi c ⟨h1, _⟩
    rw [exUL_mem_empty.1 i hi] at h1
    exact absurd h1 (by decide)
  · intro i hi c ⟨h1, _⟩
    rw [exUL_mem_empty.2.2 i hi] at h1
    exact absurd h1 (by decide)

theorem exUL_paged : PAged exPL exUL 1 2 := by
  refine ⟨by decide +kernel, by decide +kernel, by decide +kernel, by decide +kernel, ?_, ?_⟩
  · intro i hi c ⟨h1, _⟩
    rw [exUL_mem_empty.2.1 i hi] at h1
    exact absurd h1 (by decide)
  · intro i hi c ⟨h1, _⟩
    rw [exUL_mem_empty.2.2 i hi] at h1
    exact absurd h1 (by decide)

/-- the held query is the ping with counter value 0 -/
theorem exHL_ping : HeldPing exPL exHL 0 :=
  ⟨by decide, by decide, ⟨8, by decide +kernel, by decide +kernel, by decide +kernel, by decide +kernel⟩, by decide +kernel⟩

theorem ex_quiescent_lazy : QuietLazy exPL exWL := by
  have hu : Server.getUser exSL exPL.u = exUL := by decide +kernel
  rw [exWL_eq]
  refine ⟨rfl, ?_, ?_, by decide, rfl, rfl, ?_, ?_, ?_, ?_, ?_, ?_, ?_, ?_⟩
  · exact ⟨rfl, rfl, rfl, rfl, by decide, rfl, rfl, rfl, rfl, by decide, by decide, by decide, by decide, by decide, by decide, by decide⟩
  · unfold CntOk; decide
  · refine ⟨exSL_solo, rfl, ?_, ?_, ?_⟩
    · show XStat exPL (Server.getUser exSL exPL.u)
      rw [hu]
      exact ⟨by decide +kernel, by decide +kernel, by decide +kernel, by decide +kernel, by decide +kernel, by decide +kernel,
        by decide +kernel, by decide +kernel, by decide +kernel⟩
    · show exSL.cfg.checkIp = false ∨ _
      rw [hu]; decide +kernel
    · show exSL.now < (Server.getUser exSL exPL.u).lastPkt + 60
      rw [hu]; decide
  · show IdleLazy (Server.getUser exSL exPL.u)
    rw [hu]
    exact ⟨by decide +kernel, by decide, by decide, by decide +kernel, by decide +kernel⟩
  · show (Server.getUser exSL exPL.u).oqFilled = 0
    rw [hu]; decide +kernel
  · show HeldBase exPL (Server.getUser exSL exPL.u).q
    rw [hu]; exact ⟨rfl, rfl, by decide, rfl⟩
  · show (Server.getUser exSL exPL.u).q.id = exCL.chunkid
    rw [hu]; rfl
  · show (Server.getUser exSL exPL.u).inpacket.seqno = exCL.outpkt.seqno
    rw [hu]; decide +kernel
  · show (Server.getUser exSL exPL.u).outpacket.seqno = exCL.inpkt.seqno
    rw [hu]; decide +kernel
  · show HeldMem exPL (Server.getUser exSL exPL.u) (Server.getUser exSL exPL.u).q exCL.datacmc exCL.randSeed
    rw [hu]
    exact Or.inr ⟨0, exHL_ping, by unfold Behind; decide, exUL_aged, exUL_paged⟩

theorem ex_quiescent_lazy_quiet : quiet 0 exWL = true := ex_quiescent_lazy.quiet

theorem exUL_tunIp : exUL.tunIp = 0x0a000002 := by decide +kernel

/-- the demo frames of 4, 30 and 10 payload bytes are acceptable -/
theorem ex_frames_ok_lazy : ∀ f ∈ [demoFrame 9 4, demoFrame 9 30, demoFrame 9 10],
    UpFrameOk exPL (Server.getUser exWL.srv exPL.u).tunIp f := by
  intro f hf
  show UpFrameOk exPL (Server.getUser exWL.srv 0).tunIp f
  rw [exWL_user, exUL_tunIp]
  simp only [List.mem_cons, List.not_mem_nil, or_false] at hf
  rcases hf with rfl | rfl | rfl
  · exact ⟨by decide, by decide, by unfold Codec.Bytes; decide, by decide, by decide +kernel⟩
  · exact ⟨by decide, by decide, by unfold Codec.Bytes; decide, by decide, by decide +kernel⟩
  · exact ⟨by decide, by decide, by unfold Codec.Bytes; decide, by decide, by decide +kernel⟩

theorem ex_acceptable_lazy : UpFrameOk exPL (Server.getUser exWL.srv exPL.u).tunIp (demoFrame 9 30) ∧
    upFrags exPL ((demoFrame 9 30).length + 1) (0x5a :: demoFrame 9 30) = 2 :=
  ⟨ex_frames_ok_lazy _ (by simp), by decide +kernel⟩

/-- the theorem applied: the 2-fragment frame arrives after exactly 5 scheduler steps, unchanged -/
example : ∃ w', runPromptCount 0 5 (step exWL (.offerC (demoFrame 9 30))) 0 = (w', 5) ∧ QuietLazy exPL w' ∧
    w'.tunS = [demoFrame 9 30] ∧ w'.tunC = [] := by
  obtain ⟨w', _, h2, h3, h4, h5⟩ := clean_path_upstream_lazy exPL_ok ex_quiescent_lazy (demoFrame 9 30) ex_acceptable_lazy.1
  have hi : tunImage (demoFrame 9 30) = demoFrame 9 30 := by decide
  refine ⟨w', ?_, h3, by rw [h4, hi, exWL_tun.1]; rfl, by rw [h5, exWL_tun.2]⟩
  have := h2 5 (by rw [ex_acceptable_lazy.2]; omega)
  rw [ex_acceptable_lazy.2] at this
  exact this

/-- … and a sequence of three frames -/
example : (offerAllC 0 40 exWL [demoFrame 9 4, demoFrame 9 30, demoFrame 9 10]).tunS = [demoFrame 9 4, demoFrame 9 30, demoFrame 9 10] := by
  have := (up_sequence_lazy exPL_ok 40 (by omega) _ exWL ex_quiescent_lazy ex_frames_ok_lazy).2.1
  show (offerAllC exPL.u 40 exWL _).tunS = _
  rw [this, exWL_tun.1]
  decide

end Iodine.C02L
