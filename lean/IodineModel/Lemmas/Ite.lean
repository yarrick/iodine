/-
Case analysis on a conditional without taking the surrounding term apart.
-/
namespace Iodine

/-- a property of both branches is a property of the conditional -/
theorem ite_both {α : Sort _} {P : α → Prop} {c : Prop} [Decidable c] {a b : α} (ha : P a) (hb : P b) :
    P (if c then a else b) := by
  split <;> assumption

/-- `ite_both` where each branch may use the condition that selects it -/
theorem ite_both' {α : Sort _} {P : α → Prop} {c : Prop} [Decidable c] {a b : α} (ha : c → P a) (hb : ¬ c → P b) :
    P (if c then a else b) := by
  by_cases h : c
  · rw [if_pos h]; exact ha h
  · rw [if_neg h]; exact hb h

/-- a relation between the branches of two conditionals with the same condition relates the conditionals -/
theorem ite_both₂ {α β : Sort _} {R : α → β → Prop} {c : Prop} [Decidable c] {a a' : α} {b b' : β}
    (h : R a b) (h' : R a' b') : R (if c then a else a') (if c then b else b') := by
  by_cases hc : c
  · rw [if_pos hc, if_pos hc]; exact h
  · rw [if_neg hc, if_neg hc]; exact h'

end Iodine
