import IodineModel.Lemmas.SrvC15c
import IodineModel.Lemmas.Users
/-
C15 (B): the simulation framework (monitor state vs. server state, `Sim`), `process_downstream_ack` and
`send_chunk_or_dataless` in it, and the monitor following every step of a calm run (`sim_closed`); then
`handle_full_packet`, which re-establishes the buffer invariant of its slot, and an accepted `N`.
-/
namespace Iodine.C15L
open Iodine Iodine.Server Iodine.Gen Iodine.C04L

theorem stay_saveToQmemPingOrData (W : Nat → Prop) (s : Srv) (u : Nat) (q : Query) :
    Stay W s (saveToQmemPingOrData s u q) :=
  saveToQmemPingOrData_ind s u q (Stay.refl W s) fun g hg => by
    refine stay_setUser_same W s u g ?_ ?_ ?_ ?_ ?_ ?_ ?_ ?_ <;> (intro x; obtain ⟨_, _, _, _, h⟩ := hg x; rw [h])

theorem stay_saveToDnscache (W : Nat → Prop) (s : Srv) (u : Nat) (q : Query) (a : List Nat) :
    Stay W s (saveToDnscache s u q a) :=
  saveToDnscache_ind s u q a (Stay.refl W s) fun g hg => by
    refine stay_setUser_same W s u g ?_ ?_ ?_ ?_ ?_ ?_ ?_ ?_ <;> (intro x; obtain ⟨_, _, h⟩ := hg x; rw [h])

theorem stay_qselSet (W : Nat → Prop) (s : Srv) (u : Nat) (w : QSel) (q : Query) :
    Stay W s (setUser s u fun y => w.set y q) := by
  cases w <;> stay_same

theorem stay_saveQuery (W : Nat → Prop) (s : Srv) (u : Nat) (q : Query) : Stay W s (saveQuery s u q) := by
  unfold saveQuery; stay_same

theorem stay_popRand (W : Nat → Prop) (s : Srv) : Stay W s (popRand s).2 := stay_of_users (popRand_users s)

def SameOut (s s' : Srv) : Prop := ∀ v, (getUser s' v).outpacket = (getUser s v).outpacket

theorem SameOut.refl (s : Srv) : SameOut s s := fun _ => rfl
theorem SameOut.trans {a b c : Srv} (h1 : SameOut a b) (h2 : SameOut b c) : SameOut a c :=
  fun v => (h2 v).trans (h1 v)

theorem sameOut_setUser (s : Srv) (u : Nat) (f : Session → Session) (h : ∀ x, (f x).outpacket = x.outpacket) :
    SameOut s (setUser s u f) := by
  intro v
  rcases getUser_setUser_cases s u v f with h1 | ⟨rfl, h1⟩
  · rw [h1]
  · rw [h1]; exact h _

theorem sameOut_saveToQmemPingOrData (s : Srv) (u : Nat) (q : Query) : SameOut s (saveToQmemPingOrData s u q) :=
  saveToQmemPingOrData_ind s u q (SameOut.refl s) fun g hg =>
    sameOut_setUser _ _ _ fun x => by obtain ⟨_, _, _, _, h⟩ := hg x; rw [h]

theorem sameOut_saveToDnscache (s : Srv) (u : Nat) (q : Query) (a : List Nat) : SameOut s (saveToDnscache s u q a) :=
  saveToDnscache_ind s u q a (SameOut.refl s) fun g hg =>
    sameOut_setUser _ _ _ fun x => by obtain ⟨_, _, h⟩ := hg x; rw [h]

theorem sameOut_qselSet (s : Srv) (u : Nat) (w : QSel) (q : Query) : SameOut s (setUser s u fun y => w.set y q) := by
  cases w <;> exact sameOut_setUser _ _ _ (fun _ => rfl)

theorem stay_scDropResent (W : Nat → Prop) (s : Srv) (u : Nat) : Stay W s (scDropResent s u) := by
  unfold scDropResent
  extract_lets x
  apply ite_both'
  · intro hc m hG
    have hw := (hG u).wf
    have h0 : (getUser s u).outpacket.len ≠ 0 → (getUser s u).outpacket.sentlen ≠ 0 := by
      intro hl hs
      have : x.outfragresent = 0 := hw.resent hl hs
      have : x.outfragresent > 5 := hc.2
      omega
    exact stay_getFromOutpacketq W _ u (getUser_setUser_prop s u dropOut (fun y => y.outpacket.len = 0) rfl rfl) m
      (stay_dropOut W s u h0 m hG)
  · intro _; exact Stay.refl W s

/-- the ack of a fragment that does not end the packet -/
def ackP (x : Session) (off : Nat) : Session :=
  { x with outpacket := { x.outpacket with offset := off, sentlen := 0, fragment := sChar (x.outpacket.fragment + 1) },
           outfragresent := 0 }

/-- … and of the one that does -/
def ackDone (x : Session) : Session :=
  { x with outpacket := { x.outpacket with len := 0, offset := 0, fragment := sChar (x.outpacket.fragment - 1) } }

theorem sChar_mod16 (f : Int) : (sChar (f + 1) - 1) % 16 = f % 16 := by unfold sChar; omega
theorem sChar_sChar_mod16 (f : Int) : sChar (sChar (f + 1) - 1) % 16 = f % 16 := by unfold sChar; omega

theorem sm_ackP {w : Prop} {mo : MSt} {x : Session} (h : SM w mo x) (off : Nat)
    (hl : x.outpacket.len ≠ 0) (hs : x.outpacket.sentlen ≠ 0)
    (hoff : off = x.outpacket.offset + x.outpacket.sentlen) (hlt : ¬ off ≥ x.outpacket.len) : SM w mo (ackP x off) := by
  obtain ⟨⟨a1, a2, a3, a4, a5, a6, a7, a8, a9, a10, a11, a12, a13⟩, b, ⟨c1, c2, c3⟩⟩ := h
  refine ⟨⟨?_, ?_, a3, a4, a5, ?_, a7, a8, a9, a10, a11, a12, a13⟩, b, ⟨?_, ?_, ?_⟩⟩
  · simp only [ackP]; omega
  · intro _; simp only [ackP]; omega
  · intro _ _; rfl
  · intro h; exact absurd h hl
  · intro _ _
    right
    have := c3 hl hs
    rw [this]
    simp only [ackP, hSeq, hFrag, sChar_mod16]
    rw [if_neg (by omega)]
  · intro _ h; exact absurd rfl h

theorem sm_ackDone {w : Prop} {mo : MSt} {x : Session} (h : SM w mo x) (off : Nat)
    (hl : x.outpacket.len ≠ 0) (hs : x.outpacket.sentlen ≠ 0) : SM w mo (ackDone (ackP x off)) := by
  obtain ⟨⟨a1, a2, a3, a4, a5, a6, a7, a8, a9, a10, a11, a12, a13⟩, b, ⟨c1, c2, c3⟩⟩ := h
  refine ⟨⟨?_, ?_, ?_, ?_, a5, ?_, a7, a8, a9, a10, a11, a12, a13⟩, b, ⟨?_, ?_, ?_⟩⟩
  · simp [ackP, ackDone]
  · intro h; exact absurd rfl h
  · simp [ackP, ackDone]
  · intro h; exact absurd rfl h
  · intro h; exact absurd rfl h
  · intro _
    right
    exact ⟨_, _, c3 hl hs⟩
  · intro h; exact absurd rfl h
  · intro h; exact absurd rfl h

theorem stay_processDownstreamAck (W : Nat → Prop) (s : Srv) (u : Nat) (a b : Int) :
    Stay W s (processDownstreamAck s u a b) := by
  unfold processDownstreamAck
  extract_lets x off s1
  apply ite_both'
  · intro _; exact Stay.refl W s
  intro hl; apply ite_both'
  · intro _; exact Stay.refl W s
  intro _; apply ite_both'
  · intro _; exact Stay.refl W s
  intro hs; apply ite_both'
  · intro hge
    have h2 : Stay W s (setUser s1 u fun x => ackDone x) := by
      unfold s1
      rw [setUser_setUser]
      exact stay_setUser W s u _ (fun w mo h => sm_ackDone h off hl hs)
    refine Stay.trans h2 (stay_getFromOutpacketq W _ u ?_)
    exact getUser_setUser_prop s1 u _ (fun y => y.outpacket.len = 0) rfl rfl
  · intro hlt
    exact stay_setUser W s u _ (fun w mo h => sm_ackP h off hl hs rfl hlt)

/-- a fresh data answer is cut from the `outpacket` of a well-formed session state -/
def ChunkOK (e : Event) : Prop :=
  ∀ a b c d n dt u, e = Event.ans a b c d n dt (.chunk u) → ∃ x, SessW x ∧ dt = scPkt x (scDatalen x)

def AllChunkOK (evs : List Event) : Prop := ∀ e ∈ evs, ChunkOK e

theorem allChunkOK_nil : AllChunkOK [] := fun _ h => by cases h

theorem allChunkOK_append {a b : List Event} (ha : AllChunkOK a) (hb : AllChunkOK b) : AllChunkOK (a ++ b) := by
  intro e he
  rcases List.mem_append.1 he with h | h
  · exact ha e h
  · exact hb e h

theorem Quiet.chunkOK {isV : Bool} {evs : List Event} (h : Quiet isV evs) : AllChunkOK evs :=
  fun e he a b c d n dt u heq => absurd heq (h.2 e he a b c d n dt u)

/-- handler results simulated by the monitor -/
def Sim (isV : Bool) (W : Nat → Prop) (s : Srv) (r : Res) : Prop :=
  ∀ m, G W m s → ∃ m', runMon isV m r.2 = some m' ∧ G W m' r.1 ∧ AllChunkOK r.2

theorem hdr_decode : ∀ a, a < 8 → ∀ b, b < 16 → ∀ l, l < 2 →
    (a <<< 5 ||| b <<< 1 ||| l) / 32 = a ∧ (a <<< 5 ||| b <<< 1 ||| l) / 2 % 16 = b ∧ (a <<< 5 ||| b <<< 1 ||| l) % 2 = l := by
  decide

/-- the session after the "count the (re)send" block -/
def prepP (x : Session) : Session :=
  { x with outpacket := { x.outpacket with sentlen := scDatalen x }, outfragresent := x.outfragresent + 1 }

theorem scDatalen_prepP (x : Session) : scDatalen (prepP x) = scDatalen x := rfl

theorem scDatalen_pos {x : Session} (hw : SessW x) (hl : x.outpacket.len ≠ 0) :
    1 ≤ scDatalen x ∧ x.outpacket.offset + scDatalen x ≤ x.outpacket.len := by
  have h1 := hw.off hl
  have h2 := hw.fsz hl
  unfold scDatalen
  rw [if_pos (by omega)]
  omega

/-- the header the monitor reads off a fragment-carrying chunk -/
def hdrOf (x : Session) (dl : Nat) : Nat × Nat × Nat :=
  (hSeq x, hFrag x, if x.outpacket.len > 0 ∧ x.outpacket.len = x.outpacket.offset + dl then 1 else 0)

theorem fragHeader_scPkt {x : Session} (hw : SessW x) (dl : Nat) (h1 : 1 ≤ dl)
    (h2 : x.outpacket.offset + dl ≤ x.outpacket.len) : fragHeader (scPkt x dl) = some (hdrOf x dl) := by
  have hd := hw.data
  have hlen : (scPkt x dl).length > 2 := by
    unfold scPkt
    simp only [List.length_append, List.length_cons, List.length_nil, List.length_take, List.length_drop]
    omega
  unfold fragHeader
  rw [if_pos hlen]
  have hb : (scPkt x dl).getD 1 0 = hSeq x <<< 5 ||| hFrag x <<< 1 |||
      (if x.outpacket.len > 0 ∧ x.outpacket.len = x.outpacket.offset + dl then 1 else 0) := by
    unfold scPkt; rfl
  rw [hb]
  have ha : hSeq x < 8 := by unfold hSeq; omega
  have hf : hFrag x < 16 := by unfold hFrag; omega
  have hl : (if x.outpacket.len > 0 ∧ x.outpacket.len = x.outpacket.offset + dl then 1 else 0) < 2 := by
    split <;> omega
  obtain ⟨e1, e2, e3⟩ := hdr_decode _ ha _ hf _ hl
  unfold hdrOf
  rw [e1, e2, e3]

theorem fragHeader_scPkt_zero (x : Session) : fragHeader (scPkt x 0) = none := by
  unfold fragHeader scPkt
  simp

theorem last_eq (len off dl : Nat) (hl : len ≠ 0) :
    (if len > 0 ∧ len = off + dl then 1 else 0 : Nat) = if off + dl = len then 1 else 0 := by
  split <;> split <;> omega

theorem sm_prepP {w : Prop} {mo : MSt} {x : Session} (h : SM w mo x) (hl : x.outpacket.len ≠ 0) :
    accepts mo (hdrOf (prepP x) (scDatalen x)) = true ∧ SM w (some (hdrOf (prepP x) (scDatalen x))) (prepP x) ∧
    (prepP x).outpacket.sentlen ≠ 0 := by
  have hdl := scDatalen_pos h.wf hl
  obtain ⟨⟨a1, a2, a3, a4, a5, a6, a7, a8, a9, a10, a11, a12, a13⟩, b, ⟨c1, c2, c3⟩⟩ := h
  refine ⟨?_, ⟨⟨?_, a2, a3, a4, a5, ?_, a7, a8, a9, a10, a11, a12, a13⟩, b, ⟨?_, ?_, ?_⟩⟩, ?_⟩
  · by_cases hs : x.outpacket.sentlen = 0
    · rcases c2 hl hs with ⟨hf0, hm⟩ | hm
      · have hfr : hFrag (prepP x) = 0 := by simp [hFrag, prepP, hf0]
        rcases hm with hm | ⟨s', f, l, hm, hne⟩
        · rw [hm]; simp [accepts, hdrOf, hfr]
        · rw [hm]
          have : hSeq (prepP x) ≠ s' := fun e => hne (e ▸ rfl)
          simp [accepts, hdrOf, hfr, this]
      · rw [hm]
        have e1 : hSeq (prepP x) = hSeq x := rfl
        have e2 : hFrag (prepP x) = (((x.outpacket.fragment - 1) % 16).toNat + 1) % 16 := by
          simp only [hFrag, prepP]; omega
        simp [accepts, hdrOf, e1, e2]
    · rw [c3 hl hs]
      have e1 : hSeq (prepP x) = hSeq x := rfl
      have e2 : hFrag (prepP x) = hFrag x := rfl
      simp [accepts, hdrOf, e1, e2]
  · simp only [prepP]; omega
  · intro _ hs; simp only [prepP] at hs; omega
  · intro h0; exact absurd h0 hl
  · intro _ hs; simp only [prepP] at hs; omega
  · intro _ _
    exact congrArg (fun t => some (hSeq (prepP x), hFrag (prepP x), t))
      (last_eq x.outpacket.len x.outpacket.offset (scDatalen x) hl)
  · simp only [prepP]; omega

theorem g_upd {W : Nat → Prop} {m : Nat → MSt} {s : Srv} (h : G W m s) (u : Nat) (f : Session → Session) (mo : MSt)
    (hu : u < s.users.length) (hf : SM (W u) mo (f (getUser s u))) : G W (upd m u mo) (setUser s u f) := by
  intro v
  unfold upd
  by_cases hv : v = u
  · subst hv
    rw [if_pos rfl, getUser_setUser_self s v f hu]
    exact hf
  · rw [if_neg hv, getUser_setUser_ne s u f v hv]
    exact h v

theorem runMon_scAnswer (isV : Bool) (m : Nat → MSt) (q : Query) (pkt : List Nat) (dn u : Nat) :
    runMon isV m (scAnswer q pkt dn u).2 = monEvent isV m (writeDns q pkt dn (.chunk u)) := by
  unfold scAnswer
  split
  · simp only [runMon]
    cases monEvent isV m (writeDns q pkt dn (.chunk u)) with
    | none => rfl
    | some m' => rfl
  · simp only [runMon]
    cases monEvent isV m (writeDns q pkt dn (.chunk u)) with
    | none => rfl
    | some m' => rfl

theorem monEvent_chunk (isV : Bool) (m : Nat → MSt) (q : Query) (pkt : List Nat) (dn u : Nat) :
    monEvent isV m (writeDns q pkt dn (.chunk u)) =
      match fragHeader pkt with
      | some h => if accepts (m u) h then some (upd m u (some h)) else none
      | none => some m := rfl

/-- the "count the (re)send" block together with the answers it is followed by -/
theorem prepare_spec (isV : Bool) (W : Nat → Prop) (m : Nat → MSt) (s : Srv) (u : Nat) (q : Query) (dn : Nat)
    (hG : G W m s) :
    ∃ m', runMon isV m (scAnswer q (scPkt (getUser (scPrepare s u) u) (scDatalen (getUser (scPrepare s u) u))) dn u).2
        = some m' ∧ G W m' (scPrepare s u) ∧
      ((getUser (scPrepare s u) u).outpacket.len ≠ 0 → (getUser (scPrepare s u) u).outpacket.sentlen ≠ 0) := by
  rw [runMon_scAnswer, monEvent_chunk]
  unfold scPrepare
  by_cases hl : (getUser s u).outpacket.len > 0
  · rw [if_pos hl]
    have hl' : (getUser s u).outpacket.len ≠ 0 := by omega
    have hu : u < s.users.length := Nat.lt_of_not_le fun hn => by rw [getUser_of_ge s u hn] at hl'; exact hl' rfl
    have hx : getUser (setUser s u fun x => prepP x) u = prepP (getUser s u) := getUser_setUser_self s u _ hu
    show ∃ m', (match fragHeader (scPkt (getUser (setUser s u fun x => prepP x) u)
        (scDatalen (getUser (setUser s u fun x => prepP x) u))) with
      | some h => if accepts (m u) h then some (upd m u (some h)) else none
      | none => some m) = some m' ∧ G W m' (setUser s u fun x => prepP x) ∧
      ((getUser (setUser s u fun x => prepP x) u).outpacket.len ≠ 0 →
        (getUser (setUser s u fun x => prepP x) u).outpacket.sentlen ≠ 0)
    rw [hx, scDatalen_prepP]
    obtain ⟨hacc, hsm, hsent⟩ := sm_prepP (hG u) hl'
    have hdl := scDatalen_pos (hG u).wf hl'
    have hfh := fragHeader_scPkt hsm.wf (scDatalen (getUser s u)) hdl.1 hdl.2
    rw [hfh]
    refine ⟨upd m u (some (hdrOf (prepP (getUser s u)) (scDatalen (getUser s u)))), ?_, ?_, fun _ => hsent⟩
    · simp only [hacc, if_true]
    · exact g_upd hG u _ _ hu hsm
  · rw [if_neg hl]
    have h0 : (getUser s u).outpacket.len = 0 := by omega
    have hd : scDatalen (getUser s u) = 0 := by unfold scDatalen; rw [if_neg hl]
    rw [hd, fragHeader_scPkt_zero]
    exact ⟨m, rfl, hG, fun h => absurd h0 h⟩

theorem chunkOK_scAnswer (q : Query) (x : Session) (dn u : Nat) (hw : SessW x) :
    AllChunkOK (scAnswer q (scPkt x (scDatalen x)) dn u).2 := by
  intro e he a b c d n dt v heq
  unfold scAnswer at he
  split at he
  · simp only [List.mem_cons, List.not_mem_nil, or_false] at he
    rcases he with rfl | rfl
    · unfold writeDns at heq
      injection heq with _ _ _ _ _ h6 _
      exact ⟨x, hw, h6.symm⟩
    · unfold writeDns at heq
      cases heq
  · simp only [List.mem_singleton] at he
    subst he
    unfold writeDns at heq
    injection heq with _ _ _ _ _ h6 _
    exact ⟨x, hw, h6.symm⟩

theorem sim_sendChunk (isV : Bool) (W : Nat → Prop) (s : Srv) (u : Nat) (w : QSel) :
    Sim isV W s (sendChunkOrDataless s u w).1 := by
  intro m hG
  unfold sendChunkOrDataless
  extract_lets s1 x datalen pkt a s2 s3 qsrc s4 r
  have hG0 := stay_scDropResent W s u m hG
  obtain ⟨m', hrun, hG1, hsent⟩ := prepare_spec isV W m (scDropResent s u) u (w.get x) x.downenc hG0
  have hG4 : G W m' s4 :=
    stay_qselSet W s3 u w _ m' (stay_saveToDnscache W s2 u _ _ m' (stay_saveToQmemPingOrData W s1 u _ m' hG1))
  have hso : SameOut s1 s4 :=
    ((sameOut_saveToQmemPingOrData s1 u a.1).trans (sameOut_saveToDnscache s2 u a.1 pkt)).trans
      (sameOut_qselSet s3 u w _)
  have hrun' : runMon isV m a.2 = some m' := hrun
  have hck : AllChunkOK a.2 := chunkOK_scAnswer (w.get x) x x.downenc u (hG1 u).wf
  have hr : ∃ m'', runMon isV m a.2 = some m'' ∧ G W m'' r.1 ∧ AllChunkOK a.2 := by
    refine ⟨m', hrun', ?_, hck⟩
    have h0 : (getUser s4 u).outpacket.len ≠ 0 → (getUser s4 u).outpacket.sentlen ≠ 0 := by
      rw [hso u]; exact hsent
    refine stay_getFromOutpacketq W _ u ?_ m' (stay_dropOut W s4 u h0 m' hG4)
    exact getUser_setUser_prop s4 u dropOut (fun y => y.outpacket.len = 0) rfl rfl
  clear_value r s4 a
  refine ite_both' (P := fun r : Res × Bool => ∃ m', runMon isV m r.1.2 = some m' ∧ G W m' r.1.1 ∧ AllChunkOK r.1.2) ?_ ?_
  · intro _; exact hr
  · intro _; exact ⟨m', hrun', hG4, hck⟩

theorem sim_refl (isV : Bool) (W : Nat → Prop) (s : Srv) : Sim isV W s (s, []) :=
  fun m h => ⟨m, rfl, h, allChunkOK_nil⟩

theorem sim_quiet {isV : Bool} {W : Nat → Prop} {s s' : Srv} {evs : List Event} (h : Stay W s s')
    (hq : Quiet isV evs) : Sim isV W s (s', evs) :=
  fun m hG => ⟨m, hq.1 m, h m hG, hq.chunkOK⟩

theorem Sim.pre {isV : Bool} {W : Nat → Prop} {s0 s : Srv} {r : Res} (h0 : Stay W s0 s) (h : Sim isV W s r) :
    Sim isV W s0 r :=
  fun m hG => h m (h0 m hG)

theorem Sim.post {isV : Bool} {W : Nat → Prop} {s : Srv} {r : Res} {s' : Srv} (h : Sim isV W s r)
    (h1 : Stay W r.1 s') : Sim isV W s (s', r.2) := by
  intro m hG
  obtain ⟨m', h2, h3, h4⟩ := h m hG
  exact ⟨m', h2, h1 m' h3, h4⟩

theorem Sim.seq {isV : Bool} {W : Nat → Prop} {s : Srv} {r1 r2 : Res} (h1 : Sim isV W s r1) (h2 : Sim isV W r1.1 r2) :
    Sim isV W s (r2.1, r1.2 ++ r2.2) := by
  intro m hG
  obtain ⟨m1, ha, hb, hk1⟩ := h1 m hG
  obtain ⟨m2, hc, hd, hk2⟩ := h2 m1 hb
  refine ⟨m2, ?_, hd, allChunkOK_append hk1 hk2⟩
  rw [runMon_append, ha]
  exact hc

theorem sim_ctrl (W : Nat → Prop) (s : Srv) (q : Query) (d : List Nat) (dn : Nat) :
    Sim false W s (s, [writeDns q d dn]) :=
  sim_quiet (Stay.refl W s) (quiet_ctrl_false q d dn)

theorem quiet_sendRaw (isV : Bool) (b : List Nat) (n u c : Nat) (q : Query) : Quiet isV [sendRaw b n u c q] :=
  quiet_single (fun _ => rfl) (by unfold sendRaw; not_chunk)

theorem src_le {inp : Input} {W : Nat → Prop} {m : Nat → MSt} {s : Srv} {d : List Nat} {n : Nat} (h : Src inp s d n)
    (hG : G W m s) : n ≤ d.length := by
  cases h with
  | tun f => exact Nat.le_refl _
  | up v => exact (hG v).wf.inlen

theorem one_le_of_take {d : List Nat} {n : Nat} (h : d.take n ≠ []) : 1 ≤ n := by
  cases n with
  | zero => exact absurd rfl h
  | succ n => omega

/-- **The monitor follows every step of a calm run**, for an input that is not a version request (`isV = false`) or
for a run that does not look at the input (`inp = .tick`, any `isV`). -/
theorem sim_closed {inp : Input} (isV : Bool) (W : Nat → Prop) (hV : ∀ q, inp = .q q → isV = false) :
    Closed inp calm (Sim isV W) where
  nil := sim_refl isV W
  seq _ := Sim.seq
  prim {s r} hp := by
    have ev : ∀ e : Event, (∀ m, monEvent isV m e = some m) → NotChunk e → Sim isV W s (s, [e]) := fun e h1 h2 =>
      sim_quiet (Stay.refl W s) (quiet_single h1 h2)
    cases hp with
    | ctrl q d dn hq => rw [hV q hq]; exact sim_ctrl W s q d dn
    | cached u q e _ he =>
      obtain ⟨_, _, _, rfl⟩ := answerFromDnscache_some he
      exact sim_quiet (Stay.refl W s) (quiet_tagged isV _ _ _ nofun fun _ => nofun)
    | seen u q => exact sim_quiet (Stay.refl W s) (quiet_tagged isV _ _ _ nofun fun _ => nofun)
    | nsa q => exact ev _ (fun _ => rfl) (by not_chunk)
    | sweep => exact ev _ (fun _ => rfl) (by not_chunk)
    | tunskip => exact ev _ (fun _ => rfl) (by not_chunk)
    | raw b n u c q => exact sim_quiet (Stay.refl W s) (quiet_sendRaw isV _ _ _ _ _)
    | rly a b => exact ev _ (fun _ => rfl) (by not_chunk)
    | send u w => exact sim_sendChunk isV W s u w
    | ctl u f hc => exact sim_quiet (by cases hc <;> stay_same) (quiet_nil isV)
    | dup u w q => exact sim_quiet (by cases w <;> stay_same) (quiet_nil isV)
    | save u q => exact sim_quiet (stay_saveQuery W s u q) (quiet_nil isV)
    | rawLogin u src => exact sim_quiet (by stay_same) (quiet_nil isV)
    | rawPing u src => exact sim_quiet (by stay_same) (quiet_nil isV)
    | outpkt u s' ho =>
      intro m hG
      cases ho with
      | start d n hs ha h0 hd =>
        exact sim_quiet (stay_startNewOutpacket W s u d n h0 ((hG u).wf.act ha) (one_le_of_take hd) (src_le hs hG))
          (quiet_nil isV) m hG
      | queue d n hs ha h0 hd =>
        exact sim_quiet (stay_saveToOutpacketq W s u d n ((hG u).wf.act ha) (one_le_of_take hd) (src_le hs hG))
          (quiet_nil isV) m hG
      | ack a b => exact sim_quiet (stay_processDownstreamAck W s u a b) (quiet_nil isV) m hG
    | rand => exact sim_quiet (stay_popRand W s) (quiet_nil isV)
    | fwd q => exact sim_quiet (stay_of_users rfl) (quiet_single (fun _ => rfl) (by not_chunk))
    | tunw u out hk => cases hk
    | version q u hk => cases hk
    | fragsize q dlen n hk => cases hk
    | upIn u a b pl hk => cases hk
    | resetIn u hk => cases hk
    | rawIn u src bytes hk => cases hk

theorem sim_closed_tick (isV : Bool) (W : Nat → Prop) : Closed .tick calm (Sim isV W) :=
  sim_closed isV W fun _ h => nomatch h

/-- the exemption-free instance of the invariant -/
abbrev W0 : Nat → Prop := fun _ => False

theorem g_mono {W W' : Nat → Prop} {m : Nat → MSt} {s : Srv} (h : G W m s) (hw : ∀ v, W v → W' v) : G W' m s := by
  intro v
  obtain ⟨a, b, c⟩ := h v
  exact ⟨a, b.imp (hw v) id, c⟩

theorem sim_deliverToUser (isV : Bool) (W : Nat → Prop) (s : Srv) (t : Nat) (d : List Nat) (n : Nat)
    (hf : 2 ≤ (getUser s t).fragsize) (h1 : 1 ≤ n) (h2 : n ≤ d.length) : Sim isV W s (deliverToUser s t d n) := by
  unfold deliverToUser
  extract_lets y
  apply ite_both'
  · intro _; apply ite_both'
    · intro hl
      exact ((run_sendWaiting (inp := .tick) _ t).closed (sim_closed_tick isV W)).pre
        (stay_startNewOutpacket W s t d n hl hf h1 h2)
    · intro _
      exact sim_quiet (stay_saveToOutpacketq W s t d n hf h1 h2) (quiet_nil isV)
  · intro _
    exact sim_quiet (Stay.refl W s) (quiet_sendRaw isV _ _ _ _ _)

theorem uncompress_some_pos (d : List Nat) (cap : Nat) (out : List Nat) (h : uncompress d cap = some out) :
    1 ≤ d.length := by
  cases d with
  | nil => simp [uncompress] at h
  | cons a d => simp

theorem sm_zero (w : Prop) (ip : Nat) : SM w none (Session.zero ip) := by
  refine ⟨⟨?_, ?_, ?_, ?_, ?_, ?_, ?_, ?_, ?_, ?_, ?_, ?_, ?_⟩, Or.inr ?_, ⟨?_, ?_, ?_⟩⟩
  · exact Nat.le_refl 0
  · intro h; exact absurd rfl h
  · exact Nat.zero_le _
  · intro h; exact absurd rfl h
  · intro h; cases h
  · intro h; exact absurd rfl h
  · exact Nat.zero_le _
  · intro pk hpk
    simp only [Session.zero, List.mem_replicate] at hpk
    rw [hpk.2]; exact Nat.le_refl _
  · rfl
  · exact Nat.zero_lt_succ 3
  · exact Nat.zero_le 4
  · intro h; exact absurd rfl h
  · intro i hi; exact absurd hi (Nat.not_lt_zero _)
  · exact Nat.le_refl 0
  · intro _; left; rfl
  · intro h; exact absurd rfl h
  · intro h; exact absurd rfl h

/-- `handle_full_packet` re-establishes `In2` for its slot -/
theorem sim_handleFullPacket (isV : Bool) (W : Nat → Prop) (s : Srv) (u : Nat) (m : Nat → MSt) (hG : G W m s) :
    ∃ m', runMon isV m (handleFullPacket s u).2 = some m' ∧
      G (fun v => W v ∧ v ≠ u) m' (handleFullPacket s u).1 ∧ AllChunkOK (handleFullPacket s u).2 := by
  unfold handleFullPacket
  extract_lets x r
  have hr : ∃ m', runMon isV m r.2 = some m' ∧ G W m' r.1 ∧ AllChunkOK r.2 := by
    unfold r
    split
    · rename_i out hout
      have hpos := uncompress_some_pos _ _ _ hout
      have hin : x.inpacket.len ≤ x.inpacket.data.length := (hG u).wf.inlen
      have h1 : 1 ≤ x.inpacket.len := by
        rw [List.length_take] at hpos
        omega
      apply ite_both' (P := fun r : Res => ∃ m', runMon isV m r.2 = some m' ∧ G W m' r.1 ∧ AllChunkOK r.2)
      · intro _
        split
        · exact sim_quiet (Stay.refl W s) (quiet_single (fun _ => rfl) (by unfold writeTun; not_chunk)) m hG
        · rename_i t ht
          have hf : 2 ≤ (getUser s t).fragsize := (hG t).wf.act (findUserByIp_active ht)
          exact sim_deliverToUser isV W s t _ _ hf h1 hin m hG
      · intro _; exact sim_refl isV W s m hG
    · exact sim_refl isV W s m hG
  clear_value r
  obtain ⟨m', hrun, hG', hck⟩ := hr
  refine ⟨m', hrun, fun v => ?_, hck⟩
  by_cases hv : v = u
  · subst hv
    by_cases hlt : v < r.1.users.length
    · rw [getUser_setUser_self _ _ _ hlt]
      obtain ⟨⟨a1, a2, a3, a4, a5, a6, a7, a8, a9, a10, a11, a12, a13⟩, b, ⟨c1, c2, c3⟩⟩ := hG' v
      refine ⟨⟨a1, a2, a3, a4, a5, a6, Nat.zero_le _, a8, a9, a10, a11, a12, a13⟩, Or.inr (Nat.le_refl 0), ⟨c1, c2, c3⟩⟩
    · rw [getUser_setUser, if_neg (fun h => hlt h.2)]
      obtain ⟨a, b, c⟩ := hG' v
      refine ⟨a, Or.inr ?_, c⟩
      rw [getUser_of_ge _ _ (Nat.le_of_not_lt hlt)]
      exact Nat.le_refl 0
  · rw [getUser_setUser_ne _ _ _ _ hv]
    obtain ⟨a, b, c⟩ := hG' v
    exact ⟨a, b.imp (fun h => ⟨h, hv⟩) id, c⟩

theorem sm_setFragsize {w : Prop} {mo : MSt} {x : Session} (h : SM w mo x) (n : Nat) (hn : 2 ≤ n) :
    SM w mo { x with fragsize := n, optionsLocked := true, dnscache := clearDnscache x.dnscache } := by
  obtain ⟨⟨a1, a2, a3, a4, a5, a6, a7, a8, a9, a10, a11, a12, a13⟩, b, ⟨c1, c2, c3⟩⟩ := h
  exact ⟨⟨a1, a2, a3, fun _ => hn, fun _ => hn, a6, a7, a8, a9, a10, a11, fun _ => hn, a13⟩, b, ⟨c1, c2, c3⟩⟩

end Iodine.C15L
