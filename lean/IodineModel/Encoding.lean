import IodineModel.Codec.Generic
/-
Model of `encoding.c`: `inline_dotify`, `inline_undotify`, `build_hostname`, `unpack_data`.
-/
namespace Iodine.Encoding
open Iodine.Codec

def DOT : Nat := 46

/-- `inline_dotify` on a buffer that is large enough (always the case for the callers, whose
buffers are 4 KiB): a '.' after every 57th character, including after the last one when the
length is a multiple of 57.  `k` = characters since the last dot. -/
def dotifyAux : Nat → List Nat → List Nat
  | _, [] => []
  | k, c :: cs => if k + 1 = 57 then c :: DOT :: dotifyAux 0 cs else c :: dotifyAux (k + 1) cs

def dotify (s : List Nat) : List Nat := dotifyAux 0 s

/-- `inline_undotify(buf, len)`: drops the dots among the first `len` bytes -/
def undotify (s : List Nat) : List Nat := s.filter (fun c => c != DOT)

/-- `unpack_data(buf, cap, data, datalen, enc)` for the four codecs (none of them eats dots) -/
def unpackData (c : Codec) (cap : Nat) (data : List Nat) : List Nat :=
  let u := undotify data
  dec c cap u.length u

structure Built where
  /-- what is in `buf` afterwards, up to the NUL -/
  name : List Nat
  /-- return value: input bytes consumed -/
  used : Nat
  deriving Repr, DecidableEq

/-- `build_hostname(buf, buflen, data, datalen, topdomain, encoder, maxlen)`.
`prev` is the byte in front of `buf` (the callers pass `buf+1` / `buf+5`), which the C looks at
when the encoding is empty.  `none`: `min(maxlen,buflen) - strlen(topdomain) - 8` underflows
(size_t) and the C encodes without a meaningful bound. -/
def buildHostname (c : Codec) (maxlen buflen prev : Nat) (td d : List Nat) : Option Built :=
  if min maxlen buflen < td.length + 8 then none else
  let space0 := min maxlen buflen - td.length - 8
  let space := space0 - space0 / 57
  let r := enc c space d
  let s := dotify r.chars
  let last := s.getLast?.getD prev
  let s' := if last = DOT then s else s ++ [DOT]
  some ⟨s' ++ td, r.used⟩

/-- What `handle_null_request` does to get at the data of a name it accepted: the first `dlen`
characters (`dlen` = result of `query_datalen`) without the `h` header characters, undotified,
decoded.  -/
def serverExtract (c : Codec) (h dlen : Nat) (name : List Nat) : List Nat :=
  unpackData c 65536 ((name.take dlen).drop h)

/-- Legal dotted DNS name: every label 1..63 characters, scanning automaton.
`n` = length of the label being read. -/
def legalAux : Nat → List Nat → Bool
  | n, [] => decide (1 ≤ n ∧ n ≤ 63)
  | n, c :: cs => if c = DOT then decide (1 ≤ n ∧ n ≤ 63) && legalAux 0 cs else legalAux (n + 1) cs

end Iodine.Encoding
