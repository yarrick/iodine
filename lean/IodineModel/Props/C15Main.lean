import IodineModel.Props.C15
import IodineModel.Lemmas.OptTop
/-
C15 from the command line on: the run theorems of `Props/C15.lean` for every configuration with which `main` reaches
`tunnel()` (`Top.Starts`).  The state `tunnel()` is entered in is `start` of that configuration (`OptL.entry_eq_start`),
so each is its run theorem at that state.
-/
namespace Iodine.C15
open Iodine Iodine.Server Iodine.Server.Options

/-- **fragment_le_fragsize_from_main.**  For every command line and environment with which iodined reaches `tunnel()`, every run
(monotone clock) and one more iteration: every answer carrying tunnel data for session `u` has at most `fragsize(u) + 2` bytes (the
size in force after the iteration) and at most 4096.  No hypothesis on the configuration. -/
theorem fragment_le_fragsize_from_main (env : Env) (argv : List (List Nat)) (f : Final) (h : Top.Starts env argv f)
    (rnd : List Nat) (d4 d6 : Nat) (steps : List Step) (hm : Monotone (Top.entry f rnd d4 d6) steps) (st : Step)
    (e : Event) (u : Nat) (d : List Nat) :
    let s := runFrom (Top.entry f rnd d4 d6) steps
    s.now ≤ st.now → e ∈ out s st → dataFor u e = some d → d.length ≤ F (next s st) u + 2 ∧ d.length ≤ 4096 := by
  intro s hst he hd
  have hr : Reachable (f.cfg d4 d6) s := by
    rw [OptL.entry_eq_start h] at hm
    show Reachable _ (runFrom (Top.entry f rnd d4 d6) steps)
    rw [OptL.entry_eq_start h]
    exact reachable_runFrom (.init rnd) steps hm
  exact fragment_le_fragsize hr st hst e he u d hd

/-- **fragments_consecutive_from_main.**  For every command line and environment with which iodined reaches `tunnel()` and every run
afterwards: the numbering monitor accepts the trace (fragments of a packet numbered consecutively from 0, a new packet only after the
"last" flag, a new session starts at 0).  No hypothesis on the configuration. -/
theorem fragments_consecutive_from_main (env : Env) (argv : List (List Nat)) (f : Final) (h : Top.Starts env argv f)
    (rnd : List Nat) (d4 d6 : Nat) (steps : List Step) (hm : Monotone (Top.entry f rnd d4 d6) steps) :
    NumberedConsecutively (traceFrom (Top.entry f rnd d4 d6) steps) := by
  rw [OptL.entry_eq_start h] at hm ⊢
  exact fragments_consecutive _ rnd steps hm

end Iodine.C15
