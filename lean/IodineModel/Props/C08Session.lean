import IodineModel.Lemmas.CliQ3
import IodineModel.Lemmas.Runs
/-
C08 (+ C10), lifted to whole sessions of the CLIENT: every query the client ever sends — handshake and tunnel phase, whatever
the network answers — is a legal, well-formed DNS query that carries what it should.

The model is the pair of step machines `Client.hstep` (the whole of `client_handshake()`, Client/Handshake.lean) and
`Client.cstep` (`client_tunnel()`, Client/Tunnel.lean + Loop.lean), whose `CEvent.query id type name` events are diffed against
the real client on every world run.  The specification side is below: `ClientCfgOk` (what iodine.c's `main()` has established),
the reachability predicates `HsOut` / `TunOut` (every output of every run, the inputs — answers, time-outs, tun frames — being
ARBITRARY), `QueryLegal`, `WellFormedQuery` (the strict parser of C10) and `ChunkCarries`.  Helper lemmas (one per C function)
are in Lemmas/CliQ1.lean (senders, handshake) and CliQ3.lean (tunnel).
-/
namespace Iodine.C08
open Iodine Iodine.Client

/-! ### Specification vocabulary -/

/-- the seven record types the tunnel uses: NULL, PRIVATE, TXT, SRV, MX, CNAME, A -/
def TunnelTypes : List Nat := [10, 65399, 16, 33, 15, 5, 1]

/-- What iodine.c's `main()` and `client_init()` have established when `client_handshake()` is called, in the range C08 is
stated for (`-M` is clamped to 10..255 by `main`; C08 needs 100..255 and 24 characters left after the domain):
* `topdomain` passed `check_topdomain(topdomain, 0, …)`;
* `hostname_maxlen = L`, `100 ≤ L ≤ 255`, `strlen(topdomain) + 24 ≤ L`;
* `do_qtype` is one of the seven types (`-T`) or still `T_UNSET` (= 65432: autodetection);
* `downenc` is `' '` or one of `T S U V R` (`-O`, `client_set_downenc`);
* the data-CMC counter of `send_chunk` is in range (it is a `static int` starting at 0 and stepping modulo 36), no packet is
  in flight (`client_init`: `outpkt.len = 0`) and `outpkt.data` holds bytes (it is zero-initialised static storage).
Nothing is needed about the password (`login_calculate` reads 32 bytes of a zero-padded buffer) nor about the user id: the
names are built from `userid & 15`-style masks and from `userid_char`, which `handshake_version` sets to a hex digit. -/
structure ClientCfgOk (L : Nat) (c : Cli) : Prop where
  topdomain : Common.checkTopdomain c.topdomain false = 0
  maxlen : c.hostnameMaxlen = (L : Int)
  limit : 100 ≤ L ∧ L ≤ 255
  room : c.topdomain.length + 24 ≤ L
  qtype : c.doQtype ∈ TunnelTypes ∨ c.doQtype = 65432
  downenc : c.downenc ∈ [32, 84, 83, 85, 86, 82]
  cmc : c.datacmc < 36
  idle : c.outpkt.len = 0
  pktbytes : ∀ b ∈ c.outpkt.data, b < 256

/-- an input of a step: answers and time-outs are unrestricted (hostile); a tun frame is a string of bytes, of any length -/
def ByteInput : CInput → Prop
  | .tun f => ∀ b ∈ f, b < 256
  | _ => True

instance : DecidablePred ByteInput := fun i => by cases i <;> unfold ByteInput <;> infer_instance

/-- every output (state, events, next `select`) of the handshake machine started by
`client_handshake(dns_fd, raw_mode, autodetect_frag_size, fragsize)` in the static state `c0`, for ANY inputs -/
inductive HsOut (c0 : Cli) (args : HsArgs) (pw dev : List Nat) : HOut → Prop where
  | start : HsOut c0 args pw dev (hsStart c0 args pw dev)
  | step {o : HOut} (inp : CInput) : HsOut c0 args pw dev o → HsOut c0 args pw dev (hstep o.1 inp)

/-- every output of the tunnel machine: `client_tunnel()` is entered when `client_handshake()` has returned 0, with the statics
the handshake left; then ANY inputs whose tun frames are bytes -/
inductive TunOut (c0 : Cli) (args : HsArgs) (pw dev : List Nat) : CState × List CEvent × Next → Prop where
  | start {o : HOut} : HsOut c0 args pw dev o → o.2.2 = .finished 0 → TunOut c0 args pw dev (startTunnel o.1.c)
  | step {o : CState × List CEvent × Next} (inp : CInput) : TunOut c0 args pw dev o → ByteInput inp →
      TunOut c0 args pw dev (cstep o.1 inp)

/-- the query `id ty name` is emitted somewhere in a session that starts from `c0` -/
def Emitted (c0 : Cli) (args : HsArgs) (pw dev : List Nat) (id ty : Nat) (name : List Nat) : Prop :=
  (∃ o, HsOut c0 args pw dev o ∧ CEvent.query id ty name ∈ o.2.1) ∨
  (∃ o, TunOut c0 args pw dev o ∧ CEvent.query id ty name ∈ o.2.1)

/-- what is guaranteed about one query (limit `L`, tunnel domain `td`) -/
structure QueryLegal (L : Nat) (td : List Nat) (id ty : Nat) (name : List Nat) : Prop where
  /-- a 16-bit id -/
  id_lt : id < 65536
  /-- one of the seven tunnel types (during autodetection: the type being probed) -/
  ty_ok : ty ∈ TunnelTypes
  /-- labels of 1..63 bytes without NUL, at most 253 characters (255 bytes on the wire) -/
  legal : C10.LegalName name
  /-- ends in `.topdomain`, at a label boundary … -/
  suffix : ∃ pre, name = pre ++ [46] ++ td
  /-- … where the server's `query_datalen` finds it -/
  datalen : Common.queryDatalen name td = some (name.length - td.length)
  /-- within `hostname_maxlen` (with the "2 safety" of C08) — EXCEPT the upstream codec probes (`z…`, `send_upenctest`),
  which ignore `hostname_maxlen`: up to 63 characters in front of the domain -/
  within : name.length + 2 ≤ L ∨ (name.head? = some 122 ∧ name.length ≤ td.length + 63)

/-- the datagram `dns_encode(…, QR_QUERY, …)` builds for `(id, ty, name)` in the client's 4096-byte buffer, with and without
the EDNS0 record, parses under the strict parser of C10 and echoes id, name and type -/
def WellFormedQuery (id ty : Nat) (name : List Nat) : Prop :=
  ∀ edns : Bool, ∃ pkt, Wire.DnsEncode.dnsEncodeQuery 4096 id ty edns name = .ok pkt ∧
    Wire.Strict.parseMsg pkt = some ⟨id, 0x0100, [(C10.labels name, ty, 1)], [], [], if edns then [C10.optRR] else []⟩

/-- The data query `name` carries the fragment `outpkt.data[offset .. offset + sentlen)` of the client state `c` (the state
at the end of the step that emitted it), and the header fields of that state.  `inb` is what `handle_null_request` copies: the
characters in front of the domain.  Guarded by "there is a byte to send": `offset < len`, and `offset` inside what is stored
of the packet — the same thing whenever the packet fits `outpkt.data` (`client_packet_stored`; `client_chunk_progress`). -/
def ChunkCarries (td : List Nat) (c : Cli) (name : List Nat) : Prop :=
  c.outpkt.offset < c.outpkt.len → c.outpkt.offset < c.outpkt.data.length →
    let inb := name.take (min (name.length - td.length) 512)
    let frag := (c.outpkt.data.drop c.outpkt.offset).take c.outpkt.sentlen
    1 ≤ c.outpkt.sentlen ∧ c.outpkt.offset + c.outpkt.sentlen ≤ c.outpkt.len ∧ frag.length = c.outpkt.sentlen ∧
    inb.getD 0 0 = c.useridChar ∧
    C01.upSeqOf inb = maskI c.outpkt.seqno 8 ∧ C01.upFragOf inb = maskI c.outpkt.fragment 16 ∧
    C01.lastOf inb = (c.outpkt.sentlen == c.outpkt.len - c.outpkt.offset) ∧
    C01.dnSeqOf inb = maskI c.inpkt.seqno 8 ∧ C01.dnFragOf inb = maskI c.inpkt.fragment 16 ∧
    Encoding.unpackData c.dataenc.codec 65536 (inb.drop 5) = frag

/-! ### Glue between the vocabulary and the lemma files -/

theorem tunnelTypes_iff (ty : Nat) : ty ∈ TunnelTypes ↔ CliQ.TType ty := by
  simp [TunnelTypes, CliQ.TType]

theorem byteInput_iff (inp : CInput) : ByteInput inp ↔ CliQ.ByteIn inp := by
  cases inp <;> exact Iff.rfl

theorem env_of_cfg {L : Nat} {c : Cli} (h : ClientCfgOk L c) : CliQ.Env L c.topdomain :=
  CliQ.env_of_valid L c.topdomain h.limit ((C17.check_topdomain_iff_spec _ _).1 h.topdomain) h.room

theorem startOk_of_cfg {L : Nat} {c : Cli} (h : ClientCfgOk L c) : CliQ.StartOk L c.topdomain c := by
  refine ⟨⟨rfl, h.maxlen, ?_, h.cmc, h.pktbytes, Or.inl h.idle⟩, ?_⟩
  · have := h.downenc
    simpa [CliQ.DownencOk] using this
  · rcases h.qtype with h | h
    · exact Or.inl ((tunnelTypes_iff _).1 h)
    · exact Or.inr h

theorem hsOut_good {L : Nat} {c0 : Cli} {args : HsArgs} {pw dev : List Nat} (hc : ClientCfgOk L c0) {o : HOut}
    (h : HsOut c0 args pw dev o) : CliQ.Good L c0.topdomain o := by
  induction h with
  | start => exact CliQ.good_hsStart (env_of_cfg hc) c0 args pw dev (startOk_of_cfg hc)
  | step inp _ ih => exact CliQ.good_hstep (env_of_cfg hc) _ inp ih.parked

theorem tunOut_good {L : Nat} {c0 : Cli} {args : HsArgs} {pw dev : List Nat} (hc : ClientCfgOk L c0)
    {o : CState × List CEvent × Next} (h : TunOut c0 args pw dev o) : CliQ.CGood L c0.topdomain o := by
  induction h with
  | start ho hfin => exact CliQ.startTunnel_good _ ((hsOut_good hc ho).fin hfin)
  | step inp _ hb ih => exact CliQ.cstep_good (env_of_cfg hc) _ inp ih.late ((byteInput_iff inp).1 hb)

theorem queryLegal_of_evOk {L : Nat} {td : List Nat} (E : CliQ.Env L td) {id ty : Nat} {name : List Nat}
    (h : CliQ.EvOk L td (.query id ty name)) : QueryLegal L td id ty name := by
  obtain ⟨h1, h2, h3⟩ := h
  refine ⟨h1, (tunnelTypes_iff ty).2 h2, h3.legal, h3.suffix, ?_, h3.within⟩
  obtain ⟨pre, hpre⟩ := h3.suffix
  have hlen : name.length - td.length = (pre ++ [46]).length := by
    rw [hpre]; simp only [List.length_append, List.length_cons, List.length_nil]; omega
  rw [hlen]
  exact (Common.queryDatalen_plain name td _ E.td_len.1 E.td_plain).mpr
    ⟨pre ++ [46], td, hpre, rfl, Or.inr (by simp), rfl⟩

/-! ### The properties -/

/-- **client_queries_legal_partial.**  Under `ClientCfgOk`, EVERY query event of EVERY run of the client — the whole handshake
(version, login, raw-mode ip request, type autodetection, EDNS0 check, codec tests and switches, lazy switch, fragment-size
probes) and the tunnel phase (data chunks, pings, the lazy-off sub-handshake), whatever the answers, time-outs and tun frames
are — has a 16-bit id, one of the seven tunnel types, a legal host name that ends in `.topdomain` where `query_datalen` finds
it, and a length of at most `hostname_maxlen - 2` — the latter with ONE exception, which is why this is `_partial`:

  the upstream codec probes of `handshake_upenc_autodetect` (`send_upenctest`: `z` + 3 CMC characters + a pattern of up to 58
  characters + `.topdomain`) are built without looking at `hostname_maxlen`; they have up to 63 characters in front of the
  domain.  The full-strength statement (`name.length + 2 ≤ L` for all queries) is FALSE for the model and for the C code:
  see `upenctest_exceeds_limit` below (`-M 100`, a 76-character domain: 118 characters).

No name is built from server-controlled data: the reply bytes only steer the control flow (and set `userid`, which enters
through `& 15`-style masks and the hex digit `userid_char`). -/
theorem client_queries_legal_partial (L : Nat) (c0 : Cli) (args : HsArgs) (pw dev : List Nat) (hc : ClientCfgOk L c0)
    (id ty : Nat) (name : List Nat) (h : Emitted c0 args pw dev id ty name) :
    QueryLegal L c0.topdomain id ty name := by
  rcases h with ⟨o, ho, hm⟩ | ⟨o, ho, hm⟩
  · exact queryLegal_of_evOk (env_of_cfg hc) ((hsOut_good hc ho).evs _ hm)
  · exact queryLegal_of_evOk (env_of_cfg hc) ((tunOut_good hc ho).evs _ hm)

/-- **client_queries_within_limit.**  Every query that is not an upstream codec probe respects `hostname_maxlen`. -/
theorem client_queries_within_limit (L : Nat) (c0 : Cli) (args : HsArgs) (pw dev : List Nat) (hc : ClientCfgOk L c0)
    (id ty : Nat) (name : List Nat) (h : Emitted c0 args pw dev id ty name) (hz : name.head? ≠ some 122) :
    name.length + 2 ≤ L := by
  rcases (client_queries_legal_partial L c0 args pw dev hc id ty name h).within with h | h
  · exact h
  · exact absurd h.1 hz

/-- **client_datagrams_wellformed.**  Hence the datagram `dns_encode` builds for every such query, with and without the
EDNS0 record, is a well-formed RFC 1035 query that carries exactly this id, name and type (C10 `query_wellformed_client`). -/
theorem client_datagrams_wellformed (L : Nat) (c0 : Cli) (args : HsArgs) (pw dev : List Nat) (hc : ClientCfgOk L c0)
    (id ty : Nat) (name : List Nat) (h : Emitted c0 args pw dev id ty name) : WellFormedQuery id ty name := by
  have hq := client_queries_legal_partial L c0 args pw dev hc id ty name h
  intro edns
  have hty : ty < 65536 := by
    have := hq.ty_ok
    simp only [TunnelTypes, List.mem_cons, List.not_mem_nil, or_false] at this
    omega
  exact C10.query_wellformed_client id ty edns name hq.id_lt hty hq.legal

/-- **client_chunk_carries_prefix.**  In every output of the tunnel machine, every query whose name starts with the user-id
character — a data chunk of `send_chunk` — carries, with respect to the client state `c` the step ends in:
`outpkt.data[offset .. offset + sentlen)` exactly (the server's `unpack_data` of the characters between the 5-character
header and the domain, under the negotiated codec, returns these bytes: C08 `hostname_ok`), `sentlen ≥ 1` (what
`build_hostname` reported; every acknowledged fragment makes progress), and the header the server's shifts and masks read back:
user-id character, upstream seqno / fragment / last flag, downstream ack seqno / fragment (Props/C01.lean `hop_lossless_up_at`).
The second guard of `ChunkCarries` (`offset` inside the stored bytes) follows from the first for every packet of at most 64 KiB
(`client_chunk_progress`); it matters only for a compressed image longer than `outpkt.data` (a 64 KiB tun frame that does not
compress), of which `tunnel_tun` stores the first 64 KiB only while `outpkt.len` is the whole length. -/
theorem client_chunk_carries_prefix (L : Nat) (c0 : Cli) (args : HsArgs) (pw dev : List Nat) (hc : ClientCfgOk L c0)
    (o : CState × List CEvent × Next) (ho : TunOut c0 args pw dev o) (id ty : Nat) (name : List Nat)
    (hm : CEvent.query id ty name ∈ o.2.1) (hn : name.getD 0 0 = o.1.c.useridChar) :
    ChunkCarries c0.topdomain o.1.c name := by
  have hg := tunOut_good hc ho
  have hcar := hg.chunk id ty name hm hn
  intro h1 h2
  have hne : outRest o.1.c.outpkt ≠ [] := by
    intro he
    have := congrArg List.length he
    simp only [outRest, List.length_drop, List.length_take, List.length_nil] at this
    omega
  obtain ⟨g1, g2, g3, g4, g5, g6, g7, g8, g9⟩ := hcar hne
  have hlen : (outRest o.1.c.outpkt).length = min o.1.c.outpkt.len o.1.c.outpkt.data.length - o.1.c.outpkt.offset := by
    simp only [outRest, List.length_drop, List.length_take]
  refine ⟨g1, by omega, ?_, g3, g4, g5, g6, g7, g8, g9⟩
  simp only [List.length_take, List.length_drop]
  omega

/-- the packet in flight is stored completely unless it is longer than `outpkt.data` (64 KiB) -/
theorem client_packet_stored (L : Nat) (c0 : Cli) (args : HsArgs) (pw dev : List Nat) (hc : ClientCfgOk L c0)
    (o : CState × List CEvent × Next) (ho : TunOut c0 args pw dev o) :
    o.1.c.outpkt.len = 0 ∨ o.1.c.outpkt.data.length = min o.1.c.outpkt.len 65536 :=
  (tunOut_good hc ho).late.1.1.pktlen

/-- **client_chunk_progress.**  For every packet that fits `outpkt.data` (every tun frame whose compressed image has at most
64 KiB): whenever `outpkt.len > outpkt.offset`, the data query just sent took at least one byte, and not more than there are. -/
theorem client_chunk_progress (L : Nat) (c0 : Cli) (args : HsArgs) (pw dev : List Nat) (hc : ClientCfgOk L c0)
    (o : CState × List CEvent × Next) (ho : TunOut c0 args pw dev o) (id ty : Nat) (name : List Nat)
    (hm : CEvent.query id ty name ∈ o.2.1) (hn : name.getD 0 0 = o.1.c.useridChar)
    (hfit : o.1.c.outpkt.len ≤ 65536) (hmore : o.1.c.outpkt.offset < o.1.c.outpkt.len) :
    1 ≤ o.1.c.outpkt.sentlen ∧ o.1.c.outpkt.offset + o.1.c.outpkt.sentlen ≤ o.1.c.outpkt.len := by
  have hst := client_packet_stored L c0 args pw dev hc o ho
  have h := client_chunk_carries_prefix L c0 args pw dev hc o ho id ty name hm hn hmore (by omega)
  exact ⟨h.1, h.2.1⟩

/-! ### Non-vacuity: concrete sessions -/

/-- the outputs of a handshake fed with `inps`, and of the tunnel phase after it -/
def hsRun (c0 : Cli) (args : HsArgs) (pw dev : List Nat) (inps : List CInput) : HOut :=
  inps.foldl (fun o i => hstep o.1 i) (hsStart c0 args pw dev)

def tunRun (oh : HOut) (inps : List CInput) : CState × List CEvent × Next :=
  inps.foldl (fun o i => cstep o.1 i) (startTunnel oh.1.c)

theorem hsOut_run (c0 : Cli) (args : HsArgs) (pw dev : List Nat) (inps : List CInput) :
    HsOut c0 args pw dev (hsRun c0 args pw dev inps) :=
  Runs.run_inv hstep (HsOut c0 args pw dev) (fun _ => True) (fun _ i h _ => HsOut.step i h) inps (fun _ _ => trivial) _
    HsOut.start

theorem tunOut_run (c0 : Cli) (args : HsArgs) (pw dev : List Nat) (hin tin : List CInput)
    (hfin : (hsRun c0 args pw dev hin).2.2 = .finished 0) (hb : ∀ i ∈ tin, ByteInput i) :
    TunOut c0 args pw dev (tunRun (hsRun c0 args pw dev hin) tin) :=
  Runs.run_inv cstep (TunOut c0 args pw dev) ByteInput (fun _ i h hi => TunOut.step i h hi) tin hb _
    (TunOut.start (hsOut_run c0 args pw dev hin) hfin)

/-- a 76-character domain `a{35}.b{36}.com` and `-M 100`: exactly 24 characters left; query type NULL forced -/
def exTd76 : List Nat := List.replicate 35 97 ++ [46] ++ List.replicate 36 98 ++ [46, 99, 111, 109]

def exCli100 : Cli := { clientInit Cli.boot 4711 815 with topdomain := exTd76, hostnameMaxlen := 100, doQtype := 10 }

/-- the usual configuration: `t.example.com`, `hostname_maxlen` 255, type NULL forced -/
def exCli : Cli := { clientInit Cli.boot 4711 815 with topdomain := ascii "t.example.com", doQtype := 10 }

theorem exCfg : ClientCfgOk 255 exCli :=
  ⟨by decide +kernel, rfl, by omega, by decide, by decide, by decide, by decide, rfl, by decide⟩

example : ClientCfgOk 100 exCli100 :=
  ⟨by decide +kernel, rfl, by omega, by decide, by decide, by decide, by decide, rfl, by decide⟩
example : ClientCfgOk 255 exCli := exCfg

/-- a VACK reply (seed 7, user id 3) to the first version query and a login reply -/
def exReplies : List CInput :=
  [.rq ⟨9, 8542, 10, 0, 118, ascii "VACK" ++ [0, 0, 0, 7, 3]⟩,
   .rq ⟨25, 16269, 10, 0, 108, ascii "10.0.0.1-10.0.0.2-1130-27"⟩]

/-- an error reply (NXDOMAIN) to the query with id `id` whose name starts with `name0` -/
def exErr (id name0 : Nat) : CInput := .rq ⟨-1, id, 10, 3, name0, []⟩

/-- the first upstream codec probe under `-M 100`: `z` + CMC + pat128a + `.` + the domain, 118 characters -/
def exZName : List Nat := [122, 101, 116, 107] ++ Gen.pat128a ++ [46] ++ exTd76

theorem exZ_mem : CEvent.query 31723 10 exZName ∈
    (hsRun exCli100 ⟨false, true, 0⟩ [] [] (exReplies ++ [exErr 23996 121])).2.1 := by decide +kernel

/-- **upenctest_exceeds_limit** — the full-strength length bound is FALSE: with `hostname_maxlen = 100` and a 76-character
domain (a configuration `main()` accepts and C08 covers), after the version and login replies and a failed EDNS0 probe the
client sends the upstream codec probe `exZName`: 118 characters > 100.  (Confirmed on the real client: DESIGN.md, C08.) -/
theorem upenctest_exceeds_limit :
    Emitted exCli100 ⟨false, true, 0⟩ [] [] 31723 10 exZName ∧ exZName.length = 118 ∧ ¬ exZName.length + 2 ≤ 100 :=
  ⟨Or.inl ⟨_, hsOut_run exCli100 ⟨false, true, 0⟩ [] [] (exReplies ++ [exErr 23996 121]), exZ_mem⟩,
   by decide +kernel, by decide +kernel⟩

/-- non-vacuity of `client_queries_legal_partial` / `client_datagrams_wellformed` in the handshake: the version query of
`exCli` is emitted … -/
theorem exVersion_emitted : Emitted exCli ⟨false, false, 1200⟩ [] [] 8542 10 (ascii "vaaaakaqsm2.t.example.com") :=
  Or.inl ⟨_, HsOut.start, by decide +kernel⟩

/-- … and it is what the theorems say -/
example : WellFormedQuery 8542 10 (ascii "vaaaakaqsm2.t.example.com") :=
  client_datagrams_wellformed 255 exCli ⟨false, false, 1200⟩ [] [] exCfg 8542 10 (ascii "vaaaakaqsm2.t.example.com") exVersion_emitted

/-- a whole handshake of `exCli`: version and login replies, error replies to the EDNS0 probe and to the three upstream codec
probes it leads to (Base32 stays), an acknowledgement of `set fragsize 1200`: `client_handshake` returns 0 -/
def exHsInputs : List CInput :=
  exReplies ++ [exErr 23996 121, exErr 31723 122, exErr 39450 122, exErr 47177 122, .rq ⟨2, 54904, 10, 0, 110, [4, 176]⟩]

def exOh : HOut := hsRun exCli ⟨false, false, 1200⟩ [] [] exHsInputs

/-- the statics that handshake leaves: user 3 (`userid_char = '3'`), Base32, type NULL, immediate mode -/
def exCliT : Cli :=
  { exCli with randSeed := 4718, userid := 3, useridChar := 51, useridChar2 := 51, chunkid := 54904, chunkidPrev := 47177,
               chunkidPrev2 := 39450 }

/-- one run of the session gives both its return value and the statics it leaves -/
theorem exOh_eval : exOh.2.2 = .finished 0 ∧ exOh.1.c = exCliT := by decide +kernel

theorem exOh_fin : exOh.2.2 = .finished 0 := exOh_eval.1

theorem exOh_state : exOh.1.c = exCliT := exOh_eval.2

def exFrame : List Nat := [0, 0, 8, 0, 69, 0, 0, 20, 1, 2, 3, 4, 5, 6, 7, 8, 9, 10, 200, 255]

def exOt : CState × List CEvent × Next := cstep (startTunnel exCliT).1 (.tun exFrame)

theorem exOt_out : TunOut exCli ⟨false, false, 1200⟩ [] [] exOt := by
  have h0 : TunOut exCli ⟨false, false, 1200⟩ [] [] (startTunnel exOh.1.c) :=
    TunOut.start (hsOut_run exCli ⟨false, false, 1200⟩ [] [] exHsInputs) exOh_fin
  rw [exOh_state] at h0
  exact TunOut.step (.tun exFrame) h0 (by decide)

/-- the example evaluated once: the 21-byte image in flight, its one data query sent, the thread in `client_tunnel`'s `select`
for a second -/
theorem exOt_eval : exOt =
    (⟨{ exCliT with outpkt := ⟨21, 21, 0, 0x5a :: exFrame, 1, 0⟩, chunkid := 62631, chunkidPrev := 54904, chunkidPrev2 := 47177,
                    sendPingSoon := 0, lastdownstreamtime := 1000, lastrawping := 1000, sendcnt := 0, datacmc := 1 }, .tunnel⟩,
     [.query 62631 10 (ascii "3eabaliaaacaaiuaaafabaibqibiga2eascwi52.t.example.com")], .sel ⟨1000000, false, true⟩) := by
  decide +kernel

/-- non-vacuity of `client_chunk_carries_prefix`: the step emits the data query
`3eabaliaaacaaiuaaafabaibqibiga2eascwi52.t.example.com` (user 3), the state it ends in has the 21-byte image in flight with
`sentlen = 21`, and the guards of `ChunkCarries` hold -/
theorem exOt_facts :
    CEvent.query 62631 10 (ascii "3eabaliaaacaaiuaaafabaibqibiga2eascwi52.t.example.com") ∈ exOt.2.1 ∧
    (ascii "3eabaliaaacaaiuaaafabaibqibiga2eascwi52.t.example.com").getD 0 0 = exOt.1.c.useridChar ∧
    exOt.1.c.outpkt = ⟨21, 21, 0, 0x5a :: exFrame, 1, 0⟩ := by
  rw [exOt_eval]
  exact ⟨List.mem_cons_self, by decide +kernel, rfl⟩

example : ChunkCarries exCli.topdomain exOt.1.c (ascii "3eabaliaaacaaiuaaafabaibqibiga2eascwi52.t.example.com") :=
  client_chunk_carries_prefix 255 exCli ⟨false, false, 1200⟩ [] [] exCfg exOt exOt_out 62631 10
    (ascii "3eabaliaaacaaiuaaafabaibqibiga2eascwi52.t.example.com") exOt_facts.1 exOt_facts.2.1

end Iodine.C08
