import IodineModel.Props.C05Session
import IodineModel.Props.C05Continue
import IodineModel.Props.C10Main
/-
C05 from the command line on: the whole-session theorems of Props/C05Session.lean (and the non-interference theorems of
Props/C05Continue.lean, which hold in every state) restated for the process that `main()` of iodined starts — for EVERY argument vector
and environment with which `main()` reaches `tunnel()` (`Top.Starts env argv f`), every `rand()` stream, every pair of local addresses,
every run on arbitrary byte-valued inputs.  No hypothesis `ConfigOk` is needed: `C10.server_main_establishes_ConfigOk`.
-/
namespace Iodine.C05
open Iodine Iodine.Server Iodine.Server.Options

theorem anyReachable_bentry {env : Env} {argv : List (List Nat)} {f : Final} (h : Top.Starts env argv f) (rnd : List Nat)
    (d4 d6 : Nat) : AnyReachable (f.cfg d4 d6) (Top.bentry f rnd d4 d6) := by
  rw [OptL.bentry_eq_bstart h]; exact .init rnd

theorem anyReachable_from_main {env : Env} {argv : List (List Nat)} {f : Final} (h : Top.Starts env argv f) (rnd : List Nat)
    (d4 d6 : Nat) (l : List (BInput × Nat)) (hl : ∀ p ∈ l, ByteInput p.1) :
    AnyReachable (f.cfg d4 d6) (brun (Top.bentry f rnd d4 d6) l) :=
  anyReachable_brun (anyReachable_bentry h rnd d4 d6) l hl

/-- **server_never_leaves_its_buffers_from_main.**  For every command line and environment with which iodined reaches `tunnel()`, every
run `l` of the process on ARBITRARY inputs made of octets (any datagrams from any address, tun frames, forwarded replies, time-outs, any
clock values) and every further such input, over every residue of the receive buffer: the iteration returns a result, no encoder call of
the iteration stores outside its buffer, every event fits the local buffer it is sent from, and the state is within its C arrays before
and after.  No hypothesis on the configuration is left. -/
theorem server_never_leaves_its_buffers_from_main (env : Env) (argv : List (List Nat)) (f : Final) (h : Top.Starts env argv f)
    (rnd : List Nat) (d4 d6 : Nat) (l : List (BInput × Nat)) (hl : ∀ p ∈ l, ByteInput p.1)
    (inp : BInput) (hby : ByteInput inp) (now' : Nat) (res : Array Nat) :
    let b := brun (Top.bentry f rnd d4 d6) l
    biterationR res b inp now' = some (biteration b inp now') ∧
    (∀ r ∈ encoderCalls b.srv.cfg (queryOf (toInput b.srv inp)) b.td (out b.srv ⟨toInput b.srv inp, now'⟩), ¬ IsFault r) ∧
    (∀ e ∈ out b.srv ⟨toInput b.srv inp, now'⟩, EventFits e) ∧
    BufInv b ∧ BufInv (biteration b inp now').1 :=
  server_never_leaves_its_buffers _ (C10.configOk_from_main h d4 d6) _ (anyReachable_from_main h rnd d4 d6 l hl) inp hby now' res

/-- **server_iteration_bounded_from_main.**  Likewise the explicit bound on the loops of one iteration. -/
theorem server_iteration_bounded_from_main (env : Env) (argv : List (List Nat)) (f : Final) (h : Top.Starts env argv f)
    (rnd : List Nat) (d4 d6 : Nat) (l : List (BInput × Nat)) (hl : ∀ p ∈ l, ByteInput p.1)
    (inp : BInput) (hby : ByteInput inp) (now' : Nat) :
    let b := brun (Top.bentry f rnd d4 d6) l
    (∀ res, (biterationR res b inp now').isSome) ∧
    (out b.srv ⟨toInput b.srv inp, now'⟩).length ≤ 2 * b.srv.cfg.createdUsers + 10 ∧ b.srv.cfg.createdUsers ≤ 16 ∧
    iterationBudget b inp now' ≤ 11 * inputLen inp + 2818962 ∧ inputLen inp ≤ 65536 :=
  server_iteration_bounded _ (C10.configOk_from_main h d4 d6) _ (anyReachable_from_main h rnd d4 d6 l hl) inp hby now'

/-! ### Established sessions continue, for the byte-level process `main()` started -/

/-- a datagram of ANY content from an address other than `a` is a foreign input of the session machine: `read_dns` hands it on as a
query or raw frame with that source address, or drops it (a time-out iteration) -/
theorem foreign_of_dgram (s : Srv) (a src : Addr) (bytes : List Nat) (h : ¬ (src.fam = a.fam ∧ src.ip = a.ip)) :
    Foreign a (toInput s (.dgram src bytes)) := by
  show Foreign a (decodeInput s src bytes)
  rcases BytesL.decodeInput_cases s src bytes with e | e | ⟨d, _, _, e⟩ <;> rw [e]
  · trivial
  · exact h
  · exact h

/-- **foreign_run_like_ticks_from_main.**  For every command line and environment with which iodined reaches `tunnel()`, every run `l0` of
the process on ANY inputs after which session `u` is established for address `a`, and every further run `l` of byte-level inputs whose
session steps satisfy `ForeignRunOk` (datagrams of any content from other addresses, forwarder replies, time-outs; `u` unexpired; no raw
login with `u`'s hash; no packet completed for `u`'s tunnel address): slot `u` and the tunnel-data answers of `u` are exactly those of the
run in which the process merely woke up at the same moments, and `u` is still established. -/
theorem foreign_run_like_ticks_from_main (env : Env) (argv : List (List Nat)) (f : Final) (_h : Top.Starts env argv f)
    (rnd : List Nat) (d4 d6 : Nat) (l0 l : List (BInput × Nat)) (u : Nat) (a : Addr)
    (hest : Established (brun (Top.bentry f rnd d4 d6) l0).srv u a)
    (hok : ForeignRunOk u a (brun (Top.bentry f rnd d4 d6) l0).srv (bsteps (brun (Top.bentry f rnd d4 d6) l0) l)) :
    let b := brun (Top.bentry f rnd d4 d6) l0
    getUser (brun b l).srv u = getUser (runFrom b.srv (ticks (bsteps b l))) u ∧
    answersAlong u b.srv (bsteps b l) = answersAlong u b.srv (ticks (bsteps b l)) ∧
    Established (brun b l).srv u a := by
  intro b
  have := foreign_run_like_ticks b.srv b.srv u a (bsteps b l) ⟨rfl, rfl, rfl, hest.2.2.1⟩ hest hok
  rw [BytesL.runFrom_bsteps l b] at this
  exact this

/-- **established_session_still_accepted_from_main.**  … and afterwards a request from `a` naming `u` that arrives while `u` has not
expired passes the access check: it is served, not refused — whatever the other clients sent. -/
theorem established_session_still_accepted_from_main (env : Env) (argv : List (List Nat)) (f : Final) (_h : Top.Starts env argv f)
    (rnd : List Nat) (d4 d6 : Nat) (l0 l : List (BInput × Nat)) (u : Nat) (a : Addr)
    (hest : Established (brun (Top.bentry f rnd d4 d6) l0).srv u a)
    (hok : ForeignRunOk u a (brun (Top.bentry f rnd d4 d6) l0).srv (bsteps (brun (Top.bentry f rnd d4 d6) l0) l))
    (q : Query) (n : Nat) (hfrom : q.from_.fam = a.fam ∧ q.from_.ip = a.ip)
    (hlive : LiveAt (brun (brun (Top.bentry f rnd d4 d6) l0) l).srv u n) :
    C04.Accepted (handlerState (brun (brun (Top.bentry f rnd d4 d6) l0) l).srv n) q u ∧
    (getUser (handlerState (brun (brun (Top.bentry f rnd d4 d6) l0) l).srv n) u).authenticated = true := by
  have h := established_session_still_accepted (brun (Top.bentry f rnd d4 d6) l0).srv u a
    (bsteps (brun (Top.bentry f rnd d4 d6) l0) l) hest hok q n hfrom
  rw [BytesL.runFrom_bsteps l (brun (Top.bentry f rnd d4 d6) l0)] at h
  exact h hlive

/-- **established_sessions_continue_partial_from_main.**  The interleaved form: between the foreign datagrams, the bound client's own pings
naming `u` arrive (`MixedRunOk`); slot `u` and its tunnel-data answers are those of the run with every foreign step replaced by a time-out
(`mask`).  PARTIAL: of the client's own inputs only pings are covered (see Props/C05Continue.lean for the list and the reasons). -/
theorem established_sessions_continue_partial_from_main (env : Env) (argv : List (List Nat)) (f : Final) (_h : Top.Starts env argv f)
    (rnd : List Nat) (d4 d6 : Nat) (l0 l : List (BInput × Nat)) (u : Nat) (a : Addr)
    (hest : Established (brun (Top.bentry f rnd d4 d6) l0).srv u a)
    (hok : MixedRunOk u a (brun (Top.bentry f rnd d4 d6) l0).srv (bsteps (brun (Top.bentry f rnd d4 d6) l0) l)) :
    let b := brun (Top.bentry f rnd d4 d6) l0
    getUser (brun b l).srv u = getUser (runFrom b.srv (mask a (bsteps b l))) u ∧
    answersAlong u b.srv (bsteps b l) = answersAlong u b.srv (mask a (bsteps b l)) ∧
    Established (brun b l).srv u a := by
  intro b
  have := established_sessions_continue_partial b.srv b.srv u a (bsteps b l) ⟨rfl, rfl, rfl, hest.2.2.1⟩ hest hok
  rw [BytesL.runFrom_bsteps l b] at this
  exact this

/-! ### Non-vacuity: from a command line to hostile datagrams -/

/-- `iodined -f -b 5353 -P secret 10.0.0.1 t.co` -/
def exArgvFwd : List (List Nat) :=
  [Getopt.ascii "iodined", Getopt.ascii "-f", Getopt.ascii "-b", Getopt.ascii "5353", Getopt.ascii "-P", Getopt.ascii "secret",
   Getopt.ascii "10.0.0.1", Getopt.ascii "t.co"]

/-- the process started by that command line runs through the hostile run `exRun` and then receives the MX request with bytes ≥ 0x80
in its name: one encoder call, a datagram -/
def exFromArgv : Option (List Bool) :=
  (serverMain C19.exEnv exArgvFwd).final.map fun f => exCalls (brun (Top.bentry f [] 0 0) exRun) exHigh 1002

example : (serverMain C19.exEnv exArgvFwd).outcome = .run 0 ∧ exFromArgv = some [true] := by decide +kernel

example (f : Final) (h : Top.Starts C19.exEnv exArgvFwd f) (res : Array Nat) :=
  server_never_leaves_its_buffers_from_main _ _ f h [] 0 0 exRun (by decide +kernel) (.dgram C10.exSrc exHigh) (by decide +kernel)
    1002 res

end Iodine.C05
