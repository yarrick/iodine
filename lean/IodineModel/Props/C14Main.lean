import IodineModel.Props.C14
import IodineModel.Lemmas.OptTop
/-
C14 from the command line on: the run theorems of `Props/C14.lean` for every configuration with which `main` reaches
`tunnel()` (`Top.Starts`).  The state `tunnel()` is entered in is `start` of that configuration (`OptL.entry_eq_start`),
so each is its run theorem at that state.
-/
namespace Iodine.C14
open Iodine Iodine.Server Iodine.Server.Options

/-- **answers_injective_into_queries_from_main.**  For every command line and environment with which iodined reaches `tunnel()` and
every run afterwards (queries as `read_dns` delivers them: `id2 = 0`), every emitted DNS answer consumes a distinct, earlier received,
not yet answered query datagram with the same address, id, name and type.  No hypothesis on the configuration (the run theorem has none);
`WfStep` is a property of `read_dns`, not of the configuration (at byte level it is proved: `C10.session_answer_echoes_received_query_from_main`). -/
theorem answers_injective_into_queries_from_main (env : Env) (argv : List (List Nat)) (f : Final) (h : Top.Starts env argv f)
    (rnd : List Nat) (d4 d6 : Nat) (steps : List Step) (hm : Monotone (Top.entry f rnd d4 d6) steps)
    (hwf : ∀ st ∈ steps, WfStep st) : Accepts (traceFrom (Top.entry f rnd d4 d6) steps) := by
  rw [OptL.entry_eq_start h] at hm ⊢
  exact answers_injective_into_queries _ rnd steps hm hwf

end Iodine.C14
