import IodineModel.Props.C04
import IodineModel.Lemmas.C05N5
/-
C05, last clause — "iodined keeps serving; established sessions of other clients continue to work", for every sequence
of datagrams of any content: NON-INTERFERENCE OVER RUNS at the session level (`Server.next/out/runFrom`).

Setting.  Session `u` is established and bound to address `a` (family + address; the port is not compared), source
checking is on.  An input of the session machine is FOREIGN (w.r.t. `a`) if it is a DNS query or raw datagram from
another address (ANY name/type/id/content, including names that carry userid `u`), a forwarder reply (`bind`) or a
time-out.  Tun frames are the environment's traffic, not foreign inputs.

Formulation by REPLACEMENT: a run `l` is compared with the run `ticks l` in which every step is replaced by a time-out
with the same clock value.  (Removing an iteration is not equivalent: every iteration runs the top-of-loop flag
clearing and the "send real soon" sweep, which act on slot `u` exactly as they do after a `select` time-out.)

The theorems hold for EVERY state `s` (no reachability needed).  WHICH SHARED RESOURCES ARE REAL, each with a counterexample below:
 1. slot allocation — REAL.  Hypothesis `LiveAt`: `¬ last_pkt + 60 < now` when the step's handler runs (the `+60 <`
    form of `check_user_and_ip` / `find_available_user`; at exactly 60 s the slot is still safe).
 2. raw login — REAL.  Hypothesis `¬ CarriesLogin`: the foreign datagram is not a raw login frame for `u` with the hash of
    (password, seed_u + 1).
 3. inter-client forwarding — REAL (DNS data requests and raw data frames of another session).  Hypothesis
    `¬ AddressedTo … tunIp_u`: the foreign input is not an ACCEPTED data request / raw data frame of another session
    that completes a tunnelled packet whose IP destination is `u`'s tunnel address.  (Slightly stronger than "is not
    delivered to `u`": delivery also needs `u` to be the first live owner of that address.)
    The DNS case is phrased with the model's own reassembly step `C05N.dataPre` (state in which `handle_full_packet` is
    called, `upstream_ok`, `lastfrag`); the raw case is model-free.
 4. `rand()` — NOT a channel into slot `u` for foreign steps: `s.rand` differs between the runs, but nothing in slot `u`
    or in `u`'s tunnel-data answers depends on it (the conclusion compares slot `u`, not the whole state).  It becomes
    one for OWN later `V`/`R` requests of `a` (their answers carry `rand()` values): outside the theorems here.
 5. tun gating (`all_users_waiting_to_send` looks at all slots) — irrelevant for foreign steps (no tun frame is read in
    either run); REAL for own `.tun` steps of an interleaved run: not covered here (see below).
 6. forward ring `fw` / `tunnel_bind` — confirmed harmless: `bind` inputs change no slot and send only `rly` events.
 7. `find_user_by_ip` — only matters for own `.tun` steps and for own data requests completing a packet: not covered.

NOT PROVED: the interleaved version (`established_sessions_continue_partial`: run `l` vs `mask a l`) for own steps other
than PING requests naming `u`.  The step lemma `C05N.agree_iteration` holds of ANY two inputs whose handler phases keep
agreement on slot `u`; slot-locality is proved of the downstream machinery and the ping handler
(`C05N.agree_sendChunkOrDataless`, `agree_handlePing`), not of the other own handlers: `O S N I Z Y`; `handleData`, which
writes a second slot through `handle_full_packet`; `tunnelTun`, which looks at `tunsel` and `find_user_by_ip`; own `V`/`R`,
which pop `rand`.
-/
namespace Iodine.C05
open Iodine Iodine.Server Iodine.Gen

/-! ### Specification vocabulary -/

/-- the input does not come from `a` (family and address; the port does not count) -/
def Foreign (a : Addr) (inp : Input) : Prop :=
  match inp with
  | .q q => ¬ (q.from_.fam = a.fam ∧ q.from_.ip = a.ip)
  | .rawf src _ => ¬ (src.fam = a.fam ∧ src.ip = a.ip)
  | .bind _ => True
  | .tick => True
  | .tun _ => False

instance (a : Addr) (inp : Input) : Decidable (Foreign a inp) := by
  unfold Foreign; split <;> exact inferInstance

/-- session `u` is established and bound to `a`, with source checking on -/
def Established (s : Srv) (u : Nat) (a : Addr) : Prop :=
  s.cfg.checkIp = true ∧ u < s.cfg.createdUsers ∧ u < s.users.length ∧
  (getUser s u).active = true ∧ (getUser s u).disabled = false ∧ (getUser s u).authenticated = true ∧
  (getUser s u).host.fam = a.fam ∧ (getUser s u).host.ip = a.ip

instance (s : Srv) (u : Nat) (a : Addr) : Decidable (Established s u a) := by unfold Established; exact inferInstance

/-- the user a data-path answer belongs to -/
def tagUser : Tag → Option Nat
  | .ctrl => none
  | .chunk u => some u
  | .dupe u => some u
  | .cached u => some u
  | .qmem u => some u

/-- the tunnel-data answers of session `u` among the events of an iteration, in order -/
def dataAnswers (u : Nat) (evs : List Event) : List Event :=
  evs.filter fun e => match e with
    | .ans _ _ _ _ _ _ tag => tagUser tag == some u
    | _ => false

/-- the state the handler of an iteration with clock value `n` runs in -/
def handlerState (s : Srv) (n : Nat) : Srv := { (topOfLoop s).1 with now := n }

/-- hypothesis 1: `u` has not expired at clock value `n` -/
def LiveAt (s : Srv) (u n : Nat) : Prop := ¬ (getUser s u).lastPkt + 60 < n

instance (s : Srv) (u n : Nat) : Decidable (LiveAt s u n) := by unfold LiveAt; exact inferInstance

/-- hypothesis 2 (negated): the input is a raw-mode login frame for `u` carrying the hash of the password and `seed_u + 1` -/
def CarriesLogin (s : Srv) (inp : Input) (u : Nat) : Prop :=
  match inp with
  | .rawf _ bytes =>
    C04.IsRawLoginFrame (bytes.take 65536) u (Login.loginCalcC s.cfg.password ((getUser s u).seed + 1))
  | _ => False

instance (s : Srv) (inp : Input) (u : Nat) : Decidable (CarriesLogin s inp u) := by
  unfold CarriesLogin; split
  · unfold C04.IsRawLoginFrame; exact inferInstance
  · exact inferInstance

/-- IP destination of the upstream packet session `w` has reassembled in `s'`, if it is a whole IP frame -/
def completedDest (s' : Srv) (w : Nat) : Option Nat :=
  match uncompress ((getUser s' w).inpacket.data.take (getUser s' w).inpacket.len) 65536 with
  | some out => if 24 ≤ out.length then some (ipDst out) else none
  | none => none

/-- hypothesis 3 (negated): the input completes a tunnelled packet with IP destination `A` — a DNS upstream-data request
(hex digit `w` in front) that passes the access check for session `w` (`C04.Accepted`), is an accepted last fragment and
leaves a packet for `A` in `w`'s reassembly buffer; or a raw-mode data frame for a session `w` it is accepted for, whose
payload is a packet for `A` -/
def addressedTo (s : Srv) (inp : Input) (A : Nat) : Bool :=
  match inp with
  | .q q =>
    match Common.queryDatalen q.name s.cfg.topdomain with
    | some dlen =>
      match C04.hexVal (C04.lower ((C04.payload q dlen).getD 0 0)) with
      | some w =>
        let p := C05N.dataPre s w (C04.payload q dlen)
        decide (C04.Accepted s q w) && p.2.1 && p.2.2 && (completedDest p.1 w == some A)
      | none => false
    | none => false
  | .rawf src bytes =>
    let b := bytes.take 65536
    (b.take 3 == [16, 209, 158]) && (b.getD 3 0 &&& 240 == 32) &&
      decide (C04.Accepted s (rawQuery src) (b.getD 3 0 &&& 15)) &&
      (match uncompress (b.drop 4) 65536 with
       | some out => decide (24 ≤ out.length) && (ipDst out == A)
       | none => false)
  | _ => false

def AddressedTo (s : Srv) (inp : Input) (A : Nat) : Prop := addressedTo s inp A = true

instance (s : Srv) (inp : Input) (A : Nat) : Decidable (AddressedTo s inp A) := by unfold AddressedTo; exact inferInstance

/-- the hypotheses on one foreign step `⟨inp, n⟩` taken in state `s` -/
def ForeignStepOk (u : Nat) (a : Addr) (s : Srv) (st : Step) : Prop :=
  Foreign a st.inp ∧ LiveAt s u st.now ∧ ¬ CarriesLogin (handlerState s st.now) st.inp u ∧
    ¬ AddressedTo (handlerState s st.now) st.inp (getUser s u).tunIp

instance (u : Nat) (a : Addr) (s : Srv) (st : Step) : Decidable (ForeignStepOk u a s st) := by
  unfold ForeignStepOk; exact inferInstance

/-- ... on every step of a run from `s` -/
def ForeignRunOk (u : Nat) (a : Addr) : Srv → List Step → Prop
  | _, [] => True
  | s, st :: rest => ForeignStepOk u a s st ∧ ForeignRunOk u a (next s st) rest

instance decForeignRunOk (u : Nat) (a : Addr) : ∀ (s : Srv) (l : List Step), Decidable (ForeignRunOk u a s l)
  | _, [] => isTrue trivial
  | s, st :: rest => by
    unfold ForeignRunOk
    exact @instDecidableAnd _ _ inferInstance (decForeignRunOk u a (next s st) rest)

/-- the run in which every step is replaced by a time-out with the same clock value -/
def ticks (l : List Step) : List Step := l.map fun st => ⟨.tick, st.now⟩

/-- the tunnel-data answers of `u`, iteration by iteration -/
def answersAlong (u : Nat) : Srv → List Step → List (List Event)
  | _, [] => []
  | s, st :: rest => dataAnswers u (out s st) :: answersAlong u (next s st) rest

/-- the run in which every FOREIGN step is replaced by a time-out with the same clock value; all other steps are kept -/
def mask (a : Addr) (l : List Step) : List Step :=
  l.map fun st => if Foreign a st.inp then ⟨.tick, st.now⟩ else st

/-- the class of own steps covered: a DNS query inside the tunnel domain that is a PING request (`p`/`P`) naming userid
`u` (`C04.names`) -/
def OwnPing (cfg : Config) (inp : Input) (u : Nat) : Prop :=
  match inp with
  | .q q =>
    match Common.queryDatalen q.name cfg.topdomain with
    | some dlen =>
      C04.IsTunnelRequest q dlen ∧ C04.lower ((C04.payload q dlen).getD 0 0) = 112 ∧ C04.names q dlen = some (u : Int)
    | none => False
  | _ => False

instance (cfg : Config) (inp : Input) (u : Nat) : Decidable (OwnPing cfg inp u) := by
  unfold OwnPing; split
  · split <;> exact inferInstance
  · exact inferInstance

/-- a step of a mixed run: foreign and harmless (`ForeignStepOk`), or one of `a`'s own pings naming `u` -/
def MixedStepOk (u : Nat) (a : Addr) (s : Srv) (st : Step) : Prop :=
  if Foreign a st.inp then ForeignStepOk u a s st else OwnPing s.cfg st.inp u

instance (u : Nat) (a : Addr) (s : Srv) (st : Step) : Decidable (MixedStepOk u a s st) := by
  unfold MixedStepOk; exact inferInstance

def MixedRunOk (u : Nat) (a : Addr) : Srv → List Step → Prop
  | _, [] => True
  | s, st :: rest => MixedStepOk u a s st ∧ MixedRunOk u a (next s st) rest

instance decMixedRunOk (u : Nat) (a : Addr) : ∀ (s : Srv) (l : List Step), Decidable (MixedRunOk u a s l)
  | _, [] => isTrue trivial
  | s, st :: rest => by
    unfold MixedRunOk
    exact @instDecidableAnd _ _ inferInstance (decMixedRunOk u a (next s st) rest)

/-! ### Bridging to the model-side lemmas (C05N) -/

section Bridge

private theorem dataAnswers_eq (u : Nat) (evs : List Event) : dataAnswers u evs = C05N.dataOf u evs := by
  unfold dataAnswers C05N.dataOf
  congr 1
  funext e
  cases e with
  | ans _ _ _ _ _ _ tag => cases tag <;> rfl
  | _ => rfl

private theorem answersAlong_eq (u : Nat) : ∀ (l : List Step) (s : Srv), answersAlong u s l = C05N.dataTrace u s l := by
  intro l
  induction l with
  | nil => intro s; rfl
  | cons st rest ih => intro s; simp only [answersAlong, C05N.dataTrace, dataAnswers_eq, ih]

private theorem ticks_eq (l : List Step) : ticks l = C05N.ticks l := rfl

private theorem foreign_iff (a : Addr) (inp : Input) : Foreign a inp ↔ C05N.foreign a inp := by
  cases inp <;> exact Iff.rfl

private theorem est_of (s : Srv) (u : Nat) (a : Addr) (h : Established s u a) : C05N.Est s u a :=
  ⟨h.1, h.2.1, h.2.2.1, h.2.2.2.1, h.2.2.2.2.1, h.2.2.2.2.2.1, h.2.2.2.2.2.2.1, h.2.2.2.2.2.2.2⟩

private theorem est_to (s : Srv) (u : Nat) (a : Addr) (h : C05N.Est s u a) : Established s u a :=
  ⟨h.ck, h.cr, h.ln, h.act, h.en, h.au, h.fam, h.ip⟩

private theorem addressed_of_fwd (s : Srv) (inp : Input) (u : Nat) (h : C05N.fwdTo s inp u) :
    AddressedTo s inp (getUser s u).tunIp := by
  unfold AddressedTo
  cases inp with
  | q q =>
    obtain ⟨dlen, w, out, hd, hx, hcode, hp, hout, hdst, hacc⟩ := C05N.fwdTo_q_elim h
    have hacc' : C04.Accepted s q w := hacc
    obtain ⟨v, hv, hcv⟩ := C04.hexVal_of_isHex _ hx
    have hvw : v = w := by rw [hcode] at hcv; omega
    subst hvw
    obtain ⟨k1, k2⟩ := C05N.fullPacketOut_elim _ _ _ hout
    have hpay : C04.payload q dlen = C04L.inbOf q dlen := rfl
    unfold addressedTo
    simp only [hd, hpay, hv, hp, completedDest, k1, if_pos k2, hdst, hacc', decide_true, Bool.and_self,
      beq_self_eq_true]
  | rawf src bytes =>
    obtain ⟨h2, h3, ⟨out, k1, k2, hdst⟩, hacc⟩ := C05N.fwdTo_raw_elim h
    have hacc' : C04.Accepted s (rawQuery src) ((bytes.take 65536).getD 3 0 &&& 15) := hacc
    unfold addressedTo
    simp only [h2, h3, k1, k2, hdst, hacc', beq_self_eq_true, decide_true, Bool.and_self]
  | tun f => exact absurd h (fun x => x)
  | bind b => exact absurd h (fun x => x)
  | tick => exact absurd h (fun x => x)

private theorem carries_of_login (s : Srv) (inp : Input) (u : Nat) (h : C05N.rawLoginFor s inp u) : CarriesLogin s inp u := by
  cases inp with
  | rawf src bytes => exact C05N.rawLoginFor_elim h
  | q q => exact absurd h (fun x => x)
  | tun f => exact absurd h (fun x => x)
  | bind b => exact absurd h (fun x => x)
  | tick => exact absurd h (fun x => x)

private theorem tunIp_handlerState (s : Srv) (u n : Nat) :
    (getUser (handlerState s n) u).tunIp = (getUser s u).tunIp := by
  obtain ⟨b, hb⟩ := getUser_handlerPhase s n u
  rw [show getUser (handlerState s n) u = _ from hb]

private theorem stepOk_model {u : Nat} {a : Addr} {s : Srv} {st : Step} (h : ForeignStepOk u a s st) :
    C05N.foreign a st.inp ∧ ¬ (getUser s u).lastPkt + 60 < st.now ∧ ¬ C05N.rawLoginFor (C05N.pre s st.now) st.inp u ∧
      ¬ C05N.fwdTo (C05N.pre s st.now) st.inp u := by
  obtain ⟨h1, h2, h3, h4⟩ := h
  refine ⟨(foreign_iff a _).1 h1, h2, fun k => h3 (carries_of_login _ _ _ k), fun k => h4 ?_⟩
  have := addressed_of_fwd _ _ _ k
  rw [show C05N.pre s st.now = handlerState s st.now from rfl, tunIp_handlerState] at this
  exact this

private theorem runOk_model {u : Nat} {a : Addr} : ∀ (l : List Step) (s : Srv), ForeignRunOk u a s l →
    C05N.ForeignRun u a s l := by
  intro l
  induction l with
  | nil => intro s _; trivial
  | cons st rest ih => intro s h; exact ⟨stepOk_model h.1, ih _ h.2⟩

end Bridge

section Bridge2

private theorem pingFor_of_ownPing (cfg : Config) (q : Query) (u : Nat) (h : OwnPing cfg (.q q) u) :
    C05N.pingFor cfg q u := by
  unfold OwnPing at h
  dsimp only at h
  cases hd : Common.queryDatalen q.name cfg.topdomain with
  | none => rw [hd] at h; exact absurd h (fun x => x)
  | some dlen =>
    rw [hd] at h
    obtain ⟨hreq, hc, hn⟩ := h
    obtain ⟨h2, hns, hwww, hty⟩ := C04.isTunnelRequest_model hreq
    have hcmd : C04L.cmdOf ((C04L.inbOf q dlen).getD 0 0) = some .ping := by
      rcases (C04.lower_eq _ 112 (by omega)).1 hc with k | k <;>
        rw [show C04L.inbOf q dlen = C04.payload q dlen from rfl, k] <;> rfl
    have key := C04.names_cmdOf q dlen hreq
    rw [hcmd] at key
    refine ⟨dlen, hd, hns, hwww, hty, h2, hcmd, ?_⟩
    have := key.1
    rw [hn] at this
    rw [← Option.some.inj this]; simp

private theorem mixedStep_model {u : Nat} {a : Addr} {s : Srv} {st : Step} (h : MixedStepOk u a s st) :
    C05N.MixedStep u a s st := by
  unfold MixedStepOk at h
  by_cases hf : Foreign a st.inp
  · rw [if_pos hf] at h
    exact Or.inl (stepOk_model h)
  · rw [if_neg hf] at h
    refine Or.inr ⟨fun k => hf ((foreign_iff a _).2 k), ?_⟩
    obtain ⟨inp, n⟩ := st
    cases inp with
    | q q => exact ⟨q, rfl, pingFor_of_ownPing _ q u h⟩
    | rawf _ _ => exact absurd h (fun x => x)
    | tun _ => exact absurd h (fun x => x)
    | bind _ => exact absurd h (fun x => x)
    | tick => exact absurd h (fun x => x)


/-- runs of mixed steps against their masked counterparts -/
private theorem mixed_run {u : Nat} {a : Addr} : ∀ (l : List Step) (s t : Srv), C05N.Agree u s t → C05N.Est s u a →
    MixedRunOk u a s l →
    C05N.Agree u (runFrom s l) (runFrom t (mask a l)) ∧ answersAlong u s l = answersAlong u t (mask a l) ∧
      C05N.Est (runFrom s l) u a := by
  intro l
  induction l with
  | nil => intro s t h he _; exact ⟨h, rfl, he⟩
  | cons st rest ih =>
    intro s t h he hr
    have hst : (C05N.foreign a st.inp → (if Foreign a st.inp then (⟨.tick, st.now⟩ : Step) else st) = ⟨.tick, st.now⟩) ∧
        (¬ C05N.foreign a st.inp → (if Foreign a st.inp then (⟨.tick, st.now⟩ : Step) else st) = st) :=
      ⟨fun k => by rw [if_pos ((foreign_iff a _).2 k)], fun k => by rw [if_neg (fun x => k ((foreign_iff a _).1 x))]⟩
    obtain ⟨k1, k2, k3⟩ := C05N.mixed_iteration h he st _ hst (mixedStep_model hr.1)
    obtain ⟨r1, r2, r3⟩ := ih _ _ k1 k3 hr.2
    refine ⟨r1, ?_, r3⟩
    show dataAnswers u (out s st) :: answersAlong u (next s st) rest =
      dataAnswers u (out t (if Foreign a st.inp then ⟨.tick, st.now⟩ else st)) ::
        answersAlong u (next t (if Foreign a st.inp then ⟨.tick, st.now⟩ else st)) (mask a rest)
    rw [dataAnswers_eq, dataAnswers_eq, k2, r2]

private theorem mixed_of_foreign {u : Nat} {a : Addr} : ∀ (l : List Step) (s : Srv), ForeignRunOk u a s l →
    MixedRunOk u a s l ∧ mask a l = ticks l
  | [], _, _ => ⟨trivial, rfl⟩
  | st :: rest, s, h => by
    obtain ⟨h1, h2⟩ := mixed_of_foreign rest _ h.2
    have hf : Foreign a st.inp := h.1.1
    refine ⟨⟨by unfold MixedStepOk; rw [if_pos hf]; exact h.1, h1⟩, ?_⟩
    show (if Foreign a st.inp then (⟨.tick, st.now⟩ : Step) else st) :: mask a rest = ⟨.tick, st.now⟩ :: ticks rest
    rw [if_pos hf, h2]

end Bridge2

/-! ### A concrete scenario for the non-vacuity examples and the counterexamples

The scenario of Props/C04.lean: Alice (192.168.1.1) owns slot 0 (tunnel address 10.0.0.2), logged in, lazy mode, ping 21
waiting; Bob (192.168.1.2) owns slot 1 (10.0.0.3), logged in; Mallory is 192.168.1.223.  In `sA` Alice's slot also holds
query 30 to be answered "real soon", so the sweep of the next iteration sends her a (dataless) tunnel-data answer. -/
namespace Ex
open C04.Ex

def sA : Srv := setUser s5 0 fun x => { x with qs := pq 0 30 alice }

/-- a query with an arbitrary name (not inside the tunnel domain unless it ends in `.t.io`) -/
def rawq (name : List Nat) (ty id : Nat) (a : Addr) : Query := ⟨name, ty, id, a, 0, Addr.zero, Addr.zero⟩

/-- what Mallory sends: a version request (allocates slot 2), a login for Alice's userid 0 with a wrong hash, a login
with the RIGHT hash (refused: wrong source), a ping and an options request naming userid 0, a data request naming
userid 0, a raw login frame with a wrong hash, a raw data frame and a raw ping naming userid 0, a frame with the raw
magic and an unknown command, a garbage name inside the domain, an NS query, an A query for `ns.t.io`, a query outside
the domain, an empty name, a forwarder reply, a time-out -/
def mallorysRun : List Step :=
  [⟨.q (vq mallory), 1001⟩,
   ⟨.q (lqGen 0 41 mallory), 1002⟩,
   ⟨.q (lq 0 42 mallory), 1002⟩,
   ⟨.q (pq 0 8 mallory), 1003⟩,
   ⟨.q (oq mallory), 1003⟩,
   ⟨.q (mkq [48, 101, 97, 98, 97, 97, 97, 97] 12 mallory), 1004⟩,
   ⟨.rawf mallory ([16, 209, 158, 16] ++ List.replicate 16 7), 1005⟩,
   ⟨.rawf mallory ([16, 209, 158, 32] ++ 0x5a :: frame 2), 1005⟩,
   ⟨.rawf mallory [16, 209, 158, 48], 1006⟩,
   ⟨.rawf mallory [16, 209, 158, 240, 1, 2, 3], 1006⟩,
   ⟨.q (mkq [255, 0, 46, 46, 200] 13 mallory), 1007⟩,
   ⟨.q (rawq [120, 46, 116, 46, 105, 111] 2 14 mallory), 1008⟩,
   ⟨.q (rawq [110, 115, 46, 116, 46, 105, 111] 1 15 mallory), 1008⟩,
   ⟨.q (rawq [119, 119, 119, 46, 101, 120, 46, 99, 111, 109] 1 16 mallory), 1009⟩,
   ⟨.q (rawq [] 10 17 mallory), 1009⟩,
   ⟨.bind [0, 1, 2, 3, 4, 5, 6, 7, 8, 9, 10, 11, 12], 1010⟩,
   ⟨.tick, 1060⟩]

/-- Bob's upstream data request (userid 1, upstream seqno 1, fragment 0, last fragment): the compressed packet
`frame d` for 10.0.0.`d` in one fragment -/
def bobData (d : Nat) : Query :=
  mkq ([49, 101, 97, 98, 97] ++ Codec.encFull Codec.b32 (0x5a :: frame d)) 33 bob


/-- Alice's pings 22, 23, 24 among Mallory's datagrams and Bob's data request for the tun device -/
def mixedRun : List Step :=
  [⟨.q (vq mallory), 1001⟩,
   ⟨.q (pq 0 22 alice), 1002⟩,
   ⟨.q (pq 0 8 mallory), 1003⟩,
   ⟨.rawf mallory ([16, 209, 158, 32] ++ 0x5a :: frame 2), 1004⟩,
   ⟨.q (bobData 9), 1005⟩,
   ⟨.q (pq 0 23 alice), 1006⟩,
   ⟨.q (lq 0 42 mallory), 1007⟩,
   ⟨.tick, 1008⟩,
   ⟨.q (pq 0 24 alice), 1066⟩]
end Ex

/-- The facts about this scenario that are quoted after the theorems below, evaluated together: reaching `sA` takes five
iterations with two login hashes, which is most of the work behind each of them. -/
private theorem Ex.facts :
    (Established Ex.sA 0 C04.Ex.alice ∧ ForeignStepOk 0 C04.Ex.alice Ex.sA ⟨.q (C04.Ex.vq C04.Ex.mallory), 1001⟩ ∧
      dataAnswers 0 (out Ex.sA ⟨.q (C04.Ex.vq C04.Ex.mallory), 1001⟩) =
      [Event.ans C04.Ex.alice 30 10 84 (C04.Ex.pq 0 30 C04.Ex.alice).name [128, 0] (.chunk 0)] ∧
      (getUser (next Ex.sA ⟨.q (C04.Ex.vq C04.Ex.mallory), 1001⟩) 2).active = true ∧
      (getUser (next Ex.sA ⟨.tick, 1001⟩) 2).active = false) ∧
    (Established Ex.sA 0 C04.Ex.alice ∧ ForeignRunOk 0 C04.Ex.alice Ex.sA Ex.mallorysRun) ∧
    ((getUser (runFrom Ex.sA Ex.mallorysRun) 2).active = true ∧
      (getUser (runFrom Ex.sA (ticks Ex.mallorysRun)) 2).active = false ∧
      (answersAlong 0 Ex.sA Ex.mallorysRun).head? =
      some [Event.ans C04.Ex.alice 30 10 84 (C04.Ex.pq 0 30 C04.Ex.alice).name [128, 0] (.chunk 0)]) ∧
    (¬ LiveAt Ex.sA 0 1061 ∧
      getUser (next Ex.sA ⟨.q (C04.Ex.vq C04.Ex.mallory), 1061⟩) 0 ≠ getUser (next Ex.sA ⟨.tick, 1061⟩) 0) ∧
    (LiveAt Ex.sA 0 1060 ∧
      getUser (next Ex.sA ⟨.q (C04.Ex.vq C04.Ex.mallory), 1060⟩) 0 = getUser (next Ex.sA ⟨.tick, 1060⟩) 0) ∧
    (CarriesLogin (handlerState Ex.sA 1001)
      (.rawf C04.Ex.mallory ([16, 209, 158, 16] ++ Login.loginCalcC C04.Ex.cfg.password 43)) 0 ∧
      getUser (next Ex.sA ⟨.rawf C04.Ex.mallory ([16, 209, 158, 16] ++ Login.loginCalcC C04.Ex.cfg.password 43), 1001⟩) 0 ≠
      getUser (next Ex.sA ⟨.tick, 1001⟩) 0) ∧
    (AddressedTo (handlerState Ex.sA 1001) (.q (Ex.bobData 2)) (getUser Ex.sA 0).tunIp ∧
      getUser (next Ex.sA ⟨.q (Ex.bobData 2), 1001⟩) 0 ≠ getUser (next Ex.sA ⟨.tick, 1001⟩) 0 ∧
      dataAnswers 0 (out Ex.sA ⟨.q (Ex.bobData 2), 1001⟩) ≠ dataAnswers 0 (out Ex.sA ⟨.tick, 1001⟩) ∧
      ForeignStepOk 0 C04.Ex.alice Ex.sA ⟨.q (Ex.bobData 9), 1001⟩ ∧
      (out Ex.sA ⟨.q (Ex.bobData 9), 1001⟩).head? = some (Event.tunw (C04.Ex.frame 9))) ∧
    (LiveAt (runFrom Ex.sA Ex.mallorysRun) 0 1060 ∧
      C04.Accepted (handlerState (runFrom Ex.sA Ex.mallorysRun) 1060) (C04.Ex.pq 0 22 C04.Ex.alice) 0 ∧
      dataAnswers 0 (out (runFrom Ex.sA Ex.mallorysRun) ⟨.q (C04.Ex.pq 0 22 C04.Ex.alice), 1060⟩) ≠ [] ∧
      dataAnswers 0 (out (runFrom Ex.sA Ex.mallorysRun) ⟨.q (C04.Ex.pq 0 22 C04.Ex.alice), 1060⟩) =
      dataAnswers 0 (out (runFrom Ex.sA (ticks Ex.mallorysRun)) ⟨.q (C04.Ex.pq 0 22 C04.Ex.alice), 1060⟩)) ∧
    (Established Ex.sA 0 C04.Ex.alice ∧ MixedRunOk 0 C04.Ex.alice Ex.sA Ex.mixedRun) ∧
    ((mask C04.Ex.alice Ex.mixedRun).map (fun st => st.now) = [1001, 1002, 1003, 1004, 1005, 1006, 1007, 1008, 1066] ∧
      ((answersAlong 0 Ex.sA Ex.mixedRun).map List.length) = ((answersAlong 0 Ex.sA (mask C04.Ex.alice Ex.mixedRun)).map List.length) ∧
      (answersAlong 0 Ex.sA Ex.mixedRun).getD 1 [] ≠ [] ∧
      (getUser (runFrom Ex.sA Ex.mixedRun) 2).active = true ∧
      (getUser (runFrom Ex.sA (mask C04.Ex.alice Ex.mixedRun)) 2).active = false) := by
  decide +kernel

/-! ### (a) one foreign iteration -/

/-- **One foreign iteration is like a time-out for an established session.**  `s` and `t` are two server states that
agree on slot `u` (same slot contents, clock and configuration; everything else — other slots, `rand` queue, forward
ring — arbitrary).  If `u` is established for `a` in `s` and the step `⟨inp, n⟩` is foreign, finds `u` unexpired, is not
a raw login with `u`'s hash and completes no packet for `u`'s tunnel address, then after the iteration slot `u` is the
same as after a time-out iteration of `t` at the same clock value, the same tunnel-data answers of `u` were sent, and
`u` is still established for `a`. -/
theorem foreign_iteration_like_tick (s t : Srv) (u : Nat) (a : Addr) (st : Step)
    (hagree : getUser s u = getUser t u ∧ s.now = t.now ∧ s.cfg = t.cfg ∧ u < t.users.length)
    (hest : Established s u a) (hok : ForeignStepOk u a s st) :
    getUser (next s st) u = getUser (next t ⟨.tick, st.now⟩) u ∧
    dataAnswers u (out s st) = dataAnswers u (out t ⟨.tick, st.now⟩) ∧
    Established (next s st) u a := by
  have hA : C05N.Agree u s t := ⟨hagree.1, hagree.2.1, hagree.2.2.1, hest.2.2.1, hagree.2.2.2⟩
  have hm := stepOk_model hok
  obtain ⟨k1, k2, k3⟩ := C05N.mixed_iteration hA (est_of s u a hest) st ⟨.tick, st.now⟩
    ⟨fun _ => rfl, fun k => absurd hm.1 k⟩ (Or.inl hm)
  exact ⟨k1.user, by rw [dataAnswers_eq, dataAnswers_eq]; exact k2, est_to _ u a k3⟩

-- non-vacuity: Mallory's version request at t = 1001 while Alice holds query 30 for "real soon": the hypotheses hold,
-- the iteration allocates slot 2 for Mallory (so the whole states differ), and the sweep answers Alice's query 30 —
-- the same answer as in the time-out iteration.
example :
    Established Ex.sA 0 C04.Ex.alice ∧ ForeignStepOk 0 C04.Ex.alice Ex.sA ⟨.q (C04.Ex.vq C04.Ex.mallory), 1001⟩ ∧
    dataAnswers 0 (out Ex.sA ⟨.q (C04.Ex.vq C04.Ex.mallory), 1001⟩) =
      [Event.ans C04.Ex.alice 30 10 84 (C04.Ex.pq 0 30 C04.Ex.alice).name [128, 0] (.chunk 0)] ∧
    (getUser (next Ex.sA ⟨.q (C04.Ex.vq C04.Ex.mallory), 1001⟩) 2).active = true ∧
    (getUser (next Ex.sA ⟨.tick, 1001⟩) 2).active = false :=
  Ex.facts.1

/-! ### (b) runs of foreign steps -/

/-- **A run of foreign steps is like a run of time-outs for an established session.**  From states agreeing on slot `u`,
with `u` established for `a`: if every step of the run `l` satisfies `ForeignStepOk` in the state it is taken in, then
slot `u` after `l` equals slot `u` after the all-time-out run with the same clock values, the tunnel-data answers of `u`
are the same iteration by iteration, and `u` is still established for `a`.  (Applied to a prefix of `l` this gives the
equality after every prefix: `ForeignRunOk` is prefix-closed.) -/
theorem foreign_run_like_ticks (s t : Srv) (u : Nat) (a : Addr) (l : List Step)
    (hagree : getUser s u = getUser t u ∧ s.now = t.now ∧ s.cfg = t.cfg ∧ u < t.users.length)
    (hest : Established s u a) (hok : ForeignRunOk u a s l) :
    getUser (runFrom s l) u = getUser (runFrom t (ticks l)) u ∧
    answersAlong u s l = answersAlong u t (ticks l) ∧
    Established (runFrom s l) u a := by
  obtain ⟨hm, e⟩ := mixed_of_foreign l s hok
  obtain ⟨r1, r2, r3⟩ := mixed_run l s t ⟨hagree.1, hagree.2.1, hagree.2.2.1, hest.2.2.1, hagree.2.2.2⟩ (est_of s u a hest) hm
  rw [e] at r1 r2
  exact ⟨r1.user, r2, est_to _ u a r3⟩

-- non-vacuity: Mallory's whole repertoire (17 steps, see `Ex.mallorysRun`) satisfies the hypotheses from `sA`; the
-- runs differ globally (Mallory got slot 2, the `rand` queue was popped) and Alice's answers are not trivial (the first
-- iteration's sweep answers her query 30).
example : Established Ex.sA 0 C04.Ex.alice ∧ ForeignRunOk 0 C04.Ex.alice Ex.sA Ex.mallorysRun := Ex.facts.2.1
example :
    (getUser (runFrom Ex.sA Ex.mallorysRun) 2).active = true ∧
    (getUser (runFrom Ex.sA (ticks Ex.mallorysRun)) 2).active = false ∧
    (answersAlong 0 Ex.sA Ex.mallorysRun).head? =
      some [Event.ans C04.Ex.alice 30 10 84 (C04.Ex.pq 0 30 C04.Ex.alice).name [128, 0] (.chunk 0)] :=
  Ex.facts.2.2.1

/-! ### Each hypothesis is needed -/

-- (1) liveness: at t = 1061 Alice's slot (last heard at 1000) has expired; Mallory's version request takes it over.
example :
    ¬ LiveAt Ex.sA 0 1061 ∧
    getUser (next Ex.sA ⟨.q (C04.Ex.vq C04.Ex.mallory), 1061⟩) 0 ≠ getUser (next Ex.sA ⟨.tick, 1061⟩) 0 :=
  Ex.facts.2.2.2.1
-- ... while at exactly t = 1060 (the boundary of `last_pkt + 60 < now`) she is still safe
example : LiveAt Ex.sA 0 1060 ∧
    getUser (next Ex.sA ⟨.q (C04.Ex.vq C04.Ex.mallory), 1060⟩) 0 = getUser (next Ex.sA ⟨.tick, 1060⟩) 0 :=
  Ex.facts.2.2.2.2.1

-- (2) raw login: a raw login frame with the hash for seed 42 + 1 from Mallory's address rebinds Alice's slot.
example :
    CarriesLogin (handlerState Ex.sA 1001)
      (.rawf C04.Ex.mallory ([16, 209, 158, 16] ++ Login.loginCalcC C04.Ex.cfg.password 43)) 0 ∧
    getUser (next Ex.sA ⟨.rawf C04.Ex.mallory ([16, 209, 158, 16] ++ Login.loginCalcC C04.Ex.cfg.password 43), 1001⟩) 0 ≠
      getUser (next Ex.sA ⟨.tick, 1001⟩) 0 :=
  Ex.facts.2.2.2.2.2.1

-- (3) forwarding: Bob's (accepted) data request completing a packet for 10.0.0.2 is handed to Alice: her slot changes
-- and she is sent tunnel data in this iteration; the same request carrying a packet for 10.0.0.9 satisfies the
-- hypotheses (it goes to the tun device).
example :
    AddressedTo (handlerState Ex.sA 1001) (.q (Ex.bobData 2)) (getUser Ex.sA 0).tunIp ∧
    getUser (next Ex.sA ⟨.q (Ex.bobData 2), 1001⟩) 0 ≠ getUser (next Ex.sA ⟨.tick, 1001⟩) 0 ∧
    dataAnswers 0 (out Ex.sA ⟨.q (Ex.bobData 2), 1001⟩) ≠ dataAnswers 0 (out Ex.sA ⟨.tick, 1001⟩) ∧
    ForeignStepOk 0 C04.Ex.alice Ex.sA ⟨.q (Ex.bobData 9), 1001⟩ ∧
    (out Ex.sA ⟨.q (Ex.bobData 9), 1001⟩).head? = some (Event.tunw (C04.Ex.frame 9)) :=
  Ex.facts.2.2.2.2.2.2.1

/-! ### Corollary: the established session is still served -/

/-- **Established sessions continue to be accepted.**  After ANY run of foreign steps satisfying the hypotheses, a
request `q` from `a` that arrives in an iteration with clock value `n` at which `u` has not expired is ACCEPTED for `u`
(`C04.Accepted` in the state its handler runs in): the access check `check_user_and_ip` passes, so a ping or data request
naming `u` is answered on the data path and not refused with BADIP — whatever the foreign datagrams were. -/
theorem established_session_still_accepted (s : Srv) (u : Nat) (a : Addr) (l : List Step)
    (hest : Established s u a) (hok : ForeignRunOk u a s l) (q : Query) (n : Nat)
    (hfrom : q.from_.fam = a.fam ∧ q.from_.ip = a.ip) (hlive : LiveAt (runFrom s l) u n) :
    C04.Accepted (handlerState (runFrom s l) n) q u ∧
    (getUser (handlerState (runFrom s l) n) u).authenticated = true := by
  obtain ⟨_, _, he⟩ := foreign_run_like_ticks s s u a l ⟨rfl, rfl, rfl, hest.2.2.1⟩ hest hok
  obtain ⟨e1, e2, _, e4, e5, e6, e7, e8⟩ := he
  generalize runFrom s l = s' at *
  -- the handlers see slot `u` as it was, up to `q_sendrealsoon_new`
  obtain ⟨b, hb⟩ := getUser_handlerPhase s' n u
  have hb' : getUser (handlerState s' n) u = { getUser s' u with qsNew := b } := hb
  refine ⟨⟨e2, ?_, ?_, ?_, fun _ => ?_⟩, ?_⟩
  · rw [hb']; exact e4
  · rw [hb']; exact e5
  · rw [hb']; exact hlive
  · unfold C04.bound; rw [hb']; exact ⟨hfrom.1.trans e7.symm, hfrom.2.trans e8.symm⟩
  · rw [hb']; exact e6

-- non-vacuity: after Mallory's 17 steps Alice's ping 22 at t = 1060 is accepted and answered on the data path
-- (her waiting ping 21 gets the dataless answer), exactly as after 17 time-outs
example :
    LiveAt (runFrom Ex.sA Ex.mallorysRun) 0 1060 ∧
    C04.Accepted (handlerState (runFrom Ex.sA Ex.mallorysRun) 1060) (C04.Ex.pq 0 22 C04.Ex.alice) 0 ∧
    dataAnswers 0 (out (runFrom Ex.sA Ex.mallorysRun) ⟨.q (C04.Ex.pq 0 22 C04.Ex.alice), 1060⟩) ≠ [] ∧
    dataAnswers 0 (out (runFrom Ex.sA Ex.mallorysRun) ⟨.q (C04.Ex.pq 0 22 C04.Ex.alice), 1060⟩) =
      dataAnswers 0 (out (runFrom Ex.sA (ticks Ex.mallorysRun)) ⟨.q (C04.Ex.pq 0 22 C04.Ex.alice), 1060⟩) :=
  Ex.facts.2.2.2.2.2.2.2.1

/-! ### (c) interleaved runs: foreign steps among the session's own pings -/


/-- **Established sessions continue (PARTIAL: own steps restricted to pings).**  From states agreeing on slot `u`, with
`u` established for `a`: let `l` be ANY interleaving of (i) foreign steps satisfying `ForeignStepOk` (hypotheses 1–3) in
the state they are taken in and (ii) non-foreign steps that are DNS ping requests naming `u` (`OwnPing`; coming from `a`
they are the session's own keep-alives / downstream polls, answered with tunnel data).  Then slot `u` after `l` equals
slot `u` after `mask a l` (foreign steps replaced by time-outs, own steps kept), the tunnel-data answers of `u` — including
the answers to `a`'s own pings — are the same iteration by iteration, and `u` is still established for `a`.

Hypotheses beyond 1–3, i.e. what makes this `_partial`: own steps are pings only.  EXCLUDED own steps and why:
`.tun` frames (whether the frame is read depends on `all_users_waiting_to_send`, which looks at ALL slots, and its
routing on `find_user_by_ip` over all slots); own `V` (scans all slots, pops `rand`), `L`, `R` (pops `rand`);
own upstream-data requests (a completed packet is routed by `find_user_by_ip` over all slots); own requests naming
other slots; own `O S N I Z Y` (slot-local like the ping, but their handlers are not proved to be functions of the slot); raw-mode frames from `a`. -/
theorem established_sessions_continue_partial (s t : Srv) (u : Nat) (a : Addr) (l : List Step)
    (hagree : getUser s u = getUser t u ∧ s.now = t.now ∧ s.cfg = t.cfg ∧ u < t.users.length)
    (hest : Established s u a) (hok : MixedRunOk u a s l) :
    getUser (runFrom s l) u = getUser (runFrom t (mask a l)) u ∧
    answersAlong u s l = answersAlong u t (mask a l) ∧
    Established (runFrom s l) u a := by
  obtain ⟨r1, r2, r3⟩ := mixed_run l s t ⟨hagree.1, hagree.2.1, hagree.2.2.1, hest.2.2.1, hagree.2.2.2⟩ (est_of s u a hest) hok
  exact ⟨r1.user, r2, est_to _ u a r3⟩

-- non-vacuity: the hypotheses hold on `Ex.mixedRun` from `sA`; the masked run keeps exactly Alice's three pings; Alice's
-- answers are not trivial (iteration 2 answers her waiting ping 21 when ping 22 arrives) — and at t = 1066 she is still
-- served although more than 60 s have passed since the START, because her own pings refreshed `last_pkt`.
example : Established Ex.sA 0 C04.Ex.alice ∧ MixedRunOk 0 C04.Ex.alice Ex.sA Ex.mixedRun := Ex.facts.2.2.2.2.2.2.2.2.1
example :
    (mask C04.Ex.alice Ex.mixedRun).map (fun st => st.now) = [1001, 1002, 1003, 1004, 1005, 1006, 1007, 1008, 1066] ∧
    ((answersAlong 0 Ex.sA Ex.mixedRun).map List.length) = ((answersAlong 0 Ex.sA (mask C04.Ex.alice Ex.mixedRun)).map List.length) ∧
    (answersAlong 0 Ex.sA Ex.mixedRun).getD 1 [] ≠ [] ∧
    (getUser (runFrom Ex.sA Ex.mixedRun) 2).active = true ∧
    (getUser (runFrom Ex.sA (mask C04.Ex.alice Ex.mixedRun)) 2).active = false :=
  Ex.facts.2.2.2.2.2.2.2.2.2

end Iodine.C05

#print axioms Iodine.C05.foreign_iteration_like_tick
#print axioms Iodine.C05.foreign_run_like_ticks
#print axioms Iodine.C05.established_session_still_accepted
#print axioms Iodine.C05.established_sessions_continue_partial
