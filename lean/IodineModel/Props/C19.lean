import IodineModel.Login
import IodineModel.Lemmas.Login
/-
C19 — the login response is the MD5 digest of (first 32 bytes of the zero-padded password)
xor (eight big-endian repetitions of the 32-bit login challenge), as doc/proto_00000502.txt
specifies ("16 bytes MD5 hash of: (first 32 bytes of password) xor (8 repetitions of login
challenge)"; the challenge travels as 4 bytes, most significant first, in the VACK reply).
The hashed block depends on the challenge and on each of the first 32 password bytes and on
nothing else; raw-mode login uses challenge+1 towards the server and challenge-1 back.

The property statements, the specification vocabulary and the basic facts about `pad32` (helper lemmas: Lemmas/Login.lean).  MD5 is opaque in all
proofs: every statement is about the 32-byte pre-image.  Dependence of the *digest* on the
pre-image would be a collision-resistance claim about MD5 and is deliberately not stated.
The MD5 model itself is validated by evaluation: the RFC 1321 test suite at the end of this
file (kernel-checked), the same suite in Drv/Login.lean (op `md5selftest`), and the comparison
against the C code by the correspondence check.
-/
namespace Iodine.C19
open Iodine Iodine.Login

/-! ### Specification side (from the protocol text, independent of login.c) -/

/-- The password as both ends hold it: cut at 32 bytes, zero-padded to 32. -/
def pad32 (pw : List Nat) : List Nat := (pw ++ List.replicate 32 0).take 32

/-- The challenge as it appears on the wire: four bytes, most significant first. -/
def be32 (s : Nat) : List Nat := [s / 2 ^ 24 % 256, s / 2 ^ 16 % 256, s / 2 ^ 8 % 256, s % 256]

/-- "8 repetitions of login challenge" -/
def challenge8 (s : Nat) : List Nat := (List.replicate 8 (be32 s)).flatten

/-- "(first 32 bytes of password) xor (8 repetitions of login challenge)" -/
def specBlock (pw : List Nat) (s : Nat) : List Nat :=
  List.zipWith (· ^^^ ·) (pad32 pw) (challenge8 s)

/-- "16 bytes MD5 hash of" that block. -/
def loginSpec (pw : List Nat) (s : Nat) : List Nat := md5 (specBlock pw s)

def Bytes (l : List Nat) : Prop := ∀ b ∈ l, b < 256

/-! ### Raw-mode login as the code computes it
client.c `send_raw_udp_login`: `login_calculate(buf, 16, password, seed + 1)`, answer checked in
`handshake_raw_udp` against `login_calculate(hash, 16, password, seed - 1)`;
iodined.c `handle_raw_login`: compares with `users[userid].seed + 1`, replies with
`users[userid].seed - 1`.  `seed` is a C `int`; `± 1` is taken on the 32-bit pattern. -/

def rawLoginToServer (pw : List Nat) (s : Nat) : List Nat :=
  loginCalcC (pad32 pw) ((s + 1) % 2 ^ 32)

def rawLoginReply (pw : List Nat) (s : Nat) : List Nat :=
  loginCalcC (pad32 pw) ((s + 2 ^ 32 - 1) % 2 ^ 32)

/-! ### Basic facts about the spec side -/

theorem pad32_length (pw : List Nat) : (pad32 pw).length = 32 := by
  simp only [pad32, List.length_take, List.length_append, List.length_replicate]; omega

theorem pad32_bytes (pw : List Nat) (h : Bytes pw) : Bytes (pad32 pw) := by
  intro b hb
  have hb' := List.mem_of_mem_take hb
  rw [List.mem_append] at hb'
  rcases hb' with hb' | hb'
  · exact h b hb'
  · rw [List.mem_replicate] at hb'; omega

theorem pad32_idem (pw : List Nat) : pad32 (pad32 pw) = pad32 pw := by
  have h := pad32_length pw
  unfold pad32 at h ⊢
  rw [List.take_append_of_le_length (by omega), List.take_of_length_le (by omega)]

theorem challenge8_length (s : Nat) : (challenge8 s).length = 32 := by
  simp [challenge8, be32]

example : pad32 [1, 2, 3] = [1, 2, 3] ++ List.replicate 29 0 := by decide
example : challenge8 0x01020304 =
    [1, 2, 3, 4, 1, 2, 3, 4, 1, 2, 3, 4, 1, 2, 3, 4, 1, 2, 3, 4, 1, 2, 3, 4, 1, 2, 3, 4, 1, 2, 3, 4] := by
  decide

/-! ### C19.1 — the code computes the documented hash -/

/-- The buffer that `login_calculate` hands to MD5 (word-wise `htonl(ntohl(w) ^ seed)` on a
little-endian host) is the documented byte-wise xor with the big-endian challenge. -/
theorem cBlock_is_spec_block (pw : List Nat) (hpw : Bytes pw) (s : Nat) :
    cBlock (pad32 pw) s = specBlock pw s := by
  unfold cBlock specBlock challenge8 be32
  exact words_eq s 8 (pad32 pw) (pad32_length pw) (pad32_bytes pw hpw)

/-- The model's own padding is `pad32`. -/
theorem loginCalcC_eq (p : List Nat) (s : Nat) :
    loginCalcC p s = md5 (cBlock (pad32 p) (s % 2 ^ 32)) := rfl

/-- `login_calculate` = MD5 of the documented block. -/
theorem login_is_md5_of_spec_block (pw : List Nat) (hpw : Bytes pw) (s : Nat) (hs : s < 2 ^ 32) :
    loginCalcC (pad32 pw) s = loginSpec pw s := by
  rw [loginCalcC_eq, pad32_idem, Nat.mod_eq_of_lt hs, cBlock_is_spec_block pw hpw s, loginSpec]

/-- Same statement on the password as typed (the C reads the caller's zero-filled 33-byte
buffer; the model pads itself). -/
theorem login_is_md5_of_spec_block' (pw : List Nat) (hpw : Bytes pw) (s : Nat) (hs : s < 2 ^ 32) :
    loginCalcC pw s = loginSpec pw s := by
  rw [loginCalcC_eq, Nat.mod_eq_of_lt hs, cBlock_is_spec_block pw hpw s, loginSpec]

-- non-vacuity: a concrete password/challenge; the block on both sides, computed
example : cBlock (pad32 [112, 97, 115, 115]) 0x80010203 =
    [0xf0, 0x60, 0x71, 0x70, 0x80, 1, 2, 3, 0x80, 1, 2, 3, 0x80, 1, 2, 3,
     0x80, 1, 2, 3, 0x80, 1, 2, 3, 0x80, 1, 2, 3, 0x80, 1, 2, 3] := by decide +kernel
example : specBlock [112, 97, 115, 115] 0x80010203 =
    [0xf0, 0x60, 0x71, 0x70, 0x80, 1, 2, 3, 0x80, 1, 2, 3, 0x80, 1, 2, 3,
     0x80, 1, 2, 3, 0x80, 1, 2, 3, 0x80, 1, 2, 3, 0x80, 1, 2, 3] := by decide +kernel

/-! ### C19.2 — nothing but the first 32 password bytes and the challenge enters -/

/-- Password bytes beyond the 32nd are ignored. -/
theorem extra_bytes_ignored (p x : List Nat) (s : Nat) (h : 32 ≤ p.length) :
    loginCalcC (pad32 (p ++ x)) s = loginCalcC (pad32 p) s := by
  have e : pad32 (p ++ x) = pad32 p := by
    unfold pad32
    rw [List.append_assoc, List.take_append_of_le_length h, List.take_append_of_le_length h]
  rw [e]

/-- The result is a function of `pad32 pw` (and the challenge's 32-bit pattern) only. -/
theorem depends_only_on_pad32 (pw pw' : List Nat) (s s' : Nat) (h : pad32 pw = pad32 pw')
    (hs : s % 2 ^ 32 = s' % 2 ^ 32) : loginCalcC pw s = loginCalcC pw' s' := by
  rw [loginCalcC_eq, loginCalcC_eq, h, hs]

theorem loginCalcC_pad32 (pw : List Nat) (s : Nat) : loginCalcC (pad32 pw) s = loginCalcC pw s :=
  depends_only_on_pad32 _ _ s s (pad32_idem pw) rfl

example : loginCalcC (pad32 (List.replicate 32 7 ++ [1, 2, 3])) 5 = loginCalcC (pad32 (List.replicate 32 7)) 5 :=
  extra_bytes_ignored _ _ _ (by decide)
example : pad32 [1, 2] = pad32 [1, 2, 0, 0] ∧ [1, 2] ≠ [1, 2, 0, 0] := by decide

/-! ### C19.3 — the hashed block depends on the challenge and on every one of the 32 bytes -/

/-- Different challenges give different blocks (same password). -/
theorem block_injective_seed (pw : List Nat) (s s' : Nat) (hs : s < 2 ^ 32) (hs' : s' < 2 ^ 32)
    (h : specBlock pw s = specBlock pw s') : s = s' := by
  unfold specBlock at h
  have hr := zipWith_xor_inj_right _ _ _
    (by rw [pad32_length, challenge8_length]) (by rw [pad32_length, challenge8_length]) h
  unfold challenge8 at hr
  exact be_bytes_inj s s' hs hs' (rep_inj 7 _ _ rfl hr)

/-- Different padded passwords give different blocks (same challenge): each of the first 32
password bytes matters. -/
theorem block_injective_pass (pw pw' : List Nat) (s : Nat)
    (h : specBlock pw s = specBlock pw' s) : pad32 pw = pad32 pw' := by
  unfold specBlock at h
  exact zipWith_xor_inj_left _ _ _
    (by rw [pad32_length, challenge8_length]) (by rw [pad32_length, challenge8_length]) h

/-- Position-wise form: changing exactly byte `i < 32` of the padded password changes exactly
byte `i` of the block. -/
theorem block_byte (pw : List Nat) (s i : Nat) (hi : i < 32) :
    (specBlock pw s)[i]? = some ((pad32 pw).getD i 0 ^^^ (be32 s).getD (i % 4) 0) := by
  have hl := pad32_length pw
  have hi' : i < (pad32 pw).length := by omega
  unfold specBlock
  rw [List.getElem?_zipWith]
  have h1 : (pad32 pw)[i]? = some ((pad32 pw).getD i 0) := by
    rw [List.getD_eq_getElem?_getD, List.getElem?_eq_getElem hi']; rfl
  rw [h1]
  have h2 : (challenge8 s)[i]? = some ((be32 s).getD (i % 4) 0) := by
    unfold challenge8 be32
    have : i = 0 ∨ i = 1 ∨ i = 2 ∨ i = 3 ∨ i = 4 ∨ i = 5 ∨ i = 6 ∨ i = 7 ∨ i = 8 ∨ i = 9 ∨ i = 10 ∨
        i = 11 ∨ i = 12 ∨ i = 13 ∨ i = 14 ∨ i = 15 ∨ i = 16 ∨ i = 17 ∨ i = 18 ∨ i = 19 ∨ i = 20 ∨
        i = 21 ∨ i = 22 ∨ i = 23 ∨ i = 24 ∨ i = 25 ∨ i = 26 ∨ i = 27 ∨ i = 28 ∨ i = 29 ∨ i = 30 ∨
        i = 31 := by omega
    rcases this with h | h | h | h | h | h | h | h | h | h | h | h | h | h | h | h | h | h | h | h |
      h | h | h | h | h | h | h | h | h | h | h | h <;> subst h <;> rfl
  rw [h2]

example : specBlock [1] 0 ≠ specBlock [1] 1 := by decide +kernel
example : specBlock (List.replicate 31 9 ++ [1]) 77 ≠ specBlock (List.replicate 31 9 ++ [2]) 77 := by
  decide +kernel

/-! ### C19.4 — raw-mode login: challenge+1 to the server, challenge-1 back -/

/-- What the two raw-mode hashes are, in terms of the documented block. -/
theorem raw_is_spec (pw : List Nat) (hpw : Bytes pw) (s : Nat) :
    rawLoginToServer pw s = loginSpec pw ((s + 1) % 2 ^ 32) ∧
    rawLoginReply pw s = loginSpec pw ((s + 2 ^ 32 - 1) % 2 ^ 32) :=
  ⟨login_is_md5_of_spec_block pw hpw _ (Nat.mod_lt _ (by decide)),
   login_is_md5_of_spec_block pw hpw _ (Nat.mod_lt _ (by decide))⟩

/-- The three hashed blocks (DNS login, raw login to the server, raw reply) are pairwise
different for every challenge — including the wrap-around cases `s = 2^32-1` and `s = 0` — so a
replayed DNS-mode login hash is not computed from the block the raw login expects, nor can the
client's raw login be echoed back as the server's reply. -/
theorem raw_pm1 (pw : List Nat) (s : Nat) (hs : s < 2 ^ 32) :
    specBlock pw ((s + 1) % 2 ^ 32) ≠ specBlock pw s ∧
    specBlock pw ((s + 2 ^ 32 - 1) % 2 ^ 32) ≠ specBlock pw s ∧
    specBlock pw ((s + 1) % 2 ^ 32) ≠ specBlock pw ((s + 2 ^ 32 - 1) % 2 ^ 32) := by
  have m1 : (s + 1) % 2 ^ 32 < 2 ^ 32 := Nat.mod_lt _ (by decide)
  have m2 : (s + 2 ^ 32 - 1) % 2 ^ 32 < 2 ^ 32 := Nat.mod_lt _ (by decide)
  refine ⟨fun h => ?_, fun h => ?_, fun h => ?_⟩
  · have := block_injective_seed pw _ _ m1 hs h; omega
  · have := block_injective_seed pw _ _ m2 hs h; omega
  · have := block_injective_seed pw _ _ m1 m2 h; omega

-- wrap-around cases are covered
example : (0xffffffff + 1) % 2 ^ 32 = 0 ∧ (0 + 2 ^ 32 - 1) % 2 ^ 32 = 0xffffffff := by decide
example : specBlock [112] ((0xffffffff + 1) % 2 ^ 32) ≠ specBlock [112] 0xffffffff :=
  (raw_pm1 [112] 0xffffffff (by decide)).1

/-! ### Non-vacuity of the MD5 model: the RFC 1321 (appendix A.5) test suite, checked by the kernel
(messages are the ASCII codes of the RFC's strings; `Drv/Login.lean` `selfTest` runs the same
vectors from the strings themselves). -/

/-- MD5 ('') = d41d8cd98f00b204e9800998ecf8427e -/
theorem md5_rfc_empty :
    md5 [] =
      [0xd4, 0x1d, 0x8c, 0xd9, 0x8f, 0x00, 0xb2, 0x04, 0xe9, 0x80, 0x09, 0x98, 0xec, 0xf8, 0x42, 0x7e] := by
  decide +kernel

/-- MD5 ('a') = 0cc175b9c0f1b6a831c399e269772661 -/
theorem md5_rfc_a :
    md5 [97] =
      [0x0c, 0xc1, 0x75, 0xb9, 0xc0, 0xf1, 0xb6, 0xa8, 0x31, 0xc3, 0x99, 0xe2, 0x69, 0x77, 0x26, 0x61] := by
  decide +kernel

/-- MD5 ('abc') = 900150983cd24fb0d6963f7d28e17f72 -/
theorem md5_rfc_abc :
    md5 [97, 98, 99] =
      [0x90, 0x01, 0x50, 0x98, 0x3c, 0xd2, 0x4f, 0xb0, 0xd6, 0x96, 0x3f, 0x7d, 0x28, 0xe1, 0x7f, 0x72] := by
  decide +kernel

/-- MD5 ('message digest') = f96b697d7cb7938d525a2f31aaf161d0 -/
theorem md5_rfc_message_digest :
    md5 [109, 101, 115, 115, 97, 103, 101, 32, 100, 105, 103, 101, 115, 116] =
      [0xf9, 0x6b, 0x69, 0x7d, 0x7c, 0xb7, 0x93, 0x8d, 0x52, 0x5a, 0x2f, 0x31, 0xaa, 0xf1, 0x61, 0xd0] := by
  decide +kernel

/-- MD5 ('abcdefghijklmnopqrstuvwxyz') = c3fcd3d76192e4007dfb496cca67e13b -/
theorem md5_rfc_alphabet :
    md5 [97, 98, 99, 100, 101, 102, 103, 104, 105, 106, 107, 108, 109, 110, 111, 112, 113, 114, 115,
      116, 117, 118, 119, 120, 121, 122] =
      [0xc3, 0xfc, 0xd3, 0xd7, 0x61, 0x92, 0xe4, 0x00, 0x7d, 0xfb, 0x49, 0x6c, 0xca, 0x67, 0xe1, 0x3b] := by
  decide +kernel

/-- MD5 ('ABCDEFGHIJKLMNOPQRSTUVWXYZabcdefghijklmnopqrstuvwxyz0123456789') = d174ab98d277d9f5a5611c2c9f419d9f -/
theorem md5_rfc_alnum62 :
    md5 [65, 66, 67, 68, 69, 70, 71, 72, 73, 74, 75, 76, 77, 78, 79, 80, 81, 82, 83, 84, 85, 86, 87, 88,
      89, 90, 97, 98, 99, 100, 101, 102, 103, 104, 105, 106, 107, 108, 109, 110, 111, 112, 113, 114,
      115, 116, 117, 118, 119, 120, 121, 122, 48, 49, 50, 51, 52, 53, 54, 55, 56, 57] =
      [0xd1, 0x74, 0xab, 0x98, 0xd2, 0x77, 0xd9, 0xf5, 0xa5, 0x61, 0x1c, 0x2c, 0x9f, 0x41, 0x9d, 0x9f] := by
  decide +kernel

/-- MD5 ('12345678901234567890123456789012345678901234567890123456789012345678901234567890') = 57edf4a22be3c955ac49da2e2107b67a -/
theorem md5_rfc_digits80 :
    md5 [49, 50, 51, 52, 53, 54, 55, 56, 57, 48, 49, 50, 51, 52, 53, 54, 55, 56, 57, 48, 49, 50, 51, 52,
      53, 54, 55, 56, 57, 48, 49, 50, 51, 52, 53, 54, 55, 56, 57, 48, 49, 50, 51, 52, 53, 54, 55, 56,
      57, 48, 49, 50, 51, 52, 53, 54, 55, 56, 57, 48, 49, 50, 51, 52, 53, 54, 55, 56, 57, 48, 49, 50,
      51, 52, 53, 54, 55, 56, 57, 48] =
      [0x57, 0xed, 0xf4, 0xa2, 0x2b, 0xe3, 0xc9, 0x55, 0xac, 0x49, 0xda, 0x2e, 0x21, 0x07, 0xb6, 0x7a] := by
  decide +kernel

/-! Concrete login hashes; the right-hand sides were produced by the real `login_calculate`
(gcc, x86-64) for password "pass" and challenge 0x80010203, challenge+1, challenge-1, and for
the empty password with challenge 0. -/
example : loginCalcC [] 0 = [0x70, 0xbc, 0x8f, 0x4b, 0x72, 0xa8, 0x69, 0x21, 0x46, 0x8b, 0xf8, 0xe8, 0x44, 0x1d, 0xce, 0x51] := by
  decide +kernel
example : loginCalcC (pad32 [112, 97, 115, 115]) 0x80010203 =
    [0x6c, 0x20, 0x57, 0x1c, 0x8a, 0xf6, 0xa3, 0x37, 0x8e, 0x7a, 0xcb, 0x26, 0xf0, 0x4d, 0x17, 0x4e] := by
  decide +kernel
example : rawLoginToServer [112, 97, 115, 115] 0x80010203 =
    [0xbc, 0xc1, 0x25, 0x9e, 0xdd, 0xbd, 0x84, 0xe1, 0xb4, 0xd4, 0x3f, 0x28, 0x69, 0x1f, 0xb0, 0x68] := by
  decide +kernel
example : rawLoginReply [112, 97, 115, 115] 0x80010203 =
    [0x36, 0xb8, 0x3a, 0xc7, 0x95, 0xaa, 0x62, 0xdd, 0x0f, 0xdc, 0xc9, 0x9c, 0xdb, 0x49, 0x2f, 0x8a] := by
  decide +kernel

end Iodine.C19
