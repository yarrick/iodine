import IodineModel.Codec.Inst
import IodineModel.Lemmas.Encoding
import IodineModel.Props.C07
/-
C08 — upstream query names are legal, within the limit, and decode to what was sent.

The name a sender puts into a query is `hdr ++ (build_hostname …)`, with a header of 1
character (`send_packet`: p, v, l, n …, payload always Base32) or 5 characters (`send_chunk`,
`send_fragsize_probe`, payload in the negotiated codec).  The theorems quantify over every
hostname limit L in 100..255, every legal tunnel domain with at least 24 characters left, every
well-formed codec whose alphabet contains no dot, every non-empty payload and both header sizes.
Matching of the built name against the (possibly wildcard) server domain is C17's subject.
-/
namespace Iodine.C08
open Iodine Iodine.Codec Iodine.Encoding

/-- the hypotheses of the property, as one record -/
structure Setting (c : Codec) (L h : Nat) (hdr td d : List Nat) : Prop where
  wf : WF c
  nodot : ∀ ch ∈ c.tbl, ch ≠ DOT
  hL : 100 ≤ L ∧ L ≤ 255
  hh : hdr.length = h ∧ (h = 1 ∨ h = 5)
  hdr_nodot : NoDot hdr
  /-- at least 24 characters left after the domain; 3..128 characters -/
  td_len : 3 ≤ td.length ∧ td.length ≤ 128 ∧ td.length + 24 ≤ L
  /-- the domain itself is a legal name (implied by `check_topdomain`: `CliQ.env_of_valid`, Lemmas/CliQ1.lean) -/
  td_legal : legalAux 0 td = true
  d_ne : d ≠ []
  d_bytes : Bytes d

/-- the client's buffer sizes: `sizeof(buf) - h` with `char buf[4096]` -/
def buflen (h : Nat) : Nat := 4096 - h

structure Guarantee (c : Codec) (L h : Nat) (hdr td d : List Nat) (b : Built) : Prop where
  /-- at most L characters (in fact two less: the "2 safety" of the source) -/
  within_L : (hdr ++ b.name).length + 2 ≤ L
  /-- labels of 1..63 bytes … -/
  legal : legalAux 0 (hdr ++ b.name) = true
  /-- … and at most 255 bytes on the wire (dotted length + 2) -/
  wire : (hdr ++ b.name).length + 2 ≤ 255
  /-- ends in the tunnel domain, at a label boundary -/
  suffix : ∃ pre, hdr ++ b.name = pre ++ [DOT] ++ td
  /-- carries a non-empty prefix of the payload, of exactly the reported length -/
  used : 1 ≤ b.used ∧ b.used ≤ d.length
  /-- the server's extraction of the data part yields exactly that prefix -/
  extract : serverExtract c h ((hdr ++ b.name).length - td.length) (hdr ++ b.name) = d.take b.used

theorem tables_nodot : (∀ ch ∈ b32.tbl, ch ≠ DOT) ∧ (∀ ch ∈ b64.tbl, ch ≠ DOT) ∧
    (∀ ch ∈ b64u.tbl, ch ≠ DOT) ∧ (∀ ch ∈ b128.tbl, ch ≠ DOT) :=
  ⟨fun ch h => (C07.doc_plain (.inl (C07.table_ok_b32.2.2 ch h).1)).1,
   fun ch h => (C07.doc_plain (.inr (.inl (C07.table_ok_b64.2.2 ch h).1))).1,
   fun ch h => (C07.doc_plain (.inr (.inr (.inl (C07.table_ok_b64u.2.2 ch h).1)))).1,
   fun ch h => (C07.doc_plain (.inr (.inr (.inr (C07.table_ok_b128.2.2 ch h).1)))).1⟩

theorem hostname_ok {c : Codec} {L h : Nat} {hdr td d : List Nat} (S : Setting c L h hdr td d) (prev : Nat) :
    ∃ b, buildHostname c L (buflen h) prev td d = some b ∧ Guarantee c L h hdr td d b := by
  obtain ⟨wf, nodot, ⟨hL1, hL2⟩, ⟨hh1, hh2⟩, hdr_nodot, ⟨htd1, htd2, htd3⟩, td_legal, d_ne, d_bytes⟩ := S
  have hbuf : min L (buflen h) = L := by unfold buflen; omega
  obtain ⟨space0, hs0⟩ : ∃ s0, s0 = L - td.length - 8 := ⟨_, rfl⟩
  have hsp : hostSpace (min L (buflen h)) td.length = space0 - space0 / 57 := by rw [hbuf, hs0]; rfl
  have hb := buildHostname_eq c L (buflen h) prev td d (by omega)
  generalize hostSpace (min L (buflen h)) td.length = space at hsp hb
  have hC := C07.capacity_contract wf space d d_bytes
  have hP := C07.progress wf space d (by omega) d_ne
  have hnd : NoDot (enc c space d).chars := fun ch hc => nodot ch (C07.chars_in_table wf space d ch hc)
  generalize enc c space d = r at hC hP hnd hb
  have hlo := nchars_lo wf.k_ok r.used
  rw [← hC.ratio] at hlo
  have hk7 : c.k * r.chars.length ≤ 7 * r.chars.length := Nat.mul_le_mul_right _ (by rcases wf.k_ok with h | h | h <;> omega)
  have hne : r.chars ≠ [] := by
    intro he
    rw [he] at hlo
    simp at hlo
    omega
  replace hb := hb hnd (Or.inl hne)
  -- the name: header, dotted text, '.', domain
  have hfit := inner_fits r.chars hne space0 (by rw [← hsp]; exact hC.len_le)
  have hused : r.used ≤ 65536 := by have := hC.len_le; omega
  clear hsp hlo hk7 hbuf
  have hlen : (hdr ++ (inner 0 r.chars ++ [DOT] ++ td)).length = h + (inner 0 r.chars).length + 1 + td.length := by
    simp only [List.length_append, List.length_cons, List.length_nil, hh1]; omega
  have hcut : (hdr ++ (inner 0 r.chars ++ [DOT] ++ td)).length - td.length = (hdr ++ (inner 0 r.chars ++ [DOT])).length := by
    simp only [List.length_append]; omega
  refine ⟨_, hb, ?_, ?_, ?_, ⟨hdr ++ inner 0 r.chars, by simp⟩, ⟨hP, hC.used_le⟩, ?_⟩ <;> dsimp only
  · rw [hlen]; omega
  · rw [← List.append_assoc, legalAux_append, scan_append, scan_nodot 0 hdr hdr_nodot]
    simp only [Option.bind_some, Nat.zero_add]
    rw [scan_inner r.chars hnd 0 hdr.length (by omega) (by omega) hne]
    exact td_legal
  · rw [hlen]; omega
  · unfold serverExtract unpackData
    rw [hcut, show hdr ++ (inner 0 r.chars ++ [DOT] ++ td) = (hdr ++ (inner 0 r.chars ++ [DOT])) ++ td by simp,
      List.take_left' rfl, ← hh1, List.drop_left' rfl, undotify_append_dot, undotify_inner r.chars hnd]
    exact hC.decodes 65536 hused

/-- The data part the server cuts out is longer than the header: otherwise it would extract nothing, not the non-empty
prefix the name carries. -/
theorem Guarantee.hdr_lt_datalen {c : Codec} {L h : Nat} {hdr td d : List Nat} {b : Built}
    (G : Guarantee c L h hdr td d b) : h < (hdr ++ b.name).length - td.length := by
  refine Nat.lt_of_not_le fun hn => ?_
  have hext := G.extract
  unfold serverExtract at hext
  rw [List.drop_eq_nil_of_le (by rw [List.length_take]; omega), unpackData_nil] at hext
  have h0 := congrArg List.length hext
  rw [List.length_take, List.length_nil] at h0
  have := G.used
  omega

/-! Non-vacuity: a concrete setting, and the built name for it. -/
example : Setting b32 100 1 [112] [116, 46, 99, 111] [1, 2, 3] :=
  ⟨C07.wf_b32, tables_nodot.1, by omega, by simp, by unfold NoDot; decide, by simp, by decide,
   by simp, by unfold Bytes; decide⟩
example : (buildHostname b32 100 4095 112 [116, 46, 99, 111] [104, 105]).map (·.used) = some 2 := by
  decide +kernel

end Iodine.C08
