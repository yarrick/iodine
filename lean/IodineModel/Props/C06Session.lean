import IodineModel.Props.C06
import IodineModel.Props.C08Session
import IodineModel.Lemmas.C06Sb
import IodineModel.Lemmas.C06Sc
/-
C06, lifted to whole sessions of the CLIENT (handshake + tunnel phase): for EVERY sequence of datagrams, timeouts and tun frames

 (a) replies that do not match the client's recent queries are ignored — with the precise list of what "ignored" leaves changeable;
 (b) every list of the model that stands for a C array stays within the array (`CliBufInv`, `HsBufInv`), and what is handed to
     `write_tun`, `send_raw` and `system()` respects the sizes / the validation;
 (c) the client cannot be wedged: the handshake returns within 162 timeouts (Props/C06.lean), and in the tunnel phase two timeouts
     never pass without a datagram being sent or `client_tunnel` returning;
 and the compositions `handshake_session_safe`, `tunnel_session_safe`, `client_session_live`, `client_session_safe` over the
 reachability predicates of Props/C08Session.lean.

Three predicates the statements below read stand in Lemmas/C06Events.lean: what an event of the tunnel phase may be
(`C06.TunEventOk`), what an event of the handshake may be (`C06.HsEventOk`), what counts as sending (`C06.IsTx`).

What `tunnel_dns` does BEFORE the id test (read off the C text, client.c:796-927, and proved below as the list of fields
`OnlyBookkeeping` does not mention): `send_ping_soon` (700 / 900 / 0 / 500), the SERVFAIL counter `packrecv_servfail` (and, at its
fifth SERVFAIL in lazy mode, `selecttimeout = 1` and the two `send_query` counters), `packrecv`, `send_query_recvcnt`, `packrecv_oos`
(and at the fifth out-of-sequence reply in lazy mode again `selecttimeout = 1`, counters reset) — and, if `send_ping_soon` was non-zero,
the ping that was due is sent at once (`send_ping` → `send_query`: id window, CMC seed; its "too few answers" block may switch lazy
mode off and park the thread in `handshake_lazyoff`).  NOT changed: `inpkt`, `outpkt`, the sequence numbers, `lastdownstreamtime`
(so a spoofer cannot keep a dead session alive), codecs, user id; nothing is written to the tun device.
-/
namespace Iodine.C06
open Iodine Iodine.Client

/-! ## (a) Replies that do not match the recent queries are ignored -/

/-- the reply's id is none of the ids of the client's last three queries (`chunkid`, `chunkid_prev`, `chunkid_prev2`) -/
def StaleId (c : Cli) (q : Rq) : Prop := q.id ≠ c.chunkid ∧ q.id ≠ c.chunkidPrev ∧ q.id ≠ c.chunkidPrev2

/-- the question the reply echoes does not start with a character a tunnel-phase query starts with (`P`/`p`: ping; the user-id
hex digit in either case: data) -/
def ForeignName (c : Cli) (q : Rq) : Prop :=
  q.name0 ≠ 80 ∧ q.name0 ≠ 112 ∧ q.name0 ≠ c.useridChar ∧ q.name0 ≠ c.useridChar2

/-- `c'` differs from `c` at most in the bookkeeping of the send scheduler: the timers `send_ping_soon` / `selecttimeout`, the
counters of `tunnel_dns` and `send_query`, the id window and the CMC seed (a ping was sent), the lazy flag (that ping's `send_query`
gave up on lazy mode), `running` (the 60 s rule, which does not look at the datagram).  Everything listed here is UNCHANGED. -/
structure OnlyBookkeeping (c c' : Cli) : Prop where
  inpkt : c'.inpkt = c.inpkt
  outpkt : c'.outpkt = c.outpkt
  outchunkresent : c'.outchunkresent = c.outchunkresent
  lastdownstreamtime : c'.lastdownstreamtime = c.lastdownstreamtime
  userid : c'.userid = c.userid ∧ c'.useridChar = c.useridChar ∧ c'.useridChar2 = c.useridChar2
  codecs : c'.dataenc = c.dataenc ∧ c'.downenc = c.downenc ∧ c'.doQtype = c.doQtype ∧ c'.edns0 = c.edns0
  conn : c'.conn = c.conn
  names : c'.topdomain = c.topdomain ∧ c'.hostnameMaxlen = c.hostnameMaxlen ∧ c'.datacmc = c.datacmc
  clock : c'.now = c.now ∧ c'.lastrawping = c.lastrawping

theorem onlyBookkeeping_of_keep {c c' : Cli} (h : C06L.Keep c c') : OnlyBookkeeping c c' :=
  ⟨h.inpkt, h.outpkt, h.resent, h.ldt, ⟨h.uid, h.uc, h.uc2⟩, ⟨h.enc, h.dn, h.ty, h.edns⟩, h.conn, ⟨h.td, h.ml, h.cmc⟩,
   ⟨h.now, h.lrp⟩⟩

instance (c : Cli) (q : Rq) : Decidable (StaleId c q) := by unfold StaleId; infer_instance
instance (c : Cli) (q : Rq) : Decidable (ForeignName c q) := by unfold ForeignName; infer_instance

def IsQuery : CEvent → Prop
  | .query _ _ _ => True
  | _ => False

/-- **tunnel_unmatched_reply_ignored** (DNS mode, the thread in `client_tunnel`'s `select`).  A reply whose id is none of the last
three query ids, or whose question does not start with `P`, `p` or the user-id digit — whatever its length, header bytes, record
type, RCODE and content — changes nothing but the scheduler's bookkeeping: no tun write, no change of `inpkt` / `outpkt` / sequence
numbers / `lastdownstreamtime` / codecs.  The only thing it can trigger is the ping that was already due (`send_ping_soon ≠ 0`), plus
the lazy-off request that ping's `send_query` may decide on: at most two events, both queries; none at all when no ping was due or
the name is foreign. -/
theorem tunnel_unmatched_reply_ignored (s : CState) (hph : s.ph = .tunnel) (hconn : s.c.conn = .dnsNull) (q : Rq)
    (hu : StaleId s.c q ∨ ForeignName s.c q) :
    OnlyBookkeeping s.c (cstep s (.rq q)).1.c ∧
    (∀ e ∈ (cstep s (.rq q)).2.1, IsQuery e) ∧ (cstep s (.rq q)).2.1.length ≤ 2 ∧
    (s.c.sendPingSoon = 0 ∨ ForeignName s.c q → (cstep s (.rq q)).2.1 = []) := by
  obtain ⟨c, ph⟩ := s
  simp only at hph hconn hu
  subst hph
  have e1 : (recentId c q.id = false) ↔ StaleId c q := by
    simp only [recentId, StaleId, Bool.or_eq_false_iff, beq_eq_false_iff_ne, ne_eq, and_assoc]
  have e2 : (notData c q.name0 = true) ↔ ForeignName c q := by
    simp only [notData, ForeignName, Bool.and_eq_true, bne_iff_ne, ne_eq, and_assoc]
  have h := C06L.tunnelStep_unmatched c q hconn (hu.imp e1.mpr e2.mpr)
  refine ⟨onlyBookkeeping_of_keep h.1, h.2.1.all fun _ _ _ => trivial, h.2.2.1, ?_⟩
  intro hz
  exact h.2.2.2 (hz.imp id e2.mpr)

/-- **tun_write_needs_match** (DNS mode).  Contrapositive, for every state and phase: a step on a reply writes to the tun device
only if the thread was in `client_tunnel`'s `select`, the reply's id is one of the last three query ids AND its question starts with
an expected character.  (While the thread is inside `handshake_lazyoff` nothing is ever delivered.) -/
theorem tun_write_needs_match (s : CState) (hconn : s.c.conn = .dnsNull) (q : Rq) (f : List Nat)
    (hf : CEvent.tunw f ∈ (cstep s (.rq q)).2.1) : s.ph = .tunnel ∧ ¬ StaleId s.c q ∧ ¬ ForeignName s.c q := by
  have hq : ∀ l : List CEvent, (∀ e ∈ l, IsQuery e) → CEvent.tunw f ∉ l := fun l h hm => h _ hm
  cases hph : s.ph with
  | idle =>
    obtain ⟨c, ph⟩ := s
    simp only at hph
    subst hph
    cases hf
  | lazyoff i k =>
    obtain ⟨c, ph⟩ := s
    simp only at hph
    subst hph
    exact absurd hf (hq _ ((onlyQ_lazyoffStep c i k (.rq q)).all fun _ _ _ => trivial))
  | tunnel =>
    refine ⟨rfl, ?_, ?_⟩
    · intro h
      exact hq _ (tunnel_unmatched_reply_ignored s hph hconn q (Or.inl h)).2.1 hf
    · intro h
      exact hq _ (tunnel_unmatched_reply_ignored s hph hconn q (Or.inr h)).2.1 hf

/-- **lazyoff_unfitting_reply_ignored.**  While the thread waits in `handshake_lazyoff` (reached from `send_query` in mid-transfer)
a reply that does not carry the id of the latest query, or whose question does not start with `o`/`O`, changes NOTHING: same state,
no event, same `select`. -/
theorem lazyoff_unfitting_reply_ignored (s : CState) (i : Nat) (k : Resume) (hph : s.ph = .lazyoff i k) (q : Rq)
    (hu : q.id ≠ s.c.chunkid ∨ (q.name0 ≠ 111 ∧ q.name0 ≠ 79)) :
    cstep s (.rq q) = (s, [], .sel waitSel) := by
  obtain ⟨c, ph⟩ := s
  simp only at hph hu
  subst hph
  exact C06L.lazyoffStep_unmatched c i k q hu

/-- **raw_unmatched_frame_ignored** (raw UDP mode).  A datagram that is shorter than the 4-byte header, does not start with the
magic `10 d1 9e`, or carries another user nibble has exactly the effect of an empty datagram: `read_dns_withq` drops it before
`lastdownstreamtime` or the tun device are touched (what remains is what the loop does on ANY wake-up: 60 s rule, keepalive). -/
theorem raw_unmatched_frame_ignored (s : CState) (hconn : s.c.conn = .rawUdp) (b : List Nat)
    (hu : b.length < 4 ∨ b.take 3 ≠ [16, 209, 158] ∨ ((b.getD 3 0 % 16 : Nat) : Int) ≠ s.c.userid) :
    cstep s (.rawans b) = cstep s (.rawans []) := by
  obtain ⟨c, ph⟩ := s
  simp only at hconn hu
  have hkeep : ∀ c' : Cli, c'.userid = c.userid → readRaw c' b = readRaw c' [] := by
    intro c' hc'
    rw [C06L.readRaw_unmatched c' b, C06L.readRaw_unmatched c' []]
    · left; decide
    · rcases hu with h | h | h
      · exact Or.inl h
      · exact Or.inr (Or.inl h)
      · refine Or.inr (Or.inr ?_)
        rw [hc']
        have : (b.getD 3 0 &&& Gen.RAW_HDR_USR_MASK : Nat) = b.getD 3 0 % 16 := Nat.and_two_pow_sub_one_eq_mod _ 4
        rw [this]; exact h
  have hinput : ∀ c' : Cli, c'.userid = c.userid → tunnelDnsInput c' (.rawans b) = tunnelDnsInput c' (.rawans []) := by
    intro c' hc'
    unfold tunnelDnsInput
    split
    · rfl
    · simp only [tunnelDnsRaw, hkeep c' hc']
  cases ph with
  | idle => rfl
  | lazyoff i k => rfl
  | tunnel =>
    show tunnelStep c (.rawans b) = tunnelStep c (.rawans [])
    have hu' : (rawKeepalive (afterSelect c)).1.userid = c.userid :=
      ((frame_afterSelect c).book.trans (frame_rawKeepalive _)).get (·.userid) fun _ => rfl
    unfold tunnelStep
    simp only [fire]
    rw [hinput _ hu']
    rfl

/-- **handshake_unfitting_reply_ignored.**  In every `select` of the handshake that belongs to `handshake_waitdns` (all but the raw
login's own), a reply that does not carry the id of the LATEST query, or whose question starts with another character than the one
the waiting function expects (either case), has no effect but on the receive buffer `in[]`: nothing is sent, no counter moves, the
thread waits in the same `select` (whose timeout restarts — "effective timeout may be longer", as the C comment says). -/
theorem handshake_unfitting_reply_ignored (s : HState) (p : HPos) (hp : s.pos = some p) (hr : ∀ seed i, p ≠ .rawLogin seed i) (q : Rq)
    (hu : q.id ≠ s.c.chunkid ∨ (q.name0 ≠ p.wait.1 ∧ q.name0 ≠ p.wait.1 - 32)) :
    hstep s (.rq q) = ({ s with inb := q.buf.take (min q.rv.toNat p.wait.2.2) }, [], .sel p.sel) := by
  apply C06L.hstep_unmatched s p hp ?_ q hu
  cases p <;> first | rfl | exact absurd rfl (hr _ _)

/-! ### non-vacuity for (a) -/

/-- the example client of Props/C08Session.lean in the tunnel phase, a 21-byte packet in flight (ids 62631, 54904, 47177) -/
def exTun : CState := C08.exOt.1

set_option maxRecDepth 100000 in
/-- the hypotheses hold for a data answer carrying a whole one-fragment packet under the stale id 4711, the answer is ignored (state
unchanged up to three counters, nothing delivered) — while the same answer under the current id IS delivered -/
example :
    exTun.ph = .tunnel ∧ exTun.c.conn = .dnsNull ∧ exTun.c.chunkid = 62631 ∧
    StaleId exTun.c ⟨6, 4711, 10, 0, 51, [0, 33, 0x5a, 1, 2, 3]⟩ ∧
    (cstep exTun (.rq ⟨6, 4711, 10, 0, 51, [0, 33, 0x5a, 1, 2, 3]⟩)).2.1 = [] ∧
    (cstep exTun (.rq ⟨6, 4711, 10, 0, 51, [0, 33, 0x5a, 1, 2, 3]⟩)).1.c =
      { exTun.c with packrecv := 1, recvcnt := 1, packrecvOos := 1 } ∧
    C01.tunWrites (cstep exTun (.rq ⟨8, 62631, 10, 0, 51, [0, 33, 0x5a, 1, 2, 3, 4, 5]⟩)).2.1 = [[0, 0, 8, 0, 5]] := by
  rw [exTun, C08.exOt_eval]
  decide +kernel

/-- **Observation (not "ignored"): the raw login.**  `handshake_raw_udp`'s second loop has its own `select`/`recv` and no id: ANY
datagram — here three bytes of junk — consumes one of its four attempts and makes the client send the next login frame.  Four junk
datagrams end the attempt to use raw mode (the client falls back to DNS mode); nothing else is affected. -/
def exRawLogin : HState :=
  { c := { exampleCli with chunkid := 4242, doQtype := 10 }, pos := some (.rawLogin 7 0), inb := [], args := ⟨true, true, 0⟩,
    pw := [], dev := [] }

set_option maxRecDepth 100000 in
example :
    (hstep exRawLogin (.rawans [1, 2, 3])).1.pos = some (.rawLogin 7 1) ∧
    (handshakeStepRun exRawLogin [.rawans [1, 2, 3], .rawans [], .rawans [9], .rawans [16, 209, 158, 16]]).pos = some (.edns 0) := by
  decide +kernel

/-! ## (b) Buffers -/

/-- **`CliBufInv`**: every list of the client's statics that stands for a C array fits the array, and the indices the code uses stay
inside what is stored:
* `inpkt.data[64*1024]` (reassembly): at most 64 KiB stored, `inpkt.len` within it (`uncompress` is handed `inpkt.data[0..len)`);
* `outpkt.data[64*1024]`: at most 64 KiB, `outpkt.len` within it, and `offset + sentlen ≤ len` — `send_chunk` reads
  `outpkt.data[offset .. len)` and computes `avail = len - offset` in `int`, which must not go negative. -/
structure CliBufInv (c : Cli) : Prop where
  inpkt_fits : c.inpkt.data.length ≤ 65536
  inpkt_len : c.inpkt.len ≤ c.inpkt.data.length
  outpkt_fits : c.outpkt.data.length ≤ 65536
  outpkt_len : c.outpkt.len ≤ c.outpkt.data.length
  outpkt_window : c.outpkt.offset + c.outpkt.sentlen ≤ c.outpkt.len

/-- the handshake adds the receive buffer `in[4096]` of the running `handshake_*` function -/
structure HsBufInv (s : HState) : Prop where
  in_fits : s.inb.length ≤ 4096
  cli : CliBufInv s.c

/-- An input of a step.  Answers (any `rv`, id, type, RCODE, any bytes), raw datagrams and timeouts are unrestricted.  A tun frame
is a byte string of less than 64 KiB: `tunnel_tun` reads at most `sizeof(in) = 64 KiB`; for a frame of EXACTLY 64 KiB the
transparent compression of the model (`0x5a ++ frame`) would need 65537 bytes where zlib's `compress2` never reports more than
`sizeof(out)` — the one place where the model's list could exceed the array is an artefact of the test scheme, excluded here (and
covered, with `outpkt.len ≤ 65537`, by `cli_buf_inv_any_frame`). -/
def InputOk : CInput → Prop
  | .tun f => (∀ b ∈ f, b < 256) ∧ f.length < 65536
  | _ => True

instance : DecidablePred InputOk := fun i => by cases i <;> unfold InputOk <;> infer_instance

theorem binv_iff (c : Cli) : C06L.BInv 65536 c ↔ CliBufInv c := by
  constructor
  · intro h
    refine ⟨h.inData, h.inLen, h.outData, ?_, h.outOff⟩
    have := h.outMax
    have := h.outData
    rcases h.outStored with h1 | h1 <;> omega
  · intro h
    have := h.outpkt_fits
    have := h.outpkt_len
    exact ⟨h.inpkt_fits, h.inpkt_len, h.outpkt_fits, Or.inl h.outpkt_len, by omega, h.outpkt_window⟩

theorem frameOk_of_inputOk {inp : CInput} (h : InputOk inp) : C06L.FrameOk 65536 inp := by
  cases inp with
  | tun f => have := h.2; show min f.length 65536 + 1 ≤ 65536; omega
  | _ => trivial

theorem byteInput_of_inputOk {inp : CInput} (h : InputOk inp) : C08.ByteInput inp := by
  cases inp with
  | tun f => exact h.1
  | _ => trivial

/-- **cli_buf_inv_cstep.**  `CliBufInv` is invariant under EVERY step of the tunnel machine — any answer (any `rv`: the reassembly
clamp `MIN(read - 2, sizeof(inpkt.data) - inpkt.len)` is what keeps `inpkt` inside its array), raw datagram, tun frame, timeout, in
DNS or raw mode, through `handshake_lazyoff` — and every event of the step respects the buffer it came out of. -/
theorem cli_buf_inv_cstep (s : CState) (inp : CInput) (hi : CliBufInv s.c) (hin : InputOk inp) :
    CliBufInv (cstep s inp).1.c ∧ ∀ e ∈ (cstep s inp).2.1, TunEventOk e := by
  have h := C06L.cstep_b s inp ((binv_iff _).mpr hi) (frameOk_of_inputOk hin)
  exact ⟨(binv_iff _).mp h.inv, h.evs⟩

/-- the same for tun frames of any length (the model cuts them at `sizeof(in)` = 64 KiB): everything but `outpkt.len ≤ 64 KiB` -/
theorem cli_buf_inv_any_frame (s : CState) (inp : CInput) (hi : C06L.BInv 65537 s.c) :
    C06L.BInv 65537 (cstep s inp).1.c ∧ ∀ e ∈ (cstep s inp).2.1, TunEventOk e := by
  have hf : C06L.FrameOk 65537 inp := by
    cases inp with
    | tun f => show min f.length 65536 + 1 ≤ 65537; omega
    | _ => trivial
  have h := C06L.cstep_b s inp hi hf
  exact ⟨h.inv, h.evs⟩

theorem CliBufInv.sameP {c c' : Cli} (h : CliBufInv c) (e : C06L.SameP c c') : CliBufInv c' :=
  (binv_iff _).mp (((binv_iff _).mpr h).sameP e)

theorem hsBufInv_of_hq {c : Cli} {dv : List Nat} {s : HState} {l : List CEvent} (hi : CliBufInv c)
    (h : C06L.HQ c.inpkt c.outpkt dv s ∧ C06L.HEv l) :
    HsBufInv s ∧ s.c.inpkt = c.inpkt ∧ s.c.outpkt = c.outpkt ∧ ∀ e ∈ l, HsEventOk e :=
  ⟨⟨h.1.2.2.1, hi.sameP ⟨h.1.1, h.1.2.1⟩⟩, h.1.1, h.1.2.1, h.2⟩

/-- **hs_buf_inv_hstep.**  `HsBufInv` is invariant under EVERY step of the handshake machine: `in[]` never holds more than 4096
bytes (every `handshake_waitdns` call passes `sizeof(in)` or `sizeof(in) - 1`; the raw login `recv`s `sizeof(in)`), the packet
buffers are not touched at all, no event is a tun write. -/
theorem hs_buf_inv_hstep (s : HState) (inp : CInput) (hi : HsBufInv s) :
    HsBufInv (hstep s inp).1 ∧ (hstep s inp).1.c.inpkt = s.c.inpkt ∧ (hstep s inp).1.c.outpkt = s.c.outpkt ∧
      ∀ e ∈ (hstep s inp).2.1, HsEventOk e :=
  hsBufInv_of_hq hi.cli (C06L.hstep_hq (dv := s.dev) s inp ⟨rfl, rfl, hi.in_fits, rfl⟩)

theorem hs_buf_inv_start (c : Cli) (args : HsArgs) (pw dev : List Nat) (hi : CliBufInv c) :
    HsBufInv (hsStart c args pw dev).1 ∧ (hsStart c args pw dev).1.c.inpkt = c.inpkt ∧
      (hsStart c args pw dev).1.c.outpkt = c.outpkt ∧ ∀ e ∈ (hsStart c args pw dev).2.1, HsEventOk e :=
  hsBufInv_of_hq hi (C06L.hsStart_hq c args pw dev)

/-- the positions whose functions store `in[read] = 0` wait with `buflen = sizeof(in) - 1`: the store is inside `in[4096]`
(with `buflen = sizeof(in)` a 4096-byte reply would make `handshake_switch_codec`/`_downenc` write `in[4096]`) -/
theorem terminator_store_inside (seed i bits : Nat) :
    (HPos.login seed i).wait.2.2 < 4096 ∧ (HPos.switchCodec bits i).wait.2.2 < 4096 ∧ (HPos.switchDown i).wait.2.2 < 4096 := by
  refine ⟨?_, ?_, ?_⟩ <;> simp [HPos.wait]

/-- non-vacuity: `CliBufInv` holds for the example client in mid-transfer, and the step on a data answer keeps it -/
theorem exTun_buf : CliBufInv exTun.c ∧
    (cstep exTun (.rq ⟨8, 62631, 10, 0, 51, [0, 32, 0x5a, 1, 2, 3, 4, 5]⟩)).1.c.inpkt = ⟨6, 0, 0, [0x5a, 1, 2, 3, 4, 5], 1, 0⟩ := by
  -- one evaluation of the example session for all six facts
  have h : (exTun.c.inpkt.data.length ≤ 65536 ∧ exTun.c.inpkt.len ≤ exTun.c.inpkt.data.length ∧
      exTun.c.outpkt.data.length ≤ 65536 ∧ exTun.c.outpkt.len ≤ exTun.c.outpkt.data.length ∧
      exTun.c.outpkt.offset + exTun.c.outpkt.sentlen ≤ exTun.c.outpkt.len) ∧
      (cstep exTun (.rq ⟨8, 62631, 10, 0, 51, [0, 32, 0x5a, 1, 2, 3, 4, 5]⟩)).1.c.inpkt = ⟨6, 0, 0, [0x5a, 1, 2, 3, 4, 5], 1, 0⟩ := by
    rw [exTun, C08.exOt_eval]
    decide +kernel
  exact ⟨⟨h.1.1, h.1.2.1, h.1.2.2.1, h.1.2.2.2.1, h.1.2.2.2.2⟩, h.2⟩

set_option maxRecDepth 100000 in
example : CliBufInv exTun.c ∧
    (cstep exTun (.rq ⟨8, 62631, 10, 0, 51, [0, 32, 0x5a, 1, 2, 3, 4, 5]⟩)).1.c.inpkt = ⟨6, 0, 0, [0x5a, 1, 2, 3, 4, 5], 1, 0⟩ :=
  exTun_buf

/-- a reassembly buffer that already holds 65530 bytes (fragment 3 of downstream packet 1) -/
def exFull : Cli :=
  { exTun.c with inpkt := { exTun.c.inpkt with len := 65530, data := List.replicate 65530 0, seqno := 1, fragment := 3 } }

/-- the clamp at work on any client whose reassembly buffer holds 65530 bytes: a 100-byte fragment adds 6 -/
theorem clamp_fills_exactly (c : Cli) (hc : CliBufInv c) (p : Packet) (hp : p.len = 65530 ∧ p.data = List.replicate 65530 0) :
    CliBufInv { c with inpkt := p } ∧
    (appendFragment { c with inpkt := p } (decodeHdr [0, 40]) ([0, 40] ++ List.replicate 100 7) 102).inpkt.len = 65536 ∧
    (appendFragment { c with inpkt := p } (decodeHdr [0, 40]) ([0, 40] ++ List.replicate 100 7) 102).inpkt.data.length = 65536 := by
  refine ⟨⟨?_, ?_, hc.outpkt_fits, hc.outpkt_len, hc.outpkt_window⟩, ?_⟩
  · show p.data.length ≤ 65536
    rw [hp.2, List.length_replicate]; decide
  · show p.len ≤ p.data.length
    rw [hp.1, hp.2, List.length_replicate]; exact Nat.le_refl _
  · simp [appendFragment, hp.1, hp.2, Gen.PACKET_DATA_SIZE, -List.reduceReplicate]

/-- non-vacuity of the clamp: appending a 100-byte fragment to it stores 6 bytes — `inpkt` is full at exactly 65536, not beyond -/
example : CliBufInv exFull ∧
    (appendFragment exFull (decodeHdr [0, 40]) ([0, 40] ++ List.replicate 100 7) 102).inpkt.len = 65536 ∧
    (appendFragment exFull (decodeHdr [0, 40]) ([0, 40] ++ List.replicate 100 7) 102).inpkt.data.length = 65536 :=
  clamp_fills_exactly exTun.c exTun_buf.1 _ ⟨rfl, rfl⟩

/-! ## (c) The tunnel phase cannot be wedged -/

/-- some step of the run of `ins` from `s` sends a datagram -/
def SendsIn : CState → List CInput → Prop
  | _, [] => False
  | s, i :: r => (∃ e ∈ (cstep s i).2.1, IsTx e) ∨ SendsIn (cstep s i).1 r

def tunState (oh : HOut) (tin : List CInput) : CState := (C08.tunRun oh tin).1

theorem tunnel_no_wedge_from {L : Nat} {td : List Nat} (E : CliQ.Env L td) :
    ∀ (ins : List CInput) (s : CState), CliQ.Late L td s.c → (∀ i ∈ ins, C08.ByteInput i) → C06L.need s.ph ≤ ticks ins →
      SendsIn s ins ∨ (C01.cafter s ins).ph = .idle := by
  intro ins s hl hb hn
  -- `need` is the budget of silent timeouts (`cstep_need`), sending is the escape
  have h := Runs.run_budget (fun s i => (cstep s i).1) (fun s => C06L.need s.ph)
    isTick (fun s => CliQ.Late L td s.c) C08.ByteInput
    (fun s i => ∃ e ∈ (cstep s i).2.1, IsTx e) SendsIn
    (fun s i hs hi => (CliQ.cstep_good E s i hs ((C08.byteInput_iff i).1 hi)).late)
    (fun s i hs _ => C06L.cstep_need E s i hs)
    (fun _ _ _ h => Or.inl h) (fun _ _ _ h => Or.inr h) ins s hl hb hn
  refine h.imp id fun h0 => ?_
  have h0 : C06L.need (C01.cafter s ins).ph = 0 := h0
  cases hp : (C01.cafter s ins).ph <;> simp [hp, C06L.need] at h0 ⊢

/-- **tunnel_no_wedge.**  From every state the tunnel phase can reach (after any handshake that returned 0 and any inputs), for
EVERY continuation of the inputs: once two `select` timeouts have occurred, the client has sent a datagram (a data chunk, a ping, a
lazy-off request, a raw keepalive) or `client_tunnel` has returned (60 s without downstream data) — the client never sits silent for
more than two timeouts, whatever it was told.  (One timeout suffices in `client_tunnel`'s own `select`; the second is the fifth
timeout of `handshake_lazyoff`, after which that function returns without sending.)  How long a timeout lasts is the subject of
`select_timeout_bound`, under its hypothesis on `send_ping_soon`. -/
theorem tunnel_no_wedge (L : Nat) (c0 : Cli) (args : HsArgs) (pw dev : List Nat) (hc : C08.ClientCfgOk L c0)
    (o : CState × List CEvent × Next) (ho : C08.TunOut c0 args pw dev o) (more : List CInput)
    (hb : ∀ i ∈ more, C08.ByteInput i) (ht : 2 ≤ ticks more) :
    SendsIn o.1 more ∨ (C01.cafter o.1 more).ph = .idle := by
  have hg := C08.tunOut_good hc ho
  exact tunnel_no_wedge_from (C08.env_of_cfg hc) more o.1 hg.late hb (Nat.le_trans (C06L.need_le_two _) ht)

/-- … and in `client_tunnel`'s own `select` ONE timeout suffices -/
theorem tunnel_tick_sends_or_ends (L : Nat) (c0 : Cli) (args : HsArgs) (pw dev : List Nat) (hc : C08.ClientCfgOk L c0)
    (o : CState × List CEvent × Next) (ho : C08.TunOut c0 args pw dev o) (hph : o.1.ph = .tunnel) :
    (∃ e ∈ (cstep o.1 .tick).2.1, IsTx e) ∨ (cstep o.1 .tick).2.2 = .finished 0 := by
  obtain ⟨⟨c, ph⟩, evs, nx⟩ := o
  simp only at hph
  subst hph
  exact (C06L.tunnelStep_tick (C08.env_of_cfg hc) c (C08.tunOut_good hc ho).late).symm.imp id (·.2)

/-- **select_timeout_bound** (ticks → seconds).  IF `send_ping_soon ≤ 1000` (the hypothesis `hs`: the code only ever assigns 0, 1, 5, 20,
500, 700, 900 ms, but that is not proved as an invariant here), a timeout of the `select` the tunnel-phase thread is parked in comes
after at most `max(1, selecttimeout)` seconds (`selecttimeout` is the `-I` value, 1 after a fallback, 20 in raw mode): 1 s while a
packet is in flight or inside `handshake_lazyoff`, `send_ping_soon` ms when a ping is due, `selecttimeout` s otherwise.  Together with
`tunnel_no_wedge`, and under the same hypothesis: silence lasts at most `2 · max(1, selecttimeout)` s. -/
theorem select_timeout_bound (s : CState) (hs : s.c.sendPingSoon ≤ 1000) (sel : Sel) (h : pending s = .sel sel) :
    sel.to ≤ max 1000000 (s.c.selecttimeout * 1000000) := by
  obtain ⟨c, ph⟩ := s
  cases ph with
  | idle => cases h
  | lazyoff i k =>
    simp only [pending, Next.sel.injEq] at h
    subst h
    show (1000000 : Int) ≤ _
    omega
  | tunnel =>
    simp only [pending, Next.sel.injEq] at h
    subst h
    simp only at hs
    unfold selectOf
    simp only
    split
    · have : ((c.sendPingSoon : Nat) : Int) ≤ 1000 := by omega
      omega
    · split <;> omega

set_option maxRecDepth 100000 in
/-- non-vacuity: the example session of Props/C08Session.lean (a packet in flight): the first timeout re-sends the chunk -/
example : (∃ e ∈ (cstep C08.exOt.1 .tick).2.1, IsTx e) ∧ C08.exOt.1.ph = .tunnel ∧ 2 ≤ ticks [.tick, .rq Rq.zero, .tick] := by
  have h : C08.exOt.1.ph = .tunnel ∧ (cstep C08.exOt.1 .tick).2.2 ≠ .finished 0 := by rw [C08.exOt_eval]; decide +kernel
  refine ⟨?_, h.1, by decide⟩
  exact (tunnel_tick_sends_or_ends 255 C08.exCli ⟨false, false, 1200⟩ [] [] C08.exCfg C08.exOt C08.exOt_out h.1).resolve_right h.2

/-! ## Composition: whole sessions, EVERY input sequence through handshake and tunnel phase

`C08.hsRun c0 args pw dev hin` is the output (state, events, next `select`) of the LAST step of the handshake machine started by
`client_handshake()` on the statics `c0` and fed `hin`; `C08.tunRun oh tin` the output of the last step of the tunnel machine started
on the statics the handshake left.  `hin`, `tin` are arbitrary, so a statement about the last step is a statement about every step. -/

theorem tunRun_snoc (oh : HOut) (pre : List CInput) (inp : CInput) :
    C08.tunRun oh (pre ++ [inp]) = cstep (C08.tunRun oh pre).1 inp := by
  simp [C08.tunRun, List.foldl_append]

theorem hsRun_state (c0 : Cli) (args : HsArgs) (pw dev : List Nat) (hin : List CInput) :
    (C08.hsRun c0 args pw dev hin).1 = handshakeRun c0 args pw dev hin := Runs.fst_foldl hstep hin _

theorem tunRun_state (oh : HOut) (tin : List CInput) :
    (C08.tunRun oh tin).1 = C01.cafter (startTunnel oh.1.c).1 tin := Runs.fst_foldl cstep tin _

/-- what holds of EVERY output of the handshake machine: buffers, events, commands -/
def HsSafe (c0 : Cli) (dev : List Nat) (o : HOut) : Prop :=
  C06L.HQ c0.inpkt c0.outpkt dev o.1 ∧ (∀ e ∈ o.2.1, HsEventOk e) ∧
    (dev.length ≤ 430 → ∀ cmd, CEvent.sys cmd ∈ o.2.1 → C13.IpCmd dev cmd ∨ C13.MtuCmd dev cmd)

theorem hsSafe_step {c0 : Cli} {dev : List Nat} (o : HOut) (inp : CInput) (h : HsSafe c0 dev o) :
    HsSafe c0 dev (hstep o.1 inp) := by
  have hq := C06L.hstep_hq o.1 inp h.1
  refine ⟨hq.1, hq.2, fun hd cmd hc => ?_⟩
  have hdv : o.1.dev = dev := h.1.2.2.2
  have := (handshake_commands_validated o.1 inp (by rw [hdv]; exact hd) cmd hc).2
  rwa [hdv] at this

theorem hsRun_safe (c0 : Cli) (args : HsArgs) (pw dev : List Nat) (hin : List CInput) :
    HsSafe c0 dev (C08.hsRun c0 args pw dev hin) :=
  Runs.run_inv hstep (HsSafe c0 dev) (fun _ => True) (fun o i h _ => hsSafe_step o i h) hin (fun _ _ => trivial) _
    ⟨(C06L.hsStart_hq c0 args pw dev).1, (C06L.hsStart_hq c0 args pw dev).2,
     fun _ cmd hc => absurd hc (handshake_start_no_command c0 args pw dev cmd)⟩

/-- **handshake_session_safe.**  For every static state `c0` whose packet buffers fit (what `client_init` leaves: both empty), every
device name of at most 430 bytes and EVERY input sequence `hin` of the handshake — answers of any length, id, type, RCODE and content,
raw datagrams, timeouts, in any order:
* `in[4096]` of the running handshake function and the packet buffers stay within their arrays (`HsBufInv`); the packet buffers and
  the device name are never touched;
* no step writes to the tun device; a raw frame sent fits `packet[4096]`;
* every `system()` command is a validated C13 command (address or MTU) built from ONE login reply;
* after 162 timeouts `client_handshake` has returned. -/
theorem handshake_session_safe (c0 : Cli) (args : HsArgs) (pw dev : List Nat) (hb : CliBufInv c0) (hd : dev.length ≤ 430)
    (hin : List CInput) :
    HsBufInv (C08.hsRun c0 args pw dev hin).1 ∧
    (C08.hsRun c0 args pw dev hin).1.c.inpkt = c0.inpkt ∧ (C08.hsRun c0 args pw dev hin).1.c.outpkt = c0.outpkt ∧
    (C08.hsRun c0 args pw dev hin).1.dev = dev ∧
    (∀ e ∈ (C08.hsRun c0 args pw dev hin).2.1, HsEventOk e) ∧
    (∀ cmd, CEvent.sys cmd ∈ (C08.hsRun c0 args pw dev hin).2.1 → C13.IpCmd dev cmd ∨ C13.MtuCmd dev cmd) ∧
    (162 ≤ ticks hin → (C08.hsRun c0 args pw dev hin).1.pos = none) := by
  obtain ⟨hq, hev, hcmd⟩ := hsRun_safe c0 args pw dev hin
  refine ⟨⟨hq.2.2.1, hb.sameP ⟨hq.1, hq.2.1⟩⟩, hq.1, hq.2.1, hq.2.2.2, hev, hcmd hd, fun ht => ?_⟩
  rw [hsRun_state]
  exact handshake_terminates c0 args pw dev hin ht

theorem startTunnel_pkts (c : Cli) : (startTunnel c).1.c.inpkt = c.inpkt ∧ (startTunnel c).1.c.outpkt = c.outpkt := by
  unfold startTunnel
  rw [loopTop_c]
  exact ⟨rfl, rfl⟩

theorem tunRun_binv (c0 : Cli) (args : HsArgs) (pw dev : List Nat) (hb : CliBufInv c0) (hin tin : List CInput)
    (hok : ∀ i ∈ tin, InputOk i) :
    C06L.BOut 65536 (C08.tunRun (C08.hsRun c0 args pw dev hin) tin) := by
  have hq := (hsRun_safe c0 args pw dev hin).1
  exact Runs.run_inv cstep (C06L.BOut 65536) InputOk (fun o i h hi => C06L.cstep_b o.1 i h.inv (frameOk_of_inputOk hi)) tin hok _
    (C06L.startTunnel_b (((binv_iff _).mpr hb).sameP ⟨hq.1, hq.2.1⟩))

/-- **tunnel_session_safe.**  … and then EVERY input sequence `tin` of the tunnel phase (answers with any header, id, length up to and
beyond 64 KiB, raw datagrams, tun frames below 64 KiB, timeouts; DNS or raw mode; through `handshake_lazyoff`):
* `CliBufInv` holds after every step;
* what is handed to `write_tun` came out of the 64 KiB `uncompress` buffer, a raw frame fits `packet[4096]`, no `system()` call;
* (with the empty reassembly buffer `client_init` leaves) every frame written to the tun device is `uncompress` of a buffer
  reassembled from fragments that were really received — one sequence number, consecutive fragment numbers, at most 16, ending in
  the answer of this very step; or, in raw mode, of the body of this step's datagram (Props/C01.lean `FromReceived`). -/
theorem tunnel_session_safe (c0 : Cli) (args : HsArgs) (pw dev : List Nat) (hb : CliBufInv c0) (hin tin : List CInput)
    (hok : ∀ i ∈ tin, InputOk i) :
    CliBufInv (C08.tunRun (C08.hsRun c0 args pw dev hin) tin).1.c ∧
    (∀ e ∈ (C08.tunRun (C08.hsRun c0 args pw dev hin) tin).2.1, TunEventOk e) ∧
    (c0.inpkt.len = 0 → tin ≠ [] →
      ∀ f ∈ C01.tunWrites (C08.tunRun (C08.hsRun c0 args pw dev hin) tin).2.1, C01.FromReceived tin f) := by
  have h := tunRun_binv c0 args pw dev hb hin tin hok
  refine ⟨(binv_iff _).mp h.inv, h.evs, ?_⟩
  intro h0 hne f hf
  rcases List.eq_nil_or_concat tin with rfl | ⟨pre, inp, rfl⟩
  · exact absurd rfl hne
  · rw [List.concat_eq_append] at hf ⊢
    rw [tunRun_snoc, tunRun_state] at hf
    have hq := (hsRun_safe c0 args pw dev hin).1
    have hst : (startTunnel (C08.hsRun c0 args pw dev hin).1.c).1.c.inpkt.len = 0 := by
      rw [(startTunnel_pkts _).1, hq.1]; exact h0
    exact C01.delivered_is_concat_of_received_fragments_client _ hst pre inp f hf

/-- **client_session_live** (needs the configuration range of C08, `ClientCfgOk`: `100 ≤ hostname_maxlen`, 24 characters of room).
For every handshake that returned 0 and every tunnel-phase input sequence:
* every query sent is legal and at most 253 characters long — far inside `buf[4096]` of `send_chunk` / `send_packet` and
  `packet[4096]` of `send_query` (OUTSIDE that range, `-M` small against the domain, `build_hostname`'s `size_t` subtraction wraps and the
  name is not bounded by anything: see Props/C08Main.lean `client_main_gap`);
* the client is never silent for more than two timeouts (`tunnel_no_wedge`). -/
theorem client_session_live (L : Nat) (c0 : Cli) (args : HsArgs) (pw dev : List Nat) (hc : C08.ClientCfgOk L c0)
    (hin tin : List CInput) (hfin : (C08.hsRun c0 args pw dev hin).2.2 = .finished 0) (hok : ∀ i ∈ tin, InputOk i) :
    (∀ id ty name, CEvent.query id ty name ∈ (C08.tunRun (C08.hsRun c0 args pw dev hin) tin).2.1 →
      C08.QueryLegal L c0.topdomain id ty name ∧ name.length ≤ 253) ∧
    (∀ more : List CInput, (∀ i ∈ more, InputOk i) → 2 ≤ ticks more →
      SendsIn (C08.tunRun (C08.hsRun c0 args pw dev hin) tin).1 more ∨
      (C01.cafter (C08.tunRun (C08.hsRun c0 args pw dev hin) tin).1 more).ph = .idle) := by
  have ho := C08.tunOut_run c0 args pw dev hin tin hfin (fun i hi => byteInput_of_inputOk (hok i hi))
  refine ⟨?_, ?_⟩
  · intro id ty name hm
    have hq := C08.client_queries_legal_partial L c0 args pw dev hc id ty name (Or.inr ⟨_, ho, hm⟩)
    exact ⟨hq, hq.legal.1⟩
  · intro more hmore ht
    exact tunnel_no_wedge L c0 args pw dev hc _ ho more (fun i hi => byteInput_of_inputOk (hmore i hi)) ht

/-- **client_session_safe**: the composition.  Statics with fitting, empty packet buffers in the range of C08, a device name of at
most 430 bytes; EVERY handshake input sequence, and — if the handshake returned 0 — EVERY tunnel input sequence. -/
theorem client_session_safe (L : Nat) (c0 : Cli) (args : HsArgs) (pw dev : List Nat) (hc : C08.ClientCfgOk L c0)
    (hb : CliBufInv c0) (h0 : c0.inpkt.len = 0) (hd : dev.length ≤ 430) (hin tin : List CInput) (hok : ∀ i ∈ tin, InputOk i) :
    -- handshake: buffers, events, commands, termination
    (HsBufInv (C08.hsRun c0 args pw dev hin).1 ∧
     (∀ e ∈ (C08.hsRun c0 args pw dev hin).2.1, HsEventOk e) ∧
     (∀ cmd, CEvent.sys cmd ∈ (C08.hsRun c0 args pw dev hin).2.1 → C13.IpCmd dev cmd ∨ C13.MtuCmd dev cmd) ∧
     (∀ id ty name, CEvent.query id ty name ∈ (C08.hsRun c0 args pw dev hin).2.1 → name.length ≤ 253) ∧
     (162 ≤ ticks hin → (C08.hsRun c0 args pw dev hin).1.pos = none)) ∧
    -- tunnel phase
    ((C08.hsRun c0 args pw dev hin).2.2 = .finished 0 →
     CliBufInv (C08.tunRun (C08.hsRun c0 args pw dev hin) tin).1.c ∧
     (∀ e ∈ (C08.tunRun (C08.hsRun c0 args pw dev hin) tin).2.1, TunEventOk e) ∧
     (tin ≠ [] → ∀ f ∈ C01.tunWrites (C08.tunRun (C08.hsRun c0 args pw dev hin) tin).2.1, C01.FromReceived tin f) ∧
     (∀ id ty name, CEvent.query id ty name ∈ (C08.tunRun (C08.hsRun c0 args pw dev hin) tin).2.1 → name.length ≤ 253) ∧
     (∀ more : List CInput, (∀ i ∈ more, InputOk i) → 2 ≤ ticks more →
        SendsIn (C08.tunRun (C08.hsRun c0 args pw dev hin) tin).1 more ∨
        (C01.cafter (C08.tunRun (C08.hsRun c0 args pw dev hin) tin).1 more).ph = .idle)) := by
  have hh := handshake_session_safe c0 args pw dev hb hd hin
  refine ⟨⟨hh.1, hh.2.2.2.2.1, hh.2.2.2.2.2.1, ?_, hh.2.2.2.2.2.2⟩, ?_⟩
  · intro id ty name hm
    exact (C08.client_queries_legal_partial L c0 args pw dev hc id ty name
      (Or.inl ⟨_, C08.hsOut_run c0 args pw dev hin, hm⟩)).legal.1
  · intro hfin
    have ht := tunnel_session_safe c0 args pw dev hb hin tin hok
    have hl := client_session_live L c0 args pw dev hc hin tin hfin hok
    exact ⟨ht.1, ht.2.1, ht.2.2 h0, fun id ty name hm => (hl.1 id ty name hm).2, hl.2⟩

/-! ### non-vacuity of the composition: the example session of Props/C08Session.lean -/

theorem exCli_buf : CliBufInv C08.exCli ∧ C08.exCli.inpkt.len = 0 :=
  ⟨⟨by decide +kernel, by decide +kernel, by decide +kernel, by decide +kernel, by decide +kernel⟩, rfl⟩

/-- a tun frame, then the answer that acknowledges its only fragment and carries a one-fragment downstream packet -/
def exTunInputs : List CInput := [.tun C08.exFrame, .rq ⟨8, 62631, 10, 0, 51, [16, 33, 0x5a, 1, 2, 3, 4, 5]⟩]

/-- the handshake inputs `C08.exHsInputs` end the handshake with 0 (`C08.exOh_fin`), `exTunInputs` are legal tunnel inputs, and the
last step writes the downstream frame to the tun device -/
theorem exSession_facts : C08.exOh.2.2 = .finished 0 ∧ (∀ i ∈ exTunInputs, InputOk i) ∧
    C01.tunWrites (C08.tunRun C08.exOh exTunInputs).2.1 = [[0, 0, 8, 0, 5]] := by
  refine ⟨C08.exOh_fin, by decide +kernel, ?_⟩
  unfold C08.tunRun
  rw [C08.exOh_state]
  decide +kernel

/-- `client_session_safe` applies to it: in particular that frame is `FromReceived` -/
example : C01.FromReceived exTunInputs [0, 0, 8, 0, 5] := by
  have e : C08.hsRun C08.exCli ⟨false, false, 1200⟩ [] [] C08.exHsInputs = C08.exOh := rfl
  have h := (client_session_safe 255 C08.exCli ⟨false, false, 1200⟩ [] [] C08.exCfg exCli_buf.1 exCli_buf.2 (Nat.zero_le _)
    C08.exHsInputs exTunInputs exSession_facts.2.1).2
  rw [e] at h
  have h2 := (h C08.exOh_fin).2.2.1 (by simp [exTunInputs])
  apply h2
  rw [exSession_facts.2.2]
  exact List.mem_cons_self

end Iodine.C06
