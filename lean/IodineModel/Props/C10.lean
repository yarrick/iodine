import IodineModel.Wire.Put
import IodineModel.Wire.DnsEncode
import IodineModel.Wire.Strict
import IodineModel.Lemmas.Strict
import IodineModel.Lemmas.WirePut
import IodineModel.Encoding
/-
C10 — every datagram emitted in DNS mode is a well-formed RFC 1035 message that echoes its question.

The specification side is the strict parser `Iodine.Wire.Strict.parseMsg` (IodineModel/Wire/Strict.lean,
written independently of the model of dns.c) plus the small vocabulary below (`labels`, `LegalName`, …).
The model is IodineModel/Wire/Put.lean + DnsEncode.lean; helper lemmas are in Lemmas/Strict.lean (parser)
and Lemmas/WirePut.lean (closed forms of the encoders).

Every `*_wellformed` theorem has the shape: for legal inputs and a buffer that is large enough (the exact number of
bytes is in the hypothesis; the server uses 64 KiB buffers, the client 4096 bytes) the encoder returns
`R.ok pkt` — i.e. no early `return 0`, no store outside the buffer — and `parseMsg pkt = some m` with `m`
spelled out: id, flags, the echoed question, and the records.  `echo` and `echo_any` say of what the encoder emits for ANY data that,
if it parses at all, it carries the id and the question; the last section holds witnesses of stores outside a buffer that is too small.
-/
namespace Iodine.C10
open Iodine.Wire Iodine.Wire.Put Iodine.Wire.DnsEncode Iodine.Wire.Strict

/-! ### Specification vocabulary -/

/-- the labels of a dotted name: the pieces between the dots (`"a..b"` has an empty middle label) -/
def labels : List Nat → List (List Nat)
  | [] => [[]]
  | c :: cs =>
    if c = 46 then [] :: labels cs
    else match labels cs with
      | l :: ls => (c :: l) :: ls
      | [] => [[c]]

/-- A legal host name in iodine's representation (dotted C string): at most 253 characters, made of bytes
other than NUL, and every label (piece between dots) has 1..63 bytes. -/
def LegalName (n : List Nat) : Prop :=
  n.length ≤ 253 ∧ (∀ c ∈ n, c ≠ 0 ∧ c < 256) ∧ ∀ l ∈ labels n, 1 ≤ l.length ∧ l.length ≤ 63

instance (n : List Nat) : Decidable (LegalName n) := by unfold LegalName; infer_instance

/-- the specification's spelling of `Strict.Bytes` (Lemmas/Strict.lean): the two unfold to the same proposition, and the proofs below
pass one for the other -/
def IsBytes (d : List Nat) : Prop := ∀ b ∈ d, b < 256

instance (d : List Nat) : Decidable (IsBytes d) := by unfold IsBytes; infer_instance

/-- the record types whose RDATA is opaque for RFC 1035/2782/6891 (everything but A, NS, CNAME, PTR, MX,
TXT, SRV, OPT); in particular NULL (10) and iodine's PRIVATE (65399) -/
def Opaque (ty : Nat) : Prop := ty ∉ [1, 2, 5, 12, 15, 16, 33, 41]

instance (ty : Nat) : Decidable (Opaque ty) := by unfold Opaque; infer_instance

/-- the answer record every iodine answer starts from: owner = the query name, class IN, TTL 0 -/
def answerRR (qn : List Nat) (ty : Nat) (rdata : List Nat) (view : RData) : RR :=
  ⟨labels qn, ty, 1, 0, rdata, view⟩

/-! ### Glue between the vocabulary, the lemma files and the name builders' legality predicate (`Encoding.legalAux`, C08) -/

theorem labels_eq_split (s : List Nat) : labels s = (splitDot s).1 :: (splitDot s).2 := by
  induction s with
  | nil => rfl
  | cons c r ih =>
    simp only [labels, splitDot]
    split
    · rw [ih]
    · rw [ih]

theorem joinDots_labels (s : List Nat) : joinDots (labels s) = s := by
  rw [labels_eq_split]
  induction s with
  | nil => rfl
  | cons c r ih =>
    simp only [splitDot]
    split
    · rename_i hc
      rw [joinDots_cons_cons, ih, hc]; rfl
    · rw [joinDots_cons_head, ih]

theorem mem_of_mem_labels (s : List Nat) : ∀ l ∈ labels s, ∀ c ∈ l, c ∈ s :=
  fun _ hl _ hc => joinDots_labels s ▸ mem_joinDots hl hc

theorem labels_ne_nil (s : List Nat) : labels s ≠ [] := by rw [labels_eq_split]; simp

theorem labels_append_dot (a b : List Nat) : labels (a ++ 46 :: b) = labels a ++ labels b := by
  induction a with
  | nil => simp [labels]
  | cons c a ih =>
    simp only [List.cons_append, labels]
    split
    · rw [ih]; simp
    · rw [ih]
      cases h : labels a with
      | nil => exact absurd h (labels_ne_nil a)
      | cons l ls => simp

theorem labLen_labels (s : List Nat) : labLen (labels s) = s.length + 1 := by
  rw [labels_eq_split]; exact splitDot_labLen s

theorem labels_dotfree (l : List Nat) (h : 46 ∉ l) : labels l = [l] := by
  induction l with
  | nil => rfl
  | cons c r ih =>
    have hc : c ≠ 46 := fun e => h (e ▸ List.mem_cons_self)
    simp only [labels, if_neg hc, ih (fun e => h (List.mem_cons_of_mem _ e))]

theorem labels_trailing_dot (m : List Nat) : labels (m ++ [46]) = labels m ++ [[]] := labels_append_dot m []

/-- The label automaton the name builders are specified with (C08), `k` characters into a label: the label under way ends with
1..63 characters, and so does every later one. -/
theorem legalAux_iff_split (n : List Nat) : ∀ k, Encoding.legalAux k n = true ↔
    (1 ≤ k + (splitDot n).1.length ∧ k + (splitDot n).1.length ≤ 63) ∧ LabelsOK (splitDot n).2 := by
  induction n with
  | nil => intro k; simp [Encoding.legalAux, splitDot, LabelsOK]
  | cons c cs ih =>
    intro k
    simp only [Encoding.legalAux, splitDot]
    by_cases hc : c = 46
    · rw [if_pos (show c = Encoding.DOT from hc), if_pos hc, Bool.and_eq_true, decide_eq_true_eq, ih 0]
      simp only [LabelsOK, List.mem_cons, forall_eq_or_imp, List.length_nil, Nat.add_zero, Nat.zero_add]
    · rw [if_neg (show ¬ c = Encoding.DOT from hc), if_neg hc, ih (k + 1), List.length_cons,
        show k + 1 + (splitDot cs).1.length = k + ((splitDot cs).1.length + 1) by omega]

theorem legalAux_iff_labelsOK (n : List Nat) : Encoding.legalAux 0 n = true ↔ LabelsOK (labels n) := by
  simp only [legalAux_iff_split, labels_eq_split, LabelsOK, List.mem_cons, forall_eq_or_imp, Nat.zero_add]

/-- The predicate the name builders are specified with (every piece between dots has 1..63 characters), together with the
length and character-set bounds, is `LegalName`. -/
theorem legalName_of_legalAux (n : List Nat) (h1 : Encoding.legalAux 0 n = true) (h2 : n.length ≤ 253)
    (h3 : ∀ c ∈ n, c ≠ 0 ∧ c < 256) : LegalName n :=
  ⟨h2, h3, (legalAux_iff_labelsOK n).mp h1⟩

/-- a legal name has no empty label, hence no `".."` -/
theorem noDoubleDot_of_legal {q : List Nat} (h : LegalName q) : ¬ [46, 46] <:+: q := by
  intro ⟨a, b, hab⟩
  have h0 := h.2.2 [] (by
    rw [← hab, show a ++ [46, 46] ++ b = a ++ 46 :: (46 :: b) by simp, labels_append_dot]
    simp [labels])
  simp at h0

/-- what a legal name gives the lemma files (`len` and `ne` hold of every name: `labLen_labels`, `labels_ne_nil`; `le253` is the
first part of `LegalName`) -/
structure NameFacts (n : List Nat) : Prop where
  tok : tokens n = labels n
  ok : LabelsOK (labels n)
  len : labLen (labels n) = n.length + 1
  le63 : ∀ l ∈ tokens n, l.length ≤ 63
  bytes : Bytes (encName (labels n))
  ne : labels n ≠ []
  le253 : n.length ≤ 253

theorem nameFacts {n : List Nat} (h : LegalName n) : NameFacts n := by
  obtain ⟨hlen, hch, hlab⟩ := h
  have hsplit := labels_eq_split n
  have htok : tokens n = labels n := by
    rw [hsplit]
    apply tokens_eq_split
    intro l hl
    rw [← hsplit] at hl
    have := hlab l hl
    intro he; rw [he] at this; simp at this
  refine ⟨htok, hlab, ?_, ?_, ?_, ?_, hlen⟩
  · exact labLen_labels n
  · rw [htok]; intro l hl; exact (hlab l hl).2
  · apply Bytes_encName
    · intro l hl; have := hlab l hl; omega
    · intro l hl c hc; exact (hch c (mem_of_mem_labels n l hl c hc)).2
  · exact labels_ne_nil n

/-! ### The common frame: header, echoed question, records owned through the pointer 0xc00c -/

theorem lookup_question {ls : Name} (hne : ls ≠ []) : lookup (entriesT 12 ls []) 12 = some ls := by
  simpa using lookup_entriesT_mid [] ls [] hne (by intro l hl; simp at hl) 12

theorem be16_namePtr : be16 namePtr = encPtr 12 := by decide

/-- the 16-bit value `0xc000 | off` the encoders emit is the compression pointer to `off` -/
theorem be16_ptr (off : Nat) (h : off < 16384) : be16 (0xc000 + off % 16384) = encPtr off := by
  rw [Nat.mod_eq_of_lt h]
  simp only [be16, encPtr]
  congr 1
  · omega
  · congr 1; omega
theorem be16_flagsA : be16 0x8400 = [0x84, 0] := by decide
theorem be16_flagsQ : be16 0x0100 = [0x01, 0] := by decide

/-- Header + one question + the sections: what remains to be shown for a concrete message is how its
answer records and additional records parse. -/
theorem parse_msg (id f1 ty an ar : Nat) (n : List Nat) (nf : NameFacts n) (body : List Nat)
    (ra rr : List RR) (s2 s3 : St)
    (hid : id < 65536) (hf : f1 < 256) (hty : ty < 65536) (han : an < 65536) (har : ar < 65536)
    (h2 : parseRRs .answer an ⟨body, 12 + labLen (labels n) + 1 + 4, entriesT 12 (labels n) []⟩ = some (ra, s2))
    (h4 : parseRRs .additional ar s2 = some (rr, s3)) (hend : s3.inp = []) (hb : Bytes body) :
    parseMsg (be16 id ++ [f1, 0] ++ be16 1 ++ be16 an ++ be16 0 ++ be16 ar ++ (qBytes (labels n) ty ++ body)) =
      some ⟨id, f1 * 256, [(labels n, ty, 1)], ra, [], rr⟩ := by
  have h253 := nf.le253
  have hbytes : Bytes (be16 id ++ [f1, 0] ++ be16 1 ++ be16 an ++ be16 0 ++ be16 ar ++
      (qBytes (labels n) ty ++ body)) := by
    simp only [Bytes_append, qBytes]
    exact ⟨⟨⟨⟨⟨⟨Bytes_be16 _, by simp [Bytes]; omega⟩, Bytes_be16 _⟩, Bytes_be16 _⟩, Bytes_be16 _⟩, Bytes_be16 _⟩,
      ⟨nf.bytes, Bytes_be16 _, Bytes_be16 _⟩, hb⟩
  rw [parseMsg_of_bytes _ hbytes]
  have hq := parseQuestions_one (labels n) nf.ok (by rw [nf.len]; omega) ty 1 hty (by omega) body
  have hfl : be16 (f1 * 256) = [f1, 0] := by
    simp only [be16]
    rw [show f1 * 256 / 256 % 256 = f1 by omega, show f1 * 256 % 256 = 0 by omega]
  have := parseBody_of id (f1 * 256) 1 an 0 ar hid (by omega) (by omega) han (by omega) har
    (qBytes (labels n) ty ++ body) _ _ [] _ _ _ _ _
    (by simpa [qBytes] using hq) h2 rfl h4 hend
  simpa [msgHeader, hfl] using this

/-- a record whose owner is the pointer 0xc00c, in a message whose question name is registered -/
theorem parseRR_c00c (sec : Section) (n : List Nat) (nf : NameFacts n) (pos : Nat) (k k2 : List (Nat × Name))
    (hk : lookup k 12 = some (labels n)) (hpos : 12 < pos)
    (ty ttl : Nat) (rd rest : List Nat) (view : RData)
    (hty : ty < 65536) (httl : ttl < 4294967296) (hrd : rd.length < 65536)
    (hview : parseRData sec (labels n) ty rd.length ⟨rd ++ rest, pos + 12, k ++ [(pos, labels n)]⟩ =
      some (view, ⟨rest, pos + 12 + rd.length, k2⟩)) :
    parseRR sec ⟨rrBytes namePtr ty ttl rd ++ rest, pos, k⟩ =
      some (⟨labels n, ty, 1, ttl, rd, view⟩, ⟨rest, pos + 12 + rd.length, k2⟩) := by
  have h253 := nf.le253
  have := parseRR_ptr sec 12 pos k k2 (labels n) hk (by omega) hpos (by rw [nf.len]; omega)
    ty 1 ttl rd rest view hty (by omega) httl hrd hview
  simpa [rrBytes, be16_namePtr] using this

/-- A message whose answer section is one record owned by the question name through the pointer 0xc00c parses as soon
as the typed RDATA of that record does. -/
theorem parse_one (id ty ty' ttl : Nat) (qn : List Nat) (nf : NameFacts qn) (rd : List Nat) (view : RData)
    (k2 : List (Nat × Name)) (hid : id < 65536) (hty : ty < 65536) (hty' : ty' < 65536) (httl : ttl < 4294967296)
    (hrd : rd.length < 65536) (hb : Bytes rd)
    (hview : parseRData .answer (labels qn) ty' rd.length ⟨rd ++ [], 12 + labLen (labels qn) + 1 + 4 + 12,
        entriesT 12 (labels qn) [] ++ [(12 + labLen (labels qn) + 1 + 4, labels qn)]⟩ =
      some (view, ⟨[], 12 + labLen (labels qn) + 1 + 4 + 12 + rd.length, k2⟩)) :
    parseMsg (be16 id ++ [0x84, 0] ++ be16 1 ++ be16 1 ++ be16 0 ++ be16 0 ++
        (qBytes (labels qn) ty ++ rrBytes namePtr ty' ttl rd)) =
      some ⟨id, 0x8400, [(labels qn, ty, 1)], [⟨labels qn, ty', 1, ttl, rd, view⟩], [], []⟩ := by
  have h253 := nf.le253
  have hrr := parseRR_c00c .answer qn nf (12 + labLen (labels qn) + 1 + 4) (entriesT 12 (labels qn) []) k2
    (lookup_question nf.ne) (by omega) ty' ttl rd [] view hty' httl hrd hview
  have := parse_msg id 0x84 ty 1 0 qn nf (rrBytes namePtr ty' ttl rd) _ [] _ _ hid (by omega) hty (by omega) (by omega)
    (parseRRs_one _ _ _ _ (by simpa using hrr)) rfl rfl
    (by simp only [rrBytes, Bytes_append]; exact ⟨Bytes_be16 _, Bytes_rrFixed _ _ _ _, hb⟩)
  simpa using this

/-- `dns_encode(QR_ANSWER)` for a legal question name, once the answer branch is known to append `rrs` -/
theorem encode_of (buflen id ty : Nat) (qn data : List Nat) (datalen : Nat) (hqn : LegalName qn) (rrs : List Nat)
    (an : Nat) (hfit : qn.length + 18 ≤ buflen)
    (hbr : ∀ b : Buf, b.cap = buflen → b.pos = qn.length + 18 →
      ansBranch buflen ty b data datalen = .ok (b.app rrs, an)) :
    dnsEncodeAnswer buflen id ty qn data datalen =
      .ok (be16 id ++ [0x84, 0] ++ be16 1 ++ be16 an ++ be16 0 ++ be16 0 ++ (qBytes (labels qn) ty ++ rrs)) := by
  have nf := nameFacts hqn
  rw [← nf.tok]
  exact dnsEncodeAnswer_of buflen id ty qn data datalen nf.le63 (by rw [nf.tok, nf.len]; omega) rrs an
    (fun b hcap hpos => hbr b hcap (by rw [hpos, nf.tok, nf.len]; omega))

theorem opaqueType_of_opaque {ty : Nat} (h : Opaque ty) : OpaqueType ty := by
  simp only [Opaque, List.mem_cons, List.not_mem_nil, or_false, not_or] at h
  exact ⟨h.1, h.2.1, h.2.2.1, h.2.2.2.1, h.2.2.2.2.1, h.2.2.2.2.2.1, h.2.2.2.2.2.2.1, h.2.2.2.2.2.2.2⟩

/-! ### Answers with opaque RDATA (NULL, PRIVATE, …) -/

theorem encode_null (buflen id ty : Nat) (qn data : List Nat) (hop : Opaque ty) (hqn : LegalName qn)
    (hfit : qn.length + 30 + data.length ≤ buflen) :
    dnsEncodeAnswer buflen id ty qn data data.length =
      .ok (be16 id ++ [0x84, 0] ++ be16 1 ++ be16 1 ++ be16 0 ++ be16 0 ++
        (qBytes (labels qn) ty ++ rrBytes namePtr ty 0 data)) := by
  have hop' := opaqueType_of_opaque hop
  refine encode_of buflen id ty qn data data.length hqn _ 1 (by omega) fun b hcap hpos => ?_
  unfold ansBranch
  rw [if_neg (by simp [T_CNAME, T_A]; exact ⟨hop'.2.2.1, hop'.1⟩),
    if_neg (by simp [T_MX, T_SRV]; exact ⟨hop'.2.2.2.2.1, hop'.2.2.2.2.2.2.1⟩),
    if_neg (by simp [T_TXT]; exact hop'.2.2.2.2.2.1)]
  exact ansNull_ok buflen ty b data hcap (by omega)

/-- **answer_null_wellformed.**  For a record type with opaque RDATA (NULL, PRIVATE and every type other
than A/NS/CNAME/PTR/MX/TXT/SRV/OPT), a legal query name and any payload that fits
(`qn.length + 30 + data.length ≤ buflen`, buffer at most 64 KiB as in iodined.c) `dns_encode` emits a
well-formed message: id and question echoed, flags QR|AA, exactly one answer record owned by the query
name (through the pointer 0xc00c), of the question's type, class IN, TTL 0, whose RDATA is exactly the
payload; no authority / additional records. -/
theorem answer_null_wellformed (buflen id ty : Nat) (qn data : List Nat)
    (hid : id < 65536) (hty : ty < 65536) (hop : Opaque ty) (hqn : LegalName qn) (hdata : IsBytes data)
    (hfit : qn.length + 30 + data.length ≤ buflen) (hbuf : buflen ≤ 65536) :
    ∃ pkt, dnsEncodeAnswer buflen id ty qn data data.length = .ok pkt ∧
      pkt.length = qn.length + 30 + data.length ∧
      parseMsg pkt = some ⟨id, 0x8400, [(labels qn, ty, 1)], [answerRR qn ty data .other], [], []⟩ := by
  have nf := nameFacts hqn
  refine ⟨_, encode_null buflen id ty qn data hop hqn hfit, ?_, ?_⟩
  · simp [nf.len]; omega
  · exact parse_one id ty ty 0 qn nf data .other _ hid hty hty (by omega) (by omega) hdata
      (by rw [parseRData_other _ _ _ (opaqueType_of_opaque hop)])

/-- non-vacuity: a NULL answer and a PRIVATE answer -/
example := answer_null_wellformed 65536 7727 10 [97, 98, 46, 116] [0, 255, 1] (by decide) (by decide) (by decide)
  (by decide) (by decide) (by decide) (by decide)
example : Opaque 65399 ∧ Opaque 10 ∧ ¬ Opaque 16 := by decide

example : dnsEncodeAnswer 512 7727 10 [97, 98, 46, 116] [0, 255, 1] 3 =
    .ok [0x1e, 0x2f, 0x84, 0, 0, 1, 0, 1, 0, 0, 0, 0, 2, 97, 98, 1, 116, 0, 0, 10, 0, 1,
         0xc0, 0x0c, 0, 10, 0, 1, 0, 0, 0, 0, 0, 3, 0, 255, 1] := by decide +kernel

/-! ### Queries -/

/-- the EDNS0 pseudo-record iodine's queries carry: root owner, type OPT, "class" = UDP payload size 4096,
"TTL" = extended rcode 0 / version 0 / DO bit (0x00008000), no options -/
def optRR : RR := ⟨[], 41, 4096, 0x8000, [], .opt []⟩

theorem parseRR_opt (pos : Nat) (k : List (Nat × Name)) :
    parseRR .additional ⟨optBytes, pos, k⟩ = some (optRR, ⟨[], pos + 11, k⟩) := by
  have hown : ∀ tl, parseName ⟨[0] ++ tl, pos, k⟩ = some ([], ⟨tl, pos + 1, k⟩) := by
    intro tl
    have := parseName_enc [] (by intro l hl; simp at hl) (by simp) pos k tl
    simpa [encName, entriesT] using this
  have := parseRR_compose .additional [0] [] [] pos (pos + 1) k k k [] 41 4096 0x8000 (.opt [])
    (by omega) (by omega) (by omega) (by simp) hown (by simpa using parseRData_opt_empty [] (pos + 1 + 10) k)
  simpa [optBytes, optRR] using this

/-- **query_wellformed.**  A query for a legal name (what client.c `send_query` and iodined.c's forwarder
emit): `12 + (|qn| + 2) + 4 (+ 11 with EDNS0)` bytes — always at most 282, far below the client's 4096-byte
buffer — parse strictly as: the given id, flags = RD only, one question (labels of `qn`, the type, class IN),
no answer/authority records, and either no additional record or exactly the OPT record announcing a
4096-byte UDP payload. -/
theorem query_wellformed (buflen id ty : Nat) (edns : Bool) (qn : List Nat)
    (hid : id < 65536) (hty : ty < 65536) (hqn : LegalName qn)
    (hfit : qn.length + 18 + (if edns then 11 else 0) ≤ buflen) :
    ∃ pkt, dnsEncodeQuery buflen id ty edns qn = .ok pkt ∧
      pkt.length = qn.length + 18 + (if edns then 11 else 0) ∧
      parseMsg pkt = some ⟨id, 0x0100, [(labels qn, ty, 1)], [], [], if edns then [optRR] else []⟩ := by
  have nf := nameFacts hqn
  have h253 := nf.le253
  have henc := dnsEncodeQuery_ok buflen id ty edns qn nf.le63 (by omega)
  refine ⟨_, henc, ?_, ?_⟩
  · cases edns <;> simp [nf.tok, nf.len, optBytes] <;> omega
  · rw [nf.tok]
    cases edns with
    | false =>
      have := parse_msg id 0x01 ty 0 0 qn nf [] [] [] _ _ hid (by omega) hty (by omega) (by omega)
        rfl rfl rfl Bytes_nil
      simpa using this
    | true =>
      have := parse_msg id 0x01 ty 0 1 qn nf optBytes [] [optRR] _ _ hid (by omega) hty (by omega) (by omega)
        rfl (parseRRs_one _ _ _ _ (parseRR_opt _ _)) rfl (by decide)
      simpa using this

example : dnsEncodeQuery 4096 7727 10 true [97, 98, 46, 116] =
    .ok [0x1e, 0x2f, 1, 0, 0, 1, 0, 0, 0, 0, 0, 1, 2, 97, 98, 1, 116, 0, 0, 10, 0, 1,
         0, 0, 41, 16, 0, 0, 0, 128, 0, 0, 0] := by decide +kernel

/-- the client's buffer (`char packet[4096]` in client.c) is always large enough -/
theorem query_wellformed_client (id ty : Nat) (edns : Bool) (qn : List Nat)
    (hid : id < 65536) (hty : ty < 65536) (hqn : LegalName qn) :
    ∃ pkt, dnsEncodeQuery 4096 id ty edns qn = .ok pkt ∧
      parseMsg pkt = some ⟨id, 0x0100, [(labels qn, ty, 1)], [], [], if edns then [optRR] else []⟩ := by
  have h := hqn.1
  obtain ⟨pkt, h1, _, h2⟩ := query_wellformed 4096 id ty edns qn hid hty hqn (by split <;> omega)
  exact ⟨pkt, h1, h2⟩
example : LegalName [97, 98, 46, 116] ∧ labels [97, 98, 46, 116] = [[97, 98], [116]] := by decide

/-! ### TXT answers -/

/-- RDATA made of the character strings `ss` (length byte, bytes) -/
def txtRData (ss : List (List Nat)) : List Nat := ss.flatMap (fun s => s.length :: s)

theorem encode_txt (buflen id : Nat) (qn data : List Nat) (hqn : LegalName qn)
    (hfit : qn.length + 30 + data.length + (data.length + 251) / 252 ≤ buflen) :
    dnsEncodeAnswer buflen id 16 qn data data.length =
      .ok (be16 id ++ [0x84, 0] ++ be16 1 ++ be16 1 ++ be16 0 ++ be16 0 ++
        (qBytes (labels qn) 16 ++ rrBytes namePtr 16 0 (encLabels (chunks252 data.length data)))) := by
  have hlab := chunks252_labLen data.length data (Nat.le_refl _)
  refine encode_of buflen id 16 qn data data.length hqn _ 1 (by omega) fun b hcap hpos => ?_
  unfold ansBranch
  rw [if_neg (by decide), if_neg (by decide), if_pos (by decide)]
  exact ansTxt_ok buflen 16 b data hcap (by rw [hpos, hlab]; omega)

/-- **answer_txt_wellformed.**  TXT answer for a legal query name and a non-empty payload that fits
(`|qn| + 30 + |data| + ⌈|data|/252⌉ ≤ buflen ≤ 64 KiB`): one answer record of type TXT owned by the query
name whose RDATA is tiled exactly by one or more character strings of at most 252 bytes (the code cuts at
252, "allow off-by-1s in caches etc"), and the strings concatenated are the payload. -/
theorem answer_txt_wellformed (buflen id : Nat) (qn data : List Nat)
    (hid : id < 65536) (hqn : LegalName qn) (hdata : IsBytes data) (hne : data ≠ [])
    (hfit : qn.length + 30 + data.length + (data.length + 251) / 252 ≤ buflen) (hbuf : buflen ≤ 65536) :
    ∃ pkt ss, dnsEncodeAnswer buflen id 16 qn data data.length = .ok pkt ∧
      pkt.length = qn.length + 30 + data.length + (data.length + 251) / 252 ∧
      parseMsg pkt = some ⟨id, 0x8400, [(labels qn, 16, 1)],
        [answerRR qn 16 (txtRData ss) (.txt ss)], [], []⟩ ∧
      ss ≠ [] ∧ ss.flatten = data ∧ ∀ s ∈ ss, s.length ≤ 252 := by
  have nf := nameFacts hqn
  have h253 := nf.le253
  have hlab := chunks252_labLen data.length data (Nat.le_refl _)
  have hch : chunks252 data.length data ≠ [] := by
    cases data with
    | nil => exact absurd rfl hne
    | cons a d => exact chunks252_ne_nil d.length (a :: d) hne
  refine ⟨_, chunks252 data.length data, encode_txt buflen id qn data hqn hfit, ?_, ?_, ?_,
    chunks252_flatten _ _ (Nat.le_refl _), chunks252_le _ _⟩
  · simp [nf.len, hlab]; omega
  · obtain ⟨s0, ss, hss⟩ : ∃ s0 ss, chunks252 data.length data = s0 :: ss := by
      cases hc : chunks252 data.length data with
      | nil => exact absurd hc hch
      | cons s0 ss => exact ⟨s0, ss, rfl⟩
    have hle : ∀ s ∈ s0 :: ss, s.length ≤ 255 := by
      intro s hs; rw [← hss] at hs; have := chunks252_le _ _ s hs; omega
    have := parse_one id 16 16 0 qn nf (encLabels (s0 :: ss)) (.txt (s0 :: ss)) _ hid (by omega) (by omega) (by omega)
      (by rw [encLabels_length, ← hss, hlab]; omega)
      (Bytes_encLabels _ (fun l hl => by have := hle l hl; omega)
        (fun l hl x hx => by rw [← hss] at hl; exact hdata x (chunks252_mem _ _ l hl x hx)))
      (by rw [encLabels_length]; exact parseRData_txt _ _ s0 ss hle [] _ _)
    rw [hss]
    simpa [answerRR, txtRData, encLabels] using this
  · exact hch

/-- non-vacuity: a 300-byte payload (two strings) satisfies all hypotheses -/
example := answer_txt_wellformed 65536 1 [97] (List.replicate 300 7) (by decide) (by decide)
  (fun b hb => by rw [List.mem_replicate] at hb; omega)
  (List.ne_nil_of_length_pos (by rw [List.length_replicate]; omega))
  (by rw [List.length_replicate]; decide) (by decide)

example : dnsEncodeAnswer 65536 1 16 [97] [116, 1, 2] 3 =
    .ok [0, 1, 0x84, 0, 0, 1, 0, 1, 0, 0, 0, 0, 1, 97, 0, 0, 16, 0, 1,
         0xc0, 0x0c, 0, 16, 0, 1, 0, 0, 0, 0, 0, 4, 3, 116, 1, 2] := by decide +kernel

/-- An EMPTY payload would give a TXT record with RDLENGTH 0 (zero character strings), which RFC 1035
3.3.14 ("one or more <character-string>s") and the strict parser reject; iodined never does this: it always
prefixes the payload with its encoding letter. -/
example : ∃ pkt, dnsEncodeAnswer 65536 1 16 [97] [] 0 = .ok pkt ∧ parseMsg pkt = none :=
  ⟨[0, 1, 0x84, 0, 0, 1, 0, 1, 0, 0, 0, 0, 1, 97, 0, 0, 16, 0, 1, 0xc0, 0x0c, 0, 16, 0, 1, 0, 0, 0, 0, 0, 0],
    by decide +kernel, by decide +kernel⟩

/-! ### CNAME answers (to CNAME and A questions) -/

theorem cstr_append_nul (dn tl : List Nat) (h : ∀ c ∈ dn, c ≠ 0) : cstr (dn ++ 0 :: tl) = dn :=
  DnsEncode.cstr_append_nul dn tl h

/-- an uncompressed name as RDATA: the labels of the dotted name, root byte -/
def nameRData (dn : List Nat) : List Nat := (labels dn).flatMap (fun l => l.length :: l) ++ [0]

theorem nameRData_eq (dn : List Nat) : nameRData dn = encName (labels dn) := rfl

theorem encode_cname (buflen id ty : Nat) (qn dn tl : List Nat) (datalen : Nat) (hty : ty = 5 ∨ ty = 1)
    (hqn : LegalName qn) (hdn : LegalName dn) (hfit : qn.length + 30 + dn.length + 2 ≤ buflen) :
    dnsEncodeAnswer buflen id ty qn (dn ++ 0 :: tl) datalen =
      .ok (be16 id ++ [0x84, 0] ++ be16 1 ++ be16 1 ++ be16 0 ++ be16 0 ++
        (qBytes (labels qn) ty ++ rrBytes namePtr 5 0 (encName (labels dn)))) := by
  have nd := nameFacts hdn
  have hc : cstr (dn ++ 0 :: tl) = dn := cstr_append_nul dn tl (fun c hc => (hdn.2.1 c hc).1)
  have hty5 : (if ty = T_A then T_CNAME else ty) = 5 := by
    rcases hty with h | h <;> simp [h, T_A, T_CNAME]
  refine encode_of buflen id ty qn (dn ++ 0 :: tl) datalen hqn _ 1 (by omega) fun b hcap hpos => ?_
  unfold ansBranch
  rw [if_pos (by simpa [T_CNAME, T_A] using hty)]
  have := ansCname_ok buflen ty b (dn ++ 0 :: tl) hcap (by rw [hc]; exact nd.le63)
    (by rw [hc, hpos, nd.tok, nd.len]; omega)
  rw [this, hc, nd.tok, hty5]

/-- **answer_cname_wellformed.**  Question of type CNAME (5) or A (1), `data` = the C string `dn` (a legal
name; NUL-terminated in memory, anything after the NUL is ignored): one answer record of type CNAME — also
for the A question — owned by the query name, whose RDATA is exactly the uncompressed encoding of `dn`
(RDLENGTH = |dn| + 2) and parses as the target name `labels dn`. -/
theorem answer_cname_wellformed (buflen id ty : Nat) (qn dn tl : List Nat) (datalen : Nat)
    (hid : id < 65536) (hty : ty = 5 ∨ ty = 1) (hqn : LegalName qn) (hdn : LegalName dn)
    (hfit : qn.length + 30 + dn.length + 2 ≤ buflen) :
    ∃ pkt, dnsEncodeAnswer buflen id ty qn (dn ++ 0 :: tl) datalen = .ok pkt ∧
      pkt.length = qn.length + 30 + dn.length + 2 ∧
      parseMsg pkt = some ⟨id, 0x8400, [(labels qn, ty, 1)],
        [answerRR qn 5 (nameRData dn) (.name (labels dn))], [], []⟩ := by
  have nf := nameFacts hqn
  have nd := nameFacts hdn
  have h253 := nf.le253
  have hd253 := nd.le253
  refine ⟨_, encode_cname buflen id ty qn dn tl datalen hty hqn hdn hfit, ?_, ?_⟩
  · simp [nf.len, nd.len]; omega
  · exact parse_one id ty 5 0 qn nf (encName (labels dn)) (.name (labels dn)) _ hid (by omega) (by omega) (by omega)
      (by rw [encName_length, nd.len]; omega) nd.bytes
      (parseRData_name _ _ _ _ (by omega) _ _ _
        (by
          rw [encName_length, ← Nat.add_assoc]
          exact parseName_enc (labels dn) nd.ok (by rw [nd.len]; omega)
            (12 + labLen (labels qn) + 1 + 4 + 12)
            (entriesT 12 (labels qn) [] ++ [(12 + labLen (labels qn) + 1 + 4, labels qn)]) []))

/-- non-vacuity: an A question answered with the CNAME "hx.yz" -/
example := answer_cname_wellformed 65536 7 1 [97, 46, 98] [104, 120, 46, 121, 122] [0] 1024 (by decide)
  (by decide) (by decide) (by decide) (by decide)

example : dnsEncodeAnswer 512 7 1 [97, 46, 98] [104, 120, 46, 121, 122, 0, 0] 1024 =
    .ok [0, 7, 0x84, 0, 0, 1, 0, 1, 0, 0, 0, 0, 1, 97, 1, 98, 0, 0, 1, 0, 1,
         0xc0, 0x0c, 0, 5, 0, 1, 0, 0, 0, 0, 0, 7, 2, 104, 120, 2, 121, 122, 0] := by decide +kernel

/-! ### MX and SRV answers -/

/-- the memory image the MX/SRV branch walks over: each name NUL-terminated, one more NUL at the end -/
def mxPack (dns : List (List Nat)) : List Nat := dns.flatMap (fun d => d ++ [0]) ++ [0]

/-- typed RDATA of the record with preference/priority `pref`: MX, or SRV with weight 10, port 5060 -/
def mxView (ty pref : Nat) (target : Name) : RData :=
  if ty = 33 then .srv pref 10 5060 target else .mx pref target

/-- its bytes: preference, (weight, port,) uncompressed target -/
def mxRDataBytes (ty pref : Nat) (dn : List Nat) : List Nat :=
  [pref / 256 % 256, pref % 256] ++ ((if ty = 33 then [0, 10, 19, 196] else []) ++ nameRData dn)

/-- the answer section for the names `dns`, numbered from `a`: preferences 10·a, 10·(a+1), … -/
def mxAnswers (qn : List Nat) (ty : Nat) : Nat → List (List Nat) → List RR
  | _, [] => []
  | a, d :: r => answerRR qn ty (mxRDataBytes ty (10 * a) d) (mxView ty (10 * a) (labels d)) ::
      mxAnswers qn ty (a + 1) r

/-- bytes the records take: 12 + 2 (+ 4 for SRV) + (|name| + 2) each -/
def mxSize (ty : Nat) (dns : List (List Nat)) : Nat :=
  (dns.map (fun d => d.length + (if ty = 33 then 20 else 16))).sum

theorem splitNul_append (d r : List Nat) (h : ∀ c ∈ d, c ≠ 0) :
    splitNul (d ++ 0 :: r) = (d, (splitNul r).1 :: (splitNul r).2) := by
  induction d with
  | nil => simp [splitNul]
  | cons a d ih =>
    have ha := h a (by simp)
    simp only [List.cons_append, splitNul, ha, if_false]
    rw [ih (fun c hc => h c (by simp [hc]))]

theorem mxNames_pack (d : List Nat) (dns : List (List Nat)) (tl : List Nat)
    (h : ∀ x ∈ d :: dns, x ≠ [] ∧ ∀ c ∈ x, c ≠ 0) : mxNames (mxPack (d :: dns) ++ tl) = d :: dns := by
  have key : ∀ (l : List (List Nat)), (∀ x ∈ l, x ≠ [] ∧ ∀ c ∈ x, c ≠ 0) →
      ((splitNul (l.flatMap (fun d => d ++ [0]) ++ 0 :: tl)).1 ::
        (splitNul (l.flatMap (fun d => d ++ [0]) ++ 0 :: tl)).2).takeWhile (fun s => !s.isEmpty) = l := by
    intro l
    induction l with
    | nil => intro _; simp [splitNul]
    | cons x l ih =>
      intro hl
      have hx := hl x (by simp)
      simp only [List.flatMap_cons, List.append_assoc, List.cons_append, List.nil_append]
      rw [splitNul_append x _ hx.2]
      simp only []
      rw [List.takeWhile_cons]
      have : (!x.isEmpty) = true := by
        cases x with
        | nil => exact absurd rfl hx.1
        | cons a x => rfl
      rw [if_pos this, ih (fun y hy => hl y (by simp [hy]))]
  unfold mxNames mxPack
  have hd := h d (by simp)
  simp only [List.flatMap_cons, List.append_assoc, List.cons_append, List.nil_append]
  rw [splitNul_append d _ hd.2]
  simp only []
  have := key dns (fun x hx => h x (by simp [hx]))
  rw [this]

theorem mxSize_cons (ty : Nat) (d : List Nat) (r : List (List Nat)) :
    mxSize ty (d :: r) = d.length + (if ty = 33 then 20 else 16) + mxSize ty r := by
  simp [mxSize]

theorem mxRecs_length (ty : Nat) (dns : List (List Nat)) (h : ∀ d ∈ dns, LegalName d) :
    ∀ a, (mxRecs ty a (dns.map tokens)).length = mxSize ty dns := by
  induction dns with
  | nil => intro a; rfl
  | cons d r ih =>
    intro a
    have nd := nameFacts (h d (by simp))
    simp only [List.map_cons, mxRecs, List.length_append, rrBytes_length, mxRData_length, mxSize_cons]
    rw [ih (fun x hx => h x (by simp [hx])) (a + 1), nd.tok, nd.len]
    by_cases h33 : ty = 33 <;> simp [h33, T_SRV] <;> omega

theorem mxSize_ge (ty : Nat) (dns : List (List Nat)) : 16 * dns.length ≤ mxSize ty dns := by
  induction dns with
  | nil => simp [mxSize]
  | cons d r ih =>
    rw [mxSize_cons]
    simp only [List.length_cons]
    split <;> omega

/-- the records of the MX/SRV loop parse one by one -/
theorem parse_mx (qn : List Nat) (nf : NameFacts qn) (ty : Nat) (hty : ty = 15 ∨ ty = 33) :
    ∀ (dns : List (List Nat)) (a pos : Nat) (k : List (Nat × Name)), (∀ d ∈ dns, LegalName d) →
      lookup k 12 = some (labels qn) → 12 < pos → 10 * (a + dns.length) < 65536 →
      ∃ k', parseRRs .answer dns.length ⟨mxRecs ty a (dns.map tokens), pos, k⟩ =
        some (mxAnswers qn ty a dns, ⟨[], pos + mxSize ty dns, k'⟩) := by
  intro dns
  induction dns with
  | nil => intro a pos k _ _ _ _; exact ⟨k, by simp [parseRRs, mxRecs, mxAnswers, mxSize]⟩
  | cons d r ih =>
    intro a pos k hleg hk hpos ha
    have nd := nameFacts (hleg d (by simp))
    have hd253 := nd.le253
    simp only [List.length_cons] at ha
    have hname : ∀ (p : Nat) (kk : List (Nat × Name)) (rest : List Nat),
        parseName ⟨encName (labels d) ++ rest, p, kk⟩ =
          some (labels d, ⟨rest, p + labLen (labels d) + 1, kk ++ entriesT p (labels d) []⟩) :=
      fun p kk rest => parseName_enc (labels d) nd.ok (by rw [nd.len]; omega) p kk rest
    obtain ⟨k', hrest⟩ := ih (a + 1) (pos + 12 + (mxRData ty a (labels d)).length)
      ((k ++ [(pos, labels qn)]) ++ entriesT (pos + 12 + (if ty = 33 then 6 else 2)) (labels d) [])
      (fun x hx => hleg x (by simp [hx]))
      (lookup_append_of_some _ (lookup_append_of_some _ hk)) (by omega) (by omega)
    refine ⟨k', ?_⟩
    simp only [List.map_cons, mxRecs, nd.tok, List.length_cons]
    have hrr : parseRR .answer ⟨rrBytes namePtr ty 0 (mxRData ty a (labels d)) ++
          mxRecs ty (a + 1) (r.map tokens), pos, k⟩ =
        some (⟨labels qn, ty, 1, 0, mxRData ty a (labels d), mxView ty (10 * a) (labels d)⟩,
          ⟨mxRecs ty (a + 1) (r.map tokens), pos + 12 + (mxRData ty a (labels d)).length,
            (k ++ [(pos, labels qn)]) ++ entriesT (pos + 12 + (if ty = 33 then 6 else 2)) (labels d) []⟩) := by
      apply parseRR_c00c .answer qn nf pos k _ hk hpos ty 0 _ _ _ (by omega) (by omega)
        (by rw [mxRData_length, nd.len]; split <;> omega)
      rcases hty with h | h
      · subst h
        have := parseRData_mx .answer (labels qn) (mxRData 15 a (labels d)).length (10 * a) (by omega)
          (encName (labels d) ++ mxRecs 15 (a + 1) (r.map tokens)) (pos + 12)
          (k ++ [(pos, labels qn)]) _ _ (hname _ _ _)
        simp only [mxRData, T_SRV, mxView] at this ⊢
        simp only [show (15 : Nat) ≠ 33 by decide, if_false, List.nil_append, List.append_assoc] at this ⊢
        rw [this]
        simp
        omega
      · subst h
        have := parseRData_srv .answer (labels qn) (mxRData 33 a (labels d)).length (10 * a) 10 5060
          (by omega) (by omega) (by omega)
          (encName (labels d) ++ mxRecs 33 (a + 1) (r.map tokens)) (pos + 12)
          (k ++ [(pos, labels qn)]) _ _ (hname _ _ _)
        simp only [mxRData, T_SRV, mxView] at this ⊢
        simp only [if_true, List.append_assoc] at this ⊢
        rw [this]
        simp
        omega
    have hsz : pos + 12 + (mxRData ty a (labels d)).length + mxSize ty r = pos + mxSize ty (d :: r) := by
      rw [mxRData_length, nd.len, mxSize_cons]
      by_cases h33 : ty = 33 <;> simp [h33, T_SRV] <;> omega
    rw [hsz] at hrest
    have := parseRRs_cons .answer r.length _ _ _ _ _ hrr hrest
    rw [this]
    simp only [mxAnswers, answerRR]
    simp only [mxRData, mxRDataBytes, be16, T_SRV, nameRData_eq]
    rcases hty with h | h <;> subst h <;> simp

theorem bytes_mxRecs (ty : Nat) (dns : List (List Nat)) (h : ∀ d ∈ dns, LegalName d) :
    ∀ a, Bytes (mxRecs ty a (dns.map tokens)) := by
  induction dns with
  | nil => intro a; exact Bytes_nil
  | cons d r ih =>
    intro a
    have nd := nameFacts (h d (by simp))
    simp only [List.map_cons, mxRecs, rrBytes, mxRData, Bytes_append, nd.tok]
    refine ⟨⟨Bytes_be16 _, Bytes_rrFixed _ _ _ _, Bytes_be16 _, ?_, nd.bytes⟩, ih (fun x hx => h x (by simp [hx])) _⟩
    split
    · exact Bytes_append.2 ⟨Bytes_be16 _, Bytes_be16 _⟩
    · exact Bytes_nil

theorem encode_mx (buflen id ty : Nat) (qn d : List Nat) (dns : List (List Nat)) (tl : List Nat) (datalen : Nat)
    (hty : ty = 15 ∨ ty = 33) (hqn : LegalName qn) (hdns : ∀ x ∈ d :: dns, LegalName x)
    (hfit : qn.length + 18 + mxSize ty (d :: dns) ≤ buflen) :
    dnsEncodeAnswer buflen id ty qn (mxPack (d :: dns) ++ tl) datalen =
      .ok (be16 id ++ [0x84, 0] ++ be16 1 ++ be16 (d :: dns).length ++ be16 0 ++ be16 0 ++
        (qBytes (labels qn) ty ++ mxRecs ty 1 ((d :: dns).map tokens))) := by
  have hnames : mxNames (mxPack (d :: dns) ++ tl) = d :: dns := by
    apply mxNames_pack
    intro x hx
    have hl := hdns x hx
    refine ⟨?_, fun c hc => (hl.2.1 c hc).1⟩
    intro he; subst he
    have := hl.2.2 [] (by simp [labels]); simp at this
  have hlenrec := mxRecs_length ty (d :: dns) hdns 1
  refine encode_of buflen id ty qn _ datalen hqn _ _ (by omega) fun b hcap hpos => ?_
  unfold ansBranch
  rw [if_neg (by rcases hty with h | h <;> simp [h, T_CNAME, T_A]),
    if_pos (by simpa [T_MX, T_SRV] using hty)]
  unfold ansMx
  simp only [hnames]
  rw [mxLoop_ok buflen ty (d :: dns) 1 b hcap (fun nm hnm => (nameFacts (hdns nm hnm)).le63)
    (by rw [hlenrec, hpos]; omega)]
  simp

/-- **answer_mx_srv_wellformed.**  Question of type MX (15) or SRV (33); `data` is the NUL-separated list
of the legal names `d :: dns` (ended by an empty string; whatever follows is ignored).  If everything fits
(`|qn| + 18 + Σ (|name| + 16)` bytes, for SRV `Σ (|name| + 20)`; buffer ≤ 64 KiB) the answer section has one
record per name, in order, each owned by the query name, of the question's type, with preference /
priority 10, 20, 30, … (SRV: weight 10, port 5060) and the name as uncompressed target. -/
theorem answer_mx_srv_wellformed (buflen id ty : Nat) (qn d : List Nat) (dns : List (List Nat)) (tl : List Nat)
    (datalen : Nat) (hid : id < 65536) (hty : ty = 15 ∨ ty = 33) (hqn : LegalName qn)
    (hdns : ∀ x ∈ d :: dns, LegalName x)
    (hfit : qn.length + 18 + mxSize ty (d :: dns) ≤ buflen) (hbuf : buflen ≤ 65536) :
    ∃ pkt, dnsEncodeAnswer buflen id ty qn (mxPack (d :: dns) ++ tl) datalen = .ok pkt ∧
      pkt.length = qn.length + 18 + mxSize ty (d :: dns) ∧
      parseMsg pkt = some ⟨id, 0x8400, [(labels qn, ty, 1)], mxAnswers qn ty 1 (d :: dns), [], []⟩ := by
  have nf := nameFacts hqn
  have h253 := nf.le253
  have hge := mxSize_ge ty (d :: dns)
  have hlenrec := mxRecs_length ty (d :: dns) hdns 1
  refine ⟨_, encode_mx buflen id ty qn d dns tl datalen hty hqn hdns hfit, ?_, ?_⟩
  · simp only [List.length_append, be16_length, List.length_cons, List.length_nil, qBytes_length, hlenrec, nf.len]
    omega
  · simp only [List.length_cons] at hge
    obtain ⟨k', hp⟩ := parse_mx qn nf ty hty (d :: dns) 1 (12 + labLen (labels qn) + 1 + 4)
      (entriesT 12 (labels qn) []) hdns (lookup_question nf.ne) (by omega)
      (by simp only [List.length_cons]; omega)
    have hty' : ty < 65536 := by omega
    exact parse_msg id 0x84 ty (d :: dns).length 0 qn nf _ _ [] _ _ hid (by omega) hty'
      (by simp only [List.length_cons]; omega) (by omega) hp rfl rfl (bytes_mxRecs ty _ hdns 1)

/-- non-vacuity: an MX question answered with two names, an SRV question with one -/
example := answer_mx_srv_wellformed 65536 9 15 [97, 46, 98] [104, 120, 46, 121] [[105, 46, 122]] [] 4096
  (by decide) (by decide) (by decide) (by decide) (by decide) (by decide)
example := answer_mx_srv_wellformed 65536 9 33 [97, 46, 98] [104, 120, 46, 121] [] [0, 1, 2] 4096
  (by decide) (by decide) (by decide) (by decide) (by decide) (by decide)

example : mxAnswers [97] 15 1 [[104], [105]] =
    [⟨[[97]], 15, 1, 0, [0, 10, 1, 104, 0], .mx 10 [[104]]⟩, ⟨[[97]], 15, 1, 0, [0, 20, 1, 105, 0], .mx 20 [[105]]⟩] := by
  decide

example : dnsEncodeAnswer 512 9 15 [97] (mxPack [[104], [105]]) 0 =
    .ok [0, 9, 0x84, 0, 0, 1, 0, 2, 0, 0, 0, 0, 1, 97, 0, 0, 15, 0, 1,
         0xc0, 0x0c, 0, 15, 0, 1, 0, 0, 0, 0, 0, 5, 0, 10, 1, 104, 0,
         0xc0, 0x0c, 0, 15, 0, 1, 0, 0, 0, 0, 0, 5, 0, 20, 1, 105, 0] := by decide +kernel

/-! ### The A response (A queries for ns.<domain> / www.<domain>) -/

/-- **a_response_wellformed.**  `dns_encode_a_response` for an A question (type 1) with a legal name and an
IPv4 destination address `a0.a1.a2.a3`: `|qn| + 34` bytes; one answer record owned by the query name, type
A, class IN, TTL 3600, RDLENGTH 4, the address. -/
theorem a_response_wellformed (buflen id : Nat) (qn : List Nat) (a0 a1 a2 a3 : Nat)
    (hid : id < 65536) (hqn : LegalName qn) (haddr : IsBytes [a0, a1, a2, a3])
    (hfit : qn.length + 34 ≤ buflen) :
    ∃ pkt, dnsEncodeAResponse buflen id 1 qn (some [a0, a1, a2, a3]) = .ok pkt ∧
      pkt.length = qn.length + 34 ∧
      parseMsg pkt = some ⟨id, 0x8400, [(labels qn, 1, 1)],
        [⟨labels qn, 1, 1, 3600, [a0, a1, a2, a3], .a [a0, a1, a2, a3]⟩], [], []⟩ := by
  have nf := nameFacts hqn
  have h253 := nf.le253
  have h0 := haddr a0 (by simp)
  have h1 := haddr a1 (by simp)
  have h2 := haddr a2 (by simp)
  have h3 := haddr a3 (by simp)
  have henc := dnsEncodeAResponse_ok buflen id 1 qn a0 a1 a2 a3 nf.le63 (by rw [nf.tok, nf.len]; omega)
  rw [Nat.mod_eq_of_lt h0, Nat.mod_eq_of_lt h1, Nat.mod_eq_of_lt h2, Nat.mod_eq_of_lt h3] at henc
  refine ⟨_, henc, ?_, ?_⟩
  · simp [nf.tok, nf.len]; omega
  · rw [nf.tok]
    exact parse_one id 1 1 3600 qn nf [a0, a1, a2, a3] (.a [a0, a1, a2, a3]) _ hid (by omega) (by omega) (by omega)
      (by simp) haddr (parseRData_a _ _ [a0, a1, a2, a3] [] rfl _ _)

example := a_response_wellformed 65536 77 [110, 115, 46, 116, 46, 99] 127 0 0 1 (by decide) (by decide)
  (by decide) (by decide)

/-! ### The NS response -/

/-- the label "ns" -/
def nsLabel : List Nat := [110, 115]

/-- RDATA of the NS record: the label "ns" followed by a compression pointer to message offset `off` -/
def nsRDataBytes (off : Nat) : List Nat := [2, 110, 115, 192 + off / 256, off % 256]

/-- the destination of the NS response: no IPv4 address known, or four address bytes -/
def DestOK (dest : Option (List Nat)) : Prop :=
  dest = none ∨ ∃ a0 a1 a2 a3, dest = some [a0, a1, a2, a3] ∧ IsBytes [a0, a1, a2, a3]

/-- the message `dns_encode_ns_response` must produce: the NS question echoed, one NS answer
`qn NS ns.<top domain>` with TTL 3600 whose RDATA is the label "ns" + a pointer to offset `ptr`, and — when an
IPv4 address is known — one additional record `ns.<top domain> A addr` -/
def nsMsg (id : Nat) (qn : List Nat) (topl : Name) (ptr : Nat) (dest : Option (List Nat)) : Msg :=
  ⟨id, 0x8400, [(labels qn, 2, 1)],
    [⟨labels qn, 2, 1, 3600, nsRDataBytes ptr, .name (nsLabel :: topl)⟩], [],
    match dest with
    | none => []
    | some addr => [⟨nsLabel :: topl, 1, 1, 3600, addr, .a addr⟩]⟩

/-- Core of the NS response theorems.  `pre` are the labels of the query name in front of the top domain,
`topl` the labels of the top domain; the pointer emitted is `12 + (|qn| - |top|)`, which is the offset of
the first label of `topl` exactly when `|qn| - |top| = labLen pre`. -/
theorem ns_core (buflen id : Nat) (qn top : List Nat) (pre topl : Name) (dest : Option (List Nat))
    (hid : id < 65536) (hqn : LegalName qn) (g : NsGuards qn top)
    (hlab : labels qn = pre ++ topl) (hdl : qn.length - top.length = labLen pre) (htop : topl ≠ [])
    (htl : labLen topl + 4 ≤ 255)
    (hdest : DestOK dest)
    (hfit : qn.length + 35 + (if dest.isSome then 16 else 0) ≤ buflen) :
    ∃ pkt, dnsEncodeNsResponse buflen id 2 qn top dest = .ok pkt ∧
      pkt.length = qn.length + 35 + (if dest.isSome then 16 else 0) ∧
      parseMsg pkt = some (nsMsg id qn topl (12 + (qn.length - top.length)) dest) := by
  have nf := nameFacts hqn
  have h253 := nf.le253
  have hpre : LabelsOK pre := fun l hl => nf.ok l (by rw [hlab]; simp [hl])
  have hlenq : labLen pre + labLen topl = qn.length + 1 := by rw [← labLen_append, ← hlab, nf.len]
  have hpfx := nsResponse_prefix buflen id 2 qn top dest g nf.le63 (by rw [nf.tok, nf.len]; omega)
  rw [nf.tok] at hpfx
  -- the NS record starts at offset P
  obtain ⟨P, hP⟩ : ∃ P, P = 12 + labLen (labels qn) + 1 + 4 := ⟨_, rfl⟩
  have hPv : P = qn.length + 18 := by rw [hP, nf.len]; omega
  have hnsr : nsRData (qn.length - top.length) = encLabels [nsLabel] ++ encPtr (12 + labLen pre) := by
    rw [hdl, nsRData, be16_ptr _ (by omega)]
    rfl
  have hnsb : nsRDataBytes (12 + (qn.length - top.length)) = nsRData (qn.length - top.length) := by
    rw [hnsr, hdl]; rfl
  have hnsB : Bytes (nsRData (qn.length - top.length)) := by
    rw [hnsr]
    exact Bytes_append.2 ⟨by decide, Bytes_encPtr _ (by omega)⟩
  have hk0 : lookup (entriesT 12 (labels qn) [] ++ [(P, labels qn)]) (12 + labLen pre) = some topl := by
    apply lookup_append_of_some
    rw [hlab]
    have := lookup_entriesT_mid pre topl [] htop hpre 12
    simpa using this
  have hrr : ∀ rest, parseRR .answer ⟨rrBytes namePtr 2 3600 (nsRData (qn.length - top.length)) ++ rest, P,
        entriesT 12 (labels qn) []⟩ =
      some (⟨labels qn, 2, 1, 3600, nsRData (qn.length - top.length), .name (nsLabel :: topl)⟩,
        ⟨rest, P + 17, (entriesT 12 (labels qn) [] ++ [(P, labels qn)]) ++
          (entriesT (P + 12) [nsLabel] topl ++ [(P + 12 + 3, topl)])⟩) := by
    intro rest
    have hlen5 : (nsRData (qn.length - top.length)).length = 5 := rfl
    have hname : parseName ⟨nsRData (qn.length - top.length) ++ rest, P + 12,
          entriesT 12 (labels qn) [] ++ [(P, labels qn)]⟩ =
        some (nsLabel :: topl, ⟨rest, P + 12 + 5, (entriesT 12 (labels qn) [] ++ [(P, labels qn)]) ++
          (entriesT (P + 12) [nsLabel] topl ++ [(P + 12 + 3, topl)])⟩) := by
      rw [hnsr]
      have := parseName_labels_ptr [nsLabel] (by intro l hl; simp at hl; subst hl; decide) (12 + labLen pre)
        (P + 12) (entriesT 12 (labels qn) [] ++ [(P, labels qn)]) topl rest (by omega) (by omega) hk0
        (by simp [nsLabel]; omega)
      simpa [nsLabel] using this
    have := parseRR_c00c .answer qn nf P (entriesT 12 (labels qn) []) _
      (lookup_question nf.ne) (by omega) 2 3600 (nsRData (qn.length - top.length)) rest
      (.name (nsLabel :: topl)) (by omega) (by omega) (by rw [hlen5]; omega)
      (by rw [hlen5]; exact parseRData_name _ _ _ _ (by omega) _ _ _ hname)
    rw [this, hlen5]
  rcases hdest with hd | ⟨a0, a1, a2, a3, hd, haddr⟩
  · subst hd
    simp only [R.pure_eq, app_toList, buf0_toList] at hpfx
    rw [show ∀ body, setCount (header id 132) 6 1 ++ body =
        be16 id ++ [132, 0] ++ be16 1 ++ be16 1 ++ be16 0 ++ be16 0 ++ body from
      fun body => by simp [setCount, header, be16]] at hpfx
    simp only [Option.isSome_none, Bool.false_eq_true, if_false, Nat.add_zero] at hfit ⊢
    refine ⟨_, hpfx, ?_, ?_⟩
    · simp [nf.len, nsRData]; omega
    · have hb : Bytes (rrBytes namePtr 2 3600 (nsRData (qn.length - top.length))) := by
        simp only [rrBytes, Bytes_append]
        exact ⟨Bytes_be16 _, Bytes_rrFixed _ _ _ _, hnsB⟩
      have hrr0 := hrr []
      subst hP
      have := parse_msg id 0x84 2 1 0 qn nf _ _ [] _ _ hid (by omega) (by omega) (by omega) (by omega)
        (parseRRs_one _ _ _ _ (by simpa using hrr0)) rfl rfl hb
      simpa [nsMsg, hnsb] using this
  · subst hd
    have h0 := haddr a0 (by simp)
    have h1 := haddr a1 (by simp)
    have h2 := haddr a2 (by simp)
    have h3 := haddr a3 (by simp)
    simp only [Option.isSome_some, if_true] at hfit ⊢
    simp only [] at hpfx
    rw [aRecord_ok buflen _ rfl _ T_A a0 a1 a2 a3 (by simp [nf.len, nsRData]; omega)] at hpfx
    simp only [R.pure_eq, T_A, app_toList, buf0_toList] at hpfx
    rw [Nat.mod_eq_of_lt h0, Nat.mod_eq_of_lt h1, Nat.mod_eq_of_lt h2, Nat.mod_eq_of_lt h3, List.append_assoc,
      setCount_ar] at hpfx
    have hptr : be16 (49152 + (12 + labLen (labels qn) + 5 + 12) % 16384) = encPtr (P + 12) := by
      rw [show 12 + labLen (labels qn) + 5 + 12 = P + 12 by omega, be16_ptr _ (by omega)]
    have hbody : qBytes (labels qn) 2 ++ rrBytes namePtr 2 3600 (nsRData (qn.length - top.length)) ++
        rrBytes (49152 + (12 + labLen (labels qn) + 5 + 12) % 16384) 1 3600 [a0, a1, a2, a3] =
        qBytes (labels qn) 2 ++ (rrBytes namePtr 2 3600 (nsRData (qn.length - top.length)) ++
          (encPtr (P + 12) ++ (rrFixed 1 1 3600 4 ++ ([a0, a1, a2, a3] ++ [])))) := by
      simp [rrBytes, hptr]
    rw [hbody] at hpfx
    refine ⟨_, hpfx, ?_, ?_⟩
    · simp [nf.len, nsRData, encPtr]; omega
    · have hb : Bytes (rrBytes namePtr 2 3600 (nsRData (qn.length - top.length)) ++
          (encPtr (P + 12) ++ (rrFixed 1 1 3600 4 ++ ([a0, a1, a2, a3] ++ [])))) := by
        simp only [rrBytes, Bytes_append]
        exact ⟨⟨Bytes_be16 _, Bytes_rrFixed _ _ _ _, hnsB⟩,
          Bytes_encPtr _ (by omega), Bytes_rrFixed _ _ _ _, haddr, Bytes_nil⟩
      -- the additional record: owner = pointer to the "ns" label of the NS RDATA
      have hk2 : lookup ((entriesT 12 (labels qn) [] ++ [(P, labels qn)]) ++
          (entriesT (P + 12) [nsLabel] topl ++ [(P + 12 + 3, topl)])) (P + 12) = some (nsLabel :: topl) := by
        rw [lookup_append_of_none]
        · simp [entriesT, lookup]
        · rw [lookup_append_of_none _ (lookup_entriesT_none _ _ _ _ (by omega))]
          simp only [lookup]
          rw [if_neg (by omega)]
      have har := parseRR_ptr .additional (P + 12) (P + 17) _ _ (nsLabel :: topl) hk2
        (by omega) (by omega) (by simp [nsLabel]; omega)
        1 1 3600 [a0, a1, a2, a3] [] (.a [a0, a1, a2, a3]) (by omega) (by omega) (by omega) (by simp)
        (parseRData_a _ _ [a0, a1, a2, a3] [] rfl _ _)
      have hrr1 := hrr (encPtr (P + 12) ++ (rrFixed 1 1 3600 4 ++ ([a0, a1, a2, a3] ++ [])))
      subst hP
      have := parse_msg id 0x84 2 1 1 qn nf _ _ _ _ _ hid (by omega) (by omega) (by omega) (by omega)
        (parseRRs_one _ _ _ _ hrr1) (parseRRs_one _ _ _ _ har) rfl hb
      simpa [nsMsg, hnsb] using this

/-- **ns_response_wellformed.**  NS query for `qn = sub.top` (legal name; `top` is the part of the name the
server passes as top domain, at most 250 characters — iodined accepts at most 128): the response is
well-formed, echoes the question, and answers `qn NS ns.<top>`; the compression pointer in the RDATA is
`12 + |sub| + 1`, the message offset at which the first label of `top` starts inside the question name
(labels take one length byte instead of one dot, and `qn` has no empty label).  With a known IPv4 address
the additional section holds `ns.<top> A addr`, owner compressed to a pointer at the "ns" label. -/
theorem ns_response_wellformed (buflen id : Nat) (sub top : List Nat) (dest : Option (List Nat))
    (hid : id < 65536) (hqn : LegalName (sub ++ 46 :: top)) (htop : top.length ≤ 250) (hdest : DestOK dest)
    (hfit : (sub ++ 46 :: top).length + 35 + (if dest.isSome then 16 else 0) ≤ buflen) :
    ∃ pkt, dnsEncodeNsResponse buflen id 2 (sub ++ 46 :: top) top dest = .ok pkt ∧
      pkt.length = (sub ++ 46 :: top).length + 35 + (if dest.isSome then 16 else 0) ∧
      parseMsg pkt = some (nsMsg id (sub ++ 46 :: top) (labels top) (12 + sub.length + 1) dest) := by
  have hlab := labels_append_dot sub top
  have hsub : sub ≠ [] := by
    intro he
    have := hqn.2.2 [] (by rw [hlab, he]; simp [labels])
    simp at this
  have hlen : (sub ++ 46 :: top).length - top.length = sub.length + 1 := by simp; omega
  have g : NsGuards (sub ++ 46 :: top) top := by
    refine ⟨by simp; omega, ?_, ?_, ?_⟩
    · have : 0 < sub.length := List.length_pos_iff.2 hsub
      simp; omega
    · rw [hlen, show sub ++ 46 :: top = (sub ++ [46]) ++ top by simp, List.drop_left' (by simp)]
    · right
      rw [hlen]
      simp
  have := ns_core buflen id (sub ++ 46 :: top) top (labels sub) (labels top) dest hid hqn g hlab
    (by rw [hlen, labLen_labels]) (labels_ne_nil top) (by rw [labLen_labels]; omega) hdest hfit
  rw [hlen, ← Nat.add_assoc] at this
  exact this

/-- the same for a query for the top domain itself (`domain_len = 0`): the pointer is 12, the start of the
question name -/
theorem ns_response_apex_wellformed (buflen id : Nat) (top : List Nat) (dest : Option (List Nat))
    (hid : id < 65536) (hqn : LegalName top) (htop : top.length ≤ 250) (hdest : DestOK dest)
    (hfit : top.length + 35 + (if dest.isSome then 16 else 0) ≤ buflen) :
    ∃ pkt, dnsEncodeNsResponse buflen id 2 top top dest = .ok pkt ∧
      pkt.length = top.length + 35 + (if dest.isSome then 16 else 0) ∧
      parseMsg pkt = some (nsMsg id top (labels top) 12 dest) := by
  have g : NsGuards top top := ⟨Nat.le_refl _, by omega, by simp, by left; omega⟩
  have := ns_core buflen id top top [] (labels top) dest hid hqn g (by simp) (by simp) (labels_ne_nil top)
    (by rw [labLen_labels]; omega) hdest hfit
  simpa using this

/-- non-vacuity: "x.t.c" under "t.c" with and without an address; the apex -/
example := ns_response_wellformed 65536 5 [120] [116, 46, 99] (some [10, 0, 0, 1]) (by decide) (by decide)
  (by decide) (Or.inr ⟨10, 0, 0, 1, rfl, by decide⟩) (by decide)
example := ns_response_wellformed 65536 5 [120] [116, 46, 99] none (by decide) (by decide)
  (by decide) (Or.inl rfl) (by decide)
example := ns_response_apex_wellformed 65536 5 [116, 46, 99] none (by decide) (by decide)
  (by decide) (Or.inl rfl) (by decide)

example : dnsEncodeNsResponse 512 5 2 [120, 46, 116, 46, 99] [116, 46, 99] (some [10, 0, 0, 1]) =
    .ok [0, 5, 0x84, 0, 0, 1, 0, 1, 0, 0, 0, 1, 1, 120, 1, 116, 1, 99, 0, 0, 2, 0, 1,
         0xc0, 0x0c, 0, 2, 0, 1, 0, 0, 14, 16, 0, 5, 2, 110, 115, 0xc0, 14,
         0xc0, 35, 0, 1, 0, 1, 0, 0, 14, 16, 0, 4, 10, 0, 0, 1] := by decide +kernel

/-- Why the quantifier of C10 excludes labels containing '.': a query whose first label is the two bytes
"a." reaches the server as the dotted string "a..t.c"; `strtok` drops the empty piece, so the question is
re-encoded as a.t.c and the pointer `12 + 3` lands inside the label "t" — the response is malformed. -/
example : ∃ pkt, dnsEncodeNsResponse 512 5 2 [97, 46, 46, 116, 46, 99] [116, 46, 99] none = .ok pkt ∧
    parseMsg pkt = none :=
  ⟨[0, 5, 0x84, 0, 0, 1, 0, 1, 0, 0, 0, 0, 1, 97, 1, 116, 1, 99, 0, 0, 2, 0, 1,
    0xc0, 0x0c, 0, 2, 0, 1, 0, 0, 14, 16, 0, 5, 2, 110, 115, 0xc0, 15], by decide +kernel, by decide +kernel⟩

/-! ### Echo -/

/-- The cases covered by the `answer_*` theorems: record type, `data`/`datalen` as passed to `dns_encode`,
and the space needed in a buffer of `buflen ≤ 64 KiB` bytes (`n` = length of the query name). -/
inductive AnswerCase (buflen n : Nat) : Nat → List Nat → Nat → Prop
  | raw (ty : Nat) (data : List Nat) : ty < 65536 → Opaque ty → IsBytes data →
      n + 30 + data.length ≤ buflen → AnswerCase buflen n ty data data.length
  | txt (data : List Nat) : IsBytes data → data ≠ [] →
      n + 30 + data.length + (data.length + 251) / 252 ≤ buflen → AnswerCase buflen n 16 data data.length
  | cname (ty : Nat) (dn tl : List Nat) (datalen : Nat) : ty = 5 ∨ ty = 1 → LegalName dn →
      n + 30 + dn.length + 2 ≤ buflen → AnswerCase buflen n ty (dn ++ 0 :: tl) datalen
  | mx (ty : Nat) (d : List Nat) (dns : List (List Nat)) (tl : List Nat) (datalen : Nat) : ty = 15 ∨ ty = 33 →
      (∀ x ∈ d :: dns, LegalName x) → n + 18 + mxSize ty (d :: dns) ≤ buflen →
      AnswerCase buflen n ty (mxPack (d :: dns) ++ tl) datalen

theorem mxAnswers_owner (qn : List Nat) (ty : Nat) (dns : List (List Nat)) :
    ∀ a, ∀ r ∈ mxAnswers qn ty a dns, r.owner = labels qn ∧ r.type = ty ∧ r.cls = 1 := by
  induction dns with
  | nil => intro a r hr; simp [mxAnswers] at hr
  | cons d rest ih =>
    intro a r hr
    simp only [mxAnswers, List.mem_cons] at hr
    rcases hr with rfl | hr
    · simp [answerRR]
    · exact ih _ r hr

/-- **echo.**  In every case above the answer is emitted (no early `return 0`, no store outside the
buffer), is a well-formed message, and carries the id of the query, the flags QR|AA, exactly the question
(name, type, IN) of the query, at least one answer record, every answer record owned by the query name with
class IN, and nothing in the authority and additional sections.  (For queries, the NS response and the A
response the same facts are part of `query_wellformed`, `ns_response_wellformed`, `a_response_wellformed`,
which state the complete parsed message.) -/
theorem echo (buflen id ty : Nat) (qn data : List Nat) (datalen : Nat)
    (hid : id < 65536) (hqn : LegalName qn) (hbuf : buflen ≤ 65536)
    (hc : AnswerCase buflen qn.length ty data datalen) :
    ∃ pkt m, dnsEncodeAnswer buflen id ty qn data datalen = .ok pkt ∧ parseMsg pkt = some m ∧
      m.id = id ∧ m.flags = 0x8400 ∧ m.qd = [(labels qn, ty, 1)] ∧ m.an ≠ [] ∧
      (∀ r ∈ m.an, r.owner = labels qn ∧ r.cls = 1) ∧ m.ns = [] ∧ m.ar = [] := by
  cases hc with
  | raw ty data hty hop hdata hfit =>
    obtain ⟨pkt, h1, _, h2⟩ := answer_null_wellformed buflen id ty qn data hid hty hop hqn hdata hfit hbuf
    exact ⟨pkt, _, h1, h2, rfl, rfl, rfl, by simp, by simp [answerRR], rfl, rfl⟩
  | txt data hdata hne hfit =>
    obtain ⟨pkt, ss, h1, _, h2, _⟩ := answer_txt_wellformed buflen id qn data hid hqn hdata hne hfit hbuf
    exact ⟨pkt, _, h1, h2, rfl, rfl, rfl, by simp, by simp [answerRR], rfl, rfl⟩
  | cname ty dn tl datalen hty hdn hfit =>
    obtain ⟨pkt, h1, _, h2⟩ := answer_cname_wellformed buflen id ty qn dn tl datalen hid hty hqn hdn hfit
    exact ⟨pkt, _, h1, h2, rfl, rfl, rfl, by simp, by simp [answerRR], rfl, rfl⟩
  | mx ty d dns tl datalen hty hdns hfit =>
    obtain ⟨pkt, h1, _, h2⟩ := answer_mx_srv_wellformed buflen id ty qn d dns tl datalen hid hty hqn hdns hfit hbuf
    refine ⟨pkt, _, h1, h2, rfl, rfl, rfl, by simp [mxAnswers], ?_, rfl, rfl⟩
    intro r hr
    have := mxAnswers_owner qn ty (d :: dns) 1 r hr
    exact ⟨this.1, this.2.2⟩

/-- **echo_any.**  The echo does not depend on the data at all: for a legal query name and a buffer with
room for header and question (`|qn| + 18` bytes), whatever `dns_encode(QR_ANSWER)` emits for whatever record
type, data and data length — if it is a well-formed message at all, it carries the id of the query and
exactly the query's question. -/
theorem echo_any (buflen id ty : Nat) (qn data : List Nat) (datalen : Nat)
    (hid : id < 65536) (hty : ty < 65536) (hqn : LegalName qn) (hfit : qn.length + 18 ≤ buflen)
    (pkt : List Nat) (m : Msg) (henc : dnsEncodeAnswer buflen id ty qn data datalen = .ok pkt)
    (hm : parseMsg pkt = some m) : m.id = id ∧ m.qd = [(labels qn, ty, 1)] := by
  have nf := nameFacts hqn
  have h253 := nf.le253
  unfold dnsEncodeAnswer at henc
  rw [if_neg (by omega), question_ok (buflen := buflen) _ rfl rfl ty qn nf.le63 (by rw [nf.tok, nf.len]; omega)] at henc
  simp only [R.bind_eq_ok, R.pure_eq] at henc
  obtain ⟨r, hbr, hpkt⟩ := henc
  cases hpkt
  have hpre : Pre (header id 0x84 ++ qBytes (tokens qn) ty) r.1 :=
    ansBranch_pre hbr (by unfold Pre; simp)
  obtain ⟨t, ht⟩ := hpre
  rw [← ht, List.append_assoc, setCount_an, nf.tok] at hm
  simp only [qBytes, List.append_assoc] at hm
  exact parseMsg_echo id 0x84 r.2 0 0 ty (labels qn) t m hid hty nf.ok (by rw [nf.len]; omega)
    (by simpa only [List.append_assoc] using hm)

/-- non-vacuity of `echo_any` on data none of the `answer_*` theorems covers: the MX "name" "." (no label
at all) is emitted as the root name, the message still parses and still echoes -/
example : ∃ m, parseMsg [0, 7, 132, 0, 0, 1, 0, 1, 0, 0, 0, 0, 1, 97, 0, 0, 15, 0, 1,
      192, 12, 0, 15, 0, 1, 0, 0, 0, 0, 0, 3, 0, 10, 0] = some m ∧ m.id = 7 ∧ m.qd = [([[97]], 15, 1)] := by
  have henc : dnsEncodeAnswer 512 7 15 [97] [46, 0, 0] 1 = .ok [0, 7, 132, 0, 0, 1, 0, 1, 0, 0, 0, 0, 1, 97, 0, 0,
      15, 0, 1, 192, 12, 0, 15, 0, 1, 0, 0, 0, 0, 0, 3, 0, 10, 0] := by decide +kernel
  have hm : parseMsg [0, 7, 132, 0, 0, 1, 0, 1, 0, 0, 0, 0, 1, 97, 0, 0, 15, 0, 1,
      192, 12, 0, 15, 0, 1, 0, 0, 0, 0, 0, 3, 0, 10, 0] =
      some ⟨7, 0x8400, [([[97]], 15, 1)], [⟨[[97]], 15, 1, 0, [0, 10, 0], .mx 10 []⟩], [], []⟩ := by
    decide +kernel
  exact ⟨_, hm, echo_any 512 7 15 [97] [46, 0, 0] 1 (by decide) (by decide) (by decide) (by decide) _ _ henc hm⟩

example : AnswerCase 65536 3 10 [1, 2, 3] 3 := .raw 10 [1, 2, 3] (by decide) (by decide) (by decide) (by decide)

/-! ### The callers' buffers

iodined.c uses `char buf[64*1024]` for every answer.  For the responses whose size is bounded by the
lengths of two names the buffer always suffices; NULL/TXT/MX/SRV answers fit as stated in their theorems. -/

theorem answer_cname_wellformed_server (id ty : Nat) (qn dn tl : List Nat) (datalen : Nat)
    (hid : id < 65536) (hty : ty = 5 ∨ ty = 1) (hqn : LegalName qn) (hdn : LegalName dn) :
    ∃ pkt, dnsEncodeAnswer 65536 id ty qn (dn ++ 0 :: tl) datalen = .ok pkt ∧
      parseMsg pkt = some ⟨id, 0x8400, [(labels qn, ty, 1)],
        [answerRR qn 5 (nameRData dn) (.name (labels dn))], [], []⟩ := by
  have h1 := hqn.1
  have h2 := hdn.1
  obtain ⟨pkt, h1, _, h2⟩ := answer_cname_wellformed 65536 id ty qn dn tl datalen hid hty hqn hdn (by omega)
  exact ⟨pkt, h1, h2⟩

theorem ns_response_wellformed_server (id : Nat) (sub top : List Nat) (dest : Option (List Nat))
    (hid : id < 65536) (hqn : LegalName (sub ++ 46 :: top)) (htop : top.length ≤ 250) (hdest : DestOK dest) :
    ∃ pkt, dnsEncodeNsResponse 65536 id 2 (sub ++ 46 :: top) top dest = .ok pkt ∧
      parseMsg pkt = some (nsMsg id (sub ++ 46 :: top) (labels top) (12 + sub.length + 1) dest) := by
  have h1 := hqn.1
  obtain ⟨pkt, h1, _, h2⟩ := ns_response_wellformed 65536 id sub top dest hid hqn htop hdest
    (by split <;> omega)
  exact ⟨pkt, h1, h2⟩

theorem a_response_wellformed_server (id : Nat) (qn : List Nat) (a0 a1 a2 a3 : Nat)
    (hid : id < 65536) (hqn : LegalName qn) (haddr : IsBytes [a0, a1, a2, a3]) :
    ∃ pkt, dnsEncodeAResponse 65536 id 1 qn (some [a0, a1, a2, a3]) = .ok pkt ∧
      parseMsg pkt = some ⟨id, 0x8400, [(labels qn, 1, 1)],
        [⟨labels qn, 1, 1, 3600, [a0, a1, a2, a3], .a [a0, a1, a2, a3]⟩], [], []⟩ := by
  have h1 := hqn.1
  obtain ⟨pkt, h1, _, h2⟩ := a_response_wellformed 65536 id qn a0 a1 a2 a3 hid hqn haddr (by omega)
  exact ⟨pkt, h1, h2⟩

/-! ### Stores outside the buffer (latent: not reachable with the callers' buffer sizes)

All theorems above conclude `R.ok`, so with the stated room no store leaves the buffer.  With a buffer
that is too small the encoders do not always fail cleanly: `putname` compares `strlen(word) > left`, i.e.
accepts a label of exactly `left` bytes although it stores `left + 1` bytes; `left` then is -1, which the
comparison (done in `size_t`) treats as a huge bound, so all further labels are stored unchecked; the root
byte is stored without any check; and `dns_encode` passes `buflen - (p - buf)` after an unchecked `p += 2`.
Each witness below was confirmed on the C code under AddressSanitizer (heap-buffer-overflow, WRITE). -/

/-- `putname(&p, 3, "abc")` on a 3-byte buffer stores 5 bytes -/
example : putname ⟨#[], 3⟩ 3 [97, 98, 99] = .fault .oobWrite := by decide +kernel

/-- after a label of exactly `left` bytes the bound is gone: `putname(&p, 3, "abc.defgh")` overruns even a
5-byte object -/
example : putname ⟨#[], 5⟩ 3 [97, 98, 99, 46, 100, 101, 102, 103, 104] = .fault .oobWrite := by decide +kernel

/-- query "aaaaaaaa" into a 20-byte buffer: name needs 10 bytes at offset 12 -/
example : dnsEncodeQuery 20 1 10 false [97, 97, 97, 97, 97, 97, 97, 97] = .fault .oobWrite := by decide +kernel

/-- CNAME answer, buffer ends right after the ten fixed bytes of the record: `p += 2` leaves the buffer and
`putname` gets the bound -2 -/
example : dnsEncodeAnswer 29 1 5 [97] [98, 0, 0] 1 = .fault .oobWrite := by decide +kernel

/-- TXT answer, same position: `puttxtbin` gets a wrapped-around `bufremain` -/
example : dnsEncodeAnswer 29 1 16 [97] [1, 2, 3] 3 = .fault .oobWrite := by decide +kernel

/-- MX answer whose name exactly fills the rest of the buffer: label of `left` bytes, then the root byte -/
example : dnsEncodeAnswer 36 1 15 [97] [98, 99, 100, 0, 0] 3 = .fault .oobWrite := by decide +kernel

end Iodine.C10
