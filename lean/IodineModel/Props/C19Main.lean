import IodineModel.Props.C19
import IodineModel.Lemmas.OptSrv
import IodineModel.Lemmas.OptCli
/-
C19, continued: where the 32-byte block that `login_calculate` hashes comes from.

The theorems of Props/C19.lean speak about "the password padded to 32 bytes".  What both ends really hash is `password[0..32)`
of a 33-byte buffer that `main()` fills (src/iodined.c, src/iodine.c): `-P` (repeatable: `strncpy(password, optarg, 33);
password[32] = 0`), else `getenv("IODINE[D]_PASS")` (`snprintf`), else the line typed at the prompt (`read_password`).  The models
of the two `main()`s (Server/Options.lean, Client/Options.lean; tied to the code by the `main` ops of the harnesses) keep that
buffer byte by byte.  Proved here, for EVERY argument vector and environment: whenever `tunnel()` / `client_handshake()` is
reached, the buffer is the EFFECTIVE password — the last `-P` argument if it is not empty, else the environment variable, else
the typed line — cut at 32 bytes, ZERO PADDED to 32, followed by a NUL.  (`-P long -P short` must not leave a tail of `long`
behind: with `snprintf(password, 33, "%s", optarg)` in place of the `strncpy` the statement is false, see the witness below.)
-/
namespace Iodine.C19
open Iodine Iodine.Getopt

/-! ### Specification side -/

/-- the argument of the last `-P` option `getopt` delivers (`'P'` = 80), if there is one -/
def lastP (opts : List Opt) : Option (List Nat) :=
  (opts.filterMap fun x => match x with | .arg 80 a => some a | _ => none).getLast?

/-- the first line typed at the prompt, at most 79 characters (`fscanf(stdin, "%79[^\n]", …)`) -/
def typedLine (typed : List Nat) : List Nat := (typed.takeWhile (· ≠ 10)).take 79

/-- the password a user of the program means: the last `-P` if it is not empty, else the environment variable, else the prompt -/
def effectivePassword (opts : List Opt) (envPass : Option (List Nat)) (typed : List Nat) : List Nat :=
  match lastP opts with
  | some (c :: p) => c :: p
  | _ => match envPass with
    | some e => e
    | none => typedLine typed

/-- C strings: no NUL inside an argument -/
def CStrings (argv : List (List Nat)) : Prop := ∀ a ∈ argv, 0 ∉ a

instance (argv : List (List Nat)) : Decidable (CStrings argv) := by unfold CStrings; infer_instance

/-! ### Helpers relating the specification to the lemma files' vocabulary -/

theorem lastP_eq (opts : List Opt) : lastP opts = OptL.lastPFrom opts none := by
  rw [OptL.lastPFrom_eq, Option.or_none]; rfl

theorem effective_eq (opts : List Opt) (envPass : Option (List Nat)) (typed : List Nat) :
    effectivePassword opts envPass typed = OptL.effective (OptL.lastPFrom opts none) envPass typed := by
  unfold effectivePassword OptL.effective typedLine
  rw [lastP_eq]
  cases OptL.lastPFrom opts none with
  | none => rfl
  | some l => cases l <;> rfl

/-! ### The theorems -/

/-- **server_password_block.**  For every argument vector (C strings) and every environment: if `main()` of iodined reaches
`tunnel()`, the 33 bytes of `password[]` are the effective password cut at 32 bytes and zero padded, and a NUL. -/
theorem server_password_block (env : Server.Options.Env) (argv : List (List Nat)) (hc : CStrings argv)
    (f : Server.Options.Final) (h : (Server.Options.serverMain env argv).final = some f) :
    f.password = pad32 (effectivePassword (getoptAll Server.Options.optstring argv).1 env.envPass env.typed) ++ [0] := by
  obtain ⟨o, v, evs, v4, v6, ho, hv, hf⟩ := OptL.serverMain_final env argv f h
  have hi := OptL.srv_optLoop_inv _ _ o none OptL.sinv_init ho
  have hval := OptL.validate_ok env o _ v evs hv
  rw [hf, effective_eq]
  show v.password = _
  rw [hval.pw, hi.pw]
  exact OptL.passwordPhase_block _ _ _ (fun p hp => OptL.lastP_nz _ argv hc p hp)

/-- the 32 bytes of it that the session machine is configured with -/
theorem server_config_password (env : Server.Options.Env) (argv : List (List Nat)) (hc : CStrings argv)
    (f : Server.Options.Final) (h : (Server.Options.serverMain env argv).final = some f) :
    f.toConfig.password = pad32 (effectivePassword (getoptAll Server.Options.optstring argv).1 env.envPass env.typed) := by
  show f.password.take 32 = _
  rw [server_password_block env argv hc f h, List.take_append_of_le_length (by simp [pad32_length])]
  exact List.take_of_length_le (by simp [pad32_length])

/-- hence the response the server expects in a login is the documented one for the effective password -/
theorem server_expects_documented_login (env : Server.Options.Env) (argv : List (List Nat)) (hc : CStrings argv)
    (f : Server.Options.Final) (h : (Server.Options.serverMain env argv).final = some f) (s : Nat) (hs : s < 2 ^ 32)
    (hb : Bytes (effectivePassword (getoptAll Server.Options.optstring argv).1 env.envPass env.typed)) :
    Login.loginCalcC f.toConfig.password s =
      loginSpec (effectivePassword (getoptAll Server.Options.optstring argv).1 env.envPass env.typed) s := by
  rw [server_config_password env argv hc f h]
  exact login_is_md5_of_spec_block _ hb s hs

/-- **client_password_block.**  The same for `main()` of iodine and the buffer `client_set_password` points to. -/
theorem client_password_block (env : Client.Options.Env) (argv : List (List Nat)) (hc : CStrings argv)
    (f : Client.Options.Final) (h : (Client.Options.clientMain env argv).final = some f) :
    f.password = pad32 (effectivePassword (getoptAll Client.Options.optstring argv).1 env.envPass env.typed) ++ [0] := by
  obtain ⟨o, td, fam, ip, ho, hf, _⟩ := OptL.clientMain_final env argv f h
  have hi := OptL.cli_optLoop_inv _ _ o none OptL.cinv_init ho
  rw [hf, effective_eq]
  show (passwordPhase env.envPass env.typed o.password).1 = _
  rw [hi.pw]
  exact OptL.passwordPhase_block _ _ _ (fun p hp => OptL.lastP_nz _ argv hc p hp)

/-! ### Non-vacuity, and what the statement excludes -/

def exEnv : Server.Options.Env :=
  { envPass := none, typed := [], extIp := none, sd := 0, userUid := fun _ => some 1000, setuidOk := fun _ => true,
    openTun := fun _ => true, getAddr4 := fun _ => some 0, getAddr6 := fun _ => true, stack4 := 0 }

/-- `iodined -f -P factory-default-password-2014 -P hunter2 10.9.8.1/27 t.example.com` -/
def exArgv : List (List Nat) :=
  [ascii "iodined", ascii "-f", ascii "-P", ascii "factory-default-password-2014", ascii "-P", ascii "hunter2",
   ascii "10.9.8.1/27", ascii "t.example.com"]

-- the run reaches tunnel(); the block is "hunter2" and 25 zeros (+ NUL): nothing of the first -P is left
example : ((Server.Options.serverMain exEnv exArgv).final.map (·.password)) =
    some ([104, 117, 110, 116, 101, 114, 50] ++ List.replicate 26 0) := by decide +kernel

example : CStrings exArgv ∧ effectivePassword (getoptAll Server.Options.optstring exArgv).1 none [] = ascii "hunter2" := by
  decide +kernel

/-- why `main()` copies with `strncpy` + terminator: with `snprintf(password, sizeof(password), "%s", optarg)` in its place the second
`-P` leaves `default-password-2014` behind the NUL: the block is NOT the padded effective password. -/
example : snprintfS (snprintfS (List.replicate 33 0) (ascii "factory-default-password-2014") 33) (ascii "hunter2") 33
    ≠ pad32 (ascii "hunter2") ++ [0] := by decide +kernel

example : (snprintfS (snprintfS (List.replicate 33 0) (ascii "factory-default-password-2014") 33) (ascii "hunter2") 33).take 12
    = ascii "hunter2" ++ [0] ++ ascii "defa" := by decide +kernel

end Iodine.C19
