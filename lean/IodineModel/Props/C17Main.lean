import IodineModel.Props.C17
import IodineModel.Lemmas.OptSrv
import IodineModel.Lemmas.OptCli
/-
C17, continued: the call sites of `check_topdomain` in the two `main()`s.  Whatever command line and environment the programs are
started with, the session machines only ever run with a top domain that is a valid domain in the sense of the property
(`ValidDomain`): iodined allows the leading `*.`, iodine does not.
-/
namespace Iodine.C17
open Iodine Iodine.Getopt

theorem server_main_topdomain_valid (env : Server.Options.Env) (argv : List (List Nat)) (f : Server.Options.Final)
    (h : (Server.Options.serverMain env argv).final = some f) : ValidDomain true f.topdomain := by
  obtain ⟨o, v, evs, v4, v6, _, hv, hf⟩ := OptL.serverMain_final env argv f h
  subst hf
  exact (check_topdomain_iff_spec _ _).1 (OptL.validate_ok env o _ v evs hv).td

theorem client_main_topdomain_valid (env : Client.Options.Env) (argv : List (List Nat)) (f : Client.Options.Final)
    (h : (Client.Options.clientMain env argv).final = some f) : ValidDomain false f.cli.topdomain := by
  obtain ⟨o, td, fam, ip, _, hf, htd, _⟩ := OptL.clientMain_final env argv f h
  subst hf
  exact (check_topdomain_iff_spec _ _).1 htd

def exCliEnv : Client.Options.Env :=
  { envPass := some [120], typed := [], resolv := some (ascii "192.168.1.1"), getAddr := fun _ _ => some (4, 0x0a000035),
    userUid := fun _ => some 1000, setuidOk := fun _ => true, openTun := fun _ => true, r1 := 0, r2 := 0, hsRet := 0 }

-- the wildcard form is a server-side notion: `iodine ns *.t.co` is refused, `iodine ns t.co` starts the handshake
example : (Client.Options.clientMain exCliEnv [ascii "iodine", ascii "ns", ascii "*.t.co"]).outcome = .exit 2 "usage:topdomain" ∧
    (Client.Options.clientMain exCliEnv [ascii "iodine", ascii "ns", ascii "t.co"]).outcome = .run 0 := by decide +kernel

end Iodine.C17
