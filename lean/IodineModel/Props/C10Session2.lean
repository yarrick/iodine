import IodineModel.Props.C10Session
import IodineModel.Lemmas.BytesI
/-
C10 for whole sessions of the byte-level server, with the property's OWN hypothesis.

Props/C10Session.lean proves the session theorems under `LegalDgram`: "IF the decoder hands the datagram on, the name it read is a
legal host name" — a hypothesis about what `dns_decode` computes.  Property C10 quantifies differently: "for all queries whose
labels contain no '.' or NUL byte".  This file states that on the RAW DATAGRAM (`LabelsPlain`: walk the question name on the wire —
labels, compression pointers — and look at the label bytes) and proves the session theorems from it alone:

    hypotheses = `ConfigOk cfg` (what `main()` checks) + octets < 256 + `LabelsPlain` for every received datagram.

What this rests on (`plain_labels_decode_legal`): which names `readname` can produce from plain labels.
  * labels of 64..255 bytes cannot come out (`readname` refuses the reserved label types), names of more than 253
    characters neither (`dns_decode` refuses them), the empty name is dropped by `read_dns` (`rv = 0`);
  * a zero length byte ends the name, wherever it stands; there are no empty labels in the middle;
  * BUT the lenient decoder can leave ONE TRAILING '.': when the byte after a label is not a length byte it can use (a reserved
    label type 0x40..0xbf, a pointer whose second byte is missing, a pointer out of the datagram, a pointer behind which there is
    nothing usable — a zero byte, a reserved type, the end of the jump budget, a length byte at the very end of the datagram), or
    when the 255-byte array has exactly 253 characters after the dot.  The name handed on is then `m ++ "."` with `m` legal.
So the names are: LEGAL, with exactly the labels on the wire; or legal-plus-one-dot, the labels being a PREFIX of those on the wire.
A name with a trailing dot is never inside the tunnel domain (`check_topdomain` refuses domains ending in '.'), hence never stored
and never answered by `write_dns` / `handle_ns_request` / `handle_a_request`: the theorems about `tx` and `nsa` hold verbatim,
with `LegalName`.  It CAN be forwarded (`iodined -b`); `putname` (strtok) drops the empty piece, so the forwarded question carries
the same LABEL SEQUENCE (`labelSeq`, names modulo a trailing dot) — `session_fwd_wellformed` says exactly that.
-/
namespace Iodine.C10
open Iodine Iodine.Server Iodine.Wire Iodine.Wire.Strict

/-! ### Specification vocabulary: the question labels ON THE WIRE -/

/-- One stretch of a name on the wire, from offset `pos`, at most `steps` labels: the labels met until the name ends — at a zero
byte, at the end of the datagram, at a byte that is neither a label length (1..63) nor a usable pointer — or continues behind a
compression pointer (`behind off` = the labels from the pointer's target on).  A label cut off by the end of the datagram counts
with the bytes that are there; a length byte that is the last byte of the datagram is no label. -/
def nameStretch (pkt : List Nat) (behind : Nat → List (List Nat)) : (steps pos : Nat) → List (List Nat)
  | 0, _ => []
  | steps + 1, pos =>
    if pkt.length ≤ pos then []
    else if pkt.getD pos 0 = 0 then []
    else if 192 ≤ pkt.getD pos 0 then
      if pos + 1 < pkt.length ∧ pkt.getD pos 0 % 64 * 256 + pkt.getD (pos + 1) 0 < pkt.length then
        behind (pkt.getD pos 0 % 64 * 256 + pkt.getD (pos + 1) 0)
      else []
    else if 64 ≤ pkt.getD pos 0 then []
    else if pkt.length ≤ pos + 1 then []
    else (pkt.drop (pos + 1)).take (pkt.getD pos 0) :: nameStretch pkt behind steps (pos + 1 + pkt.getD pos 0)

/-- the labels of the name at offset `pos`, following pointers through at most `budget` stretches (every label takes at least
two bytes, so `pkt.length` steps per stretch are never used up) -/
def nameLabels (pkt : List Nat) : (budget pos : Nat) → List (List Nat)
  | 0, _ => []
  | budget + 1, pos => nameStretch pkt (nameLabels pkt budget) pkt.length pos

/-- the labels of the question name of a datagram: the name at offset 12, within the 64 KiB `recvmsg` delivers, `readname`'s
budget of 10 stretches (9 pointers) -/
def questionLabels (bytes : List Nat) : List (List Nat) := nameLabels (bytes.take 65536) 10 12

/-- **The quantifier of C10, on the raw datagram**: no label of the question name contains NUL or '.' -/
def LabelsPlain (bytes : List Nat) : Prop := ∀ l ∈ questionLabels bytes, 0 ∉ l ∧ 46 ∉ l

/-- the same for any input of an iteration (tun frames, forwarded replies and time-outs are unrestricted) -/
def PlainDgram : BInput → Prop
  | .dgram _ bytes => LabelsPlain bytes
  | _ => True

instance (bytes : List Nat) : Decidable (LabelsPlain bytes) := by unfold LabelsPlain; infer_instance
instance : DecidablePred PlainDgram := fun i => by cases i <;> unfold PlainDgram <;> infer_instance

/-- states of the server process reachable from start-up (any `rand()` values) through iterations on ARBITRARY inputs made of
octets — any datagram bytes of any length, tun frames, forwarded replies, any clock — whose question labels are plain -/
inductive PlainReachable (cfg : Config) : BSrv → Prop where
  | init (rnd : List Nat) : PlainReachable cfg (bstart cfg rnd)
  | step {b : BSrv} (inp : BInput) (now' : Nat) : PlainReachable cfg b → ByteDgram inp → PlainDgram inp →
      PlainReachable cfg (biteration b inp now').1

/-- the label sequence of a dotted name: the non-empty pieces between the dots ("a.b" and "a.b." have the same) -/
def labelSeq (n : List Nat) : List (List Nat) := (labels n).filter (fun l => !l.isEmpty)

/-- a well-formed QUERY carrying `(id, labels, type)`: parses strictly; flags = RD only; exactly that question, class IN; no answer,
no authority record; exactly one additional record, the EDNS0 OPT pseudo-record (UDP size 4096, DO) -/
def WellFormedQueryOf (id ty : Nat) (ls : List (List Nat)) (pkt : List Nat) : Prop :=
  parseMsg pkt = some ⟨id, 0x0100, [(ls, ty, 1)], [], [], [optRR]⟩

/-! ### Glue -/

theorem nameStretch_eq (pkt : List Nat) (behind : Nat → List (List Nat)) :
    ∀ steps pos, nameStretch pkt behind steps pos = BytesL.walkFrom pkt behind steps pos := by
  intro steps
  induction steps with
  | zero => intro pos; rfl
  | succ steps ih => intro pos; simp only [nameStretch, BytesL.walkFrom, ih]

theorem nameLabels_eq (pkt : List Nat) : ∀ budget pos, nameLabels pkt budget pos = BytesL.wireLabels pkt budget pos := by
  intro budget
  induction budget with
  | zero => intro pos; rfl
  | succ budget ih =>
    intro pos
    have : nameLabels pkt budget = BytesL.wireLabels pkt budget := funext ih
    simp only [nameLabels, BytesL.wireLabels, this, nameStretch_eq]

theorem labelsPlain_iff (bytes : List Nat) : LabelsPlain bytes ↔ BytesL.PlainQuestion bytes := by
  unfold LabelsPlain BytesL.PlainQuestion questionLabels
  rw [nameLabels_eq]
  exact Iff.rfl

theorem plainDgram_iff (inp : BInput) : PlainDgram inp ↔ BytesL.PlainInput inp := by
  cases inp with
  | dgram src bytes => exact labelsPlain_iff bytes
  | _ => exact Iff.rfl

theorem labelSeq_eq (n : List Nat) : labelSeq n = BytesL.labelSeq n := rfl

theorem plainReachable_inv {cfg : Config} (hc : ConfigOk cfg) {b : BSrv} (h : PlainReachable cfg b) : BytesL.WfInv b := by
  induction h with
  | init rnd => exact BytesL.wfInv_start cfg (configOk_iff cfg hc) rnd
  | step inp now' _ hb hl ih =>
    exact (BytesL.wfInv_step_plain ih inp now' ((byteDgram_iff inp).1 hb) ((plainDgram_iff inp).1 hl)).1

/-! ### What the decoder makes of plain labels -/

/-- **plain_labels_decode_legal.**  Let a datagram consist of octets and let the labels of its question name, as they stand on the
wire, contain no '.' and no NUL.  IF `read_dns` hands it on as a query `q` (in any state of the server, from any sender), then
`q.name` is a legal host name (labels of 1..63 bytes without '.' and NUL, at most 253 characters) whose labels are EXACTLY the
question labels on the wire — or it is such a name (of at most 252 characters) followed by ONE '.', its labels being a prefix of the
question labels on the wire (the walk was cut short: see the header).  In both cases the label sequence is not empty. -/
theorem plain_labels_decode_legal (bytes : List Nat) (hb : IsBytes bytes) (hp : LabelsPlain bytes)
    (s : Srv) (src : Addr) (q : Query) (h : decodeInput s src bytes = .q q) :
    ((LegalName q.name ∧ labels q.name = questionLabels bytes) ∨
      (∃ m, q.name = m ++ [46] ∧ LegalName m ∧ m.length ≤ 252 ∧ labels m <+: questionLabels bytes)) ∧
    labelSeq q.name ≠ [] ∧ labelSeq q.name <+: questionLabels bytes := by
  obtain ⟨ls, hpre, hw, hfull⟩ := BytesL.decodeInput_q_plain h hb ((labelsPlain_iff bytes).1 hp)
  have hq : questionLabels bytes = BytesL.wireLabels (bytes.take 65536) 10 12 := nameLabels_eq _ _ _
  have hseq : labelSeq q.name = ls := hw.labelSeq
  rw [hq, hseq]
  refine ⟨?_, ?_, hpre⟩
  · rcases hw with ⟨h1, h2⟩ | ⟨m, hm, h1, h2, h3⟩
    · exact Or.inl ⟨h1, by rw [h2]; exact hfull h1⟩
    · exact Or.inr ⟨m, hm, h1, h2, by rw [h3]; exact hpre⟩
  · rcases hw with ⟨_, h2⟩ | ⟨m, _, _, _, h3⟩
    · rw [← h2]; exact labels_ne_nil _
    · rw [← h3]; exact labels_ne_nil _

/-- **plain_labels_tunnel_legal.**  … and a name inside the tunnel domain — the only names `tunnel_dns` answers itself — is of the
first kind: legal, with exactly the question labels on the wire.  (`check_topdomain` accepts no domain ending in '.'.) -/
theorem plain_labels_tunnel_legal (bytes : List Nat) (hb : IsBytes bytes) (hp : LabelsPlain bytes)
    (s : Srv) (src : Addr) (q : Query) (h : decodeInput s src bytes = .q q)
    (top : List Nat) (ht : Common.checkTopdomain top true = 0) (hin : Common.queryDatalen q.name top ≠ none) :
    LegalName q.name ∧ labels q.name = questionLabels bytes := by
  rcases (plain_labels_decode_legal bytes hb hp s src q h).1 with h1 | ⟨m, hm, _⟩
  · exact h1
  · exact absurd (hm ▸ BytesL.queryDatalen_trailing_dot m top ht) hin

/-! ### The property, from the wire-level hypothesis -/

/-- **session_payloads_are_bytes_plain** (`session_payloads_are_bytes` under the wire-level hypothesis). -/
theorem session_payloads_are_bytes_plain (cfg : Config) (hc : ConfigOk cfg) (b : BSrv) (hr : PlainReachable cfg b)
    (inp : BInput) (now' : Nat) (hb : ByteDgram inp) (hp : PlainDgram inp)
    (dst : Addr) (id ty dn : Nat) (name data : List Nat) (tag : Tag)
    (he : Event.ans dst id ty dn name data tag ∈ out b.srv ⟨toInput b.srv inp, now'⟩) :
    IsBytes data ∧ (2 ≤ data.length ∨ data = [120]) ∧ data.length ≤ 4096 :=
  (BytesL.wfInv_step_plain (plainReachable_inv hc hr) inp now' ((byteDgram_iff inp).1 hb) ((plainDgram_iff inp).1 hp)).2.2
    dst id ty dn name data tag he

/-- **session_datagrams_wellformed_plain** (C10 for whole sessions, answers of `write_dns`, the property's own hypotheses).
For every configuration that passes `main()`'s checks, every state of the server process reachable from start-up through ARBITRARY
inputs made of octets (any datagram bytes of any length, tun frames, forwarded replies, any `rand()` values, any clock) in which
the question labels of every datagram contain no '.' and no NUL, every further such input and every datagram `tx dst bytes` the
iteration hands to `sendto` through `write_dns`:
`bytes` is a well-formed RFC 1035 response (strict parser), QR|AA, that carries exactly the id, question name and type of an `ans`
event of this iteration — a LEGAL name, so no "modulo a trailing dot" is needed here: names with a trailing dot are never answered —
with at least one answer record, every answer record owned by the question name in class IN.
(`session_tx_echoes_wire_question` below: that id, name and type are those of a received datagram, the name's labels being
exactly the question labels on its wire.) -/
theorem session_datagrams_wellformed_plain (cfg : Config) (hc : ConfigOk cfg) (b : BSrv) (hr : PlainReachable cfg b)
    (inp : BInput) (now' : Nat) (hb : ByteDgram inp) (hp : PlainDgram inp) (dst : Addr) (bytes : List Nat)
    (htx : BEvent.tx dst bytes ∈ (biteration b inp now').2.1) :
    ∃ id ty dn name data tag,
      Event.ans dst id ty dn name data tag ∈ out b.srv ⟨toInput b.srv inp, now'⟩ ∧
      id < 65536 ∧ LegalName name ∧ ty ∈ TunnelTypes ∧ WellFormedAnswerTo id ty name bytes := by
  have hinv := plainReachable_inv hc hr
  have hstep := BytesL.wfInv_step_plain hinv inp now' ((byteDgram_iff inp).1 hb) ((plainDgram_iff inp).1 hp)
  obtain ⟨id, ty, dn, name, data, tag, he, h1, h2, h3, h4⟩ := tx_wellformed_of hinv.td hstep.2.1 htx
  obtain ⟨d1, d2, d3⟩ := hstep.2.2 dst id ty dn name data tag he
  exact ⟨id, ty, dn, name, data, tag, he, h1, h2, h3, h4 d1 (by rcases d2 with d2 | d2; omega; rw [d2]; decide) d3⟩

/-- **session_nsa_wellformed_plain** (NS and A responses, the property's own hypotheses).  Every datagram `nsa dst bytes` sent by
`handle_ns_request` / `handle_a_request` answers the query `q` decoded from THIS iteration's datagram — whose name is legal and has
exactly the question labels on the wire — and is a well-formed response echoing `q`'s id, name and type with exactly one answer
record for that name, type and class IN. -/
theorem session_nsa_wellformed_plain (cfg : Config) (hc : ConfigOk cfg) (b : BSrv) (hr : PlainReachable cfg b)
    (inp : BInput) (now' : Nat) (hb : ByteDgram inp) (hp : PlainDgram inp) (dst : Addr) (bytes : List Nat)
    (hnsa : BEvent.nsa dst bytes ∈ (biteration b inp now').2.1) :
    ∃ q, toInput b.srv inp = .q q ∧ Event.nsa dst ∈ out b.srv ⟨toInput b.srv inp, now'⟩ ∧
      q.id < 65536 ∧ LegalName q.name ∧
      (∀ src dg, inp = .dgram src dg → labels q.name = questionLabels dg) ∧
      ∃ m, parseMsg bytes = some m ∧ m.id = q.id ∧ m.flags = 0x8400 ∧ m.qd = [(labels q.name, q.type, 1)] ∧
        m.an.length = 1 ∧ (∀ r ∈ m.an, r.owner = labels q.name ∧ r.type = q.type ∧ r.cls = 1) ∧ m.ns = [] := by
  have hinv := plainReachable_inv hc hr
  obtain ⟨q, hin, hmem, hbytes⟩ := BytesL.biteration_nsa hnsa
  obtain ⟨_, hid, _, _⟩ := BytesL.toInput_q hin
  -- `nsaBytes` answers only names inside the tunnel domain
  have hmatch : Common.queryDatalen q.name b.srv.cfg.topdomain ≠ none := by
    intro hn
    unfold nsaBytes at hbytes
    rw [hn] at hbytes
    cases hbytes
  have hleg : LegalName q.name ∧ ∀ src dg, inp = .dgram src dg → labels q.name = questionLabels dg := by
    cases inp with
    | dgram src dg =>
      have := plain_labels_tunnel_legal dg hb hp b.srv src q hin _ hinv.top hmatch
      exact ⟨this.1, fun src' dg' he => by cases he; exact this.2⟩
    | tun f => cases hin
    | bind d => cases hin
    | tick => cases hin
  refine ⟨q, hin, hmem, hid, hleg.1, hleg.2, ?_⟩
  exact BytesL.nsaBytes_echo_of b.srv.cfg q bytes hid hleg.1
    (fun dlen hd => by have := BytesL.matched_top_le hleg.1 hinv.top hd; omega) hbytes

/-- **session_fwd_wellformed** (`forward_query`: queries outside the tunnel domain relayed to the local DNS port, `iodined -b`).
In ANY state of the server process, for an input made of octets whose question labels are plain: every datagram `fwd dst bytes`
the iteration sends on the forward socket is built from the query `q` that `read_dns` decoded from THIS iteration's datagram, and is
a well-formed QUERY (strict parser): flags RD only, exactly one question, no answer / authority records, one additional record —
the EDNS0 OPT (UDP size 4096, DO) — with
  * id = `q.id`, the 16-bit id of the received query: `forward_query` stores `(q->from, q->id)` with `fw_query_put` and re-encodes
    the query under the SAME id (Props/C20.lean `fw_query_relayed`); the reply bearing that id is relayed to that asker
    (`fw_reply_routed`, `fw_reply_only_to_recent_asker`);
  * type = `q.type`, class IN;
  * question name = the LABEL SEQUENCE of `q.name` (`labelSeq`: the name modulo one trailing dot, which `putname` drops) — a
    non-empty prefix of the question labels of the received datagram, and all of them unless `readname` cut the walk short
    (`plain_labels_decode_legal`: exactly when `q.name` ends in '.').
No reachability hypothesis and no `ConfigOk` is needed. -/
theorem session_fwd_wellformed (b : BSrv) (inp : BInput) (now' : Nat) (hb : ByteDgram inp) (hp : PlainDgram inp)
    (dst : Addr) (bytes : List Nat) (hf : BEvent.fwd dst bytes ∈ (biteration b inp now').2.1) :
    ∃ q src dg, inp = .dgram src dg ∧ toInput b.srv inp = .q q ∧ Event.fwd dst ∈ out b.srv ⟨toInput b.srv inp, now'⟩ ∧
      q.id < 65536 ∧ q.type < 65536 ∧ q.from_ = src ∧
      labelSeq q.name ≠ [] ∧ labelSeq q.name <+: questionLabels dg ∧
      (LegalName q.name → labelSeq q.name = questionLabels dg) ∧
      WellFormedQueryOf q.id q.type (labelSeq q.name) bytes := by
  obtain ⟨q, hin, hmem, hbytes⟩ := BytesL.biteration_fwd hf
  obtain ⟨_, hid, hty, _⟩ := BytesL.toInput_q hin
  cases inp with
  | dgram src dg =>
    obtain ⟨ls, hpre, hw, hfull⟩ := BytesL.decodeInput_q_plain hin hb ((labelsPlain_iff dg).1 hp)
    obtain ⟨_, _, _, hfrom, _⟩ := BytesL.decodeInput_q (s := b.srv) hin
    have hdec := plain_labels_decode_legal dg hb hp b.srv src q hin
    obtain ⟨bytes', hb', hparse⟩ := BytesL.fwdBytes_wellformed q ls hid hty hw
    rw [hbytes] at hb'
    cases hb'
    have hseq : labelSeq q.name = ls := hw.labelSeq
    refine ⟨q, src, dg, rfl, hin, hmem, hid, hty, hfrom, hdec.2.1, hdec.2.2, ?_, ?_⟩
    · intro hleg
      rw [hseq, hfull hleg]
      exact (nameLabels_eq _ _ _).symm
    · unfold WellFormedQueryOf
      rw [hseq]
      exact hparse
  | tun f => cases hin
  | bind d => cases hin
  | tick => cases hin

/-! ### Whole runs: the answer carries the question that stood on the wire -/

theorem plainReachable_brun (cfg : Config) : ∀ (l : List (BInput × Nat)) (b : BSrv), PlainReachable cfg b →
    (∀ p ∈ l, ByteDgram p.1 ∧ PlainDgram p.1) → PlainReachable cfg (brun b l)
  | [], _, h, _ => h
  | (i, n) :: rest, b, h, hall => by
    have hi := hall (i, n) List.mem_cons_self
    exact plainReachable_brun cfg rest _ (.step i n h hi.1 hi.2) (fun p hp => hall p (List.mem_cons_of_mem _ hp))

/-- **session_tx_echoes_wire_question** (C10 end to end, over whole runs, only wire-level hypotheses).  Let the configuration pass
`main()`'s checks and let the server process run from start-up through ANY inputs `l` and one more input `inp`, all made of octets,
the question labels of every datagram free of '.' and NUL.  Every datagram `tx dst bytes` the last iteration sends through
`write_dns` is a well-formed response (strict parser, QR|AA, ≥ 1 answer record, all owned by the question name, class IN) to a question
`(id, name, type)` with a legal `name`, AND a datagram with exactly that id and type whose question labels ON THE WIRE are exactly
`labels name` was received from `dst` in this iteration or an earlier one of the run. -/
theorem session_tx_echoes_wire_question (cfg : Config) (hc : ConfigOk cfg) (rnd : List Nat) (l : List (BInput × Nat))
    (inp : BInput) (now' : Nat) (hall : ∀ p ∈ l ++ [(inp, now')], ByteDgram p.1 ∧ PlainDgram p.1)
    (dst : Addr) (bytes : List Nat)
    (htx : BEvent.tx dst bytes ∈ (biteration (brun (bstart cfg rnd) l) inp now').2.1) :
    ∃ id ty name, id < 65536 ∧ ty ∈ TunnelTypes ∧ LegalName name ∧ WellFormedAnswerTo id ty name bytes ∧
      ∃ (rx : List Nat) (n : Nat) (b' : BSrv) (q : Query),
        (BInput.dgram dst rx, n) ∈ l ++ [(inp, now')] ∧ decodeInput b'.srv dst rx = .q q ∧
        q.id = id ∧ q.type = ty ∧ q.name = name ∧ questionLabels rx = labels name := by
  have hl : ∀ p ∈ l, ByteDgram p.1 ∧ PlainDgram p.1 := fun p hp => hall p (List.mem_append_left _ hp)
  have hi := hall (inp, now') (List.mem_append_right _ (List.mem_singleton.2 rfl))
  have hr := plainReachable_brun cfg l _ (.init rnd) hl
  obtain ⟨id, ty, dn, name, data, tag, he, h1, h2, h3, h4⟩ :=
    session_datagrams_wellformed_plain cfg hc _ hr inp now' hi.1 hi.2 dst bytes htx
  obtain ⟨src, rx, n, b', q, hmem, hdec, hfrom, hid, hname, hty⟩ :=
    session_answer_echoes_received_query cfg rnd l inp now' dst id ty dn name data tag he
  have hsrc : src = dst := by
    obtain ⟨_, _, _, hf, _⟩ := BytesL.decodeInput_q (s := b'.srv) hdec
    rw [← hf, hfrom]
  subst hsrc
  have hrx := hall _ hmem
  rcases (plain_labels_decode_legal rx hrx.1 hrx.2 b'.srv src q hdec).1 with ⟨_, hlab⟩ | ⟨m, hm, _⟩
  · exact ⟨id, ty, name, h1, h3, h2, h4, rx, n, b', q, hmem, hdec, hid, hty, hname, by rw [← hname, hlab]⟩
  · exfalso
    rw [hname] at hm
    exact BytesL.not_legal_trailing_dot (hm ▸ h2)

/-! ### Non-vacuity -/

/-- the example datagrams of Props/C10Session.lean satisfy the wire-level hypothesis; their question labels -/
example : PlainDgram (.dgram exSrc exDgramV) ∧ PlainDgram (.dgram exSrc exDgramNs) ∧
    questionLabels exDgramV = [[118, 97, 97, 97, 97, 97, 97, 97, 97], [116], [99, 111]] ∧
    questionLabels exDgramNs = [[120], [116], [99, 111]] := by decide +kernel

/-- the datagram of Props/C10Session.lean whose first label is "z." does NOT: this is what the quantifier excludes -/
example : ¬ LabelsPlain exDgramBad ∧ questionLabels exDgramBad = [[122, 46], [116], [99, 111]] := by decide +kernel

/-- a name that uses a compression pointer: "x" then a pointer to offset 20 where "t.co" stands (behind the question) -/
def exDgramPtr : List Nat := [0, 7, 1, 0, 0, 1, 0, 0, 0, 0, 0, 0, 1, 120, 0xc0, 20, 0, 2, 0, 1, 1, 116, 2, 99, 111, 0]

example : LabelsPlain exDgramPtr ∧ questionLabels exDgramPtr = [[120], [116], [99, 111]] ∧
    (dnsDecodeQuery { pkt := exDgramPtr.toArray, res := #[], cap := 65536 }).map (·.name) = .ok [120, 46, 116, 46, 99, 111] := by
  decide +kernel

/-- the theorems applied to the examples (hypotheses satisfiable, a `tx` / an `nsa` really occurs: `exTxOk`, `exNsaOk`) -/
example (dst : Addr) (bytes : List Nat)
    (h : BEvent.tx dst bytes ∈ (biteration (bstart exCfgS []) (.dgram exSrc exDgramV) 1000).2.1) :=
  session_datagrams_wellformed_plain exCfgS (by decide +kernel) _ (.init []) (.dgram exSrc exDgramV) 1000 (by decide +kernel)
    (by decide +kernel) dst bytes h

example (dst : Addr) (bytes : List Nat)
    (h : BEvent.nsa dst bytes ∈ (biteration (bstart exCfgS []) (.dgram exSrc exDgramNs) 1000).2.1) :=
  session_nsa_wellformed_plain exCfgS (by decide +kernel) _ (.init []) (.dgram exSrc exDgramNs) 1000 (by decide +kernel)
    (by decide +kernel) dst bytes h

example (dst : Addr) (bytes : List Nat)
    (h : BEvent.tx dst bytes ∈ (biteration (brun (bstart exCfgS []) []) (.dgram exSrc exDgramV) 1000).2.1) :=
  session_tx_echoes_wire_question exCfgS (by decide +kernel) [] [] (.dgram exSrc exDgramV) 1000 (by decide +kernel) dst bytes h

/-- a reachable state after two iterations -/
example : PlainReachable exCfgS (brun (bstart exCfgS []) [(.dgram exSrc exDgramV, 1000), (.dgram exSrc exDgramNs, 1001)]) :=
  plainReachable_brun exCfgS _ _ (.init []) (by decide +kernel)

/-! ### The trailing dot: what the lenient decoder hands on, and what happens to it -/

/-- the configuration of Props/C10Session.lean with forwarding switched on (`iodined -b 5353`) -/
def exCfgFwd : Config := { exCfgS with bindPort := 5353 }

/-- "x.t.co" followed by a byte of a reserved label type (0x40) instead of the root byte; `readname` stops there (and skips one
more byte), type NULL, class IN follow.  All labels are plain. -/
def exDgramDot : List Nat :=
  [0x12, 0x34, 1, 0, 0, 1, 0, 0, 0, 0, 0, 0, 1, 120, 1, 116, 2, 99, 111, 0x40, 0xff, 0, 10, 0, 1]

/-- what the forwarding server sends for it: one `fwd` to 127.0.0.1:5353 whose question is "x.t.co", type NULL, same id -/
def exDotFwdOk : Bool :=
  match (biteration (bstart exCfgFwd []) (.dgram exSrc exDgramDot) 1000).2.1 with
  | [.fwd dst bytes] => decide (dst = ⟨4, 0x7f000001, 5353⟩) &&
      (parseMsg bytes == some ⟨0x1234, 0x0100, [([[120], [116], [99, 111]], 10, 1)], [], [], [optRR]⟩)
  | _ => false

/-- **The trailing dot.**  The datagram has plain labels and is handed on with the name "x.t.co." — NOT a legal name (`LegalDgram`
of Props/C10Session.lean fails, `PlainDgram` holds).  Although "x.t.co" lies in the tunnel domain "t.co", the name with the dot does
not: the server without forwarding sends NOTHING; the server with forwarding relays it as a well-formed query for "x.t.co". -/
example : ByteDgram (.dgram exSrc exDgramDot) ∧ PlainDgram (.dgram exSrc exDgramDot) ∧ ¬ LegalDgram (.dgram exSrc exDgramDot) ∧
    questionLabels exDgramDot = [[120], [116], [99, 111]] ∧
    (dnsDecodeQuery { pkt := exDgramDot.toArray, res := #[], cap := 65536 }).map (·.name) = .ok [120, 46, 116, 46, 99, 111, 46] ∧
    labelSeq [120, 46, 116, 46, 99, 111, 46] = [[120], [116], [99, 111]] ∧
    (biteration (bstart exCfgS []) (.dgram exSrc exDgramDot) 1000).2.1 = [] ∧
    exDotFwdOk = true := by
  decide +kernel

/-- `session_fwd_wellformed` applied to it -/
example (dst : Addr) (bytes : List Nat)
    (h : BEvent.fwd dst bytes ∈ (biteration (bstart exCfgFwd []) (.dgram exSrc exDgramDot) 1000).2.1) :=
  session_fwd_wellformed _ (.dgram exSrc exDgramDot) 1000 (by decide +kernel) (by decide +kernel) dst bytes h

/-- the other ways to a trailing dot: a pointer to a zero byte ("x" + pointer to offset 3, a zero of the header) … -/
def exDgramPtrZero : List Nat := [0x12, 0x34, 1, 0, 0, 1, 0, 0, 0, 0, 0, 0, 1, 120, 0xc0, 3, 0, 10, 0, 1]

example : LabelsPlain exDgramPtrZero ∧ questionLabels exDgramPtrZero = [[120]] ∧
    (dnsDecodeQuery { pkt := exDgramPtrZero.toArray, res := #[], cap := 65536 }).map (fun d => (d.rv, d.name)) = .ok (2, [120, 46]) := by
  decide +kernel

/-- … and a name that goes on after 253 characters: four labels of 63, 63, 63, 60 bytes, then "t.co".  `readname` stops with 252
characters and the dot; the name handed on is those four labels and a dot, the labels on the wire are six: the label sequence the
server works with (and forwards) is a PROPER PREFIX of the question labels.  (258 bytes on the wire — no valid DNS name; type and
class are read from the bytes of the fifth label.)  This is why the theorems say "prefix" for names ending in '.'. -/
def exDgramCut : List Nat :=
  [0x12, 0x34, 1, 0, 0, 1, 0, 0, 0, 0, 0, 0] ++ (63 :: List.replicate 63 97) ++ (63 :: List.replicate 63 98) ++
    (63 :: List.replicate 63 99) ++ (60 :: List.replicate 60 100) ++ [1, 116, 2, 99, 111, 0] ++ [0, 10, 0, 1]

theorem exDgramCut_decoded :
    dnsDecodeQuery { pkt := exDgramCut.toArray, res := #[], cap := 65536 } =
      .ok { rv := 253, id := 0x1234, type := 116 * 256 + 2,
            name := List.replicate 63 97 ++ [46] ++ List.replicate 63 98 ++ [46] ++ List.replicate 63 99 ++ [46] ++
              List.replicate 60 100 ++ [46] } := by
  decide +kernel

example : ByteDgram (.dgram exSrc exDgramCut) ∧ LabelsPlain exDgramCut ∧
    questionLabels exDgramCut =
      [List.replicate 63 97, List.replicate 63 98, List.replicate 63 99, List.replicate 60 100, [116], [99, 111]] ∧
    (dnsDecodeQuery { pkt := exDgramCut.toArray, res := #[], cap := 65536 }).map (fun d => (d.rv, d.name, d.type)) =
      .ok (253, List.replicate 63 97 ++ [46] ++ List.replicate 63 98 ++ [46] ++ List.replicate 63 99 ++ [46] ++
             List.replicate 60 100 ++ [46], 116 * 256 + 2) ∧
    (biteration (bstart exCfgS []) (.dgram exSrc exDgramCut) 1000).2.1 = [] := by
  have hlabels : questionLabels exDgramCut =
      [List.replicate 63 97, List.replicate 63 98, List.replicate 63 99, List.replicate 60 100, [116], [99, 111]] := by
    decide +kernel
  refine ⟨by decide +kernel, by unfold LabelsPlain; rw [hlabels]; decide +kernel, hlabels, by rw [exDgramCut_decoded]; rfl, ?_⟩
  -- `read_dns` hands the decoded query on; the iteration on that query sends nothing
  have hcut : exDgramCut.take 65536 = exDgramCut := List.take_of_length_le (by decide +kernel)
  have hq := BytesL.decodeInput_of_decoded (s := (bstart exCfgS []).srv) (src := exSrc) (bytes := exDgramCut)
    (by rw [hcut]; decide +kernel) (by rw [hcut]; decide +kernel) (by rw [hcut]; exact exDgramCut_decoded)
  rw [if_neg (by decide)] at hq
  simp only [biteration, toInput, hq]
  decide +kernel

end Iodine.C10
