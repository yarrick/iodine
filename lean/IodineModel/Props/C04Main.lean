import IodineModel.Props.C04
import IodineModel.Lemmas.OptTop
/-
C04 from the command line on.  `owner_unique` / `tun_dispatch_unique` of Props/C04.lean assume `8 ≤ netmask ≤ 30` and a 32-bit server
address; `main()` establishes exactly these (`validate`: `inet_addr(...) != INADDR_NONE`, `netmask > 30 || netmask < 8 → usage()`).
-/
namespace Iodine.C04
open Iodine Iodine.Server Iodine.Server.Options

theorem reachable_from_main {env : Env} {argv : List (List Nat)} {f : Final} (h : Top.Starts env argv f) (rnd : List Nat)
    (d4 d6 : Nat) (steps : List Step) (hm : Monotone (Top.entry f rnd d4 d6) steps) :
    Reachable (f.cfg d4 d6) (runFrom (Top.entry f rnd d4 d6) steps) := by
  rw [OptL.entry_eq_start h] at hm ⊢
  exact reachable_runFrom (.init rnd) steps hm

/-- **tun_dispatch_unique_from_main.**  For every command line and environment with which iodined reaches `tunnel()`, every run
(monotone clock) and every tun frame then: if slot `t` owns the destination address, every event of `tunnel_tun` concerns `t`,
no other slot changes, and `t` is the ONLY owner.  No hypothesis on the configuration is left. -/
theorem tun_dispatch_unique_from_main (env : Env) (argv : List (List Nat)) (f : Final) (h : Top.Starts env argv f)
    (rnd : List Nat) (d4 d6 : Nat) (steps : List Step) (hm : Monotone (Top.entry f rnd d4 d6) steps)
    (frame : List Nat) (t : Nat) :
    let s := runFrom (Top.entry f rnd d4 d6) steps
    t < s.users.length → Owns (getUser s t) s.now (ipDst frame) →
    (∀ e ∈ (tunnelTun s frame).2, ToSession (getUser s t) t e) ∧
    (∀ v, v ≠ t → getUser (tunnelTun s frame).1 v = getUser s v) ∧
    (∀ t', t' < s.users.length → Owns (getUser s t') s.now (ipDst frame) → t' = t) := by
  intro s ht ho
  obtain ⟨h8, h30, hmy⟩ := OptL.cfg_ranges h d4 d6
  exact tun_dispatch_unique (f.cfg d4 d6) s (reachable_from_main h rnd d4 d6 steps hm) h8 h30 hmy frame t ht ho

theorem owner_unique_from_main (env : Env) (argv : List (List Nat)) (f : Final) (h : Top.Starts env argv f)
    (rnd : List Nat) (d4 d6 : Nat) (steps : List Step) (hm : Monotone (Top.entry f rnd d4 d6) steps) (A t t' : Nat) :
    let s := runFrom (Top.entry f rnd d4 d6) steps
    t < s.users.length → t' < s.users.length → Owns (getUser s t) s.now A → Owns (getUser s t') s.now A → t = t' := by
  intro s ht ht' ho ho'
  obtain ⟨h8, h30, hmy⟩ := OptL.cfg_ranges h d4 d6
  exact owner_unique (f.cfg d4 d6) s (reachable_from_main h rnd d4 d6 steps hm) h8 h30 hmy A t t' ht ht' ho ho'

end Iodine.C04
