import IodineModel.Props.C05
import IodineModel.Props.C10Session
import IodineModel.Lemmas.C05Sc
import IodineModel.Lemmas.C05Sd
/-
C05, lifted to WHOLE SESSIONS of the byte-level server (Server/Bytes.lean: datagram in → `read_dns`/`dns_decode` → session machine →
`write_dns`/`dns_encode*` → datagram out), for ARBITRARY inputs.

"For every sequence of UDP datagrams of any content and length received on its DNS socket, and every packet read from its tun
device, iodined processes each one in bounded time without reading or writing outside its buffers, without undefined behaviour, and
keeps serving; established sessions of other clients continue to work."

Props/C05.lean has the per-call theorems of the RECEIVE side.  This file adds, for every state the process can reach through ANY
byte strings as datagrams (malformed DNS, labels containing '.', NUL, compression loops, every command letter with arbitrary
arguments and user ids, raw frames of all lengths), any tun frames, any replies on the forward socket and any clock:
`server_never_leaves_its_buffers` (no `Fault` of the decoder over any residue of the receive buffer, no encoder call stores outside its
buffer, every event fits the local buffer it is sent from, and the state invariant `BufInv` holds again: so "the list never exceeds
the C array" is a theorem, not an artefact of modelling arrays by lists) and `server_iteration_bounded` (see "Bounded time" below for
what that means in the model).

(The non-interference part — established sessions continue — is in Props/C05Continue.lean.)

What is NOT covered: undefined behaviour of kinds the model does not represent (uninitialised reads other than the receive-buffer
residue, aliasing, signed overflow outside the modelled arithmetic), `write_dns_nameenc`'s `inline_dotify` (modelled for buffers
≥ 256 bytes, which all callers pass), libc/zlib internals, stack depth.  A tun frame of 65536 bytes or more makes the model's test
compression yield 65537 bytes (the real `compress2` fails with Z_BUF_ERROR instead); what is STORED is cut to 64 KiB in both.
-/
namespace Iodine.C05
open Iodine Iodine.Server Iodine.Gen Iodine.Wire.Put Iodine.Wire.DnsEncode

/-! ### Specification vocabulary -/

/-- the input of an iteration consists of octets (datagram and tun frame bytes are `< 256`; lengths, contents, `rand()` values and clock
values are arbitrary) -/
abbrev ByteInput := C10.ByteDgram

/-- states of the server process reachable from start-up (any `rand()` stream) through iterations on ARBITRARY byte-valued inputs —
no `LegalDgram`, no `LabelsPlain`, any clock values (not even monotone) -/
inductive AnyReachable (cfg : Config) : BSrv → Prop where
  | init (rnd : List Nat) : AnyReachable cfg (bstart cfg rnd)
  | step {b : BSrv} (inp : BInput) (now' : Nat) : AnyReachable cfg b → ByteInput inp → AnyReachable cfg (biteration b inp now').1

/-- a `struct packet` (common.h): `data[64*1024]` holds bytes, `len` does not exceed what was written -/
structure PacketFits (p : Packet) : Prop where
  size : p.data.length ≤ 65536
  bytes : C10.IsBytes p.data
  len : p.len ≤ p.data.length

/-- a `struct query`: the C string fits `name[QUERY_NAME_SIZE = 256]` -/
def QueryFits (q : Query) : Prop := q.name.length ≤ 255

/-- one `struct tun_user` (user.h) -/
structure SlotFits (x : Session) : Prop where
  q : QueryFits x.q
  qs : QueryFits x.qs
  /-- `inpacket`: the assembly offset stays inside `data[]` (the C clamps the copy with `sizeof(data) - offset`) -/
  inpacket : PacketFits x.inpacket ∧ x.inpacket.offset ≤ 65536
  /-- `outpacket`: `offset + sentlen ≤ len`, and `offset < len` while a packet is stored (so `len - offset`, an `int`, is positive
  and `memcpy(&pkt[2], data + offset, datalen)` reads inside `data[]`) -/
  outpacket : PacketFits x.outpacket ∧ x.outpacket.offset + x.outpacket.sentlen ≤ x.outpacket.len ∧
    (x.outpacket.len ≠ 0 → x.outpacket.offset < x.outpacket.len)
  /-- `outpacketq[OUTPACKETQ_LEN = 4]` and its two ring variables -/
  outq : x.outpacketq.length = 4 ∧ (∀ p ∈ x.outpacketq, PacketFits p) ∧ x.oqNext < 4 ∧ x.oqFilled ≤ 4
  /-- `dnscache_q[4]`, `dnscache_answer[4][4096]`, `dnscache_answerlen[4]`, `dnscache_lastfilled` -/
  cache : x.dnscache.length = 4 ∧ x.dcLast < 4 ∧
    ∀ e ∈ x.dnscache, QueryFits e.q ∧ e.answer.length ≤ 4096 ∧ e.answerlen ≤ e.answer.length ∧ C10.IsBytes e.answer
  /-- `qmemping_cmc[30 * 4]`, `qmemping_type[30]`, `qmemping_lastfilled` -/
  qmemping : x.qmemping.length = 30 ∧ (∀ e ∈ x.qmemping, e.cmc.length = 4) ∧ x.qmempingLast < 30
  /-- `qmemdata_cmc[15 * 4]`, `qmemdata_type[15]`, `qmemdata_lastfilled` -/
  qmemdata : x.qmemdata.length = 15 ∧ (∀ e ∈ x.qmemdata, e.cmc.length = 4) ∧ x.qmemdataLast < 15

/-- **the state invariant**: the static counters of `write_dns_nameenc` index the alphabet (`'a' + td1`, `td1 < 26`, `td2 < 25`);
`users[]` has at most `USERS = 16` entries and `created_users` is its length; every slot fits its arrays -/
structure BufInv (b : BSrv) : Prop where
  td : b.td.1 < 26 ∧ b.td.2 < 25
  users : b.srv.users.length ≤ 16 ∧ b.srv.cfg.createdUsers = b.srv.users.length
  slots : ∀ u, SlotFits (getUser b.srv u)

/-- the encoder `handle_ns_request` / `handle_a_request` run for the query `q` of this iteration, as `tunnel_dns` selects it -/
def nsaEncoderCall (cfg : Config) (q : Query) : Option (R (List Nat)) :=
  match Common.queryDatalen q.name cfg.topdomain with
  | none => none
  | some dlen =>
    let n (i : Nat) := q.name.getD i 0
    if dlen = 3 ∧ q.type = Gen.T_A ∧ (n 0 = 110 ∨ n 0 = 78) ∧ (n 1 = 115 ∨ n 1 = 83) ∧ n 2 = 46 then
      some (dnsEncodeAResponse 65536 q.id q.type q.name (nsDest cfg q))
    else if dlen = 4 ∧ q.type = Gen.T_A ∧ (n 0 = 119 ∨ n 0 = 87) ∧ (n 1 = 119 ∨ n 1 = 87)
              ∧ (n 2 = 119 ∨ n 2 = 87) ∧ n 3 = 46 then
      some (dnsEncodeAResponse 65536 q.id q.type q.name (some [127, 0, 0, 1]))
    else if q.type = Gen.T_NS then some (dnsEncodeNsResponse 65536 q.id q.type q.name (q.name.drop dlen) (nsDest cfg q))
    else none

/-- the encoder call behind one event of the session machine (`q?` = the query `read_dns` decoded in this iteration) and the static
counters `td1, td2` after it: `write_dns` for an `ans`, `dns_encode(QR_QUERY)` with EDNS0 for a `fwd`, the NS/A encoders for an `nsa` -/
def encoderCall (cfg : Config) (q? : Option Query) (td : WriteDns.Td) : Event → WriteDns.Td × Option (R (List Nat))
  | .ans _ id ty dn name data _ => ((WriteDns.writeDnsR td id ty name data dn).1, some (WriteDns.writeDnsR td id ty name data dn).2)
  | .fwd _ => (td, q?.map fun q => dnsEncodeQuery 65536 q.id q.type true q.name)
  | .nsa _ => (td, q?.bind (nsaEncoderCall cfg))
  | _ => (td, none)

/-- the results of all encoder calls of an iteration, in order -/
def encoderCalls (cfg : Config) (q? : Option Query) : WriteDns.Td → List Event → List (R (List Nat))
  | _, [] => []
  | td, e :: rest =>
    match (encoderCall cfg q? td e).2 with
    | some r => r :: encoderCalls cfg q? (encoderCall cfg q? td e).1 rest
    | none => encoderCalls cfg q? (encoderCall cfg q? td e).1 rest

/-- a store outside the caller's buffer -/
def IsFault {α} (r : R α) : Prop := ∃ f, r = .fault f

/-- what is handed to `sendto` for an encoder result: the datagram if the encoder returned `len ≥ 1` -/
def transmitted (mk : List Nat → BEvent) (r : Option (R (List Nat))) : List BEvent :=
  match r with
  | some (.ok pkt) => if pkt.length < 1 then [] else [mk pkt]
  | _ => []

/-- everything that leaves the process for a list of events, computed from the encoder calls -/
def transmit (cfg : Config) (q? : Option Query) : WriteDns.Td → List Event → WriteDns.Td × List BEvent
  | td, [] => (td, [])
  | td, e :: rest =>
    let c := encoderCall cfg q? td e
    let t := transmit cfg q? c.1 rest
    (t.1, (match e with
      | .ans dst _ _ _ _ _ _ => transmitted (BEvent.tx dst) c.2
      | .fwd dst => transmitted (BEvent.fwd dst) c.2
      | .nsa dst => transmitted (BEvent.nsa dst) c.2
      | .raw dst b => [BEvent.raw dst b]
      | .tunw f => [BEvent.tunw f]
      | .rly dst b => [BEvent.rly dst b]
      | .sweep => []
      | .tunskip => []) ++ t.2)

/-- the local buffer an event is sent from: an `ans` is `write_dns(q, data, datalen, …)` with `q->name` in `name[256]` and the payload
in `pkt[4096]` / `out[…]` / `in[512]` / `buf[2048]` … (1..4096 octets); `send_raw` builds its frame in `packet[4096]`; `write_tun` sends from
`out[64K]`; `tunnel_bind` relays from `packet[64K]` -/
def EventFits : Event → Prop
  | .ans _ _ _ _ name data _ => name.length ≤ 255 ∧ 1 ≤ data.length ∧ data.length ≤ 4096 ∧ C10.IsBytes data
  | .raw _ b => b.length ≤ 4096
  | .tunw f => f.length ≤ 65536
  | .rly _ b => b.length ≤ 65536
  | _ => True

/-! ### Glue to the lemma files -/

theorem byteInput_iff (inp : BInput) : ByteInput inp ↔ BytesL.ByteInput inp := C10.byteDgram_iff inp

theorem nsaEncoderCall_eq (cfg : Config) (q : Query) : nsaEncoderCall cfg q = C05L.nsaCall cfg q := rfl

theorem encoderCall_eq (cfg : Config) (q? : Option Query) (td : WriteDns.Td) (e : Event) :
    encoderCall cfg q? td e = C05L.encCall cfg q? td e := by
  cases e <;> rfl

theorem encoderCalls_eq (cfg : Config) (q? : Option Query) : ∀ (evs : List Event) (td : WriteDns.Td),
    encoderCalls cfg q? td evs = C05L.encCalls cfg q? td evs
  | [], _ => rfl
  | e :: rest, td => by
    unfold encoderCalls C05L.encCalls
    rw [encoderCall_eq]
    cases (C05L.encCall cfg q? td e).2 with
    | none => exact encoderCalls_eq cfg q? rest _
    | some r => simp only []; rw [encoderCalls_eq cfg q? rest]

theorem transmitted_eq (mk : List Nat → BEvent) (r : Option (R (List Nat))) : transmitted mk r = C05L.sentAs mk r := by
  unfold transmitted C05L.sentAs
  cases r with
  | none => rfl
  | some x =>
    cases x with
    | ok pkt =>
      simp only [Option.bind_some, sent]
      by_cases h : pkt.length < 1
      · simp only [if_pos h]
      · simp only [if_neg h]
    | ret rv => rfl
    | fault f => rfl

theorem encodeEventsL_transmit (cfg : Config) (q? : Option Query) : ∀ (evs : List Event) (td : WriteDns.Td),
    ((encodeEventsL cfg q? td evs).1, (encodeEventsL cfg q? td evs).2.flatMap (·.2)) = transmit cfg q? td evs
  | [], _ => rfl
  | e :: rest, td => by
    have ih := encodeEventsL_transmit cfg q? rest (encodeEvent cfg q? td e).1
    have he := C05L.encodeEvent_eq cfg q? td e
    have h1 : (encodeEvent cfg q? td e).1 = (encoderCall cfg q? td e).1 := by rw [he, encoderCall_eq]
    simp only [encodeEventsL, transmit, List.flatMap_cons]
    rw [← h1, ← ih]
    refine Prod.ext rfl ?_
    simp only []
    congr 1
    rw [he, encoderCall_eq]
    cases e <;> simp only [transmitted_eq]

theorem anyReachable_inv {cfg : Config} (hc : C10.ConfigOk cfg) {b : BSrv} (h : AnyReachable cfg b) : C05L.RunInv b := by
  induction h with
  | init rnd => exact C05L.runInv_start cfg (C10.configOk_iff cfg hc).1 rnd
  | step inp now' _ hb ih => exact (C05L.runInv_step ih inp ((byteInput_iff inp).1 hb) now').1

theorem bufInv_of_runInv {b : BSrv} (h : C05L.RunInv b) : BufInv b where
  td := h.td
  users := ⟨h.cnt.2, h.cnt.1⟩
  slots := fun u => by
    have hw := h.sessW u
    obtain ⟨hd, hz⟩ := h.slotOK u
    exact {
      q := hz.qn
      qs := hz.qsn
      inpacket := ⟨⟨hz.inp, hd.inp, hw.inlen⟩, hz.inoff⟩
      outpacket := ⟨⟨hz.out, hd.out, hw.data⟩, hw.sent, hw.off⟩
      outq := ⟨hw.oqlen, fun p hp => ⟨hz.oq p hp, hd.oq p hp, hw.oq p hp⟩, hw.oqn, hw.oqf⟩
      cache := ⟨hz.dcl, hz.dci, fun e he => ⟨hz.dcn e he, (hd.dc e he).2.2.1, (hd.dc e he).2.1, (hd.dc e he).1⟩⟩
      qmemping := ⟨hz.qpl, hz.qpc, hz.qpi⟩
      qmemdata := ⟨hz.qdl, hz.qdc, hz.qdi⟩ }

/-! ### The property -/

/-- **reachable_bufInv.**  For every configuration `main()` can establish, in every state reachable from start-up through arbitrary
byte-valued inputs, everything the server stores is within the C arrays it stands for. -/
theorem reachable_bufInv (cfg : Config) (hc : C10.ConfigOk cfg) (b : BSrv) (hr : AnyReachable cfg b) : BufInv b :=
  bufInv_of_runInv (anyReachable_inv hc hr)

/-- **what is sent IS the encoder calls.**  In every state and for every input: the datagrams the byte-level iteration hands to `sendto`,
and the static counters afterwards, are exactly what `transmit` computes from `encoderCall` for the events of the session iteration
(so `encoderCalls` below are THE encoder calls of the iteration, not a parallel construction). -/
theorem iteration_transmits_encoder_calls (b : BSrv) (inp : BInput) (now' : Nat) :
    ((biteration b inp now').1.td, (biteration b inp now').2.1) =
      transmit b.srv.cfg (queryOf (toInput b.srv inp)) b.td (out b.srv ⟨toInput b.srv inp, now'⟩) :=
  encodeEventsL_transmit _ _ _ _

/-- **server_never_leaves_its_buffers** (C05 for whole sessions).  For every configuration `main()` can establish (`ConfigOk`), every state
`b` reachable from start-up through ARBITRARY byte-valued inputs — any byte strings as datagrams from any address, tun frames, replies on
the forward socket, time-outs, any clock, any `rand()` stream — and every further such input `inp`, over every residue `res` in the receive
buffer:
* `biterationR` returns a result — the decoder reads nothing outside `packet[64K]`, runs out of no loop budget — and it is the iteration
  computed from the datagram's own bytes;
* every encoder call made for the events of the iteration returns `.ok` or `.ret` — never `.fault`: no store outside `buf[64K]`,
  `cnamebuf[1024]`, `mxbuf[64K]`, `txtbuf[64K]`, whatever the question name looks like;
* every event fits the local buffer it is sent from;
* the state invariant `BufInv` holds before and after. -/
theorem server_never_leaves_its_buffers (cfg : Config) (hc : C10.ConfigOk cfg) (b : BSrv) (hr : AnyReachable cfg b)
    (inp : BInput) (hby : ByteInput inp) (now' : Nat) (res : Array Nat) :
    biterationR res b inp now' = some (biteration b inp now') ∧
    (∀ r ∈ encoderCalls b.srv.cfg (queryOf (toInput b.srv inp)) b.td (out b.srv ⟨toInput b.srv inp, now'⟩), ¬ IsFault r) ∧
    (∀ e ∈ out b.srv ⟨toInput b.srv inp, now'⟩, EventFits e) ∧
    BufInv b ∧ BufInv (biteration b inp now').1 := by
  have hinv := anyReachable_inv hc hr
  obtain ⟨h1, h2, h3, h4⟩ := C05L.runInv_step hinv inp ((byteInput_iff inp).1 hby) now'
  refine ⟨C12.session_iteration_residue_independent res b inp now', ?_, ?_, bufInv_of_runInv hinv, bufInv_of_runInv h1⟩
  · intro r hr ⟨f, hf⟩
    rw [encoderCalls_eq] at hr
    exact (C05L.noFault_iff r).1 (h4 r hr) f hf
  · intro e he
    cases e with
    | ans dst id ty dn name data tag =>
      obtain ⟨a1, a2, a3, a4⟩ := h2 dst id ty dn name data tag he
      exact ⟨a1, a3, a4, a2⟩
    | raw dst bts => exact h3 _ he
    | tunw f => exact h3 _ he
    | rly dst bts => exact h3 _ he
    | fwd _ => trivial
    | nsa _ => trivial
    | sweep => trivial
    | tunskip => trivial

/-- **local_buffers_fit.**  The locals of `handle_null_request` and `save_to_qmem_pingordata`, for every query name and every codec: what
`unpack_data` stores fits `unpacked[64K]`, the name bytes copied fit `in[512]`, the ping fingerprint fits `cmc[8]` (the defect repaired by
adfbd99 was the terminator written at `cmc[8]`; the decoded bytes never exceeded it), a fragment cut by `send_chunk_or_dataless` with its
two header bytes fits `pkt[4096]`. -/
theorem local_buffers_fit (c : Codec.Codec) (name : List Nat) (dlen n : Nat) (x : Session) :
    (Encoding.unpackData c 65536 name).length ≤ 65536 ∧ (name.take (min dlen 512)).length ≤ 512 ∧
    (Codec.dec Codec.b32 8 n name).length ≤ 8 ∧ (scPkt x (scDatalen x)).length ≤ 4096 := by
  refine ⟨?_, ?_, ?_, ?_⟩
  · exact C05L.unpackData_le _ _ _
  · simp only [List.length_take]; omega
  · unfold Codec.dec; simp only [List.length_take]; omega
  · have := C15L.scPkt_length_le x (scDatalen x)
    have := (Server.scDatalen_le x).2
    omega

theorem anyReachable_brun {cfg : Config} {b : BSrv} (h : AnyReachable cfg b) :
    ∀ l : List (BInput × Nat), (∀ p ∈ l, ByteInput p.1) → AnyReachable cfg (brun b l)
  | [], _ => h
  | (i, n) :: rest, hl => by
    simp only [brun]
    exact anyReachable_brun (.step i n h (hl (i, n) List.mem_cons_self)) rest
      (fun p hp => hl p (List.mem_cons_of_mem _ hp))

/-! ### Non-vacuity: hostile datagrams that ARE answered -/

/-- forwarding on (`-b 5353`), wildcard top domain not needed -/
def exCfgF : Config := { C10.exCfgS with bindPort := 5353 }

/-- "z." as FIRST LABEL (a '.' inside the label): `dns_decode` reads the name "z..t.co" (empty label); the 'Z' handler echoes it -/
def exDotLabel : List Nat := C10.exDgramBad

/-- a question name made of a compression pointer to itself: decoded to nothing, dropped -/
def exLoop : List Nat := [0, 1, 1, 0, 0, 1, 0, 0, 0, 0, 0, 0, 0xc0, 12, 0, 10, 0, 1]

/-- a name OUTSIDE the tunnel domain whose single label is 63 × '.' : forwarded (`forward_query` re-encodes it with `dns_encode`);
`putname`'s `strtok` finds no piece at all -/
def exDots : List Nat := [0, 9, 1, 0, 0, 1, 0, 0, 0, 0, 0, 0] ++ (63 :: List.replicate 63 46) ++ [0, 0, 1, 0, 1]

/-- a version request of type MX whose first label `v…` carries bytes ≥ 0x80 and two dots (answered with a host-name encoded VNAK) -/
def exHigh : List Nat :=
  [0x12, 0x35, 1, 0, 0, 1, 0, 0, 0, 0, 0, 0, 9, 118, 200, 255, 128, 97, 46, 46, 97, 97, 1, 116, 2, 99, 111, 0, 0, 15, 0, 1]

/-- a run of four hostile datagrams and a tun frame -/
def exRun : List (BInput × Nat) :=
  [(.dgram C10.exSrc exDotLabel, 1000), (.dgram C10.exSrc exLoop, 1000), (.tun (List.replicate 300 7), 5),
   (.dgram C10.exSrc exDots, 1001), (.dgram C10.exSrc exHigh, 1001)]

/-- which encoder calls the iteration on `d` makes in state `b`, and whether each returned a datagram -/
def exCalls (b : BSrv) (d : List Nat) (now' : Nat) : List Bool :=
  (encoderCalls b.srv.cfg (queryOf (toInput b.srv (.dgram C10.exSrc d))) b.td
    (out b.srv ⟨toInput b.srv (.dgram C10.exSrc d), now'⟩)).map fun r => match r with | .ok _ => true | _ => false

example : C10.ConfigOk exCfgF ∧ (∀ p ∈ exRun, ByteInput p.1) ∧
    -- the 'Z' echo of the name with the empty label, the forwarded all-dots name, the MX answer: one encoder call each, each a datagram
    exCalls (bstart exCfgF []) exDotLabel 1000 = [true] ∧ exCalls (bstart exCfgF []) exDots 1000 = [true] ∧
    exCalls (bstart exCfgF []) exHigh 1000 = [true] ∧ exCalls (bstart exCfgF []) exLoop 1000 = [] := by
  decide +kernel

/-- the theorem applied to the state after that run and one more hostile datagram -/
example (res : Array Nat) :=
  server_never_leaves_its_buffers exCfgF (by decide +kernel) _
    (anyReachable_brun (.init []) exRun (by decide +kernel)) (.dgram C10.exSrc exHigh) (by decide +kernel) 1002 res

/-- `BufInv` is not trivially true: a slot whose out-queue ring index is 4 violates it -/
example : ¬ SlotFits { Session.zero 0 with oqNext := 4 } := fun h => by
  have h4 : (4 : Nat) < 4 := h.outq.2.2.1
  omega

/-! ### Bounded time

The model is TOTAL by construction: every function of Server/*.lean and Wire/*.lean is structurally recursive over a list or a number,
or runs on explicit fuel where the C loop is not structurally bounded (`readname`'s jumps, `write_dns`'s MX loop, `puttxtbin`) — and
running out of fuel is a `Fault`, which by `server_never_leaves_its_buffers` does not occur.  "Processes each input in bounded time"
therefore means here: EVERY LOOP OF ONE ITERATION OF `tunnel()` RANGES OVER SOMETHING WHOSE SIZE IS BOUNDED by the datagram length or by a
constant.  `iterationBudget` adds these ranges up, loop by loop, as a function of the state, the input and the events produced; the
theorem bounds it by `11 · (length of the datagram, cut at 64 KiB) + a constant`.  The ingredients are theorems about the model, not
conventions: the loop budget of the decoder suffices (no `Fault.fuel`); `users[]` has ≤ 16 slots; the cache and the query memories have
4 / 30 / 15 entries (`BufInv`); an iteration produces at most `2·created_users + 10 ≤ 42` events, whatever the input (no handler loops on
its input; `send_chunk_or_dataless`'s "call me again" result is never looped on); every payload handed to an encoder is ≤ 4096 bytes
and every name ≤ 255 (`EventFits`). -/

/-- what `recvmsg` / `read` / `recvfrom` deliver of the input: its length cut at the 64 KiB of the receive buffer -/
def inputLen : BInput → Nat
  | .dgram _ b => min b.length 65536
  | .tun f => min f.length 65536
  | .bind b => min b.length 65536
  | .tick => 0

/-- loop iterations behind one event.  `ans`: `write_dns` — `putname` over the ≤ |name|+1 `strtok` pieces of the question name (twice: the
NS/A encoders too), the codec of `write_dns_nameenc` / the TXT branch (≤ 2·|data| + 8 characters; for MX ≤ |data|/152 + 1 names of ≤ 255), the
copy loops of `dns_encode` (`puttxtbin` ≤ |txt|/252 + 1 rounds, `putdata`).  `raw` / `tunw` / `rly`: the copy of the bytes.
`fwd` / `nsa`: the encoders on this iteration's question name (≤ 253 characters). -/
def eventBudget : Event → Nat
  | .ans _ _ _ _ name data _ => 3 * name.length + 4 * data.length + 600
  | .raw _ b => b.length
  | .tunw f => f.length
  | .rly _ b => b.length
  | .fwd _ => 3 * 255 + 64
  | .nsa _ => 3 * 255 + 64
  | .sweep => 0
  | .tunskip => 0

/-- **the stated function**: the ranges of all loops of one iteration of `tunnel()` on input `inp` in state `b` -/
def iterationBudget (b : BSrv) (inp : BInput) (now' : Nat) : Nat :=
  -- read_dns → dns_decode → readname: at most 10 activations (jump budget) of a loop of at most `packetlen` iterations — the fuel of
  -- `Wire.readnameLoop`, which never runs out (`server_never_leaves_its_buffers`, first conjunct)
  10 * inputLen inp
  -- the linear passes over the datagram / frame: recvmsg's copy, raw_decode's memcpy, compress2 / uncompress (transparent in the model)
  + inputLen inp
  -- the loops over `users[]`: top of `tunnel()` (clear `q_sendrealsoon_new`; choose the time-out), `all_users_waiting_to_send`,
  -- `find_user_by_ip`, `find_available_user`, the "send real soon" sweep
  + 6 * b.srv.users.length
  -- `answer_from_dnscache` (DNSCACHE_LEN), `answer_from_qmem` (QMEMPING_LEN or QMEMDATA_LEN), `recent_seqno`
  + (4 + 30 + 15 + 4)
  -- `handle_null_request`: memcpy of the name into `in[512]`, `unpack_data` over ≤ 255 characters, the lower-casing loops of the CMC
  + 3 * 255
  -- `handle_full_packet`: `uncompress` of a stored packet of at most 64 KiB
  + 65536
  -- the encoders and `sendto` copies, per event
  + ((out b.srv ⟨toInput b.srv inp, now'⟩).map eventBudget).sum

theorem eventBudget_le {e : Event} (h : EventFits e) : eventBudget e ≤ 65536 := by
  cases e with
  | ans dst id ty dn name data tag =>
    obtain ⟨h1, _, h3, _⟩ := h
    simp only [eventBudget]; omega
  | raw dst b => have : b.length ≤ 4096 := h; simp only [eventBudget]; omega
  | tunw f => exact h
  | rly dst b => exact h
  | fwd _ => simp [eventBudget]
  | nsa _ => simp [eventBudget]
  | sweep => simp [eventBudget]
  | tunskip => simp [eventBudget]

/-- **server_iteration_bounded.**  For every configuration `main()` can establish, every state reachable through arbitrary byte-valued
inputs and every further such input: (1) the receive path terminates within its loop budget for every residue (`biterationR` is `some`);
(2) the iteration produces at most `2·created_users + 10 ≤ 42` events — hence at most 42 encoder calls and `sendto`s —, each within
`EventFits`; (3) the sum of the ranges of ALL loops of the iteration is at most `11·len + 2 818 962` where `len ≤ 65536` is the length of
the datagram or frame: linear in the input length with a constant that depends on nothing — not on the content of the datagram, the state
of the sessions or the history. -/
theorem server_iteration_bounded (cfg : Config) (hc : C10.ConfigOk cfg) (b : BSrv) (hr : AnyReachable cfg b)
    (inp : BInput) (hby : ByteInput inp) (now' : Nat) :
    (∀ res, (biterationR res b inp now').isSome) ∧
    (out b.srv ⟨toInput b.srv inp, now'⟩).length ≤ 2 * b.srv.cfg.createdUsers + 10 ∧ b.srv.cfg.createdUsers ≤ 16 ∧
    iterationBudget b inp now' ≤ 11 * inputLen inp + 2818962 ∧ inputLen inp ≤ 65536 := by
  obtain ⟨h1, _, h3, h4, _⟩ := server_never_leaves_its_buffers cfg hc b hr inp hby now' #[]
  have hlen := C05L.out_length_le b.srv ⟨toInput b.srv inp, now'⟩
  have hu := h4.users
  have hsum := C05L.sum_map_le eventBudget 65536 _ (fun e he => eventBudget_le (h3 e he))
  refine ⟨fun res => ?_, hlen, by omega, ?_, ?_⟩
  · rw [C12.session_iteration_residue_independent res b inp now']; rfl
  · unfold iterationBudget
    have : 65536 * (out b.srv ⟨toInput b.srv inp, now'⟩).length ≤ 65536 * 42 := Nat.mul_le_mul_left _ (by omega)
    omega
  · cases inp <;> simp only [inputLen] <;> omega

/-- non-vacuity: the budget of the hostile MX request is dominated by the constants; the request produces one event -/
example : (out (bstart exCfgF []).srv ⟨toInput (bstart exCfgF []).srv (.dgram C10.exSrc exHigh), 1000⟩).length = 2 ∧
    inputLen (.dgram C10.exSrc exHigh) = 32 := by decide +kernel

end Iodine.C05
