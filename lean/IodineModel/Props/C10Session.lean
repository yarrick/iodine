import IodineModel.Server.Bytes
import IodineModel.Lemmas.BytesD
import IodineModel.Lemmas.BytesE
import IodineModel.Lemmas.BytesI
import IodineModel.Props.C10
import IodineModel.Props.C14
/-
C10, lifted to whole sessions of the byte-level server (Server/Bytes.lean: datagram in → `read_dns`/`dns_decode` →
session machine → `write_dns`/`dns_encode*` → datagram out).

"Every datagram the server emits in DNS mode is a well-formed RFC 1035 message … Each answer carries the id, name and type
of the query it answers; NS queries under the tunnel domain are answered with ns.<domain> and A queries for ns./www.
with an address record … for all queries whose labels contain no '.' or NUL byte."

Specification side: the strict parser `Wire.Strict.parseMsg`, `LegalName`/`labels` of Props/C10.lean, and the predicates below,
which speak about received datagram bytes and emitted datagram bytes only.
-/
namespace Iodine.C10
open Iodine Iodine.Server Iodine.Wire Iodine.Wire.Strict

/-! ### Specification vocabulary -/

/-- The quantifier of C10 on the receive side, for one datagram: IF the server's decoder hands the datagram on as a query,
the question name it read is a legal host name (labels of 1..63 bytes without '.' or NUL, at most 253 characters).
Datagrams that are dropped or taken as raw frames are unrestricted — arbitrary bytes. -/
def LegalQuestion (bytes : List Nat) : Prop :=
  match dnsDecodeQuery { pkt := (bytes.take 65536).toArray, res := #[], cap := 65536 } with
  | .ok d => d.rv ≤ 0 ∨ LegalName d.name
  | .error _ => True

/-- the same for any input of an iteration (tun frames, forwarded replies and time-outs are unrestricted) -/
def LegalDgram : BInput → Prop
  | .dgram _ bytes => LegalQuestion bytes
  | _ => True

instance (bytes : List Nat) : Decidable (LegalQuestion bytes) := by unfold LegalQuestion; split <;> infer_instance
instance : DecidablePred LegalDgram := fun i => by cases i <;> unfold LegalDgram <;> infer_instance

/-- states of the server process reachable from start-up (any configuration, any `rand()` values) through iterations on
ARBITRARY inputs — any datagram bytes, tun frames, forwarded replies, any clock — whose decoded questions are legal -/
inductive LegalReachable (cfg : Config) : BSrv → Prop where
  | init (rnd : List Nat) : LegalReachable cfg (bstart cfg rnd)
  | step {b : BSrv} (inp : BInput) (now' : Nat) : LegalReachable cfg b → LegalDgram inp →
      LegalReachable cfg (biteration b inp now').1

/-- a well-formed response echoing `(id, name, type)`: parses strictly, QR|AA, exactly that question, at least one answer
record, every answer record owned by the question name in class IN, nothing in the authority section -/
def WellFormedAnswerTo (id ty : Nat) (name pkt : List Nat) : Prop :=
  ∃ m, parseMsg pkt = some m ∧ m.id = id ∧ m.flags = 0x8400 ∧ m.qd = [(labels name, ty, 1)] ∧ m.an ≠ [] ∧
    (∀ r ∈ m.an, r.owner = labels name ∧ r.cls = 1) ∧ m.ns = []

/-- the seven record types the tunnel answers: NULL, PRIVATE, TXT, SRV, MX, CNAME, A -/
def TunnelTypes : List Nat := [10, 65399, 16, 33, 15, 5, 1]

/-! ### Glue -/

theorem legalQuestion_iff (bytes : List Nat) : LegalQuestion bytes ↔ BytesL.QuestionLegal bytes := Iff.rfl

theorem legalDgram_iff (inp : BInput) : LegalDgram inp ↔ BytesL.LegalInput inp := by
  cases inp <;> exact Iff.rfl

theorem tunnelTypes_iff (ty : Nat) : ty ∈ TunnelTypes ↔ BytesL.TunnelType ty := by
  simp [TunnelTypes, BytesL.TunnelType]

theorem wellFormedAnswerTo_of_echoes {id ty : Nat} {name pkt : List Nat} (h : BytesL.Echoes id ty name pkt) :
    WellFormedAnswerTo id ty name pkt := by
  obtain ⟨m, hm, e1, e2, e3, e4, e5, e6, _⟩ := h
  exact ⟨m, hm, e1, e2, e3, e4, e5, e6⟩

theorem binv_step_legal {b : BSrv} (hb : BytesL.BInv BytesL.GoodKey b) (inp : BInput) (now' : Nat) (hl : LegalDgram inp) :
    BytesL.BInv BytesL.GoodKey (biteration b inp now').1 ∧ BytesL.AnsInv BytesL.GoodKey (out b.srv ⟨toInput b.srv inp, now'⟩) :=
  BytesL.binv_step hb inp now' fun _ hq hty _ =>
    BytesL.goodKey_of_legal hq hty ((BytesL.toInput_q hq).2.2.2 ((legalDgram_iff inp).1 hl))

theorem legalReachable_inv {cfg : Config} {b : BSrv} (h : LegalReachable cfg b) : BytesL.BInv BytesL.GoodKey b := by
  induction h with
  | init rnd => exact BytesL.binv_start _ cfg rnd
  | step inp now' _ hl ih => exact (binv_step_legal ih inp now' hl).1

/-! ### The property -/

/-- **The byte-level iteration IS the session iteration** on what `read_dns` hands on: state and events are those of
`Server.iteration` (so every theorem of C03 C04 C14 C15 C16 about `next`/`out` speaks about the byte-level server), and
what is sent is `encodeEvents` of those events. -/
theorem biteration_session (b : BSrv) (inp : BInput) (now' : Nat) :
    (biteration b inp now').1.srv = next b.srv ⟨toInput b.srv inp, now'⟩ ∧
    (biteration b inp now').2.1 = (encodeEvents b.srv.cfg b.td (toInput b.srv inp) (out b.srv ⟨toInput b.srv inp, now'⟩)).2 :=
  ⟨rfl, rfl⟩

/-- a datagram sent through `write_dns` in an iteration all of whose `write_dns` go to good keys: it encodes one of those calls,
and is well formed if that call's payload is a byte string of 1..4096 bytes -/
theorem tx_wellformed_of {b : BSrv} (htd : Downstream.TdOk b.td) {inp : BInput} {now' : Nat}
    (hk : BytesL.AnsInv BytesL.GoodKey (out b.srv ⟨toInput b.srv inp, now'⟩)) {dst : Addr} {bytes : List Nat}
    (htx : BEvent.tx dst bytes ∈ (biteration b inp now').2.1) :
    ∃ id ty dn name data tag,
      Event.ans dst id ty dn name data tag ∈ out b.srv ⟨toInput b.srv inp, now'⟩ ∧
      id < 65536 ∧ LegalName name ∧ ty ∈ TunnelTypes ∧
      (IsBytes data → 1 ≤ data.length → data.length ≤ 4096 → WellFormedAnswerTo id ty name bytes) := by
  obtain ⟨id, ty, dn, name, data, tag, td0, hmem, htd0, hw⟩ := BytesL.biteration_tx htx
  have hgood := hk dst id ty dn name data tag hmem
  exact ⟨id, ty, dn, name, data, tag, hmem, hgood.1, hgood.2.1, (tunnelTypes_iff ty).2 hgood.2.2, fun hd h1 h2 =>
    wellFormedAnswerTo_of_echoes (BytesL.writeDns_sent_echoes (htd0 htd) hgood.1 hgood.2.2 hgood.2.1 hd h1 h2 hw)⟩

/-- **session_datagrams_wellformed_partial** (answers of `write_dns`).  In every state reachable from start-up through
arbitrary inputs with legal decoded questions, for every further such input (ARBITRARY datagram bytes) and every datagram
`tx dst bytes` the iteration sends through `write_dns`:
it is the encoding of an `ans dst id ty dn name data` event of the session machine in this iteration — a call
`write_dns(q, data, datalen, downenc)` with `q->from = dst`, `q->id = id`, `q->type = ty`, `q->name = name` —
whose `id` is 16-bit, whose `name` is legal and whose `ty` is one of the seven tunnel types (these three are INVARIANTS of the
stored queries, proved here; C14 `answers_injective_into_queries` says the event answers a distinct received query datagram with
exactly this address, id, name and type, of this or an earlier iteration); and if the payload is a byte string of 1..4096 bytes,
`bytes` is a well-formed response that echoes id, name and type, for EVERY downstream codec byte `dn`.

PARTIAL: the premise on `data` (`IsBytes data`, `1 ≤ |data| ≤ 4096`) is not discharged here; `session_payloads_are_bytes` below
discharges it for byte-valued inputs under `ConfigOk` (constants, ≤ 2047-byte probes, name echoes, fragments ≤ 2 + 4094, cache replays
≤ 4096), and `session_datagrams_wellformed` is the statement without it. -/
theorem session_datagrams_wellformed_partial (cfg : Config) (b : BSrv) (hr : LegalReachable cfg b)
    (inp : BInput) (now' : Nat) (hl : LegalDgram inp) (dst : Addr) (bytes : List Nat)
    (htx : BEvent.tx dst bytes ∈ (biteration b inp now').2.1) :
    ∃ id ty dn name data tag,
      Event.ans dst id ty dn name data tag ∈ out b.srv ⟨toInput b.srv inp, now'⟩ ∧
      id < 65536 ∧ LegalName name ∧ ty ∈ TunnelTypes ∧
      (IsBytes data → 1 ≤ data.length → data.length ≤ 4096 → WellFormedAnswerTo id ty name bytes) := by
  exact tx_wellformed_of (legalReachable_inv hr).td (binv_step_legal (legalReachable_inv hr) inp now' hl).2 htx

/-- **session_nsa_wellformed_partial** (NS and A responses).  Every datagram `nsa dst bytes` sent by `handle_ns_request` /
`handle_a_request` in such an iteration answers the query `q` that `read_dns` decoded from THIS iteration's datagram
(id 16-bit, name legal), and — for names of at most 250 characters — is a well-formed response echoing `q`'s id, name and
type with exactly one answer record for that name, type and class IN (Props/C10.lean `ns_response_wellformed`,
`a_response_wellformed` say which: `NS ns.<domain>` with optional glue, resp. the address).

PARTIAL: names of 251..253 characters are excluded here (the NS theorems need the matched top domain to have at most 250 characters);
under `ConfigOk` that follows from `check_topdomain`'s 128-character limit and the 63-byte label limit (`session_matched_top_short`), and
`session_nsa_wellformed` below is the statement for all legal names. -/
theorem session_nsa_wellformed_partial (cfg : Config) (b : BSrv) (_hr : LegalReachable cfg b)
    (inp : BInput) (now' : Nat) (hl : LegalDgram inp) (dst : Addr) (bytes : List Nat)
    (hnsa : BEvent.nsa dst bytes ∈ (biteration b inp now').2.1) :
    ∃ q, toInput b.srv inp = .q q ∧ Event.nsa dst ∈ out b.srv ⟨toInput b.srv inp, now'⟩ ∧
      q.id < 65536 ∧ LegalName q.name ∧
      (q.name.length ≤ 250 →
        ∃ m, parseMsg bytes = some m ∧ m.id = q.id ∧ m.flags = 0x8400 ∧ m.qd = [(labels q.name, q.type, 1)] ∧
          m.an.length = 1 ∧ (∀ r ∈ m.an, r.owner = labels q.name ∧ r.type = q.type ∧ r.cls = 1) ∧ m.ns = []) := by
  obtain ⟨q, hin, hmem, hbytes⟩ := BytesL.biteration_nsa hnsa
  obtain ⟨_, hid, _, hleg⟩ := BytesL.toInput_q hin
  have hlegal := hleg ((legalDgram_iff inp).1 hl)
  exact ⟨q, hin, hmem, hid, hlegal, fun hlen => BytesL.nsaBytes_echo b.srv.cfg q bytes hid hlegal hlen hbytes⟩

/-! ### Full strength: the premises discharged as invariants

The payload premise of `session_datagrams_wellformed_partial` and the length restriction of `session_nsa_wellformed_partial` are
consequences of two things iodined's `main()` and the operating system guarantee: the configuration passed `main`'s checks,
and what arrives on sockets and the tun device are bytes. -/

/-- What `main()` of iodined.c enforces before `tunnel()` starts: `-m mtu` is a positive `int` (`if (mtu <= 0) usage`), the
netmask has 8..30 bits (`if (netmask > 30 || netmask < 8)`), `check_topdomain(topdomain, 1, …)` accepted the top domain
(3..128 characters, labels of 1..63 letters/digits/'-', optionally a leading "*.").  (Nothing is needed about `my_ip`, the
password, `ns_ip` or the ports.) -/
def ConfigOk (cfg : Config) : Prop :=
  0 < cfg.mtu ∧ cfg.mtu < 2 ^ 31 ∧ 8 ≤ cfg.netmask ∧ cfg.netmask ≤ 30 ∧ Common.checkTopdomain cfg.topdomain true = 0

instance (cfg : Config) : Decidable (ConfigOk cfg) := by unfold ConfigOk; infer_instance

/-- the input of an iteration consists of bytes: datagram octets and tun frame octets are `< 256`
(lengths are arbitrary: `recvmsg`/`read` cut at 64 KiB; `rand()` values and clock values are arbitrary) -/
def ByteDgram : BInput → Prop
  | .dgram _ bytes => IsBytes bytes
  | .tun frame => IsBytes frame
  | .bind _ => True
  | .tick => True

instance : DecidablePred ByteDgram := fun i => by cases i <;> unfold ByteDgram <;> infer_instance

/-- states reachable from start-up through iterations on arbitrary byte-valued inputs whose decoded questions are legal -/
inductive WfReachable (cfg : Config) : BSrv → Prop where
  | init (rnd : List Nat) : WfReachable cfg (bstart cfg rnd)
  | step {b : BSrv} (inp : BInput) (now' : Nat) : WfReachable cfg b → LegalDgram inp → ByteDgram inp →
      WfReachable cfg (biteration b inp now').1

theorem configOk_iff (cfg : Config) : ConfigOk cfg → BytesL.CfgOk cfg :=
  fun h => ⟨⟨h.1, h.2.1, h.2.2.2.1⟩, h.2.2.2.2⟩

theorem byteDgram_iff (inp : BInput) : ByteDgram inp ↔ BytesL.ByteInput inp := by
  cases inp <;> exact Iff.rfl

theorem wfReachable_legal {cfg : Config} {b : BSrv} (h : WfReachable cfg b) : LegalReachable cfg b := by
  induction h with
  | init rnd => exact .init rnd
  | step inp now' _ hl _ ih => exact .step inp now' ih hl

theorem wfReachable_inv {cfg : Config} (hc : ConfigOk cfg) {b : BSrv} (h : WfReachable cfg b) : BytesL.WfInv b := by
  induction h with
  | init rnd => exact BytesL.wfInv_start cfg (configOk_iff cfg hc) rnd
  | step inp now' _ hl hb ih =>
    exact (BytesL.wfInv_step ih inp now' ((legalDgram_iff inp).1 hl) ((byteDgram_iff inp).1 hb)).1

/-- **session_payloads_are_bytes.**  Under `ConfigOk`, in every state reachable through byte-valued inputs with legal questions,
every `write_dns(q, data, datalen, downenc)` of the next iteration carries a byte string of 2..4096 bytes, or the one byte "x": data answers are 2 header
bytes + at most min(fragsize, 4094) payload bytes, cache replays at most 4096, the login reply at most 15+1+15+1+10+1+2 bytes, the
version answers 9, the 'I' answer 5 or 17, the 'Z' echo at most 255, the fragment-size probe 2..2047, all others constants; the
shortest is the one-byte "x" sent for a recognised duplicate. -/
theorem session_payloads_are_bytes (cfg : Config) (hc : ConfigOk cfg) (b : BSrv) (hr : WfReachable cfg b)
    (inp : BInput) (now' : Nat) (hl : LegalDgram inp) (hb : ByteDgram inp)
    (dst : Addr) (id ty dn : Nat) (name data : List Nat) (tag : Tag)
    (he : Event.ans dst id ty dn name data tag ∈ out b.srv ⟨toInput b.srv inp, now'⟩) :
    IsBytes data ∧ (2 ≤ data.length ∨ data = [120]) ∧ data.length ≤ 4096 :=
  (BytesL.wfInv_step (wfReachable_inv hc hr) inp now' ((legalDgram_iff inp).1 hl) ((byteDgram_iff inp).1 hb)).2.2
    dst id ty dn name data tag he

/-- **session_datagrams_wellformed** (C10 for whole sessions, answers of `write_dns`).  For every configuration that passes
`main()`'s checks, every state of the server process reachable from start-up through ARBITRARY byte-valued inputs (any datagram
bytes of any length, tun frames, forwarded replies, any `rand()` values, any clock) whose decoded questions are legal names, every
further such input and every datagram `tx dst bytes` the iteration hands to `sendto` through `write_dns`:
`bytes` is a well-formed RFC 1035 response (strict parser: counts match, labels 1..63, names ≤ 255, pointers backwards to label
boundaries, RDLENGTH exact, TXT tiled), QR|AA, that carries exactly the id, question name and type of an `ans` event of this
iteration — i.e. (by `session_answer_echoes_received_query` / C14) of a query the server decoded from a datagram received from `dst`
in this or an earlier iteration — with at least one answer record, every answer record owned by the question name in class IN. -/
theorem session_datagrams_wellformed (cfg : Config) (hc : ConfigOk cfg) (b : BSrv) (hr : WfReachable cfg b)
    (inp : BInput) (now' : Nat) (hl : LegalDgram inp) (hb : ByteDgram inp) (dst : Addr) (bytes : List Nat)
    (htx : BEvent.tx dst bytes ∈ (biteration b inp now').2.1) :
    ∃ id ty dn name data tag,
      Event.ans dst id ty dn name data tag ∈ out b.srv ⟨toInput b.srv inp, now'⟩ ∧
      id < 65536 ∧ LegalName name ∧ ty ∈ TunnelTypes ∧ WellFormedAnswerTo id ty name bytes := by
  obtain ⟨id, ty, dn, name, data, tag, he, h1, h2, h3, h4⟩ :=
    session_datagrams_wellformed_partial cfg b (wfReachable_legal hr) inp now' hl dst bytes htx
  obtain ⟨d1, d2, d3⟩ := session_payloads_are_bytes cfg hc b hr inp now' hl hb dst id ty dn name data tag he
  exact ⟨id, ty, dn, name, data, tag, he, h1, h2, h3, h4 d1 (by rcases d2 with d2 | d2; omega; rw [d2]; decide) d3⟩

/-- **session_matched_top_short.**  The part of a legal query name that `query_datalen` matches against a top domain accepted by
`check_topdomain` — what `handle_ns_request` passes to `dns_encode_ns_response` as the domain — has at most 191 characters (the
domain, ≤ 128; or one label ≤ 63 standing for the `*` and the rest of the domain), so `ns.<it>` fits a DNS name. -/
theorem session_matched_top_short (q t : List Nat) (n : Nat) (hq : LegalName q) (ht : Common.checkTopdomain t true = 0)
    (h : Common.queryDatalen q t = some n) : (q.drop n).length ≤ 191 := BytesL.matched_top_le hq ht h

example : Common.queryDatalen ([120, 46] ++ List.replicate 63 97 ++ [46, 116, 46, 99, 111]) [42, 46, 116, 46, 99, 111] = some 2 := by
  decide +kernel

/-- **session_nsa_wellformed** (NS and A responses, all legal names).  Under `ConfigOk`, every datagram `nsa dst bytes` sent by
`handle_ns_request` / `handle_a_request` answers the query `q` decoded from THIS iteration's datagram and is a well-formed response
echoing `q`'s id, name and type with exactly one answer record for that name, type and class IN. -/
theorem session_nsa_wellformed (cfg : Config) (hc : ConfigOk cfg) (b : BSrv) (hr : WfReachable cfg b)
    (inp : BInput) (now' : Nat) (hl : LegalDgram inp) (dst : Addr) (bytes : List Nat)
    (hnsa : BEvent.nsa dst bytes ∈ (biteration b inp now').2.1) :
    ∃ q, toInput b.srv inp = .q q ∧ Event.nsa dst ∈ out b.srv ⟨toInput b.srv inp, now'⟩ ∧
      q.id < 65536 ∧ LegalName q.name ∧
      ∃ m, parseMsg bytes = some m ∧ m.id = q.id ∧ m.flags = 0x8400 ∧ m.qd = [(labels q.name, q.type, 1)] ∧
        m.an.length = 1 ∧ (∀ r ∈ m.an, r.owner = labels q.name ∧ r.type = q.type ∧ r.cls = 1) ∧ m.ns = [] := by
  have hinv := wfReachable_inv hc hr
  obtain ⟨q, hin, hmem, hbytes⟩ := BytesL.biteration_nsa hnsa
  obtain ⟨_, hid, _, hleg⟩ := BytesL.toInput_q hin
  have hlegal := hleg ((legalDgram_iff inp).1 hl)
  exact ⟨q, hin, hmem, hid, hlegal, BytesL.nsaBytes_echo_of b.srv.cfg q bytes hid hlegal
    (fun dlen hd => by have := BytesL.matched_top_le hlegal hinv.top hd; omega) hbytes⟩

/-- **session_answer_echoes_received_query** ("each answer carries the id, name and type of the query it answers", over
whole runs; no hypothesis on the datagrams).  Let the server process run from start-up through ANY inputs `l` (arbitrary datagram
bytes, tun frames, forwarded replies, any clock values) and then through one more iteration on `inp`.  Every `write_dns` of
that iteration — every `ans dst id ty dn name data` event, hence by `session_datagrams_wellformed_partial` every `tx` — goes to
the sender `dst` of a query with exactly this id, name and type that `read_dns` decoded from a datagram received in this
iteration or an earlier one of the run.  (By C14 `answers_injective_into_queries`, even to a distinct, not yet answered one.) -/
theorem session_answer_echoes_received_query (cfg : Config) (rnd : List Nat) (l : List (BInput × Nat)) (inp : BInput) (now' : Nat)
    (dst : Addr) (id ty dn : Nat) (name data : List Nat) (tag : Tag)
    (he : Event.ans dst id ty dn name data tag ∈
      out (brun (bstart cfg rnd) l).srv ⟨toInput (brun (bstart cfg rnd) l).srv inp, now'⟩) :
    ∃ (src : Addr) (bytes : List Nat) (n : Nat) (b' : BSrv) (q : Query),
      (BInput.dgram src bytes, n) ∈ l ++ [(inp, now')] ∧ decodeInput b'.srv src bytes = .q q ∧
      q.from_ = dst ∧ q.id = id ∧ q.name = name ∧ q.type = ty := by
  have hsteps := BytesL.bsteps_append l (bstart cfg rnd) inp now'
  have hwf := BytesL.wf_bsteps (l ++ [(inp, now')]) (bstart cfg rnd)
  have htr := BytesL.traceFrom_append (bsteps (bstart cfg rnd) l) (start cfg rnd)
    ⟨toInput (brun (bstart cfg rnd) l).srv inp, now'⟩
  have hrun : runFrom (start cfg rnd) (bsteps (bstart cfg rnd) l) = (brun (bstart cfg rnd) l).srv :=
    BytesL.runFrom_bsteps l (bstart cfg rnd)
  rw [hrun, ← hsteps] at htr
  obtain ⟨q, hq, hk⟩ := BytesL.ans_key_received cfg rnd _ hwf _
    (by rw [htr]; exact List.mem_append_right _ (List.mem_singleton.2 rfl)) dst id ty dn name data tag he
  obtain ⟨st, hst, hinp⟩ := List.mem_map.1 hq
  obtain ⟨b', i, n, hmem, rfl⟩ := BytesL.mem_bsteps _ _ st hst
  simp only at hinp
  cases i with
  | dgram src bytes =>
    simp only [C14.queryKey, Prod.mk.injEq] at hk
    exact ⟨src, bytes, n, b', q, hmem, hinp, hk.1, hk.2.1, hk.2.2.1, hk.2.2.2⟩
  | tun f => cases hinp
  | bind d => cases hinp
  | tick => cases hinp

/-! ### Non-vacuity -/

def exCfgS : Config :=
  { checkIp := true, password := List.replicate 32 0, myIp := 0x0a000001, netmask := 27,
    topdomain := [116, 46, 99, 111], mtu := 1130, nsIp := 0, bindPort := 0, dest4 := 0x0a090909, dest6 := 0,
    createdUsers := 0 }

def exSrc : Addr := ⟨4, 0x0a630001, 53⟩

/-- a version request "vaaaaaaaa.t.co" type NULL id 0x1234 (no valid version number: answered with VNAK) -/
def exDgramV : List Nat :=
  [0x12, 0x34, 1, 0, 0, 1, 0, 0, 0, 0, 0, 0, 9, 118, 97, 97, 97, 97, 97, 97, 97, 97, 1, 116, 2, 99, 111, 0, 0, 10, 0, 1]

/-- an NS query for "x.t.co", id 7 -/
def exDgramNs : List Nat := [0, 7, 1, 0, 0, 1, 0, 0, 0, 0, 0, 0, 1, 120, 1, 116, 2, 99, 111, 0, 0, 2, 0, 1]

/-- the version request produces exactly one `tx` to the asker, which the strict parser accepts with id 0x1234 -/
def exTxOk : Bool :=
  match (biteration (bstart exCfgS []) (.dgram exSrc exDgramV) 1000).2.1 with
  | [.tx dst bytes] => decide (dst = exSrc) && ((parseMsg bytes).map (·.id) == some 0x1234)
  | _ => false

/-- the NS query produces exactly one `nsa` to the asker -/
def exNsaOk : Bool :=
  match (biteration (bstart exCfgS []) (.dgram exSrc exDgramNs) 1000).2.1 with
  | [.nsa dst bytes] => decide (dst = exSrc) && ((parseMsg bytes).map (·.id) == some 7)
  | _ => false

example : LegalDgram (.dgram exSrc exDgramV) ∧ LegalDgram (.dgram exSrc exDgramNs) ∧ exTxOk = true ∧ exNsaOk = true := by
  decide +kernel

/-- the theorem applied to the example (hypotheses are satisfiable and a `tx` really occurs) -/
example (dst : Addr) (bytes : List Nat)
    (h : BEvent.tx dst bytes ∈ (biteration (bstart exCfgS []) (.dgram exSrc exDgramV) 1000).2.1) :=
  session_datagrams_wellformed_partial exCfgS _ (.init []) (.dgram exSrc exDgramV) 1000 (by decide +kernel) dst bytes h

/-- non-vacuity of `session_answer_echoes_received_query`: the version request is answered by a `write_dns` to its sender, id and type -/
example : (out (brun (bstart exCfgS []) []).srv ⟨toInput (brun (bstart exCfgS []) []).srv (.dgram exSrc exDgramV), 1000⟩).any
    (fun e => match e with
      | .ans dst id ty _ _ _ _ => decide (dst = exSrc) && id == 0x1234 && ty == 10
      | _ => false) = true := by decide +kernel

/-- **Why the quantifier of C10 (`LegalDgram`) is needed**: without it the statement is false for the model and for the C code.
A query whose first label is the two bytes "z." is read by `dns_decode` as the name "z..t.co" (not a legal name: empty label);
the 'Z' handler answers it; `putname` drops the empty piece when it re-encodes the question, so the datagram sent is
well-formed but carries the question "z.t.co" — not the question name the server decoded. -/
def exDgramBad : List Nat := [0, 7, 1, 0, 0, 1, 0, 0, 0, 0, 0, 0, 2, 122, 46, 1, 116, 2, 99, 111, 0, 0, 10, 0, 1]

def exBadEcho : Bool :=
  match (biteration (bstart exCfgS []) (.dgram exSrc exDgramBad) 1000).2.1 with
  | [.tx _ bytes] => (parseMsg bytes).map (·.qd) == some [([[122], [116], [99, 111]], 10, 1)]
  | _ => false

example : ¬ LegalDgram (.dgram exSrc exDgramBad) ∧
    (dnsDecodeQuery { pkt := exDgramBad.toArray, res := #[], cap := 65536 }).map (·.name) = .ok [122, 46, 46, 116, 46, 99, 111] ∧
    labels [122, 46, 46, 116, 46, 99, 111] = [[122], [], [116], [99, 111]] ∧ exBadEcho = true := by
  decide +kernel

/-- non-vacuity of the full-strength theorems: the example configuration passes `main()`'s checks, the example datagrams are bytes -/
example : ConfigOk exCfgS ∧ ByteDgram (.dgram exSrc exDgramV) ∧ ByteDgram (.dgram exSrc exDgramNs) := by decide +kernel

example (dst : Addr) (bytes : List Nat)
    (h : BEvent.tx dst bytes ∈ (biteration (bstart exCfgS []) (.dgram exSrc exDgramV) 1000).2.1) :=
  session_datagrams_wellformed exCfgS (by decide +kernel) _ (.init []) (.dgram exSrc exDgramV) 1000 (by decide +kernel)
    (by decide +kernel) dst bytes h

example (dst : Addr) (bytes : List Nat)
    (h : BEvent.nsa dst bytes ∈ (biteration (bstart exCfgS []) (.dgram exSrc exDgramNs) 1000).2.1) :=
  session_nsa_wellformed exCfgS (by decide +kernel) _ (.init []) (.dgram exSrc exDgramNs) 1000 (by decide +kernel) dst bytes h

/-- **Names longer than a legal name are refused.**  A query whose question name has four labels of 63, 63, 63 and 57 bytes plus
"t.co" — no '.' or NUL in any label, every label ≤ 63, but 256 bytes on the wire, one more than RFC 1035 allows — fits `dns_decode`'s
`name[256]` (254 characters); answered (here by the 'Z' echo) it would give a datagram carrying a 256-byte question name, which no
strict parser accepts.  `dns_decode` returns -1 for names of more than 253 characters (the repository's commit
`fix: refuse query names longer than a legal name`): the datagram is dropped and nothing is sent. -/
def exDgramLong : List Nat :=
  [0x12, 0x34, 1, 0, 0, 1, 0, 0, 0, 0, 0, 0] ++ (63 :: 122 :: List.replicate 62 97) ++ (63 :: List.replicate 63 97) ++
    (63 :: List.replicate 63 97) ++ (57 :: List.replicate 57 97) ++ [1, 116, 2, 99, 111, 0] ++ [0, 10, 0, 1]

theorem exDgramLong_decoded :
    dnsDecodeQuery { pkt := exDgramLong.toArray, res := #[], cap := 65536 } = .ok { rv := -1 } := by
  decide +kernel

example : ByteDgram (.dgram exSrc exDgramLong) ∧
    ((dnsDecodeQuery { pkt := exDgramLong.toArray, res := #[], cap := 65536 }).map fun d => d.rv) = .ok (-1) ∧
    (biteration (bstart exCfgS []) (.dgram exSrc exDgramLong) 1000).2.1 = [] := by
  refine ⟨by decide +kernel, by rw [exDgramLong_decoded]; rfl, ?_⟩
  -- `read_dns` drops the datagram: the iteration is that of a time-out
  have hcut : exDgramLong.take 65536 = exDgramLong := List.take_of_length_le (by decide +kernel)
  have hdrop : decodeInput (bstart exCfgS []).srv exSrc exDgramLong = .tick := by
    rw [BytesL.decodeInput_of_decoded (d := { rv := -1 }) (by rw [hcut]; decide +kernel) (by rw [hcut]; decide +kernel)
      (by rw [hcut]; exact exDgramLong_decoded)]
    rfl
  simp only [biteration, toInput, hdrop]
  decide +kernel

end Iodine.C10
