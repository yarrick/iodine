import IodineModel.Server.Run
import IodineModel.Lemmas.SrvC04a
import IodineModel.Lemmas.SrvC04b
import IodineModel.Lemmas.SrvC04c
import IodineModel.Lemmas.SrvC04e
import IodineModel.Lemmas.SrvC04f
import IodineModel.Props.C18
/-
C04 — Sessions are isolated: source check, routing by tunnel address, slot ownership.

With source-address checking enabled (the default), a DNS-mode request naming a session's userid but arriving from a
different address than the one bound to it is refused and changes nothing for that session (only a raw-mode login
proving knowledge of the password may rebind it).  A packet arriving on the server's tun device for tunnel address A is
sent only to the live, logged-in session that was assigned A (otherwise dropped), and a new version/login request
never takes over a slot whose session was active during the last 60 seconds, while a session silent for more than
60 seconds is refused and its slot becomes reusable.

The theorems are about the HANDLER PHASE `dispatch s inp tunsel` of one loop iteration of the model (Server/Loop.lean)
or about a handler it calls (`sweep_serves_held_queries`: about the sweep after it), for EVERY state `s` unless
`Reachable` is mentioned.

The specification vocabulary is written from the protocol document (doc/proto_00000502.txt): which session a request
names, what a refusal looks like, who owns a tunnel address; the bridging lemmas relate it to the model's (namespace
C04L).  Each property statement is followed by a non-vacuity example on the concrete scenario `Ex`.
-/
namespace Iodine.C04
open Iodine Iodine.Server Iodine.Gen

/-- ASCII lower-casing of a command character -/
def lower (c : Nat) : Nat := if 65 ≤ c ∧ c ≤ 90 then c + 32 else c

/-- the data part of the query name: the first `dlen` characters (those in front of the topdomain; the server looks at
no more than 512 of them) -/
def payload (q : Query) (dlen : Nat) : List Nat := q.name.take (min dlen 512)

/-- the Base32 decoding of everything behind the command character (dots are skipped) -/
def decoded (q : Query) (dlen : Nat) : List Nat := Encoding.unpackData Codec.b32 65536 ((payload q dlen).drop 1)

/-- a byte read as a C `signed char` -/
def schar (b : Nat) : Int := if b % 256 < 128 then ((b % 256 : Nat) : Int) else ((b % 256 : Nat) : Int) - 256

/-- value of a Base32 digit (0 for a character outside the alphabet) -/
def digit32 (c : Nat) : Nat := Codec.b32.rev (c % 256)

/-- value of a lower-case hexadecimal digit -/
def hexVal (c : Nat) : Option Nat :=
  if 48 ≤ c ∧ c ≤ 57 then some (c - 48) else if 97 ≤ c ∧ c ≤ 102 then some (c - 87) else none

/-- the A-record query for `ns.<topdomain>` (answered with the server's address, not a tunnel request) -/
def IsNsQuery (q : Query) (dlen : Nat) : Prop :=
  dlen = 3 ∧ q.type = T_A ∧ lower (q.name.getD 0 0) = 110 ∧ lower (q.name.getD 1 0) = 115 ∧ q.name.getD 2 0 = 46

/-- the A-record query for `www.<topdomain>` -/
def IsWwwQuery (q : Query) (dlen : Nat) : Prop :=
  dlen = 4 ∧ q.type = T_A ∧ lower (q.name.getD 0 0) = 119 ∧ lower (q.name.getD 1 0) = 119 ∧
    lower (q.name.getD 2 0) = 119 ∧ q.name.getD 3 0 = 46

/-- a DNS-mode tunnel request: a query inside the tunnel domain with `dlen ≥ 2` data characters, of one of the query
types the tunnel uses, that is not one of the two plain A-record queries the server answers itself -/
def IsTunnelRequest (q : Query) (dlen : Nat) : Prop :=
  2 ≤ dlen ∧ q.type ∈ [T_NULL, T_PRIVATE, T_CNAME, T_A, T_MX, T_SRV, T_TXT] ∧ ¬ IsNsQuery q dlen ∧ ¬ IsWwwQuery q dlen

instance (q : Query) (dlen : Nat) : Decidable (IsTunnelRequest q dlen) := by
  unfold IsTunnelRequest IsNsQuery IsWwwQuery; exact inferInstance

/-- THE USERID A DNS-MODE REQUEST NAMES, per command character (protocol document):
`l n p` (login, set fragment size, ping): the first decoded Base32 byte, a signed char;
`i s o` (ip, switch codec, options): the value of the Base32 digit in second position;
`r` (fragsize probe): bits 1..4 of that digit;
a hexadecimal digit (upstream data): its value;
`v y z` and everything else name no session. -/
def names (q : Query) (dlen : Nat) : Option Int :=
  if ¬ IsTunnelRequest q dlen then none
  else
    let p := payload q dlen
    let c := lower (p.getD 0 0)
    if c = 108 ∨ c = 110 ∨ c = 112 then some (schar ((decoded q dlen).getD 0 0))
    else if c = 105 ∨ c = 115 ∨ c = 111 then some ((digit32 (p.getD 1 0) : Nat) : Int)
    else if c = 114 then some (((digit32 (p.getD 1 0) >>> 1) &&& 15 : Nat) : Int)
    else match hexVal c with
      | some v => some ((v : Nat) : Int)
      | none => none

/-- the error answer `BADIP` to query `q` (always Base32-coded, downstream codec 'T') -/
def badip (q : Query) : Event := Event.ans q.from_ q.id q.type 84 q.name [66, 65, 68, 73, 80] .ctrl
/-- the error answer `BADLEN` -/
def badlen (q : Query) : Event := Event.ans q.from_ q.id q.type 84 q.name [66, 65, 68, 76, 69, 78] .ctrl

/-- WHAT A REFUSED REQUEST IS ANSWERED WITH: `BADIP`, except that a request too short to carry its fixed fields is
answered `BADLEN` (login: 17 decoded bytes, set-fragsize: 3; switch/options: 3 characters, probe: 16) and that a ping
or data request that is too short or has DNS id 0 is dropped without an answer. -/
def refusal (q : Query) (dlen : Nat) : List Event :=
  let c := lower ((payload q dlen).getD 0 0)
  let n := (decoded q dlen).length
  if c = 108 then (if n < 17 then [badlen q] else [badip q])
  else if c = 110 then (if n < 3 then [badlen q] else [badip q])
  else if c = 112 then (if q.id = 0 ∨ n < 4 then [] else [badip q])
  else if c = 115 ∨ c = 111 then (if dlen < 3 then [badlen q] else [badip q])
  else if c = 114 then (if dlen < 16 then [badlen q] else [badip q])
  else if c = 105 then [badip q]
  else (if dlen < 6 ∨ q.id = 0 then [] else [badip q])

/-- the address slot `u` is bound to -/
def bound (s : Srv) (u : Nat) : Addr := (getUser s u).host

/-- a slot may be handed to a new client: never used or silent for more than 60 s, and not disabled -/
def Reusable (x : Session) (now : Nat) : Prop := (x.active = false ∨ x.lastPkt + 60 < now) ∧ x.disabled = false

instance (x : Session) (now : Nat) : Decidable (Reusable x now) := by unfold Reusable; exact inferInstance

/-- the answer `VACK` + 4-byte seed + userid byte `b` -/
def IsVack (e : Event) (b : Nat) : Prop :=
  ∃ dst id ty dn nm seed, seed.length = 4 ∧ e = Event.ans dst id ty dn nm ([86, 65, 67, 75] ++ seed ++ [b]) .ctrl

/-- slot `x` is a live, logged-in session that was assigned tunnel address `A` -/
def Owns (x : Session) (now A : Nat) : Prop :=
  x.active = true ∧ x.authenticated = true ∧ x.disabled = false ∧ now < x.lastPkt + 60 ∧ x.tunIp = A

instance (x : Session) (now A : Nat) : Decidable (Owns x now A) := by unfold Owns; exact inferInstance

/-- `t` is the first slot owning `A` -/
def FirstOwner (s : Srv) (t A : Nat) : Prop :=
  t < s.users.length ∧ Owns (getUser s t) s.now A ∧ ∀ j, j < t → ¬ Owns (getUser s j) s.now A

instance (s : Srv) (t A : Nat) : Decidable (FirstOwner s t A) := by unfold FirstOwner; exact inferInstance

/-- an output event that goes to session `t` only: a data answer tagged with `t` to the address of one of the queries
`t` has waiting (or of its remembered duplicate), or a raw-mode frame to `t`'s address -/
def ToSession (x : Session) (t : Nat) : Event → Prop
  | .ans dst _ _ _ _ _ (.chunk t') => t' = t ∧ (dst = x.q.from_ ∨ dst = x.qs.from_)
  | .ans dst _ _ _ _ _ (.dupe t') => t' = t ∧ (dst = x.q.from2 ∨ dst = x.qs.from2)
  | .raw dst _ => dst = x.q.from_
  | _ => False

/-- the upstream packet session `u` has reassembled decompresses to the frame `out` (tun header + IP packet) -/
def UpstreamPacket (s : Srv) (u : Nat) (out : List Nat) : Prop :=
  uncompress ((getUser s u).inpacket.data.take (getUser s u).inpacket.len) 65536 = some out ∧ 24 ≤ out.length

instance (s : Srv) (u : Nat) (out : List Nat) : Decidable (UpstreamPacket s u out) := by
  unfold UpstreamPacket; exact inferInstance

/-- request `q` is accepted for slot `v`: the slot is in the table, allocated, enabled, heard from during the last 60 s,
and (with source checking) the request comes from the address the slot is bound to -/
def Accepted (s : Srv) (q : Query) (v : Nat) : Prop :=
  v < s.cfg.createdUsers ∧ (getUser s v).active = true ∧ (getUser s v).disabled = false ∧
  ¬ (getUser s v).lastPkt + 60 < s.now ∧
  (s.cfg.checkIp = true → q.from_.fam = (bound s v).fam ∧ q.from_.ip = (bound s v).ip)

instance (s : Srv) (q : Query) (v : Nat) : Decidable (Accepted s q v) := by unfold Accepted; exact inferInstance

/-- `bytes` is a raw-mode LOGIN frame for userid `v` carrying the 16-byte hash `h`: the magic 10 d1 9e, a byte with
command nibble 1 and user nibble `v`, then the hash -/
def IsRawLoginFrame (bytes : List Nat) (v : Nat) (h : List Nat) : Prop :=
  bytes.take 3 = [16, 209, 158] ∧ bytes.getD 3 0 &&& 240 = 16 ∧ bytes.getD 3 0 &&& 15 = v ∧ 20 ≤ bytes.length ∧
  (bytes.drop 4).take 16 = h

instance (bytes : List Nat) (v : Nat) (h : List Nat) : Decidable (IsRawLoginFrame bytes v h) := by
  unfold IsRawLoginFrame; exact inferInstance

/-! ### A concrete scenario for the non-vacuity examples

Server 10.0.0.1/29 (five slots, 10.0.0.2 .. 10.0.0.6) with topdomain `t.io`, source checking on, all-zero password, `rand()` returning 42, 43.
Alice (192.168.1.1) does the version handshake (slot 0, seed 42, tunnel address 10.0.0.2) and logs in; later she switches
to lazy mode and has a ping waiting; Bob (192.168.1.2) gets slot 1 (seed 43, 10.0.0.3).  Mallory is 192.168.1.223. -/
namespace Ex

def cfg : Config :=
  { checkIp := true, password := List.replicate 32 0, myIp := 167772161, netmask := 29, topdomain := [116, 46, 105, 111],
    mtu := 1130, nsIp := 0, bindPort := 0, dest4 := 0, dest6 := 0, createdUsers := 0 }
def alice : Addr := ⟨4, 3232235777, 40000⟩
def bob : Addr := ⟨4, 3232235778, 40001⟩
def mallory : Addr := ⟨4, 3232235999, 40000⟩
/-- a NULL-type query `<data>.t.io` with DNS id `id` from address `a` -/
def mkq (data : List Nat) (id : Nat) (a : Addr) : Query :=
  ⟨data ++ [46, 116, 46, 105, 111], 10, id, a, 0, Addr.zero, Addr.zero⟩
/-- `V`: protocol version 0x00000502 -/
def vq (a : Addr) : Query := mkq ([118] ++ Codec.encFull Codec.b32 [0, 0, 5, 2, 0]) 7 a
/-- `L`: userid, the 16-byte login hash for `seed`, one more byte -/
def lqGen (uid seed : Nat) (a : Addr) : Query :=
  mkq ([108] ++ Codec.encFull Codec.b32 ([uid] ++ Login.loginCalcC cfg.password seed ++ [0])) 9 a
/-- the two logins used below, written out (so that the examples do not recompute MD5 to build the query) -/
def lq (uid seed : Nat) (a : Addr) : Query :=
  if uid = 0 ∧ seed = 42 then
    mkq [108, 97, 99, 52, 110, 110, 48, 121, 119, 103, 109, 113, 110, 105, 109, 101, 48, 50, 110, 50, 112, 103, 107, 109,
      101, 102, 100, 103, 113, 97] 9 a
  else if uid = 1 ∧ seed = 43 then
    mkq [108, 97, 101, 122, 103, 51, 114, 122, 104, 122, 109, 50, 49, 119, 113, 53, 113, 116, 113, 50, 97, 111, 105, 117,
      53, 118, 102, 48, 113, 97] 9 a
  else lqGen uid seed a
/-- `P`: userid and three more bytes -/
def pq (uid id : Nat) (a : Addr) : Query := mkq ([112] ++ Codec.encFull Codec.b32 [uid, 0, 0, 0]) id a
/-- `O`: options, userid 0 (`a`), lazy mode (`l`) -/
def oq (a : Addr) : Query := mkq [111, 97, 108] 11 a
/-- state after the handler phase for query `q` -/
def st (s : Srv) (q : Query) : Srv := (dispatch s (.q q) false).1
def s0 : Srv := start cfg [42, 43]
/-- Alice allocated slot 0 -/
def s1 : Srv := st s0 (vq alice)
/-- ... and logged in -/
def s2 : Srv := st s1 (lq 0 42 alice)
/-- ... switched to lazy mode and has ping 21 waiting -/
def s4 : Srv := st (st s2 (oq alice)) (pq 0 21 alice)
/-- ... and Bob has slot 1 and is logged in -/
def s5 : Srv := st (st s4 (vq bob)) (lq 1 43 bob)
/-- a 24-byte tun frame (4-byte header + IPv4 header) from 10.0.0.9 to 10.0.0.`d` -/
def frame (d : Nat) : List Nat := [0, 0, 8, 0, 0x45, 0, 0, 20, 0, 0, 0, 0, 64, 17, 0, 0, 10, 0, 0, 9, 10, 0, 0, d]
/-- slot `u` has reassembled the (compressed) packet `frame d` -/
def withUpstream (s : Srv) (u d : Nat) : Srv :=
  setUser s u (fun x => { x with inpacket := { x.inpacket with data := 0x5a :: frame d, len := 25 } })

/-! What the server does in the scenario, computed once per group of examples (within a group the states and the login
hashes are shared).  Each conjunct is the statement of one example further down, in their order there. -/

/-- requests that are refused (states `s1`, `s2`) -/
theorem refused :
    (s2.cfg.checkIp = true ∧ (getUser s2 0).active = true ∧ (getUser s2 0).authenticated = true ∧
     bound s2 0 = alice ∧
     Common.queryDatalen (pq 0 8 mallory).name s2.cfg.topdomain = some 9 ∧
     names (pq 0 8 mallory) 9 = some 0 ∧
     (mallory.fam, mallory.ip) ≠ ((bound s2 0).fam, (bound s2 0).ip) ∧
     refusal (pq 0 8 mallory) 9 = [badip (pq 0 8 mallory)] ∧
     dispatch s2 (.q (pq 0 8 mallory)) false = (s2, [badip (pq 0 8 mallory)]) ∧
     names (lq 0 42 mallory) 31 = some 0 ∧
     dispatch s2 (.q (lq 0 42 mallory)) false = (s2, [badip (lq 0 42 mallory)]) ∧
     dispatch s2 (.q (pq 0 8 alice)) false ≠ (s2, [badip (pq 0 8 alice)])) ∧
    ((getUser s2 0).lastPkt = 1000 ∧ names (pq 0 22 alice) 9 = some 0 ∧
     dispatch { s2 with now := 1061 } (.q (pq 0 22 alice)) false =
       ({ s2 with now := 1061 }, [badip (pq 0 22 alice)]) ∧
     (dispatch { s2 with now := 1060 } (.q (pq 0 22 alice)) false).2 ≠ [badip (pq 0 22 alice)]) ∧
    (names (pq 5 8 alice) 9 = some 5 ∧ (getUser s2 5).active = false ∧
     dispatch s2 (.q (pq 5 8 alice)) false = (s2, [badip (pq 5 8 alice)]) ∧
     names (pq 255 8 alice) 9 = some (-1) ∧
     dispatch s2 (.q (pq 255 8 alice)) false = (s2, [badip (pq 255 8 alice)])) ∧
    ((getUser s1 0).active = true ∧ (getUser s1 0).authenticated = false ∧
     names (pq 0 8 alice) 9 = some 0 ∧ lower ((payload (pq 0 8 alice) 9).getD 0 0) ≠ 108 ∧
     dispatch s1 (.q (pq 0 8 alice)) false = (s1, [badip (pq 0 8 alice)])) := by
  decide +kernel

/-- which slot a version request gets (state `s2`) -/
theorem slots :
    ((findAvailableUser s2).1 = some 1 ∧ ¬ Reusable (getUser s2 0) 1000 ∧ Reusable (getUser s2 1) 1000 ∧
     (findAvailableUser { s2 with now := 1060 }).1 = some 1 ∧
     (findAvailableUser { s2 with now := 1061 }).1 = some 0 ∧ Reusable (getUser s2 0) 1061 ∧
     (getUser (findAvailableUser { s2 with now := 1061 }).2 0).authenticated = false ∧
     (getUser (findAvailableUser { s2 with now := 1061 }).2 0).lastPkt = 1061) ∧
    ((findAvailableUser (st (start { cfg with netmask := 30 } [42]) (vq alice))).1 = none) ∧
    ((handleVersion s2 (vq mallory) (payload (vq mallory) 10)).2 =
       [Event.ans mallory 7 10 84 (vq mallory).name ([86, 65, 67, 75] ++ [0, 0, 0, 43] ++ [1]) .ctrl] ∧
     dispatch s2 (.q (vq mallory)) false =
       handleVersion s2 (vq mallory) (payload (vq mallory) 10) ∧
     getUser (dispatch s2 (.q (vq mallory)) false).1 0 = getUser s2 0 ∧
     bound (dispatch s2 (.q (vq mallory)) false).1 1 = mallory ∧
     bound (dispatch { s2 with now := 1061 } (.q (vq mallory)) false).1 0 = mallory) ∧
    (Common.queryDatalen (vq mallory).name s2.cfg.topdomain = some 10 ∧ IsTunnelRequest (vq mallory) 10 ∧
     lower ((payload (vq mallory) 10).getD 0 0) = 118) := by
  decide +kernel

/-- tun frames, the sweep and forwarded packets (states `s5`, `s2`) -/
theorem routing :
    (ipDst (frame 2) = 167772162 ∧ FirstOwner s5 0 (ipDst (frame 2)) ∧
     (tunnelTun s5 (frame 2)).2 =
       [Event.ans alice 21 10 84 (pq 0 21 alice).name ([128, 33] ++ 0x5a :: frame 2) (.chunk 0)] ∧
     getUser (tunnelTun s5 (frame 2)).1 1 = getUser s5 1 ∧
     FirstOwner s5 1 (ipDst (frame 3)) ∧ (tunnelTun s5 (frame 3)).2 = [] ∧
     (getUser (tunnelTun s5 (frame 3)).1 1).outpacket.len = 25 ∧
     getUser (tunnelTun s5 (frame 3)).1 0 = getUser s5 0 ∧
     tunnelTun s5 (frame 9) = (s5, [])) ∧
    ((getUser s5 0).lastPkt + 60 = 1060 ∧
     (dispatch { s5 with now := 1060 } (.q (pq 0 22 alice)) false).2 ≠ [badip (pq 0 22 alice)] ∧
     ¬ Owns (getUser { s5 with now := 1060 } 0) 1060 (ipDst (frame 2)) ∧
     tunnelTun { s5 with now := 1060 } (frame 2) = ({ s5 with now := 1060 }, [])) ∧
    ((sweep (setUser s2 0 fun x => { x with qs := pq 0 30 alice })).2 =
       [Event.ans alice 30 10 84 (pq 0 30 alice).name [128, 0] (.chunk 0)]) ∧
    (UpstreamPacket (withUpstream s5 0 3) 0 (frame 3) ∧
     FirstOwner (withUpstream s5 0 3) 1 (ipDst (frame 3)) ∧
     (handleFullPacket (withUpstream s5 0 3) 0).2 = [] ∧
     (getUser (handleFullPacket (withUpstream s5 0 3) 0).1 1).outpacket.len = 25 ∧
     (getUser (handleFullPacket (withUpstream s5 0 3) 0).1 0).inpacket.len = 0 ∧
     UpstreamPacket (withUpstream s5 0 9) 0 (frame 9) ∧
     (handleFullPacket (withUpstream s5 0 9) 0).2 = [Event.tunw (frame 9)]) ∧
    (FirstOwner (withUpstream s5 1 2) 0 (ipDst (frame 2)) ∧
     (handleFullPacket (withUpstream s5 1 2) 1).2 =
       [Event.ans alice 21 10 84 (pq 0 21 alice).name ([128, 33] ++ 0x5a :: frame 2) (.chunk 0)]) := by
  decide +kernel

/-- what a request changes in other slots (states `s5`, `s2`) -/
theorem framed :
    (names (pq 0 22 alice) 9 = some 0 ∧ Accepted s5 (pq 0 22 alice) 0 ∧
     getUser (dispatch s5 (.q (pq 0 22 alice)) false).1 0 ≠ getUser s5 0 ∧
     getUser (dispatch s5 (.q (pq 0 22 alice)) false).1 1 = getUser s5 1 ∧
     (findAvailableUser s5).1 = some 2 ∧
     getUser (dispatch s5 (.q (vq mallory)) false).1 2 ≠ getUser s5 2 ∧
     getUser (dispatch s5 (.q (vq mallory)) false).1 0 = getUser s5 0 ∧
     getUser (dispatch s5 (.q (vq mallory)) false).1 1 = getUser s5 1) ∧
    ((getUser s2 0).active = true ∧ (getUser s2 0).lastPkt + 60 = 1060 ∧
     bound (dispatch { s2 with now := 1060 } (.q (vq mallory)) false).1 0 = alice ∧
     bound (dispatch { s2 with now := 1060 } (.q (vq mallory)) false).1 1 = mallory) := by
  decide +kernel

/-- the login hashes and the raw-mode login (states `s5`, `s2`) -/
theorem raw :
    (lq 0 42 alice = lqGen 0 42 alice ∧ lq 1 43 bob = lqGen 1 43 bob) ∧
    (bound s5 0 = alice ∧
     bound (handleRawLogin s5 (Login.loginCalcC cfg.password 43) (rawQuery mallory) 0).1 0 = mallory ∧
     handleRawLogin s5 (Login.loginCalcC cfg.password 42) (rawQuery mallory) 0 = (s5, [])) ∧
    (bound (dispatch { s2 with now := 1061 } (.q (vq mallory)) false).1 0 ≠ bound { s2 with now := 1061 } 0 ∧
     IsRawLoginFrame ([16, 209, 158, 16] ++ Login.loginCalcC cfg.password 43) 0
       (Login.loginCalcC s2.cfg.password ((getUser s2 0).seed + 1)) ∧
     bound (dispatch s2 (.rawf mallory ([16, 209, 158, 16] ++ Login.loginCalcC cfg.password 43)) false).1 0
       = mallory) := by
  decide +kernel

example : lq 0 42 alice = lqGen 0 42 alice ∧ lq 1 43 bob = lqGen 1 43 bob := raw.1

end Ex

section Bridge
open Iodine.C04L

theorem lower_eq (c k : Nat) (hk : 97 ≤ k ∧ k ≤ 122) : lower c = k ↔ (c = k - 32 ∨ c = k) := by
  unfold lower; split <;> omega

theorem schar_eq (b : Nat) : schar b = charVal b := by
  unfold schar charVal sChar; split <;> omega

private theorem hexVal_none (c : Nat) (h : ¬ isHexDigit c = true) : hexVal (lower c) = none := by
  have hx : ¬ ((48 ≤ c ∧ c ≤ 57) ∨ (97 ≤ c ∧ c ≤ 102) ∨ (65 ≤ c ∧ c ≤ 70)) := by
    simpa only [isHexDigit, Bool.or_eq_true, Bool.and_eq_true, decide_eq_true_eq, or_assoc] using h
  unfold hexVal lower
  by_cases hu : 65 ≤ c ∧ c ≤ 90
  · rw [if_pos hu, if_neg (by omega), if_neg (by omega)]
  · rw [if_neg hu, if_neg (by omega), if_neg (by omega)]

private theorem badip_eq (q : Query) : C04L.badip q = badip q := by
  unfold C04L.badip badip writeDns; rfl
private theorem badlen_eq (q : Query) : C04L.badlen q = badlen q := by
  unfold C04L.badlen badlen writeDns; rfl

theorem isTunnelRequest_model {q : Query} {dlen : Nat} (hreq : IsTunnelRequest q dlen) :
    2 ≤ dlen ∧ ¬ isNsA q dlen ∧ ¬ isWwwA q dlen ∧ C16L.TunnelType q.type := by
  obtain ⟨h2, hty, hns, hwww⟩ := hreq
  refine ⟨h2, fun h => hns ?_, fun h => hwww ?_, ?_⟩
  · obtain ⟨a, b, c, d, e⟩ := h
    exact ⟨a, b, (lower_eq _ 110 (by decide)).2 c.symm, (lower_eq _ 115 (by decide)).2 d.symm, e⟩
  · obtain ⟨a, b, c, d, e, f⟩ := h
    exact ⟨a, b, (lower_eq _ 119 (by decide)).2 c.symm, (lower_eq _ 119 (by decide)).2 d.symm,
      (lower_eq _ 119 (by decide)).2 e.symm, f⟩
  · unfold C16L.TunnelType
    simp only [List.mem_cons, List.not_mem_nil, or_false] at hty
    exact hty

private theorem tunnelDns_of_request (s : Srv) (q : Query) (dlen : Nat)
    (hd : Common.queryDatalen q.name s.cfg.topdomain = some dlen) (hreq : IsTunnelRequest q dlen) :
    tunnelDns s q = handleNullRequest s q dlen :=
  have ⟨_, hns, hwww, hty⟩ := isTunnelRequest_model hreq
  tunnelDns_null s q dlen hd hns hwww hty

theorem hexVal_of_isHex (c : Nat) (h : isHexDigit c = true) :
    ∃ v, hexVal (lower c) = some v ∧ hexCode c = (v : Int) := by
  unfold isHexDigit at h
  simp only [Bool.or_eq_true, Bool.and_eq_true, decide_eq_true_eq] at h
  rcases h with (h | h) | h
  · have hl : lower c = c := by unfold lower; rw [if_neg (by omega)]
    refine ⟨c - 48, ?_, ?_⟩
    · rw [hl]; unfold hexVal; rw [if_pos (by omega)]
    · unfold hexCode; dsimp only; rw [if_neg (by omega), if_neg (by omega), if_pos (by omega)]; omega
  · have hl : lower c = c := by unfold lower; rw [if_neg (by omega)]
    refine ⟨c - 87, ?_, ?_⟩
    · rw [hl]; unfold hexVal; rw [if_neg (by omega), if_pos (by omega)]
    · unfold hexCode; dsimp only; rw [if_neg (by omega), if_pos (by omega)]; omega
  · have hl : lower c = c + 32 := by unfold lower; rw [if_pos (by omega)]
    refine ⟨c + 32 - 87, ?_, ?_⟩
    · rw [hl]; unfold hexVal; rw [if_neg (by omega), if_pos (by omega)]
    · unfold hexCode; dsimp only; rw [if_pos (by omega)]; omega

/-- For a tunnel request, by the command its first character selects: the userid the handler extracts is the one the
request names, and the handler refuses in the way `refusal` says; the other characters name nobody.  (Once the lower-case
form of the character is known, both sides compute.) -/
theorem names_cmdOf (q : Query) (dlen : Nat) (hreq : IsTunnelRequest q dlen) :
    match cmdOf ((inbOf q dlen).getD 0 0) with
    | some cmd => names q dlen = some (uidOf q dlen cmd) ∧ refusalOf q dlen cmd = refusal q dlen ∧
        (cmd = .data → (hexVal (lower ((payload q dlen).getD 0 0))).isSome = true)
    | none => names q dlen = none := by
  unfold names refusal uidOf
  rw [if_neg (fun h => h hreq)]
  dsimp only
  have hp : payload q dlen = inbOf q dlen := rfl
  have hdec : decoded q dlen = unpOf q dlen := rfl
  rw [hp, hdec]
  simp only [← badip_eq, ← badlen_eq, schar_eq]
  generalize (inbOf q dlen).getD 0 0 = c
  rw [cmdOf_eq]
  -- a character that is none of the seven letters with a userid: its lower-case form is none of them either, so the
  -- tests for them fail
  have other : ¬ (c = 76 ∨ c = 108) → ¬ (c = 78 ∨ c = 110) → ¬ (c = 80 ∨ c = 112) → ¬ (c = 73 ∨ c = 105) →
      ¬ (c = 83 ∨ c = 115) → ¬ (c = 79 ∨ c = 111) → ¬ (c = 82 ∨ c = 114) →
      (¬ (lower c = 108 ∨ lower c = 110 ∨ lower c = 112) ∧ ¬ (lower c = 105 ∨ lower c = 115 ∨ lower c = 111) ∧
        lower c ≠ 114) ∧ lower c ≠ 108 ∧ lower c ≠ 110 ∧ lower c ≠ 112 ∧ ¬ (lower c = 115 ∨ lower c = 111) ∧
        lower c ≠ 105 := by
    intro n1 n2 n3 n4 n5 n6 n7
    have hl : ∀ k, 97 ≤ k ∧ k ≤ 122 → ¬ (c = k - 32 ∨ c = k) → lower c ≠ k := fun k hk hn h => hn ((lower_eq c k hk).1 h)
    have l1 := hl 108 (by decide) n1; have l2 := hl 110 (by decide) n2; have l3 := hl 112 (by decide) n3
    have l4 := hl 105 (by decide) n4; have l5 := hl 115 (by decide) n5; have l6 := hl 111 (by decide) n6
    exact ⟨⟨fun h => h.elim l1 (·.elim l2 l3), fun h => h.elim l4 (·.elim l5 l6), hl 114 (by decide) n7⟩, l1, l2, l3,
      fun h => h.elim l5 l6, l4⟩
  cases hlt : letterOf c with
  | some l =>
    have hc := letterOf_some hlt
    cases l
    case D =>
      obtain ⟨v, hv, hcode⟩ := hexVal_of_isHex c hc
      have no : ∀ l : Letter, l ≠ .D → ¬ l.codes c := fun l hne h =>
        hne (Option.some.inj ((letterOf_of_codes h).symm.trans hlt))
      obtain ⟨⟨a1, a2, a3⟩, l1, l2, l3, l56, l4⟩ :=
        other (no .L nofun) (no .N nofun) (no .P nofun) (no .I nofun) (no .S nofun) (no .O nofun) (no .R nofun)
      rw [if_neg a1, if_neg a2, if_neg a3, if_neg l1, if_neg l2, if_neg l3, if_neg l56, if_neg a3, if_neg l4, hv, hcode]
      exact ⟨rfl, rfl, fun _ => rfl⟩
    all_goals
      rcases (hc : _ ∨ _) with rfl | rfl
      all_goals first | rfl | exact ⟨rfl, rfl, nofun⟩
  | none =>
    have no : ∀ l : Letter, ¬ l.codes c := fun l h => by rw [letterOf_of_codes h] at hlt; cases hlt
    obtain ⟨⟨a1, a2, a3⟩, _⟩ := other (no .L) (no .N) (no .P) (no .I) (no .S) (no .O) (no .R)
    rw [if_neg a1, if_neg a2, if_neg a3, hexVal_none c (no .D)]; rfl

private theorem names_bridge (s : Srv) (q : Query) (dlen : Nat) (u : Int)
    (hd : Common.queryDatalen q.name s.cfg.topdomain = some dlen) (hn : names q dlen = some u) :
    ∃ cmd, tunnelDns s q = runCmd s q dlen cmd ∧ uidOf q dlen cmd = u ∧ refusalOf q dlen cmd = refusal q dlen ∧
      cmdOf ((inbOf q dlen).getD 0 0) = some cmd := by
  have hreq : IsTunnelRequest q dlen := by
    by_cases h : IsTunnelRequest q dlen
    · exact h
    · rw [names, if_pos h] at hn; cases hn
  have key := names_cmdOf q dlen hreq
  cases hc : cmdOf ((inbOf q dlen).getD 0 0) with
  | none => rw [hc] at key; rw [key] at hn; cases hn
  | some cmd =>
    rw [hc] at key
    refine ⟨cmd, ?_, ?_, key.2.1, rfl⟩
    · rw [tunnelDns_of_request s q dlen hd hreq, handleNullRequest_cmd s q dlen cmd hreq.1 hc]
    · rw [key.1] at hn; exact (Option.some.inj hn).symm ▸ rfl

private theorem isTunnelRequest_of (q : Query) (dlen : Nat) (h2 : 2 ≤ dlen) (hns : ¬ isNsA q dlen)
    (hwww : ¬ isWwwA q dlen) (hty : C16L.TunnelType q.type) : IsTunnelRequest q dlen := by
  refine ⟨h2, ?_, ?_, ?_⟩
  · unfold C16L.TunnelType at hty
    simp only [List.mem_cons, List.not_mem_nil, or_false]
    exact hty
  · intro h; apply hns
    obtain ⟨a, b, c, d, e⟩ := h
    exact ⟨a, b, ((lower_eq _ 110 (by decide)).1 c).symm, ((lower_eq _ 115 (by decide)).1 d).symm, e⟩
  · intro h; apply hwww
    obtain ⟨a, b, c, d, e, f⟩ := h
    exact ⟨a, b, ((lower_eq _ 119 (by decide)).1 c).symm, ((lower_eq _ 119 (by decide)).1 d).symm,
      ((lower_eq _ 119 (by decide)).1 e).symm, f⟩

end Bridge

/-- the answer to a refused request is nothing, `BADLEN` or `BADIP` -/
theorem refusal_cases (q : Query) (dlen : Nat) :
    refusal q dlen = [] ∨ refusal q dlen = [badlen q] ∨ refusal q dlen = [badip q] := by
  have key : ∀ P : List Event → Prop, P [] → P [badlen q] → P [badip q] → P (refusal q dlen) := by
    intro P e l i
    rw [refusal]
    exact ite_both (ite_both l i) <| ite_both (ite_both l i) <| ite_both (ite_both e i) <| ite_both (ite_both l i) <|
      ite_both (ite_both l i) <| ite_both i (ite_both e i)
  exact key (fun r => r = [] ∨ r = [badlen q] ∨ r = [badip q]) (.inl rfl) (.inr (.inl rfl)) (.inr (.inr rfl))

private theorem refused_of_rejected (s : Srv) (q : Query) (tunsel : Bool) (dlen : Nat) (u : Int)
    (hd : Common.queryDatalen q.name s.cfg.topdomain = some dlen) (hn : names q dlen = some u)
    (h : ∀ cmd, C04L.cmdOf ((C04L.inbOf q dlen).getD 0 0) = some cmd → C04L.rejected s q u cmd = true) :
    dispatch s (.q q) tunsel = (s, refusal q dlen) := by
  obtain ⟨cmd, hrun, hu, hr, hc⟩ := names_bridge s q dlen u hd hn
  show tunnelDns s q = _
  rw [hrun, ← hr]
  exact C04L.runCmd_refused s q dlen cmd (hu ▸ h cmd hc)

private theorem refused_of_check (s : Srv) (q : Query) (tunsel : Bool) (dlen : Nat) (u : Int)
    (hd : Common.queryDatalen q.name s.cfg.topdomain = some dlen) (hn : names q dlen = some u)
    (h : checkUserAndIp s u q = true) : dispatch s (.q q) tunsel = (s, refusal q dlen) :=
  refused_of_rejected s q tunsel dlen u hd hn fun cmd _ => C04L.rejected_of_check s q u cmd h

/-- **Source check.**  With source-address checking on, a DNS-mode request that names userid `u` and arrives from an
address (family, ip) different from the one slot `u` is bound to produces exactly the refusal answer and leaves the
WHOLE server state unchanged — for slot `u` and for every other slot; in particular a refused login does not refresh
the session's clock.  (No hypothesis on `u` is needed: an out-of-range, unused or expired `u` is refused as well.) -/
theorem foreign_source_refused_and_frame (s : Srv) (q : Query) (tunsel : Bool) (dlen : Nat) (u : Int)
    (hck : s.cfg.checkIp = true)
    (hd : Common.queryDatalen q.name s.cfg.topdomain = some dlen)
    (hn : names q dlen = some u)
    (hforeign : (q.from_.fam, q.from_.ip) ≠ ((bound s u.toNat).fam, (bound s u.toNat).ip)) :
    dispatch s (.q q) tunsel = (s, refusal q dlen) := by
  refine refused_of_check s q tunsel dlen u hd hn (eq_true_of_ne_false fun h => hforeign ?_)
  have hsrc := ((C04L.checkUserAndIp_eq_false_iff s u q).1 h).2.2.2.2.2 hck
  unfold bound
  rw [hsrc.1, hsrc.2.1]

-- Alice owns slot 0 (logged in, bound to 192.168.1.1).  Mallory's ping naming userid 0 is answered BADIP and changes
-- nothing; so is Mallory's LOGIN with the CORRECT hash (the session clock is not refreshed either); the same ping from
-- Alice's address is accepted (different outcome).
example :
    Ex.s2.cfg.checkIp = true ∧ (getUser Ex.s2 0).active = true ∧ (getUser Ex.s2 0).authenticated = true ∧
    bound Ex.s2 0 = Ex.alice ∧
    Common.queryDatalen (Ex.pq 0 8 Ex.mallory).name Ex.s2.cfg.topdomain = some 9 ∧
    names (Ex.pq 0 8 Ex.mallory) 9 = some 0 ∧
    (Ex.mallory.fam, Ex.mallory.ip) ≠ ((bound Ex.s2 0).fam, (bound Ex.s2 0).ip) ∧
    refusal (Ex.pq 0 8 Ex.mallory) 9 = [badip (Ex.pq 0 8 Ex.mallory)] ∧
    dispatch Ex.s2 (.q (Ex.pq 0 8 Ex.mallory)) false = (Ex.s2, [badip (Ex.pq 0 8 Ex.mallory)]) ∧
    names (Ex.lq 0 42 Ex.mallory) 31 = some 0 ∧
    dispatch Ex.s2 (.q (Ex.lq 0 42 Ex.mallory)) false = (Ex.s2, [badip (Ex.lq 0 42 Ex.mallory)]) ∧
    dispatch Ex.s2 (.q (Ex.pq 0 8 Ex.alice)) false ≠ (Ex.s2, [badip (Ex.pq 0 8 Ex.alice)]) := Ex.refused.1

/-- **Expiry.**  A DNS-mode request naming a slot that has been silent for more than 60 s is refused in the same way
and changes nothing, whatever its source address (and whether or not source checking is on). -/
theorem expired_refused (s : Srv) (q : Query) (tunsel : Bool) (dlen : Nat) (u : Int)
    (hd : Common.queryDatalen q.name s.cfg.topdomain = some dlen)
    (hn : names q dlen = some u)
    (hexp : (getUser s u.toNat).lastPkt + 60 < s.now) :
    dispatch s (.q q) tunsel = (s, refusal q dlen) :=
  refused_of_check s q tunsel dlen u hd hn
    (eq_true_of_ne_false fun h => ((C04L.checkUserAndIp_eq_false_iff s u q).1 h).2.2.2.2.1 hexp)

-- Alice's session was last heard at t = 1000.  At t = 1061 her own ping (right address) is refused and nothing changes;
-- at t = 1060 it is still accepted.
example :
    (getUser Ex.s2 0).lastPkt = 1000 ∧ names (Ex.pq 0 22 Ex.alice) 9 = some 0 ∧
    dispatch { Ex.s2 with now := 1061 } (.q (Ex.pq 0 22 Ex.alice)) false =
      ({ Ex.s2 with now := 1061 }, [badip (Ex.pq 0 22 Ex.alice)]) ∧
    (dispatch { Ex.s2 with now := 1060 } (.q (Ex.pq 0 22 Ex.alice)) false).2 ≠ [badip (Ex.pq 0 22 Ex.alice)] := Ex.refused.2.1

/-- the same for a userid outside the table, a slot that was never allocated, or a disabled slot -/
theorem unallocated_refused (s : Srv) (q : Query) (tunsel : Bool) (dlen : Nat) (u : Int)
    (hd : Common.queryDatalen q.name s.cfg.topdomain = some dlen)
    (hn : names q dlen = some u)
    (hbad : u < 0 ∨ u ≥ (s.cfg.createdUsers : Int) ∨ (getUser s u.toNat).active = false ∨
      (getUser s u.toNat).disabled = true) :
    dispatch s (.q q) tunsel = (s, refusal q dlen) := by
  refine refused_of_check s q tunsel dlen u hd hn (eq_true_of_ne_false fun h => ?_)
  obtain ⟨h1, h2, h3, h4, _⟩ := (C04L.checkUserAndIp_eq_false_iff s u q).1 h
  rcases hbad with hb | hb | hb | hb
  · omega
  · omega
  · rw [h3] at hb; cases hb
  · rw [h4] at hb; cases hb

-- a ping naming the never-allocated slot 5, and one naming userid -1 (first decoded byte 0xff)
example :
    names (Ex.pq 5 8 Ex.alice) 9 = some 5 ∧ (getUser Ex.s2 5).active = false ∧
    dispatch Ex.s2 (.q (Ex.pq 5 8 Ex.alice)) false = (Ex.s2, [badip (Ex.pq 5 8 Ex.alice)]) ∧
    names (Ex.pq 255 8 Ex.alice) 9 = some (-1) ∧
    dispatch Ex.s2 (.q (Ex.pq 255 8 Ex.alice)) false = (Ex.s2, [badip (Ex.pq 255 8 Ex.alice)]) := Ex.refused.2.2.1

/-- ... and every command except the login itself is refused for a slot that has not logged in -/
theorem unauthenticated_refused (s : Srv) (q : Query) (tunsel : Bool) (dlen : Nat) (u : Int)
    (hd : Common.queryDatalen q.name s.cfg.topdomain = some dlen)
    (hn : names q dlen = some u)
    (hcmd : lower ((payload q dlen).getD 0 0) ≠ 108)
    (hauth : (getUser s u.toNat).authenticated = false) :
    dispatch s (.q q) tunsel = (s, refusal q dlen) := by
  refine refused_of_rejected s q tunsel dlen u hd hn fun cmd hc => C04L.rejected_of_unauth s q u cmd ?_ hauth
  rintro rfl
  have := C04L.cmdOf_login _ hc
  exact hcmd ((lower_eq ((C04L.inbOf q dlen).getD 0 0) 108 (by omega)).2 (by omega))

-- after the version handshake but before the login, Alice's own ping is refused
example :
    (getUser Ex.s1 0).active = true ∧ (getUser Ex.s1 0).authenticated = false ∧
    names (Ex.pq 0 8 Ex.alice) 9 = some 0 ∧ lower ((payload (Ex.pq 0 8 Ex.alice) 9).getD 0 0) ≠ 108 ∧
    dispatch Ex.s1 (.q (Ex.pq 0 8 Ex.alice)) false = (Ex.s1, [badip (Ex.pq 0 8 Ex.alice)]) := Ex.refused.2.2.2

/-- **Reuse.**  `find_available_user` hands out exactly the FIRST reusable slot ... -/
theorem expired_slot_reusable (s : Srv) (u : Nat) :
    (findAvailableUser s).1 = some u ↔
      u < s.users.length ∧ Reusable (getUser s u) s.now ∧ ∀ j, j < u → ¬ Reusable (getUser s j) s.now :=
  C04L.findAvailableUser_some_iff s u

/-- ... reports "full" exactly when no slot is reusable ... -/
theorem no_slot_iff_none_reusable (s : Srv) :
    (findAvailableUser s).1 = none ↔ ∀ j, j < s.users.length → ¬ Reusable (getUser s j) s.now :=
  C04L.findAvailableUser_none_iff s

/-- ... and the only thing it changes is that the slot handed out is marked active, not logged in, heard from now
(DNS mode, default fragment size); every other slot, and the slot's tunnel address, stay as they were. -/
theorem allocation_effect (s : Srv) :
    (∀ u, (findAvailableUser s).1 = some u →
      (findAvailableUser s).2 = setUser s u (fun x =>
        { x with active := true, authenticated := false, authenticatedRaw := false, optionsLocked := false,
                 lastPkt := s.now, fragsize := 4096, conn := .dnsNull })) ∧
    ((findAvailableUser s).1 = none → (findAvailableUser s).2 = s) :=
  ⟨fun u h => C04L.findAvailableUser_snd s u h, C04L.findAvailableUser_snd_none s⟩

-- Alice (slot 0) was heard at t = 1000.  At t = 1000 and at t = 1060 the next client gets slot 1; at t = 1061 slot 0 is
-- reusable and is handed out again (not logged in any more).
example :
    (findAvailableUser Ex.s2).1 = some 1 ∧ ¬ Reusable (getUser Ex.s2 0) 1000 ∧ Reusable (getUser Ex.s2 1) 1000 ∧
    (findAvailableUser { Ex.s2 with now := 1060 }).1 = some 1 ∧
    (findAvailableUser { Ex.s2 with now := 1061 }).1 = some 0 ∧ Reusable (getUser Ex.s2 0) 1061 ∧
    (getUser (findAvailableUser { Ex.s2 with now := 1061 }).2 0).authenticated = false ∧
    (getUser (findAvailableUser { Ex.s2 with now := 1061 }).2 0).lastPkt = 1061 := Ex.slots.1
-- a one-slot table (/30) whose only slot is live: "full"
example :
    (findAvailableUser (Ex.st (start { Ex.cfg with netmask := 30 } [42]) (Ex.vq Ex.alice))).1 = none := Ex.slots.2.1

/-- **No takeover.**  The slot `find_available_user` (and hence the `V` handler) allocates was not active during the
last 60 seconds. -/
theorem no_takeover_within_60 (s : Srv) (u : Nat) (h : (findAvailableUser s).1 = some u) :
    (getUser s u).active = false ∨ (getUser s u).lastPkt + 60 < s.now :=
  ((expired_slot_reusable s u).1 h).2.1.1

private theorem vack_version {s' : Srv} {k : VersionAck} {p u b : Nat} {q : Query} {e : Event}
    (he : e ∈ [sendVersionResponse s' k p u q]) (hv : IsVack e b) : k = .ack ∧ u % 256 = b := by
  obtain ⟨dst, id, ty, dn, nm, seed, hlen, rfl⟩ := hv
  simp only [List.mem_cons, List.not_mem_nil, or_false] at he
  unfold sendVersionResponse writeDns at he
  simp only [Event.ans.injEq] at he
  have hd := he.2.2.2.2.2.1
  cases k
  · have h1 : (ascii "VACK" : List Nat) = [86, 65, 67, 75] := by decide
    rw [h1] at hd
    simp only [List.cons_append, List.nil_append, List.cons.injEq, true_and] at hd
    have h2 := List.append_inj hd (by rw [hlen]; simp [beBytes])
    simp only [List.cons.injEq, and_true] at h2
    exact ⟨rfl, h2.2.symm⟩
  · have h1 : (ascii "VNAK" : List Nat) = [86, 78, 65, 75] := by decide
    rw [h1] at hd
    simp at hd
  · have h1 : (ascii "VFUL" : List Nat) = [86, 70, 85, 76] := by decide
    rw [h1] at hd
    simp at hd

/-- the same seen from outside: whenever the version handler answers `VACK` for userid `b`, slot `b` was allocated by
this very request, it was not active during the last 60 seconds, and no other slot was touched. -/
theorem no_takeover_vack (s : Srv) (q : Query) (inb : List Nat) (e : Event) (b : Nat)
    (he : e ∈ (handleVersion s q inb).2) (hv : IsVack e b) :
    ∃ u, u % 256 = b ∧ (findAvailableUser s).1 = some u ∧
      ((getUser s u).active = false ∨ (getUser s u).lastPkt + 60 < s.now) ∧
      ∀ v, v ≠ u → getUser (handleVersion s q inb).1 v = getUser s v := by
  rcases C04L.handleVersion_cases s q inb with ⟨u, _, hu, _, hev⟩ | ⟨_, hev | hev⟩ <;> rw [hev] at he
  · refine ⟨u, (vack_version he hv).2, hu, no_takeover_within_60 s u hu, fun v hv => ?_⟩
    exact (C04L.frame_handleVersion s q inb).other v (by intro h'; rw [hu] at h'; cases h'; exact hv rfl)
  · exact nomatch (vack_version he hv).1
  · exact nomatch (vack_version he hv).1

-- Mallory's version request while Alice's session is live: VACK for userid 1 (seed 43), slot 0 untouched.
-- The same request 61 s later takes over slot 0 (and rebinds it to Mallory).
example :
    (handleVersion Ex.s2 (Ex.vq Ex.mallory) (payload (Ex.vq Ex.mallory) 10)).2 =
      [Event.ans Ex.mallory 7 10 84 (Ex.vq Ex.mallory).name ([86, 65, 67, 75] ++ [0, 0, 0, 43] ++ [1]) .ctrl] ∧
    dispatch Ex.s2 (.q (Ex.vq Ex.mallory)) false =
      handleVersion Ex.s2 (Ex.vq Ex.mallory) (payload (Ex.vq Ex.mallory) 10) ∧
    getUser (dispatch Ex.s2 (.q (Ex.vq Ex.mallory)) false).1 0 = getUser Ex.s2 0 ∧
    bound (dispatch Ex.s2 (.q (Ex.vq Ex.mallory)) false).1 1 = Ex.mallory ∧
    bound (dispatch { Ex.s2 with now := 1061 } (.q (Ex.vq Ex.mallory)) false).1 0 = Ex.mallory := Ex.slots.2.2.1
example : IsVack (Event.ans Ex.mallory 7 10 84 (Ex.vq Ex.mallory).name ([86, 65, 67, 75] ++ [0, 0, 0, 43] ++ [1]) .ctrl) 1 :=
  ⟨_, _, _, _, _, [0, 0, 0, 43], rfl, rfl⟩

/-- a DNS-mode request whose command character is `v`/`V` is handled by the version handler (so the two theorems around
this one speak about the handler phase of such a request) -/
theorem version_request_dispatch (s : Srv) (q : Query) (tunsel : Bool) (dlen : Nat)
    (hd : Common.queryDatalen q.name s.cfg.topdomain = some dlen) (hreq : IsTunnelRequest q dlen)
    (hv : lower ((payload q dlen).getD 0 0) = 118) :
    dispatch s (.q q) tunsel = handleVersion s q (payload q dlen) := by
  show tunnelDns s q = _
  rw [tunnelDns_of_request s q dlen hd hreq]
  exact C04L.handleNullRequest_V s q dlen hreq.1 ((lower_eq _ 118 (by omega)).1 hv)

example :
    Common.queryDatalen (Ex.vq Ex.mallory).name Ex.s2.cfg.topdomain = some 10 ∧ IsTunnelRequest (Ex.vq Ex.mallory) 10 ∧
    lower ((payload (Ex.vq Ex.mallory) 10).getD 0 0) = 118 := Ex.slots.2.2.2

/-- a version request never touches a slot that was active during the last 60 seconds (whatever else it does) -/
theorem version_request_spares_recent (s : Srv) (q : Query) (inb : List Nat) (v : Nat)
    (hact : (getUser s v).active = true) (hrecent : s.now ≤ (getUser s v).lastPkt + 60) :
    getUser (handleVersion s q inb).1 v = getUser s v := by
  apply (C04L.frame_handleVersion s q inb).other v
  intro h
  rcases no_takeover_within_60 s v h with h1 | h1
  · rw [hact] at h1; cases h1
  · omega

private theorem toSession_of_toSess (x : Session) (t : Nat) (e : Event) (h : C04L.ToSess x t e) : ToSession x t e := by
  rcases h with ⟨_, _, _, _, _, rfl⟩ | ⟨_, _, _, _, _, rfl⟩ | ⟨_, _, _, _, _, rfl⟩ | ⟨_, _, _, _, _, rfl⟩ | ⟨_, rfl⟩
  · exact ⟨rfl, Or.inl rfl⟩
  · exact ⟨rfl, Or.inr rfl⟩
  · exact ⟨rfl, Or.inl rfl⟩
  · exact ⟨rfl, Or.inr rfl⟩
  · show _ = _; rfl

/-- **Tun dispatch.**  A frame read from the tun device with destination `A`: if some slot owns `A`, then for the first
such slot `t` every event goes to session `t` and no other slot changes; if no slot owns `A` the frame is dropped: no
event, no change.  (True for every frame; frames shorter than 24 bytes are dropped anyway.) -/
theorem tun_dispatch_exact (s : Srv) (frame : List Nat) :
    (∀ t, FirstOwner s t (ipDst frame) →
      (∀ e ∈ (tunnelTun s frame).2, ToSession (getUser s t) t e) ∧
      (∀ v, v ≠ t → getUser (tunnelTun s frame).1 v = getUser s v)) ∧
    ((∀ t, t < s.users.length → ¬ Owns (getUser s t) s.now (ipDst frame)) → tunnelTun s frame = (s, [])) := by
  constructor
  · intro t ht
    have hf : findUserByIp s (ipDst frame) = some t := (C04L.findUserByIp_some_iff s _ t).2 ht
    exact ⟨fun e he => toSession_of_toSess _ _ _ (C04L.tunnelTun_some_events s frame t hf e he),
      fun v hv => (C04L.tunnelTun_some_frame s frame t hf).other v hv⟩
  · intro h
    exact C04L.tunnelTun_none s frame ((C04L.findUserByIp_none_iff s _).2 h)

-- Alice (slot 0, 10.0.0.2) is in lazy mode with ping 21 waiting; Bob (slot 1, 10.0.0.3) is logged in.
-- A tun frame for 10.0.0.2 is sent to Alice's address as the answer to her ping, tagged `chunk 0`; Bob's slot is untouched.
-- A frame for 10.0.0.3 is queued in Bob's slot (no query waiting: no event), Alice's slot is untouched.
-- A frame for 10.0.0.9 (nobody) is dropped.
example :
    ipDst (Ex.frame 2) = 167772162 ∧ FirstOwner Ex.s5 0 (ipDst (Ex.frame 2)) ∧
    (tunnelTun Ex.s5 (Ex.frame 2)).2 =
      [Event.ans Ex.alice 21 10 84 (Ex.pq 0 21 Ex.alice).name ([128, 33] ++ 0x5a :: Ex.frame 2) (.chunk 0)] ∧
    getUser (tunnelTun Ex.s5 (Ex.frame 2)).1 1 = getUser Ex.s5 1 ∧
    FirstOwner Ex.s5 1 (ipDst (Ex.frame 3)) ∧ (tunnelTun Ex.s5 (Ex.frame 3)).2 = [] ∧
    (getUser (tunnelTun Ex.s5 (Ex.frame 3)).1 1).outpacket.len = 25 ∧
    getUser (tunnelTun Ex.s5 (Ex.frame 3)).1 0 = getUser Ex.s5 0 ∧
    tunnelTun Ex.s5 (Ex.frame 9) = (Ex.s5, []) := Ex.routing.1
-- OBSERVATION (boundary): exactly 60 s after Alice was last heard her requests are still accepted (`last_pkt + 60 < now`
-- is false) and her slot is not reusable, but she no longer owns her address (`last_pkt + 60 > now` is false): a tun
-- frame for 10.0.0.2 is dropped.
example :
    (getUser Ex.s5 0).lastPkt + 60 = 1060 ∧
    (dispatch { Ex.s5 with now := 1060 } (.q (Ex.pq 0 22 Ex.alice)) false).2 ≠ [badip (Ex.pq 0 22 Ex.alice)] ∧
    ¬ Owns (getUser { Ex.s5 with now := 1060 } 0) 1060 (ipDst (Ex.frame 2)) ∧
    tunnelTun { Ex.s5 with now := 1060 } (Ex.frame 2) = ({ Ex.s5 with now := 1060 }, []) := Ex.routing.2.1

/-- the same for the handler phase of an iteration whose input is a tun frame (the frame is read into a 64 KiB buffer;
when the tun descriptor was not selected nothing happens at all) -/
theorem tun_dispatch_exact_iteration (s : Srv) (frame : List Nat) (tunsel : Bool) :
    (∀ t, FirstOwner s t (ipDst (frame.take 65536)) →
      (∀ e ∈ (dispatch s (.tun frame) tunsel).2, ToSession (getUser s t) t e) ∧
      (∀ v, v ≠ t → getUser (dispatch s (.tun frame) tunsel).1 v = getUser s v)) ∧
    ((∀ t, t < s.users.length → ¬ Owns (getUser s t) s.now (ipDst (frame.take 65536))) →
      dispatch s (.tun frame) tunsel = (s, [])) := by
  cases tunsel with
  | true => exact tun_dispatch_exact s (frame.take 65536)
  | false =>
    refine ⟨fun t _ => ⟨fun e he => ?_, fun v _ => rfl⟩, fun _ => rfl⟩
    cases he

/-- **The sweep.**  The events after the `sweep` marker of an iteration are not caused by the input: each of them answers
the query some live session has been holding, and goes to that session only. -/
theorem sweep_serves_held_queries (s : Srv) :
    ∀ e ∈ (sweep s).2, ∃ j, j < s.cfg.createdUsers ∧ (getUser s j).active = true ∧ (getUser s j).disabled = false ∧
      s.now < (getUser s j).lastPkt + 60 ∧ (getUser s j).qs.id ≠ 0 ∧ ToSession (getUser s j) j e := by
  intro e he
  obtain ⟨j, _, h2, h3, h4, _, h6⟩ := C04L.sweepFrom_events _ _ s e he
  unfold live at h3
  simp only [Bool.and_eq_true, Bool.not_eq_true', decide_eq_true_eq] at h3
  exact ⟨j, by omega, h3.1.1, h3.1.2, h3.2, h4, toSession_of_toSess _ _ _ h6⟩

-- Alice's slot holds query 30 for "real soon": the sweep answers it (an empty data packet), to Alice only
example :
    (sweep (setUser Ex.s2 0 fun x => { x with qs := Ex.pq 0 30 Ex.alice })).2 =
      [Event.ans Ex.alice 30 10 84 (Ex.pq 0 30 Ex.alice).name [128, 0] (.chunk 0)] := Ex.routing.2.2.1

/-- in a reachable state of a server configured with a /8../30 subnet, tunnel addresses of different slots differ
(C18 `pool_distinct`), so an address has at most one owner -/
theorem owner_unique (cfg : Config) (s : Srv) (hr : Reachable cfg s)
    (h8 : 8 ≤ cfg.netmask) (h30 : cfg.netmask ≤ 30) (hmy : cfg.myIp < 2 ^ 32) (A t t' : Nat)
    (ht : t < s.users.length) (ht' : t' < s.users.length)
    (ho : Owns (getUser s t) s.now A) (ho' : Owns (getUser s t') s.now A) : t = t' := by
  have hnd : (C04L.tunIps s).Nodup := by
    rw [C04L.reachable_tunIps cfg s hr]; exact C18.pool_distinct cfg.myIp cfg.netmask h8 h30 hmy
  have e : (C04L.tunIps s)[t]'(by unfold C04L.tunIps; simpa using ht) =
      (C04L.tunIps s)[t']'(by unfold C04L.tunIps; simpa using ht') := by
    have a := ho.2.2.2.2
    have b := ho'.2.2.2.2
    unfold getUser at a b
    simp only [List.getD_eq_getElem?_getD, List.getElem?_eq_getElem ht, List.getElem?_eq_getElem ht',
      Option.getD_some] at a b
    unfold C04L.tunIps
    simp only [List.getElem_map]
    rw [a, b]
  exact (List.getElem_inj hnd).1 e

/-- **Tun dispatch, reachable states.**  "The first slot owning A" is "the slot owning A": if `t` owns the destination
address then every event goes to `t`, nobody else changes, and `t` is the only owner. -/
theorem tun_dispatch_unique (cfg : Config) (s : Srv) (hr : Reachable cfg s)
    (h8 : 8 ≤ cfg.netmask) (h30 : cfg.netmask ≤ 30) (hmy : cfg.myIp < 2 ^ 32) (frame : List Nat) (t : Nat)
    (ht : t < s.users.length) (ho : Owns (getUser s t) s.now (ipDst frame)) :
    (∀ e ∈ (tunnelTun s frame).2, ToSession (getUser s t) t e) ∧
    (∀ v, v ≠ t → getUser (tunnelTun s frame).1 v = getUser s v) ∧
    (∀ t', t' < s.users.length → Owns (getUser s t') s.now (ipDst frame) → t' = t) := by
  have huniq : ∀ t', t' < s.users.length → Owns (getUser s t') s.now (ipDst frame) → t' = t :=
    fun t' ht' ho' => owner_unique cfg s hr h8 h30 hmy _ t' t ht' ht ho' ho
  have hfirst : FirstOwner s t (ipDst frame) :=
    ⟨ht, ho, fun j hj hoj => by have := huniq j (by omega) hoj; omega⟩
  exact ⟨((tun_dispatch_exact s frame).1 t hfirst).1, ((tun_dispatch_exact s frame).1 t hfirst).2, huniq⟩

-- a reachable state (three loop iterations: Alice's V, her L, a timeout) in which slot 0 owns 10.0.0.2
example :
    ∃ s, Reachable Ex.cfg s ∧ 8 ≤ Ex.cfg.netmask ∧ Ex.cfg.netmask ≤ 30 ∧ Ex.cfg.myIp < 2 ^ 32 ∧
      0 < s.users.length ∧ Owns (getUser s 0) s.now (ipDst (Ex.frame 2)) ∧
      (getUser (tunnelTun s (Ex.frame 2)).1 0).outpacket.len = 25 := by
  refine ⟨runFrom (start Ex.cfg [42, 43]) [⟨.q (Ex.vq Ex.alice), 1000⟩, ⟨.q (Ex.lq 0 42 Ex.alice), 1001⟩, ⟨.tick, 1002⟩],
    reachable_runFrom (Reachable.init _) _ ?_, ?_⟩
  · show _ ≤ _ ∧ _ ≤ _ ∧ _ ≤ _ ∧ True
    decide +kernel
  · decide +kernel

private theorem upstreamPacket_iff (s : Srv) (u : Nat) (out : List Nat) :
    UpstreamPacket s u out ↔ C04L.fullPacketOut s u = some out := by
  unfold UpstreamPacket C04L.fullPacketOut
  dsimp only
  cases uncompress (List.take (getUser s u).inpacket.len (getUser s u).inpacket.data) 65536 with
  | none => simp
  | some o =>
    dsimp only
    constructor
    · rintro ⟨h1, h2⟩
      cases h1
      rw [if_pos h2]
    · intro h
      split at h
      · next h2 => cases h; exact ⟨rfl, h2⟩
      · cases h

/-- **Forwarding between clients.**  A completed upstream packet of session `u` with destination `A`: if some slot owns
`A`, then for the first such slot `t` every event goes to session `t` and only slots `t` and `u` change (`u`: its
reassembly buffer is emptied); if no slot owns `A` the packet goes to the tun device and only slot `u` changes. -/
theorem forward_dispatch_exact (s : Srv) (u : Nat) (out : List Nat) (hp : UpstreamPacket s u out) :
    (∀ t, FirstOwner s t (ipDst out) →
      (∀ e ∈ (handleFullPacket s u).2, ToSession (getUser s t) t e) ∧
      (∀ v, v ≠ t → v ≠ u → getUser (handleFullPacket s u).1 v = getUser s v)) ∧
    ((∀ t, t < s.users.length → ¬ Owns (getUser s t) s.now (ipDst out)) →
      (handleFullPacket s u).2 = [Event.tunw ([0, 0, 8, 0] ++ out.drop 4)] ∧
      (∀ v, v ≠ u → getUser (handleFullPacket s u).1 v = getUser s v)) := by
  have hp' := (upstreamPacket_iff s u out).1 hp
  constructor
  · intro t ht
    have hf : findUserByIp s (ipDst out) = some t := (C04L.findUserByIp_some_iff s _ t).2 ht
    rw [C04L.handleFullPacket_forward s u out t hp' hf]
    refine ⟨fun e he => toSession_of_toSess _ _ _ (C04L.deliverToUser_toSess s t _ _ e he), ?_⟩
    intro v hvt hvu
    dsimp only
    rw [C04L.getUser_setUser_ne _ _ _ _ hvu]
    exact (C04L.frame_deliverToUser s t _ _).other v hvt
  · intro h
    have hf : findUserByIp s (ipDst out) = none := (C04L.findUserByIp_none_iff s _).2 h
    rw [C04L.handleFullPacket_toTun s u out hp' hf]
    refine ⟨rfl, ?_⟩
    intro v hvu
    exact C04L.getUser_setUser_ne _ _ _ _ hvu

-- Alice has reassembled a packet for 10.0.0.3: it is queued in Bob's slot (Bob has no query waiting: no event);
-- a packet for 10.0.0.9 goes to the tun device.
example :
    UpstreamPacket (Ex.withUpstream Ex.s5 0 3) 0 (Ex.frame 3) ∧
    FirstOwner (Ex.withUpstream Ex.s5 0 3) 1 (ipDst (Ex.frame 3)) ∧
    (handleFullPacket (Ex.withUpstream Ex.s5 0 3) 0).2 = [] ∧
    (getUser (handleFullPacket (Ex.withUpstream Ex.s5 0 3) 0).1 1).outpacket.len = 25 ∧
    (getUser (handleFullPacket (Ex.withUpstream Ex.s5 0 3) 0).1 0).inpacket.len = 0 ∧
    UpstreamPacket (Ex.withUpstream Ex.s5 0 9) 0 (Ex.frame 9) ∧
    (handleFullPacket (Ex.withUpstream Ex.s5 0 9) 0).2 = [Event.tunw (Ex.frame 9)] := Ex.routing.2.2.2.1
-- Bob has reassembled a packet for 10.0.0.2: it is sent to Alice as the answer to her waiting ping
example :
    FirstOwner (Ex.withUpstream Ex.s5 1 2) 0 (ipDst (Ex.frame 2)) ∧
    (handleFullPacket (Ex.withUpstream Ex.s5 1 2) 1).2 =
      [Event.ans Ex.alice 21 10 84 (Ex.pq 0 21 Ex.alice).name ([128, 33] ++ 0x5a :: Ex.frame 2) (.chunk 0)] := Ex.routing.2.2.2.2

/-- ... and a packet that does not decompress to an IP frame is dropped: no event, only slot `u` changes -/
theorem forward_dispatch_malformed (s : Srv) (u : Nat) (hp : ∀ out, ¬ UpstreamPacket s u out) :
    (handleFullPacket s u).2 = [] ∧ ∀ v, v ≠ u → getUser (handleFullPacket s u).1 v = getUser s v := by
  have h : C04L.fullPacketOut s u = none := by
    cases h : C04L.fullPacketOut s u with
    | none => rfl
    | some out => exact absurd ((upstreamPacket_iff s u out).2 h) (hp out)
  rw [C04L.handleFullPacket_dropped s u h]
  exact ⟨rfl, fun v hvu => C04L.getUser_setUser_ne _ _ _ _ hvu⟩

/-- **Frame.**  If handling a DNS query changes ANYTHING in slot `v`, then the query is a tunnel request and
(1) it names `v` and is accepted for `v`, or
(2) it is a version request and `v` is the slot `find_available_user` hands out
    (which was not active during the last 60 s: `no_takeover_within_60`), or
(3) it is an accepted upstream-data request and `v` is the first owner of some tunnel address (the completed packet was
    forwarded to `v`: `forward_dispatch_exact`).
So a request handled for user `u` leaves every other session exactly as it was, with these two exceptions. -/
theorem other_sessions_framed (s : Srv) (q : Query) (tunsel : Bool) (v : Nat)
    (hne : getUser (dispatch s (.q q) tunsel).1 v ≠ getUser s v) :
    ∃ dlen, Common.queryDatalen q.name s.cfg.topdomain = some dlen ∧ IsTunnelRequest q dlen ∧
      ((names q dlen = some (v : Int) ∧ Accepted s q v) ∨
       (lower ((payload q dlen).getD 0 0) = 118 ∧ (findAvailableUser s).1 = some v) ∨
       ((hexVal (lower ((payload q dlen).getD 0 0))).isSome = true ∧
         (∃ u : Nat, names q dlen = some (u : Int) ∧ Accepted s q u) ∧ ∃ A, FirstOwner s v A)) := by
  have hU : C04L.dnsWrites s q v := by
    by_cases h : C04L.dnsWrites s q v
    · exact h
    · exact absurd ((C04L.frame_tunnelDns s q).other v h) hne
  obtain ⟨dlen, hd, hns, hwww, hty, h2, hw⟩ := hU
  have hreq := isTunnelRequest_of q dlen h2 hns hwww hty
  refine ⟨dlen, hd, hreq, ?_⟩
  rcases hw with ⟨hv, ha⟩ | ⟨cmd, hc, hrej, hw⟩
  · right; left
    refine ⟨?_, ha⟩
    have hp : payload q dlen = C04L.inbOf q dlen := rfl
    rw [hp]
    exact (lower_eq _ 118 (by omega)).2 (by unfold C04L.isV at hv; omega)
  · have key := names_cmdOf q dlen hreq
    rw [hc] at key
    obtain ⟨hn, _, hdata⟩ := key
    obtain ⟨hchk, _⟩ := C04L.rejected_false s q _ cmd hrej
    obtain ⟨c0, c1, c2, c3, c4, c5⟩ := C04L.checkUserAndIp_false s _ q hchk
    have hcast : ((C04L.uidOf q dlen cmd).toNat : Int) = C04L.uidOf q dlen cmd := by omega
    have hacc : Accepted s q (C04L.uidOf q dlen cmd).toNat := ⟨by omega, c2, c3, c4, c5⟩
    rcases hw with hw | ⟨hcd, A, hA⟩
    · left
      subst hw
      exact ⟨by rw [hn, hcast], hacc⟩
    · right; right
      refine ⟨hdata hcd, ⟨_, by rw [hn, hcast], hacc⟩, A, ?_⟩
      exact (C04L.findUserByIp_some_iff s A v).1 hA

-- Alice's (accepted) ping changes her slot 0 and leaves Bob's slot 1 alone; Mallory's version request changes slot 2
-- (allocation) and nothing else
example :
    names (Ex.pq 0 22 Ex.alice) 9 = some 0 ∧ Accepted Ex.s5 (Ex.pq 0 22 Ex.alice) 0 ∧
    getUser (dispatch Ex.s5 (.q (Ex.pq 0 22 Ex.alice)) false).1 0 ≠ getUser Ex.s5 0 ∧
    getUser (dispatch Ex.s5 (.q (Ex.pq 0 22 Ex.alice)) false).1 1 = getUser Ex.s5 1 ∧
    (findAvailableUser Ex.s5).1 = some 2 ∧
    getUser (dispatch Ex.s5 (.q (Ex.vq Ex.mallory)) false).1 2 ≠ getUser Ex.s5 2 ∧
    getUser (dispatch Ex.s5 (.q (Ex.vq Ex.mallory)) false).1 0 = getUser Ex.s5 0 ∧
    getUser (dispatch Ex.s5 (.q (Ex.vq Ex.mallory)) false).1 1 = getUser Ex.s5 1 := Ex.framed.1

/-- in particular the address a slot is bound to is changed by a DNS query only when a (well-formed) version request
allocates the slot -/
theorem dns_rebinds_only_by_allocation (s : Srv) (q : Query) (tunsel : Bool) (v : Nat)
    (hne : bound (dispatch s (.q q) tunsel).1 v ≠ bound s v) :
    ∃ dlen, Common.queryDatalen q.name s.cfg.topdomain = some dlen ∧ IsTunnelRequest q dlen ∧
      lower ((payload q dlen).getD 0 0) = 118 ∧ (findAvailableUser s).1 = some v ∧
      ((getUser s v).active = false ∨ (getUser s v).lastPkt + 60 < s.now) := by
  obtain ⟨dlen, hd, hns, hwww, hty, h2, hv, _, ha⟩ := C04L.tunnelDns_host s q v hne
  refine ⟨dlen, hd, isTunnelRequest_of q dlen h2 hns hwww hty, ?_, ha, no_takeover_within_60 s v ha⟩
  have hp : payload q dlen = C04L.inbOf q dlen := rfl
  rw [hp]
  exact (lower_eq _ 118 (by omega)).2 (by unfold C04L.isV at hv; omega)

-- see the example after `no_takeover_vack`: Mallory's `V` at t = 1061 rebinds the expired slot 0

/-- **No takeover, handler phase.**  No DNS query changes the address of a slot that was active during the last 60 s. -/
theorem no_takeover_dispatch (s : Srv) (q : Query) (tunsel : Bool) (v : Nat)
    (hact : (getUser s v).active = true) (hrecent : s.now ≤ (getUser s v).lastPkt + 60) :
    bound (dispatch s (.q q) tunsel).1 v = bound s v := by
  by_cases h : bound (dispatch s (.q q) tunsel).1 v = bound s v
  · exact h
  · obtain ⟨_, _, _, _, _, h1 | h1⟩ := dns_rebinds_only_by_allocation s q tunsel v h
    · rw [hact] at h1; cases h1
    · omega

-- exactly 60 s after Alice was last heard, Mallory's version request does not get slot 0 (it gets slot 1)
example :
    (getUser Ex.s2 0).active = true ∧ (getUser Ex.s2 0).lastPkt + 60 = 1060 ∧
    bound (dispatch { Ex.s2 with now := 1060 } (.q (Ex.vq Ex.mallory)) false).1 0 = Ex.alice ∧
    bound (dispatch { Ex.s2 with now := 1060 } (.q (Ex.vq Ex.mallory)) false).1 1 = Ex.mallory := Ex.framed.2

/-- **Rebinding.**  A raw-mode login frame for userid `u` changes the address some slot is bound to only if that slot is
`u`, the frame carries the 16-byte login hash computed from the password and `seed + 1`, and slot `u` is in the table,
allocated, enabled, logged in (DNS login done) and heard from during the last 60 s. -/
theorem raw_login_rebinds_only_with_hash (s : Srv) (packet : List Nat) (q : Query) (u v : Nat)
    (hne : bound (handleRawLogin s packet q u).1 v ≠ bound s v) :
    v = u ∧ 16 ≤ packet.length ∧
    packet.take 16 = Login.loginCalcC s.cfg.password ((getUser s u).seed + 1) ∧
    u < s.cfg.createdUsers ∧ (getUser s u).active = true ∧ (getUser s u).disabled = false ∧
    (getUser s u).authenticated = true ∧ ¬ (getUser s u).lastPkt + 60 < s.now := by
  have hU : v = u ∧ C04L.rawLoginOk s packet u := by
    by_cases h : v = u ∧ C04L.rawLoginOk s packet u
    · exact h
    · have := (C04L.frame_handleRawLogin s packet q u).other v h
      unfold bound at hne
      rw [this] at hne
      exact absurd rfl hne
  obtain ⟨hv, h1, h2, h3, h4, h5, h6, h7⟩ := hU
  exact ⟨hv, h1, h7, h2, h3, h4, h5, h6⟩

-- the exception is real: a raw login frame for userid 0 carrying the hash for seed 42 + 1, sent from Mallory's address,
-- rebinds Alice's slot to Mallory (the frame proves knowledge of the password — or is a replay of Alice's own frame);
-- with a wrong hash nothing happens
example :
    bound Ex.s5 0 = Ex.alice ∧
    bound (handleRawLogin Ex.s5 (Login.loginCalcC Ex.cfg.password 43) (rawQuery Ex.mallory) 0).1 0 = Ex.mallory ∧
    handleRawLogin Ex.s5 (Login.loginCalcC Ex.cfg.password 42) (rawQuery Ex.mallory) 0 = (Ex.s5, []) := Ex.raw.2.1

/-- and apart from the slot named in the frame header, a raw-mode login changes nothing at all -/
theorem raw_login_frame (s : Srv) (packet : List Nat) (q : Query) (u v : Nat) (hv : v ≠ u) :
    getUser (handleRawLogin s packet q u).1 v = getUser s v :=
  (C04L.frame_handleRawLogin s packet q u).other v (fun h => hv h.1)

/-- **Rebinding, handler phase, every input.**  The address slot `v` is bound to changes in the handler phase of an
iteration only if
(1) the input is a DNS version request and `v` is the slot handed out, which was not active during the last 60 s, or
(2) the input is a raw-mode login frame for `v` carrying the hash of the password and `seed_v + 1`, and `v` is an
    allocated, enabled, logged-in session heard from during the last 60 s.
Tun frames, forwarded answers, timeouts and every other DNS or raw request leave all bindings alone. -/
theorem rebinding_exact (s : Srv) (inp : Input) (tunsel : Bool) (v : Nat)
    (hne : bound (dispatch s inp tunsel).1 v ≠ bound s v) :
    (∃ q dlen, inp = .q q ∧ Common.queryDatalen q.name s.cfg.topdomain = some dlen ∧ IsTunnelRequest q dlen ∧
      lower ((payload q dlen).getD 0 0) = 118 ∧ (findAvailableUser s).1 = some v ∧
      ((getUser s v).active = false ∨ (getUser s v).lastPkt + 60 < s.now)) ∨
    (∃ src bytes, inp = .rawf src bytes ∧
      IsRawLoginFrame (bytes.take 65536) v (Login.loginCalcC s.cfg.password ((getUser s v).seed + 1)) ∧
      v < s.cfg.createdUsers ∧ (getUser s v).active = true ∧ (getUser s v).disabled = false ∧
      (getUser s v).authenticated = true ∧ ¬ (getUser s v).lastPkt + 60 < s.now) := by
  rcases C04L.dispatch_host s inp tunsel v hne with ⟨q, rfl, h⟩ | ⟨src, bytes, r, rfl, hr, h⟩
  · left
    obtain ⟨dlen, a, b, c, d, e⟩ := dns_rebinds_only_by_allocation s q tunsel v h
    exact ⟨q, dlen, rfl, a, b, c, d, e⟩
  · right
    obtain ⟨h1, h2, h3, h4, h5, h6, h7, h8, h9, h10, h11⟩ := C04L.rawDecode_host s _ src r v hr h
    refine ⟨src, bytes, rfl, ⟨h2, h3, h4.symm, ?_, h11⟩, h6, h7, h8, h9, h10⟩
    have : (List.drop RAW_HDR_LEN (List.take 65536 bytes)).length = (List.take 65536 bytes).length - 4 := by
      simp [RAW_HDR_LEN]
    omega

-- the two cases are real: Mallory's `V` at t = 1061 (slot 0 expired), and a raw login frame with the right hash
example :
    bound (dispatch { Ex.s2 with now := 1061 } (.q (Ex.vq Ex.mallory)) false).1 0 ≠ bound { Ex.s2 with now := 1061 } 0 ∧
    IsRawLoginFrame ([16, 209, 158, 16] ++ Login.loginCalcC Ex.cfg.password 43) 0
      (Login.loginCalcC Ex.s2.cfg.password ((getUser Ex.s2 0).seed + 1)) ∧
    bound (dispatch Ex.s2 (.rawf Ex.mallory ([16, 209, 158, 16] ++ Login.loginCalcC Ex.cfg.password 43)) false).1 0
      = Ex.mallory := Ex.raw.2.2

end Iodine.C04
