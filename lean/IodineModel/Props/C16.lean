import IodineModel.Server.Run
import IodineModel.Lemmas.SrvC16b
import IodineModel.Lemmas.SrvC16h
import IodineModel.Lemmas.Common
/-
C16 — Re-delivered queries are never processed twice.

For an established session, re-delivery of a ping or data query that the server has recently seen (an
impatient or load-balanced relay repeating it, possibly with a new DNS id or changed letter case) never
appends its upstream payload again and never advances or rewinds the downstream stream.  While the original
answer is still in the server's answer cache, an identical repeat receives an answer carrying the same
payload as the original.

This file holds the specification side (predicates written from the property text) and the theorems about
the model `IodineModel/Server/*`; helper lemmas are in `IodineModel/Lemmas/SrvC16{a,b,c,h}.lean`.  The lemmas of
this file that mention `C16L.*` are bridges between the specification-side monitors and the ones the helper
files use; the property theorems are

(A) `cache_hit_is_stutter`, `qmem_hit_is_stutter`, `pending_duplicate_is_stutter` — the handler phase
    (`dispatch`) for an accepted ping/data query that hits the answer cache / the query memory / a pending query;
    `cache_slot_holds_fresh`, `cache_holds_last_four`, `cache_replay_same_payload` — over any run from a
    reachable state the cache ring of a slot holds its last four fresh answers, and the replay carries the
    original payload;
(B) `qmem_holds_recent_data`, `qmem_holds_recent_ping`, `qmem_holds_recent`, `ping_repeat_fingerprint`
    (the exact condition under which a ping is remembered), `recognised_is_stutter`,
    `stutter_any_number_of_times`;
(C) `cache_hit_indep_of_id_and_source`, `qmem_hit_indep_of_id_and_source`, `pending_indep_of_id_and_source`,
    `established_indep_of_port`, `established_without_check_ip`, `dataPrint_case_insensitive`,
    `b32_rev_case_insensitive`, `pingPrint_case_insensitive`.

All statements hold at full strength for the model; the only side condition beyond the property text is
`u < s.users.length` (the session is a slot of the table) in the statements about runs.  Things worth knowing
that the statements make visible: the cache compares names with `strcmp`, the query memories are case
insensitive, so a case-changed repeat of a still-cached query gets the one-byte "x" answer and not the cached
payload (last example of the file); a ping is remembered only if its first label has at least 7 characters; a
second repeat of a pending query overwrites the first in `id2`/`from2`, so only the last repeat is answered.
-/
namespace Iodine.C16
open Iodine Iodine.Server Iodine.Gen

/-- "upstream reassembly and downstream position" of a session: what a re-delivered query must not move.
(`sentlen`, `outfragresent`, the stored queries, the answer cache and the query memories are not part of it.) -/
def stream (x : Session) :=
  (x.inpacket, x.outpacket.seqno, x.outpacket.fragment, x.outpacket.offset, x.outpacket.len, x.outpacket.data,
   x.outpacketq, x.oqNext, x.oqFilled)

/-- the name starts with `P` or `p` -/
def IsPing (name : List Nat) : Prop := name.getD 0 0 = 80 ∨ name.getD 0 0 = 112

instance (n : List Nat) : Decidable (IsPing n) := by unfold IsPing; infer_instance

/-- the name starts with a hex digit (the user id of a data query) -/
def IsData (name : List Nat) : Prop :=
  let c := name.getD 0 0
  (48 ≤ c ∧ c ≤ 57) ∨ (97 ≤ c ∧ c ≤ 102) ∨ (65 ≤ c ∧ c ≤ 70)

instance (n : List Nat) : Decidable (IsData n) := by unfold IsData; infer_instance

/-- the query types that carry tunnel traffic -/
def TunnelType (t : Nat) : Prop :=
  t = T_NULL ∨ t = T_PRIVATE ∨ t = T_CNAME ∨ t = T_A ∨ t = T_MX ∨ t = T_SRV ∨ t = T_TXT

instance (t : Nat) : Decidable (TunnelType t) := by unfold TunnelType; infer_instance

/-- number of characters in front of the topdomain (0 if the name is not below the topdomain) -/
def dlen (td : List Nat) (q : Query) : Nat := (Common.queryDatalen q.name td).getD 0

/-- the decoded payload of a ping name: the characters between the `P` and the topdomain, dots removed,
Base32-decoded (the model's decoder, used here only to get at the user id and the fingerprint) -/
def pingBytes (td : List Nat) (q : Query) : List Nat :=
  Encoding.unpackData Codec.b32 65536 ((q.name.take (min (dlen td q) 512)).drop 1)

/-- slot `u` is an established session and a datagram from `src` is allowed to speak for it:
logged in, not timed out, and (with `check_ip`) from the address that logged in -/
def Established (s : Srv) (u : Nat) (src : Addr) : Prop :=
  let x := getUser s u
  u < s.cfg.createdUsers ∧ x.active = true ∧ x.disabled = false ∧ s.now ≤ x.lastPkt + 60 ∧
  x.authenticated = true ∧
  (s.cfg.checkIp = true → src.fam = x.host.fam ∧ (src.fam = 4 ∨ src.fam = 6) ∧ x.host.ip = src.ip)

instance (s : Srv) (u : Nat) (src : Addr) : Decidable (Established s u src) := by
  unfold Established; infer_instance

/-- `q` is a ping or data query of the established session `u`: it is below the topdomain, has a tunnel type
and a non-zero DNS id, names slot `u`, and comes from an acceptable address — i.e. the server gets as far as
its duplicate checks for slot `u`. -/
def Accepted (s : Srv) (q : Query) (u : Nat) : Prop :=
  q.id ≠ 0 ∧ TunnelType q.type ∧ (Common.queryDatalen q.name s.cfg.topdomain).isSome ∧
  Established s u q.from_ ∧
  ((IsPing q.name ∧ 2 ≤ dlen s.cfg.topdomain q ∧ 4 ≤ (pingBytes s.cfg.topdomain q).length ∧
      charVal ((pingBytes s.cfg.topdomain q).getD 0 0) = (u : Int))
   ∨ (IsData q.name ∧ 6 ≤ dlen s.cfg.topdomain q ∧ hexCode (q.name.getD 0 0) = (u : Int)))

instance (s : Srv) (q : Query) (u : Nat) : Decidable (Accepted s q u) := by unfold Accepted; infer_instance

/-- C-locale `tolower` -/
def lower (c : Nat) : Nat := if 65 ≤ c ∧ c ≤ 90 then c + 32 else c

/-- fingerprint of a data query: the four header characters behind the user id, case folded -/
def dataPrint (name : List Nat) : List Nat :=
  [lower (name.getD 1 0), lower (name.getD 2 0), lower (name.getD 3 0), lower (name.getD 4 0)]

/-- fingerprint of a ping query as the ping handler computes it: the first four decoded bytes
(user id, downstream ack, and the two bytes of the client's ping counter) -/
def pingPrint (td : List Nat) (q : Query) : List Nat := (pingBytes td q).take 4

/-- a query memory holds the fingerprint `cmc` for query type `t` -/
def Remembered (mem : List QmemEntry) (t : Nat) (cmc : List Nat) : Prop :=
  ∃ e ∈ mem, e.type ≠ T_UNSET ∧ e.type = t ∧ e.cmc = cmc

instance (mem : List QmemEntry) (t : Nat) (c : List Nat) : Decidable (Remembered mem t c) := by
  unfold Remembered; infer_instance

/-- the query-memory check of session `u` recognises `q` -/
def QmemHit (s : Srv) (q : Query) (u : Nat) : Prop :=
  (IsPing q.name ∧ Remembered (getUser s u).qmemping q.type (pingPrint s.cfg.topdomain q)) ∨
  (IsData q.name ∧ Remembered (getUser s u).qmemdata q.type (dataPrint q.name))

instance (s : Srv) (q : Query) (u : Nat) : Decidable (QmemHit s q u) := by unfold QmemHit; infer_instance

/-- the same name and type are held unanswered in `q` (only looked at in lazy mode) -/
def PendingInQ (s : Srv) (q : Query) (u : Nat) : Prop :=
  let x := getUser s u
  x.q.id ≠ 0 ∧ x.q.type = q.type ∧ x.q.name = q.name ∧ x.lazy = true

/-- the same name and type are held unanswered in `q_sendrealsoon` -/
def PendingInQs (s : Srv) (q : Query) (u : Nat) : Prop :=
  let x := getUser s u
  x.qs.id ≠ 0 ∧ x.qs.type = q.type ∧ x.qs.name = q.name

instance (s : Srv) (q : Query) (u : Nat) : Decidable (PendingInQ s q u) := by unfold PendingInQ; infer_instance
instance (s : Srv) (q : Query) (u : Nat) : Decidable (PendingInQs s q u) := by unfold PendingInQs; infer_instance

/-- the state in which the handlers of the next iteration run: top of the loop done, `select` returned at
time `now'` -/
def afterSelect (s : Srv) (now' : Nat) : Srv := { (topOfLoop s).1 with now := now' }

/-- what the handler does to session `u` when it recognises `q` as a repeat of the query held in `q` -/
def noteInQ (q : Query) (x : Session) : Session := { x with q := { x.q with id2 := q.id, from2 := q.from_ } }

/-- … or of the query held in `q_sendrealsoon` -/
def noteInQs (q : Query) (x : Session) : Session := { x with qs := { x.qs with id2 := q.id, from2 := q.from_ } }

/-! ### specification side: the fresh answers of a session

Specification-side monitor: the list of FRESH answers of session `u` — the answers `send_chunk_or_dataless`
sends to the query it was called for (ghost tag `.chunk u`; the copy to a remembered duplicate and the replays
from the cache are not fresh) — most recent first, cut where the server empties the answer cache of slot `u`:
when it hands the slot out in a version handshake and when it accepts an `N` (fragment size) query for it. -/

/-- name, type and payload of an answer -/
abbrev Answer := List Nat × Nat × List Nat

/-- the control answer `VACK` + seed + slot number `u`: slot `u` is handed out to a new client -/
def handsOutSlot (u : Nat) : Event → Bool
  | .ans _ _ _ _ _ data .ctrl => data.take 4 == [86, 65, 67, 75] && data.getD 8 0 == u % 256
  | _ => false

/-- the user id an `N` query names: first decoded byte of the name (the model's decoder, used only for this) -/
def fragsizeUser (td : List Nat) (q : Query) : Int :=
  charVal ((Encoding.unpackData Codec.b32 65536 ((q.name.take (min (dlen td q) 512)).drop 1)).getD 0 0)

/-- the two-byte control answer to an `N` query that names slot `u`: the new fragment size is accepted -/
def acceptsFragsize (td : List Nat) (u : Nat) : Input → Event → Bool
  | .q q, .ans _ _ _ _ _ data .ctrl =>
    (q.name.getD 0 0 == 78 || q.name.getD 0 0 == 110) && data.length == 2 && fragsizeUser td q == (u : Int)
  | _, _ => false

/-- the fresh answers of session `u` after one more event -/
def freshStep (td : List Nat) (u : Nat) (inp : Input) (l : List Answer) (ev : Event) : List Answer :=
  if handsOutSlot u ev || acceptsFragsize td u inp ev then []
  else match ev with
    | .ans _ _ t _ n d (.chunk v) => if v = u then (n, t, d) :: l else l
    | _ => l

/-- the fresh answers of session `u` in a trace, most recent first -/
def fresh (u : Nat) (tr : List TraceStep) : List Answer :=
  tr.foldl (fun l t => t.events.foldl (freshStep t.pre.cfg.topdomain u t.step.inp) l) []

/-! ### specification side: the fingerprints the query memories should hold

The query memories are emptied only when the slot is handed out again (not by an `N` query).  A fresh answer
to a data query (name of at least 5 characters) is remembered by its `dataPrint`; a fresh answer to a ping
query is remembered by the fingerprint `savedPingPrint` computes from the name — the characters between the `P`
and the FIRST dot, Base32-decoded, first four bytes — and only if that first label decodes to at least four
bytes (at least 7 characters, none of them NUL). -/

/-- fingerprint and query type -/
abbrev Print := List Nat × Nat

/-- the fingerprint the server stores for an answered ping name -/
def savedPingPrint (n : List Nat) : Option (List Nat) :=
  match n.idxOf? 46 with
  | none => none
  | some cp =>
    let cmc := Codec.dec Codec.b32 8 (cp - 1) (n.drop 1)
    if cmc.length < 4 then none else some (cmc.take 4)

def freshPingStep (u : Nat) (l : List Print) (ev : Event) : List Print :=
  if handsOutSlot u ev then []
  else match ev with
    | .ans _ _ t _ n _ (.chunk v) =>
      if v = u ∧ IsPing n then (match savedPingPrint n with | some c => (c, t) :: l | none => l) else l
    | _ => l

def freshDataStep (u : Nat) (l : List Print) (ev : Event) : List Print :=
  if handsOutSlot u ev then []
  else match ev with
    | .ans _ _ t _ n _ (.chunk v) => if v = u ∧ ¬ IsPing n ∧ 5 ≤ n.length then (dataPrint n, t) :: l else l
    | _ => l

/-- fingerprints of the fresh ping answers of session `u` in a trace that the server stored, most recent first -/
def freshPings (u : Nat) (tr : List TraceStep) : List Print :=
  tr.foldl (fun l t => t.events.foldl (freshPingStep u) l) []

/-- fingerprints of the fresh data answers of session `u` in a trace, most recent first -/
def freshDatas (u : Nat) (tr : List TraceStep) : List Print :=
  tr.foldl (fun l t => t.events.foldl (freshDataStep u) l) []

/-- `q` is a re-delivery the server recognises in state `s`: an accepted ping/data query of session `u` that
hits the answer cache or the query memory or is still pending -/
def Recognised (s : Srv) (q : Query) (u : Nat) : Prop :=
  Accepted s q u ∧
  ((dnscacheFind (getUser s u) q DNSCACHE_LEN 0).isSome ∨ QmemHit s q u ∨ PendingInQ s q u ∨ PendingInQs s q u)

instance (s : Srv) (q : Query) (u : Nat) : Decidable (Recognised s q u) := by unfold Recognised; infer_instance

/-- the reaction to a recognised re-delivery: nothing, or one answer to the repeat's own address and id
replayed from the cache, or the one-byte "x" answer -/
def IsReplay (q : Query) (u : Nat) (ev : Event) : Prop :=
  (∃ dn payload, ev = Event.ans q.from_ q.id q.type dn q.name payload (.cached u)) ∨
  ev = Event.ans q.from_ q.id q.type 84 q.name [120] (.qmem u)

/-- the handler phases of consecutive datagrams `(query, tunsel)` -/
def dispatchAll : Srv → List (Query × Bool) → Srv × List Event
  | s, [] => (s, [])
  | s, (q, ts) :: rest =>
    ((dispatchAll (dispatch s (.q q) ts).1 rest).1, (dispatch s (.q q) ts).2 ++ (dispatchAll (dispatch s (.q q) ts).1 rest).2)

/-- every datagram of the list is, when it arrives, a recognised re-delivery for some session -/
def AllRecognised : Srv → List (Query × Bool) → Prop
  | _, [] => True
  | s, (q, ts) :: rest => (∃ u, Recognised s q u) ∧ AllRecognised (dispatch s (.q q) ts).1 rest

/-! ### the concrete run used by the non-vacuity examples

Server 10.0.0.1/27, topdomain `t.ex`, `check_ip` on, `rand()` returns 77.  A client at 192.168.1.5 does the version
handshake (gets slot 0, seed 77), logs in with the right hash, and then sends pings `p<base32 of 00 00 00 k>.t.ex`
or data queries; `rep` is a repeat of a query from another port (another relay) with a new DNS id. -/
namespace Ex

def cfg : Config :=
  { checkIp := true, password := [97, 98, 99, 100] ++ List.replicate 28 0, myIp := 0x0a000001, netmask := 27,
    topdomain := ascii "t.ex", mtu := 1130, nsIp := 0, bindPort := 0, dest4 := 0, dest6 := 0, createdUsers := 0 }
def src1 : Addr := ⟨4, 0xc0a80105, 5353⟩
def src2 : Addr := ⟨4, 0xc0a80105, 6000⟩
def mkq (name : List Nat) (id : Nat) (src : Addr) : Query := ⟨name, T_NULL, id, src, 0, Addr.zero, Addr.zero⟩
/-- `V`: protocol version 0x00000502 + two more bytes -/
def vName : List Nat := [118] ++ Codec.encFull Codec.b32 [0, 0, 5, 2, 1, 2] ++ ascii ".t.ex"
/-- `L`: user 0, the login hash for seed 77, two more bytes -/
def lName : List Nat :=
  [108] ++ Codec.encFull Codec.b32 ([0] ++ Login.loginCalcC cfg.password 77 ++ [0, 0]) ++ ascii ".t.ex"
/-- `O`: user 0 (`a`), lazy mode (`l`) -/
def oName : List Nat := ascii "oal.t.ex"
/-- ping of user 0 with ping counter `k` -/
def pName (k : Nat) : List Nat := [112] ++ Codec.encFull Codec.b32 [0, 0, 0, k] ++ ascii ".t.ex"
/-- the same name as a relay that upper-cases everything would send it -/
def pNameUpper (k : Nat) : List Nat := (pName k).map fun c => if 97 ≤ c ∧ c ≤ 122 then c - 32 else c
/-- data query of user 0: upstream seq 1 frag 0, downstream ack 0/`k`, payload "abc" -/
def dName (k : Nat) : List Nat := ascii "0" ++ [101, 97, 97, 97 + k] ++ ascii "mfrgg.t.ex"
def login : List Step := [⟨.q (mkq vName 100 src1), 1000⟩, ⟨.q (mkq lName 101 src1), 1001⟩]
def pings (ks : List Nat) : List Step := ks.map fun k => ⟨.q (mkq (pName k) (200 + k) src1), 1002⟩
def datas (ks : List Nat) : List Step := ks.map fun k => ⟨.q (mkq (dName k) (400 + k) src1), 1002⟩
def s0 : Srv := start cfg [77]
theorem s0_reachable : Reachable cfg s0 := Reachable.init [77]
/-- a repeat of ping `k` with id 300 from the other port -/
def rep (k : Nat) : Query := mkq (pName k) 300 src2
/-- handshake, login, one ping answered; next `select` returned at 1003 -/
def sC : Srv := afterSelect (runFrom s0 (login ++ pings [1])) 1003
/-- … five pings answered: ping 1 has left the answer cache and is in the ping memory only -/
def sA : Srv := afterSelect (runFrom s0 (login ++ pings [1, 2, 3, 4, 5])) 1003
/-- … lazy mode switched on, one ping held unanswered -/
def sL : Srv := afterSelect (runFrom s0 (login ++ [⟨.q (mkq oName 150 src1), 1001⟩] ++ pings [1])) 1003

end Ex

/-- The runs of the examples, evaluated once: what the kernel computes about the states `sC`, `sA`, `sL` and about the
run with two data queries.  The examples below combine these facts with the theorems they illustrate. -/
theorem Ex.evaluated :
    -- `sC`: one ping answered and still cached; its upper-cased repeat
    (Accepted Ex.sC (Ex.rep 1) 0 ∧
     (dnscacheFind (getUser Ex.sC 0) (Ex.rep 1) DNSCACHE_LEN 0).map (fun e => e.answer.take e.answerlen) = some [128, 0] ∧
     (getUser Ex.sC 0).downenc = 84 ∧
     out (runFrom Ex.s0 (Ex.login ++ Ex.pings [1])) ⟨.q (Ex.rep 1), 1003⟩ =
       [Event.ans Ex.src2 300 T_NULL 84 (Ex.pName 1) [128, 0] (.cached 0), Event.sweep] ∧
     ¬ Established Ex.sC 0 ⟨4, 0xc0a80106, 5353⟩ ∧
     Established { Ex.sC with cfg := { Ex.sC.cfg with checkIp := false } } 0 ⟨6, 1, 2⟩ ∧
     Accepted Ex.sC (Ex.mkq (Ex.pNameUpper 1) 300 Ex.src2) 0 ∧
     dnscacheFind (getUser Ex.sC 0) (Ex.mkq (Ex.pNameUpper 1) 300 Ex.src2) DNSCACHE_LEN 0 = none ∧
     QmemHit Ex.sC (Ex.mkq (Ex.pNameUpper 1) 300 Ex.src2) 0) ∧
    -- `sA`: five pings answered
    (Accepted Ex.sA (Ex.rep 1) 0 ∧ dnscacheFind (getUser Ex.sA 0) (Ex.rep 1) DNSCACHE_LEN 0 = none ∧
     QmemHit Ex.sA (Ex.rep 1) 0 ∧
     Accepted Ex.sA (Ex.rep 5) 0 ∧ (dnscacheFind (getUser Ex.sA 0) (Ex.rep 5) DNSCACHE_LEN 0).isSome ∧
     pingPrint Ex.sA.cfg.topdomain (Ex.rep 1) = [0, 0, 0, 1] ∧
     ((fresh 0 (traceFrom Ex.s0 (Ex.login ++ Ex.pings [1, 2, 3, 4, 5]))) =
        [(Ex.pName 5, T_NULL, [128, 0]), (Ex.pName 4, T_NULL, [128, 0]), (Ex.pName 3, T_NULL, [128, 0]),
         (Ex.pName 2, T_NULL, [128, 0]), (Ex.pName 1, T_NULL, [128, 0])] ∧
      ((dnscacheFind (getUser (runFrom Ex.s0 (Ex.login ++ Ex.pings [1, 2, 3, 4, 5])) 0) (Ex.rep 2) DNSCACHE_LEN 0).map
        fun e => e.answer.take e.answerlen) = some [128, 0] ∧
      dnscacheFind (getUser (runFrom Ex.s0 (Ex.login ++ Ex.pings [1, 2, 3, 4, 5])) 0) (Ex.rep 1) DNSCACHE_LEN 0 = none) ∧
     ((freshPings 0 (traceFrom Ex.s0 (Ex.login ++ Ex.pings [1, 2, 3, 4, 5]))).length = 5 ∧
      (freshPings 0 (traceFrom Ex.s0 (Ex.login ++ Ex.pings [1, 2, 3, 4, 5])))[4]? = some ([0, 0, 0, 1], T_NULL) ∧
      Remembered (getUser (runFrom Ex.s0 (Ex.login ++ Ex.pings [1, 2, 3, 4, 5])) 0).qmemping T_NULL [0, 0, 0, 1])) ∧
    -- `sL`: lazy mode, one ping held
    (Accepted Ex.sL (Ex.rep 1) 0 ∧ dnscacheFind (getUser Ex.sL 0) (Ex.rep 1) DNSCACHE_LEN 0 = none ∧
     ¬ QmemHit Ex.sL (Ex.rep 1) 0 ∧ PendingInQ Ex.sL (Ex.rep 1) 0 ∧
     (dispatch Ex.sL (.q (Ex.rep 1)) true).2 = [] ∧
     (getUser (dispatch Ex.sL (.q (Ex.rep 1)) true).1 0).q.id2 = 300 ∧
     (getUser (dispatch Ex.sL (.q (Ex.rep 1)) true).1 0).q.from2 = Ex.src2) ∧
    -- two data queries answered; the upper-cased repeat of the first
    (freshDatas 0 (traceFrom Ex.s0 (Ex.login ++ Ex.datas [2, 4])) =
       [([101, 97, 97, 101], T_NULL), ([101, 97, 97, 99], T_NULL)] ∧
     Remembered (getUser (runFrom Ex.s0 (Ex.login ++ Ex.datas [2, 4])) 0).qmemdata T_NULL
       (dataPrint (ascii "0EAACmfrgg.t.ex")) ∧
     Accepted (afterSelect (runFrom Ex.s0 (Ex.login ++ Ex.datas [2, 4])) 1003)
       (Ex.mkq (ascii "0EAACmfrgg.t.ex") 300 Ex.src2) 0 ∧
     QmemHit (afterSelect (runFrom Ex.s0 (Ex.login ++ Ex.datas [2, 4])) 1003)
       (Ex.mkq (ascii "0EAACmfrgg.t.ex") 300 Ex.src2) 0) := by
  decide +kernel

theorem tunnelType_iff (t : Nat) : TunnelType t ↔ C16L.TunnelType t := Iff.rfl

theorem check_of_established {s : Srv} {u : Nat} {q : Query} (h : Established s u q.from_) :
    checkAuthenticatedUserAndIp s (u : Int) q = false := by
  obtain ⟨h1, h2, h3, h4, h5, h6⟩ := h
  have hc : checkUserAndIp s (u : Int) q = false :=
    (C04L.checkUserAndIp_eq_false_iff s u q).mpr ⟨Int.natCast_nonneg u, by omega, h2, h3,
      (by omega : ¬ (getUser s u).lastPkt + 60 < s.now), fun hc =>
      ⟨(h6 hc).1, (h6 hc).2.2.symm, (h6 hc).2.1⟩⟩
  unfold checkAuthenticatedUserAndIp
  simp [hc, h5]

theorem isHexDigit_of_isData {name : List Nat} (h : IsData name) : isHexDigit (name.getD 0 0) = true := by
  unfold IsData at h
  unfold isHexDigit
  simp only [Bool.or_eq_true, Bool.and_eq_true, decide_eq_true_eq]
  omega

theorem dataPrint_eq (name : List Nat) : dataPrint name = dataCmc name := by
  simp [dataPrint, dataCmc, lower, List.range, List.range.loop]

/-- what the handler phase does with an accepted query: the duplicate filters of the ping or data handler -/
theorem dispatch_accepted {s : Srv} {q : Query} {u : Nat} (tunsel : Bool) (ha : Accepted s q u) :
    (IsPing q.name ∧ dispatch s (.q q) tunsel = C16L.pingFilters s u q (pingBytes s.cfg.topdomain q)) ∨
    (IsData q.name ∧ dispatch s (.q q) tunsel
        = C16L.dataFilters s u q (q.name.take (min (dlen s.cfg.topdomain q) 512))) := by
  obtain ⟨hid, ht, hd, hest, hk⟩ := ha
  have hchk := check_of_established hest
  obtain ⟨d, hd'⟩ := Option.isSome_iff_exists.mp hd
  have hdl : dlen s.cfg.topdomain q = d := by simp [dlen, hd']
  rcases hk with ⟨hp, h2, h4, hu⟩ | ⟨hdat, h6, hu⟩
  · left
    refine ⟨hp, ?_⟩
    show tunnelDns s q = _
    rw [C16L.tunnelDns_null s q d hd' ht (by unfold IsPing at hp; omega), handleNullRequest_eq, if_neg (by omega),
      letterOf_of_codes (l := .P) (by rw [C04L.inbOf_getD _ _ 0 (by omega)]; exact hp)]
    show handlePing s q (q.name.take (min d 512)) = _
    unfold pingBytes at h4 hu ⊢
    rw [hdl] at h4 hu ⊢
    exact C16L.handlePing_accepted s q _ u hid h4 hu hchk
  · right
    refine ⟨hdat, ?_⟩
    show tunnelDns s q = _
    have hx := isHexDigit_of_isData hdat
    rw [C16L.tunnelDns_null s q d hd' ht (by unfold IsData at hdat; omega), handleNullRequest_eq, if_neg (by omega),
      letterOf_of_codes (l := .D) (by rw [C04L.inbOf_getD _ _ 0 (by omega)]; exact hx), hdl]
    show handleData s q d (q.name.take (min d 512)) = _
    refine C16L.handleData_accepted s q d _ u hid (by omega) ?_ hchk
    rw [getD_take_lt _ _ 0 (by omega)]
    exact hu

/-- **Cache hit.**  If the answer cache of session `u` holds an answer for the name and type of the accepted
query `q`, the handler phase sends exactly one answer — to `q`'s own address and id, carrying the cached
payload — and changes nothing at all in the server state (no session, not only `stream`): nothing is appended
upstream, the downstream stream neither advances nor rewinds, nothing is written to the tun device. -/
theorem cache_hit_is_stutter {s : Srv} {q : Query} {u : Nat} (tunsel : Bool) {e : DnsCacheEntry}
    (ha : Accepted s q u) (hc : dnscacheFind (getUser s u) q DNSCACHE_LEN 0 = some e) :
    dispatch s (.q q) tunsel =
      (s, [Event.ans q.from_ q.id q.type (getUser s u).downenc q.name (e.answer.take e.answerlen) (.cached u)]) := by
  rcases dispatch_accepted tunsel ha with ⟨_, h⟩ | ⟨_, h⟩
  · rw [h]; unfold C16L.pingFilters answerFromDnscache; simp only [hc]; rfl
  · rw [h]; unfold C16L.dataFilters answerFromDnscache; simp only [hc]; rfl

/-- non-vacuity: the repeat of ping 1 (new id, other port) is accepted for slot 0, hits the cache, and the handler
phase answers it with the cached payload `80 00` and leaves the state alone -/
example : Accepted Ex.sC (Ex.rep 1) 0 ∧ (dnscacheFind (getUser Ex.sC 0) (Ex.rep 1) DNSCACHE_LEN 0).isSome ∧
    dispatch Ex.sC (.q (Ex.rep 1)) true
      = (Ex.sC, [Event.ans Ex.src2 300 T_NULL 84 (Ex.pName 1) [128, 0] (.cached 0)]) := by
  obtain ⟨ha, hf, hdn, -⟩ := Ex.evaluated.1
  obtain ⟨e, he, hp⟩ := Option.map_eq_some_iff.mp hf
  refine ⟨ha, by rw [he]; rfl, ?_⟩
  rw [cache_hit_is_stutter true ha he, hdn, show e.answer.take e.answerlen = [128, 0] from hp]
  rfl

theorem remembered_iff (mem : List QmemEntry) (t : Nat) (cmc : List Nat) :
    Remembered mem t cmc ↔ (mem.any fun e => e.type != T_UNSET && e.type == t && e.cmc == cmc) = true := by
  unfold Remembered
  simp only [List.any_eq_true, Bool.and_eq_true, bne_iff_ne, ne_eq, beq_iff_eq]
  constructor
  · rintro ⟨e, he, h1, h2, h3⟩; exact ⟨e, he, ⟨h1, h2⟩, h3⟩
  · rintro ⟨e, he, ⟨h1, h2⟩, h3⟩; exact ⟨e, he, h1, h2, h3⟩

/-- **Query-memory hit.**  No cache hit, but the query memory of session `u` recognises the fingerprint of
`q`: exactly one answer, the (illegal) one-byte answer "x" in Base32 (`T`) to `q`'s own address and id, and
the server state is unchanged. -/
theorem qmem_hit_is_stutter {s : Srv} {q : Query} {u : Nat} (tunsel : Bool)
    (ha : Accepted s q u) (hc : dnscacheFind (getUser s u) q DNSCACHE_LEN 0 = none) (hq : QmemHit s q u) :
    dispatch s (.q q) tunsel = (s, [Event.ans q.from_ q.id q.type 84 q.name [120] (.qmem u)]) := by
  have excl : IsPing q.name → IsData q.name → False := by
    unfold IsPing IsData; intro a b; omega
  rcases dispatch_accepted tunsel ha with ⟨hp, h⟩ | ⟨hd, h⟩
  · rcases hq with ⟨_, hr⟩ | ⟨hd, _⟩
    · rw [h]; unfold C16L.pingFilters answerFromDnscache answerFromQmem
      simp only [hc]
      unfold pingPrint at hr
      rw [if_pos ((remembered_iff _ _ _).mp hr)]
      rfl
    · exact (excl hp hd).elim
  · rcases hq with ⟨hp, _⟩ | ⟨_, hr⟩
    · exact (excl hp hd).elim
    · rw [h]; unfold C16L.dataFilters answerFromDnscache answerFromQmemData answerFromQmem
      simp only [hc]
      rw [dataPrint_eq] at hr
      rw [if_pos ((remembered_iff _ _ _).mp hr)]
      rfl

/-- non-vacuity: after four more pings the repeat of ping 1 misses the cache and is recognised by the ping memory -/
example : Accepted Ex.sA (Ex.rep 1) 0 ∧ dnscacheFind (getUser Ex.sA 0) (Ex.rep 1) DNSCACHE_LEN 0 = none ∧
    QmemHit Ex.sA (Ex.rep 1) 0 ∧
    dispatch Ex.sA (.q (Ex.rep 1)) true = (Ex.sA, [Event.ans Ex.src2 300 T_NULL 84 (Ex.pName 1) [120] (.qmem 0)]) := by
  obtain ⟨ha, hf, hq, -⟩ := Ex.evaluated.2.1
  exact ⟨ha, hf, hq, qmem_hit_is_stutter true ha hf hq⟩

theorem filters_pending {s : Srv} {q : Query} {u : Nat}
    (hp : PendingInQ s q u ∨ PendingInQs s q u) :
    rememberDuplicate s u q = some (setUser s u (noteInQ q)) ∧ PendingInQ s q u ∨
    rememberDuplicate s u q = some (setUser s u (noteInQs q)) ∧ ¬ PendingInQ s q u := by
  by_cases h1 : PendingInQ s q u
  · left
    refine ⟨?_, h1⟩
    obtain ⟨a, b, c, d⟩ := h1
    unfold rememberDuplicate
    simp only []
    rw [if_pos ⟨a, b.symm, c.symm, d⟩]
    rfl
  · right
    refine ⟨?_, h1⟩
    rcases hp with hp | hp
    · exact (h1 hp).elim
    · obtain ⟨a, b, c⟩ := hp
      unfold rememberDuplicate
      simp only []
      rw [if_neg (fun h => h1 ⟨h.1, h.2.1.symm, h.2.2.1.symm, h.2.2.2⟩), if_pos ⟨a, b.symm, c.symm⟩]
      rfl

/-- **Pending duplicate.**  No cache hit, no query-memory hit, and the same name and type are held unanswered
in `q` (lazy mode) or in `q_sendrealsoon`: the handler phase sends nothing, and the only change to the server
state is that `id2`/`from2` of the held query of session `u` now name the repeat (so that the eventual answer
is sent to both).  In particular `stream` is unchanged for every session and every other session is unchanged
altogether. -/
theorem pending_duplicate_is_stutter {s : Srv} {q : Query} {u : Nat} (tunsel : Bool)
    (ha : Accepted s q u) (hc : dnscacheFind (getUser s u) q DNSCACHE_LEN 0 = none) (hq : ¬ QmemHit s q u)
    (hp : PendingInQ s q u ∨ PendingInQs s q u) :
    (dispatch s (.q q) tunsel).2 = [] ∧
    (PendingInQ s q u → (dispatch s (.q q) tunsel).1 = setUser s u (noteInQ q)) ∧
    (¬ PendingInQ s q u → (dispatch s (.q q) tunsel).1 = setUser s u (noteInQs q)) ∧
    (∀ v, stream (getUser (dispatch s (.q q) tunsel).1 v) = stream (getUser s v)) ∧
    (∀ v, v ≠ u → getUser (dispatch s (.q q) tunsel).1 v = getUser s v) := by
  have key : dispatch s (.q q) tunsel = (setUser s u (noteInQ q), []) ∧ PendingInQ s q u ∨
      dispatch s (.q q) tunsel = (setUser s u (noteInQs q), []) ∧ ¬ PendingInQ s q u := by
    have hrd := filters_pending hp
    rcases dispatch_accepted tunsel ha with ⟨hpi, h⟩ | ⟨hd, h⟩
    · have hnq : answerFromQmem q (getUser s u).qmemping ((pingBytes s.cfg.topdomain q).take 4) u = none := by
        unfold answerFromQmem
        rw [if_neg]
        intro hh
        exact hq (Or.inl ⟨hpi, (remembered_iff _ _ _).mpr hh⟩)
      rw [h]; unfold C16L.pingFilters answerFromDnscache
      simp only [hc, hnq]
      rcases hrd with ⟨e, p⟩ | ⟨e, p⟩
      · left; rw [e]; exact ⟨rfl, p⟩
      · right; rw [e]; exact ⟨rfl, p⟩
    · have hnq : answerFromQmemData s u q = none := by
        unfold answerFromQmemData answerFromQmem
        rw [if_neg]
        intro hh
        refine hq (Or.inr ⟨hd, ?_⟩)
        rw [dataPrint_eq]
        exact (remembered_iff _ _ _).mpr hh
      rw [h]; unfold C16L.dataFilters answerFromDnscache
      simp only [hc, hnq]
      rcases hrd with ⟨e, p⟩ | ⟨e, p⟩
      · left; rw [e]; exact ⟨rfl, p⟩
      · right; rw [e]; exact ⟨rfl, p⟩
  -- a write to slot `u` that leaves `stream` alone
  have tail : ∀ f : Session → Session, (∀ x, stream (f x) = stream x) →
      (∀ v, stream (getUser (setUser s u f) v) = stream (getUser s v)) ∧
      (∀ v, v ≠ u → getUser (setUser s u f) v = getUser s v) := fun f hf =>
    ⟨fun v => by
      rw [C04L.getUser_setUser]
      split
      · rename_i h; rw [h.1]; exact hf _
      · rfl, fun v hv => C04L.getUser_setUser_ne s u _ v hv⟩
  rcases key with ⟨e, p⟩ | ⟨e, p⟩
  · rw [e]; exact ⟨rfl, fun _ => rfl, fun h => (h p).elim, tail _ fun _ => rfl⟩
  · rw [e]; exact ⟨rfl, fun h => (p h).elim, fun _ => rfl, tail _ fun _ => rfl⟩

/-- non-vacuity: in lazy mode the ping is held in `q`; its repeat is neither in the cache nor in the ping memory,
is recognised as pending, produces no event and is noted in `id2`/`from2` -/
example : Accepted Ex.sL (Ex.rep 1) 0 ∧ dnscacheFind (getUser Ex.sL 0) (Ex.rep 1) DNSCACHE_LEN 0 = none ∧
    ¬ QmemHit Ex.sL (Ex.rep 1) 0 ∧ PendingInQ Ex.sL (Ex.rep 1) 0 ∧
    (dispatch Ex.sL (.q (Ex.rep 1)) true).2 = [] ∧
    (getUser (dispatch Ex.sL (.q (Ex.rep 1)) true).1 0).q.id2 = 300 ∧
    (getUser (dispatch Ex.sL (.q (Ex.rep 1)) true).1 0).q.from2 = Ex.src2 :=
  Ex.evaluated.2.2.1

theorem isVack_eq (u : Nat) (ev : Event) : C16L.isVack u ev = handsOutSlot u ev := by
  unfold C16L.isVack handsOutSlot
  rw [ascii_VACK]
  rfl

theorem isNack_eq (td : List Nat) (u : Nat) (inp : Input) (ev : Event) :
    C16L.isNack td u inp ev = acceptsFragsize td u inp ev := rfl

theorem monStep_cache (td : List Nat) (u : Nat) (inp : Input) (m : C16L.Mon) (ev : Event) :
    (C16L.monStep td u inp m ev).cache = freshStep td u inp m.cache ev := by
  unfold C16L.monStep freshStep
  rw [isVack_eq, isNack_eq]
  cases handsOutSlot u ev <;> cases acceptsFragsize td u inp ev <;>
    simp only [Bool.false_eq_true, if_false, if_true, Bool.or_self, Bool.or_true, Bool.or_false, C16L.Mon.empty]
  cases ev with
  | ans dst id t dn n d tag =>
    cases tag with
    | chunk v => by_cases h : v = u <;> simp [h, C16L.Mon.push]
    | _ => rfl
  | _ => rfl

/-- a component of the monitor that follows a step function of its own, over a whole trace -/
theorem monTrace_proj {α : Type} (u : Nat) (π : C16L.Mon → α) (g : TraceStep → α → Event → α)
    (hg : ∀ (t : TraceStep) m ev, π (C16L.monStep t.pre.cfg.topdomain u t.step.inp m ev) = g t (π m) ev)
    (tr : List TraceStep) :
    ∀ m : C16L.Mon, π (C16L.monTrace u m tr) = tr.foldl (fun l t => t.events.foldl (g t) l) (π m) := by
  induction tr with
  | nil => intro m; rfl
  | cons t rest ih =>
    intro m
    simp only [C16L.monTrace, List.foldl_cons] at ih ⊢
    rw [ih]
    congr 1
    generalize t.events = evs
    induction evs generalizing m with
    | nil => rfl
    | cons e es ih2 =>
      simp only [C16L.monEvents, List.foldl_cons] at ih2 ⊢
      rw [ih2, hg]

/-- the invariant behind `cache_holds_last_four`: after any run from a reachable state, the `i`-th most recent
cache slot (`i < 4`) of session `u` holds the `i`-th most recent fresh answer of the run — its name, type and
payload, with a non-zero id and length, i.e. valid for the lookup. -/
theorem cache_slot_holds_fresh {cfg : Config} {s : Srv} (hr : Reachable cfg s) (steps : List Step)
    (u : Nat) (hu : u < s.users.length) (i : Nat) (hi : i < DNSCACHE_LEN) (n : List Nat) (t : Nat) (p : List Nat)
    (hl : (fresh u (traceFrom s steps))[i]? = some (n, t, p)) :
    let e := C16L.cacheAt (getUser (runFrom s steps) u) i
    e.q.name = n ∧ e.q.type = t ∧ e.q.id ≠ 0 ∧ e.answerlen ≠ 0 ∧ e.answer.take e.answerlen = p := by
  have hk := C16L.K_run u steps C16L.Mon.empty s (C16L.K_reachable hr u hu)
  obtain ⟨_, ⟨_, _, hc⟩, _, _⟩ := hk
  rw [monTrace_proj u (·.cache) _ (fun t m ev => monStep_cache _ u _ m ev)] at hc
  exact hc i hi n t p hl

/-- **The cache holds the last four fresh answers.**  After any run (any inputs, any clock) from a reachable
state, each of the (up to) four most recent fresh answers of session `u` since its cache was last emptied, whose
name and type were not used again by a more recent fresh answer, is found by the cache lookup for any query with
that name and type — whatever its id and source address — and the entry found carries exactly the payload that
was sent. -/
theorem cache_holds_last_four {cfg : Config} {s : Srv} (hr : Reachable cfg s) (steps : List Step)
    (u : Nat) (hu : u < s.users.length) (i : Nat) (hi : i < DNSCACHE_LEN) (n : List Nat) (t : Nat) (p : List Nat)
    (hl : (fresh u (traceFrom s steps))[i]? = some (n, t, p))
    (hlast : ∀ j n' t' p', j < i → (fresh u (traceFrom s steps))[j]? = some (n', t', p') → ¬ (n' = n ∧ t' = t))
    (q : Query) (hn : q.name = n) (ht : q.type = t) :
    ∃ e, dnscacheFind (getUser (runFrom s steps) u) q DNSCACHE_LEN 0 = some e ∧
      e.answer.take e.answerlen = p := by
  have hit := cache_slot_holds_fresh hr steps u hu i hi n t p hl
  simp only [] at hit
  refine ⟨C16L.cacheAt (getUser (runFrom s steps) u) i, ?_, hit.2.2.2.2⟩
  refine C16L.dnscacheFind_at _ q i ?_ ⟨hit.2.2.1, hit.2.2.2.1, by rw [hit.2.1, ht], by rw [hit.1, hn]⟩
    DNSCACHE_LEN 0 (Nat.zero_le _) (by omega)
  intro j hj
  have hjl : j < (fresh u (traceFrom s steps)).length := by
    have := (List.getElem?_eq_some_iff.mp hl).1
    omega
  rcases hjv : (fresh u (traceFrom s steps))[j] with ⟨n', t', p'⟩
  have hj' : (fresh u (traceFrom s steps))[j]? = some (n', t', p') := by
    rw [List.getElem?_eq_getElem hjl, hjv]
  have hs := cache_slot_holds_fresh hr steps u hu j (by omega) n' t' p' hj'
  simp only [] at hs
  have hne := hlast j n' t' p' hj hj'
  by_cases hnn : n' = n
  · right; right; left
    rw [hs.2.1, ht]
    exact fun h => hne ⟨hnn, h⟩
  · right; right; right
    rw [hs.1, hn]
    exact hnn

/-- non-vacuity (and sharpness of "four"): after five answered pings the fresh list is ping 5 … ping 1; pings 5 … 2
are found with their payload, ping 1 is no longer in the cache -/
example : (fresh 0 (traceFrom Ex.s0 (Ex.login ++ Ex.pings [1, 2, 3, 4, 5]))) =
      [(Ex.pName 5, T_NULL, [128, 0]), (Ex.pName 4, T_NULL, [128, 0]), (Ex.pName 3, T_NULL, [128, 0]),
       (Ex.pName 2, T_NULL, [128, 0]), (Ex.pName 1, T_NULL, [128, 0])] ∧
    ((dnscacheFind (getUser (runFrom Ex.s0 (Ex.login ++ Ex.pings [1, 2, 3, 4, 5])) 0) (Ex.rep 2) DNSCACHE_LEN 0).map
      fun e => e.answer.take e.answerlen) = some [128, 0] ∧
    dnscacheFind (getUser (runFrom Ex.s0 (Ex.login ++ Ex.pings [1, 2, 3, 4, 5])) 0) (Ex.rep 1) DNSCACHE_LEN 0 = none :=
  Ex.evaluated.2.1.2.2.2.2.2.2.1

/-- **A cache hit replays exactly the original payload.**  Take any run from a reachable state and one of the
(up to) four most recent fresh answers of session `u` — name `n`, type `t`, payload `p` — whose name and type
were not used again since.  If the next datagram is an accepted query of session `u` with that name and type
(any id, any allowed source address), the iteration's first event is the answer to it, tagged as a replay from
the cache, and its payload is `p`; then comes the sweep. -/
theorem cache_replay_same_payload {cfg : Config} {s : Srv} (hr : Reachable cfg s) (steps : List Step)
    (u : Nat) (hu : u < s.users.length) (i : Nat) (hi : i < DNSCACHE_LEN) (n : List Nat) (t : Nat) (p : List Nat)
    (hl : (fresh u (traceFrom s steps))[i]? = some (n, t, p))
    (hlast : ∀ j n' t' p', j < i → (fresh u (traceFrom s steps))[j]? = some (n', t', p') → ¬ (n' = n ∧ t' = t))
    (q : Query) (hn : q.name = n) (ht : q.type = t) (now' : Nat)
    (ha : Accepted (afterSelect (runFrom s steps) now') q u) :
    ∃ rest, out (runFrom s steps) ⟨.q q, now'⟩ =
      Event.ans q.from_ q.id q.type (getUser (runFrom s steps) u).downenc q.name p (.cached u)
        :: Event.sweep :: rest := by
  obtain ⟨e, he, hp⟩ := cache_holds_last_four hr steps u hu i hi n t p hl hlast q hn ht
  obtain ⟨b, hb⟩ := getUser_handlerPhase (runFrom s steps) now' u
  have hb : getUser (afterSelect (runFrom s steps) now') u = { getUser (runFrom s steps) u with qsNew := b } := hb
  have he' : dnscacheFind (getUser (afterSelect (runFrom s steps) now') u) q DNSCACHE_LEN 0 = some e := by
    rw [← he, hb]
    exact C16L.dnscacheFind_session _ _ q rfl rfl _ _
  have hd := cache_hit_is_stutter (topOfLoop (runFrom s steps)).2.2 ha he'
  have hdn : (getUser (afterSelect (runFrom s steps) now') u).downenc = (getUser (runFrom s steps) u).downenc := by
    rw [hb]
  refine ⟨(sweep (afterSelect (runFrom s steps) now')).2, ?_⟩
  show (andThen (andThen (dispatch (afterSelect (runFrom s steps) now') (.q q) (topOfLoop (runFrom s steps)).2.2)
    (fun s => (s, [Event.sweep]))) sweep).2 = _
  rw [hd, hp, hdn]
  rfl

/-- non-vacuity: the iteration that receives the repeat of ping 1 right after the original -/
example : Accepted (afterSelect (runFrom Ex.s0 (Ex.login ++ Ex.pings [1])) 1003) (Ex.rep 1) 0 ∧
    out (runFrom Ex.s0 (Ex.login ++ Ex.pings [1])) ⟨.q (Ex.rep 1), 1003⟩ =
      [Event.ans Ex.src2 300 T_NULL 84 (Ex.pName 1) [128, 0] (.cached 0), Event.sweep] :=
  ⟨Ex.evaluated.1.1, Ex.evaluated.1.2.2.2.1⟩

theorem isPingName_iff (n : List Nat) : C16L.isPingName n = true ↔ IsPing n := by
  unfold C16L.isPingName IsPing
  simp

/-- the two query-memory components of the monitor follow the specification's step functions -/
theorem monStep_mem (td : List Nat) (u : Nat) (inp : Input) (m : C16L.Mon) (ev : Event) :
    (C16L.monStep td u inp m ev).ping = freshPingStep u m.ping ev ∧
    (C16L.monStep td u inp m ev).data = freshDataStep u m.data ev := by
  cases ev
  case ans dst id t dn n d tag =>
    cases tag
    case chunk v =>
      rw [C16L.monStep_chunk]
      show _ = (if v = u ∧ IsPing n then _ else _) ∧ _ = (if v = u ∧ ¬ IsPing n ∧ 5 ≤ n.length then _ else _)
      by_cases h : v = u
      · rw [if_pos h]
        by_cases hp : IsPing n
        · rw [if_pos ⟨h, hp⟩, if_neg (fun x => x.2.1 hp)]
          exact ⟨if_pos ((isPingName_iff n).mpr hp), if_pos ((isPingName_iff n).mpr hp)⟩
        · have hp' : ¬ C16L.isPingName n = true := fun x => hp ((isPingName_iff n).mp x)
          rw [if_neg (fun x => hp x.2)]
          refine ⟨if_neg hp', ?_⟩
          show (if C16L.isPingName n = true then _ else _) = _
          rw [if_neg hp']
          by_cases hl : n.length < 5
          · rw [if_pos hl, if_neg (fun x => by omega)]
          · rw [if_neg hl, if_pos ⟨h, hp, by omega⟩, dataPrint_eq]
      · rw [if_neg h, if_neg (fun x => h x.1), if_neg (fun x => h x.1)]; exact ⟨rfl, rfl⟩
    -- no fresh answer: both sides are emptied by a VACK for the slot and else unchanged
    all_goals
      unfold C16L.monStep freshPingStep freshDataStep
      rw [isVack_eq]
      cases handsOutSlot u _
      · cases C16L.isNack td u inp _ <;> exact ⟨rfl, rfl⟩
      · exact ⟨rfl, rfl⟩
  all_goals
    unfold C16L.monStep freshPingStep freshDataStep
    rw [isVack_eq]
    cases handsOutSlot u _
    · cases C16L.isNack td u inp _ <;> exact ⟨rfl, rfl⟩
    · exact ⟨rfl, rfl⟩

theorem remembered_of_ring (mem : List QmemEntry) (last L i : Nat) (c : List Nat) (t : Nat)
    (hlen : mem.length = L) (hlast : last < L) (hi : i < L)
    (h : mem.getD (C16L.ringPos L last i) QmemEntry.zero = ⟨c, t⟩) (ht : t ≠ T_UNSET) :
    Remembered mem t c := by
  have hp := C16L.ringPos_lt L last i hlast hi
  refine ⟨⟨c, t⟩, ?_, ht, rfl, rfl⟩
  rw [← h, List.getD_eq_getElem?_getD, List.getElem?_eq_getElem (by omega)]
  simp

/-- **The data query memory holds the last 15 fresh data answers.**  After any run from a reachable state, the
fingerprint of each of the (up to) `QMEMDATA_LEN = 15` most recent fresh data answers of session `u` since the
slot was handed out is remembered (for its query type; no query type the server accepts is `T_UNSET`). -/
theorem qmem_holds_recent_data {cfg : Config} {s : Srv} (hr : Reachable cfg s) (steps : List Step)
    (u : Nat) (hu : u < s.users.length) (i : Nat) (hi : i < QMEMDATA_LEN) (c : List Nat) (t : Nat)
    (hl : (freshDatas u (traceFrom s steps))[i]? = some (c, t)) (ht : t ≠ T_UNSET) :
    Remembered (getUser (runFrom s steps) u).qmemdata t c := by
  have hk := C16L.K_run u steps C16L.Mon.empty s (C16L.K_reachable hr u hu)
  obtain ⟨_, _, _, ⟨h1, h2, h3⟩⟩ := hk
  rw [monTrace_proj u (·.data) _ (fun t m ev => (monStep_mem _ u _ m ev).2)] at h3
  exact remembered_of_ring _ _ _ i c t h1 h2 hi (h3 i hi c t hl) ht

/-- non-vacuity: two answered data queries; the fingerprint of the first is remembered, also for a repeat whose
header characters arrive in upper case -/
example : freshDatas 0 (traceFrom Ex.s0 (Ex.login ++ Ex.datas [2, 4])) =
      [([101, 97, 97, 101], T_NULL), ([101, 97, 97, 99], T_NULL)] ∧
    Remembered (getUser (runFrom Ex.s0 (Ex.login ++ Ex.datas [2, 4])) 0).qmemdata T_NULL
      (dataPrint (ascii "0EAACmfrgg.t.ex")) :=
  ⟨Ex.evaluated.2.2.2.1, Ex.evaluated.2.2.2.2.1⟩

/-- **The ping query memory holds the last 30 stored ping fingerprints.** -/
theorem qmem_holds_recent_ping {cfg : Config} {s : Srv} (hr : Reachable cfg s) (steps : List Step)
    (u : Nat) (hu : u < s.users.length) (i : Nat) (hi : i < QMEMPING_LEN) (c : List Nat) (t : Nat)
    (hl : (freshPings u (traceFrom s steps))[i]? = some (c, t)) (ht : t ≠ T_UNSET) :
    Remembered (getUser (runFrom s steps) u).qmemping t c := by
  have hk := C16L.K_run u steps C16L.Mon.empty s (C16L.K_reachable hr u hu)
  obtain ⟨_, _, ⟨h1, h2, h3⟩, _⟩ := hk
  rw [monTrace_proj u (·.ping) _ (fun t m ev => (monStep_mem _ u _ m ev).1)] at h3
  exact remembered_of_ring _ _ _ i c t h1 h2 hi (h3 i hi c t hl) ht

/-- non-vacuity: five answered pings, five stored fingerprints; the oldest is remembered -/
example : (freshPings 0 (traceFrom Ex.s0 (Ex.login ++ Ex.pings [1, 2, 3, 4, 5]))).length = 5 ∧
    (freshPings 0 (traceFrom Ex.s0 (Ex.login ++ Ex.pings [1, 2, 3, 4, 5])))[4]? = some ([0, 0, 0, 1], T_NULL) ∧
    Remembered (getUser (runFrom Ex.s0 (Ex.login ++ Ex.pings [1, 2, 3, 4, 5])) 0).qmemping T_NULL [0, 0, 0, 1] :=
  Ex.evaluated.2.1.2.2.2.2.2.2.2

theorem tunnelType_ne_unset {t : Nat} (h : TunnelType t) : t ≠ T_UNSET := by
  unfold TunnelType at h
  rcases h with h | h | h | h | h | h | h <;> rw [h] <;> decide

/-- `qmem_holds_recent`, for a re-delivered data query: if the repeat `q` (accepted in state `s'`, whose
session `u` has the query memories of the final state of the run) has the type and the fingerprint of one of the
last 15 fresh data answers, the query-memory check recognises it. -/
theorem qmem_holds_recent {cfg : Config} {s : Srv} (hr : Reachable cfg s) (steps : List Step)
    (u : Nat) (hu : u < s.users.length) (q : Query) (s' : Srv)
    (hmem : (getUser s' u).qmemdata = (getUser (runFrom s steps) u).qmemdata ∧
            (getUser s' u).qmemping = (getUser (runFrom s steps) u).qmemping)
    (ha : Accepted s' q u) :
    (IsData q.name → ∀ i, i < QMEMDATA_LEN →
      (freshDatas u (traceFrom s steps))[i]? = some (dataPrint q.name, q.type) → QmemHit s' q u) ∧
    (IsPing q.name → ∀ i, i < QMEMPING_LEN →
      (freshPings u (traceFrom s steps))[i]? = some (pingPrint s'.cfg.topdomain q, q.type) → QmemHit s' q u) := by
  have ht := tunnelType_ne_unset ha.2.1
  constructor
  · intro hd i hi hl
    right
    refine ⟨hd, ?_⟩
    rw [hmem.1]
    exact qmem_holds_recent_data hr steps u hu i hi _ _ hl ht
  · intro hp i hi hl
    left
    refine ⟨hp, ?_⟩
    rw [hmem.2]
    exact qmem_holds_recent_ping hr steps u hu i hi _ _ hl ht

/-- non-vacuity: the upper-cased repeat of the first of two answered data queries is accepted in the next iteration,
its fingerprint is the second-most-recent one, and the query-memory check recognises it -/
example : Accepted (afterSelect (runFrom Ex.s0 (Ex.login ++ Ex.datas [2, 4])) 1003)
      (Ex.mkq (ascii "0EAACmfrgg.t.ex") 300 Ex.src2) 0 ∧
    (freshDatas 0 (traceFrom Ex.s0 (Ex.login ++ Ex.datas [2, 4])))[1]?
      = some (dataPrint (ascii "0EAACmfrgg.t.ex"), T_NULL) ∧
    QmemHit (afterSelect (runFrom Ex.s0 (Ex.login ++ Ex.datas [2, 4])) 1003)
      (Ex.mkq (ascii "0EAACmfrgg.t.ex") 300 Ex.src2) 0 := by
  obtain ⟨hf, -, ha, hq⟩ := Ex.evaluated.2.2.2
  exact ⟨ha, by rw [hf]; decide, hq⟩

/-- **The exact condition for pings.**  The fingerprint stored for an answered ping name is computed from the
first label only, the one the handler checks from the whole data part with the dots removed.  Whenever a
fingerprint was stored at all — the name has a dot and the characters between the `P` and the first dot (up to a
NUL) decode to at least four bytes, i.e. there are at least 7 of them — it IS the fingerprint the handler
computes for an accepted query with that name (of at most 512 characters; DNS names have at most 255). -/
theorem ping_repeat_fingerprint {s : Srv} {q : Query} {u : Nat} (ha : Accepted s q u) (hp : IsPing q.name)
    (hlen : q.name.length ≤ 512) {c : List Nat} (hs : savedPingPrint q.name = some c) :
    pingPrint s.cfg.topdomain q = c := by
  obtain ⟨_, _, hd, _, hk⟩ := ha
  obtain ⟨d, hd'⟩ := Option.isSome_iff_exists.mp hd
  have hdl : dlen s.cfg.topdomain q = d := by simp [dlen, hd']
  have h2 : 2 ≤ d := by
    rcases hk with ⟨_, h2, _⟩ | ⟨hdat, _⟩
    · omega
    · exfalso; unfold IsPing at hp; unfold IsData at hdat; omega
  unfold savedPingPrint at hs
  cases hcp : q.name.idxOf? 46 with
  | none => rw [hcp] at hs; cases hs
  | some cp =>
    rw [hcp] at hs
    simp only [] at hs
    have h1 := C16L.first_dot_in_datalen q.name _ d cp hd' (by omega) hcp
    have h3 : cp < q.name.length := (List.idxOf?_eq_some_iff.mp hcp).1
    unfold pingPrint pingBytes
    rw [hdl]
    exact C16L.pingPrint_eq_saved q.name d cp c hcp (by omega) hs

/-- non-vacuity: the ping names of the run have a 7-character first label, a fingerprint is stored, and it is the
one the handler computes for the repeat; a name with a 6-character first label gets no fingerprint -/
example : savedPingPrint (Ex.pName 1) = some [0, 0, 0, 1] ∧ pingPrint Ex.sA.cfg.topdomain (Ex.rep 1) = [0, 0, 0, 1] ∧
    savedPingPrint (ascii "paaaaaa.i.t.ex") = none :=
  ⟨by decide +kernel, Ex.evaluated.2.1.2.2.2.2.2.1, by decide +kernel⟩

/-! ### (B) any number of re-deliveries, in any order

Stated for the handler phase (`dispatch`): between two datagrams the real loop also runs its sweep, which may
legitimately send the next chunk to a query held in `q_sendrealsoon` — that is progress of the transfer, not a
reaction to the repeat. -/

theorem recognised_is_stutter {s : Srv} {q : Query} {u : Nat} (tunsel : Bool) (h : Recognised s q u) :
    (∀ v, stream (getUser (dispatch s (.q q) tunsel).1 v) = stream (getUser s v)) ∧
    (∀ ev ∈ (dispatch s (.q q) tunsel).2, IsReplay q u ev) := by
  obtain ⟨ha, hc⟩ := h
  cases hf : dnscacheFind (getUser s u) q DNSCACHE_LEN 0 with
  | some e =>
    rw [cache_hit_is_stutter tunsel ha hf]
    refine ⟨fun _ => rfl, ?_⟩
    intro ev hev
    simp only [List.mem_singleton] at hev
    exact Or.inl ⟨_, _, hev⟩
  | none =>
    rw [hf] at hc
    by_cases hq : QmemHit s q u
    · rw [qmem_hit_is_stutter tunsel ha hf hq]
      refine ⟨fun _ => rfl, ?_⟩
      intro ev hev
      simp only [List.mem_singleton] at hev
      exact Or.inr hev
    · have hp : PendingInQ s q u ∨ PendingInQs s q u := by
        rcases hc with hc | hc | hc | hc
        · simp at hc
        · exact absurd hc hq
        · exact Or.inl hc
        · exact Or.inr hc
      obtain ⟨h1, _, _, h4, _⟩ := pending_duplicate_is_stutter tunsel ha hf hq hp
      refine ⟨h4, ?_⟩
      rw [h1]
      intro ev hev
      simp at hev

/-- non-vacuity: the repeat of ping 5 (still cached) and of ping 1 (only in the ping memory) are recognised -/
example : Recognised Ex.sA (Ex.rep 5) 0 ∧ Recognised Ex.sA (Ex.rep 1) 0 := by
  obtain ⟨ha1, -, hq1, ha5, hf5, -⟩ := Ex.evaluated.2.1
  exact ⟨⟨ha5, Or.inl hf5⟩, ⟨ha1, Or.inr (Or.inl hq1)⟩⟩

/-- **Any number of re-deliveries in any order.**  If every datagram of a sequence is, at the time it arrives,
a re-delivered query that hits the cache, the query memory or a pending query (of any session, from any allowed
address, with any id), then after the whole sequence `stream` of every session is what it was, and every event
is a replay addressed to one of the repeats: no fresh downstream chunk, nothing written to the tun device. -/
theorem stutter_any_number_of_times : ∀ (l : List (Query × Bool)) (s : Srv), AllRecognised s l →
    (∀ v, stream (getUser (dispatchAll s l).1 v) = stream (getUser s v)) ∧
    (∀ ev ∈ (dispatchAll s l).2, ∃ q u, (∃ ts, (q, ts) ∈ l) ∧ IsReplay q u ev) := by
  intro l
  induction l with
  | nil => intro s _; exact ⟨fun _ => rfl, fun ev h => by simp [dispatchAll] at h⟩
  | cons a rest ih =>
    intro s h
    obtain ⟨q, ts⟩ := a
    obtain ⟨⟨u, hr⟩, hrest⟩ := h
    obtain ⟨h1, h2⟩ := recognised_is_stutter ts hr
    obtain ⟨i1, i2⟩ := ih _ hrest
    refine ⟨fun v => (i1 v).trans (h1 v), ?_⟩
    intro ev hev
    simp only [dispatchAll, List.mem_append] at hev
    rcases hev with hev | hev
    · exact ⟨q, u, ⟨ts, List.mem_cons_self⟩, h2 ev hev⟩
    · obtain ⟨q', u', ⟨ts', hm⟩, hrp⟩ := i2 ev hev
      exact ⟨q', u', ⟨ts', List.mem_cons_of_mem _ hm⟩, hrp⟩

/-- non-vacuity: ping 1 (query-memory hit), ping 5 (cache hit) and ping 1 again, from the other port -/
example : AllRecognised Ex.sA [(Ex.rep 1, true), (Ex.rep 5, true), (Ex.rep 1, false)] := by
  obtain ⟨ha1, hf1, hq1, ha5, hf5, -⟩ := Ex.evaluated.2.1
  obtain ⟨e, he⟩ := Option.isSome_iff_exists.mp hf5
  have r1 : Recognised Ex.sA (Ex.rep 1) 0 := ⟨ha1, Or.inr (Or.inl hq1)⟩
  have r5 : Recognised Ex.sA (Ex.rep 5) 0 := ⟨ha5, Or.inl hf5⟩
  have d1 : (dispatch Ex.sA (.q (Ex.rep 1)) true).1 = Ex.sA := by rw [qmem_hit_is_stutter true ha1 hf1 hq1]
  have d5 : (dispatch Ex.sA (.q (Ex.rep 5)) true).1 = Ex.sA := by rw [cache_hit_is_stutter true ha5 he]
  refine ⟨⟨0, r1⟩, ?_⟩
  rw [d1]
  refine ⟨⟨0, r5⟩, ?_⟩
  rw [d5]
  exact ⟨⟨0, r1⟩, trivial⟩

/-- the cache lookup looks at the name and the type of the query only: a new DNS id, another relay address
(or remembered-duplicate fields) make no difference -/
theorem cache_hit_indep_of_id_and_source (x : Session) (q q' : Query) (hn : q'.name = q.name)
    (ht : q'.type = q.type) : dnscacheFind x q' DNSCACHE_LEN 0 = dnscacheFind x q DNSCACHE_LEN 0 :=
  C16L.dnscacheFind_congr x q q' hn ht _ _

/-- non-vacuity: the same lookup result for the repeat and for a query with another id from an IPv6 address -/
example : dnscacheFind (getUser Ex.sC 0) (Ex.mkq (Ex.pName 1) 999 ⟨6, 1, 2⟩) DNSCACHE_LEN 0
      = dnscacheFind (getUser Ex.sC 0) (Ex.rep 1) DNSCACHE_LEN 0 ∧
    (dnscacheFind (getUser Ex.sC 0) (Ex.rep 1) DNSCACHE_LEN 0).isSome := by
  refine ⟨cache_hit_indep_of_id_and_source _ _ _ rfl rfl, ?_⟩
  obtain ⟨e, he, -⟩ := Option.map_eq_some_iff.mp Ex.evaluated.1.2.1
  rw [he]; rfl

/-- so does the query-memory check -/
theorem qmem_hit_indep_of_id_and_source (s : Srv) (u : Nat) (q q' : Query) (hn : q'.name = q.name)
    (ht : q'.type = q.type) : QmemHit s q' u ↔ QmemHit s q u := by
  unfold QmemHit pingPrint pingBytes dlen
  rw [hn, ht]

example : QmemHit Ex.sA (Ex.mkq (Ex.pName 1) 999 ⟨6, 1, 2⟩) 0 ∧ QmemHit Ex.sA (Ex.rep 1) 0 :=
  ⟨(qmem_hit_indep_of_id_and_source _ _ (Ex.rep 1) _ rfl rfl).mpr Ex.evaluated.2.1.2.2.1, Ex.evaluated.2.1.2.2.1⟩

/-- … and the pending-duplicate checks -/
theorem pending_indep_of_id_and_source (s : Srv) (u : Nat) (q q' : Query) (hn : q'.name = q.name)
    (ht : q'.type = q.type) :
    (PendingInQ s q' u ↔ PendingInQ s q u) ∧ (PendingInQs s q' u ↔ PendingInQs s q u) := by
  unfold PendingInQ PendingInQs
  rw [hn, ht]
  exact ⟨Iff.rfl, Iff.rfl⟩

example : PendingInQ Ex.sL (Ex.mkq (Ex.pName 1) 999 ⟨6, 1, 2⟩) 0 ∧ PendingInQ Ex.sL (Ex.rep 1) 0 :=
  ⟨((pending_indep_of_id_and_source _ _ (Ex.rep 1) _ rfl rfl).1).mpr Ex.evaluated.2.2.1.2.2.2.1, Ex.evaluated.2.2.1.2.2.2.1⟩

/-- only `check_ip` restricts the relay address: without it every source address is acceptable, with it the
address family and ip must be those of the login, the port is free -/
theorem established_indep_of_port (s : Srv) (u : Nat) (a b : Addr) (hf : b.fam = a.fam) (hip : b.ip = a.ip) :
    Established s u b ↔ Established s u a := by
  unfold Established
  rw [hf, hip]

/-- non-vacuity: with `check_ip` the other port is fine, another ip is not -/
example : Established Ex.sC 0 Ex.src2 ∧ ¬ Established Ex.sC 0 ⟨4, 0xc0a80106, 5353⟩ :=
  ⟨Ex.evaluated.1.1.2.2.2.1, Ex.evaluated.1.2.2.2.2.1⟩

theorem established_without_check_ip (s : Srv) (u : Nat) (a b : Addr) (h : s.cfg.checkIp = false) :
    Established s u b ↔ Established s u a := by
  unfold Established
  simp [h]

example : Established { Ex.sC with cfg := { Ex.sC.cfg with checkIp := false } } 0 ⟨6, 1, 2⟩ :=
  Ex.evaluated.1.2.2.2.2.2.1

/-- the data fingerprint ignores the letter case of the four header characters -/
theorem dataPrint_case_insensitive (n n' : List Nat)
    (h : ∀ i, 1 ≤ i → i ≤ 4 → lower (n'.getD i 0) = lower (n.getD i 0)) : dataPrint n' = dataPrint n := by
  unfold dataPrint
  rw [h 1 (by omega) (by omega), h 2 (by omega) (by omega), h 3 (by omega) (by omega), h 4 (by omega) (by omega)]

example : dataPrint (ascii "0EaAcmfrgg.t.ex") = dataPrint (ascii "0eaacmfrgg.t.ex") ∧
    dataPrint (ascii "0eaacmfrgg.t.ex") = ascii "eaac" := by decide

theorem lower_eq_toLower : lower = Common.toLower := funext fun c => (Common.toLower_eq_ite c).symm

/-- Base32 decoding ignores the letter case: the reverse table maps both cases of a letter to the same value -/
theorem b32_rev_case_insensitive (c : Nat) : Codec.b32.rev (lower c) = Codec.b32.rev c := by
  rw [lower_eq_toLower]
  exact C11L.b32_rev_toLower c

example : Codec.b32.rev 66 = 1 ∧ Codec.b32.rev 98 = 1 ∧ lower 66 = 98 := by decide

/-- the ping fingerprint (indeed the whole decoded ping payload, user id included) ignores the letter case of
the name: a relay that changes the case of a ping query does not make it look new -/
theorem pingPrint_case_insensitive (td : List Nat) (q q' : Query)
    (h : q'.name.map lower = q.name.map lower) :
    pingBytes td q' = pingBytes td q ∧ pingPrint td q' = pingPrint td q := by
  rw [lower_eq_toLower] at h
  have := C16L.pingBytes_lower td q.name q'.name h
  unfold pingPrint pingBytes dlen
  rw [this]
  exact ⟨rfl, rfl⟩

/-- non-vacuity: the upper-cased repeat of ping 1 (`PAAAAAAI.T.EX`) has the same fingerprint; it misses the answer cache
(whose name comparison is case sensitive) even while the original is still there, and is caught by the ping memory -/
example : (Ex.pNameUpper 1).map lower = (Ex.pName 1).map lower ∧ Ex.pNameUpper 1 ≠ Ex.pName 1 ∧
    dnscacheFind (getUser Ex.sC 0) (Ex.mkq (Ex.pNameUpper 1) 300 Ex.src2) DNSCACHE_LEN 0 = none ∧
    dispatch Ex.sC (.q (Ex.mkq (Ex.pNameUpper 1) 300 Ex.src2)) true
      = (Ex.sC, [Event.ans Ex.src2 300 T_NULL 84 (Ex.pNameUpper 1) [120] (.qmem 0)]) := by
  obtain ⟨-, -, -, -, -, -, ha, hf, hq⟩ := Ex.evaluated.1
  exact ⟨by decide +kernel, by decide +kernel, hf, qmem_hit_is_stutter true ha hf hq⟩

end Iodine.C16
