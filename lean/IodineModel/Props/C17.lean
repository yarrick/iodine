import IodineModel.Common
import IodineModel.Lemmas.Common
/-
C17 — `check_topdomain` accepts exactly the well-formed (optionally wildcard) domains, and
`query_datalen` reports a data length exactly for the query names that lie inside the configured domain
at a label boundary.

The specification (`ValidDomain`, `SufMatches`, `Boundary`, `DataLen`, …) is written here, declaratively
and without reference to the model's code; the model is IodineModel/Common.lean, helper lemmas are in
IodineModel/Lemmas/Common.lean.  Characters are bytes as `Nat`:
'*' = 42, '-' = 45, '.' = 46, '0'..'9' = 48..57, 'A'..'Z' = 65..90, 'a'..'z' = 97..122.
-/
namespace Iodine.C17
open Iodine Iodine.Common

/-! ### Specification: well-formed top domains -/

def Letter (c : Nat) : Prop := (65 ≤ c ∧ c ≤ 90) ∨ (97 ≤ c ∧ c ≤ 122)
def Digit (c : Nat) : Prop := 48 ≤ c ∧ c ≤ 57
/-- letter, digit, '-' or '.' -/
def DomChar (c : Nat) : Prop := Letter c ∨ Digit c ∨ c = 45 ∨ c = 46

instance : DecidablePred Letter := fun c => by unfold Letter; infer_instance
instance : DecidablePred Digit := fun c => by unfold Digit; infer_instance
instance : DecidablePred DomChar := fun c => by unfold DomChar; infer_instance

/-- Split a string at every occurrence of `d`: `splitOn 46 "ab..c" = ["ab", "", "c"]`,
`splitOn 46 "" = [""]`. -/
def splitOn (d : Nat) : List Nat → List (List Nat)
  | [] => [[]]
  | c :: cs =>
    if c = d then [] :: splitOn d cs
    else match splitOn d cs with
      | l :: ls => (c :: l) :: ls
      | [] => [[c]]

/-- `3 ≤ |s| ≤ 128`; all characters are letters, digits, '-' or '.', except that with `allowWild` the
string may start with "*." ; split at the dots there are at least two labels, each of length 1..63. -/
def ValidDomain (allowWild : Bool) (s : List Nat) : Prop :=
  3 ≤ s.length ∧ s.length ≤ 128 ∧
  ((∀ c ∈ s, DomChar c) ∨
    (allowWild = true ∧ s.take 2 = [42, 46] ∧ ∀ c ∈ s.drop 2, DomChar c)) ∧
  2 ≤ (splitOn 46 s).length ∧
  ∀ l ∈ splitOn 46 s, 1 ≤ l.length ∧ l.length ≤ 63

instance (w : Bool) (s : List Nat) : Decidable (ValidDomain w s) := by unfold ValidDomain; infer_instance

/-! ### Specification: a query name inside a domain -/

def asciiLower (c : Nat) : Nat := if 65 ≤ c ∧ c ≤ 90 then c + 32 else c

/-- equal length and character-wise equal up to ASCII case -/
def CiEq (a b : List Nat) : Prop := a.map asciiLower = b.map asciiLower

instance (a b : List Nat) : Decidable (CiEq a b) := by unfold CiEq; infer_instance

/-- `suf` matches the domain `t`: case-insensitively equal to it, or — if `t = '*' :: t'` — a non-empty
label without '.' and '*' followed by something case-insensitively equal to `t'`. -/
def SufMatches (suf t : List Nat) : Prop :=
  if t.head? = some 42 then
    ∃ lab suf', suf = lab ++ suf' ∧ lab ≠ [] ∧ 46 ∉ lab ∧ 42 ∉ lab ∧ CiEq suf' t.tail
  else CiEq suf t

/-- the data part is empty or ends with '.', i.e. the domain part starts at a label boundary -/
def Boundary (pre : List Nat) : Prop := pre = [] ∨ pre.getLast? = some 46

/-- `q = pre ++ suf` is a split of `q` into data part and domain part for the domain `t` -/
def IsSplit (q t pre suf : List Nat) : Prop := q = pre ++ suf ∧ SufMatches suf t ∧ Boundary pre

/-- `q` lies inside the domain `t` -/
def Matches (q t : List Nat) : Prop := ∃ pre suf, IsSplit q t pre suf

/-- `n` is the number of data bytes of `q` w.r.t. the domain `t` -/
def DataLen (q t : List Nat) (n : Nat) : Prop := ∃ pre suf, IsSplit q t pre suf ∧ n = pre.length

/-- no two consecutive '.' -/
def NoDoubleDot (q : List Nat) : Prop := ¬ [46, 46] <:+: q

/-! ### Sanity of the specification's `splitOn` (these two equations determine it) -/

theorem splitOn_nodelim (d : Nat) (l : List Nat) (h : d ∉ l) : splitOn d l = [l] := by
  induction l with
  | nil => rfl
  | cons c cs ih =>
    have hc : c ≠ d := fun e => h (e ▸ List.mem_cons_self)
    have := ih (fun e => h (List.mem_cons_of_mem _ e))
    simp only [splitOn, if_neg hc, this]

theorem splitOn_append_delim (d : Nat) (l rest : List Nat) (h : d ∉ l) :
    splitOn d (l ++ d :: rest) = l :: splitOn d rest := by
  induction l with
  | nil => simp [splitOn]
  | cons c cs ih =>
    have hc : c ≠ d := fun e => h (e ▸ List.mem_cons_self)
    have := ih (fun e => h (List.mem_cons_of_mem _ e))
    simp only [List.cons_append, splitOn, if_neg hc, this]

example : splitOn 46 [97, 98, 46, 46, 99] = [[97, 98], [], [99]] := by decide
example : splitOn 46 [] = [[]] := by decide
example : splitOn 46 [46] = [[], []] := by decide

/-! ### Bridges between the specification's and the model's vocabulary -/

theorem domChar_iff (c : Nat) : plainChar c = true ↔ DomChar c := by
  unfold plainChar isDigit DomChar Letter Digit
  simp only [Bool.or_eq_true, Bool.and_eq_true, decide_eq_true_eq, beq_iff_eq]
  omega

theorem asciiLower_eq : asciiLower = toLower := funext fun c => (toLower_eq_ite c).symm

theorem wild_shape (s : List Nat) :
    (s.take 2 = [42, 46] ∧ ∀ c ∈ s.drop 2, DomChar c) ↔
      ∃ r, s = 42 :: 46 :: r ∧ ∀ c ∈ r, plainChar c = true := by
  simp only [domChar_iff]
  constructor
  · intro ⟨ht, hd⟩
    have hs := List.take_append_drop 2 s
    rw [ht] at hs
    exact ⟨s.drop 2, hs.symm, hd⟩
  · intro ⟨r, hs, hr⟩
    subst hs
    exact ⟨rfl, hr⟩

/-! ### C17a: check_topdomain -/

/-- `check_topdomain(s, w, _) == 0` exactly for the valid domains. -/
theorem check_topdomain_iff_spec (s : List Nat) (w : Bool) :
    checkTopdomain s w = 0 ↔ ValidDomain w s := by
  rw [checkTopdomain_iff (splitOn 46) (splitOn_nodelim 46) (splitOn_append_delim 46)]
  unfold ValidDomain
  simp only [wild_shape, domChar_iff]

example : ValidDomain true [42, 46, 116, 46, 99, 111] := by decide                      -- "*.t.co"
example : ¬ ValidDomain false [42, 46, 116, 46, 99, 111] := by decide
example : ValidDomain false [116, 45, 49, 46, 67, 111] := by decide                     -- "t-1.Co"
example : ¬ ValidDomain true [97, 42, 46, 99, 111] := by decide                         -- "a*.co"
example : ¬ ValidDomain true [42, 97, 46, 99, 111] := by decide                         -- "*a.co"
example : ¬ ValidDomain true [97, 46, 46, 99] := by decide                              -- "a..c"
example : ¬ ValidDomain true [97, 46, 99, 46] := by decide                              -- "a.c."
example : ¬ ValidDomain true [97, 98, 99] := by decide                                  -- "abc"
example : ValidDomain true (List.replicate 63 97 ++ [46, 97]) := by decide +kernel
example : ¬ ValidDomain true (List.replicate 64 97 ++ [46, 97]) := by decide +kernel    -- 64-char label
example : checkTopdomain (List.replicate 64 97 ++ [46, 97]) true = 1 := by decide +kernel
example : checkTopdomain [42, 46, 116, 46, 99, 111] true = 0 := by decide

theorem validDomain_mono {s : List Nat} (h : ValidDomain false s) : ValidDomain true s := by
  obtain ⟨h1, h2, h3, h4⟩ := h
  refine ⟨h1, h2, ?_, h4⟩
  rcases h3 with h | ⟨h, _⟩
  · exact Or.inl h
  · cases h

/-! ### C17b: query_datalen -/

/-- For a valid (possibly wildcard) domain `t` and a query name without "..", `query_datalen` returns `n`
exactly when `q` splits into `n` data bytes ending at a label boundary followed by a part matching `t`. -/
theorem query_datalen_iff_spec (q t : List Nat) (n : Nat)
    (hv : ValidDomain true t) (hq : NoDoubleDot q) :
    queryDatalen q t = some n ↔
      ∃ pre suf, q = pre ++ suf ∧ SufMatches suf t ∧ Boundary pre ∧ n = pre.length := by
  obtain ⟨h3, _, hch, _, _⟩ := hv
  unfold SufMatches CiEq Boundary
  rw [asciiLower_eq]
  rcases hch with hall | ⟨_, hw⟩
  · -- plain domain
    have hstar : 42 ∉ t := fun h => absurd (hall 42 h) (by decide)
    have hhead : ¬ t.head? = some 42 := fun h => hstar (List.mem_of_mem_head? h)
    simp only [if_neg hhead]
    exact queryDatalen_plain q t n h3 hstar
  · -- wildcard domain "*." ++ r
    obtain ⟨r, rfl, hr⟩ := (wild_shape t).mp hw
    have hstar : 42 ∉ 46 :: r := by
      intro h
      rcases List.mem_cons.mp h with h | h
      · cases h
      · have := hr 42 h; simp [plainChar_star] at this
    simp only [List.head?_cons, if_true, List.tail_cons]
    rw [queryDatalen_wild q (46 :: r) n (by simp only [List.length_cons] at h3 ⊢; omega) hstar rfl hq]
    constructor
    · intro ⟨pre, lab, suf', h1, h2, h3, h4, h5, h6, h7⟩
      exact ⟨pre, lab ++ suf', h1, ⟨lab, suf', rfl, h2, h3, h4, h5⟩, h6, h7⟩
    · intro ⟨pre, suf, h1, ⟨lab, suf', h0, h2, h3, h4, h5⟩, h6, h7⟩
      exact ⟨pre, lab, suf', h0 ▸ h1, h2, h3, h4, h5, h6, h7⟩

/-- the same, phrased with `DataLen` -/
theorem query_datalen_eq_iff_dataLen (q t : List Nat) (n : Nat)
    (hv : ValidDomain true t) (hq : NoDoubleDot q) :
    queryDatalen q t = some n ↔ DataLen q t n := by
  rw [query_datalen_iff_spec q t n hv hq]
  unfold DataLen IsSplit
  constructor
  · intro ⟨pre, suf, h1, h2, h3, h4⟩; exact ⟨pre, suf, ⟨h1, h2, h3⟩, h4⟩
  · intro ⟨pre, suf, ⟨h1, h2, h3⟩, h4⟩; exact ⟨pre, suf, h1, h2, h3, h4⟩

/-- The data length is well defined: two splits of the same name have the same data length … -/
theorem dataLen_unique (q t : List Nat) (n m : Nat)
    (hv : ValidDomain true t) (hq : NoDoubleDot q) (hn : DataLen q t n) (hm : DataLen q t m) : n = m := by
  rw [← query_datalen_eq_iff_dataLen q t _ hv hq] at hn hm
  rw [hn] at hm
  exact Option.some.inj hm

/-- … and in fact the split itself is unique. -/
theorem split_unique (q t pre₁ suf₁ pre₂ suf₂ : List Nat)
    (hv : ValidDomain true t) (hq : NoDoubleDot q)
    (h₁ : IsSplit q t pre₁ suf₁) (h₂ : IsSplit q t pre₂ suf₂) : pre₁ = pre₂ ∧ suf₁ = suf₂ := by
  have hlen : pre₁.length = pre₂.length :=
    dataLen_unique q t _ _ hv hq ⟨pre₁, suf₁, h₁, rfl⟩ ⟨pre₂, suf₂, h₂, rfl⟩
  have he : pre₁ ++ suf₁ = pre₂ ++ suf₂ := h₁.1.symm.trans h₂.1
  exact List.append_inj he hlen

/-- `query_datalen` answers ≥ 0 exactly for the names inside the domain. -/
theorem query_datalen_isSome_iff_matches (q t : List Nat)
    (hv : ValidDomain true t) (hq : NoDoubleDot q) :
    (queryDatalen q t).isSome = true ↔ Matches q t := by
  constructor
  · intro h
    obtain ⟨n, hn⟩ := Option.isSome_iff_exists.mp h
    obtain ⟨pre, suf, h1, h2, h3, _⟩ := (query_datalen_iff_spec q t n hv hq).mp hn
    exact ⟨pre, suf, h1, h2, h3⟩
  · intro ⟨pre, suf, h1, h2, h3⟩
    rw [(query_datalen_iff_spec q t pre.length hv hq).mpr ⟨pre, suf, h1, h2, h3, rfl⟩]
    rfl

/-- Outside the domain the answer is -1. -/
theorem query_datalen_none_outside (q t : List Nat)
    (hv : ValidDomain true t) (hq : NoDoubleDot q) (hout : ¬ Matches q t) :
    queryDatalen q t = none :=
  Option.not_isSome_iff_eq_none.mp fun h => hout ((query_datalen_isSome_iff_matches q t hv hq).mp h)

/-! ### Non-vacuity -/

instance (q : List Nat) : Decidable (NoDoubleDot q) := by unfold NoDoubleDot; infer_instance

-- "abc.DEF.t.co" in "*.T.co": data = "abc." (4 bytes), wildcard label "DEF"
example : queryDatalen [97, 98, 99, 46, 68, 69, 70, 46, 116, 46, 99, 111] [42, 46, 84, 46, 99, 111] = some 4 := by
  decide
example : NoDoubleDot [97, 98, 99, 46, 68, 69, 70, 46, 116, 46, 99, 111] := by decide
example : IsSplit [97, 98, 99, 46, 68, 69, 70, 46, 116, 46, 99, 111] [42, 46, 84, 46, 99, 111]
    [97, 98, 99, 46] [68, 69, 70, 46, 116, 46, 99, 111] :=
  ⟨rfl, by
    unfold SufMatches
    simp only [List.head?_cons, if_true, List.tail_cons]
    exact ⟨[68, 69, 70], [46, 116, 46, 99, 111], rfl, by decide, by decide, by decide, by decide⟩,
   Or.inr rfl⟩
-- "abc.DEF.t.co" in "T.co": data = "abc.DEF." (8 bytes)
example : queryDatalen [97, 98, 99, 46, 68, 69, 70, 46, 116, 46, 99, 111] [84, 46, 99, 111] = some 8 := by decide
-- "xt.co" is not inside "t.co" (no label boundary); "t.co" itself has 0 data bytes
example : queryDatalen [120, 116, 46, 99, 111] [116, 46, 99, 111] = none := by decide
example : queryDatalen [116, 46, 99, 111] [116, 46, 99, 111] = some 0 := by decide
-- wildcard needs a label: "t.co" is not inside "*.t.co"; a '*' in the query's label is refused
example : queryDatalen [116, 46, 99, 111] [42, 46, 116, 46, 99, 111] = none := by decide
example : queryDatalen [97, 42, 46, 116, 46, 99, 111] [42, 46, 116, 46, 99, 111] = none := by decide
-- a name starting with '.' : ".t.co" in "t.co" has the 1 data byte "."
example : queryDatalen [46, 116, 46, 99, 111] [116, 46, 99, 111] = some 1 := by decide

/-- `NoDoubleDot` is needed: for "a..t.co" in "*.t.co" the C code answers 0 (it steps over the '.' it
enters the wildcard phase on and takes "a." as the label), but no split with 0 data bytes exists. -/
example : queryDatalen [97, 46, 46, 116, 46, 99, 111] [42, 46, 116, 46, 99, 111] = some 0
    ∧ ValidDomain true [42, 46, 116, 46, 99, 111]
    ∧ ¬ DataLen [97, 46, 46, 116, 46, 99, 111] [42, 46, 116, 46, 99, 111] 0 := by
  refine ⟨by decide, by decide, ?_⟩
  intro ⟨pre, suf, ⟨h1, h2, _⟩, h4⟩
  have hp : pre = [] := List.length_eq_zero_iff.mp h4.symm
  subst hp
  unfold SufMatches at h2
  simp only [List.head?_cons, if_true, List.tail_cons] at h2
  obtain ⟨lab, suf', hs, _, hd, _, hc⟩ := h2
  have hl5 : suf'.length = 5 := by simpa using congrArg List.length hc
  have hl : lab.length + suf'.length = 7 := by
    have := congrArg List.length (h1.trans (by rw [List.nil_append, hs]))
    simpa using this.symm
  have hlab : lab = [97, 46] := by
    have h := congrArg (List.take 2) (h1.trans (by rw [List.nil_append, hs]))
    rw [List.take_left' (by omega)] at h
    exact h.symm
  exact hd (by rw [hlab]; decide)

end Iodine.C17
