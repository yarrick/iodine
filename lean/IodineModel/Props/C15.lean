import IodineModel.Lemmas.SrvC15g
/-
Property C15 — "Downstream fragments never exceed the negotiated fragment size"

  After a session sets its downstream fragment size to F, every answer carrying tunnel data for that session
  holds at most F payload bytes after the 2-byte data header, and before any size is set at most the
  conservative default; the server rejects sizes below 2.  Fragments are numbered consecutively from 0 and
  only the final fragment of a packet carries the last-fragment flag.
  Quantifier: for all F in 2..65535, all packet sizes, all record types/codecs and all ack/loss histories.

The theorems are about the runs of the session-machine model (`Server/Run.lean`): `Reachable cfg s`, `next`,
`out`.  Specification-side definitions (this file) are written from the property text and the protocol, not
from the handlers' code.
-/
namespace Iodine.C15
open Iodine Iodine.Server Iodine.Gen

/-- the negotiated downstream fragment size of slot `u` -/
def F (s : Srv) (u : Nat) : Nat := (getUser s u).fragsize

/-- the payload-carrying bytes (`data` argument of `write_dns`) of an answer that carries tunnel data for
session `u`: a fresh data answer, its copy to a remembered duplicate query, or a replay from the answer cache -/
def dataFor (u : Nat) : Event → Option (List Nat)
  | .ans _ _ _ _ _ data tag => if tag = .chunk u ∨ tag = .dupe u ∨ tag = .cached u then some data else none
  | _ => none

/-- the conservative default size a session has from the version handshake until it negotiates one -/
def defaultFragsize : Nat := 100

/-- `q` is a well-formed set-fragsize (`N`) request of slot `u` for size `n`, acknowledged by the two bytes
`ack`: the name is `N` + base32(userid, size hi, size lo, …) + `.` + topdomain -/
def IsSetFragsizeRequest (topdomain : List Nat) (q : Query) (u n : Nat) (ack : List Nat) : Prop :=
  ∃ dlen, Common.queryDatalen q.name topdomain = some dlen ∧ 2 ≤ dlen ∧
    (q.name.getD 0 0 = 78 ∨ q.name.getD 0 0 = 110) ∧
    let payload := Encoding.serverExtract Codec.b32 1 (min dlen 512) q.name
    3 ≤ payload.length ∧ charVal (payload.getD 0 0) = (u : Int) ∧
    n = (payload.getD 1 0 % 256) * 256 + payload.getD 2 0 % 256 ∧ ack = (payload.drop 1).take 2

/-- `q` is a version (`V`) request -/
def IsVersionRequest (topdomain : List Nat) (q : Query) : Prop :=
  ∃ dlen, Common.queryDatalen q.name topdomain = some dlen ∧ 2 ≤ dlen ∧
    (q.name.getD 0 0 = 86 ∨ q.name.getD 0 0 = 118)

/-- the control answer (not a data answer) to `q` with payload `data` in downstream codec `dn` -/
def ctrlAnswer (q : Query) (data : List Nat) (dn : Nat) : Event :=
  Event.ans q.from_ q.id q.type dn q.name data .ctrl

/-- the query types the tunnel uses -/
def TunnelType (t : Nat) : Prop :=
  t = T_NULL ∨ t = T_PRIVATE ∨ t = T_CNAME ∨ t = T_A ∨ t = T_MX ∨ t = T_SRV ∨ t = T_TXT

/-- session `u` is entitled to change its options with query `q` at time `now`: a live, authenticated slot;
with `-c` off (`checkIp`) the source address must be the session's, otherwise the options must not be locked yet
(the server looks at the lock only when it does not check addresses) -/
def MayNegotiate (s : Srv) (now u : Nat) (q : Query) : Prop :=
  u < s.cfg.createdUsers ∧ (getUser s u).active = true ∧ (getUser s u).disabled = false ∧
  ¬ (getUser s u).lastPkt + 60 < now ∧ (getUser s u).authenticated = true ∧
  (if s.cfg.checkIp then
    q.from_.fam = (getUser s u).host.fam ∧ (q.from_.fam = 4 ∨ q.from_.fam = 6) ∧ (getUser s u).host.ip = q.from_.ip
   else (getUser s u).optionsLocked = false)

theorem F_eq (s : Srv) (u : Nat) : F s u = C15L.F s u := rfl
theorem dataFor_eq (u : Nat) (e : Event) : dataFor u e = C15L.dataFor u e := rfl

namespace Ex
/-! example run used by the non-vacuity examples: topdomain `t.io`, all-zero password, one client -/
def cfg : Config :=
  { checkIp := false, password := List.replicate 32 0, myIp := 0x0a000001, netmask := 27,
    topdomain := [116, 46, 105, 111], mtu := 1130, nsIp := 0, bindPort := 0, dest4 := 0, dest6 := 0,
    createdUsers := 0 }
def mkQ (id : Nat) (name : List Nat) : Query :=
  ⟨name ++ [46, 116, 46, 105, 111], 10, id, ⟨4, 0x7f000001, 5000⟩, 0, Addr.zero, ⟨4, 0x7f000001, 53⟩⟩
/-- `V` + base32(00 00 05 02 00): version handshake -/
def qV : Query := mkQ 1 [118, 97, 97, 97, 97, 107, 97, 113, 97]
/-- `L` + base32(userid 0, login hash for seed 7, 00) -/
def qL : Query := mkQ 2 [108, 97, 98, 102, 113, 111, 99, 101, 106, 120, 104, 105, 53, 119, 106, 121, 114, 115, 98,
  108, 112, 101, 110, 110, 52, 106, 102, 117, 97, 97]
/-- `N` + base32(userid 0, 0x00 0x32): set fragment size 50 -/
def qN50 : Query := mkQ 3 [110, 97, 97, 97, 100, 101]
/-- `N` + base32(userid 0, 0x00 0x01): set fragment size 1 -/
def qN1 : Query := mkQ 3 [110, 97, 97, 97, 97, 99]
/-- pings `P` + base32(userid 0, ack byte, cmc): no ack / no ack / ack seq 1 frag 0 / frag 1 / frag 2 -/
def qP1 : Query := mkQ 4 [112, 97, 97, 97, 97, 97, 97, 105]
def qP2 : Query := mkQ 5 [112, 97, 97, 97, 97, 97, 97, 113]
def qP2dup : Query := mkQ 6 [112, 97, 97, 97, 97, 97, 97, 113]
def qP3 : Query := mkQ 7 [112, 97, 97, 105, 97, 97, 97, 121]
def qP4 : Query := mkQ 8 [112, 97, 97, 105, 113, 97, 98, 97]
def qP5 : Query := mkQ 9 [112, 97, 97, 106, 97, 97, 98, 105]
/-- a 124-byte tun frame for the client's tunnel address 10.0.0.2 (stored as a 125-byte packet) -/
def frame : List Nat := [0, 0, 8, 0] ++ List.replicate 16 69 ++ [10, 0, 0, 2] ++ List.replicate 100 170

def steps : List Step :=
  [⟨.q qV, 1000⟩, ⟨.q qL, 1000⟩, ⟨.q qN50, 1001⟩, ⟨.q qP1, 1001⟩, ⟨.tun frame, 1001⟩, ⟨.q qP2, 1001⟩,
   ⟨.q qP2dup, 1001⟩, ⟨.q qP3, 1002⟩, ⟨.q qP4, 1002⟩, ⟨.q qP5, 1002⟩]

def s0 : Srv := start cfg [7]
/-- state after the first `n` steps -/
def at_ (n : Nat) : Srv := runFrom s0 (steps.take n)
def stepAt (n : Nat) : Step := steps.getD n ⟨.tick, 0⟩

/-- What the non-vacuity examples of part A quote from the example run, evaluated together (one evaluation of the
run instead of one per example). -/
theorem run_facts :
    Monotone s0 steps ∧
    (F (at_ 7) 0 = 50 ∧
      (getUser (at_ 7) 0).dnscache.any (fun e => e.q.id != 0 && e.answerlen == 52) = true) ∧
    ((at_ 5).now ≤ (stepAt 5).now ∧ F (next (at_ 5) (stepAt 5)) 0 = 50 ∧
      (out (at_ 5) (stepAt 5)).any (fun e => (dataFor 0 e).map List.length == some 52) = true) ∧
    (F (at_ 0) 0 = 0 ∧ F (next (at_ 0) ⟨.q qV, 1000⟩) 0 = 100 ∧
      F (at_ 2) 0 = 100 ∧ F (next (at_ 2) ⟨.q qN50, 1001⟩) 0 = 50) ∧
    out (at_ 2) ⟨.q qN50, 1001⟩ = [ctrlAnswer qN50 [0, 50] 84, Event.sweep] ∧
    out (at_ 6) (stepAt 6) = [Event.ans ⟨4, 0x7f000001, 5000⟩ 6 10 84 qP2dup.name
        ([128, 32] ++ ((compress frame).drop 0).take 50) (.cached 0), Event.sweep] ∧
    (C15L.monTrace (fun _ => none) (traceFrom s0 steps)).map (fun m => m 0) = some (some (1, 2, 1)) ∧
    ((out (at_ 5) (stepAt 5)).head? =
        some (Event.ans ⟨4, 0x7f000001, 5000⟩ 5 10 84 qP2.name
          ([128, 32] ++ ((compress frame).drop 0).take 50) (.chunk 0)) ∧
      (out (at_ 7) (stepAt 7)).head? =
        some (Event.ans ⟨4, 0x7f000001, 5000⟩ 7 10 84 qP3.name
          ([128, 34] ++ ((compress frame).drop 50).take 50) (.chunk 0)) ∧
      (out (at_ 8) (stepAt 8)).head? =
        some (Event.ans ⟨4, 0x7f000001, 5000⟩ 8 10 84 qP4.name
          ([128, 37] ++ ((compress frame).drop 100).take 50) (.chunk 0))) := by
  decide +kernel

theorem mono : Monotone s0 steps := run_facts.1

theorem reach (n : Nat) : Reachable cfg (at_ n) :=
  reachable_runFrom (Reachable.init [7]) _ (C15L.monotone_take steps s0 n mono)

end Ex

set_option maxRecDepth 100000

/-- **C15 (A), invariant.**  In every reachable state every live entry of every session's answer cache fits the
session's fragment size (2 header bytes + at most `F` payload bytes) and its stored length is the length of the
stored answer.  This is what makes replays safe; it holds because an accepted `N` and a `V` empty the cache. -/
theorem cache_fits_fragsize {cfg : Config} {s : Srv} (hr : Reachable cfg s) (u : Nat) :
    ∀ e ∈ (getUser s u).dnscache, e.q.id ≠ 0 → e.answerlen ≠ 0 →
      e.answerlen ≤ F s u + 2 ∧ e.answerlen ≤ 4096 ∧ e.answer.length = e.answerlen := by
  intro e he _ h0
  have := (C15L.reachable_inv hr).1 u e he
  exact ⟨this.1, this.2.1, this.2.2 h0⟩

/-- non-vacuity: after the first fragment was sent (and replayed) the cache of slot 0 holds a live 52-byte answer,
and 52 = F + 2 -/
example : Reachable Ex.cfg (Ex.at_ 7) ∧ F (Ex.at_ 7) 0 = 50 ∧
    (getUser (Ex.at_ 7) 0).dnscache.any (fun e => e.q.id != 0 && e.answerlen == 52) = true :=
  ⟨Ex.reach 7, Ex.run_facts.2.1⟩

/-- **C15 (A), main theorem.**  Every answer carrying tunnel data for session `u` — fresh fragment, copy to a
duplicate query, or replay from the answer cache — emitted in an iteration from a reachable state holds at most
`F` bytes after the 2-byte data header, `F` being the session's fragment size at the end of the iteration, and
never more than 4096 bytes in all.  (The size at the end of the iteration is the size at the time of sending:
`no_data_answer_while_negotiating` below shows that the handler that changes a size emits no data answer, and
the sweep that follows it already uses the new size.) -/
theorem fragment_le_fragsize {cfg : Config} {s : Srv} (hr : Reachable cfg s) (st : Step) (_hm : s.now ≤ st.now)
    (e : Event) (he : e ∈ out s st) (u : Nat) (d : List Nat) (hd : dataFor u e = some d) :
    d.length ≤ F (next s st) u + 2 ∧ d.length ≤ 4096 :=
  (C15L.iteration_spec s st.inp st.now (C15L.reachable_inv hr).1).2.1 e he u d hd

/-- non-vacuity: with F = 50 the ping after the tun frame is answered by a fresh 52-byte data answer (the bound is
tight), and the duplicate of that ping by a 52-byte replay from the cache -/
example : Reachable Ex.cfg (Ex.at_ 5) ∧ (Ex.at_ 5).now ≤ (Ex.stepAt 5).now ∧ F (next (Ex.at_ 5) (Ex.stepAt 5)) 0 = 50 ∧
    (out (Ex.at_ 5) (Ex.stepAt 5)).any (fun e => (dataFor 0 e).map List.length == some 52) = true :=
  ⟨Ex.reach 5, Ex.run_facts.2.2.1⟩
example : Reachable Ex.cfg (Ex.at_ 6) ∧
    (out (Ex.at_ 6) (Ex.stepAt 6)).any (fun e => match e with
      | .ans _ _ _ _ _ d (.cached 0) => d.length == 52
      | _ => false) = true :=
  ⟨Ex.reach 6, by rw [Ex.run_facts.2.2.2.2.2.1]; decide⟩

/-- **C15 (A).**  The fragment size of a session changes only by negotiation: in an iteration that changes
`F u` the input is a query that is either a set-fragsize request of slot `u` for a size `n ≥ 2` (then the new size
is `n` and the two size bytes were sent back in a control answer), or a version request that allocated slot `u`
(then the new size is the conservative default 100 and the `VACK` answer names slot `u`). -/
theorem fragsize_only_by_negotiation {cfg : Config} {s : Srv} (hr : Reachable cfg s) (st : Step) (u : Nat)
    (h : F (next s st) u ≠ F s u) :
    ∃ q, st.inp = .q q ∧
      ((∃ n ack, IsSetFragsizeRequest cfg.topdomain q u n ack ∧ 2 ≤ n ∧ n ≤ 65535 ∧ F (next s st) u = n ∧
          ctrlAnswer q ack (getUser s u).downenc ∈ out s st) ∨
       (IsVersionRequest cfg.topdomain q ∧ F (next s st) u = defaultFragsize ∧
          ∃ seed dn, ctrlAnswer q (ascii "VACK" ++ beBytes 4 seed ++ [u % 256]) dn ∈ out s st)) := by
  have hinv := C15L.reachable_inv hr
  obtain ⟨q, hq, ⟨dlen, hdl, h2, hc⟩, _⟩ := (C15L.iteration_spec s st.inp st.now hinv.1).2.2.2 u h
  refine ⟨q, hq, ?_⟩
  have htd : (C15L.handlerState s st.now).cfg.topdomain = cfg.topdomain := hinv.2
  change Common.queryDatalen q.name (C15L.handlerState s st.now).cfg.topdomain = some dlen at hdl
  rw [htd] at hdl
  rcases hc with ⟨hch, hl, hu, _, hn2, hF, hev⟩ | ⟨hch, hF, seed, dn, hev⟩
  · left
    refine ⟨fragsizeOf (q.name.take (min dlen 512)), _, ⟨dlen, hdl, h2, hch, hl, hu, rfl, rfl⟩, hn2, ?_, hF, ?_⟩
    · unfold fragsizeOf; omega
    · have : (getUser (C15L.handlerState s st.now) u).downenc = (getUser s u).downenc :=
        C15L.downenc_handlerState s st.now u
      rw [← this]
      exact hev
  · right
    exact ⟨⟨dlen, hdl, h2, hch⟩, hF, seed, dn, hev⟩

/-- non-vacuity: the `V` of the example run takes slot 0 from 0 to the default 100, the `N` from 100 to 50 -/
example : F (Ex.at_ 0) 0 = 0 ∧ F (next (Ex.at_ 0) ⟨.q Ex.qV, 1000⟩) 0 = 100 ∧
    F (Ex.at_ 2) 0 = 100 ∧ F (next (Ex.at_ 2) ⟨.q Ex.qN50, 1001⟩) 0 = 50 := Ex.run_facts.2.2.2.1

/-- **C15 (A).**  The handler that changes a fragment size emits no data answer: in an iteration that changes some
`F u`, all events before the marker of the send-real-soon sweep are free of tunnel data (for every session). -/
theorem no_data_answer_while_negotiating {cfg : Config} {s : Srv} (hr : Reachable cfg s) (st : Step) (u : Nat)
    (h : F (next s st) u ≠ F s u) :
    ∃ pre post, out s st = pre ++ Event.sweep :: post ∧ ∀ e ∈ pre, ∀ v, dataFor v e = none := by
  obtain ⟨q, _, _, pre, post, h1, h2⟩ :=
    (C15L.iteration_spec s st.inp st.now (C15L.reachable_inv hr).1).2.2.2 u h
  exact ⟨pre, post, h1, h2⟩

/-- non-vacuity: the iteration of the accepted `N` emits the two size bytes, then the sweep marker -/
example : out (Ex.at_ 2) ⟨.q Ex.qN50, 1001⟩ = [ctrlAnswer Ex.qN50 [0, 50] 84, Event.sweep] := Ex.run_facts.2.2.2.2.1

/-- **C15 (A).**  Sizes below 2 are rejected: a well-formed set-fragsize request for size 0 or 1 leaves every
session's fragment size unchanged, and when it arrives in a tunnel query type from a session entitled to
negotiate, it is answered `BADFRAG`. -/
theorem sizes_below_2_rejected {cfg : Config} {s : Srv} (hr : Reachable cfg s) (st : Step) (q : Query)
    (u n : Nat) (ack : List Nat) (hq : st.inp = .q q) (hreq : IsSetFragsizeRequest cfg.topdomain q u n ack)
    (hn : n < 2) :
    (∀ v, F (next s st) v = F s v) ∧
    (TunnelType q.type → MayNegotiate s st.now u q →
      ctrlAnswer q (ascii "BADFRAG") (getUser s u).downenc ∈ out s st) := by
  constructor
  · intro v
    apply Classical.byContradiction
    intro hne
    obtain ⟨q', hq', hcase⟩ := fragsize_only_by_negotiation hr st v hne
    rw [hq] at hq'
    cases hq'
    obtain ⟨dlen, hdl, _, hch, _, _, hnn, _⟩ := hreq
    rcases hcase with ⟨n', ack', ⟨dlen', hdl', _, _, _, _, hnn', _⟩, h2, _⟩ | ⟨⟨_, _, _, hv⟩, _⟩
    · rw [hdl] at hdl'
      cases hdl'
      omega
    · omega
  · intro hty hmay
    obtain ⟨dlen, hdl, h2, hch, hl, hu, hnn, _⟩ := hreq
    have hinv := C15L.reachable_inv hr
    have hchk : checkAuthenticatedUserAndIpAndOptions (C15L.handlerState s st.now) (u : Int) q = false := by
      rw [C15L.check_handlerState]
      obtain ⟨h1, h2, h3, h4, h5, h6⟩ := hmay
      have hc : checkUserAndIp { s with now := st.now } (u : Int) q = false :=
        (C04L.checkUserAndIp_eq_false_iff _ u q).mpr ⟨Int.natCast_nonneg u, Int.ofNat_lt.mpr h1, h2, h3, h4, fun hip => by
          rw [if_pos hip] at h6; exact ⟨h6.1, h6.2.2.symm, h6.2.1⟩⟩
      have ha : checkAuthenticatedUserAndIp { s with now := st.now } (u : Int) q = false := by
        rw [checkAuthenticatedUserAndIp, hc, if_neg Bool.false_ne_true, if_neg]
        rw [Int.toNat_natCast]; exact fun h => absurd (h5 ▸ h) (by decide)
      rw [checkAuthenticatedUserAndIpAndOptions, ha]
      cases hip : s.cfg.checkIp
      · rw [hip, if_neg Bool.false_ne_true] at h6
        rw [if_neg (by decide), if_neg]
        rw [Int.toNat_natCast]; exact fun h => absurd (h6 ▸ h) (by decide)
      · exact if_pos rfl
    have := C15L.tunnelDns_badfrag (C15L.handlerState s st.now) q dlen u (by rw [← hinv.2] at hdl; exact hdl) h2 hty hch
      hl hu hchk (by unfold fragsizeOf pingUnpacked C04L.inbOf; unfold Encoding.serverExtract at hnn; omega)
    have hout : out s st = (tunnelDns (C15L.handlerState s st.now) q).2 ++ [Event.sweep] ++
        (sweep (tunnelDns (C15L.handlerState s st.now) q).1).2 := by
      have : st = ⟨.q q, st.now⟩ := by cases st; cases hq; rfl
      rw [this]; exact C15L.out_q s q st.now
    rw [hout, this]
    rw [C15L.downenc_handlerState]
    simp [ctrlAnswer, writeDns]

/-- non-vacuity: `N` for size 1 from the authenticated session of the example run: a well-formed request from a
session entitled to negotiate, answered `BADFRAG`, size unchanged -/
example : IsSetFragsizeRequest Ex.cfg.topdomain Ex.qN1 0 1 [0, 1] :=
  ⟨7, by decide +kernel, by decide, by decide, by decide +kernel, by decide +kernel, by decide +kernel, by decide +kernel⟩
example : MayNegotiate (Ex.at_ 2) 1001 0 Ex.qN1 ∧ TunnelType Ex.qN1.type ∧
    ctrlAnswer Ex.qN1 (ascii "BADFRAG") 84 ∈ out (Ex.at_ 2) ⟨.q Ex.qN1, 1001⟩ ∧
    F (next (Ex.at_ 2) ⟨.q Ex.qN1, 1001⟩) 0 = 100 := by
  unfold MayNegotiate TunnelType
  decide +kernel

/-- (sequence number, fragment number, last-fragment flag) of a downstream fragment -/
abbrev FragId := Nat × Nat × Nat

/-- the identification of the fragment a data answer carries: the answer has payload after the 2-byte data
header; header byte 1 is `sss ffff l` -/
def fragHeader (d : List Nat) : Option FragId :=
  if d.length > 2 then some (d.getD 1 0 / 32, d.getD 1 0 / 2 % 16, d.getD 1 0 % 2) else none

/-- may the fragment `cur` be the next fresh fragment a session sends after `prev`?
* nothing sent yet: it must be fragment 0;
* the same fragment again (a re-send; its payload may be cut differently after a size change);
* the next fragment (mod 16) of the same packet, only if the previous one was not flagged last;
* fragment 0 of another packet (a packet dropped after too many re-sends is followed by another one). -/
def mayFollow : Option FragId → FragId → Bool
  | none, (_, fr, _) => fr == 0
  | some (sq, fr, la), (sq', fr', _) =>
    (sq' == sq && fr' == fr) || (sq' == sq && la == 0 && fr' == (fr + 1) % 16) || (sq' != sq && fr' == 0)

/-- per slot: the previous fragment of the session now in the slot -/
abbrev MonState := Nat → Option FragId

def MonState.set (m : MonState) (u : Nat) (v : Option FragId) : MonState := fun w => if w = u then v else m w

/-- the slot a `VACK` answer (`"VACK"`, 4 seed bytes, slot) hands out -/
def vackSlot (d : List Nat) : Option Nat :=
  if d.take 4 = [86, 65, 67, 75] ∧ d.length = 9 then some (d.getD 8 0) else none

/-- is the input of the iteration a version request (name starts with `V`/`v`)? -/
def isVersionQuery : Input → Bool
  | .q q => decide (q.name.getD 0 0 = 86 ∨ q.name.getD 0 0 = 118)
  | _ => false

/-- one event: a fresh data answer (`.chunk u`) that carries a fragment must be allowed to follow the session's
previous one; the `VACK` answer to a version request starts a new session in the slot it names; everything else
(control answers, copies to duplicate queries, cache replays, …) is ignored -/
def monEvent (isV : Bool) (m : MonState) : Event → Option MonState
  | .ans _ _ _ _ _ data (.chunk u) =>
    match fragHeader data with
    | some h => if mayFollow (m u) h then some (m.set u (some h)) else none
    | none => some m
  | .ans _ _ _ _ _ data .ctrl =>
    if isV then
      match vackSlot data with
      | some u => some (m.set u none)
      | none => some m
    else some m
  | _ => some m

def monEvents (isV : Bool) (m : MonState) : List Event → Option MonState
  | [] => some m
  | e :: es => (monEvent isV m e).bind (fun m' => monEvents isV m' es)

/-- the monitor over a trace; it reads the inputs and the events only.  `none` = violation. -/
def monTrace (m : MonState) : List TraceStep → Option MonState
  | [] => some m
  | t :: ts => (monEvents (isVersionQuery t.step.inp) m t.events).bind (fun m' => monTrace m' ts)

/-- the trace is accepted -/
def NumberedConsecutively (tr : List TraceStep) : Prop := (monTrace (fun _ => none) tr).isSome = true

theorem mayFollow_eq (p : Option FragId) (c : FragId) : mayFollow p c = C15L.accepts p c := by
  cases p <;> rfl

theorem monEvent_eq (isV : Bool) (m : MonState) (e : Event) : monEvent isV m e = C15L.monEvent isV m e := by
  unfold monEvent C15L.monEvent
  cases e with
  | ans a b c d n dt t =>
    cases t with
    | chunk u => simp only [mayFollow_eq]; rfl
    | _ => rfl
  | _ => rfl

theorem monEvents_eq (isV : Bool) (m : MonState) (es : List Event) : monEvents isV m es = C15L.runMon isV m es := by
  induction es generalizing m with
  | nil => rfl
  | cons e es ih =>
    simp only [monEvents, C15L.runMon, monEvent_eq]
    cases C15L.monEvent isV m e with
    | none => rfl
    | some m' => exact ih m'

theorem isVersionQuery_eq (i : Input) : isVersionQuery i = C15L.inpIsV i := by
  cases i <;> rfl

theorem monTrace_eq (m : MonState) (tr : List TraceStep) : monTrace m tr = C15L.monTrace m tr := by
  induction tr generalizing m with
  | nil => rfl
  | cons t ts ih =>
    simp only [monTrace, C15L.monTrace, monEvents_eq, isVersionQuery_eq]
    cases C15L.runMon (C15L.inpIsV t.step.inp) m t.events with
    | none => rfl
    | some m' => exact ih m'

/-- **C15 (B).**  In every run from start-up, for every session the fresh fragments (in trace order) are numbered
consecutively from 0 within a packet, a fragment follows one flagged "last" only as fragment 0 of another packet
(or as a re-send of the same fragment), and a new session in a slot starts again at fragment 0: the monitor accepts
the trace.  (Monotonicity of the clock is not needed.) -/
theorem fragments_consecutive (cfg : Config) (rnd : List Nat) (steps : List Step)
    (_hm : Monotone (start cfg rnd) steps) :
    NumberedConsecutively (traceFrom (start cfg rnd) steps) := by
  obtain ⟨m', h⟩ := C15L.monTrace_run steps (start cfg rnd) (fun _ => none) (C15L.inv_start cfg rnd)
    (by have := C15L.start_length cfg rnd; omega) (C15L.g_start cfg rnd)
  unfold NumberedConsecutively
  rw [monTrace_eq, h]
  rfl

/-- non-vacuity: on the example run the monitor follows the three fragments of the 125-byte packet (seq 1, frag 0,
1, 2, the last one flagged); it rejects a first fragment numbered 1, a skipped fragment, and a fragment after one
flagged last -/
example : Monotone Ex.s0 Ex.steps ∧
    (monTrace (fun _ => none) (traceFrom Ex.s0 Ex.steps)).map (fun m => m 0) = some (some (1, 2, 1)) :=
  ⟨Ex.mono, by rw [monTrace_eq]; exact Ex.run_facts.2.2.2.2.2.2.1⟩
example : (monEvents false (fun _ => none) [Event.ans Addr.zero 1 10 84 [] [128, 34, 7] (.chunk 0)]).isSome = false ∧
    (monEvents false (fun _ => none) [Event.ans Addr.zero 1 10 84 [] [128, 32, 7] (.chunk 0),
      Event.ans Addr.zero 2 10 84 [] [128, 36, 7] (.chunk 0)]).isSome = false ∧
    (monEvents false (fun _ => none) [Event.ans Addr.zero 1 10 84 [] [128, 33, 7] (.chunk 0),
      Event.ans Addr.zero 2 10 84 [] [128, 34, 7] (.chunk 0)]).isSome = false := by decide

/-- the number of payload bytes the server cuts for a session state: `min(fragsize, len - offset)`, at most
what fits a 4096-byte answer after the 2-byte header; nothing without a stored packet -/
def cutLen (x : Session) : Nat :=
  if x.outpacket.len > 0 then min (min x.fragsize (x.outpacket.len - x.outpacket.offset)) (4096 - 2) else 0

/-- well-formed bookkeeping of the stored downstream packet of a session state -/
structure StoredPacketOK (x : Session) : Prop where
  sent : x.outpacket.offset + x.outpacket.sentlen ≤ x.outpacket.len
  off : x.outpacket.len ≠ 0 → x.outpacket.offset < x.outpacket.len
  data : x.outpacket.len ≤ x.outpacket.data.length
  fsz : x.outpacket.len ≠ 0 → 2 ≤ x.fragsize

/-- `data` (header and payload of a fresh data answer) is cut from the stored packet of session state `x` -/
structure CutFrom (x : Session) (data : List Nat) : Prop where
  wf : StoredPacketOK x
  length : data.length = cutLen x + 2
  payload : data.drop 2 = (x.outpacket.data.drop x.outpacket.offset).take (cutLen x)
  seq : data.getD 1 0 / 32 = (x.outpacket.seqno % 8).toNat
  frag : data.getD 1 0 / 2 % 16 = (x.outpacket.fragment % 16).toNat
  last : data.getD 1 0 % 2 = 1 ↔ x.outpacket.len > 0 ∧ x.outpacket.offset + cutLen x = x.outpacket.len
  nonempty : x.outpacket.len ≠ 0 → 1 ≤ cutLen x

/-- **C15 (B), common form of the two theorems below.**  Every fresh data answer (`.chunk u`) of an iteration from a reachable state was
cut by `send_chunk_or_dataless` from a session state `x` whose packet bookkeeping is well-formed (`x` is the state of
slot `u` at the time of the call, after the "re-sent too often" block; the theorem exposes it existentially). -/
theorem fresh_fragment_cut {cfg : Config} {s : Srv} (hr : Reachable cfg s) (st : Step)
    (a : Addr) (id ty dn : Nat) (name data : List Nat) (u : Nat)
    (he : Event.ans a id ty dn name data (.chunk u) ∈ out s st) : ∃ x : Session, CutFrom x data := by
  obtain ⟨x, hw, hd⟩ := C15L.chunk_ok_of_reachable hr st _ he a id ty dn name data u rfl
  obtain ⟨h1, h2, h3, h4, h5, h6⟩ := C15L.scPkt_shape hw
  subst hd
  exact ⟨x, ⟨hw.sent, hw.off, hw.data, hw.fsz⟩, h1, h2, h3, h4, h5, h6⟩

/-- non-vacuity: the three fresh fragments of the example run: header bytes 0x20, 0x22, 0x25 (only the third is
flagged last), payloads of 50, 50 and 25 bytes of 0xaa… cut from the 125-byte packet -/
example : (out (Ex.at_ 5) (Ex.stepAt 5)).head? =
      some (Event.ans ⟨4, 0x7f000001, 5000⟩ 5 10 84 Ex.qP2.name
        ([128, 32] ++ ((compress Ex.frame).drop 0).take 50) (.chunk 0)) ∧
    (out (Ex.at_ 7) (Ex.stepAt 7)).head? =
      some (Event.ans ⟨4, 0x7f000001, 5000⟩ 7 10 84 Ex.qP3.name
        ([128, 34] ++ ((compress Ex.frame).drop 50).take 50) (.chunk 0)) ∧
    (out (Ex.at_ 8) (Ex.stepAt 8)).head? =
      some (Event.ans ⟨4, 0x7f000001, 5000⟩ 8 10 84 Ex.qP4.name
        ([128, 37] ++ ((compress Ex.frame).drop 100).take 50) (.chunk 0)) := Ex.run_facts.2.2.2.2.2.2.2

/-- **C15 (B).**  A fresh data answer carries the last-fragment flag iff its fragment ends the stored packet
(`offset + datalen = len` in the session state it was cut from). -/
theorem last_flag_iff_final {cfg : Config} {s : Srv} (hr : Reachable cfg s) (st : Step)
    (a : Addr) (id ty dn : Nat) (name data : List Nat) (u : Nat)
    (he : Event.ans a id ty dn name data (.chunk u) ∈ out s st) :
    ∃ x : Session, StoredPacketOK x ∧ data.length = cutLen x + 2 ∧
      (data.getD 1 0 % 2 = 1 ↔ x.outpacket.len > 0 ∧ x.outpacket.offset + cutLen x = x.outpacket.len) := by
  obtain ⟨x, h⟩ := fresh_fragment_cut hr st a id ty dn name data u he
  exact ⟨x, h.wf, h.length, h.last⟩

/-- **C15 (B), payload.**  The payload of a fresh data answer is `(outpacket.data.drop offset).take datalen` of the session
state it was cut from: fragments are cut from the stored packet and nothing else; a stored packet never yields an
empty fragment. -/
theorem chunk_is_prefix_of_outpacket {cfg : Config} {s : Srv} (hr : Reachable cfg s) (st : Step)
    (a : Addr) (id ty dn : Nat) (name data : List Nat) (u : Nat)
    (he : Event.ans a id ty dn name data (.chunk u) ∈ out s st) :
    ∃ x : Session, StoredPacketOK x ∧
      data.drop 2 = (x.outpacket.data.drop x.outpacket.offset).take (cutLen x) ∧ data.length = cutLen x + 2 ∧
      (x.outpacket.len ≠ 0 → 1 ≤ cutLen x) := by
  obtain ⟨x, h⟩ := fresh_fragment_cut hr st a id ty dn name data u he
  exact ⟨x, h.wf, h.payload, h.length, h.nonempty⟩

/-! ## A finding: packets of more than 16 fragments are undeliverable

The fragment number has 4 bits in the data header and in the client's ack, but `outpacket.fragment` is a `char`
that `process_downstream_ack` compares unmasked with the 4-bit number.  The 17th fragment of a packet goes out
numbered 0 again (16 mod 16 — which is why `mayFollow` counts mod 16) and can never be acknowledged; after six
re-sends the whole packet is dropped.  Concrete run: fragment size 2, a 125-byte packet (63 fragments).  The
sixteen fragments 0…15 are acknowledged one by one, "fragment 0" is then sent six times, and the next answer
is dataless: the packet is gone after 32 of its 125 bytes. -/

namespace Ex
def b32e (d : List Nat) : List Nat := (Codec.enc Codec.b32 1000 d).chars
/-- `N` for fragment size 2 -/
def qN2 : Query := mkQ 3 ([110] ++ b32e [0, 0, 2])
/-- ping number `k` acknowledging fragment `(k - 1) mod 16` of packet 1 -/
def ping (k : Nat) : Query := mkQ (10 + k) ([112] ++ b32e [0, 16 + (k + 15) % 16, 0, 100 + k])
def steps16 : List Step :=
  [⟨.q qV, 1000⟩, ⟨.q qL, 1000⟩, ⟨.q qN2, 1001⟩, ⟨.q qP1, 1001⟩, ⟨.tun frame, 1001⟩] ++
  (List.range 23).map fun k => ⟨.q (ping k), 1002⟩
/-- (fragment number, payload length) of the fresh data answers of slot 0, in trace order -/
def freshFrags (tr : List TraceStep) : List (Nat × Nat) :=
  tr.flatMap fun t => t.events.filterMap fun e =>
    match e with
    | .ans _ _ _ _ _ d (.chunk 0) => some (d.getD 1 0 / 2 % 16, d.length - 2)
    | _ => none
end Ex

example : (Ex.freshFrags (traceFrom Ex.s0 Ex.steps16)).drop 1 =
      (List.range 16).map (fun k => (k, 2)) ++ List.replicate 6 (0, 2) ++ [(0, 0)] ∧
    (getUser (runFrom Ex.s0 Ex.steps16) 0).outpacket.len = 0 ∧
    NumberedConsecutively (traceFrom Ex.s0 Ex.steps16) := by
  unfold NumberedConsecutively
  decide +kernel

end Iodine.C15
