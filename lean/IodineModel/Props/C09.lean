import IodineModel.Server.WriteDns
import IodineModel.Client.ReadDns
import IodineModel.Lemmas.DownstreamE2E
import IodineModel.Lemmas.DownstreamMx
import IodineModel.Props.C10Session
/-
C09 — downstream answers decode exactly (or to a prefix), monotonically in size.

"For every payload of at least 2 bytes and every combination of query type and downstream codec, what the
client extracts from the server's answer is exactly the payload when it fits that answer format, and otherwise a
proper prefix of it or nothing — never different bytes.  If a payload of some length is delivered exactly, so is
every shorter one, which is what makes the client's fragment-size probe a sound binary search."

Model: `Server.WriteDns.writeDns` (iodined.c `write_dns`, `write_dns_nameenc`) → `Wire.DnsEncode.dnsEncodeAnswer`
→ the datagram → `Wire.dnsDecodeAnswer` → `Client.ReadDns.readDnsWithq` (client.c `read_dns_withq`, `dns_namedec`).
Helper lemmas: Lemmas/WireRt*.lean (round trip through the wire), Lemmas/Downstream*.lean, Lemmas/Mx*.lean.

The specification side below (`Setting`, `fits` and the arithmetic it is made of) does not refer to the model's
code.  Quantification: every client buffer size `B` with 4096 ≤ B ≤ 65536 (the client uses 4096 in the
handshake and 64 KiB in the tunnel), every reachable state `td` of the rotating pseudo-TLD, every query id,
the seven query types, every legal query name (C10's `LegalName`: 1..253 characters), every payload of 2..4096
bytes, and EVERY value of the downstream-codec byte (`T S U V R` are the ones the protocol uses; any other value
is treated like `T` by the server).
-/
namespace Iodine.C09
open Iodine Iodine.Codec Iodine.Wire Iodine.Server.WriteDns Iodine.Client.ReadDns Iodine.C10

/-! ### Specification vocabulary -/

/-- NULL, PRIVATE, TXT, SRV, MX, CNAME, A -/
def QTypes : List Nat := [10, 65399, 16, 33, 15, 5, 1]

/-- the downstream codec letters `T S U V R` (Base32, Base64, Base64u, Base128, Raw) -/
def Codecs : List Nat := [84, 83, 85, 86, 82]

/-- the datagram the server sends for the query `(id, ty, qn)` and the payload `p`, if any -/
def answer (td : Td) (id ty : Nat) (qn p : List Nat) (dn : Nat) : Option (List Nat) :=
  (writeDns td (id, ty, qn) p dn).2

/-- what the client, reading into a buffer of `B` bytes, ends up with (empty when `read_dns_withq` returns
`≤ 0` or when nothing was sent); `.error` would be a memory fault in the decoder -/
def extract (B : Nat) (td : Td) (id ty : Nat) (qn p : List Nat) (dn : Nat) : Except Fault (List Nat) :=
  match answer td id ty qn p dn with
  | none => .ok []
  | some pkt => (readDnsWithq B pkt).map (·.buf)

/-- the hypotheses of the property -/
structure Setting (B : Nat) (td : Td) (id ty : Nat) (qn p : List Nat) : Prop where
  buf : 4096 ≤ B ∧ B ≤ 65536
  /-- `td1`, `td2` start at 0 and are reduced mod 26 / 25 after every step -/
  td_ok : td.1 < 26 ∧ td.2 < 25
  id_ok : id < 65536
  ty_ok : ty ∈ QTypes
  qn_ok : LegalName qn
  p_len : 2 ≤ p.length ∧ p.length ≤ 4096
  p_bytes : ∀ b ∈ p, b < 256

/-- bits per character of the codec a host name (CNAME/A/MX/SRV) or TXT answer is written in:
`S`, `U` → 6, `V` → 7, everything else 5 (`R` only exists for TXT; host names fall back to Base32) -/
def bits (dn : Nat) : Nat := if dn = 83 ∨ dn = 85 then 6 else if dn = 86 then 7 else 5

/-- `⌈8n/k⌉`: characters needed for `n` bytes -/
def chars (k n : Nat) : Nat := (8 * n + k - 1) / k

/-- length of the TXT text: the codec letter and the encoding (`R`: the bytes themselves) -/
def txtLen (dn n : Nat) : Nat := 1 + (if dn = 82 then n else chars (bits dn) n)

/-- encoded characters one host name can hold: 255 - 6 = 249, minus 4 for dots = 245; with 6-bit characters the
245th would not complete a byte and is dropped -/
def hostChars (dn : Nat) : Nat := if bits dn = 6 then 244 else 245

/-- payload bytes one host name can hold: 153 (Base32) / 183 (Base64, Base64u) / 214 (Base128) -/
def hostBytes (dn : Nat) : Nat := bits dn * hostChars dn / 8

/-- length of a host name around `m` encoded characters: codec letter, a dot after every 57 characters, a dot
before the two-letter pseudo-TLD unless there is one already, the pseudo-TLD -/
def nameLen (m : Nat) : Nat := m + 1 + (m + 1) / 57 + (if (m + 1) % 57 = 0 then 0 else 1) + 2

/-- bytes the host names of an MX/SRV answer for `n` payload bytes take in the client's buffer, each with its NUL:
`q` full names and the last one -/
def mxJoined (dn n : Nat) : Nat :=
  (n - 1) / hostBytes dn * (nameLen (hostChars dn) + 1) +
    (nameLen (chars (bits dn) (n - (n - 1) / hostBytes dn * hostBytes dn)) + 1)

/-- **"fits that answer format"**, as a closed formula in the payload length `n`:
* NULL/PRIVATE: the RDATA buffer of the decoder (4096) and the caller's buffer;
* TXT: letter + encoding within the decoder's 4096-byte RDATA buffer;
* CNAME/A: one host name;
* MX/SRV: the names, NUL-separated, within the caller's buffer — the last name may lose its final character
  (the client strips the last three characters anyway: `buflen - 4` in `Client.ReadDns.dnsNamedec`; `Carries.exact1`, Lemmas/MxClient.lean).
(The decoder's limit of 249 names is far away: 4096 bytes need 27 names.) -/
def fits (B ty dn n : Nat) : Bool :=
  if ty = 10 ∨ ty = 65399 then decide (n ≤ min B 4096)
  else if ty = 16 then decide (txtLen dn n ≤ 4096 ∧ n ≤ B)
  else if ty = 5 ∨ ty = 1 then decide (n ≤ hostBytes dn)
  else decide (mxJoined dn n ≤ B)

/-! ### Glue between the vocabulary and the lemma files -/

theorem bits_eq (dn : Nat) : bits dn = (nameCodec dn).2.k := by
  unfold bits nameCodec
  by_cases h1 : dn = 83
  · simp [h1, b64]
  by_cases h2 : dn = 85
  · simp [h2, b64u]
  by_cases h3 : dn = 86
  · simp [h3, b128]
  · simp [h1, h2, h3, b32]

theorem bits_cases (dn : Nat) : bits dn = 5 ∨ bits dn = 6 ∨ bits dn = 7 :=
  bits_eq dn ▸ (Downstream.hostCodec dn).wf.k_ok

theorem hostChars_eq (dn : Nat) : hostChars dn = Downstream.jcap (bits dn) := by
  unfold hostChars
  rcases bits_cases dn with h | h | h <;> rw [h] <;> decide

theorem hostBytes_eq (dn : Nat) : hostBytes dn = Downstream.ucap (bits dn) := by
  unfold hostBytes Downstream.ucap
  rw [hostChars_eq]

theorem mxJoined_eq (dn n : Nat) : mxJoined dn n = Downstream.jl (bits dn) n := by
  unfold mxJoined Downstream.jl
  rw [hostBytes_eq, hostChars_eq]
  rfl

theorem txtLen_eq (dn n : Nat) : txtLen dn n = 1 + Downstream.txtLen dn n := rfl

theorem fits_null (B dn n : Nat) {ty : Nat} (h : ty = 10 ∨ ty = 65399) :
    (fits B ty dn n = true) ↔ n ≤ min B 4096 := by
  unfold fits; rw [if_pos h]; simp
theorem fits_txt (B dn n : Nat) : (fits B 16 dn n = true) ↔ (txtLen dn n ≤ 4096 ∧ n ≤ B) := by
  unfold fits; rw [if_neg (by decide), if_pos rfl]; simp
theorem fits_cname (B dn n : Nat) {ty : Nat} (h : ty = 5 ∨ ty = 1) : (fits B ty dn n = true) ↔ n ≤ hostBytes dn := by
  unfold fits
  rw [if_neg (by rcases h with h | h <;> simp [h]), if_neg (by rcases h with h | h <;> simp [h]), if_pos h]; simp
theorem fits_mx (B dn n : Nat) {ty : Nat} (h : ty = 15 ∨ ty = 33) : (fits B ty dn n = true) ↔ mxJoined dn n ≤ B := by
  unfold fits
  rw [if_neg (by rcases h with h | h <;> simp [h]), if_neg (by rcases h with h | h <;> simp [h]),
    if_neg (by rcases h with h | h <;> simp [h])]; simp

theorem not_fits {B ty dn n : Nat} (h : fits B ty dn n = false) : ¬ (fits B ty dn n = true) := by simp [h]

theorem qtypes_cases {ty : Nat} (h : ty ∈ QTypes) :
    (ty = 10 ∨ ty = 65399) ∨ ty = 16 ∨ (ty = 15 ∨ ty = 33) ∨ (ty = 5 ∨ ty = 1) := by
  simp only [QTypes, List.mem_cons, List.not_mem_nil, or_false] at h
  rcases h with h | h | h | h | h | h | h
  · exact .inl (.inl h)
  · exact .inl (.inr h)
  · exact .inr (.inl h)
  · exact .inr (.inr (.inl (.inr h)))
  · exact .inr (.inr (.inl (.inl h)))
  · exact .inr (.inr (.inr (.inl h)))
  · exact .inr (.inr (.inr (.inr h)))

theorem cname_case (B : Nat) (td : Td) (id ty : Nat) (qn p : List Nat) (dn : Nat) (hty : ty = 5 ∨ ty = 1)
    (hB : 4096 ≤ B ∧ B ≤ 65536) (htd : Downstream.TdOk td) (hid : id < 65536) (hqn : LegalName qn)
    (hpl : 2 ≤ p.length ∧ p.length ≤ 4096) (hpb : Codec.Bytes p) :
    extract B td id ty qn p dn = .ok (p.take (hostBytes dn)) := by
  have hc := Downstream.hostCodec dn
  have hs := Downstream.nameenc_shape td htd 1024 (by omega) p hpb dn
  obtain ⟨n0, hr⟩ := Downstream.read_cname B id ty qn p hc hs hid hty hqn hpb hpl.2 hB.1
  unfold extract answer
  rw [Downstream.writeDns_cname td htd id ty qn p dn hty hqn hpb]
  simp only [hr, Wire.map_ok]
  have henc := Downstream.enc245 hc.wf p
  rw [← bits_eq, ← hostBytes_eq] at henc
  by_cases hle : p.length ≤ hostBytes dn
  · rw [(henc.1 hle).1, List.take_of_length_le (Nat.le_refl _), List.take_of_length_le hle]
  · rw [(henc.2 (by omega)).1]

/-- what arrives for the types with a single record, as a closed form: the payload; for TXT nothing when the text
exceeds the decoder's buffer; for CNAME/A the part one host name holds -/
def delivered (ty dn : Nat) (p : List Nat) : List Nat :=
  if ty = 16 then (if txtLen dn p.length ≤ 4096 then p else [])
  else if ty = 5 ∨ ty = 1 then p.take (hostBytes dn)
  else p

theorem extract_closed_form {B : Nat} {td : Td} {id ty : Nat} {qn p : List Nat} (S : Setting B td id ty qn p) (dn : Nat)
    (hty : ty ≠ 15 ∧ ty ≠ 33) : extract B td id ty qn p dn = .ok (delivered ty dn p) := by
  obtain ⟨⟨hB1, hB2⟩, htd, hid, hty', hqn, ⟨hp2, hp⟩, hpb⟩ := S
  unfold delivered
  rcases qtypes_cases hty' with hN | rfl | hM | hC
  · obtain ⟨n0, hr⟩ := Downstream.read_null B id ty qn p hid hN hqn hp2 hp
    unfold extract answer
    rw [Downstream.writeDns_null td id ty qn p dn hN hqn hp]
    simp only [hr, Wire.map_ok]
    rw [List.take_of_length_le (by omega), if_neg (by omega), if_neg (by omega)]
  · obtain ⟨n0, hr⟩ := Downstream.read_txt B id qn p dn hid hqn hpb (by omega) hp hB1
    unfold extract answer
    rw [Downstream.writeDns_txt td id qn p dn hqn hp]
    simp only [hr, Wire.map_ok, txtLen_eq, if_true]
    by_cases hf : 1 + Downstream.txtLen dn p.length ≤ 4096
    · simp only [hf, if_true]
    · simp only [hf, if_false]
  · omega
  · rw [cname_case B td id ty qn p dn hC ⟨hB1, hB2⟩ htd hid hqn ⟨hp2, hp⟩ hpb, if_neg (by omega), if_pos hC]

/-- what the lemma files establish, per answer format, in one statement -/
theorem extract_spec {B : Nat} {td : Td} {id ty : Nat} {qn p : List Nat} (S : Setting B td id ty qn p) (dn : Nat) :
    ∃ e, extract B td id ty qn p dn = .ok e ∧ e <+: p ∧
      (fits B ty dn p.length = true → e = p) ∧ (fits B ty dn p.length = false → e.length < p.length) := by
  have hS := S
  obtain ⟨⟨hB1, hB2⟩, htd, hid, hty, hqn, ⟨hp2, hp⟩, hpb⟩ := S
  rcases qtypes_cases hty with hN | rfl | hM | hC
  · rw [extract_closed_form hS dn (by omega), delivered, if_neg (by omega), if_neg (by omega)]
    exact ⟨_, rfl, List.prefix_refl _, fun _ => rfl,
      fun h => absurd ((fits_null B dn p.length hN).mpr (by omega)) (not_fits h)⟩
  · rw [extract_closed_form hS dn (by omega), delivered, if_pos rfl]
    by_cases hf : txtLen dn p.length ≤ 4096
    · rw [if_pos hf]
      exact ⟨_, rfl, List.prefix_refl _, fun _ => rfl,
        fun h => absurd ((fits_txt B dn p.length).mpr ⟨hf, by omega⟩) (not_fits h)⟩
    · rw [if_neg hf]
      exact ⟨_, rfl, List.nil_prefix, fun h => absurd ((fits_txt B dn p.length).mp h).1 hf,
        fun _ => by simp only [List.length_nil]; omega⟩
  · obtain ⟨n0, D, hr, hpre, hex, hnex, _⟩ := Downstream.read_mx B td htd id ty qn p dn hid hM hqn hpb (by omega) hp hB1 hB2
    unfold extract answer
    rw [Downstream.writeDns_mx td htd id ty qn p dn hM hqn hpb (by omega) hp]
    simp only [hr, Wire.map_ok]
    rw [Downstream.joinedLen_mxNamesOf td p dn (by omega), ← bits_eq, ← mxJoined_eq] at hex hnex
    refine ⟨_, rfl, hpre, fun h => hex ((fits_mx B dn p.length hM).mp h), fun h => hnex ?_⟩
    have := not_fits h
    rw [fits_mx B dn p.length hM] at this
    omega
  · rw [extract_closed_form hS dn (by omega), delivered, if_neg (by omega), if_pos hC]
    refine ⟨_, rfl, List.take_prefix _ _, fun h => List.take_of_length_le ((fits_cname B dn p.length hC).mp h), fun h => ?_⟩
    have := not_fits h
    rw [fits_cname B dn p.length hC] at this
    simp only [List.length_take]; omega

/-! ### The property -/

/-- **(A) answer_prefix.**  Whatever the type, the codec, the names and the buffer: the decoder does not fault
and what the client extracts is a prefix of the payload — all of it, a proper prefix, or nothing; never other
bytes. -/
theorem answer_prefix {B : Nat} {td : Td} {id ty : Nat} {qn p : List Nat} (S : Setting B td id ty qn p) (dn : Nat) :
    ∃ e, extract B td id ty qn p dn = .ok e ∧ e <+: p := by
  obtain ⟨e, h1, h2, _⟩ := extract_spec S dn
  exact ⟨e, h1, h2⟩

/-- **(A) answer_exact_when_fits.**  A payload whose length fits the answer format is delivered exactly. -/
theorem answer_exact_when_fits {B : Nat} {td : Td} {id ty : Nat} {qn p : List Nat} (S : Setting B td id ty qn p)
    (dn : Nat) (h : fits B ty dn p.length = true) : extract B td id ty qn p dn = .ok p := by
  obtain ⟨e, h1, _, h3, _⟩ := extract_spec S dn
  rw [h1, h3 h]

/-- **(B) not_fits_proper_prefix.**  A payload that does not fit arrives as a proper prefix (possibly empty). -/
theorem not_fits_proper_prefix {B : Nat} {td : Td} {id ty : Nat} {qn p : List Nat} (S : Setting B td id ty qn p)
    (dn : Nat) (h : fits B ty dn p.length = false) :
    ∃ e, extract B td id ty qn p dn = .ok e ∧ e <+: p ∧ e.length < p.length ∧ e ≠ p := by
  obtain ⟨e, h1, h2, _, h4⟩ := extract_spec S dn
  refine ⟨e, h1, h2, h4 h, fun he => ?_⟩
  have := h4 h
  rw [he] at this
  exact Nat.lt_irrefl _ this

theorem exact_iff_fits {B : Nat} {td : Td} {id ty : Nat} {qn p : List Nat} (S : Setting B td id ty qn p) (dn : Nat) :
    extract B td id ty qn p dn = .ok p ↔ fits B ty dn p.length = true := by
  constructor
  · intro he
    cases hf : fits B ty dn p.length with
    | true => rfl
    | false =>
      obtain ⟨e, h1, _, _, hne⟩ := not_fits_proper_prefix S dn hf
      rw [he] at h1
      exact absurd (Except.ok.inj h1).symm hne
  · exact answer_exact_when_fits S dn

theorem chars_mono (k : Nat) {m n : Nat} (h : m ≤ n) : chars k m ≤ chars k n := by
  unfold chars
  exact Nat.div_le_div_right (by omega)

/-- **(A) exact_downward_closed.**  "Fits" is downward closed in the payload length (for every type value, every
codec byte, every buffer size). -/
theorem exact_downward_closed (B ty dn : Nat) {m n : Nat} (h : fits B ty dn n = true) (hm : 2 ≤ m) (hmn : m ≤ n) :
    fits B ty dn m = true := by
  unfold fits at h ⊢
  by_cases h1 : ty = 10 ∨ ty = 65399
  · rw [if_pos h1] at h ⊢
    simp only [decide_eq_true_eq] at h ⊢
    omega
  rw [if_neg h1] at h ⊢
  by_cases h2 : ty = 16
  · rw [if_pos h2] at h ⊢
    simp only [decide_eq_true_eq] at h ⊢
    refine ⟨?_, by omega⟩
    have hc := chars_mono (bits dn) hmn
    unfold txtLen at h ⊢
    by_cases hr : dn = 82
    · simp only [hr, if_true] at h ⊢; omega
    · simp only [hr, if_false] at h ⊢; omega
  rw [if_neg h2] at h ⊢
  by_cases h3 : ty = 5 ∨ ty = 1
  · rw [if_pos h3] at h ⊢
    simp only [decide_eq_true_eq] at h ⊢
    omega
  rw [if_neg h3] at h ⊢
  simp only [decide_eq_true_eq] at h ⊢
  rw [mxJoined_eq] at h ⊢
  exact Nat.le_trans (Downstream.jl_mono (bits dn) (bits_cases dn) (by omega) hmn) h

/-- … and therefore: if a payload is delivered exactly, so is every shorter one (of at least 2 bytes) — whatever
its content, the query it answers and the state of the server's pseudo-TLD rotation.  This is what makes the
client's fragment-size probe a sound binary search. -/
theorem delivered_exactly_downward {B : Nat} {td td' : Td} {id id' ty : Nat} {qn qn' p p' : List Nat} (dn : Nat)
    (S : Setting B td id ty qn p) (S' : Setting B td' id' ty qn' p') (hlen : p'.length ≤ p.length)
    (h : extract B td id ty qn p dn = .ok p) : extract B td' id' ty qn' p' dn = .ok p' :=
  answer_exact_when_fits S' dn
    (exact_downward_closed B ty dn ((exact_iff_fits S dn).mp h) S'.p_len.1 hlen)

/-- **(C)** whether a payload arrives complete depends neither on the pseudo-TLD state, nor on the query id, nor
on the query name -/
theorem exactness_independent {B : Nat} {td td' : Td} {id id' ty : Nat} {qn qn' p : List Nat} (dn : Nat)
    (S : Setting B td id ty qn p) (S' : Setting B td' id' ty qn' p) :
    extract B td id ty qn p dn = .ok p ↔ extract B td' id' ty qn' p dn = .ok p := by
  rw [exact_iff_fits S dn, exact_iff_fits S' dn]

theorem mx_extract_eq {B : Nat} {td : Td} {id ty : Nat} {qn p : List Nat} (S : Setting B td id ty qn p) (dn : Nat)
    (hty : ty = 15 ∨ ty = 33) :
    extract B td id ty qn p dn = .ok (Downstream.mxExpected (Downstream.mxFirstLen p dn) B
      (Downstream.mxItems (p.length + 1) td p dn) 0 0) := by
  obtain ⟨⟨hB1, hB2⟩, htd, hid, _, hqn, ⟨hp2, hp⟩, hpb⟩ := S
  obtain ⟨n0, D, hr, _, _, _, hexp⟩ := Downstream.read_mx B td htd id ty qn p dn hid hty hqn hpb (by omega) hp hB1 hB2
  unfold extract answer
  rw [Downstream.writeDns_mx td htd id ty qn p dn hty hqn hpb (by omega) hp]
  simp only [hr, Wire.map_ok]
  rw [hexp]

/-- **(C) answer_independent.**  What the client extracts depends neither on the state of the pseudo-TLD rotation,
nor on the query id, nor on the query name. -/
theorem answer_independent {B : Nat} {td td' : Td} {id id' ty : Nat} {qn qn' p : List Nat} (dn : Nat)
    (S : Setting B td id ty qn p) (S' : Setting B td' id' ty qn' p) :
    extract B td id ty qn p dn = extract B td' id' ty qn' p dn := by
  by_cases hty : ty = 15 ∨ ty = 33
  · rw [mx_extract_eq S dn hty, mx_extract_eq S' dn hty, Downstream.mxExpected_indep _ B dn _ td td' p 0 0]
  · rw [extract_closed_form S dn ⟨fun h => hty (Or.inl h), fun h => hty (Or.inr h)⟩,
      extract_closed_form S' dn ⟨fun h => hty (Or.inl h), fun h => hty (Or.inr h)⟩]

/-! ### Non-vacuity -/

/-- query name "p.t" -/
def qnShort : List Nat := [112, 46, 116]

/-- the hypotheses are satisfiable (for every type; here NULL with a 3-byte payload, and A with 154 bytes) -/
example : Setting 4096 (0, 0) 7 10 qnShort [1, 2, 255] :=
  ⟨by omega, by decide, by decide, by decide, by decide, by decide, by decide⟩
theorem setting154 : Setting 65536 (23, 4) 65535 1 qnShort (List.replicate 154 9) :=
  ⟨by omega, by decide, by decide, by decide, by decide, by simp,
    fun b hb => by rw [List.eq_of_mem_replicate hb]; decide⟩

/-- concrete payloads through the whole path — server, wire, decoder, client — by evaluation of the model:
one per answer format (NULL, PRIVATE, TXT, SRV, MX, CNAME, A) and with all five codec letters -/
example : extract 4096 (0, 0) 7 10 qnShort [1, 2, 255] 84 = .ok [1, 2, 255] := by decide +kernel
example : extract 65536 (0, 0) 7 65399 qnShort [0, 0] 82 = .ok [0, 0] := by decide +kernel
example : extract 4096 (0, 0) 7 16 qnShort [1, 2, 255] 83 = .ok [1, 2, 255] := by decide +kernel
example : extract 4096 (0, 0) 7 16 qnShort [1, 2, 255] 82 = .ok [1, 2, 255] := by decide +kernel
example : extract 4096 (3, 7) 7 33 qnShort [1, 2, 255] 85 = .ok [1, 2, 255] := by decide +kernel
example : extract 4096 (25, 24) 7 15 qnShort [1, 2, 255, 0, 77] 86 = .ok [1, 2, 255, 0, 77] := by decide +kernel
example : extract 4096 (3, 7) 7 5 qnShort [1, 2, 255] 86 = .ok [1, 2, 255] := by decide +kernel
example : extract 65536 (3, 7) 7 1 qnShort [255, 255] 84 = .ok [255, 255] := by decide +kernel

/-- the datagram of the first of them -/
example : answer (0, 0) 7 10 qnShort [1, 2, 255] 84 =
    some [0, 7, 0x84, 0, 0, 1, 0, 1, 0, 0, 0, 0, 1, 112, 1, 116, 0, 0, 10, 0, 1,
          0xc0, 0x0c, 0, 10, 0, 1, 0, 0, 0, 0, 0, 3, 1, 2, 255] := by decide +kernel

/-- an MX answer for 160 bytes consists of two host names, a full one (253 characters) and a short one -/
example : (Downstream.mxNamesOf (0, 0) (List.replicate 160 7) 84).map List.length = [253, 16] := by decide +kernel

/-- a payload that does not fit: 154 bytes in an A answer with Base32 arrive as their first 153 bytes -/
example : extract 65536 (23, 4) 65535 1 qnShort (List.replicate 154 9) 84 = .ok (List.replicate 153 9) := by
  rw [extract_closed_form setting154 84 ⟨by decide, by decide⟩]
  have h : hostBytes 84 = 153 := by decide
  simp [delivered, h]
example : fits 65536 1 84 154 = false := by decide
example := not_fits_proper_prefix setting154 84 (by rw [List.length_replicate]; decide)

/-- the thresholds of `fits` (they are the ones measured on the implementation by checks/c09.py): CNAME/A … -/
example : fits 4096 5 84 153 = true ∧ fits 4096 5 84 154 = false ∧ fits 4096 1 83 183 = true ∧ fits 4096 1 83 184 = false
    ∧ fits 4096 5 86 214 = true ∧ fits 4096 5 86 215 = false ∧ fits 4096 5 82 153 = true ∧ fits 4096 5 82 154 = false := by decide
/-- … TXT (T S V R) … -/
example : fits 4096 16 84 2559 = true ∧ fits 4096 16 84 2560 = false ∧ fits 4096 16 83 3071 = true ∧ fits 4096 16 83 3072 = false
    ∧ fits 4096 16 86 3583 = true ∧ fits 4096 16 86 3584 = false ∧ fits 4096 16 82 4095 = true ∧ fits 4096 16 82 4096 = false := by decide
/-- … MX/SRV into a 4096-byte buffer: 2464 bytes with Base32; with Base64 2960 and with Base128 3447 bytes, where
the last host name arrives without its final character and still decodes completely; no limit below 4096 bytes
with a 64 KiB buffer; NULL never limits -/
example : fits 4096 15 84 2464 = true ∧ fits 4096 15 84 2465 = false ∧ fits 4096 33 83 2960 = true ∧ fits 4096 33 83 2961 = false
    ∧ fits 4096 15 86 3447 = true ∧ fits 4096 15 86 3448 = false ∧ fits 65536 15 84 4096 = true ∧ fits 4096 10 84 4096 = true := by decide
example : mxJoined 83 2960 = 4096 ∧ mxJoined 83 2959 = 4095 := by decide

/-- downward closure, instantiated: 2464 bytes fit an MX answer, hence 1000 do -/
example : fits 4096 15 84 1000 = true := exact_downward_closed 4096 15 84 (n := 2464) (by decide) (by omega) (by omega)

/-! ### Whole sessions of the byte-level server (Server/Bytes.lean)

The theorems above speak about one call of `write_dns`.  Here they are lifted to every datagram the server sends through
`write_dns` in a session: vocabulary `WfReachable`, `LegalReachable`, `ConfigOk`, `ByteDgram`, `LegalDgram` of Props/C10Session.lean. -/

open Iodine.Server in
/-- a datagram the byte-level server sends through `write_dns` answers an `ans` event of the iteration, and `extract_spec`
applies to it as soon as the payload of that event is a byte string of 2..4096 bytes -/
theorem tx_extracts (cfg : Config) (b : BSrv) (hr : C10.LegalReachable cfg b) (inp : BInput) (now' : Nat)
    (hl : C10.LegalDgram inp) (dst : Addr) (bytes : List Nat)
    (htx : BEvent.tx dst bytes ∈ (biteration b inp now').2.1) :
    ∃ id ty dn name data tag,
      Event.ans dst id ty dn name data tag ∈ out b.srv ⟨toInput b.srv inp, now'⟩ ∧
      ∀ B, 4096 ≤ B ∧ B ≤ 65536 → (∀ x ∈ data, x < 256) → 2 ≤ data.length → data.length ≤ 4096 →
        ∃ e, (readDnsWithq B bytes).map (·.buf) = .ok e ∧ e <+: data ∧
          (fits B ty dn data.length = true → e = data) ∧ (fits B ty dn data.length = false → e.length < data.length) := by
  have hinv := C10.legalReachable_inv hr
  obtain ⟨e, hmem, td0, htd0, hb⟩ := BytesL.biteration_mem htx
  obtain ⟨id, ty, dn, name, data, tag, rfl, hw⟩ := BytesL.mem_encodeEvent hb
  have hgood := (C10.binv_step_legal hinv inp now' hl).2 dst id ty dn name data tag hmem
  refine ⟨id, ty, dn, name, data, tag, hmem, fun B hB hd h2 h4096 => ?_⟩
  have hty : ty ∈ QTypes := by
    have := hgood.2.2
    unfold BytesL.TunnelType at this
    simp only [QTypes, List.mem_cons, List.not_mem_nil, or_false]
    exact this
  have he := extract_spec (⟨hB, htd0 hinv.td, hgood.1, hty, hgood.2.1, ⟨h2, h4096⟩, hd⟩ : Setting B td0 id ty name data) dn
  unfold extract answer at he
  rw [hw] at he
  exact he

open Iodine.Server in
/-- **session_answer_extracts_prefix_partial.**  In every state reachable from start-up through arbitrary inputs (with legal
decoded question names), for every further input and every datagram `tx dst bytes` the iteration sends: it encodes an
`ans dst id ty dn name data` event of that iteration (the call `write_dns(q, data, datalen, downenc)`), and if `data` is a byte
string of 2..4096 bytes, then the client reading `bytes` with `read_dns_withq` into a buffer of `B` bytes (4096 in the handshake,
64 KiB in the tunnel) does not fault and extracts a prefix of `data` — all of it when `fits B ty dn |data|`, a proper prefix
otherwise; never other bytes.

PARTIAL for the same reason as C10 `session_datagrams_wellformed_partial`: the premise that the payload of the `ans` event is a
byte string of 2..4096 bytes is not discharged from the session invariants (1-byte payloads exist: the "x" answer to a
recognised duplicate, which the client is meant to reject). -/
theorem session_answer_extracts_prefix_partial (cfg : Config) (b : BSrv) (hr : C10.LegalReachable cfg b)
    (inp : BInput) (now' : Nat) (hl : C10.LegalDgram inp) (dst : Addr) (bytes : List Nat)
    (htx : BEvent.tx dst bytes ∈ (biteration b inp now').2.1) (B : Nat) (hB : 4096 ≤ B ∧ B ≤ 65536) :
    ∃ id ty dn name data tag,
      Event.ans dst id ty dn name data tag ∈ out b.srv ⟨toInput b.srv inp, now'⟩ ∧
      ((∀ x ∈ data, x < 256) → 2 ≤ data.length → data.length ≤ 4096 →
        ∃ e, (readDnsWithq B bytes).map (·.buf) = .ok e ∧ e <+: data ∧
          (fits B ty dn data.length = true → e = data) ∧ (fits B ty dn data.length = false → e.length < data.length)) := by
  obtain ⟨id, ty, dn, name, data, tag, hmem, h⟩ := tx_extracts cfg b hr inp now' hl dst bytes htx
  exact ⟨id, ty, dn, name, data, tag, hmem, h B hB⟩

open Iodine.Server in
/-- **session_answer_extracts_prefix** (C09 for whole sessions).  For every configuration that passes `main()`'s checks
(`C10.ConfigOk`), every state reachable from start-up through arbitrary byte-valued inputs with legal decoded questions
(`C10.WfReachable`), every further such input and every datagram `tx dst bytes` the iteration sends: it encodes the payload `data` of
an `ans` event of that iteration, and EITHER `data` is the single byte "x" — the deliberately illegal answer to a recognised
duplicate, outside C09's quantifier (payloads of at least 2 bytes) — OR, for every client buffer size `B` in 4096..65536, every codec
byte `dn` the session uses and whatever the rotating pseudo-TLD state, `read_dns_withq` does not fault on `bytes` and extracts a
prefix of `data`: all of it iff `fits B ty dn |data|`, a proper prefix otherwise; never other bytes. -/
theorem session_answer_extracts_prefix (cfg : Config) (hc : C10.ConfigOk cfg) (b : BSrv) (hr : C10.WfReachable cfg b)
    (inp : BInput) (now' : Nat) (hl : C10.LegalDgram inp) (hb : C10.ByteDgram inp) (dst : Addr) (bytes : List Nat)
    (htx : BEvent.tx dst bytes ∈ (biteration b inp now').2.1) :
    ∃ id ty dn name data tag,
      Event.ans dst id ty dn name data tag ∈ out b.srv ⟨toInput b.srv inp, now'⟩ ∧
      (data = [120] ∨
        ∀ B, 4096 ≤ B ∧ B ≤ 65536 →
          ∃ e, (readDnsWithq B bytes).map (·.buf) = .ok e ∧ e <+: data ∧
            (fits B ty dn data.length = true → e = data) ∧ (fits B ty dn data.length = false → e.length < data.length)) := by
  obtain ⟨id, ty, dn, name, data, tag, hmem, h⟩ :=
    tx_extracts cfg b (C10.wfReachable_legal hr) inp now' hl dst bytes htx
  obtain ⟨d1, d2, d3⟩ := C10.session_payloads_are_bytes cfg hc b hr inp now' hl hb dst id ty dn name data tag hmem
  refine ⟨id, ty, dn, name, data, tag, hmem, ?_⟩
  rcases d2 with d2 | d2
  · exact Or.inr fun B hB => h B hB d1 d2 d3
  · exact Or.inl d2

open Iodine.Server in
example (dst : Addr) (bytes : List Nat)
    (h : BEvent.tx dst bytes ∈ (biteration (bstart C10.exCfgS []) (.dgram C10.exSrc C10.exDgramV) 1000).2.1) :=
  session_answer_extracts_prefix C10.exCfgS (by decide +kernel) _ (.init []) (.dgram C10.exSrc C10.exDgramV) 1000
    (by decide +kernel) (by decide +kernel) dst bytes h

open Iodine.Server in
/-- non-vacuity: the VNAK answer (9 bytes) to the version request of Props/C10Session.lean, read by the client with its
handshake buffer: the payload arrives exactly -/
def exExtractOk : Bool :=
  match (biteration (bstart C10.exCfgS []) (.dgram C10.exSrc C10.exDgramV) 1000).2.1 with
  | [.tx _ bytes] => (readDnsWithq 4096 bytes).map (·.buf) == .ok ([86, 78, 65, 75] ++ [0, 0, 5, 2] ++ [0])
  | _ => false

example : exExtractOk = true := by decide +kernel

open Iodine.Server in
example (dst : Addr) (bytes : List Nat)
    (h : BEvent.tx dst bytes ∈ (biteration (bstart C10.exCfgS []) (.dgram C10.exSrc C10.exDgramV) 1000).2.1) :=
  session_answer_extracts_prefix_partial C10.exCfgS _ (.init []) (.dgram C10.exSrc C10.exDgramV) 1000 (by decide +kernel)
    dst bytes h 4096 (by omega)

end Iodine.C09
