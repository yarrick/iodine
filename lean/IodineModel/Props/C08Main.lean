import IodineModel.Props.C08Session
import IodineModel.Lemmas.OptCli
import IodineModel.Props.Top
/-
C08, continued: what `main()` of iodine.c guarantees when it calls `client_handshake()`, against what the whole-session theorems
of Props/C08Session.lean assume (`ClientCfgOk L c`).

Guaranteed for EVERY argument vector and environment (model: Client/Options.lean, tied to the real `main()` by the `main` op of
harness/h_cli.c): the top domain passed `check_topdomain(…, 0)`; `hostname_maxlen ∈ 10..255` (`-M` is clamped, default 255);
`do_qtype` is one of the seven types or `T_UNSET`; `downenc ∈ {' ', T, S, U, V, R}`; `selecttimeout ≥ 1`; `lazymode ∈ {0,1}`;
the fragment size is in 1..65535; the packet buffers are as `client_init` leaves them.

NOT guaranteed — the gap between `main()` and `ClientCfgOk`: `100 ≤ hostname_maxlen` and `strlen(topdomain) + 24 ≤ hostname_maxlen`.
`main()` never compares `-M` with the length of the domain.  `client_main_establishes_ClientCfgOk` therefore has these two as
hypotheses; `client_main_gap` shows command lines that reach the handshake outside them.  (What the real client does there, observed
on h_cli with `hostname_maxlen < strlen(topdomain) + 8`: `build_hostname` computes `space = maxlen - strlen(topdomain) - 8` in
`size_t`, which wraps — the limit is ignored, a 100-byte payload gives a 181-character name, a 1400-byte payload a 2 KiB "name", a
3000-byte payload overflows `send_chunk`'s 4096-byte stack buffer; with `space` = 0 or 1 every chunk carries 0 bytes and upstream
data never moves.)
-/
namespace Iodine.C08
open Iodine Iodine.Getopt Iodine.Client Iodine.Client.Options

/-- **client_main_runs_with_statics.**  `client_handshake()` is reached only with the statics set. -/
theorem client_main_runs_with_statics (env : Env) (argv : List (List Nat)) (c : Int)
    (h : (clientMain env argv).outcome = .run c) : ∃ f, (clientMain env argv).final = some f := by
  unfold clientMain at h ⊢
  simp only at h ⊢
  split
  · rename_i e he
    rw [he] at h
    cases e <;> simp [Exit.toOutcome] at h
  · rename_i o ho
    rw [ho] at h
    exact OptL.afterOpts_run env o _ c _ rfl h

/-- **client_main_guarantees.**  What holds of client.c's statics and of the arguments whenever `client_handshake()` is called. -/
theorem client_main_guarantees (env : Env) (argv : List (List Nat)) (f : Final) (h : (clientMain env argv).final = some f) :
    Common.checkTopdomain f.cli.topdomain false = 0 ∧
    10 ≤ f.cli.hostnameMaxlen ∧ f.cli.hostnameMaxlen ≤ 255 ∧
    (f.cli.doQtype ∈ TunnelTypes ∨ f.cli.doQtype = 65432) ∧
    f.cli.downenc ∈ [32, 84, 83, 85, 86, 82] ∧
    1 ≤ f.cli.selecttimeout ∧ f.cli.selecttimeout < 2 ^ 31 ∧
    1 ≤ f.args.fragsize ∧ f.args.fragsize ≤ 65535 ∧
    f.cli.datacmc = 0 ∧ f.cli.outpkt.len = 0 ∧ f.cli.outpkt.data = [] ∧ f.cli.conn = .dnsNull ∧ f.cli.running = true := by
  obtain ⟨o, td, fam, ip, ho, hf, htd, hfr1, hfr2⟩ := OptL.clientMain_final env argv f h
  have hi := OptL.cli_optLoop_inv _ _ o none OptL.cinv_init ho
  subst hf
  have hml := hi.ml
  refine ⟨htd, ?_, ?_, ?_, hi.dn, hi.sel.1, hi.sel.2, hfr1, hfr2, rfl, rfl, rfl, rfl, rfl⟩
  · show 10 ≤ (if o.hostnameMaxlen ≤ 255 then o.hostnameMaxlen else _)
    rw [if_pos hml.2]; exact hml.1
  · show (if o.hostnameMaxlen ≤ 255 then o.hostnameMaxlen else _) ≤ 255
    rw [if_pos hml.2]; exact hml.2
  · rcases hi.qt with h1 | h1
    · exact Or.inl h1
    · exact Or.inr h1

/-- **client_main_establishes_ClientCfgOk.**  Under the two conditions `main()` does not check, the statics satisfy `ClientCfgOk`,
so every whole-session theorem of C08 applies to the run that follows. -/
theorem client_main_establishes_ClientCfgOk (env : Env) (argv : List (List Nat)) (f : Final)
    (h : (clientMain env argv).final = some f) (L : Nat) (hL : f.cli.hostnameMaxlen = (L : Int)) (h100 : 100 ≤ L)
    (hroom : f.cli.topdomain.length + 24 ≤ L) : ClientCfgOk L f.cli := by
  obtain ⟨h1, h2, h3, h4, h5, _, _, _, _, h6, h7, h8, _, _⟩ := client_main_guarantees env argv f h
  exact { topdomain := h1, maxlen := hL, limit := ⟨h100, by omega⟩, room := hroom, qtype := h4, downenc := h5,
          cmc := by rw [h6]; decide, idle := h7, pktbytes := by rw [h8]; simp }

/-- without `-M` the two conditions hold for every domain `check_topdomain` accepts (at most 128 characters): `ClientCfgOk 255` -/
theorem client_main_default_maxlen (env : Env) (argv : List (List Nat)) (f : Final)
    (h : (clientMain env argv).final = some f) (hM : f.cli.hostnameMaxlen = 255) : ClientCfgOk 255 f.cli := by
  refine client_main_establishes_ClientCfgOk env argv f h 255 hM (by decide) ?_
  have htd := (client_main_guarantees env argv f h).1
  have := ((C17.check_topdomain_iff_spec _ _).1 htd).2.1
  omega

def exEnv : Env :=
  { envPass := some [120], typed := [], resolv := some (Getopt.ascii "192.168.1.1"), getAddr := fun _ _ => some (4, 0x0a000035),
    userUid := fun _ => some 1000, setuidOk := fun _ => true, openTun := fun _ => true, r1 := 0, r2 := 0, hsRet := 0 }

/-- `iodine -M 200 -T txt -O base64 ns t.example.com` -/
def exArgvCli : List (List Nat) :=
  [Getopt.ascii "iodine", Getopt.ascii "-M", Getopt.ascii "200", Getopt.ascii "-Ttxt", Getopt.ascii "-O", Getopt.ascii "base64",
   Getopt.ascii "ns", Getopt.ascii "t.example.com"]

-- non-vacuity: the command line reaches the handshake (outcome `run`), with hostname_maxlen 200, TXT, Base64: ClientCfgOk 200
example : (clientMain exEnv exArgvCli).outcome = .run 0 ∧
    ((clientMain exEnv exArgvCli).final.map fun f => [f.cli.hostnameMaxlen, f.cli.topdomain.length, f.cli.doQtype, f.cli.downenc])
      = some [200, 13, 16, 83] := by decide +kernel

example (f : Final) (h : (clientMain exEnv exArgvCli).final = some f) : ClientCfgOk 200 f.cli := by
  have hx : ((clientMain exEnv exArgvCli).final.map fun f => (f.cli.hostnameMaxlen, f.cli.topdomain.length)) = some (200, 13) := by
    decide +kernel
  rw [h] at hx
  simp only [Option.map_some, Option.some.injEq, Prod.mk.injEq] at hx
  exact client_main_establishes_ClientCfgOk exEnv _ f h 200 hx.1 (by decide) (by rw [hx.2]; decide)

/-- **client_main_gap** (what is NOT guaranteed).  `iodine -M 20 ns t.example.com` and `iodine -M 99 ns t.example.com` reach
`client_handshake()`: `hostname_maxlen = 20 < strlen(topdomain) + 8` (the `size_t` subtraction in `build_hostname` wraps) resp. 99,
below C08's range. -/
theorem client_main_gap :
    ((clientMain exEnv [Getopt.ascii "iodine", Getopt.ascii "-M", Getopt.ascii "20", Getopt.ascii "ns", Getopt.ascii "t.example.com"]).final.map
      fun f => (f.cli.hostnameMaxlen, f.cli.topdomain.length)) = some (20, 13) ∧
    ((clientMain exEnv [Getopt.ascii "iodine", Getopt.ascii "-M", Getopt.ascii "99", Getopt.ascii "ns", Getopt.ascii "t.example.com"]).final.map
      fun f => f.cli.hostnameMaxlen) = some 99 ∧
    ((clientMain exEnv [Getopt.ascii "iodine", Getopt.ascii "-M", Getopt.ascii "-5", Getopt.ascii "ns", Getopt.ascii "t.example.com"]).final.map
      fun f => f.cli.hostnameMaxlen) = some 10 := by decide +kernel

-- option handling oddities, computed on the model (each confirmed on the real main() by the differential):
-- `-z` is documented but not in the option string; `-R` is in the option string but has no case: both end in usage();
-- `-T txt -T bogus` is accepted (client_set_qtype tests do_qtype, not its argument); `-O nonsense` is silently ignored
example : (clientMain exEnv [Getopt.ascii "iodine", Getopt.ascii "-z", Getopt.ascii "ctx", Getopt.ascii "ns", Getopt.ascii "t.co"]).outcome = .exit 2 "usage:getopt" ∧
    (clientMain exEnv [Getopt.ascii "iodine", Getopt.ascii "-R", Getopt.ascii "1", Getopt.ascii "ns", Getopt.ascii "t.co"]).outcome = .exit 2 "usage:getopt" ∧
    (clientMain exEnv [Getopt.ascii "iodine", Getopt.ascii "-T", Getopt.ascii "bogus", Getopt.ascii "ns", Getopt.ascii "t.co"]).outcome = .errx 5 "qtype" ∧
    ((clientMain exEnv [Getopt.ascii "iodine", Getopt.ascii "-Ttxt", Getopt.ascii "-Tbogus", Getopt.ascii "-Ononsense", Getopt.ascii "ns", Getopt.ascii "t.co"]).final.map
      fun f => (f.cli.doQtype, f.cli.downenc)) = some (16, 32) := by decide +kernel

/-! ### From `main()` to the handshake and tunnel machines -/

/-- **client_main_starts_handshake_machine.**  What `client_handshake()` finds is `client_init()` applied to the loader's statics
(`Cli.boot`, with `dnsc_use_edns0 = 1` as dns.c initialises it) followed by the four setters and the two option-time setters
(`client_set_qtype`, `client_set_downenc`), for the option values `o` the loop ended with; its arguments are `raw_mode`,
`autodetect_frag_size`, `max_downstream_frag_size` of `o`.  The machines of Client/Handshake.lean / Client/Tunnel.lean are started on
exactly this: `hsStart f.cli f.args (cpw f) dev` (`dev` = the device name `open_tun` chose).  Tied to the code: the `main` op of h_cli
prints, when the substituted `client_handshake()` is called, the full digest of client.c's statics (the one every session op prints)
and the driver prints `Drv.Client.digest f.cli`. -/
theorem client_main_starts_handshake_machine (env : Env) (argv : List (List Nat)) (f : Final) (h : Top.CStarts env argv f) :
    ∃ o td, f.cli = statics env o td ∧ f.args = { rawMode := o.rawMode, autoFrag := o.autoFrag, fragsize := o.fragsize } ∧
      f.cli = { clientInit Cli.boot env.r1 env.r2 with
                selecttimeout := o.selecttimeout, lazymode := o.lazymode ≠ 0, topdomain := td, hostnameMaxlen := f.cli.hostnameMaxlen,
                doQtype := o.doQtype, downenc := o.downenc, edns0 := true } := by
  obtain ⟨o, td, fam, ip, _, hf, _⟩ := OptL.clientMain_final env argv f h
  subst hf
  exact ⟨o, td, rfl, rfl, rfl⟩

/-- **client_queries_legal_from_main.**  For every command line and environment with which iodine reaches `client_handshake()`
with `hostname_maxlen = L`, `100 ≤ L` and 24 characters of room behind the domain (the two conditions `main()` does not check;
without `-M` they always hold: `client_queries_legal_default`), every password pointer content, device name, and EVERY query the
client then emits in the whole session — handshake and tunnel, whatever the answers, time-outs and tun frames are — is legal. -/
theorem client_queries_legal_from_main (env : Env) (argv : List (List Nat)) (f : Final) (h : Top.CStarts env argv f)
    (L : Nat) (hL : f.cli.hostnameMaxlen = (L : Int)) (h100 : 100 ≤ L) (hroom : f.cli.topdomain.length + 24 ≤ L)
    (pw dev : List Nat) (id ty : Nat) (name : List Nat) (he : Emitted f.cli f.args pw dev id ty name) :
    QueryLegal L f.cli.topdomain id ty name :=
  client_queries_legal_partial L f.cli f.args pw dev (client_main_establishes_ClientCfgOk env argv f h L hL h100 hroom) id ty name he

/-- … and the datagram built for it is a strictly well-formed query -/
theorem client_datagrams_wellformed_from_main (env : Env) (argv : List (List Nat)) (f : Final) (h : Top.CStarts env argv f)
    (L : Nat) (hL : f.cli.hostnameMaxlen = (L : Int)) (h100 : 100 ≤ L) (hroom : f.cli.topdomain.length + 24 ≤ L)
    (pw dev : List Nat) (id ty : Nat) (name : List Nat) (he : Emitted f.cli f.args pw dev id ty name) :
    WellFormedQuery id ty name :=
  client_datagrams_wellformed L f.cli f.args pw dev (client_main_establishes_ClientCfgOk env argv f h L hL h100 hroom) id ty name he

/-- **client_queries_legal_default.**  Without `-M` (hostname_maxlen is still 255): no hypothesis left. -/
theorem client_queries_legal_default (env : Env) (argv : List (List Nat)) (f : Final) (h : Top.CStarts env argv f)
    (hM : f.cli.hostnameMaxlen = 255) (pw dev : List Nat) (id ty : Nat) (name : List Nat)
    (he : Emitted f.cli f.args pw dev id ty name) : QueryLegal 255 f.cli.topdomain id ty name :=
  client_queries_legal_partial 255 f.cli f.args pw dev (client_main_default_maxlen env argv f h hM) id ty name he

/-- the start of such sessions exists: the handshake machine's first output for the example command line emits a query
(type NULL probe of the autodetection … or the version request) -/
example : ((clientMain exEnv exArgvCli).final.map fun f =>
    ((hsStart f.cli f.args (Top.cpw f) [100, 110, 115, 48]).2.1.any fun e => match e with | .query _ _ _ => true | _ => false))
    = some true := by decide +kernel

end Iodine.C08
