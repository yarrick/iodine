import IodineModel.Lemmas.SrvC14d
/-
C14 — The server never sends unsolicited or surplus DNS answers.

"Every DNS answer the server emits corresponds to a distinct query datagram it received earlier from that address
with that id and question and had not yet answered: at most one answer per received query (a remembered duplicate
counts as its own query; queries with DNS id 0 are ignored by design).  In lazy mode it holds back at most two
queries per session at any time, answering the older one when a newer one arrives."

The specification side is a MONITOR over the trace of a run (inputs and output events only): it keeps the multiset
of keys `(from, id, name, type)` of the received query datagrams that have not been answered yet; every answer must
find and remove one equal key.  The monitor accepting a trace is exactly the existence of an injection from the
emitted answers into the earlier received query datagrams with the same address, id, name and type.
(A) is that the monitor accepts every run; (B) that a session holds back at most its two slots `q` and `q_sendrealsoon`
and the older query is answered when a newer one arrives; (C) that DNS id 0 is never answered with tunnel data.
-/
namespace Iodine.C14
open Iodine Iodine.Server

/-- what identifies a query datagram for the asker: source address, DNS id, question name, question type -/
abbrev Key := Addr × Nat × List Nat × Nat

def queryKey (q : Query) : Key := (q.from_, q.id, q.name, q.type)

/-- the query datagram `read_dns` decoded in this iteration, if any -/
def arriving : Input → Option Query
  | .q q => some q
  | _ => none

/-- the keys an input adds to the pending multiset -/
def received (inp : Input) : List Key :=
  match arriving inp with
  | some q => [queryKey q]
  | none => []

/-- is the event a DNS answer datagram?  (`raw`, `rly`, `fwd`, `tunw` and the markers are not) -/
def isAnswer : Event → Bool
  | .ans .. => true
  | .nsa _ => true
  | _ => false

/-- The key an answer event answers.  An `ans` event carries address, id, name and type.  An NS/A response `nsa dst`
is the answer to the query that arrived in this very iteration (its id and question), sent to `dst`; without an
arriving query it answers nothing (`none`). -/
def answerKey (arr : Option Query) : Event → Option Key
  | .ans dst id type _ name _ _ => some (dst, id, name, type)
  | .nsa dst => arr.map fun q => (dst, q.id, q.name, q.type)
  | _ => none

/-- find and remove ONE pending key equal to `k` -/
def consume (k : Key) (pending : List Key) : Option (List Key) :=
  if k ∈ pending then some (pending.erase k) else none

/-- one event: an answer must consume a pending key, other events are ignored -/
def onEvent (arr : Option Query) (pending : List Key) (e : Event) : Option (List Key) :=
  if isAnswer e then
    match answerKey arr e with
    | some k => consume k pending
    | none => none
  else some pending

def onEvents (arr : Option Query) : List Key → List Event → Option (List Key)
  | p, [] => some p
  | p, e :: es => (onEvent arr p e).bind fun p' => onEvents arr p' es

/-- one iteration: the arriving query (if any) becomes pending, then the events of the iteration are checked in order -/
def onStep (pending : List Key) (t : TraceStep) : Option (List Key) :=
  onEvents (arriving t.step.inp) (received t.step.inp ++ pending) t.events

/-- the monitor: `none` = violation, `some p` = accepted with `p` still unanswered -/
def monitor : List Key → List TraceStep → Option (List Key)
  | p, [] => some p
  | p, t :: ts => (onStep p t).bind fun p' => monitor p' ts

/-- the trace has no unsolicited and no surplus answer -/
def Accepts (tr : List TraceStep) : Prop := (monitor [] tr).isSome

instance : DecidablePred Accepts := fun tr => by unfold Accepts; infer_instance

/-- What `read_dns` guarantees about the queries it hands to `tunnel_dns`: `dns_decode` starts with `q->id2 = 0`
(the field belongs to the server's own bookkeeping of remembered duplicates, it is not part of a datagram). -/
def WfStep (st : Step) : Prop :=
  match st.inp with
  | .q q => q.id2 = 0
  | _ => True

/-- all keys answered in a trace / all keys received in a trace -/
def answered (tr : List TraceStep) : List Key :=
  tr.flatMap fun t => t.events.filterMap (answerKey (arriving t.step.inp))

def receivedAll (tr : List TraceStep) : List Key := tr.flatMap fun t => received t.step.inp

theorem count_consume {k : Key} {p p' : List Key} (h : consume k p = some p') (k' : Key) :
    p'.count k' + (if k = k' then 1 else 0) = p.count k' := by
  unfold consume at h
  split at h
  · rename_i hm
    injection h with h; subst h
    rw [List.count_erase]
    by_cases hk : k = k'
    · subst hk
      have := List.count_pos_iff.2 hm
      simp; omega
    · simp [hk]
  · cases h

theorem answerKey_of_not_isAnswer (arr : Option Query) {e : Event} (h : ¬ isAnswer e = true) :
    answerKey arr e = none := by
  cases e
  case ans => exact absurd rfl h
  case nsa => exact absurd rfl h
  all_goals rfl

theorem answerKey_isSome (arr : Option Query) {e : Event} (ha : isAnswer e = true)
    (h : arr.isSome = true ∨ ∀ d, e ≠ .nsa d) : (answerKey arr e).isSome = true := by
  cases e
  case ans => rfl
  case nsa d =>
    rcases h with h | h
    · obtain ⟨q, rfl⟩ := Option.isSome_iff_exists.1 h; rfl
    · exact absurd rfl (h d)
  all_goals cases ha

theorem count_onEvents (arr : Option Query) : ∀ (evs : List Event) (p p' : List Key),
    onEvents arr p evs = some p' → ∀ k, (evs.filterMap (answerKey arr)).count k + p'.count k = p.count k
  | [], p, p', h, k => by simp only [onEvents] at h; injection h with h; subst h; simp
  | e :: es, p, p', h, k => by
    simp only [onEvents] at h
    cases h1 : onEvent arr p e with
    | none => rw [h1] at h; cases h
    | some p1 =>
      rw [h1] at h
      have ih := count_onEvents arr es p1 p' h k
      unfold onEvent at h1
      split at h1
      · split at h1
        · rename_i k0 hk0
          have := count_consume h1 k
          simp only [List.filterMap_cons, hk0, List.count_cons, beq_iff_eq]
          omega
        · cases h1
      · rename_i hna
        injection h1 with h1; subst h1
        have : answerKey arr e = none := answerKey_of_not_isAnswer arr hna
        simp only [List.filterMap_cons, this]
        exact ih

/-- What acceptance means in numbers: along an accepted trace, for every key, answers + still pending = received
(+ initially pending). -/
theorem count_monitor : ∀ (tr : List TraceStep) (p p' : List Key), monitor p tr = some p' →
    ∀ k, (answered tr).count k + p'.count k = p.count k + (receivedAll tr).count k
  | [], p, p', h, k => by simp only [monitor] at h; injection h with h; subst h; simp [answered, receivedAll]
  | t :: ts, p, p', h, k => by
    simp only [monitor] at h
    cases h1 : onStep p t with
    | none => rw [h1] at h; cases h
    | some p1 =>
      rw [h1] at h
      have ih := count_monitor ts p1 p' h k
      have := count_onEvents _ _ _ _ h1 k
      simp only [answered, receivedAll, List.flatMap_cons, List.count_append] at *
      omega

theorem onEvents_accepts (arr : Option Query) : ∀ (evs : List Event) (B P : List Key),
    (∀ e ∈ evs, isAnswer e = true → (answerKey arr e).isSome) →
    (∀ k, (evs.filterMap (answerKey arr) ++ B).count k ≤ P.count k) →
    ∃ P', onEvents arr P evs = some P' ∧ ∀ k, B.count k ≤ P'.count k
  | [], B, P, _, hle => ⟨P, rfl, by simpa using hle⟩
  | e :: es, B, P, hok, hle => by
    simp only [onEvents]
    unfold onEvent
    by_cases ha : isAnswer e = true
    · have hs := hok e (List.mem_cons_self) ha
      obtain ⟨k0, hk0⟩ := Option.isSome_iff_exists.1 hs
      have hmem : k0 ∈ P := by
        apply List.count_pos_iff.1
        have := hle k0
        simp only [List.filterMap_cons, hk0, List.count_append, List.count_cons_self] at this
        omega
      simp only [ha, if_true, hk0, consume, hmem, Option.bind_some]
      apply onEvents_accepts arr es B (P.erase k0) (fun e he => hok e (List.mem_cons_of_mem _ he))
      intro k
      have := hle k
      rw [List.count_erase]
      simp only [List.filterMap_cons, hk0, List.count_append, List.count_cons, beq_iff_eq] at this ⊢
      by_cases hk : k0 = k
      · simp only [hk, if_true] at this ⊢; omega
      · simp only [hk, if_false] at this ⊢; omega
    · have hn : answerKey arr e = none := answerKey_of_not_isAnswer arr ha
      simp only [ha]
      apply onEvents_accepts arr es B P (fun e he => hok e (List.mem_cons_of_mem _ he))
      intro k
      have := hle k
      simpa only [List.filterMap_cons, hn] using this

theorem filterMap_answerKey_some (q : Query) (evs : List Event) :
    evs.filterMap (answerKey (some q)) = C14L.keysOf q evs := by
  induction evs with
  | nil => rfl
  | cons e es ih =>
    rw [C14L.keysOf_cons, ← ih]
    cases e <;> rfl

theorem filterMap_answerKey_none (arr : Query) (evs : List Event) (h : ∀ d, Event.nsa d ∉ evs) :
    evs.filterMap (answerKey none) = C14L.keysOf arr evs := by
  induction evs with
  | nil => rfl
  | cons e es ih =>
    rw [C14L.keysOf_cons, ← ih (fun d hd => h d (List.mem_cons_of_mem _ hd))]
    cases e
    case nsa d => exact absurd List.mem_cons_self (h d)
    all_goals rfl

/-- one iteration: if the held queries are among the pending ones before, the monitor accepts the iteration's
events and the held queries are among the pending ones afterwards -/
theorem onStep_accepts (s : Srv) (st : Step) (hwf : WfStep st) (p : List Key)
    (hp : ∀ k, (C14L.held s).count k ≤ p.count k) :
    ∃ p', onStep p ⟨st, s, out s st, next s st⟩ = some p' ∧ ∀ k, (C14L.held (next s st)).count k ≤ p'.count k := by
  obtain ⟨inp, now'⟩ := st
  unfold onStep
  by_cases hq : ∃ q, inp = .q q
  · obtain ⟨q, rfl⟩ := hq
    have h := C14L.iteration_q_le s q now' hwf
    apply onEvents_accepts
    · exact fun e _ ha => answerKey_isSome _ ha (.inl rfl)
    · intro k
      have a := h k; have b := hp k
      simp only [arriving, received, filterMap_answerKey_some, List.count_append, queryKey, C14L.keyOf] at *
      omega
  · have hq' : ∀ q, inp ≠ .q q := fun q h => hq ⟨q, h⟩
    have h := fun arr => C14L.iteration_other_le arr s inp now' hq'
    have hn := C14L.no_nsa_of_forall_le _ _ _ h
    have harr : arriving inp = none := by
      cases inp
      case q q => exact absurd rfl (hq' q)
      all_goals rfl
    apply onEvents_accepts
    · exact fun e he ha => answerKey_isSome _ ha (.inr fun d hd => hn d (hd ▸ he))
    · intro k
      have a := h Query.zero k; have b := hp k
      simp only [harr, received, filterMap_answerKey_none Query.zero _ hn, List.count_append, List.nil_append] at *
      omega

theorem monitor_accepts : ∀ (steps : List Step) (s : Srv) (p : List Key), (∀ st ∈ steps, WfStep st) →
    (∀ k, (C14L.held s).count k ≤ p.count k) →
    ∃ p', monitor p (traceFrom s steps) = some p' ∧ ∀ k, (C14L.held (runFrom s steps)).count k ≤ p'.count k
  | [], s, p, _, hp => ⟨p, rfl, hp⟩
  | st :: rest, s, p, hwf, hp => by
    obtain ⟨p1, h1, hp1⟩ := onStep_accepts s st (hwf st List.mem_cons_self) p hp
    obtain ⟨p2, h2, hp2⟩ := monitor_accepts rest (next s st) p1 (fun st' h => hwf st' (List.mem_cons_of_mem _ h)) hp1
    exact ⟨p2, by simp only [traceFrom, monitor, h1, Option.bind_some, h2], hp2⟩

theorem wf_id2 {st : Step} (hwf : WfStep st) : ∀ q, st.inp = .q q → q.id2 = 0 := by
  intro q hq
  unfold WfStep at hwf
  rw [hq] at hwf
  exact hwf

/-- **C14 (A).**  In every run of the server from start-up — any configuration, any `rand()` values, any interleaving
of queries (of every type, in lazy and immediate mode), duplicates, raw datagrams, tun packets, forwarded replies and
timer expiries, any clock — the monitor accepts: every emitted DNS answer consumes a distinct, earlier received and
not yet answered query datagram with the same address, id, name and type.  (`Monotone` is not even needed.) -/
theorem answers_injective_into_queries (cfg : Config) (rnd : List Nat) (steps : List Step)
    (_hm : Monotone (start cfg rnd) steps) (hwf : ∀ st ∈ steps, WfStep st) :
    Accepts (traceFrom (start cfg rnd) steps) := by
  obtain ⟨p', h, _⟩ := monitor_accepts steps (start cfg rnd) [] hwf (by simp [C14L.held_start])
  unfold Accepts
  rw [h]; rfl

/-- **C14 (A), corollary.**  In any run, for every key, the number of answers never exceeds the number of received
query datagrams with that key (runs are prefix-closed, so this holds at every moment of a run). -/
theorem one_answer_per_query_datagram (cfg : Config) (rnd : List Nat) (steps : List Step)
    (hm : Monotone (start cfg rnd) steps) (hwf : ∀ st ∈ steps, WfStep st) (k : Key) :
    (answered (traceFrom (start cfg rnd) steps)).count k ≤ (receivedAll (traceFrom (start cfg rnd) steps)).count k := by
  have h := answers_injective_into_queries cfg rnd steps hm hwf
  unfold Accepts at h
  obtain ⟨p', hp'⟩ := Option.isSome_iff_exists.1 h
  have := count_monitor _ _ _ hp' k
  simp at this
  omega

/-- **C14 (A), NS / A responses.**  The monitor reads an `nsa dst` event as the answer to "the arriving query's id and
question, from address `dst`".  In the model this is always literally the arriving query: an NS / A response is only
emitted in an iteration in which a query arrived, and it goes to the sender of that query. -/
theorem nsa_answers_the_arriving_query (s : Srv) (st : Step) (hwf : WfStep st) (dst : Addr)
    (h : Event.nsa dst ∈ out s st) :
    ∃ q, arriving st.inp = some q ∧ answerKey (arriving st.inp) (Event.nsa dst) = some (queryKey q) := by
  obtain ⟨inp, now'⟩ := st
  obtain ⟨q, rfl, rfl⟩ := C14L.nsa_dst s inp now' (wf_id2 hwf) dst h
  exact ⟨q, rfl, rfl⟩

instance decMonotone : (s : Srv) → (steps : List Step) → Decidable (Monotone s steps)
  | _, [] => isTrue trivial
  | s, st :: rest => @instDecidableAnd _ _ _ (decMonotone (next s st) rest)

instance : DecidablePred WfStep := fun st => by
  unfold WfStep; cases st.inp <;> infer_instance

def exTd : List Nat := ascii "t.co"
def exCfg : Config :=
  { checkIp := true, password := (ascii "secret" ++ List.replicate 32 0).take 32, myIp := 0x0a000001, netmask := 27,
    topdomain := exTd, mtu := 1130, nsIp := 0, bindPort := 0, dest4 := 0x0a090909, dest6 := 0, createdUsers := 0 }
def exCli : Addr := ⟨4, 0xc0a80105, 40000⟩
def exB32 (d : List Nat) : List Nat := Codec.encFull Codec.b32 d
/-- a NULL-type (or `type`) query for `<name>.t.co` from the client -/
def exQ (id type : Nat) (name : List Nat) : Query :=
  { name := name ++ [46] ++ exTd, type := type, id := id, from_ := exCli, id2 := 0, from2 := Addr.zero,
    dest := ⟨4, 0x0a090909, 0⟩ }
/-- version handshake, login with the right hash for seed 12345, "lazy mode" option for user 0, ping with CMC `c` -/
def exV := exQ 101 10 (ascii "v" ++ exB32 [0, 0, 5, 2, 7, 7])
def exL := exQ 102 10 (ascii "l" ++ exB32 ([0] ++ Login.loginCalcC exCfg.password 12345 ++ [1, 2]))
def exO := exQ 103 10 (ascii "oal")
def exP (id c : Nat) := exQ id 10 (ascii "p" ++ exB32 [0, 0, c, c])
/-- an IP packet for 10.0.0.2 (the tunnel address of user 0) read from the tun device -/
def exFrame : List Nat := [0, 0, 8, 0] ++ List.replicate 16 0 ++ [10, 0, 0, 2] ++ [1, 2, 3, 4, 5, 6, 7, 8]

/-- handshake, lazy mode, a ping that is held back (104), a newer ping (105) that releases it, a duplicate (106) of
the held ping, a third ping (107) that releases 105 AND its remembered duplicate 106, a tun packet that releases 107,
a timeout, an NS query -/
def exSteps : List Step :=
  [⟨.q exV, 1000⟩, ⟨.q exL, 1000⟩, ⟨.q exO, 1000⟩, ⟨.q (exP 104 1), 1001⟩, ⟨.q (exP 105 2), 1001⟩,
   ⟨.q (exP 106 2), 1002⟩, ⟨.q (exP 107 3), 1002⟩, ⟨.tun exFrame, 1003⟩, ⟨.tick, 1004⟩,
   ⟨.q (exQ 108 2 (ascii "ns")), 1004⟩]

def exTrace : List TraceStep := traceFrom (start exCfg [12345]) exSteps

/-- What the non-vacuity examples quote from the example run, evaluated together (one evaluation of the run instead of
one per example). -/
theorem exRun_facts :
    (Monotone (start exCfg [12345]) exSteps ∧ (∀ st ∈ exSteps, WfStep st)) ∧
    (exTrace.map (fun t => (answered [t]).map (·.2.1)) = [[101], [102], [103], [], [104], [], [105, 106], [107], [], [108]]
      ∧ monitor [] exTrace = some []) ∧
    (getUser (runFrom (start exCfg [12345]) (exSteps.take 4)) 0).q = exP 104 1 ∧
    out (runFrom (start exCfg [12345]) (exSteps.take 4)) ⟨.q (exP 105 2), 1001⟩
      = [Event.ans (exP 104 1).from_ 104 (exP 104 1).type 84 (exP 104 1).name [128, 0] (Tag.chunk 0), Event.sweep] ∧
    (getUser (runFrom (start exCfg [12345]) (exSteps.take 6)) 0).q = { exP 105 2 with id2 := 106, from2 := exCli } ∧
    (getUser (runFrom (start exCfg [12345]) (exSteps.take 6)) 0).qs.id = 0 ∧
    out (runFrom (start exCfg [12345]) (exSteps.take 6)) ⟨.q (exP 107 3), 1002⟩
      = [Event.ans exCli 105 10 84 (exP 105 2).name [128, 0] (Tag.chunk 0),
         Event.ans exCli 106 10 84 (exP 105 2).name [128, 0] (Tag.dupe 0), Event.sweep] ∧
    (getUser (next (runFrom (start exCfg [12345]) (exSteps.take 6)) ⟨.q (exP 107 3), 1002⟩) 0).q = exP 107 3 := by
  decide +kernel

example : Monotone (start exCfg [12345]) exSteps ∧ (∀ st ∈ exSteps, WfStep st) := exRun_facts.1

/-- the ids answered in each iteration, and the monitor's verdict (accepted, nothing left pending) -/
example : exTrace.map (fun t => (answered [t]).map (·.2.1)) = [[101], [102], [103], [], [104], [], [105, 106], [107], [], [108]]
    ∧ monitor [] exTrace = some [] := exRun_facts.2.1

/-- Why `WfStep` is needed: `Input.q` lets the environment hand in a `struct query` whose bookkeeping field `id2` is
already set (the real `dns_decode` zeroes it).  In immediate mode the ping is answered at once, and
`send_chunk_or_dataless` sends a second answer to the never-received `(from2, id2)`: the monitor rejects. -/
example : ¬ Accepts (traceFrom (start exCfg [12345])
    [⟨.q exV, 1000⟩, ⟨.q exL, 1000⟩, ⟨.q { exP 104 1 with id2 := 999, from2 := ⟨4, 0x01020304, 53⟩ }, 1001⟩]) := by
  decide +kernel

/-- the three header characters of a data query (upstream seqno / fragment, downstream ack, last-fragment flag) -/
def exHdr (upSeq upFrag dnSeq dnFrag last : Nat) : List Nat :=
  [Codec.lookup Codec.b32 ((upSeq <<< 2) ||| (upFrag >>> 2)), Codec.lookup Codec.b32 (((upFrag &&& 3) <<< 3) ||| dnSeq),
   Codec.lookup Codec.b32 ((dnFrag <<< 1) ||| last)]
/-- upstream data query of user 0: hex user id, header, one CMC character, base32 payload -/
def exD (id upSeq upFrag last c : Nat) (payload : List Nat) : Query :=
  exQ id 10 (ascii "0" ++ exHdr upSeq upFrag 0 0 last ++ [Codec.lookup Codec.b32 c] ++ exB32 payload)
/-- an IP packet for 10.0.0.9 (no tunnel user): it leaves through the tun device -/
def exUp : List Nat := List.replicate 16 0 ++ [10, 0, 0, 9] ++ [1, 2, 3, 4, 5, 6, 7, 8]

/-- handshake, lazy mode, a held ping (104), a first data fragment (105: releases 104, is held), the last data fragment
(106: the packet goes to the tun device, 105 is MOVED to `q_sendrealsoon`, 106 is held in `q`), a timeout whose sweep
answers 105 -/
def exSteps2 : List Step :=
  [⟨.q exV, 1000⟩, ⟨.q exL, 1000⟩, ⟨.q exO, 1000⟩, ⟨.q (exP 104 1), 1001⟩,
   ⟨.q (exD 105 1 0 0 1 [0x5a, 1, 2, 3]), 1001⟩, ⟨.q (exD 106 1 1 1 2 exUp), 1001⟩, ⟨.tick, 1002⟩]

example :
    let tr := traceFrom (start exCfg [12345]) exSteps2
    let s6 := runFrom (start exCfg [12345]) (exSteps2.take 6)
    tr.map (fun t => (answered [t]).map (·.2.1)) = [[101], [102], [103], [], [104], [], [105]] ∧
    monitor [] tr = some [queryKey (exD 106 1 1 1 2 exUp)] ∧
    (getUser s6 0).qs = exD 105 1 0 0 1 [0x5a, 1, 2, 3] ∧ (getUser s6 0).q = exD 106 1 1 1 2 exUp ∧
    out s6 ⟨.tick, 1002⟩ = [Event.sweep, Event.ans exCli 105 10 84 (exD 105 1 0 0 1 [0x5a, 1, 2, 3]).name [145, 0] (Tag.chunk 0)] := by
  decide +kernel

/-- The keys a stored `struct query` stands for while it is held back: nothing once it is answered (`id = 0`),
otherwise the query itself and, if a duplicate of it was remembered (`id2 ≠ 0`), that duplicate. -/
def heldKeys (q : Query) : List Key :=
  if q.id = 0 then [] else if q.id2 = 0 then [queryKey q] else [queryKey q, (q.from2, q.id2, q.name, q.type)]

/-- the arriving query, as far as it can be held: a query with DNS id 0 never is -/
def arrivingHeldKeys (inp : Input) : List Key :=
  match arriving inp with
  | some q => if q.id = 0 then [] else [queryKey q]
  | none => []

/-- the event is an answer carrying tunnel data (or the data-less header) for session `u`, to key `k` -/
def IsDataAnswer (u : Nat) (k : Key) (e : Event) : Prop :=
  ∃ dn data tag, (tag = Tag.chunk u ∨ tag = Tag.dupe u) ∧ e = Event.ans k.1 k.2.1 k.2.2.2 dn k.2.2.1 data tag

theorem mem_ukeys {u : Nat} {k : Key} {e : Event} {evs : List Event} (he : e ∈ evs) (h : IsDataAnswer u k e) :
    k ∈ C14L.ukeys u evs := by
  obtain ⟨dn, data, tag, htag, rfl⟩ := h
  unfold C14L.ukeys
  refine List.mem_flatMap.2 ⟨_, he, ?_⟩
  simp [C14L.uKeys, htag]

theorem inArr_eq (inp : Input) : C14L.inArr inp = arrivingHeldKeys inp := by
  cases inp <;> rfl

theorem pairKeys_eq (s : Srv) (u : Nat) :
    C14L.pairKeys (C14L.QV s u) = heldKeys (getUser s u).q ++ heldKeys (getUser s u).qs := rfl

/-- all keys the server holds back in state `s`: for every slot, `q` and `q_sendrealsoon` with their remembered
duplicates -/
def allHeld (s : Srv) : List Key := s.users.flatMap fun x => heldKeys x.q ++ heldKeys x.qs

theorem allHeld_eq (s : Srv) : allHeld s = C14L.held s := by
  unfold allHeld C14L.held C14L.heldV C14L.qview
  rw [List.flatMap_map]
  rfl

/-- **C14 (A), the invariant behind it.**  After every run the monitor has accepted and every query the server still
holds back (as a multiset, remembered duplicates included) is a received, not yet answered query datagram: whatever
the server may still answer later is covered by a distinct pending query. -/
theorem held_queries_are_pending (cfg : Config) (rnd : List Nat) (steps : List Step)
    (hwf : ∀ st ∈ steps, WfStep st) :
    ∃ pending, monitor [] (traceFrom (start cfg rnd) steps) = some pending ∧
      ∀ k, (allHeld (runFrom (start cfg rnd) steps)).count k ≤ pending.count k := by
  obtain ⟨p', h, hp⟩ := monitor_accepts steps (start cfg rnd) [] hwf (by simp [C14L.held_start])
  exact ⟨p', h, fun k => by rw [allHeld_eq]; exact hp k⟩

/-- **C14 (B), answers.**  Whatever the state `s` (in particular every reachable one) and the step: every answer with
tunnel data for session `u` that the iteration emits goes to one of the (at most two) queries the session held back
before the iteration — `q`, `q_sendrealsoon`, or the remembered duplicate of one of them — or to the query that
arrived in this iteration.  Nothing else is ever answered with tunnel data. -/
theorem held_at_most_two (s : Srv) (st : Step) (hwf : WfStep st) (u : Nat) (k : Key) (e : Event)
    (he : e ∈ out s st) (h : IsDataAnswer u k e) :
    k ∈ heldKeys (getUser s u).q ∨ k ∈ heldKeys (getUser s u).qs ∨ k ∈ arrivingHeldKeys st.inp := by
  have hi := C14L.iteration_inc s st (wf_id2 hwf)
  rcases hi.ev u k (mem_ukeys he h) with h1 | h1
  · rw [pairKeys_eq] at h1
    rcases List.mem_append.1 h1 with h1 | h1
    · exact Or.inl h1
    · exact Or.inr (Or.inl h1)
  · rw [inArr_eq] at h1; exact Or.inr (Or.inr h1)

/-- **C14 (B), state.**  What a session holds back after an iteration (in its two slots) it held back before, or it is
the query that arrived in this iteration: queries are never invented, and a session never holds more than the two
slots `q` and `q_sendrealsoon` (each with at most one remembered duplicate). -/
theorem held_after_iteration (s : Srv) (st : Step) (hwf : WfStep st) (u : Nat) (k : Key)
    (h : k ∈ heldKeys (getUser (next s st) u).q ∨ k ∈ heldKeys (getUser (next s st) u).qs) :
    k ∈ heldKeys (getUser s u).q ∨ k ∈ heldKeys (getUser s u).qs ∨ k ∈ arrivingHeldKeys st.inp := by
  have hi := C14L.iteration_inc s st (wf_id2 hwf)
  have hk : k ∈ C14L.pairKeys (C14L.QV (next s st) u) := by
    rw [pairKeys_eq]
    rcases h with h | h
    · exact List.mem_append_left _ h
    · exact List.mem_append_right _ h
  rcases hi.st u k hk with h1 | h1
  · rw [pairKeys_eq] at h1
    rcases List.mem_append.1 h1 with h1 | h1
    · exact Or.inl h1
    · exact Or.inr (Or.inl h1)
  · rw [inArr_eq] at h1; exact Or.inr (Or.inr h1)

theorem heldKeys_id_ne (q : Query) (k : Key) (h : k ∈ heldKeys q) : k.2.1 ≠ 0 := by
  unfold heldKeys at h
  split at h
  · cases h
  · split at h
    · simp only [List.mem_singleton] at h; subst h; assumption
    · simp only [List.mem_cons, List.not_mem_nil, or_false] at h
      rcases h with rfl | rfl <;> assumption

/-- **C14 (C).**  No answer with tunnel data (first answer or the copy to the remembered duplicate) ever has DNS id 0:
a stored query with id 0 counts as answered, and an arriving ping / data query with id 0 is ignored. -/
theorem id0_never_answered_by_chunk (s : Srv) (st : Step) (hwf : WfStep st) (u : Nat) (k : Key) (e : Event)
    (he : e ∈ out s st) (h : IsDataAnswer u k e) : k.2.1 ≠ 0 := by
  rcases held_at_most_two s st hwf u k e he h with h1 | h1 | h1
  · exact heldKeys_id_ne _ k h1
  · exact heldKeys_id_ne _ k h1
  · unfold arrivingHeldKeys at h1
    split at h1
    · split at h1
      · cases h1
      · simp only [List.mem_singleton] at h1; subst h1; assumption
    · cases h1

/-- Non-vacuity of (B) and (C): the state of the example run before its 7th iteration holds ping 105 and its remembered
duplicate 106 in `q`; ping 107 arrives; the iteration emits the two tunnel-data answers (tags `chunk 0`, `dupe 0`) to
exactly these two keys. -/
example :
    let s := runFrom (start exCfg [12345]) (exSteps.take 6)
    heldKeys (getUser s 0).q = [queryKey (exP 105 2), queryKey (exP 106 2)] ∧ heldKeys (getUser s 0).qs = [] ∧
    (out s ⟨.q (exP 107 3), 1002⟩).filterMap (fun e => match e with
        | .ans dst id type _ name _ tag => some ((dst, id, name, type), tag) | _ => none)
      = [(queryKey (exP 105 2), Tag.chunk 0), (queryKey (exP 106 2), Tag.dupe 0)] ∧
    heldKeys (getUser (next s ⟨.q (exP 107 3), 1002⟩) 0).q = [queryKey (exP 107 3)] := by
  obtain ⟨hq, hqs, hout, hq'⟩ := exRun_facts.2.2.2.2
  intro s
  refine ⟨?_, ?_, ?_, ?_⟩
  · rw [show (getUser s 0).q = _ from hq]; decide +kernel
  · rw [heldKeys, if_pos hqs]
  · rw [show out s _ = _ from hout]; rfl
  · rw [show (getUser (next s _) 0).q = _ from hq']; decide +kernel

/-- `e` is the (first) tunnel-data answer for session `u` to the stored query `q0` -/
def AnswersHeld (u : Nat) (q0 : Query) (e : Event) : Prop :=
  ∃ dn data, e = Event.ans q0.from_ q0.id q0.type dn q0.name data (Tag.chunk u)

theorem answersHeld_of_firstAns {u : Nat} {q0 : Query} {e : Event} (h : C14L.FirstAns u q0 e) : AnswersHeld u q0 e := by
  obtain ⟨pkt, dn, rfl⟩ := h
  exact ⟨dn, pkt, rfl⟩

/-- **C14 (B), ping.**  `pingFresh` is the part of the ping handler that stores the arriving query in `users[u].q`
(the other writers of that slot are the data handler, next theorem, and the version handshake and raw mode, which store
an unanswerable query).
Its events split into three consecutive parts: in the first the held `q_sendrealsoon` (if any) is answered, in the
second the held `q` (if any) — so an older query never survives the arrival of a newer ping, and `q_sendrealsoon` goes
first —, the third belongs to the new query. -/
theorem older_answered_first_ping (s : Srv) (u : Nat) (q : Query) (unpacked : List Nat) :
    ∃ l1 l2 l3, (pingFresh s u q unpacked).2 = l1 ++ l2 ++ l3 ∧
      ((getUser s u).qs.id ≠ 0 → ∃ e ∈ l1, AnswersHeld u (getUser s u).qs e) ∧
      ((getUser s u).q.id ≠ 0 → ∃ e ∈ l2, AnswersHeld u (getUser s u).q e) := by
  by_cases hu : u < s.users.length
  · obtain ⟨l1, l2, l3, h, h1, h2⟩ := C14L.pingFresh_older s u q unpacked hu
    refine ⟨l1, l2, l3, h, ?_, ?_⟩
    · intro hne
      obtain ⟨e, rest, he, hfa⟩ := h1 hne
      exact ⟨e, by rw [he]; exact List.mem_cons_self, answersHeld_of_firstAns hfa⟩
    · intro hne
      obtain ⟨e, rest, he, hfa⟩ := h2 hne
      exact ⟨e, by rw [he]; exact List.mem_cons_self, answersHeld_of_firstAns hfa⟩
  · have hz := C04L.getUser_of_ge s u (Nat.le_of_not_lt hu)
    exact ⟨(pingFresh s u q unpacked).2, [], [], by simp, fun h => absurd (by rw [hz]; rfl) h,
      fun h => absurd (by rw [hz]; rfl) h⟩

/-- **C14 (B), data.**  `dataFresh` is the part of the data handler that stores the arriving query in `users[u].q`.
Its events split into three consecutive parts `lA`, `lB`, `lC`: the held `q_sendrealsoon` (if any) is answered in `lA`;
the held `q` (if any) is answered — in `lB`, i.e. after `q_sendrealsoon`, when both were held — or it is moved to
`q_sendrealsoon` (and is still there when the handler returns); `lC` belongs to the new query. -/
theorem older_answered_first_data (s : Srv) (u : Nat) (q : Query) (inb : List Nat) :
    ∃ lA lB lC, (dataFresh s u q inb).2 = lA ++ lB ++ lC ∧
      ((getUser s u).qs.id ≠ 0 → ∃ e ∈ lA, AnswersHeld u (getUser s u).qs e) ∧
      ((getUser s u).q.id ≠ 0 →
        (∃ e ∈ lA ++ lB, AnswersHeld u (getUser s u).q e) ∨ (getUser (dataFresh s u q inb).1 u).qs = (getUser s u).q) ∧
      ((getUser s u).q.id ≠ 0 → (getUser s u).qs.id ≠ 0 →
        (∃ e ∈ lB, AnswersHeld u (getUser s u).q e) ∨ (getUser (dataFresh s u q inb).1 u).qs = (getUser s u).q) := by
  by_cases hu : u < s.users.length
  · obtain ⟨lA, lB, lC, h, h1, h2, h3⟩ := C14L.dataFresh_older s u q inb hu
    refine ⟨lA, lB, lC, h, ?_, ?_, ?_⟩
    · intro hne
      obtain ⟨e, he, hfa⟩ := h1 hne
      exact ⟨e, he, answersHeld_of_firstAns hfa⟩
    · intro hne
      exact (h2 hne).imp (fun ⟨e, he, hfa⟩ => ⟨e, he, answersHeld_of_firstAns hfa⟩) id
    · intro hne hne'
      exact (h3 hne hne').imp (fun ⟨e, he, hfa⟩ => ⟨e, he, answersHeld_of_firstAns hfa⟩) id
  · have hz := C04L.getUser_of_ge s u (Nat.le_of_not_lt hu)
    exact ⟨(dataFresh s u q inb).2, [], [], by simp, fun h => absurd (by rw [hz]; rfl) h,
      fun h => absurd (by rw [hz]; rfl) h, fun h => absurd (by rw [hz]; rfl) h⟩

/-- Non-vacuity: in the example run, ping 105 arrives while ping 104 is held: the iteration answers 104 (first event). -/
example :
    let s := runFrom (start exCfg [12345]) (exSteps.take 4)
    (getUser s 0).q = exP 104 1 ∧
    ∃ dn data rest, out s ⟨.q (exP 105 2), 1001⟩
      = Event.ans (exP 104 1).from_ 104 (exP 104 1).type dn (exP 104 1).name data (Tag.chunk 0) :: rest := by
  exact ⟨exRun_facts.2.2.1, 84, [128, 0], [Event.sweep], exRun_facts.2.2.2.1⟩

end Iodine.C14
