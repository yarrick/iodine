import IodineModel.Wire.Read
import IodineModel.Wire.DnsDecode
import IodineModel.Lemmas.WireRead
import IodineModel.Server.Bytes
/-
C12 — a datagram is interpreted from its own bytes only.

Client and server receive a datagram into `char packet[64*1024]` and pass `(packet, packetlen)` to
`dns_decode` / `readname` / `readtxtbin`; the bytes behind `packetlen` are stale residue of earlier
datagrams.  The model (IodineModel/Wire/Read.lean, Wire/DnsDecode.lean) performs every C read through
`RxBuf.get`, which yields the residue byte for an index in `[pkt.size, cap)` and `Fault.oob` from `cap` on,
so a decoder that looked behind the datagram would show it as a dependence on `res` (or as a fault).

Specification (stated here without reference to the model's code):
* residue independence — for two receive buffers that hold the same datagram `pkt` (and have the same size
  `cap`) but arbitrary different residues `r₁`, `r₂`, a decoder returns the same result: same return value,
  same new read pointer, same bytes stored in `dst`/`q`/`buf`, same fault if any;
* no fault — if the datagram fits the buffer (`pkt.size ≤ cap`), a decoder does not return a `Fault`:
  no read outside the receive buffer, no write outside `name[256]`, `rdata[4096]`, `names[250][256]`,
  the `dst` of `readname`/`readtxtbin` or the caller's `buf`, and every loop ends within its fuel.

Results (helper lemmas in IodineModel/Lemmas/WireRead.lean):
* residue independence holds for all four decoders and `dns_get_id`, without any side condition
  (in particular without `off ≤ pkt.size`, `3 ≤ length` and `pkt.size ≤ cap`);
* no fault holds for `readname`, `readtxtbin`, `dns_get_id`, `dns_decode(QR_QUERY)`;
* no fault holds for `dns_decode(QR_ANSWER)` whenever the caller's buffer is not empty (`1 ≤ buflen`;
  client.c passes 64 KiB, `get_external_ip` of iodined.c the 4 bytes of a `struct in_addr`).  (The MX/SRV
  output loop stops at `offset + 2 >= buflen`, the repository's commit "keep dns_decode's MX/SRV output inside
  the caller's buffer": without that test `buflen-offset-2` wraps around in `size_t` and the loop overruns
  every `buf` shorter than 63242 bytes.)
  `buflen = 0` is the one remaining way to fault, and only by a write outside the (empty) `buf`: the CNAME
  branch executes `buf[buflen - 1] = '\0'`, i.e. `buf[-1]`, and the MX/SRV branch its final
  `*(buf + offset) = '\0'` with `offset = 0`; the NULL/PRIVATE, A and TXT branches copy `MIN(rv, 0) = 0` bytes and
  return 0.  No caller passes `buflen = 0`.  For every `buflen` the decoder never reads outside the receive
  buffer and never writes outside `name`/`rdata`/`names`.
* the server's receive path as a whole: `read_dns` on EVERY datagram never faults and hands on the same for every
  residue (`read_dns_no_fault`, `read_dns_residue_independent`), and so does a whole iteration of the byte-level
  server (`session_iteration_residue_independent`).
-/
namespace Iodine.C12
open Iodine Iodine.Wire

/-- the receive buffer of `cap` bytes that holds the datagram `pkt` with the residue `res` behind it -/
abbrev rx (pkt res : Array Nat) (cap : Nat) : RxBuf := { pkt := pkt, res := res, cap := cap }

/-! ### concrete datagrams used by the non-vacuity examples -/

/-- a residue that parses as the label "www" -/
def resLabel : Array Nat := #[3, 0x77, 0x77, 0x77, 0]
/-- a residue that is a compression pointer to offset 12 -/
def resPtr : Array Nat := #[0xc0, 0x0c]

/-- 12 header bytes, then `1 'a' <pointer to 16> 0`: the pointer lands exactly on the last byte -/
def namePtrLast : Array Nat := #[0,0,0,0,0,0,0,0,0,0,0,0, 1,0x61, 0xc0,16, 0]
/-- the same without the last byte: the pointer lands exactly behind the datagram -/
def namePtrEnd : Array Nat := #[0,0,0,0,0,0,0,0,0,0,0,0, 1,0x61, 0xc0,16]
/-- a label that claims 5 bytes, 2 are present -/
def nameLabelCut : Array Nat := #[0,0,0,0,0,0,0,0,0,0,0,0, 5,0x61,0x62]

/-- query id 0x1234 for `a.t01` type NULL -/
def query1 : Array Nat := #[0x12,0x34,0x01,0x00,0,1,0,0,0,0,0,0, 1,0x61,3,0x74,0x30,0x31,0, 0,10,0,1]
/-- query whose name is a compression pointer to exactly `packetlen` -/
def queryPtrEnd : Array Nat := #[0x12,0x34,0x01,0x00,0,1,0,0,0,0,0,0, 0xc0,18, 0,10,0,1]

/-- NULL answer, 4 bytes of data -/
def answerNull4 : Array Nat :=
  #[0x12,0x34,0x84,0x00,0,1,0,1,0,0,0,0, 1,0x61,0, 0,10,0,1, 0xc0,12, 0,10, 0,1, 0,0,0,0, 0,4, 0x41,0x42,0x43,0x44]
/-- the same with RDLENGTH 6: two bytes more than the datagram holds -/
def answerNullLong : Array Nat :=
  #[0x12,0x34,0x84,0x00,0,1,0,1,0,0,0,0, 1,0x61,0, 0,10,0,1, 0xc0,12, 0,10, 0,1, 0,0,0,0, 0,6, 0x41,0x42,0x43,0x44]
/-- MX answer with the two hosts "ab" (preference 10) and "cde" (preference 20) -/
def answerMx2 : Array Nat :=
  #[0,9,0x84,0,0,1,0,2,0,0,0,0, 1,0x61,0, 0,15,0,1,
    0xc0,12, 0,15, 0,1, 0,0,0,0, 0,6, 0,10, 2,0x61,0x62,0,
    0xc0,12, 0,15, 0,1, 0,0,0,0, 0,7, 0,20, 3,0x63,0x64,0x65,0]
/-- CNAME answer "h" -/
def answerCname1 : Array Nat :=
  #[0,7,0x84,0,0,1,0,1,0,0,0,0, 1,0x61,0, 0,5,0,1, 0xc0,12, 0,5, 0,1, 0,0,0,0, 0,3, 1,0x68,0]

/-! ### residue independence -/

/-- `readname` — result = (new `*src`, bytes written to `dst`; the return value is their number). -/
theorem readname_residue_indep (pkt r₁ r₂ : Array Nat) (cap off length : Nat) :
    readname (rx pkt r₁ cap) off length = readname (rx pkt r₂ cap) off length :=
  readname_indep pkt r₁ r₂ cap off length

/-- non-vacuity: the pointer lands on the last byte of the datagram (followed, it is "a." + the root);
one byte further it is a bad jump although the residue holds a perfectly good label there; a label that
runs past the end is cut at the end and not continued from the residue. -/
example : readname (rx namePtrLast resLabel 65536) 12 256 = .ok (16, [0x61, 0x2e, 0])
    ∧ readname (rx namePtrEnd resLabel 65536) 12 256 = .ok (16, [0x61, 0x2e, 0])
    ∧ readname (rx nameLabelCut resLabel 65536) 12 256 = .ok (15, [0x61, 0x62, 0])
    ∧ readname (rx nameLabelCut resPtr 65536) 12 256 = .ok (15, [0x61, 0x62, 0]) := by decide +kernel

/-- `dns_decode(NULL, 0, q, QR_QUERY, packet, packetlen)` -/
theorem dns_decode_query_residue_indep (pkt r₁ r₂ : Array Nat) (cap : Nat) :
    dnsDecodeQuery (rx pkt r₁ cap) = dnsDecodeQuery (rx pkt r₂ cap) :=
  (dnsDecodeQuery_same (Q := True)).eq

/-- non-vacuity: a well-formed query decodes to its name; a query whose name is a pointer to exactly
`packetlen` decodes to nothing, whatever label the residue offers there. -/
example : dnsDecodeQuery (rx query1 resLabel 65536)
      = .ok { rv := 5, id := 0x1234, type := 10, rcode := 0, name := [0x61, 0x2e, 0x74, 0x30, 0x31], buf := [] }
    ∧ (dnsDecodeQuery (rx queryPtrEnd resLabel 65536)).map (·.rv) = .ok 0
    ∧ (dnsDecodeQuery (rx queryPtrEnd resPtr 65536)).map (·.rv) = .ok 0 := by decide +kernel

/-- `dns_decode(buf, buflen, q, QR_ANSWER, packet, packetlen)` -/
theorem dns_decode_answer_residue_indep (pkt r₁ r₂ : Array Nat) (cap buflen : Nat) :
    dnsDecodeAnswer buflen (rx pkt r₁ cap) = dnsDecodeAnswer buflen (rx pkt r₂ cap) :=
  (dnsDecodeAnswer_same buflen).eq

/-- non-vacuity: a NULL answer delivers its 4 bytes; with RDLENGTH two bytes beyond the datagram nothing
is delivered (`CHECKLEN(rlen)`), not 4 bytes + 2 bytes of residue. -/
example : dnsDecodeAnswer 65536 (rx answerNull4 resLabel 65536)
      = .ok { rv := 4, id := 0x1234, type := 10, rcode := 0, name := [0x61], buf := [0x41, 0x42, 0x43, 0x44] }
    ∧ dnsDecodeAnswer 65536 (rx answerNullLong resLabel 65536)
      = .ok { rv := 0, id := 0x1234, type := 0, rcode := 0, name := [0x61], buf := [] } := by decide +kernel

/-- `readtxtbin(packet, &src, srcremain, dst, dstremain)` with `src[0..srcremain)` inside the datagram -/
theorem readtxtbin_residue_indep (pkt r₁ r₂ : Array Nat) (cap src srcremain dstremain : Nat)
    (h : src + srcremain ≤ pkt.size) :
    readtxtbin (rx pkt r₁ cap) src srcremain dstremain = readtxtbin (rx pkt r₂ cap) src srcremain dstremain :=
  (readtxtbin_same (Q := True) src srcremain dstremain h).eq

/-- non-vacuity: two chunks "ab" "c"; and a last chunk that claims 3 bytes where 1 is left → 0 -/
example : readtxtbin (rx #[2,0x61,0x62,1,0x63] resLabel 65536) 0 5 4096 = .ok (3, 5, [0x61, 0x62, 0x63])
    ∧ readtxtbin (rx #[2,0x61,0x62,3,0x63] resLabel 65536) 0 5 4096 = .ok (0, 4, [0x61, 0x62]) := by decide +kernel

/-- `dns_get_id(packet, packetlen)` -/
theorem dns_get_id_residue_indep (pkt r₁ r₂ : Array Nat) (cap : Nat) :
    dnsGetId (rx pkt r₁ cap) = dnsGetId (rx pkt r₂ cap) :=
  (dnsGetId_same (Q := True)).eq

example : dnsGetId (rx query1 resLabel 65536) = .ok 0x1234 ∧ dnsGetId (rx #[0x12, 0x34] #[0xff] 65536) = .ok 0 := by
  decide +kernel

/-! ### no fault (the read-side part of C05/C06); termination

The loops of `readname_loop` and `readtxtbin` are modelled with fuel (`pkt.size` iterations per activation
of `readname_loop`, recursion depth 10 as in C; `srcremain` iterations in `readtxtbin`) and running out of
fuel is the fault `Fault.fuel`: the theorems below therefore also state that the fuel suffices. -/

/-- `readname` does not fault, and what it stores in `dst[length]` is nothing (return value 0) or at most
`length` bytes the last of which is the terminating NUL (the return value counts them). -/
theorem readname_no_fault (b : RxBuf) (hcap : b.pkt.size ≤ b.cap) (off length : Nat) (hl : 3 ≤ length) :
    ∃ src' w, readname b off length = .ok (src', w) ∧ w.length ≤ length ∧ (w = [] ∨ ∃ w', w = w' ++ [0]) := by
  obtain ⟨⟨src', w⟩, hr, ⟨hlen, hterm⟩, _⟩ := (readname_same (r₁ := b.res) (.triv _) off length hl).run hcap trivial
  exact ⟨src', w, hr, hlen, hterm⟩

/-- non-vacuity: a pointer loop (offset 12 points to 14, 14 points to 12) ends after 10 activations with
nothing written; a label of 12 bytes read into `dst[8]` fills it to the last byte (7 + NUL). -/
example : readname (rx #[0,0,0,0,0,0,0,0,0,0,0,0, 0xc0,14, 0xc0,12] #[] 65536) 12 256 = .ok (14, []) := by decide +kernel

example : readname (rx #[0,0,0,0,0,0,0,0,0,0,0,0, 12,97,98,99,100,101,102,103,104,105,106,107,108,0] #[] 65536) 12 8
    = .ok (21, [97, 98, 99, 100, 101, 102, 103, 0]) := by decide +kernel

theorem readtxtbin_no_fault (b : RxBuf) (hcap : b.pkt.size ≤ b.cap) (src srcremain dstremain : Nat)
    (h : src + srcremain ≤ b.pkt.size) :
    ∃ rv src' out, readtxtbin b src srcremain dstremain = .ok (rv, src', out)
      ∧ rv ≤ out.length ∧ out.length ≤ dstremain := by
  obtain ⟨⟨rv, src', o⟩, hr, hp⟩ := (readtxtbin_same (r₁ := b.res) src srcremain dstremain h).run hcap trivial
  exact ⟨rv, src', o, hr, hp⟩

/-- non-vacuity: the chunk does not fit `dst[2]` → 0, nothing stored -/
example : readtxtbin (rx #[3,0x61,0x62,0x63] #[] 65536) 0 4 2 = .ok (0, 1, []) := by decide +kernel

theorem dns_get_id_no_fault (b : RxBuf) (hcap : b.pkt.size ≤ b.cap) : ∃ r, dnsGetId b = .ok r :=
  (dnsGetId_same (r₁ := b.res)).run hcap trivial |>.imp fun _ h => h.1

theorem dns_decode_query_no_fault (b : RxBuf) (hcap : b.pkt.size ≤ b.cap) : ∃ r, dnsDecodeQuery b = .ok r :=
  (dnsDecodeQuery_same (r₁ := b.res)).run hcap trivial |>.imp fun _ h => h.1

/-- non-vacuity: a datagram that fills the whole buffer (`pkt.size = cap`); query cut inside the
question (CHECKLEN(4) fails) -/
example : (dnsDecodeQuery (rx query1 #[] 23)).map (·.rv) = .ok 5
    ∧ (dnsDecodeQuery (rx (query1.extract 0 21) resLabel 65536)).map (·.rv) = .ok 0 := by decide +kernel

/-- `dns_decode(buf, buflen, q, QR_ANSWER, …)` with a non-empty `buf` does not fault — for all packets.
(`1 ≤ buflen` cannot be dropped: see the two witnesses below.) -/
theorem dns_decode_answer_no_fault (b : RxBuf) (hcap : b.pkt.size ≤ b.cap) (buflen : Nat) (hbuf : 1 ≤ buflen) :
    ∃ r, dnsDecodeAnswer buflen b = .ok r :=
  ((dnsDecodeAnswer_same (r₁ := b.res) buflen).good hcap).1 hbuf

/-- non-vacuity: the MX answer with the hosts "ab" and "cde" decodes to "ab\0cde\0\0" (rv = 7 excludes
the final NUL) when there is room; into the 4 bytes `get_external_ip` passes it decodes to "ab\0" + NUL and
stops (`offset + 2 >= buflen`, the test that keeps the second host from being copied behind `buf`); into 3 bytes
the first host is cut to "a"; into 1 or 2 bytes nothing but the final NUL is stored.
The CNAME answer "h" decodes to "h", cut to "" by `buf[buflen-1] = 0` when `buflen = 1`. -/
example : dnsDecodeAnswer 65536 (rx answerMx2 resPtr 65536)
      = .ok { rv := 7, id := 9, type := 15, rcode := 0, name := [0x61],
              buf := [0x61, 0x62, 0, 0x63, 0x64, 0x65, 0, 0] }
    ∧ dnsDecodeAnswer 8 (rx answerMx2 resPtr 65536)
      = .ok { rv := 7, id := 9, type := 15, rcode := 0, name := [0x61],
              buf := [0x61, 0x62, 0, 0x63, 0x64, 0x65, 0, 0] }
    ∧ dnsDecodeAnswer 4 (rx answerMx2 resPtr 65536)
      = .ok { rv := 3, id := 9, type := 15, rcode := 0, name := [0x61], buf := [0x61, 0x62, 0, 0] }
    ∧ dnsDecodeAnswer 3 (rx answerMx2 resPtr 65536)
      = .ok { rv := 2, id := 9, type := 15, rcode := 0, name := [0x61], buf := [0x61, 0, 0] }
    ∧ dnsDecodeAnswer 2 (rx answerMx2 resPtr 65536)
      = .ok { rv := 0, id := 9, type := 15, rcode := 0, name := [0x61], buf := [0] }
    ∧ dnsDecodeAnswer 1 (rx answerMx2 resPtr 65536)
      = .ok { rv := 0, id := 9, type := 15, rcode := 0, name := [0x61], buf := [0] }
    ∧ dnsDecodeAnswer 2 (rx answerCname1 resPtr 65536)
      = .ok { rv := 1, id := 7, type := 5, rcode := 0, name := [0x61], buf := [0x68] }
    ∧ dnsDecodeAnswer 1 (rx answerCname1 resPtr 65536)
      = .ok { rv := 0, id := 7, type := 5, rcode := 0, name := [0x61], buf := [] } := by decide +kernel

theorem answerCname1_empty_buf : dnsDecodeAnswer 0 (rx answerCname1 #[] 65536) = .error .oobWrite := by decide +kernel

/-- `buflen = 0`: a CNAME answer executes `buf[buflen - 1] = '\0'` (a write at `buf[-1]`), an MX/SRV answer
the final `*(buf + offset) = '\0'` at `buf[0]` of an empty buffer; a NULL answer is harmless (0 bytes copied,
rv = 0). -/
example : dnsDecodeAnswer 0 (rx answerCname1 #[] 65536) = .error .oobWrite
    ∧ dnsDecodeAnswer 0 (rx answerMx2 #[] 65536) = .error .oobWrite
    ∧ dnsDecodeAnswer 0 (rx answerNull4 #[] 65536)
      = .ok { rv := 0, id := 0x1234, type := 10, rcode := 0, name := [0x61], buf := [] } :=
  ⟨answerCname1_empty_buf, by decide +kernel, by decide +kernel⟩

/-- hence the statement without `1 ≤ buflen` is false -/
theorem dns_decode_answer_no_fault_needs_buflen :
    ¬ ∀ (buflen : Nat) (b : RxBuf), b.pkt.size ≤ b.cap → ∃ r, dnsDecodeAnswer buflen b = .ok r := by
  intro h
  obtain ⟨r, hr⟩ := h 0 (rx answerCname1 #[] 65536) (by decide)
  rw [answerCname1_empty_buf] at hr
  cases hr

/-- for EVERY `buflen` (also 0): the only fault `dns_decode(QR_ANSWER)` can run into is that write outside
the caller's `buf` — it never reads outside the receive buffer, never writes outside
`name`/`rdata`/`names`, never runs out of fuel. -/
theorem dns_decode_answer_only_buf_fault (b : RxBuf) (hcap : b.pkt.size ≤ b.cap) (buflen : Nat) (f : Fault)
    (h : dnsDecodeAnswer buflen b = .error f) : f = .oobWrite :=
  ((dnsDecodeAnswer_same (r₁ := b.res) buflen).good hcap).2 f h

/-- … and with `dns_decode_answer_no_fault`: a fault implies `buflen = 0` -/
theorem dns_decode_answer_fault_only_empty_buf (b : RxBuf) (hcap : b.pkt.size ≤ b.cap) (buflen : Nat) (f : Fault)
    (h : dnsDecodeAnswer buflen b = .error f) : buflen = 0 ∧ f = .oobWrite := by
  refine ⟨?_, dns_decode_answer_only_buf_fault b hcap buflen f h⟩
  apply Decidable.byContradiction
  intro hb
  obtain ⟨r, hr⟩ := dns_decode_answer_no_fault b hcap buflen (by omega)
  rw [hr] at h
  cases h

/-! ### The server's receive path as a whole (`read_dns`, Server/Bytes.lean)

`Server.decodeInputR res s src bytes` is `read_dns` on the datagram `bytes` with the bytes `res` left behind it in
`packet[64*1024]`: the 64 KiB cut of `recvmsg`, `raw_decode`'s test, `dns_decode(QR_QUERY)`, the `<= 0` test.
`Server.biterationR res` is one whole iteration of `tunnel()` at byte level over that residue. -/

open Iodine.Server in
/-- **read_dns_no_fault.**  For EVERY datagram (any length, any bytes), every residue, every state and
sender, `read_dns` reads no byte outside `packet[64K]`, writes outside no array and terminates: it hands on a raw frame,
a decoded query, or drops the datagram. -/
theorem read_dns_no_fault (res : Array Nat) (s : Srv) (src : Addr) (bytes : List Nat) :
    ∃ i, decodeInputR res s src bytes = .ok i := by
  unfold decodeInputR
  extract_lets pkt
  split
  · exact ⟨_, rfl⟩
  · split
    · exact ⟨_, rfl⟩
    · obtain ⟨d, hd⟩ := dns_decode_query_no_fault (rxBuf res pkt) (by simp [rxBuf, pkt]; omega)
      rw [hd]
      simp only [Wire.bind_ok]
      split <;> exact ⟨_, rfl⟩

open Iodine.Server in
/-- **read_dns_residue_independent.**  What `read_dns` hands on — raw frame, decoded query (id, type, name, sender, local
address) or nothing — is the same for every content of the receive buffer behind the datagram. -/
theorem read_dns_residue_independent (r₁ r₂ : Array Nat) (s : Srv) (src : Addr) (bytes : List Nat) :
    decodeInputR r₁ s src bytes = decodeInputR r₂ s src bytes := by
  unfold decodeInputR
  extract_lets pkt
  have : dnsDecodeQuery (rxBuf r₁ pkt) = dnsDecodeQuery (rxBuf r₂ pkt) :=
    dns_decode_query_residue_indep pkt.toArray r₁ r₂ 65536
  rw [this]

open Iodine.Server in
/-- `Server.decodeInput` (the zero-residue instance the driver runs) is `read_dns` for every residue -/
theorem read_dns_eq (res : Array Nat) (s : Srv) (src : Addr) (bytes : List Nat) :
    decodeInputR res s src bytes = .ok (decodeInput s src bytes) := by
  obtain ⟨i, hi⟩ := read_dns_no_fault #[] s src bytes
  rw [read_dns_residue_independent res #[] s src bytes]
  unfold decodeInput
  rw [hi]

open Iodine.Server in
/-- **session_iteration_residue_independent.**  A whole iteration of the server at byte level — the new state (all
sessions, the forward ring, the static counters of `write_dns_nameenc`), every datagram sent, every tun write, the select
timeout — on ANY input, over ANY residue in the receive buffer, never faults in the receive path and equals the iteration
computed from the datagram's own bytes: stale bytes of earlier (longer) datagrams are never parsed, echoed or delivered. -/
theorem session_iteration_residue_independent (res : Array Nat) (b : BSrv) (inp : BInput) (now' : Nat) :
    biterationR res b inp now' = some (biteration b inp now') := by
  cases inp with
  | dgram src bytes =>
    unfold biterationR biteration toInput
    simp only [read_dns_eq res b.srv src bytes]
  | tun f => rfl
  | bind d => rfl
  | tick => rfl

/-- a version request `vaa.t.co`, type NULL, id 0x1234 -/
def exQueryFull : List Nat :=
  [0x12, 0x34, 0x01, 0x00, 0, 1, 0, 0, 0, 0, 0, 0, 3, 118, 97, 97, 1, 116, 2, 99, 111, 0, 0, 10, 0, 1]

def exSrvCfg : Server.Config :=
  { checkIp := true, password := List.replicate 32 0, myIp := 0x0a000001, netmask := 27,
    topdomain := [116, 46, 99, 111], mtu := 1130, nsIp := 0, bindPort := 0, dest4 := 0x0a090909, dest6 := 0,
    createdUsers := 0 }

open Iodine.Server in
/-- non-vacuity: the query cut inside its question name, over a residue that would complete it, is dropped exactly as over
zeros; the complete datagram is handed on as a query -/
example :
    (match decodeInputR (exQueryFull.drop 14).toArray (start exSrvCfg []) ⟨4, 0x0a630001, 53⟩ (exQueryFull.take 14) with
      | .ok .tick => true
      | _ => false) = true
    ∧ (match decodeInput (start exSrvCfg []) ⟨4, 0x0a630001, 53⟩ exQueryFull with
      | .q q => (q.name, q.id, q.type)
      | _ => ([], 0, 0)) = ([118, 97, 97, 46, 116, 46, 99, 111], 0x1234, 10) := by
  decide +kernel

end Iodine.C12
