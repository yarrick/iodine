import IodineModel.Props.C12
import IodineModel.Props.C13
import IodineModel.Lemmas.HsSys
import IodineModel.Lemmas.HsRef
import IodineModel.Lemmas.Runs
/-
C06 — the client survives arbitrary replies (memory safety, termination).  PARTIAL.

What is PROVED here (re-stating, under this property's name, theorems established in the files of C12 and C13, so that a change which breaks
one of them breaks this property's obligations):

* the receive path of EVERY reply — `dns_decode(QR_ANSWER)` for every record type (oversized RDLENGTH, 250+ MX/SRV records, odd preferences,
  bad TXT chunking, compression loops), `readname`, `readtxtbin` — never reads outside the 64 KiB receive buffer, never writes outside
  `name[256]`, `rdata[4096]`, `names[250][256]` or the caller's buffer (of at least one byte: the client passes 4096 / 64 KiB), and terminates;
  reads go through a checked accessor, so this is not true by totalisation;
* what is decoded depends on the reply's own bytes only;
* the login reply — the only reply whose text reaches the operating system — causes at most two commands, made of validated text only.

Also proved here, over the handshake step machine `Client/Handshake.lean` (every `handshake_*` function with its parsers): it cannot
wedge and ends after 162 timeouts (`handshake_no_wedge`, `handshake_terminates`), every `system()` call is a validated command of one
login reply (`handshake_commands_validated`, `handshake_at_most_two_commands`), and no step looks at what earlier replies left in `in[]`
or at anything of a reply behind its length (`handshake_reply_residue_free`, `handshake_length_guards_suffice`).  Whole sessions —
`in[4096]` of the handshake and the packet buffers and reassembly of the tunnel phase under arbitrary inputs, unmatched replies, no wedge
of the tunnel phase — are in Props/C06Session.lean.

What is NOT proved and is covered only by the sanitizer-instrumented world runs (harness/h_cli, ASan + UBSan, hostile path generators):
undefined behaviour of kinds the model does not represent (uninitialised reads, aliasing), libc/zlib internals, stack depth.
-/
namespace Iodine.C06
open Iodine

/-- `dns_decode(buf, buflen, q, QR_ANSWER, packet, r)` on ANY datagram that fits the receive buffer, for every caller buffer of at least one
byte: no out-of-bounds read or write, terminates. -/
theorem answer_decode_no_fault (b : Wire.RxBuf) (h : b.pkt.size ≤ b.cap) (buflen : Nat) (hb : 1 ≤ buflen) :
    ∃ r, Wire.dnsDecodeAnswer buflen b = Except.ok r :=
  C12.dns_decode_answer_no_fault b h buflen hb

/-- the only fault the answer decoder can ever produce is the write into an EMPTY caller buffer (no caller passes one) -/
theorem answer_decode_fault_only_empty_buf (b : Wire.RxBuf) (h : b.pkt.size ≤ b.cap) (buflen : Nat) (f : Wire.Fault)
    (hf : Wire.dnsDecodeAnswer buflen b = Except.error f) : buflen = 0 ∧ f = Wire.Fault.oobWrite :=
  C12.dns_decode_answer_fault_only_empty_buf b h buflen f hf

/-- TXT strings: never read beyond `srcremain`, never write beyond `dstremain` -/
theorem readtxtbin_no_fault (b : Wire.RxBuf) (h : b.pkt.size ≤ b.cap) (src srcremain dstremain : Nat) (hs : src + srcremain ≤ b.pkt.size) :
    ∃ rv src' out, Wire.readtxtbin b src srcremain dstremain = Except.ok (rv, src', out) ∧ rv ≤ out.length ∧ out.length ≤ dstremain :=
  C12.readtxtbin_no_fault b h src srcremain dstremain hs

/-- a reply is interpreted from its own bytes only -/
theorem answer_decode_own_bytes_only (pkt r₁ r₂ : Array Nat) (cap buflen : Nat) :
    Wire.dnsDecodeAnswer buflen (C12.rx pkt r₁ cap) = Wire.dnsDecodeAnswer buflen (C12.rx pkt r₂ cap) :=
  C12.dns_decode_answer_residue_indep pkt r₁ r₂ cap buflen

/-- the login reply runs at most two commands … -/
theorem login_reply_at_most_two_commands (dev reply : List Nat) (sysret : Int) :
    (Client.Shell.loginStep dev reply sysret).commands.length ≤ 2 :=
  C13.at_most_two_commands dev reply sysret

/-- … each made of the fixed prefix, the local device name, validated dotted quads and a ranged integer -/
theorem login_reply_commands_validated (dev reply : List Nat) (sysret : Int) (hd : dev.length ≤ 430) (cmd : List Nat)
    (hc : cmd ∈ (Client.Shell.loginStep dev reply sysret).commands) : C13.IpCmd dev cmd ∨ C13.MtuCmd dev cmd :=
  C13.shell_args_are_quads_and_ranged_ints dev reply sysret hd cmd hc

/-- non-vacuity: an MX answer decoded into the 4-byte buffer `get_external_ip` passes — no fault: the loop that joins the MX
names stops at the caller's buffer -/
example : ∃ r, Wire.dnsDecodeAnswer 4 (C12.rx C12.answerMx2 #[] 65536) = Except.ok r :=
  answer_decode_no_fault _ (by decide) 4 (by decide)

/-! ### the handshake (step machine `Client/Handshake.lean`, diffed line by line against the real `client_handshake()`)

"Termination" for the handshake: whatever arrives — any replies, fitting or not, hostile or genuine, any timeouts, in any order — the
handshake returns; no reply can wedge it or make it start over.  And the only replies whose text reaches the operating system are login
replies, through the validated path of C13. -/

/-- the handshake machine started by `client_handshake(dns_fd, raw_mode, autodetect_frag_size, fragsize)` in static state `c` and driven by
the inputs `inps` (what each `select` returned) -/
def handshakeRun (c : Client.Cli) (args : Client.HsArgs) (pw dev : List Nat) (inps : List Client.CInput) : Client.HState :=
  inps.foldl (fun s i => (Client.hstep s i).1) (Client.hsStart c args pw dev).1

def handshakeStepRun (s : Client.HState) (inps : List Client.CInput) : Client.HState :=
  inps.foldl (fun s i => (Client.hstep s i).1) s

/-- number of `select` timeouts in an input sequence -/
def ticks (inps : List Client.CInput) : Nat :=
  (inps.filter fun i => match i with | .tick => true | _ => false).length

def IsReply (i : Client.CInput) : Prop := (∃ q, i = .rq q) ∨ (∃ b, i = .rawans b)

/-- **No wedge, step form.**  There is a measure on the states of the handshake machine which is at most 162 when `client_handshake` is
entered, is 0 exactly when the handshake has returned, and for EVERY state `s` in which the handshake is running and EVERY input:
either the step lowers the measure strictly, or the input was a datagram that `handshake_waitdns` ignores — and then nothing but the
receive buffer `in[]` has changed, nothing was sent and the thread waits in the same `select` again.  A timeout always lowers it. -/
theorem handshake_no_wedge :
    ∃ μ : Client.HState → Nat,
      (∀ c args pw dev, μ (Client.hsStart c args pw dev).1 ≤ 162) ∧
      (∀ s, μ s = 0 ↔ s.pos = none) ∧
      (∀ s inp, s.pos ≠ none →
        μ (Client.hstep s inp).1 < μ s ∨
        (IsReply inp ∧ Client.hstep s inp = ({ s with inb := (Client.hstep s inp).1.inb }, [], Client.hpending s))) ∧
      (∀ s, s.pos ≠ none → μ (Client.hstep s .tick).1 < μ s) := by
  -- a step that ends at a rank of at most that of the position it started from has lowered the measure
  have drop : ∀ (s : Client.HState) (inp : Client.CInput) (p : Client.HPos), s.pos = some p →
      Client.orank (Client.hstep s inp) ≤ Client.hsRank p →
      Client.posRank (Client.hstep s inp).1.pos < Client.posRank s.pos := by
    intro s inp p hp h
    rw [hp]
    exact Nat.lt_succ_of_le h
  refine ⟨fun s => Client.posRank s.pos, ?_, ?_, ?_, ?_⟩
  · intro c args pw dev
    exact Client.orank_hsStart c args pw dev
  · intro s
    cases h : s.pos <;> simp [h, Client.posRank]
  · intro s inp hs
    cases hp : s.pos with
    | none => exact absurd hp hs
    | some p =>
      rcases Client.hstep_progress_or_ignored s inp p hp with h | ⟨h1, h2⟩
      · exact Or.inl (drop s inp p hp h)
      · right
        refine ⟨?_, ?_⟩
        · cases inp with
          | rq q => exact Or.inl ⟨q, rfl⟩
          | rawans b => exact Or.inr ⟨b, rfl⟩
          | tun f => simp [Client.isTimeoutInput] at h1
          | tick => simp [Client.isTimeoutInput] at h1
        · rw [h2]; simp [Client.hpending, hp]
  · intro s hs
    cases hp : s.pos with
    | none => exact absurd hp hs
    | some p => exact drop s .tick p hp (Client.hstep_timeout_progress s .tick p hp rfl)

/-- From ANY state of the machine: as many `select` timeouts as its measure says end the handshake, whatever else arrives in
between. -/
theorem handshakeStepRun_terminates (s : Client.HState) (inps : List Client.CInput) (h : Client.posRank s.pos ≤ ticks inps) :
    (handshakeStepRun s inps).pos = none := by
  have h0 := (Runs.run_budget (fun s i => (Client.hstep s i).1) (fun s => Client.posRank s.pos) Client.isTick
    (fun _ => True) (fun _ => True) (fun _ _ => False) (fun _ _ => False) (fun _ _ _ _ => trivial)
    (fun s i _ _ => Or.inr (Client.hstep_budget s i)) (fun _ _ _ h => h.elim) (fun _ _ _ h => h) inps s trivial
    (fun _ _ => trivial) h).resolve_left id
  cases hp : (handshakeStepRun s inps).pos with
  | none => rfl
  | some p => rw [handshakeStepRun] at hp; rw [hp] at h0; cases h0

/-- **`handshake_terminates`.**  From the entry of `client_handshake`, for EVERY input sequence — any answers, any timeouts, in any
order: once 162 `select` timeouts have occurred the handshake has returned (`pos = none`: it returned a value or called `errx`).  So the
handshake cannot consume more than 162 timeouts, i.e. (every timeout being at most 5 s, plus `sleep(1)` per SERVFAIL) it cannot hang. -/
theorem handshake_terminates (c : Client.Cli) (args : Client.HsArgs) (pw dev : List Nat) (inps : List Client.CInput)
    (h : 162 ≤ ticks inps) : (handshakeRun c args pw dev inps).pos = none :=
  handshakeStepRun_terminates _ inps (Nat.le_trans (Client.orank_hsStart c args pw dev) h)

/-- a client as `client_init()` + the option setters leave it: query type to be autodetected, lazy mode wanted -/
def exampleCli : Client.Cli :=
  { Client.clientInit Client.Cli.boot 4711 815 with topdomain := Client.ascii "t.example.com", lazymode := true, selecttimeout := 4 }

set_option maxRecDepth 100000 in
/-- non-vacuity: the machine really runs (it is parked in the first query-type probe, type NULL, 1 s), a reply with a wrong id is ignored
without any effect but on `in[]`, and when nothing ever answers the autodetection gives up after exactly 3 x 7 timeouts -/
example :
    (Client.hsStart exampleCli ⟨true, true, 0⟩ [] []).1.pos = some (.qtype 1 0 100) ∧
    (handshakeRun exampleCli ⟨true, true, 0⟩ [] [] [.rq ⟨5, 1, 10, 0, 121, [1, 2, 3, 4, 5]⟩]).pos = some (.qtype 1 0 100) ∧
    (handshakeRun exampleCli ⟨true, true, 0⟩ [] [] (List.replicate 20 .tick)).pos = some (.qtype 3 6 100) ∧
    (handshakeRun exampleCli ⟨true, true, 0⟩ [] [] (List.replicate 21 .tick)).pos = none := by
  decide +kernel

example : (handshakeRun exampleCli ⟨true, true, 0⟩ [] [] (List.replicate 162 .tick)).pos = none :=
  handshake_terminates _ _ _ _ _ (by decide +kernel)

/-- **`handshake_reply_residue_free`.**  `handshake_waitdns` decodes EVERY datagram — fitting or not — into the `in[]` of the function that
waits, so earlier and ignored replies do leave bytes there.  No handshake function looks at a byte of `in[]` behind the length of the
reply at hand (the length tests are written out in `Client/Handshake.lean`), and the machine, diffed against the real function
on every op, keeps nothing else.  Hence, for every state in which the handshake runs:
 * the step does not depend on the content of `in[]` at the time the `select` returns — whatever earlier replies wrote there;
 * it depends on the reply only through `read_dns_withq`'s return value, the id, the first character of the question name, the RCODE and the
   first `min(read, buflen)` decoded bytes (the record type and anything behind `read` are not looked at).
(Without the length tests `BAD` after an ignored `BADLEN…` would be read as `BADLEN` — the example below is that op sequence.) -/
theorem handshake_reply_residue_free :
    (∀ (s : Client.HState) (residue : List Nat) (inp : Client.CInput), s.pos ≠ none →
      Client.hstep { s with inb := residue } inp = Client.hstep s inp) ∧
    (∀ (s : Client.HState) (p : Client.HPos) (q q' : Client.Rq), s.pos = some p →
      q.rv = q'.rv → q.id = q'.id → q.rcode = q'.rcode → q.name0 = q'.name0 →
      q.buf.take (min q.rv.toNat p.wait.2.2) = q'.buf.take (min q.rv.toNat p.wait.2.2) →
      Client.hstep s (.rq q) = Client.hstep s (.rq q')) :=
  ⟨fun s x inp hp => Client.hstep_residue_free s x inp hp,
   fun s p q q' hp h1 h2 h3 h4 h5 => Client.hstep_reply_prefix s p hp q q' h1 h2 h3 h4 h5⟩

/-- The length guards are what makes the above true of the C text, not only of the machine: put ANY bytes `junk` behind the reply in `in[]`
(what earlier replies or the stack left there) — `fragsize_check`, the literal comparisons of the four switch handshakes and the check-string
test decide as on the reply alone. -/
theorem handshake_length_guards_suffice (s : Client.HState) (buf junk : List Nat) (hi : s.inb = buf ++ junk) :
    (∀ pr m, Client.fragsizeCheck s buf.length pr m = Client.fragsizeCheck { s with inb := buf } buf.length pr m) ∧
    (∀ lit, s.inIsN buf.length lit = ({ s with inb := buf } : Client.HState).inIsN buf.length lit) ∧
    (0 < buf.length → Client.checkReply s buf.length = Client.checkReply { s with inb := buf } buf.length) := by
  refine ⟨fun pr m => ?_, fun lit => ?_, fun hp => ?_⟩
  · rw [Client.fragsizeCheck_junk s buf junk hi, Client.fragsizeCheck_reply { s with inb := buf } buf rfl]
  · rw [Client.inIsN_junk s buf junk hi, Client.inIsN_junk { s with inb := buf } buf [] (List.append_nil buf).symm]
  · rw [Client.checkReply_reply s buf junk hi hp,
      Client.checkReply_reply { s with inb := buf } buf [] (List.append_nil buf).symm hp]

/-- the example client waiting for the answer to its first `s` (switch to Base64) query, id 4242 -/
def exampleSwitchWait : Client.HState :=
  { c := { exampleCli with chunkid := 4242, doQtype := 10 }, pos := some (.switchCodec 6 0), inb := [], args := ⟨false, true, 0⟩, pw := [], dev := [] }

/-- non-vacuity, the op sequence of the repaired defect: an unfitting reply `BADLEN` (other id: ignored), then the fitting 3-byte reply
`BAD` — it is NOT read as `BADLEN`: the codec is switched; a fitting `BADLEN` still refuses -/
example :
    (handshakeStepRun exampleSwitchWait [.rq ⟨6, 7, 10, 0, 115, Client.ascii "BADLEN"⟩]).pos = some (.switchCodec 6 0) ∧
    (handshakeStepRun exampleSwitchWait [.rq ⟨6, 7, 10, 0, 115, Client.ascii "BADLEN"⟩, .rq ⟨3, 4242, 10, 0, 115, Client.ascii "BAD"⟩]).c.dataenc = .b64 ∧
    (handshakeStepRun exampleSwitchWait [.rq ⟨6, 4242, 10, 0, 115, Client.ascii "BADLEN"⟩]).c.dataenc = .b32 := by
  decide +kernel

/-- non-vacuity for the guards: a correct 2-byte answer to a probe of size 2 with junk behind it is accepted (`in[2]`, `in[3]` are not looked
at), a 1-byte answer is "no fragsize in this reply" whatever follows it -/
example :
    Client.fragsizeCheck { exampleSwitchWait with inb := [0, 2] ++ [55, 66] } 2 2 0 = (2, true) ∧
    Client.fragsizeCheck { exampleSwitchWait with inb := [0] ++ [2, 107] } 1 2 0 = (0, false) := by
  decide +kernel

/-- **`handshake_commands_validated`** (the C13 link).  Every `system()` call of the handshake machine — in ANY state, on ANY input —
happens while it waits for the login reply, and the command is one `Shell.loginStep` builds from a login reply that passed the validation
of C13: exactly `PATH=/sbin:/bin ifconfig <dev> <quad> <quad> netmask <quad>` or `… ifconfig <dev> mtu <201..1500>`.  No other reply of the
handshake (version, codec switches, probes, …), matched or not, reaches the operating system. -/
theorem handshake_commands_validated (s : Client.HState) (inp : Client.CInput) (hd : s.dev.length ≤ 430) (cmd : List Nat)
    (hc : Client.CEvent.sys cmd ∈ (Client.hstep s inp).2.1) :
    (∃ seed i, s.pos = some (.login seed i)) ∧ (C13.IpCmd s.dev cmd ∨ C13.MtuCmd s.dev cmd) := by
  obtain ⟨h1, reply, h2⟩ := Client.hstep_sys s inp cmd hc
  exact ⟨h1, C13.shell_args_are_quads_and_ranged_ints s.dev reply 0 hd cmd h2⟩

/-- … at most two per step (`Client.hstep_events`: the events of a step are the commands of ONE login reply — the address command, then the
MTU command — followed by events that are not `system()` calls). -/
theorem handshake_at_most_two_commands (s : Client.HState) (inp : Client.CInput) :
    ((Client.hstep s inp).2.1.filter Client.isSys).length ≤ 2 := by
  obtain ⟨cmds, l, h1, h2, h3⟩ := Client.hstep_events s inp
  have hl : l.filter Client.isSys = [] := by
    rw [List.filter_eq_nil_iff]
    intro e he
    simp [h2 e he]
  have hm : (cmds.map Client.CEvent.sys).filter Client.isSys = cmds.map Client.CEvent.sys := by
    rw [List.filter_eq_self]
    intro e he
    obtain ⟨c, _, rfl⟩ := List.mem_map.mp he
    rfl
  rw [h1, List.filter_append, hl, hm, List.append_nil, List.length_map]
  rcases h3 with h3 | ⟨_, reply, h3⟩
  · simp [h3]
  · rw [h3]; exact C13.at_most_two_commands _ _ _

theorem handshake_start_no_command (c : Client.Cli) (args : Client.HsArgs) (pw dev : List Nat) (cmd : List Nat) :
    Client.CEvent.sys cmd ∉ (Client.hsStart c args pw dev).2.1 := by
  intro h
  have := (Client.evs_hsStart c args pw dev).sys_mem h
  cases this

/-- the state in which the example client waits for its first login reply (query id 4242) -/
def exampleLoginWait : Client.HState :=
  { c := { exampleCli with chunkid := 4242, doQtype := 10 }, pos := some (.login 7 0), inb := [], args := ⟨false, true, 0⟩, pw := [], dev := [] }

/-- non-vacuity: a genuine login reply makes the machine run exactly the two commands and go on to the EDNS0 probe … -/
example :
    (Client.hstep exampleLoginWait (.rq ⟨25, 4242, 10, 0, 108, Client.ascii "10.0.0.1-10.0.0.2-1130-27"⟩)).2.1.take 2 =
      [.sys (Client.ascii "PATH=/sbin:/bin ifconfig  10.0.0.2 10.0.0.2 netmask 255.255.255.224"),
       .sys (Client.ascii "PATH=/sbin:/bin ifconfig  mtu 1130")] ∧
    (Client.hstep exampleLoginWait (.rq ⟨25, 4242, 10, 0, 108, Client.ascii "10.0.0.1-10.0.0.2-1130-27"⟩)).1.pos = some (.edns 0) := by
  decide +kernel

/-- … and a hostile one (`;id` behind the address) none at all: `tun_setip` refuses, the client ends with `errx(4)` -/
example :
    (Client.hstep exampleLoginWait (.rq ⟨29, 4242, 10, 0, 108, Client.ascii "10.0.0.1-10.0.0.2 ;id-1130-27"⟩)).2 = ([], .errx 4) := by
  decide +kernel

end Iodine.C06
