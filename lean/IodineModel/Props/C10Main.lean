import IodineModel.Props.C10Session
import IodineModel.Props.C10Session2
import IodineModel.Lemmas.OptTop
import IodineModel.Props.C18Main
import IodineModel.Props.C19Main
/-
C10 (and the other whole-session theorems of the server), continued: what `main()` guarantees.

The session theorems of Props/C10Session.lean (`session_datagrams_wellformed`, `session_nsa_wellformed`, …) assume `ConfigOk cfg`
"for every configuration that passes `main()`'s checks".  That predicate transcribes the tests `main()` of src/iodined.c makes; here
it is PROVED of the model of `main()` (Server/Options.lean: `getopt`, `atoi`, `inet_addr`, the validation sequence, the start-up
actions; tied to the real `main()` by the `main` op of harness/h_srv.c): for EVERY argument vector and EVERY environment (password
variable, typed line, results of every operating-system call), the process either ends without calling `tunnel()` — `exit`,
`usage()`, `return 1` — or calls it with globals that satisfy `ConfigOk`, C18's hypotheses (netmask 8..30, a 32-bit address,
`created_users` = length of the pool `init_users` built) and C19's (the zero-padded password block).
-/
namespace Iodine.C10
open Iodine Iodine.Getopt Iodine.Server.Options

/-- **server_main_runs_with_config.**  `tunnel()` is reached only through the end of the validation: outcome `run` ⇒ the globals
are set (`final = some _`). -/
theorem server_main_runs_with_config (env : Env) (argv : List (List Nat)) (c : Int)
    (h : (serverMain env argv).outcome = .run c) : ∃ f, (serverMain env argv).final = some f := by
  unfold serverMain at h ⊢
  simp only at h ⊢
  split
  · rename_i e he
    rw [he] at h
    cases e <;> simp [Exit.toOutcome] at h
  · rename_i o ho
    rw [ho] at h
    simp only at h ⊢
    split
    · rename_i e evs he
      rw [he] at h
      cases e <;> simp [Exit.toOutcome] at h
    · rename_i v evs hv
      rw [hv] at h
      exact OptL.startup_run env v evs c h

/-- **server_main_establishes_ConfigOk.**  For every argument vector and environment, the configuration `tunnel()` is started with
satisfies `ConfigOk`: `0 < my_mtu < 2^31`, `8 ≤ netmask ≤ 30`, `check_topdomain(topdomain, 1) == 0`. -/
theorem server_main_establishes_ConfigOk (env : Env) (argv : List (List Nat)) (f : Final)
    (h : (serverMain env argv).final = some f) : ConfigOk f.toConfig := by
  obtain ⟨o, v, evs, v4, v6, ho, hv, hf⟩ := OptL.serverMain_final env argv f h
  have hi := OptL.srv_optLoop_inv _ _ o none OptL.sinv_init ho
  have hval := OptL.validate_ok env o _ v evs hv
  subst hf
  have ho' : v.o = o := hval.o_eq
  refine ⟨?_, ?_, ?_, ?_, ?_⟩
  · show 0 < v.o.mtu
    rw [ho']; exact hval.mtu
  · show v.o.mtu < 2 ^ 31
    rw [ho']; exact hi.mtu
  · show 8 ≤ v.netmask.toNat
    have := hval.nm; omega
  · show v.netmask.toNat ≤ 30
    have := hval.nm; omega
  · exact hval.td

/-- **server_main_establishes_session_hypotheses.**  Everything the whole-session theorems of C10, C18 and C19 assume about the
configuration, at once: `ConfigOk`; the tunnel address is a 32-bit value other than `INADDR_NONE`, the netmask has 8..30 bits,
`users[]` is what `init_users(my_ip, netmask)` makes of them and `created_users` its length — so `C18.pool_size`, `pool_in_subnet`,
`pool_excludes`, `pool_distinct` apply —; `ns_ip ≠ INADDR_NONE`; and the password block is the effective password cut at 32
bytes and zero padded (`C19.server_password_block`). -/
theorem server_main_establishes_session_hypotheses (env : Env) (argv : List (List Nat)) (hc : C19.CStrings argv) (f : Final)
    (h : (serverMain env argv).final = some f) :
    ConfigOk f.toConfig ∧
    f.myIp < 2 ^ 32 ∧ f.myIp ≠ 0xffffffff ∧ 8 ≤ f.netmask ∧ f.netmask ≤ 30 ∧
    f.pool = Users.initUsers f.myIp f.netmask.toNat ∧ f.createdUsers = f.pool.length ∧
    f.createdUsers = min Gen.USERS (2 ^ (32 - f.netmask.toNat) - 3) ∧ f.pool.Nodup ∧
    (∀ ip ∈ f.pool, C18.net ip f.netmask.toNat = C18.net f.myIp f.netmask.toNat ∧ ip ≠ f.myIp ∧
      ip ≠ C18.net f.myIp f.netmask.toNat ∧ ip ≠ C18.bcast f.myIp f.netmask.toNat) ∧
    f.nsIp ≠ 0xffffffff ∧
    f.toConfig.password = C19.pad32 (C19.effectivePassword (getoptAll optstring argv).1 env.envPass env.typed) := by
  obtain ⟨h8, h30, hip, hpool, hcu, hlen, hnd, hsub⟩ := C18.server_main_pool env argv f h
  obtain ⟨o, v, evs, v4, v6, _, hv, hf⟩ := OptL.serverMain_final env argv f h
  have hns : f.nsIp ≠ 0xffffffff := by subst hf; exact (OptL.validate_ok env o _ v evs hv).ns
  exact ⟨server_main_establishes_ConfigOk env argv f h, by omega, by omega, h8, h30, hpool, hcu, hcu.trans hlen, hnd, hsub, hns,
    C19.server_config_password env argv hc f h⟩

/-! ### Non-vacuity: a command line that reaches `tunnel()`, and the exits -/

/-- `iodined -f -c -m 1200 -P hunter2 10.9.8.1/28 *.t.example.com` -/
def exArgvMain : List (List Nat) :=
  [ascii "iodined", ascii "-fc", ascii "-m", ascii "1200", ascii "-Phunter2", ascii "10.9.8.1/28", ascii "*.t.example.com"]

example : (serverMain C19.exEnv exArgvMain).outcome = .run 0 := by decide +kernel
example : ((serverMain C19.exEnv exArgvMain).final.map fun f => [f.mtu, f.netmask]) = some [1200, 28] ∧
    ((serverMain C19.exEnv exArgvMain).final.map fun f => [f.myIp, f.createdUsers]) = some [0x0a090801, 13] ∧
    ((serverMain C19.exEnv exArgvMain).final.map fun f => f.topdomain) = some (ascii "*.t.example.com") ∧
    ((serverMain C19.exEnv exArgvMain).final.map fun f => f.checkIp) = some false := by decide +kernel

example (f : Final) (h : (serverMain C19.exEnv exArgvMain).final = some f) : ConfigOk f.toConfig :=
  server_main_establishes_ConfigOk _ _ f h

-- the exits: a netmask of 31 bits, an mtu of 0, `atoi` overflow (`-m 4294967296` is 0), a top domain of 129 characters,
-- `255.255.255.255` as tunnel address (= INADDR_NONE), a missing argument
example : (serverMain C19.exEnv [ascii "iodined", ascii "-Px", ascii "10.0.0.1/31", ascii "t.co"]).outcome = .exit 2 "usage:netmask" ∧
    (serverMain C19.exEnv [ascii "iodined", ascii "-Px", ascii "-m0", ascii "10.0.0.1", ascii "t.co"]).outcome = .exit 2 "usage:mtu" ∧
    (serverMain C19.exEnv [ascii "iodined", ascii "-Px", ascii "-m", ascii "4294967296", ascii "10.0.0.1", ascii "t.co"]).outcome
      = .exit 2 "usage:mtu" ∧
    (serverMain C19.exEnv [ascii "iodined", ascii "-Px", ascii "10.0.0.1", List.replicate 63 97 ++ [46] ++ List.replicate 65 98]).outcome
      = .exit 2 "usage:topdomain" ∧
    (serverMain C19.exEnv [ascii "iodined", ascii "-Px", ascii "255.255.255.255", ascii "t.co"]).outcome = .exit 2 "usage:myip" ∧
    (serverMain C19.exEnv [ascii "iodined", ascii "10.0.0.1", ascii "t.co", ascii "-P"]).outcome = .exit 2 "usage:getopt" := by
  decide +kernel

-- accepted although hardly meant: `iodined -Px 60 t.co` (inet_addr reads "60" as 0.0.0.60), `10.0.0.1/+24x`, `-m 2147483647`
example : ((serverMain C19.exEnv [ascii "iodined", ascii "-Px", ascii "60", ascii "t.co"]).final.map (·.myIp)) = some 60 ∧
    ((serverMain C19.exEnv [ascii "iodined", ascii "-Px", ascii "10.0.0.1/+24x", ascii "t.co"]).final.map (·.netmask)) = some 24 ∧
    ((serverMain C19.exEnv [ascii "iodined", ascii "-Px", ascii "-m", ascii "2147483647", ascii "10.0.0.1", ascii "t.co"]).final.map (·.mtu))
      = some 2147483647 := by
  decide +kernel

/-! ### From `main()` to the session machine: no configuration hypothesis left -/

open Iodine.Server Iodine.Wire Iodine.Wire.Strict

/-- **server_main_starts_session_machine.**  The state in which `tunnel()` is entered — the globals `main()` has set (`check_ip`,
the 32 password bytes, `my_ip`, `netmask`, `topdomain`, `my_mtu`, `ns_ip`, `bind_port` if forwarding is on, `created_users`), `users[]`
as `init_users` leaves the `calloc`ed array, the forward ring after `fw_query_init()`, `td1 = td2 = 0` — is EXACTLY `bstart cfg rnd`
(and `Server.start cfg rnd`) for `cfg = f.cfg dest4 dest6`.
* `rnd`: `main()` calls `srand(time(NULL))` and draws nothing; `rnd` is the stream libc's `rand()` will deliver for that seed.  The
  theorems hold for every stream.
* `dest4/dest6`: the local address `recvmsg` reports for a datagram; the session model keeps it in the configuration.
* the clock: `start` stores 1000 in `now`; `start_clock_irrelevant` shows that the value stored at start-up is never looked at.
Tied to the code: the `main` op of h_srv prints every slot of `users[]` (all fields, inactive slots included) and a probe of the
forward ring after the real `main()`; the driver prints `Final.users` / `Final.fw` with the digest function of the session driver. -/
theorem server_main_starts_session_machine (env : Env) (argv : List (List Nat)) (f : Final) (h : Top.Starts env argv f)
    (rnd : List Nat) (dest4 dest6 : Nat) :
    Top.bentry f rnd dest4 dest6 = bstart (f.cfg dest4 dest6) rnd ∧ Top.entry f rnd dest4 dest6 = Server.start (f.cfg dest4 dest6) rnd :=
  ⟨OptL.bentry_eq_bstart h rnd dest4 dest6, OptL.entry_eq_start h rnd dest4 dest6⟩

/-- **start_clock_irrelevant.**  Whatever time the process is started at: its first iteration (and hence every later one) is that of
`Server.start`. -/
theorem start_clock_irrelevant (cfg : Config) (rnd : List Nat) (t : Nat) (inp : Input) (now' : Nat) :
    iteration { Server.start cfg rnd with now := t } inp now' = iteration (Server.start cfg rnd) inp now' :=
  OptL.iteration_clock_irrelevant _ (OptL.start_inactive cfg rnd) t inp now'

/-- **configOk_from_main.**  `ConfigOk` for the configuration of the running process, whatever the local addresses are. -/
theorem configOk_from_main {env : Env} {argv : List (List Nat)} {f : Final} (h : Top.Starts env argv f) (d4 d6 : Nat) :
    ConfigOk (f.cfg d4 d6) := server_main_establishes_ConfigOk env argv f h

/-- **session_datagrams_wellformed_from_main.**  For every command line and environment with which iodined reaches `tunnel()`; every
state `b` the process then reaches through ARBITRARY inputs made of octets whose question labels contain no '.' or NUL (`PlainReachable`,
from `bentry = bstart`), every further such input and every datagram `tx dst bytes` it sends through `write_dns`: a well-formed RFC 1035
response carrying the id, question name and type of an `ans` event of this iteration: `session_datagrams_wellformed_plain`
with its `ConfigOk` hypothesis established. -/
theorem session_datagrams_wellformed_from_main (env : Env) (argv : List (List Nat)) (f : Final) (h : Top.Starts env argv f)
    (d4 d6 : Nat) (b : BSrv) (hr : PlainReachable (f.cfg d4 d6) b)
    (inp : BInput) (now' : Nat) (hb : ByteDgram inp) (hp : PlainDgram inp) (dst : Addr) (bytes : List Nat)
    (htx : BEvent.tx dst bytes ∈ (biteration b inp now').2.1) :
    ∃ id ty dn name data tag,
      Event.ans dst id ty dn name data tag ∈ out b.srv ⟨toInput b.srv inp, now'⟩ ∧
      id < 65536 ∧ LegalName name ∧ ty ∈ TunnelTypes ∧ WellFormedAnswerTo id ty name bytes :=
  session_datagrams_wellformed_plain _ (configOk_from_main h d4 d6) b hr inp now' hb hp dst bytes htx

/-- the start of such runs: the state `main()` leaves -/
theorem plainReachable_bentry {env : Env} {argv : List (List Nat)} {f : Final} (h : Top.Starts env argv f) (rnd : List Nat)
    (d4 d6 : Nat) : PlainReachable (f.cfg d4 d6) (Top.bentry f rnd d4 d6) := by
  rw [OptL.bentry_eq_bstart h]; exact .init rnd

/-- **session_nsa_wellformed_from_main.**  Likewise for the NS and A responses. -/
theorem session_nsa_wellformed_from_main (env : Env) (argv : List (List Nat)) (f : Final) (h : Top.Starts env argv f)
    (d4 d6 : Nat) (b : BSrv) (hr : PlainReachable (f.cfg d4 d6) b)
    (inp : BInput) (now' : Nat) (hb : ByteDgram inp) (hp : PlainDgram inp) (dst : Addr) (bytes : List Nat)
    (hnsa : BEvent.nsa dst bytes ∈ (biteration b inp now').2.1) :
    ∃ q, toInput b.srv inp = .q q ∧ Event.nsa dst ∈ out b.srv ⟨toInput b.srv inp, now'⟩ ∧
      q.id < 65536 ∧ LegalName q.name ∧
      (∀ src dg, inp = .dgram src dg → labels q.name = questionLabels dg) ∧
      ∃ m, parseMsg bytes = some m ∧ m.id = q.id ∧ m.flags = 0x8400 ∧ m.qd = [(labels q.name, q.type, 1)] ∧
        m.an.length = 1 ∧ (∀ r ∈ m.an, r.owner = labels q.name ∧ r.type = q.type ∧ r.cls = 1) ∧ m.ns = [] :=
  session_nsa_wellformed_plain _ (configOk_from_main h d4 d6) b hr inp now' hb hp dst bytes hnsa

/-- **session_answer_echoes_received_query_from_main.**  For every command line and environment with which iodined reaches
`tunnel()`, every run `l` on ANY inputs and one more iteration: every `write_dns` goes to the sender of a query with exactly this id,
name and type that `read_dns` decoded from a datagram of this run.  No hypothesis at all. -/
theorem session_answer_echoes_received_query_from_main (env : Env) (argv : List (List Nat)) (f : Final) (h : Top.Starts env argv f)
    (rnd : List Nat) (d4 d6 : Nat) (l : List (BInput × Nat)) (inp : BInput) (now' : Nat)
    (dst : Addr) (id ty dn : Nat) (name data : List Nat) (tag : Tag)
    (he : Event.ans dst id ty dn name data tag ∈
      out (brun (Top.bentry f rnd d4 d6) l).srv ⟨toInput (brun (Top.bentry f rnd d4 d6) l).srv inp, now'⟩) :
    ∃ (src : Addr) (bytes : List Nat) (n : Nat) (b' : BSrv) (q : Query),
      (BInput.dgram src bytes, n) ∈ l ++ [(inp, now')] ∧ decodeInput b'.srv src bytes = .q q ∧
      q.from_ = dst ∧ q.id = id ∧ q.name = name ∧ q.type = ty := by
  rw [OptL.bentry_eq_bstart h] at he
  exact session_answer_echoes_received_query _ rnd l inp now' dst id ty dn name data tag he

/-- **session_fwd_wellformed_from_main.**  For every run `l` of the process `main()` started and one more byte-valued input with plain
question labels: every datagram handed to the forward socket is a well-formed query carrying the id, type and label sequence of the
query decoded from this iteration's datagram.  (`session_fwd_wellformed` holds in EVERY state; restated for the runs from `main()`.) -/
theorem session_fwd_wellformed_from_main (env : Env) (argv : List (List Nat)) (f : Final) (_h : Top.Starts env argv f)
    (rnd : List Nat) (d4 d6 : Nat) (l : List (BInput × Nat)) (inp : BInput) (now' : Nat) (hb : ByteDgram inp) (hp : PlainDgram inp)
    (dst : Addr) (bytes : List Nat) (hf : BEvent.fwd dst bytes ∈ (biteration (brun (Top.bentry f rnd d4 d6) l) inp now').2.1) :
    ∃ q src dg, inp = .dgram src dg ∧ toInput (brun (Top.bentry f rnd d4 d6) l).srv inp = .q q ∧ q.id < 65536 ∧ q.type < 65536 ∧
      q.from_ = src ∧ labelSeq q.name ≠ [] ∧ labelSeq q.name <+: questionLabels dg ∧
      WellFormedQueryOf q.id q.type (labelSeq q.name) bytes := by
  obtain ⟨q, src, dg, h1, h2, _, h4, h5, h6, h7, h8, _, h10⟩ := session_fwd_wellformed _ inp now' hb hp dst bytes hf
  exact ⟨q, src, dg, h1, h2, h4, h5, h6, h7, h8, h10⟩

/-! ### Non-vacuity: from a command line to a datagram exchange -/

/-- `iodined -f -P secret 10.0.0.1 t.co` -/
def exArgvRun : List (List Nat) := [Getopt.ascii "iodined", Getopt.ascii "-f", Getopt.ascii "-P", Getopt.ascii "secret", Getopt.ascii "10.0.0.1", Getopt.ascii "t.co"]

/-- the process started by that command line receives the version request `exDgramV` (id 0x1234, type NULL) from `exSrc` as its first
datagram and the NS query `exDgramNs` as its second: one `tx` resp. one `nsa` to the sender with the query's id -/
def exFromArgv : Option (Bool × Bool) :=
  (serverMain C19.exEnv exArgvRun).final.map fun f =>
    let b0 := Top.bentry f [] 0 0
    let r1 := biteration b0 (.dgram exSrc exDgramV) 1000
    let r2 := biteration r1.1 (.dgram exSrc exDgramNs) 1001
    ((match r1.2.1 with
      | [.tx dst bytes] => decide (dst = exSrc) && ((parseMsg bytes).map (·.id) == some 0x1234)
      | _ => false),
     (match r2.2.1 with
      | [.nsa dst bytes] => decide (dst = exSrc) && ((parseMsg bytes).map (·.id) == some 7)
      | _ => false))

example : (serverMain C19.exEnv exArgvRun).outcome = .run 0 ∧ exFromArgv = some (true, true) := by decide +kernel

/-- the theorems applied to it -/
example (f : Final) (h : Top.Starts C19.exEnv exArgvRun f) (dst : Addr) (bytes : List Nat)
    (htx : BEvent.tx dst bytes ∈ (biteration (Top.bentry f [] 0 0) (.dgram exSrc exDgramV) 1000).2.1) :=
  session_datagrams_wellformed_from_main _ _ f h 0 0 _ (plainReachable_bentry h [] 0 0) (.dgram exSrc exDgramV) 1000
    (by decide +kernel) (by decide +kernel) dst bytes htx

end Iodine.C10
