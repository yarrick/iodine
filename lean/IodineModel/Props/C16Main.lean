import IodineModel.Props.C16
import IodineModel.Lemmas.OptTop
/-
C16 from the command line on: the run theorems of `Props/C16.lean` for every configuration with which `main` reaches
`tunnel()` (`Top.Starts`).  The state `tunnel()` is entered in is `start` of that configuration (`OptL.entry_eq_start`),
so each is its run theorem at that state.
-/
namespace Iodine.C16
open Iodine Iodine.Server Iodine.Server.Options Iodine.Gen

/-- **cache_holds_last_four_from_main.**  For every command line and environment with which iodined reaches `tunnel()` and every run
afterwards (any inputs, any clock): each of the four most recent fresh answers of session `u`, whose name and type were not used
again by a more recent one, is found by the cache lookup for any query with that name and type and carries exactly the payload that
was sent.  No hypothesis on the configuration. -/
theorem cache_holds_last_four_from_main (env : Env) (argv : List (List Nat)) (f : Final) (h : Top.Starts env argv f)
    (rnd : List Nat) (d4 d6 : Nat) (steps : List Step)
    (u : Nat) (hu : u < (Top.entry f rnd d4 d6).users.length) (i : Nat) (hi : i < DNSCACHE_LEN) (n : List Nat) (t : Nat) (p : List Nat)
    (hl : (fresh u (traceFrom (Top.entry f rnd d4 d6) steps))[i]? = some (n, t, p))
    (hlast : ∀ j n' t' p', j < i → (fresh u (traceFrom (Top.entry f rnd d4 d6) steps))[j]? = some (n', t', p') → ¬ (n' = n ∧ t' = t))
    (q : Query) (hn : q.name = n) (ht : q.type = t) :
    ∃ e, dnscacheFind (getUser (runFrom (Top.entry f rnd d4 d6) steps) u) q DNSCACHE_LEN 0 = some e ∧
      e.answer.take e.answerlen = p := by
  have hr : Reachable (f.cfg d4 d6) (Top.entry f rnd d4 d6) := by rw [OptL.entry_eq_start h]; exact .init rnd
  exact cache_holds_last_four hr steps u hu i hi n t p hl hlast q hn ht

/-- **qmem_holds_recent_from_main.**  Likewise for the query memories: after every run of the process `main()` started, a re-delivered
data query with the fingerprint of one of the last 15 fresh data answers (ping: last 30) is recognised.  No hypothesis on the
configuration. -/
theorem qmem_holds_recent_from_main (env : Env) (argv : List (List Nat)) (f : Final) (h : Top.Starts env argv f)
    (rnd : List Nat) (d4 d6 : Nat) (steps : List Step)
    (u : Nat) (hu : u < (Top.entry f rnd d4 d6).users.length) (q : Query) (s' : Srv)
    (hmem : (getUser s' u).qmemdata = (getUser (runFrom (Top.entry f rnd d4 d6) steps) u).qmemdata ∧
            (getUser s' u).qmemping = (getUser (runFrom (Top.entry f rnd d4 d6) steps) u).qmemping)
    (ha : Accepted s' q u) :
    (IsData q.name → ∀ i, i < QMEMDATA_LEN →
      (freshDatas u (traceFrom (Top.entry f rnd d4 d6) steps))[i]? = some (dataPrint q.name, q.type) → QmemHit s' q u) ∧
    (IsPing q.name → ∀ i, i < QMEMPING_LEN →
      (freshPings u (traceFrom (Top.entry f rnd d4 d6) steps))[i]? = some (pingPrint s'.cfg.topdomain q, q.type) → QmemHit s' q u) := by
  have hr : Reachable (f.cfg d4 d6) (Top.entry f rnd d4 d6) := by rw [OptL.entry_eq_start h]; exact .init rnd
  exact qmem_holds_recent hr steps u hu q s' hmem ha

end Iodine.C16
