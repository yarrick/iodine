import IodineModel.Lemmas.C01a
import IodineModel.Lemmas.C01b
import IodineModel.Lemmas.C01f
import IodineModel.Lemmas.C01g
import IodineModel.Lemmas.C01i
import IodineModel.Lemmas.C01j
/-
C01 — The tunnel never delivers a packet that was not sent (end-to-end integrity).

Every IP packet that the client or the server writes to its tun device is byte-identical to a packet that was earlier
read from the tun device of its peer (or of another logged-in client, for client-to-client forwarding).  The tunnel may
drop or repeat packets but never fabricates, truncates, merges, mis-reassembles or corrupts one.

The one part that cannot be proved — that zlib rejects a buffer that is not a complete image — is the explicit
hypothesis `Z_integrity`.  This file holds the specification vocabulary (written from the protocol: header bit layouts,
"recent" ids and seqnos, what a duplicate is) and the property theorems, each followed by a non-vacuity example on a
concrete run; the proofs are in `IodineModel/Lemmas/C01{a..j}.lean` (namespace `C01L`).
(A) exact reassembly of honest traffic, from ANY state that has not seen the seqno recently, interleaved with
    duplicates and junk: `client_reassembly_exact(_partial)`, `server_reassembly_exact`, `server_handoff_unchanged`; the
    upstream hop `hop_lossless_up`.
(B) the hostile network (ANY inputs): every frame written is `uncompress` of a chain of received fragments
    (`delivered_is_concat_of_received_fragments_client`, `…_server_partial`: the server accepts gaps); under `Z_integrity`
    it is the delivery of an offered image (`delivered_is_sent_modulo_Z_client/_server`).
(C) `more_than_16_fragments_never_completes_client/_server`: a chain has at most 16 elements.

Findings (each with a concrete run below): one-fragment packets are re-delivered by duplicates; a 5-byte data answer
spelling BADIP is dropped; a header-only answer announcing a new seqno with fragment ≠ 0 ahead of fragment 0 loses the
packet; the client starts a packet at whatever fragment it sees first; the server accepts fragment gaps; both cut the
buffer at 64 KiB silently (`joined`/`sjoined` take 65536); `send_raw` cuts a forwarded image at 4092 bytes
(`deliverToUser` → `sendRaw`).  All of these end in "dropped" only because the real zlib rejects the buffer.
-/
namespace Iodine.C01
open Iodine

section ClientSide
open Iodine.Client

/-- the frames written to the tun device among a list of client events -/
def tunWrites : List CEvent → List (List Nat)
  | [] => []
  | .tunw f :: es => f :: tunWrites es
  | _ :: es => tunWrites es

/-- `tunnel_dns` run over a list of answers (what `read_dns_withq` made of the datagrams): the events of every call -/
def runDns : Cli → List Rq → List (List CEvent)
  | _, [] => []
  | c, rq :: rest => (tunnelDns c rq).2.1 :: runDns (tunnelDns c rq).1 rest

/-- What the tun device must receive for the compressed image `img`: nothing if it does not decompress, otherwise the
decompressed packet with the 4-byte tun header rewritten to 00 00 08 00 (`write_tun` on Linux).  The only thing this
says about `uncompress` is that it is applied to exactly `img`. -/
def delivery (img : List Nat) : List (List Nat) :=
  match uncompress img 65536 with
  | some out => [([0, 0, 8, 0] ++ out.drop 4).take out.length]
  | none => []

/-- An image cut into fragments for downstream (or upstream) seqno `s`: 1..16 non-empty fragments, at most 64 KiB. -/
structure Cut (s : Nat) (fs : List (List Nat)) : Prop where
  seq : s < 8
  ne : fs ≠ []
  le16 : fs.length ≤ 16
  frag_ne : ∀ f ∈ fs, f ≠ []
  size : fs.flatten.length ≤ 65536

/-- second byte of the downstream data header: `sss ffff l` -/
def downHdr (s i : Nat) (last : Bool) : Nat := s * 32 + i * 2 + (if last then 1 else 0)

/-- the answer `rq` carries fragment `i` of the image: two header bytes (the first, the upstream ack, is arbitrary) and
the payload; `read_dns_withq` returned its length -/
def CarriesFrag (s : Nat) (fs : List (List Nat)) (i : Nat) (rq : Rq) : Prop :=
  i < fs.length ∧ rq.buf = rq.buf.getD 0 0 :: downHdr s i (i + 1 = fs.length) :: fs.getD i [] ∧
    rq.rv = (rq.buf.length : Int)

instance (s : Nat) (fs : List (List Nat)) (i : Nat) (rq : Rq) : Decidable (CarriesFrag s fs i rq) := by
  unfold CarriesFrag; infer_instance

/-- the downstream seqno in the header of an answer -/
def seqOf (rq : Rq) : Nat := rq.buf.getD 1 0 / 32 % 8

def BADIP : List Nat := [66, 65, 68, 73, 80]

/-- the answer gets past the filters at the head of `tunnel_dns`: it answers one of our last three queries, the query
name starts with `P`, `p` or one of our user-id characters, there are at least the two header bytes, and it is not the
5-byte message BADIP -/
def Ours (c : Cli) (rq : Rq) : Prop :=
  (rq.name0 = 80 ∨ rq.name0 = 112 ∨ rq.name0 = c.useridChar ∨ rq.name0 = c.useridChar2) ∧
  (rq.id = c.chunkid ∨ rq.id = c.chunkidPrev ∨ rq.id = c.chunkidPrev2) ∧
  2 ≤ rq.rv ∧ ¬ (rq.rv = 5 ∧ rq.buf.take 5 = BADIP)

instance (c : Cli) (rq : Rq) : Decidable (Ours c rq) := by unfold Ours; infer_instance

/-- what an answer in the interleaved list is -/
inductive Kind where
  /-- the next fragment of the image, first copy -/
  | next
  /-- another copy of fragment `j`, which was already fed -/
  | dup (j : Nat)
  /-- a copy of the only fragment of a one-fragment image, after it was delivered -/
  | again
  /-- a header without data for seqno `s` -/
  | dataless
  /-- anything whose downstream seqno is one of the three before the client's current one -/
  | stale
  /-- anything the filters drop: unknown id, 1-byte `x` answer or error, BADIP, a name that is not ours -/
  | filtered
deriving DecidableEq, Repr

/-- the number of fragments fed after an answer of this kind -/
def Kind.adv : Kind → Nat → Nat
  | .next, k => k + 1
  | _, k => k

/-- `Legal s fs c k l`: from client state `c`, with `k` fragments of the image already fed, `l` feeds further fragments
in order, each as an answer that gets past the filters in the state it meets, interleaved with duplicates and junk.
(The state is threaded through because "recent id" is relative to the queries the client has sent by then.) -/
def Legal (s : Nat) (fs : List (List Nat)) : Cli → Nat → List (Kind × Rq) → Prop
  | _, _, [] => True
  | c, k, (kind, rq) :: rest =>
    (match kind with
      | .next => k < fs.length ∧ CarriesFrag s fs k rq ∧ Ours c rq
      | .dup j => j < k ∧ CarriesFrag s fs j rq ∧ (k < fs.length ∨ 2 ≤ fs.length)
      | .again => k = 1 ∧ fs.length = 1 ∧ CarriesFrag s fs 0 rq ∧ Ours c rq
      | .dataless => 1 ≤ k ∧ rq.rv = 2 ∧ seqOf rq = s
      | .stale => (seqOf rq : Int) ≠ c.inpkt.seqno ∧ recentSeqno c.inpkt.seqno (seqOf rq) = true
      | .filtered => ¬ Ours c rq) ∧
    Legal s fs (tunnelDns c rq).1 (kind.adv k) rest

instance decLegal (s : Nat) (fs : List (List Nat)) :
    (c : Cli) → (k : Nat) → (l : List (Kind × Rq)) → Decidable (Legal s fs c k l)
  | _, _, [] => isTrue trivial
  | c, k, (kind, rq) :: rest => by
    have := decLegal s fs (tunnelDns c rq).1 (kind.adv k) rest
    unfold Legal
    cases kind <;> exact inferInstance

/-- what an answer of this kind must make the client write to tun -/
def expect1 (fs : List (List Nat)) (k : Nat) : Kind → List (List Nat)
  | .next => if k + 1 = fs.length then delivery fs.flatten else []
  | .again => delivery fs.flatten
  | _ => []

/-- what must be written to tun, answer by answer -/
def expected (fs : List (List Nat)) : Nat → List (Kind × Rq) → List (List (List Nat))
  | _, [] => []
  | k, x :: rest => expect1 fs k x.1 :: expected fs (x.1.adv k) rest

/-- the client has not seen seqno `s` recently: it is neither its current downstream seqno nor one of the three before -/
def Unseen (c : Cli) (s : Nat) : Prop := c.inpkt.seqno ≠ (s : Int) ∧ recentSeqno c.inpkt.seqno (s : Int) = false

instance (c : Cli) (s : Nat) : Decidable (Unseen c s) := by unfold Unseen; infer_instance

theorem tunWrites_eq (evs : List CEvent) : tunWrites evs = C01L.tunws evs := by
  induction evs with
  | nil => rfl
  | cons e es ih => cases e <;> simp [tunWrites, C01L.tunws, ih]

theorem cut_iff {s : Nat} {fs : List (List Nat)} : Cut s fs ↔ C01L.Cut s fs :=
  ⟨fun h => ⟨h.seq, h.ne, h.le16, h.frag_ne, h.size⟩, fun h => ⟨h.seq, h.ne, h.le16, h.frag_ne, h.size⟩⟩

theorem carries_iff {s : Nat} {fs : List (List Nat)} {i : Nat} {rq : Rq} :
    CarriesFrag s fs i rq ↔ C01L.IsFragRq s fs i rq :=
  ⟨fun h => ⟨h.1, _, h.2.1, h.2.2⟩, fun ⟨h1, b0, h2, h3⟩ => ⟨h1, by rw [h2]; rfl, h3⟩⟩

theorem ours_iff (c : Cli) (rq : Rq) : Ours c rq ↔ C01L.accepted c rq = true := by
  unfold Ours C01L.accepted notData recentId BADIP
  have ha : ascii "BADIP" = [66, 65, 68, 73, 80] := by decide
  rw [ha]
  simp only [Bool.and_eq_true, Bool.not_eq_true', bne_eq_false_iff_eq, decide_eq_false_iff_not, Bool.or_eq_true,
    beq_iff_eq, Bool.and_eq_false_iff]
  constructor
  · rintro ⟨h1, h2, h3, h4⟩
    refine ⟨⟨⟨?_, by omega⟩, h4⟩, ?_⟩
    · rcases h1 with h | h | h | h
      · exact Or.inl (Or.inl (Or.inl h))
      · exact Or.inl (Or.inl (Or.inr h))
      · exact Or.inl (Or.inr h)
      · exact Or.inr h
    · rcases h2 with h | h | h
      · exact Or.inl (Or.inl h)
      · exact Or.inl (Or.inr h)
      · exact Or.inr h
  · rintro ⟨⟨⟨h1, h3⟩, h4⟩, h2⟩
    refine ⟨?_, ?_, by omega, h4⟩
    · rcases h1 with ((h | h) | h) | h
      · exact Or.inl h
      · exact Or.inr (Or.inl h)
      · exact Or.inr (Or.inr (Or.inl h))
      · exact Or.inr (Or.inr (Or.inr h))
    · rcases h2 with (h | h) | h
      · exact Or.inl h
      · exact Or.inr (Or.inl h)
      · exact Or.inr (Or.inr h)

theorem delivery_eq (b : List Nat) : delivery b = C01L.tunws (C01L.frames b) := by
  unfold delivery C01L.frames
  cases uncompress b 65536 <;> rfl

theorem seqOf_eq (rq : Rq) : ((seqOf rq : Nat) : Int) = (decodeHdr rq.buf).dnSeq := rfl

theorem legal_run {s : Nat} {fs : List (List Nat)} (hc : Cut s fs) :
    ∀ (l : List (Kind × Rq)) (c : Cli) (k : Nat), k ≤ fs.length → C01L.RxInv s fs k c.inpkt → Legal s fs c k l →
      (runDns c (l.map (·.2))).map tunWrites = expected fs k l := by
  have hc' := cut_iff.mp hc
  intro l
  induction l with
  | nil => intro c k _ _ _; rfl
  | cons x rest ih =>
    intro c k hk hinv hl
    obtain ⟨kind, rq⟩ := x
    obtain ⟨hkind, hrest⟩ := hl
    obtain ⟨hp, he⟩ := C01L.tunnelDns_rx c rq
    simp only [List.map_cons, runDns, expected]
    rw [tunWrites_eq, he]
    suffices h : C01L.tunws (C01L.rxStep c.inpkt (C01L.accepted c rq) rq).2 = expect1 fs k kind ∧
        kind.adv k ≤ fs.length ∧ C01L.RxInv s fs (kind.adv k) (C01L.rxStep c.inpkt (C01L.accepted c rq) rq).1 by
      rw [h.1, ih _ _ h.2.1 (by rw [hp]; exact h.2.2) hrest]
    -- an answer that is dropped, or accepted and then ignored by the reassembler
    have noop : (C01L.accepted c rq = true → C01L.rxStep c.inpkt true rq = (c.inpkt, [])) →
        C01L.tunws (C01L.rxStep c.inpkt (C01L.accepted c rq) rq).2 = [] ∧ k ≤ fs.length ∧
        C01L.RxInv s fs k (C01L.rxStep c.inpkt (C01L.accepted c rq) rq).1 := by
      intro h
      cases hacc : C01L.accepted c rq
      · exact ⟨rfl, hk, hinv⟩
      · rw [h hacc]; exact ⟨rfl, hk, hinv⟩
    cases kind with
    | next =>
      obtain ⟨hlt, hcar, hours⟩ := hkind
      rw [(ours_iff c rq).mp hours]
      obtain ⟨h1, h2⟩ := C01L.rxStep_next hc' hlt hinv (carries_iff.mp hcar)
      refine ⟨?_, hlt, h2⟩
      rw [h1]; unfold expect1
      split
      · exact (delivery_eq _).symm
      · rfl
    | dup j =>
      obtain ⟨hj, hcar, h2⟩ := hkind
      exact noop fun _ => C01L.rxStep_dup hc' hk hj h2 hinv (carries_iff.mp hcar)
    | again =>
      obtain ⟨hk1, hl1, hcar, hours⟩ := hkind
      subst hk1
      rw [(ours_iff c rq).mp hours]
      obtain ⟨h1, h2⟩ := C01L.rxStep_single_again hc' hl1 hinv (carries_iff.mp hcar)
      exact ⟨by rw [h1]; exact (delivery_eq _).symm, hk, h2⟩
    | dataless =>
      obtain ⟨hk1, hrv, hseq⟩ := hkind
      have hsq : (decodeHdr rq.buf).dnSeq = c.inpkt.seqno := by
        unfold C01L.RxInv at hinv
        rw [if_neg (by omega)] at hinv
        rw [hinv.1, ← hseq]; rfl
      exact noop fun _ => C01L.rxStep_dataless _ _ hsq (by omega)
    | stale => exact noop fun _ => C01L.rxStep_stale _ _ hkind.1 hkind.2
    | filtered => exact noop fun h => absurd ((ours_iff c rq).mpr h) hkind

/-- **client_reassembly_exact** (general form; the name carries `_partial` because "exactly ONE `tunw`" is false for a
one-fragment image: every further copy of its only fragment is delivered again — kind `again`, see
the finding "single fragment re-delivered" below for the concrete run).

From ANY client state that has not seen downstream seqno `s` recently, feeding the fragments of the image in order —
each as an answer to one of the last three queries — interleaved with arbitrarily many duplicates of fragments already
fed, header-only answers for `s`, stale answers, answers with unknown ids, 1-byte answers, BADIP and foreign names,
makes `tunnel_dns` write to the tun device exactly: `delivery img` (the frame made from `uncompress img`, i.e. the
bytes handed to `uncompress` are exactly `img`) when the last fragment is processed, the same again for each later
copy of the only fragment of a one-fragment image, and nothing at any other answer. -/
theorem client_reassembly_exact_partial {s : Nat} {fs : List (List Nat)} (hc : Cut s fs) (c : Cli)
    (l : List (Kind × Rq)) (h0 : Unseen c s) (hl : Legal s fs c 0 l) :
    (runDns c (l.map (·.2))).map tunWrites = expected fs 0 l := by
  apply legal_run hc l c 0 (Nat.zero_le _) _ hl
  unfold C01L.RxInv
  rw [if_pos rfl]
  exact h0

/-- number of first copies of fragments in the list -/
def nexts (l : List (Kind × Rq)) : Nat := (l.filter fun x => x.1 = .next).length

theorem expected_flatten (fs : List (List Nat)) :
    ∀ (l : List (Kind × Rq)) (k : Nat), (∀ x ∈ l, x.1 ≠ .again) → k + nexts l = fs.length →
      (expected fs k l).flatten = if k < fs.length then delivery fs.flatten else [] := by
  intro l
  induction l with
  | nil =>
    intro k _ h
    simp only [nexts, List.filter_nil, List.length_nil, Nat.add_zero] at h
    simp [expected, h]
  | cons x rest ih =>
    intro k hno h
    obtain ⟨kind, rq⟩ := x
    have hno' : ∀ x ∈ rest, x.1 ≠ .again := fun x hx => hno x (List.mem_cons_of_mem _ hx)
    have hk := hno (kind, rq) (List.mem_cons_self ..)
    simp only [expected, List.flatten_cons]
    cases kind with
    | next =>
      have h' : (k + 1) + nexts rest = fs.length := by
        simp only [nexts, List.filter_cons, decide_true, if_true, List.length_cons] at h
        unfold nexts; omega
      simp only [expect1, Kind.adv]
      rw [ih (k + 1) hno' h']
      by_cases he : k + 1 = fs.length
      · rw [if_pos he, if_neg (by omega), if_pos (by omega), List.append_nil]
      · rw [if_neg he, if_pos (by omega), if_pos (by omega), List.nil_append]
    | again => exact absurd rfl hk
    | dup | dataless | stale | filtered =>
      have h' : k + nexts rest = fs.length := by
        simpa [nexts, List.filter_cons] using h
      simpa [expect1, Kind.adv] using ih k hno' h'

/-- **client_reassembly_exact**: when every fragment is fed and no copy of the only fragment of a one-fragment image
follows its delivery (always the case for images of at least two fragments), the whole run writes to tun exactly once:
the frame of `uncompress img` — and by `client_reassembly_exact_partial` it does so when the last fragment is
processed. -/
theorem client_reassembly_exact {s : Nat} {fs : List (List Nat)} (hc : Cut s fs) (c : Cli)
    (l : List (Kind × Rq)) (h0 : Unseen c s) (hl : Legal s fs c 0 l)
    (hno : ∀ x ∈ l, x.1 ≠ .again) (hall : nexts l = fs.length) :
    ((runDns c (l.map (·.2))).map tunWrites).flatten = delivery fs.flatten := by
  rw [client_reassembly_exact_partial hc c l h0 hl, expected_flatten fs l 0 hno (by omega),
    if_pos (Nat.pos_of_ne_zero (fun h => hc.ne (List.length_eq_zero_iff.mp h)))]

theorem no_again_of_two {s : Nat} {fs : List (List Nat)} (h2 : 2 ≤ fs.length) :
    ∀ (l : List (Kind × Rq)) (c : Cli) (k : Nat), Legal s fs c k l → ∀ x ∈ l, x.1 ≠ .again := by
  intro l
  induction l with
  | nil => intro c k _ x hx; cases hx
  | cons y rest ih =>
    intro c k hl x hx
    obtain ⟨kind, rq⟩ := y
    obtain ⟨hkind, hrest⟩ := hl
    rcases List.mem_cons.mp hx with rfl | hx
    · intro hk
      simp only at hk
      subst hk
      have := hkind.2.1
      omega
    · exact ih _ _ hrest x hx

namespace Ex

/-- a client in the tunnel phase: user 3, topdomain `t.ex`, NULL queries, immediate mode, downstream seqno 0 -/
def c0 : Cli :=
  { clientInit { Cli.boot with topdomain := [116, 46, 101, 120], doQtype := 10, userid := 3, useridChar := 51,
                               useridChar2 := 51, selecttimeout := 4 } 7 1000 with sendcnt := 0 }

/-- an answer to the query the client sent last, to a data query name (`3…`) -/
def ans (c : Cli) (buf : List Nat) : Rq := ⟨buf.length, c.chunkid, 10, 0, 51, buf⟩

/-- the list of answers along a run: every answer answers the client's latest query -/
def feed : Cli → List (Kind × List Nat) → List (Kind × Rq)
  | _, [] => []
  | c, (k, buf) :: rest => (k, ans c buf) :: feed (tunnelDns c (ans c buf)).1 rest

/-- the compressed image of the 8-byte "packet" 00 00 08 00 45 01 02 03, cut into three fragments -/
def fs : List (List Nat) := [[0x5a, 0, 0], [8, 0, 69], [1, 2, 3]]

/-- the three fragments of downstream packet 1 in order, with duplicates, a 1-byte answer, a header-only answer and a
stale answer (seqno 0) in between and a duplicate of the last fragment at the end -/
def l : List (Kind × Rq) := feed c0
  [(.next, [0, downHdr 1 0 false, 0x5a, 0, 0]),
   (.dup 0, [0, downHdr 1 0 false, 0x5a, 0, 0]),
   (.filtered, [120]),
   (.next, [0, downHdr 1 1 false, 8, 0, 69]),
   (.dataless, [0, downHdr 1 1 false]),
   (.stale, [0, downHdr 0 0 true, 9, 9]),
   (.dup 0, [0, downHdr 1 0 false, 0x5a, 0, 0]),
   (.next, [0, downHdr 1 2 true, 1, 2, 3]),
   (.dup 2, [0, downHdr 1 2 true, 1, 2, 3])]

/-- a one-fragment image, fed twice -/
def l1 : List (Kind × Rq) := feed c0
  [(.next, [0, downHdr 1 0 true, 0x5a, 0, 0, 8, 0, 69]), (.again, [0, downHdr 1 0 true, 0x5a, 0, 0, 8, 0, 69])]

end Ex

/-- The client runs of the examples, evaluated once (in the order of the examples that use them). -/
theorem Ex.evaluated :
    (Legal 1 Ex.fs Ex.c0 0 Ex.l ∧ (∀ x ∈ Ex.l, x.1 ≠ .again) ∧ nexts Ex.l = Ex.fs.length ∧
     (runDns Ex.c0 (Ex.l.map (·.2))).map tunWrites = [[], [], [], [], [], [], [], [[0, 0, 8, 0, 69, 1, 2, 3]], []]) ∧
    (Legal 1 [[0x5a, 0, 0, 8, 0, 69]] Ex.c0 0 Ex.l1 ∧
     (runDns Ex.c0 (Ex.l1.map (·.2))).map tunWrites = [[[0, 0, 8, 0, 69]], [[0, 0, 8, 0, 69]]]) ∧
    (runDns Ex.c0 ((Ex.feed Ex.c0 [(.dataless, [0, downHdr 1 2 false]), (.next, [0, downHdr 1 0 false, 0x5a, 0, 0]),
        (.next, [0, downHdr 1 1 false, 8, 0, 69]), (.next, [0, downHdr 1 2 true, 1, 2, 3])]).map (·.2))).map tunWrites
      = [[], [], [], []] ∧
    (runDns Ex.c0 ((Ex.feed Ex.c0 [(.next, [0, downHdr 1 1 false, 0x5a, 9, 9]),
        (.next, [0, downHdr 1 2 true, 9, 9, 9])]).map (·.2))).map tunWrites = [[], [[0, 0, 8, 0, 9]]] ∧
    (runDns Ex.c0 ((Ex.feed Ex.c0 (((List.range 16).map fun i => (Kind.next, [0, downHdr 1 i false, 0x5a])) ++
        [(Kind.next, [0, downHdr 1 0 true, 0x5a])])).map (·.2))).map tunWrites = List.replicate 17 [] := by
  decide +kernel

/-- non-vacuity of `client_reassembly_exact(_partial)`: the hypotheses hold for the run `Ex.l`, and the one frame is
written when the third fragment is processed -/
example : Cut 1 Ex.fs ∧ Unseen Ex.c0 1 ∧ Legal 1 Ex.fs Ex.c0 0 Ex.l ∧ (∀ x ∈ Ex.l, x.1 ≠ .again) ∧
    nexts Ex.l = Ex.fs.length ∧
    (runDns Ex.c0 (Ex.l.map (·.2))).map tunWrites = [[], [], [], [], [], [], [], [[0, 0, 8, 0, 69, 1, 2, 3]], []] := by
  obtain ⟨h1, h2, h3, h4⟩ := Ex.evaluated.1
  exact ⟨⟨by decide, by decide, by decide, by decide, by decide⟩, by decide, h1, h2, h3, h4⟩

/-- **Finding (single fragment re-delivered)**: "exactly ONE `tunw`" is false for a packet that fits into one
fragment.  After its delivery `inpkt.fragment = 0 ∧ inpkt.len = 0`, which is the "weird situation" test of
`tunnel_dns`; a duplicate of the fragment (a relay repeating the answer, or the server re-sending it because the ack was
lost) is taken as new data and the packet is written to tun a second time.  (A repeat, not a fabrication: C01 allows
it.) -/
example : Cut 1 [[0x5a, 0, 0, 8, 0, 69]] ∧ Legal 1 [[0x5a, 0, 0, 8, 0, 69]] Ex.c0 0 Ex.l1 ∧
    (runDns Ex.c0 (Ex.l1.map (·.2))).map tunWrites = [[[0, 0, 8, 0, 69]], [[0, 0, 8, 0, 69]]] := by
  exact ⟨⟨by decide, by decide, by decide, by decide, by decide⟩, Ex.evaluated.2.1⟩

/-- **Finding (in-band BADIP)**: a data answer whose five bytes spell `BADIP` — header bytes 0x42 0x41 (upstream ack
4/2, downstream seqno 2, fragment 0, last) and the 3-byte payload `DIP` — is taken for the server's BADIP message and
dropped; this is why `Ours` excludes it.  (No zlib stream is 3 bytes long, so this cannot hit a real image.) -/
example : CarriesFrag 2 [[68, 73, 80]] 0 (Ex.ans Ex.c0 [66, 65, 68, 73, 80]) ∧ ¬ Ours Ex.c0 (Ex.ans Ex.c0 [66, 65, 68, 73, 80]) ∧
    tunnelDns Ex.c0 (Ex.ans Ex.c0 [66, 65, 68, 73, 80]) = (Ex.c0, [], .ret (-1)) := by
  refine ⟨by decide, by decide, by decide +kernel⟩

/-- **Finding (header-only answer first)**: why `dataless` needs `1 ≤ k`.  A header-only answer that announces the new
seqno with a fragment number other than 0 (the server sends such headers once a packet is completely acknowledged or
given up) and overtakes fragment 0 makes the client adopt that fragment number; the fragments that follow are then all
"duplicates" and the packet is lost (dropped, not corrupted). -/
example :
    (runDns Ex.c0 ((Ex.feed Ex.c0 [(.dataless, [0, downHdr 1 2 false]), (.next, [0, downHdr 1 0 false, 0x5a, 0, 0]),
        (.next, [0, downHdr 1 1 false, 8, 0, 69]), (.next, [0, downHdr 1 2 true, 1, 2, 3])]).map (·.2))).map tunWrites
      = [[], [], [], []] := Ex.evaluated.2.2.1

end ClientSide

section ServerSide
open Iodine.Server Iodine.Gen

/-- the frames written to the tun device among a list of server events -/
def srvTunWrites : List Event → List (List Nat)
  | [] => []
  | .tunw f :: es => f :: srvTunWrites es
  | _ :: es => srvTunWrites es

/-- the state in which the handlers of an iteration run: top of the loop done, `select` returned at `now'` -/
def handlerState (s : Srv) (now' : Nat) : Srv := { (topOfLoop s).1 with now := now' }

/-- the data part of a query name: what is in front of the topdomain (at most 512 characters) -/
def dataPart (e : Srv) (q : Query) : List Nat := q.name.take (min (C16.dlen e.cfg.topdomain q) 512)

/-- value of a Base32 digit -/
def digit32 (c : Nat) : Nat := Codec.b32.rev (c % 256)

/-- the upstream half of the data header, characters 1..3 of the name: `sssff ffddd ddddl` -/
def upSeqOf (n : List Nat) : Nat := digit32 (n.getD 1 0) / 4 % 8
def upFragOf (n : List Nat) : Nat := digit32 (n.getD 1 0) % 4 * 4 + digit32 (n.getD 2 0) / 8 % 4
def lastOf (n : List Nat) : Bool := decide (digit32 (n.getD 3 0) % 2 = 1)

/-- what the name carries under upstream codec `enc`: everything behind the five header characters, dots removed,
decoded -/
def payloadOf (enc : Enc) (n : List Nat) : List Nat := Encoding.unpackData enc.codec 65536 (n.drop 5)

/-- `q` is a data query of the established session `u` that the server has not seen before: it gets past the source
check, and neither the answer cache nor the query memory knows it, nor is it a repeat of a held query (C16) -/
def NewData (e : Srv) (u : Nat) (q : Query) : Prop :=
  C16.Accepted e q u ∧ C16.IsData q.name ∧ dnscacheFind (getUser e u) q DNSCACHE_LEN 0 = none ∧
  ¬ C16.QmemHit e q u ∧ ¬ C16.PendingInQ e q u ∧ ¬ C16.PendingInQs e q u

instance (e : Srv) (u : Nat) (q : Query) : Decidable (NewData e u q) := by unfold NewData; infer_instance

/-- the query carries fragment `i` of the image for upstream seqno `s`: header `(s, i, last = (i = n))`, and the name
decodes to `fᵢ` under the session's codec (for a name built by the client this is C08 `hostname_ok`) -/
def SrvCarries (e : Srv) (u s : Nat) (fs : List (List Nat)) (i : Nat) (q : Query) : Prop :=
  i < fs.length ∧ upSeqOf (dataPart e q) = s ∧ upFragOf (dataPart e q) = i ∧
  lastOf (dataPart e q) = decide (i + 1 = fs.length) ∧
  payloadOf (getUser e u).encoder (dataPart e q) = fs.getD i []

instance (e : Srv) (u s : Nat) (fs : List (List Nat)) (i : Nat) (q : Query) : Decidable (SrvCarries e u s fs i q) := by
  unfold SrvCarries; infer_instance

/-- the sequence bookkeeping refuses the header: current seqno with a fragment number not above the current one (a
duplicate of an earlier fragment), or one of the three seqnos before the current one -/
def Refused (p : Packet) (n : List Nat) : Prop :=
  ((upSeqOf n : Int) = p.seqno ∧ (upFragOf n : Int) ≤ p.fragment) ∨
  ((upSeqOf n : Int) ≠ p.seqno ∧ recentSeqno p.seqno (upSeqOf n) = true)

instance (p : Packet) (n : List Nat) : Decidable (Refused p n) := by unfold Refused; infer_instance

/-- slot `u` cannot be handed out to a new client -/
def Live (e : Srv) (u : Nat) : Prop := (getUser e u).active = true ∧ e.now ≤ (getUser e u).lastPkt + 60

instance (e : Srv) (u : Nat) : Decidable (Live e u) := by unfold Live; infer_instance

/-- an input that has nothing to do with the upstream data of session `u`: timeouts, tun frames, forwarded answers,
raw frames of other users, and queries that are not data queries of `u` (a version handshake only while `u` is live) -/
def Foreign (e : Srv) (u : Nat) : Input → Prop
  | .q q => hexCode ((dataPart e q).getD 0 0) ≠ (u : Int) ∧
      (((dataPart e q).getD 0 0 = 86 ∨ (dataPart e q).getD 0 0 = 118) → Live e u)
  | .rawf _ bytes => (bytes.take 65536).getD 3 0 % 16 ≠ u
  | _ => True

instance (e : Srv) (u : Nat) (inp : Input) : Decidable (Foreign e u inp) := by
  cases inp <;> unfold Foreign <;> infer_instance

/-- what a step of the interleaved run is -/
inductive SKind where
  /-- the data query carrying the next fragment, new to the server -/
  | next
  /-- another query of session `u`: a ping, or a data query whose header is refused (duplicates of earlier fragments) -/
  | own
  /-- anything `Foreign`: other sessions, other inputs -/
  | other
deriving DecidableEq, Repr

def SKind.adv : SKind → Nat → Nat
  | .next, k => k + 1
  | _, k => k

/-- the condition on one step, in the state `e` its handlers run in -/
def SStepOk (u s : Nat) (fs : List (List Nat)) (e : Srv) (k : Nat) (kind : SKind) (inp : Input) : Prop :=
  match kind, inp with
  | .next, .q q => k < fs.length ∧ NewData e u q ∧ SrvCarries e u s fs k q
  | .own, .q q =>
      ((dataPart e q).getD 0 0 = 80 ∨ (dataPart e q).getD 0 0 = 112) ∨
      (hexCode ((dataPart e q).getD 0 0) = (u : Int) ∧ Refused (getUser e u).inpacket (dataPart e q))
  | .other, inp => Foreign e u inp
  | _, _ => False

instance (u s : Nat) (fs : List (List Nat)) (e : Srv) (k : Nat) (kind : SKind) (inp : Input) :
    Decidable (SStepOk u s fs e k kind inp) := by
  unfold SStepOk; cases kind <;> cases inp <;> infer_instance

/-- `SLegal u s fs sv k l`: from server state `sv`, with `k` fragments of the image already taken for session `u`, the
iterations `l` feed further fragments in order, interleaved with other traffic -/
def SLegal (u s : Nat) (fs : List (List Nat)) : Srv → Nat → List (SKind × Step) → Prop
  | _, _, [] => True
  | sv, k, (kind, st) :: rest =>
    SStepOk u s fs (handlerState sv st.now) k kind st.inp ∧ SLegal u s fs (next sv st) (kind.adv k) rest

instance decSLegal (u s : Nat) (fs : List (List Nat)) :
    (sv : Srv) → (k : Nat) → (l : List (SKind × Step)) → Decidable (SLegal u s fs sv k l)
  | _, _, [] => isTrue trivial
  | sv, k, (kind, st) :: rest => by
    have := decSLegal u s fs (next sv st) (kind.adv k) rest
    unfold SLegal
    exact inferInstance

/-- What `handle_full_packet` must write to tun for the compressed image `img`: the decompressed packet with the tun
header rewritten, if it decompresses to at least an IP header and its destination is not another client (then the
packet is handed to that client instead, see `server_handoff_unchanged`). -/
def srvDelivery (e : Srv) (img : List Nat) : List (List Nat) :=
  match Server.uncompress img 65536 with
  | some out =>
    if 24 ≤ out.length then (if (findUserByIp e (ipDst out)).isNone then [[0, 0, 8, 0] ++ out.drop 4] else [])
    else []
  | none => []

/-- what one step must write to tun: the `next` and `own` steps exactly the delivery of the image at the step of the last
fragment; the `other` steps (which may legitimately deliver packets of other sessions) are not constrained -/
def SStepOut (fs : List (List Nat)) (e : Srv) (k : Nat) (kind : SKind) (tw : List (List Nat)) : Prop :=
  match kind with
  | .next => tw = if k + 1 = fs.length then srvDelivery e fs.flatten else []
  | .own => tw = []
  | .other => True

/-- the conclusion, step by step -/
def SOutcome (u s : Nat) (fs : List (List Nat)) : Srv → Nat → List (SKind × Step) → Prop
  | _, _, [] => True
  | sv, k, (kind, st) :: rest =>
    SStepOut fs (handlerState sv st.now) k kind (srvTunWrites (out sv st)) ∧
    SOutcome u s fs (next sv st) (kind.adv k) rest

/-- What must happen to a completed upstream packet with compressed image `img` in server state `s`: dropped if it does
not decompress to at least an IP header; otherwise written to tun (frame of the DECOMPRESSED packet), or — when the
destination address belongs to a client `t` — the still compressed image `img` itself, unchanged, is handed to `t`
(`deliverToUser`: started as `t`'s outpacket, appended to `t`'s outpacket queue, or sent to `t` as a raw frame). -/
def handOn (s : Srv) (img : List Nat) : Res :=
  match Server.uncompress img 65536 with
  | some out =>
    if 24 ≤ out.length then
      match findUserByIp s (ipDst out) with
      | none => (s, [Event.tunw ([0, 0, 8, 0] ++ out.drop 4)])
      | some t => deliverToUser s t img img.length
    else (s, [])
  | none => (s, [])

/-- the handler phase `dispatch e inp ts` called `handle_full_packet(u)` once, in a state `s2` that differs from `e` only
in slot `u` and in which `u`'s buffer holds exactly `img`; what it emitted is the events of `handOn s2 img` followed by
events that write nothing to tun -/
def HandedOn (e : Srv) (u : Nat) (img : List Nat) (inp : Input) (ts : Bool) : Prop :=
  ∃ (s2 : Srv) (tail : Res), (∀ v, v ≠ u → getUser s2 v = getUser e v) ∧
    (∀ ip, findUserByIp s2 ip = findUserByIp e ip) ∧
    (getUser s2 u).inpacket.data.take (getUser s2 u).inpacket.len = img ∧
    dispatch e inp ts = (tail.1, (handOn s2 img).2 ++ tail.2) ∧ srvTunWrites tail.2 = []

/-- at the step of the last fragment the packet is handed on -/
def SHanded (u s : Nat) (fs : List (List Nat)) : Srv → Nat → List (SKind × Step) → Prop
  | _, _, [] => True
  | sv, k, (kind, st) :: rest =>
    (kind = .next → k + 1 = fs.length → HandedOn (handlerState sv st.now) u fs.flatten st.inp (topOfLoop sv).2.2) ∧
    SHanded u s fs (next sv st) (kind.adv k) rest

/-- session `u` has not seen upstream seqno `s` recently -/
def SrvUnseen (sv : Srv) (u s : Nat) : Prop :=
  (getUser sv u).inpacket.seqno ≠ (s : Int) ∧ recentSeqno (getUser sv u).inpacket.seqno (s : Int) = false

instance (sv : Srv) (u s : Nat) : Decidable (SrvUnseen sv u s) := by unfold SrvUnseen; infer_instance

theorem srvTunWrites_eq (evs : List Event) : srvTunWrites evs = C01L.stunws evs := by
  induction evs with
  | nil => rfl
  | cons e es ih => cases e <;> simp [srvTunWrites, C01L.stunws, ih]

theorem handlerState_eq (s : Srv) (now' : Nat) : handlerState s now' = C03L.entry s now' := rfl

theorem dataPart_eq (e : Srv) (q : Query) : dataPart e q = C01L.inbOfQ e q := rfl

theorem upHdr_eq (n : List Nat) : C01L.upHdr n = (upSeqOf n, upFragOf n, lastOf n) := by
  have h1 : ∀ b : Nat, (b >>> 2) &&& 7 = b / 4 % 8 := by
    intro b
    rw [Nat.shiftRight_eq_div_pow, show (7 : Nat) = 2 ^ 3 - 1 from rfl, Nat.and_two_pow_sub_one_eq_mod]
  have h2 : ∀ b1 b2 : Nat, ((b1 &&& 3) <<< 2 ||| (b2 >>> 3 &&& 3)) = b1 % 4 * 4 + b2 / 8 % 4 := by
    intro b1 b2
    rw [show (3 : Nat) = 2 ^ 2 - 1 from rfl, Nat.and_two_pow_sub_one_eq_mod, Nat.and_two_pow_sub_one_eq_mod,
      ← Nat.shiftLeft_add_eq_or_of_lt (Nat.mod_lt _ (by decide)), Nat.shiftLeft_eq, Nat.shiftRight_eq_div_pow]
  have h3 : ∀ b : Nat, decide ((b &&& 1) = 1) = decide (b % 2 = 1) := by
    intro b
    rw [show (1 : Nat) = 2 ^ 1 - 1 from rfl, Nat.and_two_pow_sub_one_eq_mod]
  unfold C01L.upHdr upSeqOf upFragOf lastOf digit32 b32_8to5
  rw [h1, h3, h2]

theorem refused_iff (p : Packet) (n : List Nat) :
    Refused p n ↔ C01L.OldUp p (C01L.upHdr n).1 (C01L.upHdr n).2.1 := by
  rw [upHdr_eq]; exact Iff.rfl

theorem srvDelivery_eq (e : Srv) (img : List Nat) : srvDelivery e img = C01L.fullTun e img := by
  unfold srvDelivery C01L.fullTun
  cases Server.uncompress img 65536 with
  | none => rfl
  | some out =>
    dsimp only
    cases findUserByIp e (ipDst out) <;> rfl

theorem not_alloc_of_live {e : Srv} {u : Nat} (h : Live e u) : (findAvailableUser e).1 ≠ some u := by
  intro ha
  obtain ⟨_, hr, _⟩ := (C04L.findAvailableUser_some_iff e u).mp ha
  obtain ⟨h1, h2⟩ := h
  rcases hr.1 with h | h
  · rw [h1] at h; cases h
  · omega

theorem slegal_run {u s : Nat} {fs : List (List Nat)} (hc : Cut s fs) :
    ∀ (l : List (SKind × Step)) (sv : Srv) (k : Nat), k ≤ fs.length →
      C01L.SxInv s fs k (getUser sv u).inpacket → SLegal u s fs sv k l →
      SOutcome u s fs sv k l ∧ SHanded u s fs sv k l := by
  have hc' := cut_iff.mp hc
  intro l
  induction l with
  | nil => intro _ _ _ _ _; exact ⟨trivial, trivial⟩
  | cons x rest ih =>
    intro sv k hk hinv hl
    obtain ⟨kind, st⟩ := x
    obtain ⟨hstep, hrest⟩ := hl
    have hin : (getUser (handlerState sv st.now) u).inpacket = (getUser sv u).inpacket := C01L.entry_in sv st.now u
    have htw := C01L.out_tunws sv st
    have hnx := C01L.next_in sv st u
    rw [← handlerState_eq] at htw hnx
    suffices h : SStepOut fs (handlerState sv st.now) k kind (srvTunWrites (out sv st)) ∧
        (kind = .next → k + 1 = fs.length →
          HandedOn (handlerState sv st.now) u fs.flatten st.inp (topOfLoop sv).2.2) ∧
        kind.adv k ≤ fs.length ∧
        C01L.SxInv s fs (kind.adv k) (getUser (next sv st) u).inpacket from
      ⟨⟨h.1, (ih _ _ h.2.2.1 h.2.2.2 hrest).1⟩, ⟨h.2.1, (ih _ _ h.2.2.1 h.2.2.2 hrest).2⟩⟩
    clear hrest ih
    rw [srvTunWrites_eq, htw, hnx]
    clear htw hnx
    generalize hinp : st.inp = inp at hstep ⊢
    cases kind with
    | next =>
      cases inp with
      | q q => ?_
      | _ => exact hstep.elim
      obtain ⟨hlt, ⟨ha, hd, hcm, hqm, hp, hps⟩, ⟨_, c1, c2, c3, c4⟩⟩ := hstep
      obtain ⟨hdisp, hu⟩ := C01L.dispatch_newData (topOfLoop sv).2.2 ha hd hcm hqm hp hps
      obtain ⟨a, _, c⟩ := C01L.dataFresh_sx (handlerState sv st.now) u q (C01L.inbOfQ (handlerState sv st.now) q) hu ha.1
      rw [hdisp, a, c, ← dataPart_eq, upHdr_eq]
      unfold SStepOut
      dsimp only
      rw [c1, c2, c3]
      unfold payloadOf at c4
      rw [c4, hin]
      obtain ⟨s1, s2⟩ := C01L.sxStep_next hc' hlt hinv
      refine ⟨?_, ?_, hlt, s2⟩
      rotate_left
      · intro _ hlast
        have hup := upHdr_eq (dataPart (handlerState sv st.now) q)
        rw [c1, c2, c3, hlast] at hup
        simp only [decide_true] at hup
        obtain ⟨s2', tail, g1, g2, g3, g4, g5⟩ := C01L.final_handoff hc' (topOfLoop sv).2.2 hlast
          (by rw [hin]; exact hinv) hdisp hu ha.1 hup c4
        exact ⟨s2', tail, g1, g2, g3, g4, by rw [srvTunWrites_eq]; exact g5⟩
      rw [s1]
      by_cases hl : k + 1 = fs.length
      · rw [if_pos hl, if_pos hl]; exact (srvDelivery_eq _ _).symm
      · rw [if_neg hl, if_neg hl]
    | own =>
      cases inp with
      | q q => ?_
      | _ => exact hstep.elim
      rcases hstep with h | ⟨h1, h2⟩
      · have hi := C01L.own_ping (handlerState sv st.now) q (topOfLoop sv).2.2 h
        rw [hi.same.eq u, hin]
        exact ⟨hi.quiet, (fun h => nomatch h), hk, hinv⟩
      · obtain ⟨a, b⟩ := C01L.own_old (handlerState sv st.now) q (topOfLoop sv).2.2 u h1 ((refused_iff _ _).mp h2)
        rw [a, hin]
        exact ⟨b, (fun h => nomatch h), hk, hinv⟩
    | other =>
      refine ⟨trivial, (fun h => nomatch h), hk, ?_⟩
      show C01L.SxInv s fs k _
      cases inp with
      | q q =>
        obtain ⟨h1, h2⟩ := hstep
        rw [C01L.keep_q _ q _ u h1 (fun hv => not_alloc_of_live (h2 hv)), hin]; exact hinv
      | rawf src bytes =>
        have h : (bytes.take 65536).getD 3 0 &&& RAW_HDR_USR_MASK ≠ u := by
          have : (bytes.take 65536).getD 3 0 &&& RAW_HDR_USR_MASK = (bytes.take 65536).getD 3 0 % 16 :=
            Nat.and_two_pow_sub_one_eq_mod _ 4
          rw [this]; exact hstep
        rw [C01L.keep_raw _ src bytes _ u h, hin]; exact hinv
      | tun | bind | tick => rw [C01L.keep_quiet _ _ _ u trivial, hin]; exact hinv

/-- **server_reassembly_exact**.  For session `u` that has not seen upstream seqno `s` recently: the data queries
carrying the fragments `(s, i, last = (i = n))` of the image in order — each new to the server and accepted for the
established session `u`, its name decoding to `fᵢ` under the session's codec — interleaved with duplicates of earlier
fragments and pings (kind `own`) and with the traffic of other sessions, raw frames of other users, tun frames and
timeouts (kind `other`), make the server write to tun, in the steps that belong to `u`, exactly the delivery of `img` at
the step of the last fragment and nothing else.  `srvDelivery` is `handle_full_packet`'s outcome for a buffer that is
exactly `img` (the frame of `uncompress img` unless it is addressed to another client). -/
theorem server_reassembly_exact {u s : Nat} {fs : List (List Nat)} (hc : Cut s fs) (sv : Srv)
    (l : List (SKind × Step)) (h0 : SrvUnseen sv u s) (hl : SLegal u s fs sv 0 l) :
    SOutcome u s fs sv 0 l := by
  refine (slegal_run hc l sv 0 (Nat.zero_le _) ?_ hl).1
  unfold C01L.SxInv
  rw [if_pos rfl]
  exact h0

/-- **server_handoff_unchanged** (second half of `server_reassembly_exact`): in the same runs, at the step of the last
fragment `handle_full_packet` is called with `inpacket.data[0 .. inpacket.len) = img` and does `handOn`: the packet is
dropped, written to tun decompressed, or handed UNCHANGED — the same bytes `img` — to the client that owns its
destination address. -/
theorem server_handoff_unchanged {u s : Nat} {fs : List (List Nat)} (hc : Cut s fs) (sv : Srv)
    (l : List (SKind × Step)) (h0 : SrvUnseen sv u s) (hl : SLegal u s fs sv 0 l) :
    SHanded u s fs sv 0 l := by
  refine (slegal_run hc l sv 0 (Nat.zero_le _) ?_ hl).2
  unfold C01L.SxInv
  rw [if_pos rfl]
  exact h0

/-! ### the concrete server run used by the examples (server, login and helpers of `C16.Ex`: server 10.0.0.1/27,
topdomain `t.ex`, a client at 192.168.1.5 holding slot 0) -/
namespace SEx

/-- a 24-byte "packet": tun header, IPv4 header with destination 10.9.9.9 (not a client) -/
def frame : List Nat := [0, 0, 8, 0, 0x45, 0, 0, 20, 0, 0, 0, 0, 64, 17, 0, 0, 10, 0, 0, 9, 10, 9, 9, 9]

/-- its compressed image, cut into two fragments -/
def fs : List (List Nat) := [0x5a :: frame.take 9, frame.drop 9]

/-- data query of user 0 with header characters `hdr` (upstream seq/frag, downstream ack, last flag, CMC) -/
def dq (hdr : List Nat) (f : List Nat) (id : Nat) : Step :=
  ⟨.q (C16.Ex.mkq ([48] ++ hdr ++ Codec.encFull Codec.b32 f ++ Server.ascii ".t.ex") id C16.Ex.src1), 1002⟩

/-- handshake and login done -/
def sv : Srv := runFrom C16.Ex.s0 C16.Ex.login

/-- upstream packet 1 in two fragments; in between a copy of the first fragment (with the next data-CMC, as the client
re-sends it), a ping, a timeout and the version handshake of another client; a copy of the last fragment at the end -/
def l : List (SKind × Step) :=
  [(.next, dq [101, 97, 97, 97] (fs.getD 0 []) 500),
   (.own, dq [101, 97, 97, 98] (fs.getD 0 []) 501),
   (.own, ⟨.q (C16.Ex.mkq (C16.Ex.pName 7) 502 C16.Ex.src1), 1002⟩),
   (.other, ⟨.tick, 1003⟩),
   (.other, ⟨.q (C16.Ex.mkq C16.Ex.vName 503 C16.Ex.src2), 1003⟩),
   (.next, dq [101, 105, 98, 99] (fs.getD 1 []) 504),
   (.own, dq [101, 105, 98, 100] (fs.getD 1 []) 505)]

end SEx

/-- The server runs of the examples, evaluated once. -/
theorem SEx.evaluated :
    (SrvUnseen SEx.sv 0 1 ∧ SLegal 0 1 SEx.fs SEx.sv 0 SEx.l ∧
     (traceFrom SEx.sv (SEx.l.map (·.2))).map (fun t => srvTunWrites t.events)
       = [[], [], [], [], [], [[0, 0, 8, 0] ++ SEx.frame.drop 4], []]) ∧
    (traceFrom SEx.sv
      [SEx.dq [101, 97, 97, 97] [0x5a, 1, 2, 3, 4] 500, SEx.dq [101, 113, 98, 99] (List.replicate 20 7) 504]).map
        (fun t => srvTunWrites t.events)
      = [[], [[0, 0, 8, 0] ++ List.replicate 20 7]] ∧
    srvTunWrites (out (runFrom (start C16.Ex.cfg [77]) (C16.Ex.login ++ [SEx.dq [101, 97, 97, 97] [0x5a, 1, 2, 3, 4] 500]))
      (SEx.dq [101, 113, 98, 99] (List.replicate 20 7) 504)) = [[0, 0, 8, 0] ++ List.replicate 20 7] := by
  decide +kernel

/-- non-vacuity of `server_reassembly_exact`: the hypotheses hold for the run `SEx.l`, and the packet is written to tun
at the step of the second fragment, nowhere else -/
example : Cut 1 SEx.fs ∧ SrvUnseen SEx.sv 0 1 ∧ SLegal 0 1 SEx.fs SEx.sv 0 SEx.l ∧
    (traceFrom SEx.sv (SEx.l.map (·.2))).map (fun t => srvTunWrites t.events)
      = [[], [], [], [], [], [[0, 0, 8, 0] ++ SEx.frame.drop 4], []] := by
  obtain ⟨h1, h2, h3⟩ := SEx.evaluated.1
  exact ⟨⟨by decide, by decide, by decide, by decide, by decide⟩, h1, h2, h3⟩

end ServerSide

section Hop
open Iodine.Client

/-- the downstream-ack half of the upstream data header -/
def dnSeqOf (n : List Nat) : Nat := digit32 (n.getD 2 0) % 8
def dnFragOf (n : List Nat) : Nat := digit32 (n.getD 3 0) / 2

/-- what `hop_lossless_up` says about the name `name` and the state `c'` handed to `send_query` -/
def HopOk (c : Cli) (L : Nat) (name : List Nat) (c' : Cli) : Prop :=
      sendChunk c = sendQuery c' name ∧ c'.inpkt = c.inpkt ∧
      c'.outpkt = { c.outpkt with sentlen := c'.outpkt.sentlen } ∧
      1 ≤ c'.outpkt.sentlen ∧ c'.outpkt.sentlen ≤ (outRest c.outpkt).length ∧
      Encoding.legalAux 0 name = true ∧ name.length + 2 ≤ L ∧ (∃ pre, name = pre ++ [46] ++ c.topdomain) ∧
      (let inb := name.take (min (name.length - c.topdomain.length) 512)
       inb.getD 0 0 = c.useridChar ∧
       upSeqOf inb = maskI c.outpkt.seqno 8 ∧ upFragOf inb = maskI c.outpkt.fragment 16 ∧
       lastOf inb = (c'.outpkt.sentlen == c.outpkt.len - c.outpkt.offset) ∧
       dnSeqOf inb = maskI c.inpkt.seqno 8 ∧ dnFragOf inb = maskI c.inpkt.fragment 16 ∧
       Encoding.unpackData c.dataenc.codec 65536 (inb.drop 5) = (outRest c.outpkt).take c'.outpkt.sentlen ∧
       (outRest c.outpkt).take c'.outpkt.sentlen = (c.outpkt.data.drop c.outpkt.offset).take c'.outpkt.sentlen)

/-- the client state `send_chunk` hands to `send_query`: `sentlen` stored, data CMC stepped -/
def chunkSent (c : Cli) : Cli :=
  { c with outpkt := { c.outpkt with sentlen := (C01L.chunkBuilt c).used },
           datacmc := if c.datacmc + 1 ≥ 36 then 0 else c.datacmc + 1 }

/-- `hop_lossless_up` with the witnesses spelled out: the name is `C01L.chunkName c`, the state `chunkSent c` -/
theorem hop_lossless_up_at (c : Cli) (L : Nat) (hmax : c.hostnameMaxlen = (L : Int)) (hL : 100 ≤ L ∧ L ≤ 255)
    (htd : 3 ≤ c.topdomain.length ∧ c.topdomain.length ≤ 128 ∧ c.topdomain.length + 24 ≤ L)
    (hlegal : Encoding.legalAux 0 c.topdomain = true) (huc : c.useridChar ≠ 46)
    (hne : outRest c.outpkt ≠ []) (hbytes : Codec.Bytes (outRest c.outpkt)) :
    HopOk c L (C01L.chunkName c) (chunkSent c) := by
  unfold HopOk chunkSent
  -- C08 for the header `send_chunk` writes
  have hwf : Codec.WF c.dataenc.codec ∧ ∀ ch ∈ c.dataenc.codec.tbl, ch ≠ Encoding.DOT := by
    cases c.dataenc
    · exact ⟨C07.wf_b32, C08.tables_nodot.1⟩
    · exact ⟨C07.wf_b64, C08.tables_nodot.2.1⟩
    · exact ⟨C07.wf_b64u, C08.tables_nodot.2.2.1⟩
    · exact ⟨C07.wf_b128, C08.tables_nodot.2.2.2⟩
  have S : C08.Setting c.dataenc.codec L 5 (chunkHeader c (C01L.chunkLast c)) c.topdomain (outRest c.outpkt) :=
    ⟨hwf.1, hwf.2, hL, ⟨rfl, Or.inr rfl⟩, C01L.chunkHeader_nodot c _ huc, htd, hlegal, hne, hbytes⟩
  have G := C01L.chunkBuilt_ok c L hmax S
  have hlast : C01L.chunkLast c = ((C01L.chunkBuilt c).used == c.outpkt.len - c.outpkt.offset) := rfl
  refine ⟨C01L.sendChunk_eq c, rfl, rfl, G.used.1, G.used.2, G.legal, G.within_L, G.suffix, ?_⟩
  · dsimp only
    unfold C01L.chunkName
    generalize C01L.chunkLast c = la at G hlast ⊢
    generalize C01L.chunkBuilt c = b at G hlast ⊢
    have hext := G.extract
    have hdl5 := G.hdr_lt_datalen
    unfold Encoding.serverExtract at hext
    generalize hdl : (chunkHeader c la ++ b.name).length - c.topdomain.length = dlen at hext hdl5 ⊢
    have hlen := G.wire
    have hmin : min dlen 512 = dlen := by omega
    rw [hmin]
    obtain ⟨h1, h2, h3, h4⟩ := C01L.chunkHeader_read c la b.name
    have hup := C01L.upHdr_take (chunkHeader c la ++ b.name) dlen (by omega)
    rw [h1, upHdr_eq] at hup
    have e1 := congrArg Prod.fst hup
    have e2 := congrArg (fun x => x.2.1) hup
    have e3 := congrArg (fun x => x.2.2) hup
    dsimp only at e1 e2 e3
    refine ⟨?_, e1, e2, ?_, ?_, ?_, hext, ?_⟩
    · rw [Server.getD_take_lt _ _ 0 (by omega)]; exact h4
    · rw [e3]; exact hlast
    · unfold dnSeqOf digit32
      rw [Server.getD_take_lt _ _ 2 (by omega), ← h2]
      show _ = Server.b32_8to5 _ &&& (2 ^ 3 - 1)
      rw [Nat.and_two_pow_sub_one_eq_mod]; rfl
    · unfold dnFragOf digit32
      rw [Server.getD_take_lt _ _ 3 (by omega), ← h3, Nat.shiftRight_eq_div_pow]; rfl
    · unfold outRest
      rw [List.drop_take, List.take_take]
      congr 1
      have := G.used.2
      unfold outRest at this
      rw [List.length_drop, List.length_take] at this
      omega

/-- **hop_lossless_up**.  For a client with a packet in flight (`outRest` = `outpkt.data[offset .. len)` not empty),
a hostname limit 100..255 and a legal tunnel domain: `send_chunk` sends a query whose name is a legal host name within
the limit, ending in the tunnel domain (C08), and from whose data part `inb` (what `handle_null_request` copies: the
characters in front of the domain, found by `query_datalen`: C17) the server reads back EXACTLY
* the user-id character,
* the header fields `(seqno & 7, fragment & 15, last)` of `outpkt` and the ack fields `(seqno & 7, fragment & 15)` of
  `inpkt` — for ALL values of these fields (round trip of the three Base32 characters of `chunkHeader` through the
  `b32_8to5` shifts and masks of the data handler),
* and, under the same codec, the bytes `outpkt.data[offset .. offset + sentlen)`: what `dataStore` appends is what
  the client took out of its buffer, and `sentlen ≥ 1`, so every acknowledged fragment makes progress. -/
theorem hop_lossless_up (c : Cli) (L : Nat) (hmax : c.hostnameMaxlen = (L : Int)) (hL : 100 ≤ L ∧ L ≤ 255)
    (htd : 3 ≤ c.topdomain.length ∧ c.topdomain.length ≤ 128 ∧ c.topdomain.length + 24 ≤ L)
    (hlegal : Encoding.legalAux 0 c.topdomain = true) (huc : c.useridChar ≠ 46)
    (hne : outRest c.outpkt ≠ []) (hbytes : Codec.Bytes (outRest c.outpkt)) :
    ∃ (name : List Nat) (c' : Cli),
      sendChunk c = sendQuery c' name ∧ c'.inpkt = c.inpkt ∧
      c'.outpkt = { c.outpkt with sentlen := c'.outpkt.sentlen } ∧
      1 ≤ c'.outpkt.sentlen ∧ c'.outpkt.sentlen ≤ (outRest c.outpkt).length ∧
      Encoding.legalAux 0 name = true ∧ name.length + 2 ≤ L ∧ (∃ pre, name = pre ++ [46] ++ c.topdomain) ∧
      (let inb := name.take (min (name.length - c.topdomain.length) 512)
       inb.getD 0 0 = c.useridChar ∧
       upSeqOf inb = maskI c.outpkt.seqno 8 ∧ upFragOf inb = maskI c.outpkt.fragment 16 ∧
       lastOf inb = (c'.outpkt.sentlen == c.outpkt.len - c.outpkt.offset) ∧
       dnSeqOf inb = maskI c.inpkt.seqno 8 ∧ dnFragOf inb = maskI c.inpkt.fragment 16 ∧
       Encoding.unpackData c.dataenc.codec 65536 (inb.drop 5) = (outRest c.outpkt).take c'.outpkt.sentlen ∧
       (outRest c.outpkt).take c'.outpkt.sentlen = (c.outpkt.data.drop c.outpkt.offset).take c'.outpkt.sentlen) := by
  exact ⟨_, _, hop_lossless_up_at c L hmax hL htd hlegal huc hne hbytes⟩

/-- a client with the 9-byte image of `Ex.fs` as `outpkt` (upstream seqno 1, nothing sent yet), hostname limit 255 -/
def Ex.c1 : Cli := { Ex.c0 with outpkt := ⟨9, 0, 0, [0x5a, 0, 0, 8, 0, 69, 1, 2, 3], 1, 0⟩, hostnameMaxlen := 255 }

/-- non-vacuity of `hop_lossless_up`: the hypotheses hold for `Ex.c1`; the name `send_chunk` builds is
`3eabaliaaacaaiuaqeay.t.ex`, and the server reads from it seqno 1, fragment 0, last, and the nine bytes -/
example : Ex.c1.hostnameMaxlen = ((255 : Nat) : Int) ∧ Encoding.legalAux 0 Ex.c1.topdomain = true ∧
    Ex.c1.useridChar ≠ 46 ∧ outRest Ex.c1.outpkt ≠ [] ∧ (∀ b ∈ outRest Ex.c1.outpkt, b < 256) ∧
    (let name := C01L.chunkName Ex.c1
     let inb := name.take (min (name.length - Ex.c1.topdomain.length) 512)
     (sendChunk Ex.c1).evs = [.query 8727 10 name] ∧
     (upSeqOf inb, upFragOf inb, lastOf inb) = (1, 0, true) ∧
     Encoding.unpackData Codec.b32 65536 (inb.drop 5) = [0x5a, 0, 0, 8, 0, 69, 1, 2, 3]) := by decide +kernel

end Hop

section HostileClient
open Iodine.Client

/-- fragment number and payload of a received answer (`seqOf` is its downstream seqno) -/
def fragOf (rq : Rq) : Nat := rq.buf.getD 1 0 / 2 % 16
def payloadOfAns (rq : Rq) : List Nat := (rq.buf.take rq.rv.toNat).drop 2

/-- data answers (more than the two header bytes) with one downstream seqno and fragment numbers rising by exactly 1 -/
def Consecutive : List Rq → Prop
  | [] => True
  | [r] => r.rv > 2
  | r :: r' :: rest => r.rv > 2 ∧ seqOf r' = seqOf r ∧ fragOf r' = fragOf r + 1 ∧ Consecutive (r' :: rest)

/-- the payloads in order, cut at the size of the reassembly buffer -/
def joined (l : List Rq) : List Nat := ((l.map payloadOfAns).flatten).take 65536

/-- the answers among the inputs -/
def answersOf : List CInput → List Rq
  | [] => []
  | .rq q :: rest => q :: answersOf rest
  | _ :: rest => answersOf rest

/-- the state of the client thread after the inputs -/
def cafter (st : CState) (ins : List CInput) : CState := ins.foldl (fun s i => (cstep s i).1) st

/-- `FromReceived ins f`: the frame `f`, written to tun at the last of the inputs `ins`, is `uncompress` of: the payloads,
in arrival order, of a chain of answers received so far (one seqno, consecutive fragment numbers) that ends in the answer
of this step — or, in raw mode, the body of the datagram of this step -/
def FromReceived (ins : List CInput) (f : List Nat) : Prop :=
  (∃ (l : List Rq) (q : Rq), ins.getLast? = some (.rq q) ∧ l.Sublist (answersOf ins) ∧ Consecutive l ∧
      l.getLast? = some q ∧ l.length ≤ 16 ∧ f ∈ delivery (joined l)) ∨
  (∃ b, ins.getLast? = some (.rawans b) ∧ f ∈ delivery ((b.take 65536).drop 4))

theorem consecutive_iff : ∀ l : List Rq, Consecutive l ↔ C01L.RChain l
  | [] => Iff.rfl
  | [_] => Iff.rfl
  | r :: r' :: rest => by
    unfold Consecutive Chain
    rw [consecutive_iff (r' :: rest)]
    exact Iff.rfl

theorem joined_eq (l : List Rq) : joined l = C01L.rjoin l := rfl

theorem answersOf_append (a b : List CInput) : answersOf (a ++ b) = answersOf a ++ answersOf b := by
  induction a with
  | nil => rfl
  | cons x xs ih => cases x <;> simp [answersOf, ih]

theorem answersOf_single (inp : CInput) : answersOf [inp] = C01L.rqOf inp := by
  cases inp <;> rfl

theorem consecutive_le16 (l : List Rq) (h : Consecutive l) : l.length ≤ 16 :=
  Chain.le16 (fun _ _ h => by omega) C01L.rqFrag_lt l ((consecutive_iff l).mp h)

theorem corigins_at : ∀ (pre : List CInput) (inp : CInput) (st : CState) (seen : List Rq),
    C01L.COrigins seen st (pre ++ [inp]) →
    C01L.COrigin (seen ++ answersOf pre) inp (cstep (cafter st pre) inp).2.1 := by
  intro pre
  induction pre with
  | nil => intro inp st seen h; simpa [answersOf, cafter] using h.1
  | cons x xs ih =>
    intro inp st seen h
    have := ih inp (cstep st x).1 (seen ++ C01L.rqOf x) h.2
    have e : seen ++ answersOf (x :: xs) = seen ++ C01L.rqOf x ++ answersOf xs := by
      rw [show x :: xs = [x] ++ xs from rfl, answersOf_append, answersOf_single, List.append_assoc]
    rw [e]
    exact this

/-- **delivered_is_concat_of_received_fragments** (client).  In EVERY run of the client thread — any inputs: answers with
any header, id, length and content, raw datagrams, tun frames, timeouts, in DNS or raw mode, through the lazy-off
handshake — from a state with an empty `inpkt` (`client_init` leaves it empty), every frame written to the tun device is
`FromReceived`: the client never invents, reorders or mixes seqnos; what remains for full integrity is that `uncompress`
rejects a chain that is not a whole image (`Z_integrity` below). -/
theorem delivered_is_concat_of_received_fragments_client (st0 : CState) (h0 : st0.c.inpkt.len = 0)
    (pre : List CInput) (inp : CInput) :
    ∀ f ∈ tunWrites (cstep (cafter st0 pre) inp).2.1, FromReceived (pre ++ [inp]) f := by
  intro f hf
  have hrun := C01L.corigins_run (pre ++ [inp]) st0 [] (C01L.RInv.empty h0 [])
  have ho := corigins_at pre inp st0 [] hrun
  rw [List.nil_append] at ho
  rw [tunWrites_eq] at hf
  rcases ho with h | ⟨q, l, hq, hsub, hch, hlast, he⟩ | ⟨b, hb, he⟩
  · rw [h] at hf; cases hf
  · left
    refine ⟨l, q, by simp [hq], ?_, (consecutive_iff l).mpr hch, hlast,
      consecutive_le16 l ((consecutive_iff l).mpr hch), ?_⟩
    · rw [answersOf_append, hq]; exact hsub
    · rw [delivery_eq, joined_eq, ← he]; exact hf
  · right
    refine ⟨b, by simp [hb], ?_⟩
    rw [delivery_eq]
    have he' : C01L.tunws (cstep (cafter st0 pre) inp).2.1 = C01L.tunws (C01L.frames ((b.take 65536).drop 4)) := he
    rw [← he']; exact hf

theorem clientInit_empty (c : Cli) (r1 r2 : Nat) : (clientInit c r1 r2).inpkt.len = 0 := rfl

/-- the client thread parked in `client_tunnel`'s `select`, and two answers: fragments 1 and 2 (last) of downstream
packet 1, answering the client's latest queries -/
def Ex.st0 : CState := ⟨clientTunnelEnter Ex.c0, .tunnel⟩
def Ex.a1 : Rq := ⟨5, 1000, 10, 0, 51, [0, downHdr 1 1 false, 0x5a, 9, 9]⟩
def Ex.a2 : Rq := ⟨5, 8727, 10, 0, 51, [0, downHdr 1 2 true, 9, 9, 9]⟩

/-- non-vacuity of `delivered_is_concat_of_received_fragments_client`: the hypothesis holds for `Ex.st0`, the second step
of the run does write a frame, and the chain `[a1, a2]` is its origin -/
example : Ex.st0.c.inpkt.len = 0 ∧
    tunWrites (cstep (cafter Ex.st0 [.rq Ex.a1]) (.rq Ex.a2)).2.1 = [[0, 0, 8, 0, 9]] ∧
    Consecutive [Ex.a1, Ex.a2] ∧ delivery (joined [Ex.a1, Ex.a2]) = [[0, 0, 8, 0, 9]] := by
  refine ⟨rfl, by decide +kernel, ?_, by decide⟩
  unfold Consecutive Consecutive
  decide

end HostileClient

section HostileServer
open Iodine.Server Iodine.Gen

/-- a received data query together with the upstream codec the session had when it arrived -/
abbrev Recv := C01L.UFrag

/-- the data part of the query name for topdomain `td` (`dataPart e q` for a server with that topdomain) -/
def dataPartOf (td : List Nat) (q : Query) : List Nat := q.name.take (min (C16.dlen td q) 512)

def Recv.useq (td : List Nat) (r : Recv) : Nat := upSeqOf (dataPartOf td r.q)
def Recv.ufrag (td : List Nat) (r : Recv) : Nat := upFragOf (dataPartOf td r.q)
def Recv.bytes (td : List Nat) (r : Recv) : List Nat := payloadOf r.enc (dataPartOf td r.q)
/-- the session the query names: its first character, a hex digit -/
def Recv.uid (td : List Nat) (r : Recv) : Int := hexCode ((dataPartOf td r.q).getD 0 0)

/-- data queries with one upstream seqno and strictly rising fragment numbers -/
def Rising (td : List Nat) : List Recv → Prop
  | [] => True
  | [_] => True
  | r :: r' :: rest => r'.useq td = r.useq td ∧ r.ufrag td < r'.ufrag td ∧ Rising td (r' :: rest)

def sjoined (td : List Nat) (l : List Recv) : List Nat := ((l.map (Recv.bytes td)).flatten).take 65536

/-- the frame written to tun for a buffer that decompresses -/
def srvFrames (b : List Nat) : List (List Nat) :=
  match Server.uncompress b 65536 with
  | some out => [[0, 0, 8, 0] ++ out.drop 4]
  | none => []

/-- the queries among the inputs of the steps -/
def queriesOf : List Step → List Query
  | [] => []
  | st :: rest => (match st.inp with | .q q => [q] | _ => []) ++ queriesOf rest

/-- `SrvFromReceived td steps f`: the frame `f`, written to tun in the last of the iterations `steps`, is `uncompress` of
the payloads, in arrival order, of a chain of data queries received so far that all name one session, have one upstream
seqno and strictly rising fragment numbers and end in the query of this iteration (each payload decoded with some
codec: the one the session had then) — or, for a raw-mode frame, of the body of the datagram of this iteration -/
def SrvFromReceived (td : List Nat) (steps : List Step) (f : List Nat) : Prop :=
  (∃ (l : List Recv) (q : Query) (u : Nat), (steps.getLast?.map (·.inp) = some (.q q)) ∧
      (l.map (·.q)).Sublist (queriesOf steps) ∧ Rising td l ∧ (∀ r ∈ l, r.uid td = (u : Int)) ∧
      l.getLast?.map (·.q) = some q ∧ l.length ≤ 16 ∧ f ∈ srvFrames (sjoined td l)) ∨
  (∃ src bytes, steps.getLast?.map (·.inp) = some (.rawf src bytes) ∧ f ∈ srvFrames ((bytes.take 65536).drop 4))

theorem recv_seq (td : List Nat) (r : Recv) : r.useq td = C01L.UFrag.seq td r := by
  unfold Recv.useq C01L.UFrag.seq
  have := upHdr_eq (C01L.UFrag.inb td r)
  rw [this]; rfl

theorem recv_frag (td : List Nat) (r : Recv) : r.ufrag td = C01L.UFrag.frag td r := by
  unfold Recv.ufrag C01L.UFrag.frag
  have := upHdr_eq (C01L.UFrag.inb td r)
  rw [this]; rfl

theorem rising_iff (td : List Nat) : ∀ l : List Recv, Rising td l ↔ C01L.SChain td l
  | [] => Iff.rfl
  | [_] => ⟨fun _ => trivial, fun _ => trivial⟩
  | r :: r' :: rest => by
    unfold Rising Chain
    rw [rising_iff td (r' :: rest), recv_seq, recv_seq, recv_frag, recv_frag, true_and]

theorem sjoined_eq (td : List Nat) (l : List Recv) : sjoined td l = C01L.sjoin td l := rfl

theorem rising_le16 (td : List Nat) (l : List Recv) (h : Rising td l) : l.length ≤ 16 :=
  Chain.le16 (fun _ _ h => h) (fun r => by rw [← recv_frag]; unfold Recv.ufrag upFragOf; omega) l ((rising_iff td l).mp h)

theorem queriesOf_append (a b : List Step) : queriesOf (a ++ b) = queriesOf a ++ queriesOf b := by
  induction a with
  | nil => rfl
  | cons x xs ih => simp [queriesOf, ih]

theorem queriesOf_single (st : Step) : queriesOf [st] = C01L.qOf st.inp := by
  unfold queriesOf C01L.qOf
  cases st.inp <;> rfl

theorem sorigins_at (td : List Nat) : ∀ (pre : List Step) (st : Step) (s : Srv) (seen : List Query),
    C01L.SOrigins td seen s (pre ++ [st]) →
    C01L.SOrigin td (seen ++ queriesOf pre) st.inp (out (runFrom s pre) st) := by
  intro pre
  induction pre with
  | nil => intro st s seen h; simpa [queriesOf, runFrom] using h.1
  | cons x xs ih =>
    intro st s seen h
    have := ih st (next s x) (seen ++ C01L.qOf x.inp) h.2
    have e : seen ++ queriesOf (x :: xs) = seen ++ C01L.qOf x.inp ++ queriesOf xs := by
      rw [show x :: xs = [x] ++ xs from rfl, queriesOf_append, queriesOf_single, List.append_assoc]
    rw [e]
    exact this

/-- **delivered_is_concat_of_received_fragments** (server) — `_partial`: the statement with "fragment numbers rising by
exactly 1" is FALSE for the server: `handle_null_request` takes every fragment number above the current one ("seq is same,
frag is higher; don't care about missing fragments, TCP checksum will fail", iodined.c), see
the finding "server accepts a fragment gap" below.  What holds: in EVERY run from start-up — any inputs and clock values — every frame
written to the tun device is `SrvFromReceived`: the decompression of byte-exact payloads of data queries of ONE session
and ONE upstream seqno, in arrival order, with STRICTLY RISING fragment numbers (at most 16 of them), or of one raw
frame. -/
theorem delivered_is_concat_of_received_fragments_server_partial (cfg : Config) (rnd : List Nat)
    (pre : List Step) (st : Step) :
    ∀ f ∈ srvTunWrites (out (runFrom (start cfg rnd) pre) st),
      SrvFromReceived (start cfg rnd).cfg.topdomain (pre ++ [st]) f := by
  intro f hf
  have hrun := C01L.sorigins_run _ (pre ++ [st]) (start cfg rnd) []
    (C01L.ginv_of_empty _ (C01L.start_empty cfg rnd))
  have ho := sorigins_at _ pre st _ [] hrun
  rw [List.nil_append] at ho
  rw [srvTunWrites_eq] at hf
  rcases ho with h | ⟨q, u, l, hq, hsub, hch, hall, hlast, he⟩ | ⟨src, bytes, hb, he⟩
  · rw [h] at hf; cases hf
  · left
    refine ⟨l, q, u, by simp [hq], ?_, (rising_iff _ l).mpr hch, hall, hlast,
      rising_le16 _ l ((rising_iff _ l).mpr hch), ?_⟩
    · rw [queriesOf_append, queriesOf_single, hq]; exact hsub
    · rw [he] at hf; exact hf
  · right
    exact ⟨src, bytes, by simp [hb], by rw [he] at hf; exact hf⟩

/-- **Finding (server accepts a fragment gap)**: upstream fragments 0 and 2 (last) of seqno 1, fragment 1 never arrives:
the server appends the two payloads and hands the MERGED buffer to `uncompress` (with the test scheme it "decompresses",
and the 24-byte result is written to tun).  Only the integrity check of the real zlib stands between this and a
corrupted packet on the server's tun device — this is what `Z_integrity` assumes. -/
example :
    (traceFrom SEx.sv
      [SEx.dq [101, 97, 97, 97] [0x5a, 1, 2, 3, 4] 500, SEx.dq [101, 113, 98, 99] (List.replicate 20 7) 504]).map
        (fun t => srvTunWrites t.events)
      = [[], [[0, 0, 8, 0] ++ List.replicate 20 7]] := SEx.evaluated.2.1

/-- non-vacuity of `delivered_is_concat_of_received_fragments_server_partial`: a run from `start` in the theorem's own
terms whose last iteration writes a frame (the same two queries: handshake, login, fragment 0, then fragment 2) -/
example :
    srvTunWrites (out (runFrom (start C16.Ex.cfg [77]) (C16.Ex.login ++ [SEx.dq [101, 97, 97, 97] [0x5a, 1, 2, 3, 4] 500]))
      (SEx.dq [101, 113, 98, 99] (List.replicate 20 7) 504)) = [[0, 0, 8, 0] ++ List.replicate 20 7] :=
  SEx.evaluated.2.2

end HostileServer

section HostileClientEx
open Iodine.Client

/-- **Finding (client accepts a packet from any fragment)**: the first fragment the client sees of a new downstream seqno
starts the packet whatever its number ("hopefully 0", client.c).  Here fragments 1 and 2 (last) of seqno 1 arrive,
fragment 0 was lost: the client hands the SUFFIX to `uncompress`.  `FromReceived` holds (chain 1, 2); only the real
zlib's integrity check rejects such a buffer. -/
example :
    (runDns Ex.c0 ((Ex.feed Ex.c0 [(.next, [0, downHdr 1 1 false, 0x5a, 9, 9]),
        (.next, [0, downHdr 1 2 true, 9, 9, 9])]).map (·.2))).map tunWrites = [[], [[0, 0, 8, 0, 9]]] :=
  Ex.evaluated.2.2.2.1

end HostileClientEx

section ModuloZ
open Iodine.Client

/-- **`Z_integrity`** — the hypothesis that is NOT proved (and is false for the transparent test compression of the
models): every buffer of the class `mixed` that is not one of the offered compressed images is rejected by
`uncompress`.  For the real zlib this is its stream format plus the Adler-32 check over the decompressed data. -/
def Z_integrity (unc : List Nat → Option (List Nat)) (offered : List (List Nat)) (mixed : List Nat → Prop) : Prop :=
  ∀ b, mixed b → b ∉ offered → unc b = none

/-- the buffers the client can hand to `uncompress` in a run with inputs `ins`: joins of consecutive chains of received
answers, and bodies of raw datagrams -/
def ClientMixed (ins : List CInput) (b : List Nat) : Prop :=
  (∃ l : List Rq, l.Sublist (answersOf ins) ∧ Consecutive l ∧ b = joined l) ∨
  (∃ d, CInput.rawans d ∈ ins ∧ b = (d.take 65536).drop 4)

theorem mem_delivery {b : List Nat} {f : List Nat} (h : f ∈ delivery b) : Client.uncompress b 65536 ≠ none := by
  unfold delivery at h
  intro hn
  rw [hn] at h
  cases h

/-- **delivered_is_sent_modulo_Z** (client): under `Z_integrity` for the buffers of this run, every frame the client
writes to its tun device is the delivery of an OFFERED image (by (A) exactly the frame of the packet the peer read from
its tun device, tun header rewritten). -/
theorem delivered_is_sent_modulo_Z_client (st0 : CState) (h0 : st0.c.inpkt.len = 0) (pre : List CInput) (inp : CInput)
    (offered : List (List Nat))
    (hZ : Z_integrity (fun b => Client.uncompress b 65536) offered (ClientMixed (pre ++ [inp]))) :
    ∀ f ∈ tunWrites (cstep (cafter st0 pre) inp).2.1, ∃ img ∈ offered, f ∈ delivery img := by
  intro f hf
  rcases delivered_is_concat_of_received_fragments_client st0 h0 pre inp f hf with
    ⟨l, q, _, hsub, hch, _, _, hd⟩ | ⟨d, hlast, hd⟩
  · apply Classical.byContradiction
    intro hn
    have hno : joined l ∉ offered := fun hm => hn ⟨_, hm, hd⟩
    exact mem_delivery hd (hZ _ (Or.inl ⟨l, hsub, hch, rfl⟩) hno)
  · apply Classical.byContradiction
    intro hn
    have hno : (d.take 65536).drop 4 ∉ offered := fun hm => hn ⟨_, hm, hd⟩
    refine mem_delivery hd (hZ _ (Or.inr ⟨d, ?_, rfl⟩) hno)
    have := List.mem_of_getLast? hlast
    exact this

/-- non-vacuity of `delivered_is_sent_modulo_Z_client`: one answer carrying a whole one-fragment image.  The buffers of
this run are the empty one (rejected) and the image itself (offered), so `Z_integrity` holds, and the frame is written. -/
example :
    let a : Rq := ⟨8, 1000, 10, 0, 51, [0, downHdr 1 0 true, 0x5a, 0, 0, 8, 0, 69]⟩
    Z_integrity (fun b => Client.uncompress b 65536) [[0x5a, 0, 0, 8, 0, 69]] (ClientMixed ([] ++ [.rq a])) ∧
    tunWrites (cstep (cafter Ex.st0 []) (.rq a)).2.1 = [[0, 0, 8, 0, 69]] := by
  intro a
  refine ⟨?_, by decide +kernel⟩
  intro b hb hno
  rcases hb with ⟨l, hsub, _, rfl⟩ | ⟨d, hd, _⟩
  · have hl : l = [] ∨ l = [a] := by
      cases hsub with
      | cons _ h => left; exact List.sublist_nil.mp h
      | cons_cons _ h => right; rw [List.sublist_nil.mp h]
    rcases hl with rfl | rfl
    · rfl
    · exact absurd (by decide) hno
  · simp at hd

end ModuloZ

section ModuloZServer
open Iodine.Server

/-- the buffers the server can hand to `uncompress` in a run: joins of rising chains of received data queries of one
session, and bodies of raw frames -/
def ServerMixed (td : List Nat) (steps : List Step) (b : List Nat) : Prop :=
  (∃ (l : List Recv) (u : Nat), (l.map (·.q)).Sublist (queriesOf steps) ∧ Rising td l ∧
      (∀ r ∈ l, r.uid td = (u : Int)) ∧ b = sjoined td l) ∨
  (∃ st src bytes, st ∈ steps ∧ st.inp = .rawf src bytes ∧ b = (bytes.take 65536).drop 4)

theorem mem_srvFrames {b : List Nat} {f : List Nat} (h : f ∈ srvFrames b) : Server.uncompress b 65536 ≠ none := by
  unfold srvFrames at h
  intro hn
  rw [hn] at h
  cases h

/-- **delivered_is_sent_modulo_Z** (server) -/
theorem delivered_is_sent_modulo_Z_server (cfg : Config) (rnd : List Nat) (pre : List Step) (st : Step)
    (offered : List (List Nat))
    (hZ : Z_integrity (fun b => Server.uncompress b 65536) offered
      (ServerMixed (start cfg rnd).cfg.topdomain (pre ++ [st]))) :
    ∀ f ∈ srvTunWrites (out (runFrom (start cfg rnd) pre) st), ∃ img ∈ offered, f ∈ srvFrames img := by
  intro f hf
  rcases delivered_is_concat_of_received_fragments_server_partial cfg rnd pre st f hf with
    ⟨l, q, u, _, hsub, hch, hall, _, _, hd⟩ | ⟨src, bytes, hlast, hd⟩
  · apply Classical.byContradiction
    intro hn
    have hno : sjoined _ l ∉ offered := fun hm => hn ⟨_, hm, hd⟩
    exact mem_srvFrames hd (hZ _ (Or.inl ⟨l, u, hsub, hch, hall, rfl⟩) hno)
  · apply Classical.byContradiction
    intro hn
    have hno : (bytes.take 65536).drop 4 ∉ offered := fun hm => hn ⟨_, hm, hd⟩
    refine mem_srvFrames hd (hZ _ (Or.inr ?_) hno)
    cases hl : (pre ++ [st]).getLast? with
    | none => rw [hl] at hlast; cases hlast
    | some x =>
      rw [hl] at hlast
      simp only [Option.map_some, Option.some.injEq] at hlast
      exact ⟨x, src, bytes, List.mem_of_getLast? hl, hlast, rfl⟩

end ModuloZServer

section Sixteen

open Iodine.Client in
/-- the fragment number has four bits and a chain needs consecutive numbers: a chain has at most 16 answers, so the
reassembly buffer never holds more than 16 payloads -/
theorem joined_length_le (l : List Rq) (m : Nat) (hc : Consecutive l) (hm : ∀ q ∈ l, (payloadOfAns q).length ≤ m) :
    (joined l).length ≤ 16 * m :=
  join_length_le l m (consecutive_le16 l hc) hm

open Iodine.Client in
/-- **more_than_16_fragments_never_completes** (client).  If no answer of the run carries more than `m` payload bytes,
then every buffer the DNS-mode reassembler hands to `uncompress` has at most `16 m` bytes: an image `img` longer than
that — one that needs more than 16 fragments of that size — is NEVER what is decompressed and delivered, whatever the
network does.  (On the sending side fragment number 16 wraps to 0 in the 4-bit header field — `hop_lossless_up`: the
header carries `fragment & 15` — so the receiver refuses the 17th fragment as a duplicate and the sender gives up: the
packet is dropped, not corrupted.) -/
theorem more_than_16_fragments_never_completes_client (st0 : CState) (h0 : st0.c.inpkt.len = 0)
    (pre : List CInput) (inp : CInput) (m : Nat)
    (hm : ∀ q ∈ answersOf (pre ++ [inp]), (payloadOfAns q).length ≤ m) (img : List Nat) (himg : 16 * m < img.length) :
    ∀ f ∈ tunWrites (cstep (cafter st0 pre) inp).2.1,
      (∃ l : List Rq, l.Sublist (answersOf (pre ++ [inp])) ∧ Consecutive l ∧ joined l ≠ img ∧ f ∈ delivery (joined l)) ∨
      (∃ b, inp = .rawans b ∧ f ∈ delivery ((b.take 65536).drop 4)) := by
  intro f hf
  rcases delivered_is_concat_of_received_fragments_client st0 h0 pre inp f hf with
    ⟨l, q, _, hsub, hch, _, _, hd⟩ | ⟨d, hlast, hd⟩
  · left
    refine ⟨l, hsub, hch, ?_, hd⟩
    intro he
    have := joined_length_le l m hch (fun q hq => hm q (hsub.subset hq))
    rw [he] at this
    omega
  · right
    refine ⟨d, ?_, hd⟩
    simpa using hlast

open Iodine.Server in
theorem sjoined_length_le (td : List Nat) (l : List Recv) (m : Nat) (hc : Rising td l)
    (hm : ∀ r ∈ l, (r.bytes td).length ≤ m) : (sjoined td l).length ≤ 16 * m :=
  join_length_le (pay := Recv.bytes td) l m (rising_le16 td l hc) hm

open Iodine.Server in
/-- **more_than_16_fragments_never_completes** (server): if no data query name decodes (under any of the four codecs) to
more than `m` bytes, every buffer handed to `uncompress` by the DNS-mode reassembler has at most `16 m` bytes. -/
theorem more_than_16_fragments_never_completes_server (cfg : Config) (rnd : List Nat) (pre : List Step) (st : Step)
    (m : Nat)
    (hm : ∀ q ∈ queriesOf (pre ++ [st]), ∀ enc : Enc,
      (payloadOf enc (dataPartOf (start cfg rnd).cfg.topdomain q)).length ≤ m)
    (img : List Nat) (himg : 16 * m < img.length) :
    ∀ f ∈ srvTunWrites (out (runFrom (start cfg rnd) pre) st),
      (∃ l : List Recv, (l.map (·.q)).Sublist (queriesOf (pre ++ [st])) ∧ Rising (start cfg rnd).cfg.topdomain l ∧
        sjoined (start cfg rnd).cfg.topdomain l ≠ img ∧ f ∈ srvFrames (sjoined (start cfg rnd).cfg.topdomain l)) ∨
      (∃ src bytes, st.inp = .rawf src bytes ∧ f ∈ srvFrames ((bytes.take 65536).drop 4)) := by
  intro f hf
  rcases delivered_is_concat_of_received_fragments_server_partial cfg rnd pre st f hf with
    ⟨l, q, u, _, hsub, hch, _, _, _, hd⟩ | ⟨src, bytes, hlast, hd⟩
  · left
    refine ⟨l, hsub, hch, ?_, hd⟩
    intro he
    have := sjoined_length_le _ l m hch (fun r hr => hm r.q (hsub.subset (List.mem_map_of_mem hr)) r.enc)
    rw [he] at this
    omega
  · right
    refine ⟨src, bytes, ?_, hd⟩
    simpa using hlast

open Iodine.Client in
/-- seventeen one-byte fragments of downstream packet 1, numbered 0..15 and — the 4-bit field wraps — 0 again with the
last flag: the seventeenth is refused as a duplicate of fragment 0, nothing is ever delivered -/
example :
    (runDns Ex.c0 ((Ex.feed Ex.c0 (((List.range 16).map fun i => (Kind.next, [0, downHdr 1 i false, 0x5a])) ++
        [(Kind.next, [0, downHdr 1 0 true, 0x5a])])).map (·.2))).map tunWrites = List.replicate 17 [] :=
  Ex.evaluated.2.2.2.2

end Sixteen

end Iodine.C01
