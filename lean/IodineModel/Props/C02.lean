import IodineModel.Lemmas.C02a
import IodineModel.Lemmas.C02b
import IodineModel.Lemmas.C02R5
import IodineModel.Lemmas.C02M8
import IodineModel.Lemmas.C02t
import IodineModel.Lemmas.C02t2
/-
C02 — the tunnel makes progress and recovers after network trouble (no wedge).

Property text.  "On a path that delivers every datagram intact and promptly, each IP packet a single client or the server
accepts from its tun device (and that fits in 16 fragments) is written to the peer's tun device exactly once and in the
order accepted.  After any period of loss, duplication, reordering or delay that is shorter than the 60-second session
timeout, once the path behaves again packets offered on both sides are delivered again within a bounded time, without
restarting either program."

What is here
(A1) component lemmas, each for ALL states of the respective model: resend/give-up counters of both sides, tun read
    gating of both sides, ack handling of both sides, the sequence-number window, the 60 s expiry of both sides.
(A2) the joined model `World` (`IodineModel/World.lean`) and TESTS on concrete clean-path runs (labelled `test_…`,
    evaluated by the kernel; `Lemmas/C02t*.lean`): 1, 2 and 5 fragments, both directions, lazy and immediate mode, the
    four upstream codecs, raw mode, sequences, both directions at once.
(B) THEOREMS over the joined model, for every payload, every one of the four upstream codecs, every query type the
    server treats as tunnel traffic, every host name limit 100..255, every legal tunnel domain, every user id 0..15, every
    downstream fragment size ≥ 1 — all four combinations of direction and DNS mode, and raw mode:
    * `clean_path_upstream_immediate`, `clean_path_upstream_lazy` — a frame accepted from the client's tun device that needs
      `g ≤ 16` fragments is, after exactly `2·g + 1` steps of the prompt schedule, written to the server's tun device exactly
      once (and nothing to the client's), and the joint state is quiescent again; `clean_path_single_fragment` is `g = 1`;
    * `clean_path_downstream_immediate` — symmetrically a frame accepted from the server's tun device (`g ≤ 16` fragments of the
      negotiated size) reaches the client's tun device exactly once, after 3 (`g = 1`) resp. `2·g + 4` steps (the client polls;
      needs timer room `Roomy` and, like every downstream theorem of immediate mode here, `selecttimeout ≤ 9`);
      `clean_path_downstream_lazy` — the same in lazy mode, `2·g + 1` steps (2 if `g = 1` and a ping was due at the client), no
      timing hypothesis;
    * `clean_path_raw` — raw UDP mode, both directions, frames up to 4091 bytes (longer ones are TRUNCATED by `send_raw`:
      `raw_long_frames_truncated`), with and without the client's keepalive being due;
    * `clean_path_exactly_once_in_order_immediate`, `…_lazy`, `…_raw` — packets offered on both sides in any interleaving, one
      after the other, arrive exactly once and in order; `clean_path_exactly_once_in_order_partial` is their conjunction.
(C) `no_deadlock_after_giveup` for both sides.  The recovery clause is proved for ONE fault class — every datagram of one
    direction lost for a while — in `Props/C02b.lean` and `Props/C02c.lean` (bounded recovery from desynchronised sequence
    numbers, the blackout runs, blackout followed by the clean path); for arbitrary fault prefixes it is a test (world check;
    see DESIGN.md).

What (B) does NOT cover (stated precisely at `clean_path_exactly_once_in_order_partial`): a packet offered on one side WHILE a
transfer in the other direction is in progress.  Proved for lazy mode and two offers made before anything is delivered
(`clean_path_two_simultaneous_offers_lazy`, `Props/C02c.lean`); immediate mode, and an offer in the middle of a transfer: tests
only (`test_imm_both`, `test_lazy_both`).

Assumptions of the joined model (stated at the head of `World.lean`): the hop-lossless abstraction for answers (the client
is fed exactly the bytes the server handed to `write_dns`); upstream the query name passes through the client's real
`dns_encode` and the repository's `dns_decode` (`Client.wireQuery`, proved lossless for legal names in `Lemmas/C02w.lean`);
compression is the transparent test scheme of both models.
-/
namespace Iodine.C02
open Iodine Iodine.World

/-- While a packet is in flight, consecutive timeouts of `client_tunnel`'s `select`
resend the SAME chunk (same packet, same offset and fragment number: `SameChunk`) exactly three times (`outchunkresent`
1, 2, 3, each time the events are those of `send_chunk`); the 4th timeout drops the packet (`outpkt.len = 0`) and sends a
ping.  (An excursion into `handshake_lazyoff` in between does not touch the packet or the counter:
`C02L.lazyoffStep_preserves`; `C02L.tunnelStep_tick` links `timeoutBranch` to the step machine.) -/
theorem client_resends_then_gives_up (c : Client.Cli) (hs : Client.isSending c = true) (h0 : c.outchunkresent = 0) :
    let c1 := (Client.timeoutBranch c).1
    let c2 := (Client.timeoutBranch c1).1
    let c3 := (Client.timeoutBranch c2).1
    let c4 := (Client.timeoutBranch c3).1
    C02L.SameChunk c c1 ∧ c1.outchunkresent = 1 ∧ C02L.SameChunk c c2 ∧ c2.outchunkresent = 2 ∧
    C02L.SameChunk c c3 ∧ c3.outchunkresent = 3 ∧
    (Client.timeoutBranch c).2.1 = (Client.sendChunk { c with outchunkresent := 1 }).evs ∧
    (Client.timeoutBranch c1).2.1 = (Client.sendChunk { c1 with outchunkresent := 2 }).evs ∧
    (Client.timeoutBranch c2).2.1 = (Client.sendChunk { c2 with outchunkresent := 3 }).evs ∧
    c4.outpkt.len = 0 ∧ c4.outchunkresent = 0 ∧ Client.isSending c4 = false ∧
    (Client.timeoutBranch c3).2.1 =
      (Client.sendPing { c3 with outpkt := { c3.outpkt with offset := 0, len := 0, sentlen := 0 }, outchunkresent := 0 }).evs := by
  intro c1 c2 c3 c4
  obtain ⟨a1, a2, a3, a4⟩ := C02L.timeoutBranch_resend_spec c hs (by omega)
  have a2' : c1.outchunkresent = 1 := by rw [a2, h0]
  obtain ⟨b1, b2, b3, b4⟩ := C02L.timeoutBranch_resend_spec c1 a3 (by omega)
  have b2' : c2.outchunkresent = 2 := by rw [b2, a2']
  obtain ⟨d1, d2, d3, d4⟩ := C02L.timeoutBranch_resend_spec c2 b3 (by omega)
  have d2' : c3.outchunkresent = 3 := by rw [d2, b2']
  obtain ⟨e1, e2, e3, e4⟩ := C02L.timeoutBranch_giveup_spec c3 d3 (by omega)
  rw [h0] at a4
  rw [a2'] at b4
  rw [b2'] at d4
  exact ⟨a1, a2', a1.trans b1, b2', (a1.trans b1).trans d1, d2', a4, b4, d4, e1, e2, e3, e4⟩

/-- non-vacuity: a concrete client with a 3-byte packet in flight: three data queries, then a ping (`p…`) -/
example :
    let r1 := Client.timeoutBranch C02L.exC
    let r2 := Client.timeoutBranch r1.1
    let r3 := Client.timeoutBranch r2.1
    let r4 := Client.timeoutBranch r3.1
    Client.isSending C02L.exC = true ∧ C02L.exC.outchunkresent = 0 ∧
    r1.2.1 = [.query 7727 10 [48, 101, 97, 98, 97, 108, 105, 97, 113, 101, 46, 97, 46, 98, 99]] ∧
    r3.1.outchunkresent = 3 ∧ r4.1.outpkt.len = 0 ∧ (r4.2.1.map fun e => match e with | .query _ _ n => n.headD 0 | _ => 0) = [112] := by
  decide +kernel

/-- The client's `select` contains the tun descriptor iff nothing is in flight or the chunk in
flight was already resent twice. -/
theorem client_tun_gating (c : Client.Cli) :
    (Client.selectOf c).tun = true ↔ (Client.isSending c = false ∨ c.outchunkresent ≥ 2) := Client.selectOf_tun c

/-- … and a tun frame that is read while a packet is in flight is discarded: NOTHING changes (the frame is lost) — except
that in raw mode the keepalive that precedes every handler may be due (`rawKeepalive`: it only sets `lastrawping` and
sends a raw ping); in DNS mode nothing at all happens. -/
theorem client_tun_frame_while_sending (c : Client.Cli) (f : List Nat) (hrun : c.running = true)
    (hexp : ¬ c.lastdownstreamtime + 60 < c.now) (hs : Client.isSending c = true) (h2 : c.outchunkresent ≥ 2) :
    Client.tunnelStep c (.tun f) =
      (⟨(Client.rawKeepalive c).1, .tunnel⟩, (Client.rawKeepalive c).2, .sel (Client.selectOf (Client.rawKeepalive c).1)) ∧
    (Client.rawKeepalive c).1 = { c with lastrawping := (Client.rawKeepalive c).1.lastrawping } ∧
    (c.conn = .dnsNull → Client.tunnelStep c (.tun f) = (⟨c, .tunnel⟩, [], .sel (Client.selectOf c))) :=
  ⟨C02L.tunnelStep_tun_while_sending_raw c f hrun hexp hs h2, C02L.rawKeepalive_frame c,
   fun hc => C02L.tunnelStep_tun_while_sending c f hrun hc hexp hs h2⟩

example :
    let c := { C02L.exL with outchunkresent := 2 }
    c.running = true ∧ ¬ c.lastdownstreamtime + 60 < c.now ∧ Client.isSending c = true ∧ (Client.selectOf c).tun = true ∧
    (Client.selectOf C02L.exL).tun = false := by decide +kernel

/-- **ack_advances (client).**  An ack equal to (seqno, fragment) of the fragment in flight advances `offset` by `sentlen`
and the fragment counter by one and sends the next chunk, or completes the packet; any other ack changes nothing of the
transfer. -/
theorem ack_advances_client (c : Client.Cli) (h : Client.Hdr) (evs : List Client.CEvent) (sendNow : Bool) (read : Int) :
    (Client.isSending c = true → h.upSeq = c.outpkt.seqno → h.upFrag = c.outpkt.fragment →
      let r := (Client.upstream c h evs sendNow read).1
      (c.outpkt.offset + c.outpkt.sentlen < c.outpkt.len →
        r.outpkt.offset = c.outpkt.offset + c.outpkt.sentlen ∧ r.outpkt.fragment = Client.sChar (c.outpkt.fragment + 1) ∧
        r.outpkt.len = c.outpkt.len ∧ r.outpkt.data = c.outpkt.data ∧ r.outpkt.seqno = c.outpkt.seqno ∧
        r.outchunkresent = 0 ∧ Client.isSending r = true) ∧
      (¬ c.outpkt.offset + c.outpkt.sentlen < c.outpkt.len →
        r.outpkt.len = 0 ∧ r.outpkt.offset = 0 ∧ r.outchunkresent = 0 ∧ Client.isSending r = false)) ∧
    (¬ (Client.isSending c = true ∧ h.upSeq = c.outpkt.seqno ∧ h.upFrag = c.outpkt.fragment) →
      (Client.upstream c h evs sendNow read).1.outpkt.len = c.outpkt.len ∧
      (Client.upstream c h evs sendNow read).1.outpkt.offset = c.outpkt.offset ∧
      (Client.upstream c h evs sendNow read).1.outpkt.fragment = c.outpkt.fragment ∧
      (Client.upstream c h evs sendNow read).1.outchunkresent = c.outchunkresent) := by
  refine ⟨fun hs hq hf => ?_, fun hn => ?_⟩
  · intro r
    constructor
    · intro hlt
      have hfr : r = C02L.sndFrame (C02L.ackNext c) r := by
        show (Client.upstream c h evs sendNow read).1 = C02L.sndFrame (C02L.ackNext c) (Client.upstream c h evs sendNow read).1
        rw [C02L.upstream_ack_more c h evs sendNow read hs hq hf hlt]
        exact C02L.afterSend_frame _ _ _ _ (C02L.sendChunk_frame (C02L.ackNext c))
      obtain ⟨hlen, hoff, hfrag, hseq, hdata, -, hres, -⟩ := C02L.sndFrame_fields _ _ hfr
      exact ⟨hoff, hfrag, hlen, hdata, hseq, hres, (C02L.isSending_congr hlen).trans hs⟩
    · intro hge
      have hfr : r = C02L.sndFrame (C02L.ackDone c) r := by
        show (Client.upstream c h evs sendNow read).1 = C02L.sndFrame (C02L.ackDone c) (Client.upstream c h evs sendNow read).1
        rw [C02L.upstream_ack_done c h evs sendNow read hs hq hf hge]
        exact C02L.finalPing_frame _ _ _ _
      obtain ⟨hlen, hoff, -, -, -, -, hres, -⟩ := C02L.sndFrame_fields _ _ hfr
      exact ⟨hlen, hoff, hres, C02L.isSending_congr hlen⟩
  · obtain ⟨_, a, b, d, _, _, e, _⟩ := C02L.upstream_other_ack c h evs sendNow read hn
    exact ⟨a, b, d, e⟩

example :
    let h : Client.Hdr := ⟨0, 0, 1, 0, false⟩
    Client.isSending C02L.exL = true ∧ h.upSeq = C02L.exL.outpkt.seqno ∧ h.upFrag = C02L.exL.outpkt.fragment := by decide

/-- `recent_seqno(our, got)` is true exactly for the current sequence number and the three before it
(mod 8) — in both programs —, so the packet after the current one (`our + 1`) is never mistaken for a duplicate. -/
theorem seqno_window (a b : Int) (ha : 0 ≤ a ∧ a < 8) :
    (Client.recentSeqno a b = true ↔ ∃ k : Nat, k < 4 ∧ b = (a - k) % 8) ∧
    (Server.recentSeqno a b = true ↔ ∃ k : Nat, k < 4 ∧ b = (a - k) % 8) ∧
    Client.recentSeqno a ((a + 1) % 8) = false ∧ Server.recentSeqno a ((a + 1) % 8) = false :=
  ⟨C02L.recentSeqno_iff a b ha, C02L.recentSeqno_iff_server a b ha, C02L.recentSeqno_next a ha, C02L.recentSeqno_next_server a ha⟩

example : Client.recentSeqno 1 6 = true ∧ Client.recentSeqno 1 5 = false ∧ Client.recentSeqno 7 0 = false := by decide

/-- **session_expiry_60 (client).**  One turn of `client_tunnel`'s loop ends the function iff the last downstream data is
more than 60 s old when `select` returns. -/
theorem session_expiry_60_client (c : Client.Cli) (inp : Client.CInput) (hrun : c.running = true) :
    (Client.tunnelStep c inp).2.2 = .finished 0 ↔
      (Client.fire c (Client.selectOf c) inp).1.lastdownstreamtime + 60 < (Client.fire c (Client.selectOf c) inp).1.now :=
  (C02L.tunnelStep_finished_iff c inp hrun).1

example : (Client.tunnelStep { C02L.exL with now := 1061 } .tick).2.2 = .finished 0 ∧
    (Client.tunnelStep { C02L.exL with now := 1059 } (.rq Client.Rq.zero)).2.2 ≠ .finished 0 := by decide +kernel

/-- The server's `select` contains the tun descriptor iff some live user is in raw mode or has an
empty outpacket queue; a frame offered otherwise is not looked at. -/
theorem server_tun_gating (s : Server.Srv) :
    ((Server.topOfLoop s).2.2 = true ↔
      ∃ x ∈ s.users, Server.live x s.now = true ∧ (x.conn = .rawUdp ∨ (x.conn = .dnsNull ∧ x.oqFilled = 0))) ∧
    ∀ f, Server.dispatch s (.tun f) false = (s, []) :=
  ⟨C02L.topOfLoop_tunsel_iff s, fun f => C02L.dispatch_tun_not_selected s f⟩

example : (Server.topOfLoop C02L.s0).2.2 = false ∧
    (Server.topOfLoop (C02L.putUser C02L.s0 0 { C02L.x0 with oqFilled := 0 })).2.2 = true := by decide +kernel

/-- `send_chunk_or_dataless` forgets the current outpacket once it was sent more than 5
times without ack (`outfragresent > 5`: the 7th call) and continues with the queue (next queued packet, or idle); below
that the same fragment is sent again and the send is counted (`C02L.sendChunkOrDataless_counts`). -/
theorem server_drops_after_resends (s : Server.Srv) (u : Nat) (w : Server.QSel) (hu : u < s.users.length)
    (h1 : (Server.getUser s u).outpacket.len > 0) (h2 : (Server.getUser s u).outfragresent > 5) :
    Server.scDropResent s u =
      C02L.putUser s u (if (Server.getUser s u).oqFilled = 0 then Server.dropOut (Server.getUser s u) else C02L.nextOut (Server.getUser s u)) ∧
    Server.sendChunkOrDataless s u w =
      Server.sendChunkOrDataless
        (C02L.putUser s u (if (Server.getUser s u).oqFilled = 0 then Server.dropOut (Server.getUser s u) else C02L.nextOut (Server.getUser s u))) u w := by
  show _ = C02L.putUser s u (C02L.afterDrop (Server.getUser s u)) ∧
    _ = Server.sendChunkOrDataless (C02L.putUser s u (C02L.afterDrop (Server.getUser s u))) u w
  -- the post-drop slot has resend counter 0: its own drop block is the identity, so `scSess` of both slots agree
  have hx := C02L.dropResent_drop _ h1 h2
  have hidem : C02L.dropResent (C02L.afterDrop (Server.getUser s u)) = C02L.afterDrop (Server.getUser s u) :=
    C02L.dropResent_keep _ (by rw [C02L.afterDrop_outfragresent]; omega)
  have hsc : C02L.scSess (C02L.afterDrop (Server.getUser s u)) u w = C02L.scSess (Server.getUser s u) u w := by
    unfold C02L.scSess
    rw [hidem, hx]
  refine ⟨C02L.scDropResent_drop s u hu h1 h2, ?_⟩
  rw [C02L.sendChunkOrDataless_eq s u w hu, C02L.sendChunkOrDataless_eq _ u w (by simpa using hu),
    C02L.getUser_putUser_self _ _ _ hu, C02L.putUser_putUser, hsc]

/-- non-vacuity: slot 0 with a 3-byte outpacket sent 6 times and one packet queued: the 7th call sends the first fragment
of the queued packet with the next sequence number -/
example :
    0 < C02L.s0.users.length ∧ (Server.getUser C02L.s0 0).outpacket.len > 0 ∧ (Server.getUser C02L.s0 0).outfragresent > 5 ∧
    (Server.sendChunkOrDataless C02L.s0 0 .q).1.2 =
      [Server.Event.ans ⟨4, 0x01020304, 4711⟩ 5 10 84 [] [128, (2 <<< 5) ||| 0, 7, 8] (.chunk 0)] := by decide +kernel

/-- **ack_advances (server).**  `process_downstream_ack`: an ack equal to (seqno, fragment) of a fragment that was sent
advances `offset` by `sentlen` and the fragment counter by one (or finishes the packet and starts the next queued one); any
other ack changes nothing. -/
theorem ack_advances_server (s : Server.Srv) (u : Nat) (a b : Int) :
    (((Server.getUser s u).outpacket.len = 0 ∨ (Server.getUser s u).outpacket.seqno ≠ a ∨ (Server.getUser s u).outpacket.fragment ≠ b ∨
        (Server.getUser s u).outpacket.sentlen = 0) → Server.processDownstreamAck s u a b = s) ∧
    ((Server.getUser s u).outpacket.len ≠ 0 → (Server.getUser s u).outpacket.seqno = a → (Server.getUser s u).outpacket.fragment = b →
      (Server.getUser s u).outpacket.sentlen ≠ 0 →
      ((Server.getUser s u).outpacket.offset + (Server.getUser s u).outpacket.sentlen < (Server.getUser s u).outpacket.len →
        Server.processDownstreamAck s u a b =
          C02L.putUser s u { Server.getUser s u with
            outpacket := { (Server.getUser s u).outpacket with
              offset := (Server.getUser s u).outpacket.offset + (Server.getUser s u).outpacket.sentlen, sentlen := 0,
              fragment := Server.sChar ((Server.getUser s u).outpacket.fragment + 1) },
            outfragresent := 0 }) ∧
      (u < s.users.length → (Server.getUser s u).outpacket.len ≤ (Server.getUser s u).outpacket.offset + (Server.getUser s u).outpacket.sentlen →
        Server.processDownstreamAck s u a b =
          C02L.putUser s u (if (Server.getUser s u).oqFilled = 0 then C02L.srvAckDone (Server.getUser s u) else C02L.nextOut (Server.getUser s u)))) :=
  ⟨C02L.processDownstreamAck_other s u a b,
   fun h1 h2 h3 h4 => ⟨C02L.processDownstreamAck_advance s u a b h1 h2 h3 h4,
     fun hu h5 => C02L.processDownstreamAck_complete s u a b hu h1 h2 h3 h4 h5⟩⟩

example : (Server.getUser (Server.processDownstreamAck C02L.s0 0 1 0) 0).outpacket.offset = 2 ∧
    Server.processDownstreamAck C02L.s0 0 1 1 = C02L.s0 := by decide +kernel

/-- **session_expiry_60 (server).**  A valid, active slot is refused by `check_user_and_ip` iff its last packet is more
than 60 s old.  (The loops — sweep, tun delivery, `all_users_waiting_to_send` — use `last_pkt + 60 > now`: at exactly
60 s the two tests disagree, `C02L.expiry_boundary`.) -/
theorem session_expiry_60_server (s : Server.Srv) (u : Nat) (q : Server.Query) (hu : u < s.cfg.createdUsers)
    (ha : (Server.getUser s u).active = true) (hd : (Server.getUser s u).disabled = false)
    (hip : s.cfg.checkIp = false ∨ (q.from_.fam = (Server.getUser s u).host.fam ∧ (q.from_.fam = 4 ∨ q.from_.fam = 6) ∧
      (Server.getUser s u).host.ip = q.from_.ip)) :
    Server.checkUserAndIp s (u : Int) q = true ↔ (Server.getUser s u).lastPkt + 60 < s.now :=
  C02L.checkUserAndIp_expired_iff s u q hu ha hd hip

example : Server.checkUserAndIp { C02L.s0 with now := 1051 } 0 Server.Query.zero = true ∧
    Server.checkUserAndIp { C02L.s0 with now := 1050 } 0 Server.Query.zero = false ∧
    Server.live (Server.getUser C02L.s0 0) 1050 = false := by decide +kernel

/-- **no_deadlock_after_giveup (client).**  After the 4th timeout the client is not sending, selects its tun device again,
pings on timeouts, and the next tun frame starts a new packet with the next sequence number. -/
theorem no_deadlock_after_giveup_client (c : Client.Cli) (hs : Client.isSending c = true) (h3 : c.outchunkresent = 3) :
    let c4 := (Client.timeoutBranch c).1
    Client.isSending c4 = false ∧ c4.outchunkresent = 0 ∧ (Client.selectOf c4).tun = true ∧
    Client.timeoutBranch c4 = Client.afterSend (Client.sendPing c4) [] .timeout ∧
    ∀ f : List Nat, f ≠ [] →
      (Client.tunnelTun c4 f).1.outpkt.seqno = Client.sChar ((c.outpkt.seqno + 1) % 8) ∧
      (Client.tunnelTun c4 f).1.outpkt.offset = 0 ∧ (Client.tunnelTun c4 f).1.outpkt.fragment = 0 ∧
      (c.conn = .dnsNull → Client.isSending (Client.tunnelTun c4 f).1 = true) := by
  intro c4
  obtain ⟨-, e2, e3, -⟩ := C02L.timeoutBranch_giveup_spec c hs (by omega)
  have hfr : c4 = C02L.sndFrame (C02L.dropPkt c) c4 := by
    show (Client.timeoutBranch c).1 = C02L.sndFrame (C02L.dropPkt c) (Client.timeoutBranch c).1
    rw [Client.timeoutBranch_giveup c hs h3]
    exact C02L.afterSend_frame _ _ _ _ (C02L.sendPing_frame (C02L.dropPkt c))
  have hseq : c4.outpkt.seqno = c.outpkt.seqno := congrArg (·.outpkt.seqno) hfr
  have hconn : c4.conn = c.conn := congrArg (·.conn) hfr
  refine ⟨e3, e2, C02L.selectOf_tun_idle c4 e3, C02L.timeoutBranch_idle c4 e3, fun f hf => ?_⟩
  have h := C02L.tunnelTun_accept_state c4 f e3 hf
  rw [hseq, hconn] at h
  exact h

example : Client.isSending { C02L.exC with outchunkresent := 3 } = true := by decide

/-- **no_deadlock_after_giveup (server).**  After the drop the server serves the next queued packet (its first fragment
goes out in the same call), or — nothing queued — answers dataless and is idle, so the next tun frame starts a packet. -/
theorem no_deadlock_after_giveup_server (s : Server.Srv) (u : Nat) (w : Server.QSel) (hu : u < s.users.length)
    (h1 : (Server.getUser s u).outpacket.len > 0) (h2 : (Server.getUser s u).outfragresent > 5) :
    ((Server.getUser s u).oqFilled > 0 →
      (Server.sendChunkOrDataless s u w).1.2.head? =
        some (Server.writeDns (w.get (Server.getUser s u))
          (Server.scPkt (C02L.nextOut (Server.getUser s u)) (Server.scDatalen (C02L.nextOut (Server.getUser s u))))
          (Server.getUser s u).downenc (.chunk u))) ∧
    ((Server.getUser s u).oqFilled = 0 →
      (Server.getUser (Server.sendChunkOrDataless s u w).1.1 u).outpacket.len = 0 ∧
      (Server.getUser (Server.sendChunkOrDataless s u w).1.1 u).outfragresent = 0) :=
  ⟨fun h3 => (C02L.server_serves_next_after_drop s u w _ rfl hu h1 h2 h3).1,
   fun h3 => by
     obtain ⟨_, _, _, a, b, _⟩ := C02L.server_idle_after_drop s u w _ rfl hu h1 h2 h3
     exact ⟨a, b⟩⟩

/-- TESTS (concrete runs evaluated by the kernel, NOT theorems about all runs): a login-free pre-established session
delivers 1-, 2- and 5-fragment packets both ways exactly once, unchanged, and is quiescent again afterwards — immediate
and lazy mode; more tests (other codecs, raw mode, sequences, both directions at once) in `Lemmas/C02t*.lean`. -/
theorem world_tests :
    C02L.deliversOnce (demoImmediate .b32 .b32) true (demoFrame 9 4) 3 = true ∧
    C02L.deliversOnce (demoImmediate .b32 .b32) true (demoFrame 9 30) 5 = true ∧
    C02L.deliversOnce (demoImmediate .b32 .b32) true (demoFrame 9 100) 11 = true ∧
    C02L.deliversOnce (demoImmediate .b32 .b32) false (demoFrame 2 4) 3 = true ∧
    C02L.deliversOnce (demoImmediate .b32 .b32) false (demoFrame 2 30) 8 = true ∧
    C02L.deliversOnce (demoImmediate .b32 .b32) false (demoFrame 2 100) 14 = true ∧
    C02L.deliversOnce (demoLazy .b32 .b32) true (demoFrame 9 4) 3 = true ∧
    C02L.deliversOnce (demoLazy .b32 .b32) true (demoFrame 9 30) 5 = true ∧
    C02L.deliversOnce (demoLazy .b32 .b32) true (demoFrame 9 100) 11 = true ∧
    C02L.deliversOnce (demoLazy .b32 .b32) false (demoFrame 2 4) 3 = true ∧
    C02L.deliversOnce (demoLazy .b32 .b32) false (demoFrame 2 30) 5 = true ∧
    C02L.deliversOnce (demoLazy .b32 .b32) false (demoFrame 2 100) 11 = true :=
  ⟨C02L.test_imm_up_1, C02L.test_imm_up_2, C02L.test_imm_up_5, C02L.test_imm_down_1, C02L.test_imm_down_2, C02L.test_imm_down_5,
   C02L.test_lazy_up_1, C02L.test_lazy_up_2, C02L.test_lazy_up_5, C02L.test_lazy_down_1, C02L.test_lazy_down_2, C02L.test_lazy_down_5⟩

/-- The parameters the theorems quantify over: user id `u < 16`; one of the four upstream codecs on both sides; a host name
limit `100 ≤ L ≤ 255`; a tunnel domain `td` that is a legal name of 3..128 bytes without `*` and NUL with `|td| + 24 ≤ L`
(the hypotheses of C08); a query type the server handles as tunnel traffic. -/
abbrev Params (P : C02L.Par) : Prop := P.Ok

/-- Quiescent joint state in immediate mode (`C02L.QuietImm`, spelled out in `quiescent_iff`). -/
abbrev Quiescent (P : C02L.Par) (w : W) : Prop := C02L.QuietImm P w

/-- the clauses of `Quiescent`, one level down (the named conditions `CStat`, `SStat`, `IdleImm`, `Aged`, `PAged` stay folded;
what they say is spelled out here in words): nothing in flight; the client thread is parked in `client_tunnel`'s `select`, running,
in DNS mode, immediate mode, with the session's parameters, not sending, not expired; on the server only slot `u` is
active — authenticated, DNS mode, same codec, immediate mode, no outpacket, empty queue, no query held, answers to the
client's address, not expired —; both reassemblers agree with the peer's sender on the current sequence number; and the
server's duplicate memories hold, of this session's data queries and pings, only ones older than the next one
(`C02L.Aged`, `C02L.PAged`: an entry written `i` saves ago carries a counter value at most `i + 1` sends old). -/
theorem quiescent_iff (P : C02L.Par) (w : W) :
    Quiescent P w ↔
      (w.up = [] ∧ w.down = [] ∧ w.cs.ph = .tunnel ∧
       C02L.CStat P w.cs.c ∧ Client.isSending w.cs.c = false ∧
       C02L.SStat P w.srv ∧ C02L.IdleImm (Server.getUser w.srv P.u) ∧ (Server.getUser w.srv P.u).oqFilled = 0 ∧
       (Server.getUser w.srv P.u).inpacket.seqno = w.cs.c.outpkt.seqno ∧
       (Server.getUser w.srv P.u).outpacket.seqno = w.cs.c.inpkt.seqno ∧
       C02L.Aged P (Server.getUser w.srv P.u) w.cs.c.datacmc 1 ∧
       C02L.PAged P (Server.getUser w.srv P.u) w.cs.c.randSeed 1) :=
  ⟨fun h => ⟨h.up, h.down, h.ph, h.cst, h.idleC, h.srv, h.idle, h.oq, h.syncu, h.syncd, h.aged, h.paged⟩,
   fun ⟨a, b, c, d, e, f, g, h, i, j, k, l⟩ => ⟨c, d, e, a, b, f, g, h, i, j, k, l⟩⟩

/-- a quiescent state is one in which the executable `quiet` test of the scheduler holds -/
theorem quiescent_quiet {P : C02L.Par} {w : W} (h : Quiescent P w) : quiet P.u w = true := C02L.QuietImmS.quiet h

/-- the number of fragments the client cuts the (compressed) frame into -/
abbrev fragments (P : C02L.Par) (frame : List Nat) : Nat := C02L.upFrags P (frame.length + 1) (0x5a :: frame)

/-- A frame the property speaks about, upstream: an IP packet (4-byte tun header + at least an IP header) shorter than
64 KiB, made of bytes, needing at most 16 fragments, and not addressed to the client's own tunnel address `tunIp` (such a
packet is handed back to the client instead of the tun device). -/
abbrev AcceptableUp (P : C02L.Par) (tunIp : Nat) (frame : List Nat) : Prop := C02L.UpFrameOk P tunIp frame

/-- what `write_tun` writes for a frame: the frame with its 4-byte tun header set to 00 00 08 00 -/
abbrev tunImage (frame : List Nat) : List Nat := C02L.tunImage frame

/-- For every payload that needs `g ≤ 16` fragments: from a quiescent joint state
in immediate mode, `offerC frame` followed by the prompt schedule reaches, after exactly `2·g + 1` scheduler steps, a
quiescent state again; the server has written exactly one frame to its tun device — the offered one — and the client
none. -/
theorem clean_path_upstream_immediate {P : C02L.Par} (hP : Params P) {w : W} (hq : Quiescent P w) (frame : List Nat)
    (hok : AcceptableUp P (Server.getUser w.srv P.u).tunIp frame) :
    ∃ w', (∀ fuel, 2 * fragments P frame + 1 ≤ fuel → runPrompt P.u fuel (step w (.offerC frame)) = w') ∧
      (∀ fuel, 2 * fragments P frame + 1 ≤ fuel →
        runPromptCount P.u fuel (step w (.offerC frame)) 0 = (w', 2 * fragments P frame + 1)) ∧
      Quiescent P w' ∧ w'.tunS = w.tunS ++ [tunImage frame] ∧ w'.tunC = w.tunC := by
  obtain ⟨w', h1, h2, h3, h4, _⟩ := C02L.up_packet_imm hP hq frame hok.h24 hok.hl hok.bytes hok.dst hok.frags
  refine ⟨w', fun fuel hf => C02L.runPrompt_of_steps P.u _ _ _ h1 h2.quiet fuel hf, fun fuel hf => ?_, h2, h3, h4⟩
  have := C02L.runPromptCount_of_steps P.u _ _ _ h1 h2.quiet fuel 0 hf
  simpa using this

/-- The case of a payload that fits one upstream fragment: three scheduler steps
(`deliverUp`, `tickS`, `deliverDown`), exactly one `tunw` on the server side, equal to the frame.  Immediate mode, upstream.
(Downstream: `clean_path_single_fragment_down`; lazy mode: `clean_path_upstream_lazy`, `clean_path_downstream_lazy`.) -/
theorem clean_path_single_fragment {P : C02L.Par} (hP : Params P) {w : W} (hq : Quiescent P w) (frame : List Nat)
    (hok : AcceptableUp P (Server.getUser w.srv P.u).tunIp frame) (h1 : fragments P frame = 1) :
    ∃ w', runPromptCount P.u 3 (step w (.offerC frame)) 0 = (w', 3) ∧
      Quiescent P w' ∧ w'.tunS = w.tunS ++ [tunImage frame] ∧ w'.tunC = w.tunC := by
  obtain ⟨w', _, h2, h3, h4, h5⟩ := clean_path_upstream_immediate hP hq frame hok
  have := h2 3 (by rw [h1]; omega)
  rw [h1] at this
  exact ⟨w', this, h3, h4, h5⟩

/-- sequences upstream, immediate mode: every sequence of acceptable frames, each offered after the previous one was
delivered (prompt path), arrives at the server's tun device exactly once and in the order offered; nothing is written to the
client's tun device; the joint state is quiescent again. -/
theorem clean_path_sequence_upstream_immediate {P : C02L.Par} (hP : Params P) (fuel : Nat) (hfuel : 33 ≤ fuel)
    (frames : List (List Nat)) (w : W) (hq : Quiescent P w)
    (hok : ∀ f ∈ frames, AcceptableUp P (Server.getUser w.srv P.u).tunIp f) :
    Quiescent P (offerAllC P.u fuel w frames) ∧
    (offerAllC P.u fuel w frames).tunS = w.tunS ++ frames.map tunImage ∧
    (offerAllC P.u fuel w frames).tunC = w.tunC :=
  C02L.up_sequence_imm hP fuel hfuel frames w hq hok

/-- Quiescent joint state in lazy mode (`C02L.QuietLazy`): as `Quiescent`, but the server HOLDS exactly one query of the
client — its most recent one, a ping or the last data query — unanswered in `q`, and the client's answer counting is in
balance (so that `send_query` does not switch lazy mode off). -/
abbrev QuiescentLazy (P : C02L.Par) (w : W) : Prop := C02L.QuietLazy P w

theorem quiescentLazy_quiet {P : C02L.Par} {w : W} (h : QuiescentLazy P w) : quiet P.u w = true := C02L.QuietLazy.quiet h

/-- The statement of `clean_path_upstream_immediate` in lazy mode — the held query is
answered instead of the new one, which is then held; same `2·g + 1` steps. -/
theorem clean_path_upstream_lazy {P : C02L.Par} (hP : Params P) {w : W} (hq : QuiescentLazy P w) (frame : List Nat)
    (hok : AcceptableUp P (Server.getUser w.srv P.u).tunIp frame) :
    ∃ w', (∀ fuel, 2 * fragments P frame + 1 ≤ fuel → runPrompt P.u fuel (step w (.offerC frame)) = w') ∧
      (∀ fuel, 2 * fragments P frame + 1 ≤ fuel →
        runPromptCount P.u fuel (step w (.offerC frame)) 0 = (w', 2 * fragments P frame + 1)) ∧
      QuiescentLazy P w' ∧ w'.tunS = w.tunS ++ [tunImage frame] ∧ w'.tunC = w.tunC :=
  C02L.clean_path_upstream_lazy hP hq frame hok

theorem clean_path_sequence_upstream_lazy {P : C02L.Par} (hP : Params P) (fuel : Nat) (hfuel : 33 ≤ fuel)
    (frames : List (List Nat)) (w : W) (hq : QuiescentLazy P w)
    (hok : ∀ f ∈ frames, AcceptableUp P (Server.getUser w.srv P.u).tunIp f) :
    QuiescentLazy P (offerAllC P.u fuel w frames) ∧
    (offerAllC P.u fuel w frames).tunS = w.tunS ++ frames.map tunImage ∧
    (offerAllC P.u fuel w frames).tunC = w.tunC :=
  C02L.up_sequence_lazy hP fuel hfuel frames w hq hok

/-- non-vacuity: the lazy demo session (the client's first ping held by the server) -/
example : QuiescentLazy C02L.exPL C02L.exWL ∧ AcceptableUp C02L.exPL (Server.getUser C02L.exWL.srv C02L.exPL.u).tunIp (demoFrame 9 30) :=
  ⟨C02L.ex_quiescent_lazy, C02L.ex_acceptable_lazy.1⟩

/-- the number of fragments the server cuts the (compressed) frame into at fragment size `F` -/
abbrev fragmentsDown (F : Nat) (frame : List Nat) : Nat := C02L.downFrags F (frame.length + 1) (frame.length + 1)

/-- A frame the property speaks about, downstream: an IP packet shorter than 64 KiB, addressed to the client's tunnel
address `tunIp` (that is how the server finds the user), needing at most 16 fragments of size `F`. -/
abbrev AcceptableDown (tunIp F : Nat) (frame : List Nat) : Prop := C02L.DownFrameOk tunIp F frame

/-- the timers leave room for one poll of the client: its `select` timeout is below the server's 10 s and neither 60 s
limit is reached within it (in immediate mode downstream data waits for the client's next ping) -/
abbrev Roomy (P : C02L.Par) (w : W) : Prop := C02L.Roomy P w

/-- scheduler steps of a downstream packet of `g` fragments: 3 for one fragment (`tickC deliverUp deliverDown`), else
`2·g + 4` (each further fragment is fetched by the ping that acknowledges the previous one; the last acknowledgement waits
for the client's 5 ms timer) -/
abbrev stepsDown (g : Nat) : Nat := C02L.downSteps g

/-- For every payload of `g ≤ 16` fragments and every fragment size `≥ 1`: from a
quiescent joint state in immediate mode with timer room, `offerS frame` followed by the prompt schedule reaches, after
exactly `stepsDown g` steps, a quiescent state again; the client has written exactly the offered frame to its tun device
and the server nothing; there is timer room again. -/
theorem clean_path_downstream_immediate {P : C02L.Par} (hP : Params P) {w : W} (hq : Quiescent P w) (hr : Roomy P w)
    (frame : List Nat) (hF : 0 < (Server.getUser w.srv P.u).fragsize)
    (hok : AcceptableDown (Server.getUser w.srv P.u).tunIp (Server.getUser w.srv P.u).fragsize frame)
    (hsel : w.cs.c.selecttimeout ≤ 9) :
    ∃ w', (∀ fuel, stepsDown (fragmentsDown (Server.getUser w.srv P.u).fragsize frame) ≤ fuel →
        runPromptCount P.u fuel (step w (.offerS frame)) 0 =
          (w', stepsDown (fragmentsDown (Server.getUser w.srv P.u).fragsize frame))) ∧
      Quiescent P w' ∧ Roomy P w' ∧ w'.tunC = w.tunC ++ [tunImage frame] ∧ w'.tunS = w.tunS := by
  obtain ⟨w', h1, h2, h3, h4, _, _, h7, h8, h9, h10⟩ := C02L.down_packet_imm hP hq frame hF hok hr.to hr.cli hr.srv
  refine ⟨w', fun fuel hf => ?_, h2, C02L.roomy_after h2 h7 h8 (by rw [h9]; exact hsel) h10, h3, h4⟩
  have := C02L.runPromptCount_of_steps P.u _ _ _ h1 h2.quiet fuel 0 hf
  simpa using this

/-- `clean_path_single_fragment` downstream: a payload that fits one downstream fragment: three scheduler steps,
exactly one `tunw` on the client side, equal to the frame. -/
theorem clean_path_single_fragment_down {P : C02L.Par} (hP : Params P) {w : W} (hq : Quiescent P w) (hr : Roomy P w)
    (frame : List Nat) (hF : 0 < (Server.getUser w.srv P.u).fragsize)
    (hok : AcceptableDown (Server.getUser w.srv P.u).tunIp (Server.getUser w.srv P.u).fragsize frame)
    (hsel : w.cs.c.selecttimeout ≤ 9) (h1 : fragmentsDown (Server.getUser w.srv P.u).fragsize frame = 1) :
    ∃ w', runPromptCount P.u 3 (step w (.offerS frame)) 0 = (w', 3) ∧
      Quiescent P w' ∧ w'.tunC = w.tunC ++ [tunImage frame] ∧ w'.tunS = w.tunS := by
  obtain ⟨w', h2, h3, _, h4, h5⟩ := clean_path_downstream_immediate hP hq hr frame hF hok hsel
  have := h2 3 (by rw [h1]; decide)
  rw [h1] at this
  exact ⟨w', this, h3, h4, h5⟩

/-- sequences downstream, immediate mode -/
theorem clean_path_sequence_downstream_immediate {P : C02L.Par} (hP : Params P) (fuel : Nat) (hfuel : 36 ≤ fuel)
    (frames : List (List Nat)) (w : W) (hq : Quiescent P w) (hr : Roomy P w) (hsel : w.cs.c.selecttimeout ≤ 9)
    (hF : 0 < (Server.getUser w.srv P.u).fragsize)
    (hok : ∀ f ∈ frames, AcceptableDown (Server.getUser w.srv P.u).tunIp (Server.getUser w.srv P.u).fragsize f) :
    Quiescent P (offerAllS P.u fuel w frames) ∧
    (offerAllS P.u fuel w frames).tunC = w.tunC ++ frames.map tunImage ∧
    (offerAllS P.u fuel w frames).tunS = w.tunS :=
  C02L.down_sequence_imm hP fuel hfuel frames w hq hr hsel hF hok

/-- an offer the property speaks about (either direction) -/
abbrev AcceptableOffer (P : C02L.Par) (tunIp F : Nat) (o : Offer) : Prop := C02L.OfferOk P tunIp F o

/-- Immediate mode: packets offered on BOTH sides, in any
interleaving, each one after the previous one was delivered (prompt path): every frame reaches the peer's tun device
exactly once, each direction in the order offered (`Offer.ups` / `Offer.downs` = the offers of a direction, in order); the
joint state is quiescent again. -/
theorem clean_path_exactly_once_in_order_immediate {P : C02L.Par} (hP : Params P) (fuel : Nat) (hfuel : 36 ≤ fuel)
    (offers : List Offer) (w : W) (hq : Quiescent P w) (hr : Roomy P w) (hsel : w.cs.c.selecttimeout ≤ 9)
    (hF : 0 < (Server.getUser w.srv P.u).fragsize)
    (hok : ∀ o ∈ offers, AcceptableOffer P (Server.getUser w.srv P.u).tunIp (Server.getUser w.srv P.u).fragsize o) :
    Quiescent P (offerAll P.u fuel w offers) ∧
    (offerAll P.u fuel w offers).tunS = w.tunS ++ (Offer.ups offers).map tunImage ∧
    (offerAll P.u fuel w offers).tunC = w.tunC ++ (Offer.downs offers).map tunImage := by
  have := C02L.offerAll_induct (u := P.u) (fuel := fuel)
    (Q := fun w => C02L.QuietImm P w ∧ C02L.Roomy P w ∧ w.cs.c.selecttimeout ≤ 9 ∧ 0 < (Server.getUser w.srv P.u).fragsize)
    (ok := fun w o => C02L.OfferOk P (Server.getUser w.srv P.u).tunIp (Server.getUser w.srv P.u).fragsize o)
    ?_ ?_ offers w ⟨hq, hr, hsel, hF⟩ hok
  · exact ⟨this.1.1, this.2⟩
  · intro w f ⟨hq, hr, hsel, hF⟩ ho
    have hf : C02L.UpFrameOk P (Server.getUser w.srv P.u).tunIp f := ho
    obtain ⟨w', h1, h2, h3, h4, h5, h6, h7, h8⟩ := C02L.up_packet_imm hP hq f hf.h24 hf.hl hf.bytes hf.dst hf.frags
    rw [C02L.runPrompt_of_steps P.u _ _ _ h1 h2.quiet fuel (by have := hf.frags; omega)]
    exact ⟨⟨h2, C02L.roomy_of_sps h2 h6, by rw [h7]; exact hsel, by rw [h8]; exact hF⟩, by rw [h3]; rfl, h4,
      fun o ho => by rw [h5, h8]; exact ho⟩
  · intro w f ⟨hq, hr, hsel, hF⟩ ho
    have hf : C02L.DownFrameOk (Server.getUser w.srv P.u).tunIp (Server.getUser w.srv P.u).fragsize f := ho
    obtain ⟨w', h1, h2, h3, h4, h5, h6, h7, h8, h9, h10⟩ := C02L.down_packet_imm hP hq f hF hf hr.to hr.cli hr.srv
    have hsteps : C02L.downSteps (C02L.downFrags (Server.getUser w.srv P.u).fragsize (f.length + 1) (f.length + 1)) ≤ fuel := by
      have := hf.frags
      unfold C02L.downSteps
      split <;> omega
    rw [C02L.runPrompt_of_steps P.u _ _ _ h1 h2.quiet fuel hsteps]
    exact ⟨⟨h2, C02L.roomy_after h2 h7 h8 (by rw [h9]; exact hsel) h10, by rw [h9]; exact hsel, by rw [h5]; exact hF⟩, h3, h4,
      fun o ho => by rw [h5, h6]; exact ho⟩

/-- scheduler steps of a downstream packet of `g` fragments in lazy mode, `sps` = the client's `send_ping_soon` at the start:
`2·g + 1` (`deliverDown`, then `deliverUp deliverDown` per further fragment — the server answers the acknowledging ping with
the next fragment —, then `tickC deliverUp` for the last acknowledgement, which the server holds); but 2 if `g = 1` and a
ping was due at the client anyway (`sps ≠ 0`): then the acknowledgement leaves in the same step the fragment arrives. -/
abbrev stepsDownLazy (sps g : Nat) : Nat := C02L.downStepsL sps g

/-- For every payload of `g ≤ 16` fragments and every fragment size `≥ 1`: from ANY
quiescent joint state in lazy mode: the server answers the held query with the first fragment at once; after exactly
`stepsDownLazy sps g` steps the joint state is quiescent again, the client has written exactly the offered frame to its
tun device and the server nothing.  No timing hypothesis (no clock advances). -/
theorem clean_path_downstream_lazy {P : C02L.Par} (hP : Params P) {w : W} (hq : QuiescentLazy P w)
    (frame : List Nat) (hF : 0 < (Server.getUser w.srv P.u).fragsize)
    (hok : AcceptableDown (Server.getUser w.srv P.u).tunIp (Server.getUser w.srv P.u).fragsize frame) :
    ∃ w', (∀ fuel, 2 * fragmentsDown (Server.getUser w.srv P.u).fragsize frame + 1 ≤ fuel →
        runPromptCount P.u fuel (step w (.offerS frame)) 0 =
          (w', stepsDownLazy w.cs.c.sendPingSoon (fragmentsDown (Server.getUser w.srv P.u).fragsize frame))) ∧
      QuiescentLazy P w' ∧ w'.cs.c.sendPingSoon = 0 ∧ w'.tunC = w.tunC ++ [tunImage frame] ∧ w'.tunS = w.tunS := by
  obtain ⟨w', _, h2, h3, h4, h5, h6⟩ := C02L.clean_path_downstream_lazy_counted hP hq frame hF hok
  exact ⟨w', h2, h3, h4, h5, h6⟩

/-- the step count really depends on the ping timer: the quiescent state `C02L.exWU` (after one upstream packet,
`send_ping_soon = 20`) delivers a one-fragment frame in 2 steps, and a third step does not exist -/
example : QuiescentLazy C02L.exPL C02L.exWU ∧
    C02L.promptSteps 0 3 (step C02L.exWU (.offerS (demoFrame 2 4))) = none ∧
    ∃ w', C02L.promptSteps 0 2 (step C02L.exWU (.offerS (demoFrame 2 4))) = some w' ∧ QuiescentLazy C02L.exPL w' ∧
      w'.tunC = C02L.exWU.tunC ++ [demoFrame 2 4] ∧ w'.tunS = C02L.exWU.tunS :=
  ⟨C02L.lazy_down_count_depends_on_ping_due.1, C02L.lazy_down_count_depends_on_ping_due.2.2.2.1,
    C02L.lazy_down_count_depends_on_ping_due.2.2.2.2⟩

/-- sequences downstream, lazy mode -/
theorem clean_path_sequence_downstream_lazy {P : C02L.Par} (hP : Params P) (fuel : Nat) (hfuel : 33 ≤ fuel)
    (frames : List (List Nat)) (w : W) (hq : QuiescentLazy P w) (hF : 0 < (Server.getUser w.srv P.u).fragsize)
    (hok : ∀ f ∈ frames, AcceptableDown (Server.getUser w.srv P.u).tunIp (Server.getUser w.srv P.u).fragsize f) :
    QuiescentLazy P (offerAllS P.u fuel w frames) ∧
    (offerAllS P.u fuel w frames).tunC = w.tunC ++ frames.map tunImage ∧
    (offerAllS P.u fuel w frames).tunS = w.tunS :=
  C02L.down_sequence_lazy hP fuel hfuel frames w hq hF hok

/-- Lazy mode: packets offered on BOTH sides, in any interleaving, each
one after the previous one was delivered: every frame reaches the peer's tun device exactly once, each direction in the
order offered; quiescent again. -/
theorem clean_path_exactly_once_in_order_lazy {P : C02L.Par} (hP : Params P) (fuel : Nat) (hfuel : 33 ≤ fuel)
    (offers : List Offer) (w : W) (hq : QuiescentLazy P w) (hF : 0 < (Server.getUser w.srv P.u).fragsize)
    (hok : ∀ o ∈ offers, AcceptableOffer P (Server.getUser w.srv P.u).tunIp (Server.getUser w.srv P.u).fragsize o) :
    QuiescentLazy P (offerAll P.u fuel w offers) ∧
    (offerAll P.u fuel w offers).tunS = w.tunS ++ (Offer.ups offers).map tunImage ∧
    (offerAll P.u fuel w offers).tunC = w.tunC ++ (Offer.downs offers).map tunImage := by
  have := C02L.offerAll_induct (u := P.u) (fuel := fuel)
    (Q := fun w => C02L.QuietLazy P w ∧ 0 < (Server.getUser w.srv P.u).fragsize)
    (ok := fun w o => C02L.OfferOk P (Server.getUser w.srv P.u).tunIp (Server.getUser w.srv P.u).fragsize o)
    ?_ ?_ offers w ⟨hq, hF⟩ hok
  · exact ⟨this.1.1, this.2⟩
  · intro w f ⟨hq, hF⟩ ho
    have hf : C02L.UpFrameOk P (Server.getUser w.srv P.u).tunIp f := ho
    obtain ⟨w', h1, h2, h3, h4, h5, h6⟩ := C02L.up_packet_lazy hP hq f hf.h24 hf.hl hf.bytes hf.dst hf.frags
    rw [C02L.runPrompt_of_steps P.u _ _ _ h1 h2.quiet fuel (by have := hf.frags; omega)]
    exact ⟨⟨h2, by rw [h6]; exact hF⟩, by rw [h3]; rfl, h4, fun o ho => by rw [h5, h6]; exact ho⟩
  · intro w f ⟨hq, hF⟩ ho
    have hf : C02L.DownFrameOk (Server.getUser w.srv P.u).tunIp (Server.getUser w.srv P.u).fragsize f := ho
    obtain ⟨w', h1, h2, _, h4, h5, h6, h7⟩ := C02L.down_packet_lazy hP hq f hF hf
    have hsteps : C02L.downStepsL w.cs.c.sendPingSoon
        (C02L.downFrags (Server.getUser w.srv P.u).fragsize (f.length + 1) (f.length + 1)) ≤ fuel := by
      have := hf.frags
      have := C02L.downStepsL_le w.cs.c.sendPingSoon (C02L.downFrags (Server.getUser w.srv P.u).fragsize (f.length + 1) (f.length + 1))
      omega
    rw [C02L.runPrompt_of_steps P.u _ _ _ h1 h2.quiet fuel hsteps]
    exact ⟨⟨h2, by rw [h6]; exact hF⟩, h4, h5, fun o ho => by rw [h6, h7]; exact ho⟩

/-- non-vacuity and the theorem applied: on the lazy demo session a one-fragment frame up, a two-fragment frame down and a
two-fragment frame up arrive, each side in order -/
example : (offerAll 0 40 C02L.exWL [.toServer (demoFrame 9 4), .toClient (demoFrame 2 30), .toServer (demoFrame 9 30)]).tunS =
      [demoFrame 9 4, demoFrame 9 30] ∧
    (offerAll 0 40 C02L.exWL [.toServer (demoFrame 9 4), .toClient (demoFrame 2 30), .toServer (demoFrame 9 30)]).tunC =
      [demoFrame 2 30] := by
  have hok : ∀ o ∈ [Offer.toServer (demoFrame 9 4), .toClient (demoFrame 2 30), .toServer (demoFrame 9 30)],
      AcceptableOffer C02L.exPL (Server.getUser C02L.exWL.srv C02L.exPL.u).tunIp (Server.getUser C02L.exWL.srv C02L.exPL.u).fragsize o := by
    intro o ho
    simp only [List.mem_cons, List.not_mem_nil, or_false] at ho
    rcases ho with rfl | rfl | rfl
    · exact ⟨by decide, by decide, by unfold Codec.Bytes; decide, by decide +kernel, by decide +kernel⟩
    · exact C02L.ex_acceptable_down_lazy.1
    · exact C02L.ex_acceptable_lazy.1
  have := clean_path_exactly_once_in_order_lazy C02L.exPL_ok 40 (by decide) _ C02L.exWL C02L.ex_quiescent_lazy
    (by rw [C02L.exWL_fragsize]; decide) hok
  have ht : C02L.exWL.tunS = [] ∧ C02L.exWL.tunC = [] := by decide +kernel
  refine ⟨?_, ?_⟩
  · rw [show C02L.exPL.u = 0 from rfl] at this
    rw [this.2.1, ht.1]; decide
  · rw [show C02L.exPL.u = 0 from rfl] at this
    rw [this.2.2, ht.2]; decide

/-- Quiescent joint state in raw mode (`C02L.QuietRaw`): nothing in flight; client running in raw mode with user id
`u < 16`, not expired; on the server only slot `u` is active — authenticated also for raw mode, `conn = rawUdp`, answering
to the client's address, not expired, nothing queued. -/
abbrev QuiescentRaw (u : Nat) (w : W) : Prop := C02L.QuietRaw u w

/-- the client's raw-mode keepalive is due (`lastrawping + selecttimeout ≤ now`): the next handler is preceded by a raw ping -/
abbrev keepaliveDue (c : Client.Cli) : Prop := C02L.kaDue c

/-- Raw mode carries a packet in ONE datagram of at most 4096 bytes: a frame of at most 4091
bytes offered on either side is written to the peer's tun device exactly once — after one scheduler step, or three when the
client's keepalive is due (the ping and its answer travel as well; then both sides have heard from each other, which is
what keeps a session with one-directional traffic alive).  Longer frames are silently TRUNCATED by `send_raw`
(`C02L.raw_up_long_truncated`, `C02L.raw_down_long_truncated`). -/
theorem clean_path_raw {u : Nat} {w : W} (hq : QuiescentRaw u w) (hsel : 0 < w.cs.c.selecttimeout) (f : List Nat)
    (h24 : 24 ≤ f.length) (hlen : f.length + 1 ≤ 4092) :
    (Server.ipDst f ≠ (Server.getUser w.srv u).tunIp →
      ∃ k w', k ≤ 3 ∧ (∀ fuel, k ≤ fuel → runPrompt u fuel (step w (.offerC f)) = w') ∧ QuiescentRaw u w' ∧
        w'.tunS = w.tunS ++ [tunImage f] ∧ w'.tunC = w.tunC ∧ (keepaliveDue w.cs.c → w'.cs.c.lastdownstreamtime = w'.cs.c.now)) ∧
    (Server.ipDst f = (Server.getUser w.srv u).tunIp →
      ∃ k w', k ≤ 3 ∧ (∀ fuel, k ≤ fuel → runPrompt u fuel (step w (.offerS f)) = w') ∧ QuiescentRaw u w' ∧
        w'.tunC = w.tunC ++ [tunImage f] ∧ w'.tunS = w.tunS ∧
        (keepaliveDue w.cs.c → (Server.getUser w'.srv u).lastPkt = w'.srv.now)) := by
  constructor
  · intro hd
    obtain ⟨k, w', hk, h1, h2, h3, h4, _, _, h7⟩ := C02L.raw_up_any hq hsel f ⟨h24, hlen, hd⟩
    exact ⟨k, w', hk, fun fuel hf => C02L.runPrompt_of_steps u _ _ _ h1 h2.quiet fuel hf, h2, h3, h4, h7⟩
  · intro hd
    obtain ⟨k, w', hk, h1, h2, h3, h4, _, _, h7⟩ := C02L.raw_down_any hq hsel f ⟨h24, hlen, hd⟩
    exact ⟨k, w', hk, fun fuel hf => C02L.runPrompt_of_steps u _ _ _ h1 h2.quiet fuel hf, h2, h3, h4, h7⟩

/-- sequences in raw mode, each direction -/
theorem clean_path_sequence_raw {u : Nat} (fuel : Nat) (hfuel : 3 ≤ fuel) (frames : List (List Nat)) (w : W)
    (hq : QuiescentRaw u w) (hsel : 0 < w.cs.c.selecttimeout) :
    ((∀ f ∈ frames, C02L.RawUpOk (Server.getUser w.srv u).tunIp f) →
      QuiescentRaw u (offerAllC u fuel w frames) ∧ (offerAllC u fuel w frames).tunS = w.tunS ++ frames.map tunImage ∧
      (offerAllC u fuel w frames).tunC = w.tunC) ∧
    ((∀ f ∈ frames, C02L.RawDownOk (Server.getUser w.srv u).tunIp f) →
      QuiescentRaw u (offerAllS u fuel w frames) ∧ (offerAllS u fuel w frames).tunC = w.tunC ++ frames.map tunImage ∧
      (offerAllS u fuel w frames).tunS = w.tunS) :=
  ⟨C02L.up_sequence_raw fuel hfuel frames w hq hsel, C02L.down_sequence_raw fuel hfuel frames w hq hsel⟩

/-- an offer the raw-mode theorem speaks about -/
abbrev AcceptableOfferRaw (tunIp : Nat) (o : Offer) : Prop := C02L.RawOfferOk tunIp o

/-- Raw mode: packets offered on both sides, in any interleaving, one
after the other. -/
theorem clean_path_exactly_once_in_order_raw {u : Nat} (fuel : Nat) (hfuel : 3 ≤ fuel) (offers : List Offer) (w : W)
    (hq : QuiescentRaw u w) (hsel : 0 < w.cs.c.selecttimeout)
    (hok : ∀ o ∈ offers, AcceptableOfferRaw (Server.getUser w.srv u).tunIp o) :
    QuiescentRaw u (offerAll u fuel w offers) ∧
    (offerAll u fuel w offers).tunS = w.tunS ++ (Offer.ups offers).map tunImage ∧
    (offerAll u fuel w offers).tunC = w.tunC ++ (Offer.downs offers).map tunImage :=
  C02L.mixed_sequence_raw fuel hfuel offers w hq hsel hok

/-- A finding.  `send_raw` copies at most `4096 − 4` bytes: a frame of 4092 bytes
or more (compressed: one byte more) offered in raw mode on either side reaches the peer's tun device exactly once but CUT to
4091 bytes — in the model, whose compression is transparent; with zlib the cut stream does not decompress and the packet is
lost.  Not reachable with the default tun MTU (1130), only when the MTU is raised above 4 KiB. -/
theorem raw_long_frames_truncated {u : Nat} {w : W} (hq : QuiescentRaw u w) (f : List Nat) (hlong : 4092 ≤ f.length)
    (hlen : f.length < 65536) (hnd : ¬ keepaliveDue w.cs.c) :
    (Server.ipDst f ≠ (Server.getUser w.srv u).tunIp →
      ∃ w', runPrompt u 1 (step w (.offerC f)) = w' ∧ QuiescentRaw u w' ∧
        w'.tunS = w.tunS ++ [tunImage (f.take 4091)] ∧ w'.tunS ≠ w.tunS ++ [tunImage f]) ∧
    (Server.ipDst f = (Server.getUser w.srv u).tunIp →
      ∃ w', runPrompt u 1 (step w (.offerS f)) = w' ∧ QuiescentRaw u w' ∧
        w'.tunC = w.tunC ++ [tunImage (f.take 4091)] ∧ w'.tunC ≠ w.tunC ++ [tunImage f]) := by
  constructor
  · intro hd
    obtain ⟨w', h1, h2, h3, h4⟩ := C02L.raw_up_long_truncated hq f hlong hlen hd hnd
    exact ⟨w', C02L.runPrompt_of_steps u _ _ _ h1 h2.quiet 1 (Nat.le_refl _), h2, h3, h4⟩
  · intro hd
    obtain ⟨w', h1, h2, h3, h4⟩ := C02L.raw_down_long_truncated hq f hlong hlen hd hnd
    exact ⟨w', C02L.runPrompt_of_steps u _ _ _ h1 h2.quiet 1 (Nat.le_refl _), h2, h3, h4⟩

/-- The three modes together.  On a prompt loss-free path, packets
offered on both sides in any interleaving — each one after the previous one was delivered — reach the peer's tun device
exactly once, each direction in the order offered, and the joint state is quiescent again: in immediate DNS mode (with
timer room for the client's polls), in lazy DNS mode, and in raw mode (frames up to 4091 bytes).

PARTIAL with respect to the property text — what is missing:
* OVERLAPPING transfers: a packet offered on one side while a transfer in the other direction is still in progress (here the
  prompt schedule is run to quiescence between two offers).  Lazy mode, a packet offered on each side before anything is
  delivered: proved, all fragment counts (`Props/C02b.lean`: the product invariant `C02L.BothFlightL`, `overlap_offer_lazy`,
  `overlap_round_lazy`, `overlap_single_lazy`; `Props/C02c.lean`: `clean_path_two_simultaneous_offers_lazy`).  Immediate mode,
  and an offer in the middle of a transfer: concrete runs only (`test_imm_both`, `test_lazy_both`).  Frames offered to the
  CLIENT while it is sending are not read at all (`client_tun_gating`); if handed in they are discarded
  (`client_tun_frame_while_sending`).
* more than one client (`Solo`: the other fifteen slots are inactive).
* recovery after loss, duplication, reordering, delay: (C) shows that neither side is stuck after giving up; bounded recovery
  is proved for one-direction blackouts (`Props/C02b.lean`, `Props/C02c.lean`), not for arbitrary faults. -/
theorem clean_path_exactly_once_in_order_partial (fuel : Nat) (hfuel : 36 ≤ fuel) (offers : List Offer) (w : W) :
    (∀ P : C02L.Par, Params P → Quiescent P w → Roomy P w → w.cs.c.selecttimeout ≤ 9 →
      0 < (Server.getUser w.srv P.u).fragsize →
      (∀ o ∈ offers, AcceptableOffer P (Server.getUser w.srv P.u).tunIp (Server.getUser w.srv P.u).fragsize o) →
      Quiescent P (offerAll P.u fuel w offers) ∧
      (offerAll P.u fuel w offers).tunS = w.tunS ++ (Offer.ups offers).map tunImage ∧
      (offerAll P.u fuel w offers).tunC = w.tunC ++ (Offer.downs offers).map tunImage) ∧
    (∀ P : C02L.Par, Params P → QuiescentLazy P w → 0 < (Server.getUser w.srv P.u).fragsize →
      (∀ o ∈ offers, AcceptableOffer P (Server.getUser w.srv P.u).tunIp (Server.getUser w.srv P.u).fragsize o) →
      QuiescentLazy P (offerAll P.u fuel w offers) ∧
      (offerAll P.u fuel w offers).tunS = w.tunS ++ (Offer.ups offers).map tunImage ∧
      (offerAll P.u fuel w offers).tunC = w.tunC ++ (Offer.downs offers).map tunImage) ∧
    (∀ u : Nat, QuiescentRaw u w → 0 < w.cs.c.selecttimeout →
      (∀ o ∈ offers, AcceptableOfferRaw (Server.getUser w.srv u).tunIp o) →
      QuiescentRaw u (offerAll u fuel w offers) ∧
      (offerAll u fuel w offers).tunS = w.tunS ++ (Offer.ups offers).map tunImage ∧
      (offerAll u fuel w offers).tunC = w.tunC ++ (Offer.downs offers).map tunImage) :=
  ⟨fun _ hP hq hr hsel hF hok => clean_path_exactly_once_in_order_immediate hP fuel hfuel offers w hq hr hsel hF hok,
   fun _ hP hq hF hok => clean_path_exactly_once_in_order_lazy hP fuel (by omega) offers w hq hF hok,
   fun _ hq hsel hok => clean_path_exactly_once_in_order_raw fuel (by omega) offers w hq hsel hok⟩

/-- non-vacuity: the raw demo session, also five seconds later when the keepalive is due -/
example : QuiescentRaw 0 demoRaw ∧ ¬ keepaliveDue demoRaw.cs.c ∧ QuiescentRaw 0 (step demoRaw (.advance 5)) ∧
    keepaliveDue (step demoRaw (.advance 5)).cs.c :=
  ⟨C02L.quietRaw_demoRaw, C02L.demoRaw_not_due, C02L.quietRaw_demoRaw_later.1, C02L.quietRaw_demoRaw_later.2.1⟩

/-- non-vacuity of (B): user 0, "t.ab", 100-character names, Base32, NULL queries -/
def exP : C02L.Par := ⟨0, demoDomain, 100, .b32, .b32, 10⟩

def exW : W :=
  ⟨⟨{ demoClient false false .b32 with hostnameMaxlen := 100 }, .tunnel⟩, demoServer false false .b32, [], [], [], []⟩

theorem exP_ok : Params exP :=
  ⟨by decide, C02L.upSetting_of_enc .b32 100 demoDomain (by decide) (by decide) (by decide) (by decide) (by decide),
   trivial, by unfold C02L.TunnelType; decide⟩

theorem ex_users : (demoServer false false .b32).users.length = 16 := by decide +kernel

theorem ex_solo : C02L.Solo 0 (demoServer false false .b32) :=
  C02L.Solo.of_table ex_users (by decide) (by decide +kernel) (by decide +kernel)

theorem ex_aged : C02L.Aged exP (Server.getUser (demoServer false false .b32) 0) 0 1 := by
  refine ⟨by decide +kernel, by decide +kernel, by decide +kernel, by decide +kernel, ?_, ?_⟩
  · intro i hi c ⟨h1, _⟩
    have : ∀ i, i < 15 → ((Server.getUser (demoServer false false .b32) 0).qmemdata.getD
        (C16L.ringPos Gen.QMEMDATA_LEN (Server.getUser (demoServer false false .b32) 0).qmemdataLast i) Server.QmemEntry.zero).type = 0 := by
      decide +kernel
    rw [this i hi] at h1
    exact absurd h1 (by decide)
  · intro i hi c ⟨h1, _⟩
    have : ∀ i, i < 4 → ((Server.getUser (demoServer false false .b32) 0).dnscache.getD
        (C16L.ringPos Gen.DNSCACHE_LEN (Server.getUser (demoServer false false .b32) 0).dcLast i) Server.DnsCacheEntry.zero).q.type = 0 := by
      decide +kernel
    rw [this i hi] at h1
    exact absurd h1 (by decide)

theorem ex_paged : C02L.PAged exP (Server.getUser (demoServer false false .b32) 0) 0 1 := by
  refine ⟨by decide +kernel, by decide +kernel, by decide +kernel, by decide +kernel, ?_, ?_⟩
  · intro i hi c ⟨h1, _⟩
    have : ∀ i, i < 30 → ((Server.getUser (demoServer false false .b32) 0).qmemping.getD
        (C16L.ringPos Gen.QMEMPING_LEN (Server.getUser (demoServer false false .b32) 0).qmempingLast i) Server.QmemEntry.zero).type = 0 := by
      decide +kernel
    rw [this i hi] at h1
    exact absurd h1 (by decide)
  · intro i hi c ⟨h1, _⟩
    have : ∀ i, i < 4 → ((Server.getUser (demoServer false false .b32) 0).dnscache.getD
        (C16L.ringPos Gen.DNSCACHE_LEN (Server.getUser (demoServer false false .b32) 0).dcLast i) Server.DnsCacheEntry.zero).q.type = 0 := by
      decide +kernel
    rw [this i hi] at h1
    exact absurd h1 (by decide)

theorem ex_quiescent : Quiescent exP exW := by
  refine ⟨rfl, ?_, by decide, rfl, rfl, ?_, ?_, by decide +kernel, by decide +kernel, by decide +kernel, ex_aged, ex_paged⟩
  · exact ⟨rfl, rfl, rfl, rfl, by decide, rfl, rfl, rfl, rfl, by decide, by decide, by decide, by decide, by decide, by decide, by decide⟩
  · refine ⟨ex_solo, by decide +kernel, ?_, by decide +kernel, by decide +kernel⟩
    exact ⟨by decide +kernel, by decide +kernel, by decide +kernel, by decide +kernel, by decide +kernel, by decide +kernel,
      by decide +kernel, by decide +kernel, by decide +kernel⟩
  · exact ⟨by decide +kernel, by decide +kernel, by decide +kernel, by decide +kernel⟩

theorem ex_acceptable : AcceptableUp exP (Server.getUser exW.srv exP.u).tunIp (demoFrame 9 30) ∧ fragments exP (demoFrame 9 30) = 2 := by
  refine ⟨⟨by decide, by decide, by unfold Codec.Bytes; decide, by decide +kernel, by decide +kernel⟩, by decide +kernel⟩

/-- the theorem applied: the 2-fragment frame arrives after exactly 5 scheduler steps, unchanged -/
example : ∃ w', runPromptCount 0 5 (step exW (.offerC (demoFrame 9 30))) 0 = (w', 5) ∧ Quiescent exP w' ∧
    w'.tunS = [demoFrame 9 30] ∧ w'.tunC = [] := by
  obtain ⟨w', _, h2, h3, h4, h5⟩ := clean_path_upstream_immediate exP_ok ex_quiescent (demoFrame 9 30) ex_acceptable.1
  have hi : tunImage (demoFrame 9 30) = demoFrame 9 30 := by decide
  refine ⟨w', ?_, h3, by rw [h4, hi]; rfl, h5⟩
  have := h2 5 (by rw [ex_acceptable.2]; omega)
  rw [ex_acceptable.2] at this
  exact this

/-- … and a sequence of three frames -/
example : (offerAllC 0 40 exW [demoFrame 9 4, demoFrame 9 30, demoFrame 9 10]).tunS = [demoFrame 9 4, demoFrame 9 30, demoFrame 9 10] := by
  have hok : ∀ f ∈ [demoFrame 9 4, demoFrame 9 30, demoFrame 9 10], AcceptableUp exP (Server.getUser exW.srv exP.u).tunIp f := by
    intro f hf
    simp only [List.mem_cons, List.not_mem_nil, or_false] at hf
    rcases hf with rfl | rfl | rfl
    · exact ⟨by decide, by decide, by unfold Codec.Bytes; decide, by decide +kernel, by decide +kernel⟩
    · exact ex_acceptable.1
    · exact ⟨by decide, by decide, by unfold Codec.Bytes; decide, by decide +kernel, by decide +kernel⟩
  have := (clean_path_sequence_upstream_immediate exP_ok 40 (by omega) _ exW ex_quiescent hok).2.1
  show (offerAllC exP.u 40 exW _).tunS = _
  rw [this]
  decide

/-- non-vacuity of the downstream theorem: the same session has timer room -/
theorem ex_roomy : Roomy exP exW := ⟨by decide, by decide +kernel, by decide +kernel⟩

theorem ex_acceptable_down :
    AcceptableDown (Server.getUser exW.srv exP.u).tunIp (Server.getUser exW.srv exP.u).fragsize (demoFrame 2 30) ∧
    fragmentsDown (Server.getUser exW.srv exP.u).fragsize (demoFrame 2 30) = 2 := by
  refine ⟨⟨by decide, by decide, by decide +kernel, by decide +kernel⟩, by decide +kernel⟩

/- … and the two-fragment frame addressed to the client arrives after exactly `2·2 + 4 = 8` scheduler steps, unchanged -/
example : ∃ w', runPromptCount 0 8 (step exW (.offerS (demoFrame 2 30))) 0 = (w', 8) ∧ Quiescent exP w' ∧
    w'.tunC = [demoFrame 2 30] ∧ w'.tunS = [] := by
  obtain ⟨w', h2, h3, _, h4, h5⟩ := clean_path_downstream_immediate exP_ok ex_quiescent ex_roomy (demoFrame 2 30)
    (by decide +kernel) ex_acceptable_down.1 (by decide)
  have hi : tunImage (demoFrame 2 30) = demoFrame 2 30 := by decide
  refine ⟨w', ?_, h3, by rw [h4, hi]; rfl, h5⟩
  have := h2 8 (by rw [ex_acceptable_down.2]; decide)
  rw [ex_acceptable_down.2] at this
  exact this

/-- … and packets offered alternately on both sides arrive in order -/
example : (offerAll 0 40 exW [.toServer (demoFrame 9 4), .toClient (demoFrame 2 30), .toServer (demoFrame 9 30)]).tunS =
      [demoFrame 9 4, demoFrame 9 30] ∧
    (offerAll 0 40 exW [.toServer (demoFrame 9 4), .toClient (demoFrame 2 30), .toServer (demoFrame 9 30)]).tunC = [demoFrame 2 30] := by
  have hok : ∀ o ∈ [Offer.toServer (demoFrame 9 4), .toClient (demoFrame 2 30), .toServer (demoFrame 9 30)],
      AcceptableOffer exP (Server.getUser exW.srv exP.u).tunIp (Server.getUser exW.srv exP.u).fragsize o := by
    intro o ho
    simp only [List.mem_cons, List.not_mem_nil, or_false] at ho
    rcases ho with rfl | rfl | rfl
    · exact (⟨by decide, by decide, by unfold Codec.Bytes; decide, by decide +kernel, by decide +kernel⟩ :
        C02L.UpFrameOk exP (Server.getUser exW.srv exP.u).tunIp (demoFrame 9 4))
    · exact ex_acceptable_down.1
    · exact ex_acceptable.1
  have := clean_path_exactly_once_in_order_immediate exP_ok 40 (by omega) _ exW ex_quiescent ex_roomy (by decide) (by decide +kernel) hok
  refine ⟨?_, ?_⟩
  · show (offerAll exP.u 40 exW _).tunS = _
    rw [this.2.1]; decide
  · show (offerAll exP.u 40 exW _).tunC = _
    rw [this.2.2]; decide

end Iodine.C02
