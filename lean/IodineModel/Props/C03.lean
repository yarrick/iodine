import IodineModel.Server.Run
import IodineModel.Lemmas.SrvC03e
/-
C03 — No tunnel access without answering the password challenge.

  The server writes a packet to its tun device, forwards a packet to another client, discloses its address,
  changes a session's codec, options or fragment size, or switches a session to raw UDP mode only on behalf of
  a session that has answered that session's current login challenge with the MD5 response derived from the
  server password.  This holds for every sequence of datagrams from any number of sources, including replays
  of logins for an earlier challenge, wrong or out-of-range userids, and raw-mode login/data/ping messages.

This file holds the specification side (what a request names, from doc/proto_00000502.txt; what a good login is; what
the privileged effects P1–P5 are; the history monitor) and the property theorems.  The statements are about
`Server.next` / `Server.out` (one iteration of `tunnel()`: top of loop, handler, sweep) for EVERY state, input and clock
value — the step theorems need no reachability — and, for the history theorem, about every run from `Server.start`
(monotone clock or not).  `C03L.stepOutcome` (Lemmas/SrvC03e.lean) classifies an iteration into: nothing privileged /
tun frame / allocation by `V` / good login / request of an authenticated session / good raw login / raw data of an
authenticated_raw session; every theorem below is a case analysis over it or over its per-slot form `slotOutcome`.
-/
namespace Iodine.C03
open Iodine Iodine.Server Iodine.C03L

/-- The data characters of a query for the tunnel domain: what precedes the top domain (the server looks at no
more than 512 of them; a DNS name has at most 255).  `none`: not a tunnel request, or fewer than two data
characters (no request is that short). -/
def payload (cfg : Config) (q : Query) : Option (List Nat) :=
  match Common.queryDatalen q.name cfg.topdomain with
  | some dlen => if 2 ≤ dlen then some (q.name.take (min dlen 512)) else none
  | none => none

/-- the Base32 field of a request: everything after the command character, dots removed, decoded -/
def b32Field (inb : List Nat) : List Nat := Encoding.unpackData Codec.b32 65536 (inb.drop 1)

/-- the command character is `lo` or its upper-case form `up` -/
abbrev cmdIs (inb : List Nat) (lo up : Nat) : Prop := inb.getD 0 0 = lo ∨ inb.getD 0 0 = up

/-- where a request carries its user id -/
inductive UidField where
  /-- `L`, `N`, `P`: first byte of the Base32 field (a C `char`: 128..255 are negative) -/
  | b32Byte
  /-- `I`, `S`, `O`: the Base32 digit after the command character (0..31) -/
  | b32Digit
  /-- `R`: bits 4..1 of the Base32 digit after the command character -/
  | probe
  /-- upstream data: the command character itself is the hex digit -/
  | hex

def uidField (inb : List Nat) : Option UidField :=
  if cmdIs inb 108 76 ∨ cmdIs inb 110 78 ∨ cmdIs inb 112 80 then some .b32Byte
  else if cmdIs inb 105 73 ∨ cmdIs inb 115 83 ∨ cmdIs inb 111 79 then some .b32Digit
  else if cmdIs inb 114 82 then some .probe
  else if isHexDigit (inb.getD 0 0) then some .hex
  else none

/-- The session slot a datagram names (`none`: the datagram has no user id field — `V`, `Z`, `Y`, anything that
is not a tunnel request, tun frames, …).  For raw frames: the low nibble of the fourth header byte. -/
def namedSlot (cfg : Config) : Input → Option Int
  | .q q =>
    match payload cfg q with
    | none => none
    | some inb =>
      match uidField inb with
      | none => none
      | some .b32Byte => some (charVal ((b32Field inb).getD 0 0))
      | some .b32Digit => some ((b32_8to5 (inb.getD 1 0) : Nat) : Int)
      | some .probe => some (((b32_8to5 (inb.getD 1 0) >>> 1) &&& 15 : Nat) : Int)
      | some .hex => some (hexCode (inb.getD 0 0))
  | .rawf _ bytes => some ((bytes.getD 3 0 &&& 15 : Nat) : Int)
  | _ => none

/-- the source address of a datagram -/
def srcOf : Input → Option Addr
  | .q q => some q.from_
  | .rawf src _ => some src
  | _ => none

/-- `q` is a login request (`l`/`L`, then Base32 of userid(1) ++ hash(16) ++ cmc(2)) whose 16 hash bytes are the
MD5 response for challenge `seed` under the server password -/
def goodLogin (cfg : Config) (seed : Nat) (q : Query) : Prop :=
  match payload cfg q with
  | none => False
  | some inb =>
    cmdIs inb 108 76 ∧ 18 ≤ (b32Field inb).length ∧
      ((b32Field inb).drop 1).take 16 = Login.loginCalcC cfg.password seed

instance (cfg : Config) (seed : Nat) (q : Query) : Decidable (goodLogin cfg seed q) := by
  unfold goodLogin; split <;> infer_instance

/-- `q` is a version request (`v`/`V`) -/
def versionReq (cfg : Config) (q : Query) : Prop :=
  match payload cfg q with
  | none => False
  | some inb => cmdIs inb 118 86

instance (cfg : Config) (q : Query) : Decidable (versionReq cfg q) := by
  unfold versionReq; split <;> infer_instance

/-- a raw login frame: header, then the 16-byte MD5 response for `seed + 1` -/
def goodRawLogin (cfg : Config) (seed : Nat) (bytes : List Nat) : Prop :=
  ((bytes.take 65536).drop 4).take 16 = Login.loginCalcC cfg.password (seed + 1)

/-- slot `u` exists, is in use, not disabled and not expired at time `now` -/
structure Live (s : Srv) (now : Nat) (u : Nat) : Prop where
  lt : u < s.cfg.createdUsers
  active : (getUser s u).active = true
  enabled : (getUser s u).disabled = false
  fresh : now ≤ (getUser s u).lastPkt + 60

/-- with `-c` off (source checking on) the datagram comes from the address the session is bound to -/
def SrcOk (s : Srv) (u : Nat) (src : Addr) : Prop :=
  s.cfg.checkIp = true → src.fam = (getUser s u).host.fam ∧ src.ip = (getUser s u).host.ip

/-- The iteration `(s, st)` works on behalf of session `u`, and `u` is authenticated in the state BEFORE the
iteration: the datagram names `u` and `u` is live.  That the source is the bound one is `SrcOk`, stated beside it in
the theorems for DNS mode and raw data/ping (a raw login re-binds the session, see `raw_switch_needs_authenticated`). -/
structure OnBehalf (s : Srv) (st : Step) (u : Nat) : Prop where
  named : namedSlot s.cfg st.inp = some (u : Int)
  live : Live s st.now u
  authenticated : (getUser s u).authenticated = true

/-- the VACK answer (to query `q`) announcing slot `u` and challenge `seed`: "VACK" ++ seed (4 bytes BE) ++ userid -/
def vackFor (q : Query) (u seed : Nat) (e : Event) : Prop :=
  ∃ dn, e = Event.ans q.from_ q.id q.type dn q.name (ascii "VACK" ++ beBytes 4 seed ++ [u % 256]) .ctrl

/-- The iteration allocated slot `u` by a version handshake: a `V` request, the slot was free (unused or
expired, not disabled), and the VACK carrying the slot's NEW challenge is among the events. -/
structure Allocated (s : Srv) (st : Step) (u : Nat) : Prop where
  isV : ∃ q, st.inp = .q q ∧ versionReq s.cfg q ∧ ∃ e ∈ out s st, vackFor q u (getUser (next s st) u).seed e
  free : ((getUser s u).active = false ∨ (getUser s u).lastPkt + 60 < st.now) ∧ (getUser s u).disabled = false

/-- P1: a packet is written to the tun device -/
def TunWrite (s : Srv) (st : Step) : Prop := ∃ f, Event.tunw f ∈ out s st

/-- number of downstream packets a session holds (the one in flight plus the queue) -/
def backlog (x : Session) : Nat := x.oqFilled + (if x.outpacket.len > 0 then 1 else 0)

/-- a raw frame with command DATA -/
abbrev isRawData (bytes : List Nat) : Prop := bytes.getD 3 0 &&& 240 = 32

/-- the input is a datagram from the network -/
def fromNetwork : Input → Prop
  | .q _ => True
  | .rawf _ _ => True
  | _ => False

/-- P2: a datagram from the network makes the server put a packet into some session's downstream: the backlog of
a slot grows, or a raw DATA frame is sent.  (Packets read from the tun device do the same; they are not a
client's doing.) -/
def Forwarded (s : Srv) (st : Step) : Prop :=
  fromNetwork st.inp ∧
    ((∃ v, backlog (getUser s v) < backlog (getUser (next s st) v)) ∨
     (∃ dst bytes, Event.raw dst bytes ∈ out s st ∧ isRawData bytes))

/-- the events of the handler phase of an iteration: those before the `sweep` marker -/
def handlerEvents (evs : List Event) : List Event := evs.takeWhile (fun e => e != Event.sweep)

/-- an answer of the data path: tunnel data header (+ fragment of a session's downstream packet), a replayed
cached one, or the reply to a recognised duplicate -/
def isDataAnswer : Event → Bool
  | .ans _ _ _ _ _ _ tag => tag != .ctrl
  | _ => false

/-- P2 (continued): a datagram from the network is answered, in the handler phase, with a tunnel data packet.  This
covers a forwarded packet that goes out at once (in the answer to a query of the target session that was waiting)
without ever enlarging the target's backlog. -/
def SendsTunnelData (s : Srv) (st : Step) : Prop :=
  fromNetwork st.inp ∧ ∃ e ∈ handlerEvents (out s st), isDataAnswer e = true

/-- P3: an answer to an `i`/`I` query whose data starts with 'I' (followed by the server's address) -/
def DisclosesAddr (s : Srv) (st : Step) : Prop :=
  ∃ dst id ty dn name data, Event.ans dst id ty dn name data .ctrl ∈ out s st ∧
    (name.getD 0 0 = 105 ∨ name.getD 0 0 = 73) ∧ data.head? = some 73

/-- P4: upstream codec, downstream codec, lazy mode or fragment size of slot `w` change -/
def CodecChange (s : Srv) (st : Step) (w : Nat) : Prop :=
  (getUser (next s st) w).encoder ≠ (getUser s w).encoder ∨
  (getUser (next s st) w).downenc ≠ (getUser s w).downenc ∨
  (getUser (next s st) w).lazy ≠ (getUser s w).lazy ∨
  (getUser (next s st) w).fragsize ≠ (getUser s w).fragsize

instance (s : Srv) (st : Step) (w : Nat) : Decidable (CodecChange s st w) := by unfold CodecChange; infer_instance

/-- P5: slot `w` is switched to raw UDP mode / becomes `authenticated_raw` -/
def RawSwitch (s : Srv) (st : Step) (w : Nat) : Prop :=
  ((getUser (next s st) w).conn = .rawUdp ∧ (getUser s w).conn ≠ .rawUdp) ∨
  ((getUser (next s st) w).authenticatedRaw = true ∧ (getUser s w).authenticatedRaw = false)

instance (s : Srv) (st : Step) (w : Nat) : Decidable (RawSwitch s st w) := by unfold RawSwitch; infer_instance

/-- All privileged effects of iteration `(s, st)`, attributed to slot `u`: P1–P3 (tun write, forwarding / tunnel
data in the answer, address disclosure) to the slot the datagram names,
P4 (unless it is the allocation of `u` by a version handshake) and P5 to the slot that changes. -/
def Privileged (s : Srv) (st : Step) (u : Nat) : Prop :=
  (namedSlot s.cfg st.inp = some (u : Int) ∧
    (TunWrite s st ∨ Forwarded s st ∨ DisclosesAddr s st ∨ SendsTunnelData s st)) ∨
  (CodecChange s st u ∧ ¬ Allocated s st u) ∨
  RawSwitch s st u

/-- what the monitor remembers of the history: which slots have answered their current challenge, and the seed
announced by the last VACK for each slot -/
structure Mon where
  authed : Nat → Bool
  seed : Nat → Option Nat

def Mon.init : Mon := ⟨fun _ => false, fun _ => none⟩

/-- slot and seed announced by an event, if it is a VACK: an answer to a `v`/`V` query with data
"VACK" ++ seed (4 bytes, big endian) ++ userid (1 byte) -/
def vackInfo : Event → Option (Nat × Nat)
  | .ans _ _ _ _ name data .ctrl =>
    if (name.getD 0 0 = 118 ∨ name.getD 0 0 = 86) ∧ data.take 4 = ascii "VACK" ∧ data.length = 9 then
      some (data.getD 8 0, beVal ((data.drop 4).take 4))
    else none
  | _ => none

/-- the monitor's judgement of a login request naming user id `i`: good for the seed of the last VACK for that slot -/
def Mon.loginOk (cfg : Config) (m : Mon) (q : Query) (i : Int) : Bool :=
  decide (0 ≤ i) &&
    match m.seed i.toNat with
    | some sd => decide (goodLogin cfg sd q)
    | none => false

/-- The monitor's update, from the input and the events of one iteration only.
* a version request answered by a VACK for slot `u` with seed `sd`: `u` has a NEW current challenge `sd` and has not
  answered it;
* a login request naming slot `u` that is good for the seed of the last VACK for `u`: `u` has answered its
  current challenge. -/
def Mon.update (cfg : Config) (m : Mon) (t : TraceStep) : Mon :=
  match t.step.inp with
  | .q q =>
    if versionReq cfg q then
      match t.events.findSome? vackInfo with
      | some (u, sd) =>
        { authed := fun v => if v = u then false else m.authed v,
          seed := fun v => if v = u then some sd else m.seed v }
      | none => m
    else
      match namedSlot cfg (.q q) with
      | some i =>
        if m.loginOk cfg q i then
          { m with authed := fun v => if v = i.toNat then true else m.authed v }
        else m
      | none => m
  | _ => m

/-- the monitor's view of "the datagram names a slot that has answered its current challenge" -/
def Mon.namedAuthed (cfg : Config) (m : Mon) (inp : Input) (w : Option Nat := none) : Bool :=
  match namedSlot cfg inp with
  | some i => decide (0 ≤ i) && m.authed i.toNat && (match w with | some w => decide (i.toNat = w) | none => true)
  | none => false

def isTunw : Event → Bool
  | .tunw _ => true
  | _ => false

def isRawDataEv : Event → Bool
  | .raw _ b => decide (isRawData b)
  | _ => false

def isIpAnswer : Event → Bool
  | .ans _ _ _ _ name data .ctrl => decide ((name.getD 0 0 = 105 ∨ name.getD 0 0 = 73) ∧ data.head? = some 73)
  | _ => false

def fromNetworkB : Input → Bool
  | .q _ => true
  | .rawf _ _ => true
  | _ => false

/-- P1–P3 as the monitor observes them: through the events, and (backlog) through `pre`/`post` -/
def observedEffect (t : TraceStep) : Bool :=
  t.events.any isTunw || t.events.any isIpAnswer ||
  (fromNetworkB t.step.inp &&
    (t.events.any isRawDataEv || (handlerEvents t.events).any isDataAnswer ||
     (List.range t.pre.users.length).any fun v => decide (backlog (getUser t.pre v) < backlog (getUser t.post v))))

/-- P4 for slot `w`, observed through `pre`/`post` -/
def codecChanged (t : TraceStep) (w : Nat) : Bool :=
  decide ((getUser t.post w).encoder ≠ (getUser t.pre w).encoder ∨ (getUser t.post w).downenc ≠ (getUser t.pre w).downenc ∨
    (getUser t.post w).lazy ≠ (getUser t.pre w).lazy ∨ (getUser t.post w).fragsize ≠ (getUser t.pre w).fragsize)

/-- P5 for slot `w`, observed through `pre`/`post` -/
def rawSwitched (t : TraceStep) (w : Nat) : Bool :=
  decide (((getUser t.post w).conn = .rawUdp ∧ (getUser t.pre w).conn ≠ .rawUdp) ∨
    ((getUser t.post w).authenticatedRaw = true ∧ (getUser t.pre w).authenticatedRaw = false))

/-- this iteration is a version handshake that announced slot `w` -/
def vackSeenFor (cfg : Config) (t : TraceStep) (w : Nat) : Bool :=
  match t.step.inp with
  | .q q => decide (versionReq cfg q) && t.events.any fun e => (vackInfo e).map (·.1) == some w
  | _ => false

/-- one trace element is fine: every observed privileged effect is on behalf of a slot that has answered its current
challenge (according to the history BEFORE this iteration) -/
def stepOk (cfg : Config) (m : Mon) (t : TraceStep) : Bool :=
  (!observedEffect t || m.namedAuthed cfg t.step.inp) &&
  (List.range t.pre.users.length).all fun w =>
    (!codecChanged t w || m.namedAuthed cfg t.step.inp (some w) || vackSeenFor cfg t w) &&
    (!rawSwitched t w || m.namedAuthed cfg t.step.inp (some w))

/-- the monitor: run over a trace, `false` as soon as an element is not fine -/
def accepts (cfg : Config) : Mon → List TraceStep → Bool
  | _, [] => true
  | m, t :: ts => stepOk cfg m t && accepts cfg (m.update cfg t) ts

theorem payload_eq {cfg : Config} {q : Query} {inb : List Nat} (h : payload cfg q = some inb) :
    ∃ dlen, Common.queryDatalen q.name cfg.topdomain = some dlen ∧ 2 ≤ dlen ∧ inb = q.name.take (min dlen 512) ∧
      inb.getD 0 0 = q.name.getD 0 0 := by
  unfold payload at h
  split at h
  · next dlen hd =>
    split at h
    · next h2 =>
      cases h
      exact ⟨dlen, hd, h2, rfl, getD_take_lt _ _ 0 (by omega)⟩
    · cases h
  · cases h

theorem payload_of {cfg : Config} {q : Query} {dlen : Nat}
    (hd : Common.queryDatalen q.name cfg.topdomain = some dlen) (h2 : 2 ≤ dlen) :
    payload cfg q = some (q.name.take (min dlen 512)) := by
  unfold payload; rw [hd]; simp [h2]

theorem uidField_eq (inb : List Nat) :
    uidField inb =
      match C04L.cmdOf (inb.getD 0 0) with
      | some .login | some .setfrag | some .ping => some .b32Byte
      | some .ip | some .switch | some .options => some .b32Digit
      | some .probe => some .probe
      | some .data => some .hex
      | none => none := by
  unfold uidField cmdIs
  generalize inb.getD 0 0 = c
  -- the tests of `uidField` list the same characters in another order
  exact C04L.uidClass_cmdOf c (.of_eq (by ac_rfl)) (.of_eq (by ac_rfl)) (.of_eq (by ac_rfl)) _ _ _ _ _

theorem namedSlot_eq_reqSlot (cfg : Config) (inp : Input) : namedSlot cfg inp = reqSlot cfg inp := by
  cases inp with
  | q q =>
    simp only [namedSlot, reqSlot, payload]
    cases Common.queryDatalen q.name cfg.topdomain with
    | none => rfl
    | some dlen =>
      dsimp only
      by_cases h2 : 2 ≤ dlen
      · rw [if_pos h2, if_neg (by omega)]
        have h0 : (q.name.take (min dlen 512)).getD 0 0 = q.name.getD 0 0 := getD_take_lt _ _ 0 (by omega)
        -- both sides test the first character for the same four classes of commands
        simp only [uidField_eq, h0]
        rw [C04L.uidClass_cmdOf _ Iff.rfl Iff.rfl Iff.rfl]
        cases C04L.cmdOf (q.name.getD 0 0) with
        | none => rfl
        | some cmd => cases cmd <;> rfl
      · rw [if_neg h2, if_pos (by omega)]
  | _ => rfl

theorem backlog_eq (x : Session) : backlog x = C03L.backlog x := rfl

theorem not_tunw_of_harmless {e : Event} (h : Harmless e) (f : List Nat) : e ≠ .tunw f := by
  intro he; subst he; exact h

theorem not_rawData_of_harmless {dst : Addr} {b : List Nat} (h : Harmless (.raw dst b)) : ¬ isRawData b := h

theorem not_disclose_of_harmless {dst : Addr} {id ty dn : Nat} {name data : List Nat}
    (h : Harmless (.ans dst id ty dn name data .ctrl)) :
    ¬ ((name.getD 0 0 = 105 ∨ name.getD 0 0 = 73) ∧ data.head? = some 73) := by
  intro hh
  exact (h rfl).1 ⟨by omega, hh.2⟩

theorem live_of_userOkAt {s : Srv} {now : Nat} {u : Nat} {src : Addr} (h : UserOkAt s now (u : Int) src) :
    Live s now u ∧ SrcOk s u src := by
  obtain ⟨h1, h2, h3, h4, h5, h6⟩ := h
  simp only [Int.toNat_natCast] at h3 h4 h5 h6
  exact ⟨⟨by omega, h3, h4, by omega⟩, fun hc => ⟨(h6 hc).1, (h6 hc).2.1⟩⟩

theorem onBehalf_of_userOkAt {s : Srv} {st : Step} {i : Int} {src : Addr}
    (hreq : reqSlot s.cfg st.inp = some i) (ok : UserOkAt s st.now i src)
    (hauth : (getUser s i.toNat).authenticated = true) :
    OnBehalf s st i.toNat ∧ SrcOk s i.toNat src ∧ (i.toNat : Int) = i := by
  have hi : ((i.toNat : Nat) : Int) = i := Int.toNat_of_nonneg ok.nonneg
  have ok' : UserOkAt s st.now (i.toNat : Int) src := by rw [hi]; exact ok
  obtain ⟨hl, hs⟩ := live_of_userOkAt ok'
  exact ⟨⟨by rw [namedSlot_eq_reqSlot, hreq, hi], hl, hauth⟩, hs, hi⟩

def Mild (e : Event) : Prop :=
  (∀ f, e ≠ .tunw f) ∧ (∀ d b, e = .raw d b → ¬ isRawData b) ∧
  (∀ dst id ty dn name data, e = .ans dst id ty dn name data .ctrl →
    ¬ ((name.getD 0 0 = 105 ∨ name.getD 0 0 = 73) ∧ data.head? = some 73))

theorem mild_of_harmless {e : Event} (h : Harmless e) : Mild e := by
  refine ⟨not_tunw_of_harmless h, ?_, ?_⟩
  · intro d b he; subst he; exact not_rawData_of_harmless h
  · intro dst id ty dn name data he; subst he; exact not_disclose_of_harmless h

theorem no_tunw_disclose {s : Srv} {st : Step}
    (hm : ∀ e ∈ out s st, (∀ f, e ≠ .tunw f) ∧ (∀ dst id ty dn name data, e = .ans dst id ty dn name data .ctrl →
      ¬ ((name.getD 0 0 = 105 ∨ name.getD 0 0 = 73) ∧ data.head? = some 73))) :
    ¬ TunWrite s st ∧ ¬ DisclosesAddr s st := by
  constructor
  · rintro ⟨f, hf⟩; exact (hm _ hf).1 f rfl
  · rintro ⟨dst, id, ty, dn, name, data, he, hh⟩
    exact (hm _ he).2 dst id ty dn name data rfl hh

theorem no_effect {s : Srv} {st : Step}
    (hb : ∀ v, C03L.backlog (getUser (next s st) v) ≤ C03L.backlog (getUser s v))
    (hm : ∀ e ∈ out s st, Mild e)
    (hh : ∀ e ∈ (out s st).takeWhile (fun e => e != Event.sweep), NoChunk e) :
    ¬ (TunWrite s st ∨ Forwarded s st ∨ DisclosesAddr s st ∨ SendsTunnelData s st) := by
  have h1 := no_tunw_disclose (s := s) (st := st) (fun e he => ⟨(hm e he).1, (hm e he).2.2⟩)
  rintro (h | h | h | h)
  · exact h1.1 h
  · rcases h.2 with ⟨v, hv⟩ | ⟨dst, b, he, hr⟩
    · have := hb v
      simp only [backlog_eq] at hv
      omega
    · exact (hm _ he).2.1 dst b rfl hr
  · exact h1.2 h
  · obtain ⟨_, e, he, hd⟩ := h
    have := hh e he
    cases e <;> simp [isDataAnswer] at hd
    exact hd this

/-- P1–P3 happen only in the two "authenticated session" outcomes -/
theorem effect_cases (s : Srv) (st : Step)
    (h : TunWrite s st ∨ Forwarded s st ∨ DisclosesAddr s st ∨ SendsTunnelData s st) :
    ∃ u src, srcOf st.inp = some src ∧ OnBehalf s st u ∧ SrcOk s u src ∧
      (∀ a b, st.inp = .rawf a b → (getUser s u).authenticatedRaw = true) := by
  cases stepOutcome s st with
  | quiet hp hb he hh => exact absurd h (no_effect hb (fun e h => mild_of_harmless (he e h)) hh)
  | tunIn f hi hp he =>
    exfalso
    have h1 := no_tunw_disclose (s := s) (st := st) (by
      intro e hh
      rcases he e hh with h | ⟨d, b, rfl⟩
      · exact ⟨(mild_of_harmless h).1, (mild_of_harmless h).2.2⟩
      · exact ⟨fun f hf => (nomatch hf), fun _ _ _ _ _ _ hf => nomatch hf⟩)
    rcases h with h | h | h | h
    · exact h1.1 h
    · have := h.1; rw [hi] at this; exact this
    · exact h1.2 h
    · have := h.1; rw [hi] at this; exact this
  | alloc q u sd hi cmd lt free hp hb auth authRaw seed active conn vack he hh =>
    refine absurd h (no_effect hb ?_ hh)
    intro e hh
    rcases he e hh with h | ⟨dn, rfl⟩
    · exact mild_of_harmless h
    · refine ⟨fun f hf => (nomatch hf), fun _ _ hf => (nomatch hf), ?_⟩
      intro dst id ty dn' name data hf hc
      cases hf
      have : q.name.getD 0 0 = 86 ∨ q.name.getD 0 0 = 118 := by
        rcases cmd with ⟨_, _, _, h⟩ | ⟨_, _, _, h⟩
        · exact Or.inl h
        · exact Or.inr h
      omega
  | login q dlen u hi hd h2 cmd len uid hash ok hp hself hb he hh =>
    exact absurd h (no_effect hb (fun e h => mild_of_harmless (he e h)) hh)
  | authedQ q i hi hreq ok hauth hcore hoth =>
    obtain ⟨h1, h2, h3⟩ := onBehalf_of_userOkAt hreq ok hauth
    exact ⟨i.toNat, q.from_, by rw [hi]; rfl, h1, h2, fun a b hab => by rw [hi] at hab; cases hab⟩
  | rawLogin src bytes u hi uid hash lt active enabled auth fresh hp hself hb he hh =>
    exact absurd h (no_effect hb (fun e h => mild_of_harmless (he e h)) hh)
  | authedRaw src bytes u hi hreq ok hauth hraw hp =>
    obtain ⟨h1, h2, h3⟩ := onBehalf_of_userOkAt hreq ok (by simpa using hauth)
    simp only [Int.toNat_natCast] at h1 h2
    exact ⟨u, src, by rw [hi]; rfl, h1, h2, fun _ _ _ => hraw⟩

theorem prot_fields {a b : Session} (h : prot a = prot b) :
    a.active = b.active ∧ a.authenticated = b.authenticated ∧ a.authenticatedRaw = b.authenticatedRaw ∧
    a.seed = b.seed ∧ a.encoder = b.encoder ∧ a.downenc = b.downenc ∧ a.lazy = b.lazy ∧
    a.fragsize = b.fragsize ∧ a.conn = b.conn := by
  unfold prot at h
  simp only [Prot.mk.injEq] at h
  simp [h]

theorem core_fields {a b : Session} (h : core a = core b) :
    a.active = b.active ∧ a.authenticated = b.authenticated ∧ a.authenticatedRaw = b.authenticatedRaw ∧
    a.seed = b.seed ∧ a.conn = b.conn := by
  unfold core at h
  simp only [Core.mk.injEq] at h
  simp [h]

theorem versionReq_of_cmdChar {cfg : Config} {q : Query} (h : CmdChar cfg q 86 ∨ CmdChar cfg q 118) :
    versionReq cfg q := by
  have : ∃ dlen, Common.queryDatalen q.name cfg.topdomain = some dlen ∧ 2 ≤ dlen ∧
      (q.name.getD 0 0 = 118 ∨ q.name.getD 0 0 = 86) := by
    rcases h with ⟨d, h1, h2, h3⟩ | ⟨d, h1, h2, h3⟩
    · exact ⟨d, h1, h2, Or.inr h3⟩
    · exact ⟨d, h1, h2, Or.inl h3⟩
  obtain ⟨dlen, hd, h2, hc⟩ := this
  unfold versionReq
  rw [payload_of hd h2]
  simp only [cmdIs]
  rw [getD_take_lt _ _ 0 (by omega)]
  exact hc

theorem namedSlot_none_of_versionReq {cfg : Config} {q : Query} (h : versionReq cfg q) :
    namedSlot cfg (.q q) = none := by
  unfold versionReq at h
  simp only [namedSlot]
  split at h
  · exact absurd h id
  · next inb hp =>
    have : uidField inb = none := by
      rw [uidField_eq]
      rcases h with h | h <;> rw [h] <;> rfl
    rw [this]

theorem allocated_of_alloc {s : Srv} {st : Step} {q : Query} {u sd : Nat} (hi : st.inp = .q q)
    (cmd : CmdChar s.cfg q 86 ∨ CmdChar s.cfg q 118)
    (free : ((getUser s u).active = false ∨ (getUser s u).lastPkt + 60 < st.now) ∧ (getUser s u).disabled = false)
    (seed : (getUser (next s st) u).seed = sd)
    (vack : ∃ dn, Event.ans q.from_ q.id q.type dn q.name (ascii "VACK" ++ beBytes 4 sd ++ [u % 256]) .ctrl ∈ out s st) :
    Allocated s st u := by
  obtain ⟨dn, hv⟩ := vack
  exact ⟨⟨q, hi, versionReq_of_cmdChar cmd, _, hv, dn, by rw [seed]⟩, free⟩

theorem goodLogin_of_login {s : Srv} {q : Query} {dlen u : Nat}
    (hd : Common.queryDatalen q.name s.cfg.topdomain = some dlen) (h2 : 2 ≤ dlen)
    (cmd : q.name.getD 0 0 = 76 ∨ q.name.getD 0 0 = 108)
    (len : 18 ≤ (Encoding.unpackData Codec.b32 65536 ((q.name.take (min dlen 512)).drop 1)).length)
    (uid : charVal ((Encoding.unpackData Codec.b32 65536 ((q.name.take (min dlen 512)).drop 1)).getD 0 0) = (u : Int))
    (hash : ((Encoding.unpackData Codec.b32 65536 ((q.name.take (min dlen 512)).drop 1)).drop 1).take 16
      = Login.loginCalcC s.cfg.password (getUser s u).seed) :
    goodLogin s.cfg (getUser s u).seed q ∧ namedSlot s.cfg (.q q) = some (u : Int) := by
  refine ⟨?_, by rw [namedSlot_eq_reqSlot, reqSlot_LNP s q dlen hd h2 (by omega), uid]⟩
  unfold goodLogin
  rw [payload_of hd h2]
  simp only [cmdIs, b32Field]
  rw [getD_take_lt _ _ 0 (by omega)]
  exact ⟨by omega, len, hash⟩

/-! ### A concrete scenario for the non-vacuity examples
Password "secret", tunnel domain `t.io`, source checking on, 16 slots, `rand()` returns 12345 then 777.
Client A (192.0.2.1) gets slot 0 / seed 12345, client B (192.0.2.2) slot 1 / seed 777.  All names are written
out as bytes: command character, Base32 characters, `.t.io`. -/
namespace Ex

def cfg : Config :=
  { checkIp := true, password := ascii "secret", myIp := 0x0a000001, netmask := 27, topdomain := ascii "t.io",
    mtu := 1130, nsIp := 0, bindPort := 0, dest4 := 0xc0a80001, dest6 := 0, createdUsers := 0 }

def srcA : Addr := ⟨4, 0xc0000201, 4000⟩
def srcB : Addr := ⟨4, 0xc0000202, 4001⟩

def mkQ (src : Addr) (id : Nat) (name : List Nat) : Query :=
  { name := name, type := 10, id := id, from_ := src, id2 := 0, from2 := Addr.zero, dest := ⟨4, 0xc0a80001, 53⟩ }

/-- `v` ++ b32(00 00 05 02 00 01) ++ `.t.io`: version 0x502 -/
def nameV : List Nat := [118, 97, 97, 97, 97, 107, 97, 113, 97, 97, 101, 46, 116, 46, 105, 111]
/-- `l` ++ b32(userid 0 ++ MD5 response for seed 12345 ++ cmc) ++ `.t.io` -/
def nameL0 : List Nat := [108, 97, 98, 109, 121, 103, 113, 116, 121, 98, 48, 104, 117, 101, 120, 106, 113, 51, 98, 103,
  99, 112, 105, 113, 120, 105, 105, 99, 113, 97, 97, 113, 46, 116, 46, 105, 111]
/-- the same for userid 1, seed 777 -/
def nameL1 : List Nat := [108, 97, 102, 121, 122, 106, 97, 97, 108, 121, 107, 102, 121, 117, 52, 108, 121, 110, 117, 104,
  103, 97, 117, 49, 114, 52, 97, 101, 97, 97, 97, 113, 46, 116, 46, 105, 111]
/-- `i` ++ userid digit `a` (0) ++ cmc -/
def nameI : List Nat := [105, 97, 97, 97, 46, 116, 46, 105, 111]
/-- `o` ++ userid digit `a` ++ `l` (lazy mode) -/
def nameO : List Nat := [111, 97, 108, 97, 46, 116, 46, 105, 111]
/-- upstream data of user `0`: header `eaba` (upstream seq 1, frag 0, last fragment), then b32(0x5a ++ IP packet to 8.8.8.8) -/
def nameD8 : List Nat := [48, 101, 97, 98, 97, 108, 105, 97, 97, 97, 99, 97, 97, 105, 117, 97, 97, 97, 102, 97, 97, 97,
  97, 97, 97, 97, 113, 97, 98, 97, 97, 97, 97, 117, 97, 97, 97, 97, 105, 101, 97, 113, 99, 97, 105, 46, 116, 46, 105, 111]
/-- the same with an IP packet to 10.0.0.3, the tunnel address of slot 1 -/
def nameD3 : List Nat := [48, 101, 97, 98, 97, 108, 105, 97, 97, 97, 99, 97, 97, 105, 117, 97, 97, 97, 102, 97, 97, 97,
  97, 97, 97, 97, 113, 97, 98, 97, 97, 97, 97, 117, 97, 97, 97, 97, 105, 102, 97, 97, 97, 97, 100, 46, 116, 46, 105, 111]
/-- raw login of user 0: header 10 d1 9e, 0x10|0, MD5 response for seed 12345 + 1 -/
def rawLogin0 : List Nat := [16, 209, 158, 16, 0, 176, 110, 134, 200, 226, 163, 127, 144, 223, 106, 235, 146, 199, 123, 88]
/-- raw DATA of user 0: 0x5a ++ IP packet to 8.8.8.8 -/
def rawData0 : List Nat := [16, 209, 158, 32, 0x5a, 0, 0, 8, 0, 69, 0, 0, 20, 0, 0, 0, 0, 64, 1, 0, 0, 10, 0, 0, 2, 8, 8, 8, 8]
/-- a login naming userid 200 (a negative `char`): `l` ++ b32(200 ++ 17 zero bytes ++ cmc) -/
def nameLbad : List Nat := [108, 122, 97, 97, 97, 97, 97, 97, 97, 97, 97, 97, 97, 97, 97, 97, 97, 97, 97, 97, 97, 97,
  97, 97, 97, 97, 97, 97, 97, 97, 97, 97, 97, 46, 116, 46, 105, 111]

/-- `o` ++ userid digit `b` (1) ++ `l` (lazy mode) -/
def nameO1 : List Nat := [111, 98, 108, 97, 46, 116, 46, 105, 111]
/-- `p` ++ b32(userid 1, ack byte 0, cmc) : ping of user 1 -/
def nameP1 : List Nat := [112, 97, 101, 97, 97, 97, 98, 121, 46, 116, 46, 105, 111]

def stV (src : Addr) (id now : Nat) : Step := ⟨.q (mkQ src id nameV), now⟩

def s0 : Srv := start cfg [12345, 777]
def s1 : Srv := next s0 (stV srcA 1 1000)                       -- slot 0 allocated, seed 12345
def s2 : Srv := next s1 ⟨.q (mkQ srcA 2 nameL0), 1001⟩          -- slot 0 authenticated
def s3 : Srv := next s2 (stV srcB 3 1002)                       -- slot 1 allocated, seed 777
def s4 : Srv := next s3 ⟨.q (mkQ srcB 4 nameL1), 1003⟩          -- slot 1 authenticated
def s5 : Srv := next s4 ⟨.rawf srcA rawLogin0, 1004⟩            -- slot 0 in raw mode
def s6 : Srv := next s2 (stV srcB 5 1100)                       -- slot 0 expired and re-allocated with seed 777
def s7 : Srv := next (next s4 ⟨.q (mkQ srcB 5 nameO1), 1004⟩) ⟨.q (mkQ srcB 6 nameP1), 1004⟩
                                                                -- slot 1 lazy, its ping is waiting for data

end Ex

/-- the first five steps of the scenario -/
def Ex.steps : List Step :=
  [Ex.stV Ex.srcA 1 1000, ⟨.q (Ex.mkQ Ex.srcA 2 Ex.nameL0), 1001⟩, Ex.stV Ex.srcB 3 1002,
   ⟨.q (Ex.mkQ Ex.srcB 4 Ex.nameL1), 1003⟩, ⟨.q (Ex.mkQ Ex.srcA 5 Ex.nameD8), 1004⟩]

namespace Ex

/-- the IP packet inside `nameD8` and `rawData0`, with the tun header in front -/
def pkt8 : List Nat := [0, 0, 8, 0, 69, 0, 0, 20, 0, 0, 0, 0, 64, 1, 0, 0, 10, 0, 0, 2, 8, 8, 8, 8]

/-- What the server does in the scenario, computed in one evaluation (the states `s1` … `s7` are shared); the
non-vacuity examples after the theorems take their facts from here.  In four groups: the handshakes and logins;
the data path in `s4` and `s7`; codec and raw switch in `s4`, `s5`; the monitor and the replays. -/
theorem run :
    (((getUser s1 0).authenticated = false ∧
        (getUser (next s1 ⟨.q (mkQ srcA 2 nameL0), 1001⟩) 0).authenticated = true ∧
        goodLogin s1.cfg (getUser s1 0).seed (mkQ srcA 2 nameL0)) ∧
      (getUser (next s0 (stV srcA 1 1000)) 0).seed ≠ (getUser s0 0).seed ∧
      namedSlot s1.cfg (.q (mkQ srcA 2 nameLbad)) = some (-56)) ∧
    (Event.tunw pkt8 ∈ out s4 ⟨.q (mkQ srcA 5 nameD8), 1004⟩ ∧
      namedSlot s4.cfg (.q (mkQ srcA 5 nameD8)) = some 0 ∧
      backlog (getUser s4 1) < backlog (getUser (next s4 ⟨.q (mkQ srcA 5 nameD3), 1004⟩) 1) ∧
      Event.ans srcA 5 10 84 nameI [73, 192, 168, 0, 1] .ctrl ∈ out s4 ⟨.q (mkQ srcA 5 nameI), 1004⟩ ∧
      Event.ans srcB 6 10 84 nameP1
          [128, 33, 90, 0, 0, 8, 0, 69, 0, 0, 20, 0, 0, 0, 0, 64, 1, 0, 0, 10, 0, 0, 2, 10, 0, 0, 3] (.chunk 1) ∈
        handlerEvents (out s7 ⟨.q (mkQ srcA 7 nameD3), 1004⟩) ∧
      backlog (getUser (next s7 ⟨.q (mkQ srcA 7 nameD3), 1004⟩) 1) = backlog (getUser s7 1)) ∧
    ((CodecChange s4 ⟨.q (mkQ srcA 5 nameO), 1004⟩ 0 ∧ ¬ CodecChange s4 ⟨.q (mkQ srcB 5 nameO), 1004⟩ 0) ∧
      RawSwitch s4 ⟨.rawf srcA rawLogin0, 1004⟩ 0 ∧
      Event.tunw pkt8 ∈ out s5 ⟨.rawf srcA rawData0, 1005⟩ ∧
      out s4 ⟨.rawf srcA rawData0, 1005⟩ = [Event.sweep]) ∧
    ((let tr := traceFrom s0 steps
      let m := (tr.take 4).foldl (fun m t => m.update s0.cfg t) Mon.init
      (tr.getLast?.map observedEffect) = some true ∧
      m.authed 0 = true ∧ m.authed 1 = true ∧ m.authed 2 = false ∧ m.seed 0 = some 12345 ∧ m.seed 1 = some 777) ∧
      accepts s0.cfg Mon.init
        [⟨stV srcA 1 1000, s0, out s0 (stV srcA 1 1000), s1⟩,
         ⟨⟨.q (mkQ srcA 5 nameD8), 1004⟩, s1, [Event.tunw [0, 0, 8, 0], Event.sweep], s1⟩] = false ∧
      ((getUser s6 0).seed = 777 ∧ (getUser s6 0).authenticated = false ∧
        goodLogin s6.cfg 12345 (mkQ srcB 6 nameL0) ∧
        Login.loginCalcC s6.cfg.password 12345 ≠ Login.loginCalcC s6.cfg.password (getUser s6 0).seed ∧
        (getUser (next s6 ⟨.q (mkQ srcB 6 nameL0), 1101⟩) 0).authenticated = false) ∧
      (getUser (next s2 (stV srcB 5 1100)) 0).seed ≠ (getUser s2 0).seed ∧
      goodLogin s2.cfg (getUser s2 0).seed (mkQ srcB 6 nameL0)) := by
  decide +kernel

end Ex

/-- A slot becomes `authenticated` only through a login request that names it, comes (with source checking on)
from the bound address while the slot is live, and carries the MD5 response for the slot's CURRENT seed. -/
theorem authenticated_set_only_by_good_login (s : Srv) (st : Step) (u : Nat)
    (hpost : (getUser (next s st) u).authenticated = true) (hpre : (getUser s u).authenticated = false) :
    ∃ q, st.inp = .q q ∧ goodLogin s.cfg (getUser s u).seed q ∧ namedSlot s.cfg st.inp = some (u : Int) ∧
      Live s st.now u ∧ SrcOk s u q.from_ := by
  cases slotOutcome s st u with
  | same hp => rw [(prot_fields hp).2.1, hpre] at hpost; cases hpost
  | alloc q sd hi cmd free auth authRaw seed conn vack => rw [auth] at hpost; cases hpost
  | login q dlen hi hd h2 cmd len uid hash ok hself =>
    obtain ⟨hl, hs⟩ := live_of_userOkAt ok
    obtain ⟨hg, hn⟩ := goodLogin_of_login hd h2 cmd len uid hash
    exact ⟨q, hi, hg, hi ▸ hn, hl, hs⟩
  | request q hi hreq ok hauth hcore => rw [hauth] at hpre; cases hpre
  | rawLogin src bytes hi uid hash lt active enabled auth fresh hself => rw [auth] at hpre; cases hpre

/-- non-vacuity: the login of client A for slot 0 (seed 12345) sets `authenticated` -/
example : (getUser Ex.s1 0).authenticated = false ∧
    (getUser (next Ex.s1 ⟨.q (Ex.mkQ Ex.srcA 2 Ex.nameL0), 1001⟩) 0).authenticated = true ∧
    goodLogin Ex.s1.cfg (getUser Ex.s1 0).seed (Ex.mkQ Ex.srcA 2 Ex.nameL0) := Ex.run.1.1

/-- A slot's challenge (`seed`) changes only when a version handshake allocates the slot, and the slot is then
neither `authenticated` nor `authenticated_raw`. -/
theorem seed_changes_only_at_allocation (s : Srv) (st : Step) (u : Nat)
    (h : (getUser (next s st) u).seed ≠ (getUser s u).seed) :
    Allocated s st u ∧ (getUser (next s st) u).authenticated = false ∧
      (getUser (next s st) u).authenticatedRaw = false := by
  cases slotOutcome s st u with
  | same hp => exact (h (prot_fields hp).2.2.2.1).elim
  | alloc q sd hi cmd free auth authRaw seed conn vack =>
    exact ⟨allocated_of_alloc hi cmd free seed vack, auth, authRaw⟩
  | login q dlen hi hd h2 cmd len uid hash ok hself => exact (h (congrArg Prot.seed hself)).elim
  | request q hi hreq ok hauth hcore => exact (h (core_fields hcore).2.2.2.1).elim
  | rawLogin src bytes hi uid hash lt active enabled auth fresh hself => exact (h (congrArg Prot.seed hself)).elim

/-- non-vacuity: the version handshake of client A changes the seed of slot 0 -/
example : (getUser (next Ex.s0 (Ex.stV Ex.srcA 1 1000)) 0).seed ≠ (getUser Ex.s0 0).seed := Ex.run.1.2.1

/-- P1: a tun write happens only on behalf of an authenticated session (named by the datagram, live, from the
bound source) -/
theorem tun_write_needs_authenticated (s : Srv) (st : Step) (h : TunWrite s st) :
    ∃ u src, srcOf st.inp = some src ∧ OnBehalf s st u ∧ SrcOk s u src := by
  obtain ⟨u, src, h1, h2, h3, _⟩ := effect_cases s st (Or.inl h)
  exact ⟨u, src, h1, h2, h3⟩

/-- non-vacuity: upstream data of the authenticated slot 0 reaches the tun device -/
example : TunWrite Ex.s4 ⟨.q (Ex.mkQ Ex.srcA 5 Ex.nameD8), 1004⟩ := ⟨Ex.pkt8, Ex.run.2.1.1⟩

/-- P2: a datagram from the network puts a packet into a session's downstream only on behalf of an authenticated
session -/
theorem forward_needs_authenticated (s : Srv) (st : Step) (h : Forwarded s st) :
    ∃ u src, srcOf st.inp = some src ∧ OnBehalf s st u ∧ SrcOk s u src := by
  obtain ⟨u, src, h1, h2, h3, _⟩ := effect_cases s st (Or.inr (Or.inl h))
  exact ⟨u, src, h1, h2, h3⟩

/-- non-vacuity: a packet of slot 0 for 10.0.0.3 lands in the downstream of slot 1 -/
example : Forwarded Ex.s4 ⟨.q (Ex.mkQ Ex.srcA 5 Ex.nameD3), 1004⟩ := ⟨trivial, Or.inl ⟨1, Ex.run.2.1.2.2.1⟩⟩

/-- P3: the server's address is disclosed only to an authenticated session -/
theorem address_disclosure_needs_authenticated (s : Srv) (st : Step) (h : DisclosesAddr s st) :
    ∃ u src, srcOf st.inp = some src ∧ OnBehalf s st u ∧ SrcOk s u src := by
  obtain ⟨u, src, h1, h2, h3, _⟩ := effect_cases s st (Or.inr (Or.inr (Or.inl h)))
  exact ⟨u, src, h1, h2, h3⟩

/-- P2 (continued): tunnel data is sent in the answer to a datagram only on behalf of an authenticated session -/
theorem tunnel_data_needs_authenticated (s : Srv) (st : Step) (h : SendsTunnelData s st) :
    ∃ u src, srcOf st.inp = some src ∧ OnBehalf s st u ∧ SrcOk s u src := by
  obtain ⟨u, src, h1, h2, h3, _⟩ := effect_cases s st (Or.inr (Or.inr (Or.inr h)))
  exact ⟨u, src, h1, h2, h3⟩

/-- non-vacuity: slot 1 is in lazy mode with a ping waiting; a packet of slot 0 for 10.0.0.3 goes out at once in the
answer to that ping (tag `chunk 1`), and the backlog of slot 1 does not grow -/
example : SendsTunnelData Ex.s7 ⟨.q (Ex.mkQ Ex.srcA 7 Ex.nameD3), 1004⟩ ∧
    backlog (getUser (next Ex.s7 ⟨.q (Ex.mkQ Ex.srcA 7 Ex.nameD3), 1004⟩) 1) = backlog (getUser Ex.s7 1) :=
  ⟨⟨trivial, _, Ex.run.2.1.2.2.2.2.1, rfl⟩, Ex.run.2.1.2.2.2.2.2⟩

/-- non-vacuity: the `I` request of slot 0 is answered with 'I' ++ 192.168.0.1 -/
example : DisclosesAddr Ex.s4 ⟨.q (Ex.mkQ Ex.srcA 5 Ex.nameI), 1004⟩ :=
  ⟨Ex.srcA, 5, 10, 84, Ex.nameI, [73, 192, 168, 0, 1], Ex.run.2.1.2.2.2.1, by decide, by decide⟩

/-- P4: codec, options and fragment size of slot `w` change only when a version handshake allocates `w` or on
behalf of `w` itself, authenticated -/
theorem codec_change_needs_authenticated (s : Srv) (st : Step) (w : Nat) (h : CodecChange s st w) :
    Allocated s st w ∨ (OnBehalf s st w ∧ ∃ q, st.inp = .q q ∧ SrcOk s w q.from_) := by
  have same : ∀ P : Prot, prot (getUser (next s st) w) = P → P.encoder = (getUser s w).encoder →
      P.downenc = (getUser s w).downenc → P.lazy = (getUser s w).lazy → P.fragsize = (getUser s w).fragsize →
      False := by
    intro P hP h1 h2 h3 h4
    have e1 := congrArg Prot.encoder hP
    have e2 := congrArg Prot.downenc hP
    have e3 := congrArg Prot.lazy hP
    have e4 := congrArg Prot.fragsize hP
    rcases h with h | h | h | h
    · exact h (e1.trans h1)
    · exact h (e2.trans h2)
    · exact h (e3.trans h3)
    · exact h (e4.trans h4)
  cases slotOutcome s st w with
  | same hp => exact (same _ hp rfl rfl rfl rfl).elim
  | alloc q sd hi cmd free auth authRaw seed conn vack => exact Or.inl (allocated_of_alloc hi cmd free seed vack)
  | login q dlen hi hd h2 cmd len uid hash ok hself => exact (same _ hself rfl rfl rfl rfl).elim
  | request q hi hreq ok hauth hcore =>
    obtain ⟨h1, h2, _⟩ := onBehalf_of_userOkAt hreq ok hauth
    exact Or.inr ⟨h1, q, hi, h2⟩
  | rawLogin src bytes hi uid hash lt active enabled auth fresh hself => exact (same _ hself rfl rfl rfl rfl).elim

/-- non-vacuity: the `O` request of slot 0 switches on lazy mode; the same request from another address does not -/
example : CodecChange Ex.s4 ⟨.q (Ex.mkQ Ex.srcA 5 Ex.nameO), 1004⟩ 0 ∧
    ¬ CodecChange Ex.s4 ⟨.q (Ex.mkQ Ex.srcB 5 Ex.nameO), 1004⟩ 0 := Ex.run.2.2.1.1

/-- P5: slot `w` is switched to raw mode / becomes `authenticated_raw` only by a raw login frame that names `w`,
while `w` is live and ALREADY authenticated, and whose 16 bytes are the MD5 response for `seed + 1`. -/
theorem raw_switch_needs_authenticated (s : Srv) (st : Step) (w : Nat) (h : RawSwitch s st w) :
    OnBehalf s st w ∧ ∃ src bytes, st.inp = .rawf src bytes ∧ goodRawLogin s.cfg (getUser s w).seed bytes := by
  have same : ∀ P : Prot, prot (getUser (next s st) w) = P → P.conn = (getUser s w).conn →
      P.authenticatedRaw = (getUser s w).authenticatedRaw → False := by
    intro P hP h1 h2
    have e1 := congrArg Prot.conn hP
    have e2 := congrArg Prot.authenticatedRaw hP
    rcases h with h | h
    · exact h.2 (by rw [← h1, ← e1]; exact h.1)
    · have := (e2.trans h2).symm.trans h.1
      rw [h.2] at this; cases this
  cases slotOutcome s st w with
  | same hp => exact (same _ hp rfl rfl).elim
  | alloc q sd hi cmd free auth authRaw seed conn vack =>
    rcases h with h | h
    · rw [conn] at h; cases h.1
    · rw [authRaw] at h; cases h.1
  | login q dlen hi hd h2 cmd len uid hash ok hself => exact (same _ hself rfl rfl).elim
  | request q hi hreq ok hauth hcore =>
    have hc := core_fields hcore
    rcases h with h | h
    · exact (h.2 (by rw [← hc.2.2.2.2]; exact h.1)).elim
    · rw [hc.2.2.1, h.2] at h; cases h.1
  | rawLogin src bytes hi uid hash lt active enabled auth fresh hself =>
    refine ⟨⟨?_, ⟨lt, active, enabled, by omega⟩, auth⟩, src, bytes, hi, hash⟩
    rw [hi, uid]; rfl

/-- non-vacuity: the raw login of slot 0 switches it to raw mode -/
example : RawSwitch Ex.s4 ⟨.rawf Ex.srcA Ex.rawLogin0, 1004⟩ 0 := Ex.run.2.2.1.2.1

/-- Raw DATA frames reach the tun device / another session only for a session that is authenticated AND
`authenticated_raw` (i.e. has also answered the raw challenge, `raw_switch_needs_authenticated`). -/
theorem raw_needs_both (s : Srv) (st : Step) (src : Addr) (bytes : List Nat) (hi : st.inp = .rawf src bytes)
    (h : TunWrite s st ∨ Forwarded s st) :
    ∃ u, OnBehalf s st u ∧ SrcOk s u src ∧ (getUser s u).authenticatedRaw = true := by
  obtain ⟨u, src', h1, h2, h3, h4⟩ := effect_cases s st (by
    rcases h with h | h
    · exact Or.inl h
    · exact Or.inr (Or.inl h))
  rw [hi] at h1
  cases h1
  exact ⟨u, h2, h3, h4 src bytes hi⟩

/-- non-vacuity: raw DATA of slot 0 reaches the tun device after the raw login (`s5`), not before (`s4`) -/
example : TunWrite Ex.s5 ⟨.rawf Ex.srcA Ex.rawData0, 1005⟩ ∧ ¬ TunWrite Ex.s4 ⟨.rawf Ex.srcA Ex.rawData0, 1005⟩ := by
  refine ⟨⟨Ex.pkt8, Ex.run.2.2.1.2.2.1⟩, ?_⟩
  rintro ⟨f, hf⟩
  rw [Ex.run.2.2.1.2.2.2] at hf
  simp at hf

/-- All of P1–P5, attributed to slot `u`, need `u` authenticated in the state before the iteration (and named by
the datagram, and live). -/
theorem privileged_needs_authenticated (s : Srv) (st : Step) (u : Nat) (h : Privileged s st u) :
    OnBehalf s st u := by
  rcases h with ⟨hn, h⟩ | ⟨h, hna⟩ | h
  · obtain ⟨u', src, _, h2, _, _⟩ := effect_cases s st h
    have := h2.named
    rw [hn] at this
    have : u = u' := by
      simp only [Option.some.injEq] at this
      omega
    subst this; exact h2
  · rcases codec_change_needs_authenticated s st u h with h | h
    · exact absurd h hna
    · exact h.1
  · exact (raw_switch_needs_authenticated s st u h).1

theorem privileged_pre_authenticated (s : Srv) (st : Step) (u : Nat) (h : Privileged s st u) :
    (getUser s u).authenticated = true := (privileged_needs_authenticated s st u h).authenticated

/-- non-vacuity -/
example : Privileged Ex.s4 ⟨.q (Ex.mkQ Ex.srcA 5 Ex.nameD8), 1004⟩ 0 :=
  Or.inl ⟨Ex.run.2.1.2.1, Or.inl ⟨Ex.pkt8, Ex.run.2.1.1⟩⟩

/-- A datagram naming a user id that is negative (a `char` ≥ 128), not below the number of created users, or
16..31 (from a Base32 digit) has none of the privileged effects and authenticates nobody. -/
theorem bad_userid_no_effect (s : Srv) (st : Step) (i : Int) (hn : namedSlot s.cfg st.inp = some i)
    (hbad : i < 0 ∨ (s.cfg.createdUsers : Int) ≤ i) :
    ¬ TunWrite s st ∧ ¬ Forwarded s st ∧ ¬ DisclosesAddr s st ∧ ¬ SendsTunnelData s st ∧
    ∀ w, ¬ CodecChange s st w ∧ ¬ RawSwitch s st w ∧
      ((getUser (next s st) w).authenticated = true → (getUser s w).authenticated = true) := by
  have nob : ∀ u, ¬ OnBehalf s st u := by
    intro u hu
    have := hu.named
    rw [hn] at this
    have h2 := hu.live.lt
    cases this
    omega
  have noe : ¬ (TunWrite s st ∨ Forwarded s st ∨ DisclosesAddr s st ∨ SendsTunnelData s st) := by
    intro h
    obtain ⟨u, _, _, h2, _, _⟩ := effect_cases s st h
    exact nob u h2
  refine ⟨fun h => noe (Or.inl h), fun h => noe (Or.inr (Or.inl h)), fun h => noe (Or.inr (Or.inr (Or.inl h))),
    fun h => noe (Or.inr (Or.inr (Or.inr h))), ?_⟩
  intro w
  refine ⟨?_, ?_, ?_⟩
  · intro h
    rcases codec_change_needs_authenticated s st w h with h | h
    · obtain ⟨q, hq, hv, _⟩ := h.isV
      rw [hq, namedSlot_none_of_versionReq hv] at hn
      cases hn
    · exact nob w h.1
  · intro h
    exact nob w (raw_switch_needs_authenticated s st w h).1
  · intro hpost
    cases hpre : (getUser s w).authenticated with
    | true => rfl
    | false =>
      obtain ⟨q, _, _, h3, h4, _⟩ := authenticated_set_only_by_good_login s st w hpost hpre
      rw [hn] at h3
      have := h4.lt
      cases h3
      omega

/-- non-vacuity: a login whose user id byte is 200 names slot -56 -/
example : namedSlot Ex.s1.cfg (.q (Ex.mkQ Ex.srcA 2 Ex.nameLbad)) = some (-56) := Ex.run.1.2.2

theorem loginCalcC_mod (p : List Nat) (sd : Nat) : Login.loginCalcC p (sd % 2 ^ 32) = Login.loginCalcC p sd := by
  unfold Login.loginCalcC
  simp only [Nat.mod_mod]

theorem goodLogin_mod (cfg : Config) (sd : Nat) (q : Query) : goodLogin cfg (sd % 2 ^ 32) q ↔ goodLogin cfg sd q := by
  unfold goodLogin
  rw [loginCalcC_mod]

theorem beVal_beBytes (n v : Nat) : beVal (beBytes n v) = v % 256 ^ n := by
  induction n with
  | zero => rw [beBytes, beVal, Nat.pow_zero, Nat.mod_one]
  | succ n ih =>
    rw [beBytes, beVal, beBytes_length, ih, Nat.mod_mod, Nat.pow_succ, Nat.mod_mul, Nat.mul_comm, Nat.add_comm]

theorem findSome?_eq_some_of {α β : Type} (f : α → Option β) (l : List α) (b : β)
    (h : ∀ e ∈ l, f e = none ∨ f e = some b) (hex : ∃ e ∈ l, f e = some b) : l.findSome? f = some b := by
  induction l with
  | nil => obtain ⟨e, he, _⟩ := hex; cases he
  | cons a l ih =>
    simp only [List.findSome?_cons]
    rcases h a (List.mem_cons_self) with ha | ha
    · rw [ha]
      apply ih (fun e he => h e (List.mem_cons_of_mem _ he))
      obtain ⟨e, he, hfe⟩ := hex
      rcases List.mem_cons.mp he with rfl | he
      · rw [ha] at hfe; cases hfe
      · exact ⟨e, he, hfe⟩
    · rw [ha]

theorem vackInfo_of_harmless {e : Event} (h : Harmless e) : vackInfo e = none := by
  cases e with
  | ans dst id ty dn name data tag =>
    cases tag with
    | ctrl =>
      simp only [vackInfo]
      rw [if_neg]
      intro hh
      exact (h rfl).2 ⟨by omega, hh.2.1⟩
    | chunk u => rfl
    | dupe u => rfl
    | cached u => rfl
    | qmem u => rfl
  | _ => rfl

theorem vackInfo_vack (q : Query) (dn u sd : Nat) (hV : q.name.getD 0 0 = 118 ∨ q.name.getD 0 0 = 86) :
    vackInfo (Event.ans q.from_ q.id q.type dn q.name (ascii "VACK" ++ beBytes 4 sd ++ [u % 256]) .ctrl)
      = some (u % 256, sd % 2 ^ 32) := by
  simp only [vackInfo]
  have h1 : (ascii "VACK" ++ beBytes 4 sd ++ [u % 256]).take 4 = ascii "VACK" := by simp [ascii, beBytes]
  have h2 : (ascii "VACK" ++ beBytes 4 sd ++ [u % 256]).length = 9 := by simp [ascii, beBytes]
  have h3 : (ascii "VACK" ++ beBytes 4 sd ++ [u % 256]).getD 8 0 = u % 256 := by simp [ascii, beBytes]
  have h4 : ((ascii "VACK" ++ beBytes 4 sd ++ [u % 256]).drop 4).take 4 = beBytes 4 sd := by simp [ascii, beBytes]
  rw [if_pos ⟨hV, h1, h2⟩, h3, h4, beVal_beBytes]

theorem versionReq_char {cfg : Config} {q : Query} (h : versionReq cfg q) :
    q.name.getD 0 0 = 118 ∨ q.name.getD 0 0 = 86 := by
  unfold versionReq at h
  split at h
  · exact absurd h id
  · next inb hp =>
    obtain ⟨_, _, _, _, h0⟩ := payload_eq hp
    rw [← h0]; exact h

/-- the invariant tying the server state to the monitor state: an authenticated slot has answered its current
challenge, and the monitor knows the current challenge of every slot in use -/
structure Inv (s : Srv) (m : Mon) : Prop where
  authed : ∀ u, (getUser s u).authenticated = true → m.authed u = true
  seed : ∀ u, (getUser s u).active = true → m.seed u = some ((getUser s u).seed % 2 ^ 32)
  len : s.users.length ≤ 256

theorem update_noVack (cfg : Config) (m : Mon) (t : TraceStep)
    (h : ∀ q, t.step.inp = .q q → versionReq cfg q → t.events.findSome? vackInfo = none) :
    (∀ v, m.authed v = true → (m.update cfg t).authed v = true) ∧ (m.update cfg t).seed = m.seed := by
  unfold Mon.update
  split
  · next q hq =>
    split
    · next hv =>
      rw [h q hq hv]
      exact ⟨fun v hv => hv, rfl⟩
    · split
      · split
        · refine ⟨fun v hv => ?_, rfl⟩
          simp only []
          split
          · rfl
          · exact hv
        · exact ⟨fun v hv => hv, rfl⟩
      · exact ⟨fun v hv => hv, rfl⟩
  · exact ⟨fun v hv => hv, rfl⟩

/-- the state did not change in the fields the invariant reads, the monitor saw no VACK -/
theorem Inv.keep {s s' : Srv} {m : Mon} (cfg : Config) (t : TraceStep) (h : Inv s m)
    (hs : ∀ u, (getUser s' u).authenticated = (getUser s u).authenticated ∧
      (getUser s' u).active = (getUser s u).active ∧ (getUser s' u).seed = (getUser s u).seed)
    (hl : s'.users.length = s.users.length)
    (hv : ∀ q, t.step.inp = .q q → versionReq cfg q → t.events.findSome? vackInfo = none) :
    Inv s' (m.update cfg t) := by
  obtain ⟨h1, h2⟩ := update_noVack cfg m t hv
  refine ⟨?_, ?_, by rw [hl]; exact h.len⟩
  · intro u hu
    rw [(hs u).1] at hu
    exact h1 u (h.authed u hu)
  · intro u hu
    rw [(hs u).2.1] at hu
    rw [h2, (hs u).2.2]
    exact h.seed u hu

/-- the state changed at slot `u` only (in the fields the invariant reads), and so did the monitor -/
theorem Inv.change {s s' : Srv} {m m' : Mon} (u : Nat) (h : Inv s m) (hl : s'.users.length = s.users.length)
    (hp : ∀ v, v ≠ u → prot (getUser s' v) = prot (getUser s v))
    (hm : ∀ v, v ≠ u → m'.authed v = m.authed v ∧ m'.seed v = m.seed v)
    (ha : (getUser s' u).authenticated = true → m'.authed u = true)
    (hs : (getUser s' u).active = true → m'.seed u = some ((getUser s' u).seed % 2 ^ 32)) : Inv s' m' := by
  refine ⟨fun v hv => ?_, fun v hv => ?_, by rw [hl]; exact h.len⟩
  · by_cases hvu : v = u
    · subst hvu; exact ha hv
    · rw [(prot_fields (hp v hvu)).2.1] at hv
      rw [(hm v hvu).1]; exact h.authed v hv
  · by_cases hvu : v = u
    · subst hvu; exact hs hv
    · rw [(prot_fields (hp v hvu)).1] at hv
      rw [(hm v hvu).2, (prot_fields (hp v hvu)).2.2.2.1]; exact h.seed v hv

theorem not_versionReq_of_named {cfg : Config} {q : Query} {i : Int} (h : namedSlot cfg (.q q) = some i) :
    ¬ versionReq cfg q := by
  intro hv
  rw [namedSlot_none_of_versionReq hv] at h
  cases h

theorem inv_step (s : Srv) (st : Step) (m : Mon) (h : Inv s m) :
    Inv (next s st) (m.update s.cfg ⟨st, s, out s st, next s st⟩) := by
  have hl := (C04L.next_base s st).2.2
  have keep_prot : (∀ u, prot (getUser (next s st) u) = prot (getUser s u)) →
      ∀ u, (getUser (next s st) u).authenticated = (getUser s u).authenticated ∧
      (getUser (next s st) u).active = (getUser s u).active ∧ (getUser (next s st) u).seed = (getUser s u).seed := by
    intro hp u
    have := prot_fields (hp u)
    exact ⟨this.2.1, this.1, this.2.2.2.1⟩
  have none_of_harmless : (∀ e ∈ out s st, Harmless e ∨ ∃ d b, e = .raw d b) →
      (out s st).findSome? vackInfo = none := by
    intro he
    apply List.findSome?_eq_none_iff.2
    intro e hh
    rcases he e hh with h | ⟨d, b, rfl⟩
    · exact vackInfo_of_harmless h
    · rfl
  cases stepOutcome s st with
  | quiet hp hb he hh =>
    exact h.keep _ _ (keep_prot hp) hl (fun _ _ _ => none_of_harmless (fun e hh => Or.inl (he e hh)))
  | tunIn f hi hp he =>
    exact h.keep _ _ (keep_prot hp) hl (fun _ _ _ => none_of_harmless he)
  | alloc q u sd hi cmd lt free hp hb auth authRaw seed active conn vack he hh =>
    have hvr := versionReq_of_cmdChar cmd
    have hch := versionReq_char hvr
    have hu : u % 256 = u := Nat.mod_eq_of_lt (Nat.lt_of_lt_of_le lt h.len)
    have hfs : (out s st).findSome? vackInfo = some (u, sd % 2 ^ 32) := by
      apply findSome?_eq_some_of
      · intro e hh
        rcases he e hh with h | ⟨dn, rfl⟩
        · exact Or.inl (vackInfo_of_harmless h)
        · right; rw [vackInfo_vack q dn u sd hch, hu]
      · obtain ⟨dn, hdn⟩ := vack
        exact ⟨_, hdn, by rw [vackInfo_vack q dn u sd hch, hu]⟩
    have hupd : m.update s.cfg ⟨st, s, out s st, next s st⟩ =
        { authed := fun v => if v = u then false else m.authed v,
          seed := fun v => if v = u then some (sd % 2 ^ 32) else m.seed v } := by
      simp only [Mon.update, hi, if_pos hvr, hfs]
    rw [hupd]
    refine h.change u hl hp (fun v hv => ?_) (fun ha => ?_) (fun _ => ?_)
    · exact ⟨if_neg hv, if_neg hv⟩
    · rw [auth] at ha; cases ha
    · simp only [if_pos]; rw [seed]
  | login q dlen u hi hd h2 cmd len uid hash ok hp hself hb he hh =>
    obtain ⟨hg, hnamed⟩ := goodLogin_of_login hd h2 cmd len uid hash
    have hnv := not_versionReq_of_named hnamed
    obtain ⟨hlive, _⟩ := live_of_userOkAt ok
    have hseed := h.seed u hlive.active
    have hgood : goodLogin s.cfg ((getUser s u).seed % 2 ^ 32) q := (goodLogin_mod _ _ _).2 hg
    have hupd : m.update s.cfg ⟨st, s, out s st, next s st⟩ =
        { m with authed := fun v => if v = u then true else m.authed v } := by
      have hok : m.loginOk s.cfg q (u : Int) = true := by
        simp only [Mon.loginOk, Int.toNat_natCast, hseed]
        simp [hgood]
      simp only [Mon.update, hi, if_neg hnv, hnamed, hok, if_true, Int.toNat_natCast]
    rw [hupd]
    refine h.change u hl hp (fun v hv => ?_) (fun _ => ?_) (fun ha => ?_)
    · exact ⟨if_neg hv, rfl⟩
    · simp only [if_pos]
    · have e1 : (getUser (next s st) u).active = (getUser s u).active := congrArg Prot.active hself
      have e2 : (getUser (next s st) u).seed = (getUser s u).seed := congrArg Prot.seed hself
      rw [e1] at ha; rw [e2]; exact h.seed u ha
  | authedQ q i hi hreq ok hauth hcore hoth =>
    have hnamed : namedSlot s.cfg (.q q) = some i := by rw [namedSlot_eq_reqSlot, ← hi, hreq]
    have hnv := not_versionReq_of_named hnamed
    refine h.keep _ _ ?_ hl ?_
    · intro u
      have := core_fields (hcore u)
      exact ⟨this.2.1, this.1, this.2.2.2.1⟩
    · intro q' hq' hv
      simp only [hi] at hq'
      cases hq'
      exact absurd hv hnv
  | rawLogin src bytes u hi uid hash lt active enabled auth fresh hp hself hb he hh =>
    refine h.keep _ _ ?_ hl ?_
    · intro v
      by_cases hvu : v = u
      · subst hvu
        exact ⟨congrArg Prot.authenticated hself, congrArg Prot.active hself, congrArg Prot.seed hself⟩
      · have := prot_fields (hp v hvu)
        exact ⟨this.2.1, this.1, this.2.2.2.1⟩
    · intro q' hq'
      simp only [hi] at hq'
      cases hq'
  | authedRaw src bytes u hi hreq ok hauth hraw hp =>
    refine h.keep _ _ (keep_prot hp) hl ?_
    intro q' hq'
    simp only [hi] at hq'
    cases hq'

theorem namedAuthed_of_onBehalf {s : Srv} {st : Step} {m : Mon} {u : Nat} (h : Inv s m) (hb : OnBehalf s st u) :
    m.namedAuthed s.cfg st.inp = true ∧ m.namedAuthed s.cfg st.inp (some u) = true := by
  have ha := h.authed u hb.authenticated
  unfold Mon.namedAuthed
  rw [hb.named]
  simp [ha]

theorem effect_of_observed (s : Srv) (st : Step) (h : observedEffect ⟨st, s, out s st, next s st⟩ = true) :
    TunWrite s st ∨ Forwarded s st ∨ DisclosesAddr s st ∨ SendsTunnelData s st := by
  unfold observedEffect at h
  simp only [Bool.or_eq_true, Bool.and_eq_true, List.any_eq_true, decide_eq_true_eq] at h
  rcases h with (⟨e, he, ht⟩ | ⟨e, he, ht⟩) | ⟨hn, h⟩
  · left
    cases e <;> simp [isTunw] at ht
    exact ⟨_, he⟩
  · right; right; left
    cases e with
    | ans dst id ty dn name data tag =>
      cases tag <;> simp [isIpAnswer] at ht
      exact ⟨dst, id, ty, dn, name, data, he, ht⟩
    | _ => simp [isIpAnswer] at ht
  · have hnet : fromNetwork st.inp := by
      cases hi : st.inp <;> simp [fromNetworkB, hi] at hn <;> simp [fromNetwork]
    rcases h with (⟨e, he, ht⟩ | ⟨e, he, ht⟩) | ⟨v, _, hv⟩
    · right; left
      refine ⟨hnet, Or.inr ?_⟩
      cases e with
      | raw d b =>
        simp only [isRawDataEv, decide_eq_true_eq] at ht
        exact ⟨d, b, he, ht⟩
      | _ => simp [isRawDataEv] at ht
    · right; right; right
      exact ⟨hnet, e, he, ht⟩
    · right; left
      exact ⟨hnet, Or.inl ⟨v, hv⟩⟩

theorem stepOk_of_inv (s : Srv) (st : Step) (m : Mon) (h : Inv s m) :
    stepOk s.cfg m ⟨st, s, out s st, next s st⟩ = true := by
  unfold stepOk
  simp only [Bool.and_eq_true, Bool.or_eq_true, Bool.not_eq_true', List.all_eq_true, List.mem_range]
  refine ⟨?_, ?_⟩
  · cases ho : observedEffect ⟨st, s, out s st, next s st⟩ with
    | false => exact Or.inl rfl
    | true =>
      right
      obtain ⟨u, _, _, hb, _, _⟩ := effect_cases s st (effect_of_observed s st ho)
      exact (namedAuthed_of_onBehalf h hb).1
  · intro w hw
    refine ⟨?_, ?_⟩
    · cases hc : codecChanged ⟨st, s, out s st, next s st⟩ w with
      | false => exact Or.inl (Or.inl rfl)
      | true =>
        have hcc : CodecChange s st w := by
          unfold codecChanged at hc
          unfold CodecChange
          exact of_decide_eq_true hc
        rcases codec_change_needs_authenticated s st w hcc with ha | ⟨hb, _⟩
        · right
          obtain ⟨q, hq, hv, e, he, dn, hdn⟩ := ha.isV
          have hwm : w % 256 = w := Nat.mod_eq_of_lt (Nat.lt_of_lt_of_le hw h.len)
          unfold vackSeenFor
          simp only [hq, Bool.and_eq_true, decide_eq_true_eq, List.any_eq_true]
          refine ⟨hv, e, he, ?_⟩
          rw [hdn, vackInfo_vack q dn w _ (versionReq_char hv), hwm]
          simp
        · exact Or.inl (Or.inr (namedAuthed_of_onBehalf h hb).2)
    · cases hc : rawSwitched ⟨st, s, out s st, next s st⟩ w with
      | false => exact Or.inl rfl
      | true =>
        right
        have hrs : RawSwitch s st w := by
          unfold rawSwitched at hc
          unfold RawSwitch
          exact of_decide_eq_true hc
        exact (namedAuthed_of_onBehalf h (raw_switch_needs_authenticated s st w hrs).1).2

theorem accepts_of_inv (cfg : Config) : ∀ (steps : List Step) (s : Srv) (m : Mon), s.cfg = cfg → Inv s m →
    accepts cfg m (traceFrom s steps) = true := by
  intro steps
  induction steps with
  | nil => intro s m _ _; rfl
  | cons st rest ih =>
    intro s m hc h
    simp only [traceFrom, accepts, Bool.and_eq_true]
    subst hc
    exact ⟨stepOk_of_inv s st m h, ih (next s st) _ (C04L.next_base s st).1 (inv_step s st m h)⟩

theorem inv_start (cfg : Config) (rnd : List Nat) : Inv (start cfg rnd) Mon.init := by
  have hz : ∀ u, (getUser (start cfg rnd) u).authenticated = false ∧ (getUser (start cfg rnd) u).active = false := by
    intro u
    unfold getUser start Srv.init
    simp only [List.getD_eq_getElem?_getD, List.getElem?_map]
    cases (Users.initUsers cfg.myIp cfg.netmask)[u]? <;> simp [Session.zero]
  refine ⟨?_, ?_, ?_⟩
  · intro u hu; rw [(hz u).1] at hu; cases hu
  · intro u hu; rw [(hz u).2] at hu; cases hu
  · unfold start Srv.init Users.initUsers
    simp only [List.length_map, Users.length_initLoop]
    unfold Users.userCount
    have : Gen.USERS = 16 := rfl
    omega

/-- History.  Every run of the server from start-up (any configuration, password, `rand()` values, any sequence of
inputs and clock values — monotone or not) is accepted by the monitor: every privileged effect observed in the
trace is on behalf of a slot that, according to the inputs and events seen BEFORE, has received a VACK with
some seed and has afterwards sent a login that is good for exactly that seed, with no later VACK for the slot. -/
theorem privileged_implies_answered_current_challenge (cfg : Config) (rnd : List Nat) (steps : List Step) :
    accepts (start cfg rnd).cfg Mon.init (traceFrom (start cfg rnd) steps) = true :=
  accepts_of_inv _ steps _ _ rfl (inv_start cfg rnd)

/-- non-vacuity: in the scenario the monitor sees the tun write of the fifth iteration, and at that point it has
recorded slots 0 and 1 (and no other) as having answered their challenges 12345 and 777 -/
example :
    let tr := traceFrom Ex.s0 Ex.steps
    let m := (tr.take 4).foldl (fun m t => m.update Ex.s0.cfg t) Mon.init
    (tr.getLast?.map observedEffect) = some true ∧
    m.authed 0 = true ∧ m.authed 1 = true ∧ m.authed 2 = false ∧ m.seed 0 = some 12345 ∧ m.seed 1 = some 777 :=
  Ex.run.2.2.2.1

/-- non-vacuity: the monitor REJECTS a (made-up) trace in which the same data request produces a tun write although
slot 0 has only been allocated, not logged in -/
example : accepts Ex.s0.cfg Mon.init
    [⟨Ex.stV Ex.srcA 1 1000, Ex.s0, out Ex.s0 (Ex.stV Ex.srcA 1 1000), Ex.s1⟩,
     ⟨⟨.q (Ex.mkQ Ex.srcA 5 Ex.nameD8), 1004⟩, Ex.s1, [Event.tunw [0, 0, 8, 0], Event.sweep], Ex.s1⟩] = false :=
  Ex.run.2.2.2.2.1

/-- A login that is good for challenge `seed1` does not authenticate slot `u` while `u`'s current challenge is a
different one (whose MD5 response differs): replaying the login of an earlier session of the slot is useless. -/
theorem replayed_login_for_old_challenge_rejected (s : Srv) (st : Step) (u : Nat) (q : Query) (seed1 : Nat)
    (hq : st.inp = .q q) (hold : goodLogin s.cfg seed1 q)
    (hne : Login.loginCalcC s.cfg.password seed1 ≠ Login.loginCalcC s.cfg.password (getUser s u).seed)
    (hpre : (getUser s u).authenticated = false) :
    (getUser (next s st) u).authenticated = false := by
  cases hpost : (getUser (next s st) u).authenticated with
  | false => rfl
  | true =>
    exfalso
    obtain ⟨q', hq', hgood, _⟩ := authenticated_set_only_by_good_login s st u hpost hpre
    rw [hq] at hq'
    cases hq'
    unfold goodLogin at hold hgood
    split at hold
    · exact hold
    · next inb hp =>
      rw [hp] at hgood
      exact hne (hold.2.2.symm.trans hgood.2.2)

/-- non-vacuity: `s6` is `s2` after slot 0 expired and was re-allocated (seed 777 instead of 12345); the login that
authenticated slot 0 in `s1` is good for the old seed and is now refused -/
example :
    (getUser Ex.s6 0).seed = 777 ∧ (getUser Ex.s6 0).authenticated = false ∧
    goodLogin Ex.s6.cfg 12345 (Ex.mkQ Ex.srcB 6 Ex.nameL0) ∧
    Login.loginCalcC Ex.s6.cfg.password 12345 ≠ Login.loginCalcC Ex.s6.cfg.password (getUser Ex.s6 0).seed ∧
    (getUser (next Ex.s6 ⟨.q (Ex.mkQ Ex.srcB 6 Ex.nameL0), 1101⟩) 0).authenticated = false :=
  Ex.run.2.2.2.2.2.1

/-- The same over two iterations: the first re-allocates slot `u` (its seed changes), the second replays a login
that was good for the old seed. -/
theorem replayed_login_after_reallocation (s : Srv) (st1 st2 : Step) (u : Nat) (q : Query)
    (hre : (getUser (next s st1) u).seed ≠ (getUser s u).seed)
    (hq : st2.inp = .q q) (hold : goodLogin s.cfg (getUser s u).seed q)
    (hne : Login.loginCalcC s.cfg.password (getUser s u).seed ≠
           Login.loginCalcC s.cfg.password (getUser (next s st1) u).seed) :
    (getUser (next (next s st1) st2) u).authenticated = false := by
  obtain ⟨_, hauth, _⟩ := seed_changes_only_at_allocation s st1 u hre
  have hc := (C04L.next_base s st1).1
  apply replayed_login_for_old_challenge_rejected (next s st1) st2 u q (getUser s u).seed hq
  · rw [hc]; exact hold
  · rw [hc]; exact hne
  · exact hauth

/-- non-vacuity of the two-iteration form: the re-allocation step itself -/
example : (getUser (next Ex.s2 (Ex.stV Ex.srcB 5 1100)) 0).seed ≠ (getUser Ex.s2 0).seed ∧
    goodLogin Ex.s2.cfg (getUser Ex.s2 0).seed (Ex.mkQ Ex.srcB 6 Ex.nameL0) := Ex.run.2.2.2.2.2.2

end Iodine.C03
