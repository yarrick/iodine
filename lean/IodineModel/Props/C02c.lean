import IodineModel.Props.C02b
import IodineModel.Lemmas.C02qU6
import IodineModel.Lemmas.C02qB1
import IodineModel.Lemmas.C02rD7
import IodineModel.Lemmas.C02rU6
import IodineModel.Lemmas.C02rU3
import IodineModel.Lemmas.C02rG5
import IodineModel.Lemmas.C02rG6
import IodineModel.Lemmas.C02rG7
import IodineModel.Lemmas.C02rG8
import IodineModel.Lemmas.C02rO9
import IodineModel.Lemmas.C02rO10
import IodineModel.Lemmas.C02rA8
/-
C02 — "after a period of loss … once the path behaves again packets are delivered again within a bounded time":
the fully quantified form for the fault class ONE-DIRECTION BLACKOUT, both directions, in immediate mode ((1), (3), (5));
beside it the `d = 7` corner of a desynchronised start in both modes (2) and overlapping offers in lazy mode (4).

(1) `blackout_then_clean_upstream`: from `Quiescent`, `k ≤ 5` packets offered to the client while every upstream datagram is
    lost, then any list of packets on the clean prompt path: exactly the first `lostUp k` are lost, all later ones arrive
    exactly once and in order, and the state is quiescent and in sync again.  The upstream chain (`C02L.srv_answers`,
    `srv_last`, `srv_tick`, `InFlight.mid_step`, `InFlight.last_step`, `InFlight.run`, `QuietMD.up_packet`; `up_packet_imm`,
    `up_sequence_imm`) and the desync chain (`up_packet_imm_desync_*`, `recovery_after_giveups_up_imm`) hold for every freshness
    slack the counters' periods allow (`1 ≤ sl ≤ 21` data counter, `1 ≤ sp ≤ 999` ping seed; `Mode.imm sl sp`):
    `QuiescentSlack P sl sp` (`Quiescent = QuiescentSlack 1 1`).  The final state has slack `1 + 4k` / `1 + k` (it does not
    shrink again by itself in this formulation: see (5), renewal), and all UPSTREAM theorems apply to it.  `k ≤ 5` because each given-up packet burns 4 data-CMC values and
    the invariant covers 21 unseen ones (ring of 15, period 36); longer blackouts are the freshness counterexample of
    `Props/C02b.lean`.
    Lazy mode: the first give-up run is the same nine events (`C02L.test_giveup_up_lazy_1`), but the next query trips
    `send_query`'s "too few answers" test — `selecttimeout := 1`, then lazy mode off on the client only — so later runs differ;
    no theorem.
(2) the `d = 7` corner downstream: `desync_down_delivered7_*` (the "weird situation" clause; needs the client's reassembly
    buffer empty), hence `recovery_after_giveups_down_*` without `_partial`.  FINDING: quiescence does not imply the buffer is
    empty, and with `inpkt.fragment = 0 ∧ inpkt.len ≠ 0` at `d = 7` the client SPLICES the old fragment 0 and the new packet's
    fragment 1 into a frame that was never offered (`C02L.stale_fragment0_reachable`: reachable from the demo session by a
    downstream blackout that starts after fragment 0 of a longer packet arrived; with real zlib: a lost packet).
    Upstream: `desync7_up_multi` (the false acknowledgement for multi-fragment packets: the server assembles a CHIMERA of its stale
    buffer and the new packet minus its first fragment; what reaches tun is stated exactly, `junkUp (chimeraUp …)`),
    `desync_false_ack_immediate`, `recovery_after_giveups_full`.
(3) `giveup_run_downstream`, `giveup_runs_downstream`, `blackout_then_clean_downstream(_nopoll)`.
(4) `clean_path_two_simultaneous_offers_lazy`: overlapping transfers in lazy mode, all fragment counts, both offer orders.
(5) `ring_wellformedness_invariant` (every event), `freshness_renewal_world`, `freshness_renewal_after_fault_prefix`: after any
    fault prefix that ends quiescent and in sync, with no collision among the next 15 data-CMC values, fifteen one-fragment
    packets re-establish `Quiescent`.  Not covered: the ping half (`PAged … 1` is a hypothesis), multi-fragment packets during
    renewal, the general "a collision costs one timeout" flow, `d ≤ 3` desynchronised starts.
-/
set_option linter.unusedVariables false

namespace Iodine.C02
open Iodine Iodine.World Iodine.C02L
open Iodine.Server (getUser ipDst Session)

/-- quiescent and in sync, with freshness slacks `sl` (data-CMC counter) and `sp` (ping seed): the client may have sent
`sl − 1` data queries and `sp − 1` pings that the server never saw -/
abbrev QuiescentSlack (P : C02L.Par) (sl sp : Nat) (w : W) : Prop := C02L.QuietImmS P sl sp w

theorem quiescentSlack_one {P : C02L.Par} {w : W} : QuiescentSlack P 1 1 w ↔ Quiescent P w := Iff.rfl

/-- **the clean path upstream from ANY admissible slack** (the generalisation behind (1)): a sequence of acceptable frames
arrives exactly once, in order; the slack is kept. -/
theorem clean_path_sequence_upstream_immediate_slack {P : C02L.Par} (hP : Params P) (fuel : Nat) (hfuel : 33 ≤ fuel) {sl sp : Nat}
    (frames : List (List Nat)) (w : W) (hq : QuiescentSlack P sl sp w)
    (hok : ∀ f ∈ frames, AcceptableUp P (Server.getUser w.srv P.u).tunIp f) (hsl : 1 ≤ sl ∧ sl ≤ 21) :
    QuiescentSlack P sl sp (offerAllC P.u fuel w frames) ∧
    (offerAllC P.u fuel w frames).tunS = w.tunS ++ frames.map tunImage ∧
    (offerAllC P.u fuel w frames).tunC = w.tunC :=
  C02L.up_sequence_imm hP fuel hfuel frames w hq hok hsl

/-- (THEOREM; immediate mode).  `lostFrames`: the `k ≤ 5` packets offered during the upstream
blackout (`C02L.giveupRunUp`: offer, nine events of `blackoutEvUp`, repeat; 4 s each, which must fit into both 60 s limits);
`frames`: the packets offered afterwards on the clean prompt path.  Exactly `frames.drop (lostUp k)` arrive, exactly once
and in order, nothing else is written to either tun device; quiescent and in sync with slack `1 + 4k`, `1 + k`.
(`hfr`: for `k ≥ 4` the server's last fragment number must be ≥ 1 — otherwise the packet that reuses the server's number is
falsely acknowledged, `desync_false_ack`.) -/
theorem blackout_then_clean_upstream {P : C02L.Par} (hP : Params P) (fuel : Nat) (hfuel : 33 ≤ fuel) {w : W} (hq : Quiescent P w)
    (lostFrames : List (List Nat)) (hk : lostFrames.length ≤ 5)
    (hlf : ∀ f ∈ lostFrames, f ≠ [] ∧ f.length < 65536 ∧ Codec.Bytes f)
    (hc : ¬ w.cs.c.lastdownstreamtime + 60 < w.cs.c.now + 4 * lostFrames.length)
    (hs : w.srv.now + 4 * lostFrames.length < (Server.getUser w.srv P.u).lastPkt + 60)
    (hfr : lostFrames.length ≤ 3 ∨ 1 ≤ (Server.getUser w.srv P.u).inpacket.fragment)
    (frames : List (List Nat)) (hok : ∀ f ∈ frames, AcceptableUp P (Server.getUser w.srv P.u).tunIp f) :
    (offerAllC P.u fuel (C02L.giveupRunUp lostFrames w) frames).tunS =
        w.tunS ++ (frames.drop (C02L.lostUp lostFrames.length)).map tunImage ∧
    (offerAllC P.u fuel (C02L.giveupRunUp lostFrames w) frames).tunC = w.tunC ∧
    (C02L.lostUp lostFrames.length < frames.length →
      QuiescentSlack P (1 + 4 * lostFrames.length) (1 + lostFrames.length)
        (offerAllC P.u fuel (C02L.giveupRunUp lostFrames w) frames)) :=
  by
  have hq0 : C02L.QuietImmDS P 0 0 1 1 w := C02L.quietImmDS_zero.2 hq
  obtain ⟨hg, hd⟩ := C02L.giveup_runs_up_imm hP lostFrames hlf hq0 (by omega) (by omega) hc hs
  have hsrv : Server.getUser (C02L.giveupRunUp lostFrames w).srv P.u = Server.getUser w.srv P.u := by rw [hg.srv]; rfl
  have hk8 : (0 + lostFrames.length) % 8 = lostFrames.length := by omega
  rw [hk8] at hd
  have := C02L.recovery_after_giveups_up_imm hP fuel hfuel frames lostFrames.length (C02L.giveupRunUp lostFrames w) hd (by omega)
    (by rw [hsrv]; exact hfr) (by rw [hsrv]; exact hok)
  rw [hg.tunS, hg.tunC] at this
  exact this

/-- non-vacuity: the demo session after a two-fragment packet (`exW1`), FOUR packets given up during an upstream blackout,
then five packets on the clean path: only the fifth arrives; quiescent with slack 17 / 5 -/
example : (offerAllC 0 40 (C02L.giveupRunUp [C02L.fA 0, C02L.fA 1, C02L.fA 2, C02L.fA 3] exW1)
      [demoFrame 9 4, demoFrame 9 5, demoFrame 9 6, demoFrame 9 7, demoFrame 9 30]).tunS = [demoFrame 9 30, demoFrame 9 30] ∧
    QuiescentSlack exP 17 5 (offerAllC 0 40 (C02L.giveupRunUp [C02L.fA 0, C02L.fA 1, C02L.fA 2, C02L.fA 3] exW1)
      [demoFrame 9 4, demoFrame 9 5, demoFrame 9 6, demoFrame 9 7, demoFrame 9 30]) := by
  have h := blackout_then_clean_upstream exP_ok 40 (by omega) ex_quiescent1.1 [C02L.fA 0, C02L.fA 1, C02L.fA 2, C02L.fA 3]
    (by decide) C02L.fA_ok4
  -- the number of lost frames as a numeral, so that the clock facts of `ex_eval1` fit as they stand
  rw [show [C02L.fA 0, C02L.fA 1, C02L.fA 2, C02L.fA 3].length = 4 from rfl, show C02L.lostUp 4 = 4 from rfl] at h
  have h := h ex_eval1.2.1 ex_eval1.2.2 (Or.inr ex_frag1) [demoFrame 9 4, demoFrame 9 5, demoFrame 9 6, demoFrame 9 7, demoFrame 9 30]
    (by intro f hf; rw [ex_quiescent1.2.1]; exact ex_up_frames f hf)
  have hi : C02L.tunImage (demoFrame 9 30) = demoFrame 9 30 := by decide
  refine ⟨?_, h.2.2 (by decide)⟩
  exact h.1.trans (by rw [ex_quiescent1.2.2.1]; show [demoFrame 9 30] ++ [C02L.tunImage (demoFrame 9 30)] = _; rw [hi]; rfl)

/-- **(2) downstream `d = 7`, the "weird situation"** (immediate mode): the new packet carries the client's CURRENT number; with the client's last fragment number 0 and an EMPTY reassembly buffer (`inpkt.len = 0`) `tunnel_dns` takes fragment 0 ("we probably got a no-data reply for this seqno"): delivered exactly once in the normal step count; in sync again. -/
theorem desync_down_delivered7_immediate :
    ∀ {P : Par} (hP : P.Ok) {w : W} (hq : QuietImmD P 0 7 w)
    (hfr : w.cs.c.inpkt.fragment = 0) (hlen0 : w.cs.c.inpkt.len = 0) (frame : List Nat)
    (hF : 0 < (Server.getUser w.srv P.u).fragsize)
    (hok : DownFrameOk (Server.getUser w.srv P.u).tunIp (Server.getUser w.srv P.u).fragsize frame)
    (hto : (Client.selectOf w.cs.c).to < 10000000)
    (hexp : ¬ w.cs.c.lastdownstreamtime + 60 < w.cs.c.now + ((Client.selectOf w.cs.c).to / 1000000).toNat)
    (hlive : w.srv.now + ((Client.selectOf w.cs.c).to / 1000000).toNat < (Server.getUser w.srv P.u).lastPkt + 60),
    ∃ w', promptSteps P.u (downSteps (downFrags (Server.getUser w.srv P.u).fragsize (frame.length + 1) (frame.length + 1)))
        (step w (.offerS frame)) = some w' ∧
      QuietImm P w' ∧ w'.tunC = w.tunC ++ [tunImage frame] ∧ w'.tunS = w.tunS ∧
      (Server.getUser w'.srv P.u).fragsize = (Server.getUser w.srv P.u).fragsize ∧
      (Server.getUser w'.srv P.u).tunIp = (Server.getUser w.srv P.u).tunIp ∧
      (Server.getUser w'.srv P.u).lastPkt = w'.srv.now ∧ w'.cs.c.lastdownstreamtime = w'.cs.c.now ∧
      w'.cs.c.selecttimeout = w.cs.c.selecttimeout ∧ w'.cs.c.sendPingSoon ≤ 5 :=
  @C02L.down_packet_imm_desync7_ok

/-- … the same in lazy mode. -/
theorem desync_down_delivered7_lazy :
    ∀ {P : Par} (hP : P.Ok) {w : W} (hq : QuietLazyD P 0 7 w)
    (hfr0 : w.cs.c.inpkt.fragment = 0) (hlen0 : w.cs.c.inpkt.len = 0) (frame : List Nat) (hF : 0 < (Server.getUser w.srv P.u).fragsize)
    (hok : DownFrameOk (Server.getUser w.srv P.u).tunIp (Server.getUser w.srv P.u).fragsize frame),
    ∃ w', promptSteps P.u (downStepsL w.cs.c.sendPingSoon
          (downFrags (Server.getUser w.srv P.u).fragsize (frame.length + 1) (frame.length + 1)))
        (step w (.offerS frame)) = some w' ∧
      QuietLazy P w' ∧ w'.cs.c.sendPingSoon = 0 ∧ w'.tunC = w.tunC ++ [tunImage frame] ∧ w'.tunS = w.tunS ∧
      (Server.getUser w'.srv P.u).fragsize = (Server.getUser w.srv P.u).fragsize ∧
      (Server.getUser w'.srv P.u).tunIp = (Server.getUser w.srv P.u).tunIp :=
  @C02L.down_packet_lazy_desync7_ok

/-- **recovery_after_giveups, downstream, immediate mode**: from a state desynchronised by `d`, the first `lostDown' d frag0` offered packets are lost — none for `d ≤ 3`; `8 − d` if the client's last fragment number is not 0, `7 − d` if it is 0 (then the packet that reuses the client's number is delivered through the weird-situation clause; needs the buffer empty) —, all later ones arrive exactly once, in order; `Quiescent` again. -/
theorem recovery_after_giveups_down_immediate :
    ∀ {P : Par} (hP : P.Ok) (fuel : Nat) (hfuel : 36 ≤ fuel),
    ∀ (frames : List (List Nat)) (d : Nat) (w : W), QuietImmD P 0 d w → d < 8 →
      (4 ≤ d → w.cs.c.inpkt.fragment = 0 → w.cs.c.inpkt.len = 0) →
      Roomy P w → w.cs.c.selecttimeout ≤ 9 → 0 < (Server.getUser w.srv P.u).fragsize →
      (∀ f ∈ frames, DownFrameOk (Server.getUser w.srv P.u).tunIp (Server.getUser w.srv P.u).fragsize f) →
      lostDown' d (decide (w.cs.c.inpkt.fragment = 0)) < frames.length →
      QuietImm P (offerAllS P.u fuel w frames) ∧
      (offerAllS P.u fuel w frames).tunC = w.tunC ++ (frames.drop (lostDown' d (decide (w.cs.c.inpkt.fragment = 0)))).map tunImage ∧
      (offerAllS P.u fuel w frames).tunS = w.tunS :=
  @C02L.recovery_after_giveups_down_imm

/-- … the same in lazy mode. -/
theorem recovery_after_giveups_down_lazy :
    ∀ {P : Par} (hP : P.Ok) (fuel : Nat) (hfuel : 33 ≤ fuel),
    ∀ (frames : List (List Nat)) (d : Nat) (w : W), QuietLazyD P 0 d w → d < 8 →
      (4 ≤ d → w.cs.c.inpkt.fragment = 0 → w.cs.c.inpkt.len = 0) →
      0 < (Server.getUser w.srv P.u).fragsize →
      (∀ f ∈ frames, DownFrameOk (Server.getUser w.srv P.u).tunIp (Server.getUser w.srv P.u).fragsize f) →
      lostDown' d (decide (w.cs.c.inpkt.fragment = 0)) < frames.length →
      QuietLazy P (offerAllS P.u fuel w frames) ∧
      (offerAllS P.u fuel w frames).tunC = w.tunC ++ (frames.drop (lostDown' d (decide (w.cs.c.inpkt.fragment = 0)))).map tunImage ∧
      (offerAllS P.u fuel w frames).tunS = w.tunS :=
  @C02L.recovery_after_giveups_down_lazy

/-- **(3) the give-up run DOWNSTREAM** (immediate mode): one packet offered to the server while every downstream datagram is lost (`blackoutEvDown`).  A one-fragment packet is forgotten as it is sent: 3 events (`tickC deliverUp dropDown`), `selecttimeout` seconds; a longer one is sent on six polls and dropped on the seventh: 21 events, `7·selecttimeout` seconds.  The client's `inpkt` never moves, the server is one number ahead; the freshness slacks do NOT grow (the polls arrive and are remembered).  `hne` excludes the case in which the client's polls look like acknowledgements (`C02L.giveup_run_down_imm_hne_needed`). -/
theorem giveup_run_downstream :
    ∀ {P : Par} (hP : P.Ok) {w : W} {du dd sl sp : Nat} (hq : QuietImmDS P du dd sl sp w)
    (frame : List Nat) (hF : 0 < (getUser w.srv P.u).fragsize) (h24 : 24 ≤ frame.length) (hl : frame.length < 65536)
    (hdst : ipDst frame = (getUser w.srv P.u).tunIp)
    (hsps : w.cs.c.sendPingSoon = 0) (hsel : w.cs.c.selecttimeout ≤ 9) (hsp1 : 1 ≤ sp) (hsp : sp ≤ 1000)
    (hne : downFrags (getUser w.srv P.u).fragsize (frame.length + 1) (frame.length + 1) = 1 ∨ (dd + 1) % 8 ≠ 0 ∨
      w.cs.c.inpkt.fragment ≠ 0)
    (hc : ¬ w.cs.c.lastdownstreamtime + 60 < w.cs.c.now +
      rGpolls (downFrags (getUser w.srv P.u).fragsize (frame.length + 1) (frame.length + 1)) * w.cs.c.selecttimeout.toNat)
    (hs : w.srv.now + w.cs.c.selecttimeout.toNat < (getUser w.srv P.u).lastPkt + 60),
    DownGaveUp P w.cs.c.selecttimeout.toNat w
      (runSched blackoutEvDown (dropSteps (downFrags (getUser w.srv P.u).fragsize (frame.length + 1) (frame.length + 1)))
        (step w (.offerS frame)))
      (rGpolls (downFrags (getUser w.srv P.u).fragsize (frame.length + 1) (frame.length + 1))) ∧
    QuietImmDS P du ((dd + 1) % 8) sl sp
      (runSched blackoutEvDown (dropSteps (downFrags (getUser w.srv P.u).fragsize (frame.length + 1) (frame.length + 1)))
        (step w (.offerS frame))) :=
  @C02L.giveup_run_down_imm

/-- … iterated over `k` offered packets. -/
theorem giveup_runs_downstream :
    ∀ {P : Par} (hP : P.Ok) (F : Nat) (hF : 0 < F) (frames : List (List Nat)),
    ∀ {w : W} {du dd sl sp : Nat}, QuietImmDS P du dd sl sp w → (getUser w.srv P.u).fragsize = F →
    (∀ f ∈ frames, 24 ≤ f.length ∧ f.length < 65536 ∧ ipDst f = (getUser w.srv P.u).tunIp) →
    w.cs.c.sendPingSoon = 0 → w.cs.c.selecttimeout ≤ 9 → 1 ≤ sp → sp ≤ 1000 →
    (w.cs.c.inpkt.fragment ≠ 0 ∨ dd % 8 + frames.length ≤ 7 ∨ ∀ f ∈ frames, downFrags F (f.length + 1) (f.length + 1) = 1) →
    ¬ w.cs.c.lastdownstreamtime + 60 < w.cs.c.now + rGpollsAll F frames * w.cs.c.selecttimeout.toNat →
    w.srv.now + w.cs.c.selecttimeout.toNat < (getUser w.srv P.u).lastPkt + 60 →
    DownGaveUpN P w.cs.c.selecttimeout.toNat w (giveupRunDown F frames w) (rGpollsAll F frames) frames.length ∧
    QuietImmDS P du ((dd + frames.length) % 8) sl sp (giveupRunDown F frames w) :=
  @C02L.giveup_runs_down_imm

/-- Immediate mode, ONE theorem: from `Quiescent`, `k ≤ 7` packets offered to the server during a downstream blackout, then one idle poll on the clean path (it resynchronises the client for `k ≤ 4`), then any packets: exactly the first `rGlostAfter k` (0 for `k ≤ 4`, else `8 − k`) are lost, the others arrive exactly once and in order; `Quiescent` again. -/
theorem blackout_then_clean_downstream :
    ∀ {P : Par} (hP : P.Ok) (fuel : Nat) (hfuel : 36 ≤ fuel) (F : Nat) (hF : 0 < F)
    (bl lost rest : List (List Nat)) (w : W) (hq : QuietImm P w) (hFw : (getUser w.srv P.u).fragsize = F)
    (hbl : ∀ f ∈ bl, 24 ≤ f.length ∧ f.length < 65536 ∧ ipDst f = (getUser w.srv P.u).tunIp)
    (hok : ∀ f ∈ lost ++ rest, DownFrameOk (getUser w.srv P.u).tunIp F f)
    (hsps : w.cs.c.sendPingSoon = 0) (hsel : w.cs.c.selecttimeout ≤ 9) (hk : 1 ≤ bl.length ∧ bl.length ≤ 7)
    (hlost : lost.length = rGlostAfter bl.length) (hfr : 5 ≤ bl.length → w.cs.c.inpkt.fragment ≠ 0)
    (hc : ¬ w.cs.c.lastdownstreamtime + 60 < w.cs.c.now + (rGpollsAll F bl + 1) * w.cs.c.selecttimeout.toNat)
    (hs : w.srv.now + w.cs.c.selecttimeout.toNat < (getUser w.srv P.u).lastPkt + 60),
    QuietImm P (offerAllS P.u fuel (run (giveupRunDown F bl w) [.tickC, .deliverUp, .deliverDown]) (lost ++ rest)) ∧
    (offerAllS P.u fuel (run (giveupRunDown F bl w) [.tickC, .deliverUp, .deliverDown]) (lost ++ rest)).tunC =
      w.tunC ++ rest.map tunImage ∧
    (offerAllS P.u fuel (run (giveupRunDown F bl w) [.tickC, .deliverUp, .deliverDown]) (lost ++ rest)).tunS = w.tunS :=
  @C02L.blackout_then_clean_downstream_imm

/-- … without the idle poll (a packet is offered before the client polls): 4 given-up packets cost the next 4. -/
theorem blackout_then_clean_downstream_nopoll :
    ∀ {P : Par} (hP : P.Ok) (fuel : Nat) (hfuel : 36 ≤ fuel) (F : Nat) (hF : 0 < F)
    (bl lost rest : List (List Nat)) (w : W) (hq : QuietImm P w) (hFw : (getUser w.srv P.u).fragsize = F)
    (hbl : ∀ f ∈ bl, 24 ≤ f.length ∧ f.length < 65536 ∧ ipDst f = (getUser w.srv P.u).tunIp)
    (hok : ∀ f ∈ lost ++ rest, DownFrameOk (getUser w.srv P.u).tunIp F f)
    (hsps : w.cs.c.sendPingSoon = 0) (hsel : w.cs.c.selecttimeout ≤ 9) (hk : 1 ≤ bl.length ∧ bl.length ≤ 7)
    (hlost : lost.length = if bl.length ≤ 3 then 0 else 8 - bl.length) (hne : lost ++ rest ≠ [])
    (hfr : 4 ≤ bl.length → w.cs.c.inpkt.fragment ≠ 0)
    (hc : ¬ w.cs.c.lastdownstreamtime + 60 < w.cs.c.now + (rGpollsAll F bl + 1) * w.cs.c.selecttimeout.toNat)
    (hs : w.srv.now + w.cs.c.selecttimeout.toNat < (getUser w.srv P.u).lastPkt + 60),
    QuietImm P (offerAllS P.u fuel (giveupRunDown F bl w) (lost ++ rest)) ∧
    (offerAllS P.u fuel (giveupRunDown F bl w) (lost ++ rest)).tunC = w.tunC ++ rest.map tunImage ∧
    (offerAllS P.u fuel (giveupRunDown F bl w) (lost ++ rest)).tunS = w.tunS :=
  @C02L.blackout_then_clean_downstream_imm_nopoll

/-- **(2) upstream `d = 7`, the server's last fragment number 0, a packet of `g ≥ 2` fragments** (immediate mode).  Fragment 0 is dropped as a repeat but FALSELY ACKNOWLEDGED (the server's own numbers are the ack the client waits for); fragments 1… are taken as continuation and appended to whatever the server's reassembly buffer holds below its write offset (`BufOk`: `len = offset ≤ data.length`); at the last fragment `handle_full_packet` uncompresses the CHIMERA `chimeraUp` = old buffer prefix ++ the new packet minus its first fragment.  Exactly `junkUp chimera` is written to the server's tun device: nothing if it does not uncompress (in the model: does not start with the `0x5a` marker) or is shorter than 24 bytes, else ONE frame that nobody sent.  Normal `2·g + 1` steps, no resend; `Quiescent` and in sync afterwards; the client believes its packet delivered. -/
theorem desync7_up_multi :
    ∀ {P : Par} (hP : P.Ok) {w : W} (hq : QuietImmD P 7 0 w)
    (h0 : (Server.getUser w.srv P.u).inpacket.fragment = 0) (hbuf : BufOk (Server.getUser w.srv P.u).inpacket)
    (frame : List Nat) (hne : frame ≠ []) (hl : frame.length < 65536) (hb : Codec.Bytes frame)
    (hmulti : fragLen P (0x5a :: frame) < (0x5a :: frame).length)
    (hg16 : upFrags P (frame.length + 1) (0x5a :: frame) ≤ 16)
    (hok : ChimeraOk P (Server.getUser w.srv P.u).inpacket (Server.getUser w.srv P.u).tunIp frame),
    ∃ w', promptSteps P.u (2 * upFrags P (frame.length + 1) (0x5a :: frame) + 1) (step w (.offerC frame)) = some w' ∧
      QuietImm P w' ∧
      w'.tunS = w.tunS ++ junkUp (chimeraUp P (Server.getUser w.srv P.u).inpacket frame) ∧ w'.tunC = w.tunC ∧
      (Server.getUser w'.srv P.u).tunIp = (Server.getUser w.srv P.u).tunIp ∧
      (Server.getUser w'.srv P.u).fragsize = (Server.getUser w.srv P.u).fragsize ∧
      1 ≤ (Server.getUser w'.srv P.u).inpacket.fragment ∧ 2 ≤ upFrags P (frame.length + 1) (0x5a :: frame) :=
  @C02L.up_packet_imm_desync7_multi

/-- … with an EMPTY buffer (`len = offset = 0`, as after a delivered packet) and the byte after the first fragment not the marker: nothing is written, the packet is lost silently. -/
theorem desync7_up_multi_empty :
    ∀ {P : Par} (hP : P.Ok) {w : W} (hq : QuietImmD P 7 0 w)
    (h0 : (Server.getUser w.srv P.u).inpacket.fragment = 0)
    (hlen : (Server.getUser w.srv P.u).inpacket.len = 0) (hoff : (Server.getUser w.srv P.u).inpacket.offset = 0)
    (frame : List Nat) (hne : frame ≠ []) (hl : frame.length < 65536) (hb : Codec.Bytes frame)
    (hmulti : fragLen P (0x5a :: frame) < (0x5a :: frame).length)
    (hg16 : upFrags P (frame.length + 1) (0x5a :: frame) ≤ 16)
    (hmark : ((0x5a :: frame).drop (fragLen P (0x5a :: frame))).headD 0 ≠ 0x5a),
    ∃ w', promptSteps P.u (2 * upFrags P (frame.length + 1) (0x5a :: frame) + 1) (step w (.offerC frame)) = some w' ∧
      QuietImm P w' ∧ w'.tunS = w.tunS ∧ w'.tunC = w.tunC ∧
      (Server.getUser w'.srv P.u).tunIp = (Server.getUser w.srv P.u).tunIp ∧
      (Server.getUser w'.srv P.u).fragsize = (Server.getUser w.srv P.u).fragsize :=
  @C02L.up_packet_imm_desync7_multi_empty

/-- … and the one-fragment packet in immediate mode (cf. `desync_false_ack` for lazy mode): lost silently in 2 steps. -/
theorem desync_false_ack_immediate :
    ∀ {P : Par} (hP : P.Ok) {w : W} (hq : QuietImmD P 7 0 w)
    (h0 : (Server.getUser w.srv P.u).inpacket.fragment = 0) (frame : List Nat)
    (hne : frame ≠ []) (hl : frame.length < 65536) (hb : Codec.Bytes frame)
    (hone : fragLen P (0x5a :: frame) = (0x5a :: frame).length),
    ∃ w', promptSteps P.u 2 (step w (.offerC frame)) = some w' ∧ QuietImm P w' ∧
      w'.tunS = w.tunS ∧ w'.tunC = w.tunC ∧
      (Server.getUser w'.srv P.u).inpacket = (Server.getUser w.srv P.u).inpacket ∧
      (Server.getUser w'.srv P.u).tunIp = (Server.getUser w.srv P.u).tunIp ∧
      (Server.getUser w'.srv P.u).fragsize = (Server.getUser w.srv P.u).fragsize ∧
      w'.srv.now = w.srv.now :=
  @C02L.up_packet_imm_desync_false_ack

/-- **recovery_after_giveups, upstream, immediate mode, WITHOUT the hypothesis on the server's last fragment number**: the frames delivered are `frames.drop (lostUp d)`, preceded by `junkAt` — the one chimera frame of `desync7_up_multi` if the packet that reuses the server's number has several fragments and the chimera uncompresses, else nothing (`C02L.junkAt_nil_of_empty`: nothing when the buffer is empty and the byte after the first fragment is not the marker). -/
theorem recovery_after_giveups_full :
    ∀ {P : Par} (hP : P.Ok) (fuel : Nat) (hfuel : 33 ≤ fuel),
    ∀ (frames : List (List Nat)) (d : Nat) (w : W), QuietImmD P d 0 w → d < 8 →
      (∀ f ∈ frames, UpFrameOk P (Server.getUser w.srv P.u).tunIp f) →
      (4 ≤ d → (Server.getUser w.srv P.u).inpacket.fragment = 0 →
        BufOk (Server.getUser w.srv P.u).inpacket ∧
        ∀ f, frames[7 - d]? = some f → fragLen P (0x5a :: f) < (0x5a :: f).length →
          ChimeraOk P (Server.getUser w.srv P.u).inpacket (Server.getUser w.srv P.u).tunIp f) →
      (offerAllC P.u fuel w frames).tunS =
        w.tunS ++ junkAt P (Server.getUser w.srv P.u).inpacket d frames ++ (frames.drop (lostUp d)).map tunImage ∧
      (offerAllC P.u fuel w frames).tunC = w.tunC ∧
      (lostUp d < frames.length → QuietImm P (offerAllC P.u fuel w frames)) :=
  @C02L.recovery_after_giveups_up_imm_full

/-- … `desync7_up_multi` in lazy mode. -/
theorem desync7_up_multi_lazy :
    ∀ {P : Par} (hP : P.Ok) {w : W} (hq : QuietLazyD P 7 0 w)
    (h0 : (Server.getUser w.srv P.u).inpacket.fragment = 0) (hbuf : BufOk (Server.getUser w.srv P.u).inpacket)
    (frame : List Nat) (hne : frame ≠ []) (hl : frame.length < 65536) (hb : Codec.Bytes frame)
    (hmulti : fragLen P (0x5a :: frame) < (0x5a :: frame).length)
    (hg16 : upFrags P (frame.length + 1) (0x5a :: frame) ≤ 16)
    (hok : ChimeraOk P (Server.getUser w.srv P.u).inpacket (Server.getUser w.srv P.u).tunIp frame),
    ∃ w', promptSteps P.u (2 * upFrags P (frame.length + 1) (0x5a :: frame) + 1) (step w (.offerC frame)) = some w' ∧
      QuietLazy P w' ∧
      w'.tunS = w.tunS ++ junkUp (chimeraUp P (Server.getUser w.srv P.u).inpacket frame) ∧ w'.tunC = w.tunC ∧
      (Server.getUser w'.srv P.u).tunIp = (Server.getUser w.srv P.u).tunIp ∧
      (Server.getUser w'.srv P.u).fragsize = (Server.getUser w.srv P.u).fragsize :=
  @C02L.up_packet_lazy_desync7_multi

/-- the chimera really is delivered (theorem-level witness on a demo state whose server buffer still holds fragment 0 of an
abandoned packet) -/
example := @C02L.desync7_chimera_delivered

/-- **(4) TWO SIMULTANEOUS OFFERS in opposite directions, lazy mode** (THEOREM; every pair of acceptable frames, `gu, gd ≤ 16` fragments, either offer order): a packet offered on each side before anything is delivered — both arrive exactly once, nothing else is written to either tun device, quiescent again; the run and its end state do not depend on the order of the two offers.  (The step count `n` is existential; by hand `n ≤ 2·gu + 2·gd + 5`.)  With `clean_path_exactly_once_in_order_lazy` this removes "one after the other" for two simultaneous offers. -/
theorem clean_path_two_simultaneous_offers_lazy :
    ∀ {P : Par} (hP : C02.Params P) {w : W} (hq : C02.QuiescentLazy P w)
    (fu fd : List Nat) (hu : C02.AcceptableUp P (Server.getUser w.srv P.u).tunIp fu)
    (hd : C02.AcceptableDown (Server.getUser w.srv P.u).tunIp (Server.getUser w.srv P.u).fragsize fd)
    (hF : 0 < (Server.getUser w.srv P.u).fragsize),
    ∃ n w', (∀ fuel, n ≤ fuel → runPromptCount P.u fuel (step (step w (.offerC fu)) (.offerS fd)) 0 = (w', n)) ∧
      (∀ fuel, n ≤ fuel → runPromptCount P.u fuel (step (step w (.offerS fd)) (.offerC fu)) 0 = (w', n)) ∧
      (∀ fuel, n ≤ fuel → runPrompt P.u fuel (step (step w (.offerC fu)) (.offerS fd)) = w') ∧
      (∀ fuel, n ≤ fuel → runPrompt P.u fuel (step (step w (.offerS fd)) (.offerC fu)) = w') ∧
      C02.QuiescentLazy P w' ∧ w'.tunS = w.tunS ++ [tunImage fu] ∧ w'.tunC = w.tunC ++ [tunImage fd] :=
  @C02L.clean_path_two_simultaneous_offers_lazy

/-- **(5) ring well-formedness is an invariant of EVERY event** (all 13 kinds, every handler of the server, all 16 slots). -/
theorem ring_wellformedness_invariant {w : W} (h : C02L.SrvWF w.srv) (e : Ev) : C02L.SrvWF (step w e).srv :=
  C02L.srvWF_step h e

/-- **(5) World-level renewal, the bridge from a fault prefix to the clean-path theorems**: from a state that is quiescent and in sync except for freshness (`QuietBut`), with well-formed rings, whose memories do not collide with the next `frames.length ≥ 15` data-CMC values (`FreshNext`, ring-aware), and with `PAged … 1`: fifteen one-fragment packets on the clean prompt path are all delivered exactly once and in order, and afterwards `Quiescent` holds again — from then on every clean-path theorem applies. -/
theorem freshness_renewal_world :
    ∀ {P : Par} (hP : P.Ok) (fuel : Nat) (hfuel : 3 ≤ fuel) (frames : List (List Nat)) (w : W)
    (hq : QuietBut P w) (hwf : RingWF (Server.getUser w.srv P.u))
    (hfr : FreshNext P (Server.getUser w.srv P.u) w.cs.c.datacmc frames.length) (h15 : 15 ≤ frames.length)
    (hok : ∀ f ∈ frames, UpFrame1 P (Server.getUser w.srv P.u).tunIp f)
    (hp : PAged P (Server.getUser w.srv P.u) w.cs.c.randSeed 1),
    QuietImm P (offerAllC P.u fuel w frames) ∧
    (offerAllC P.u fuel w frames).tunS = w.tunS ++ frames.map tunImage ∧ (offerAllC P.u fuel w frames).tunC = w.tunC :=
  @C02L.renewed_quietImm

/-- … the same after ANY schedule `prefix_` of events (drops, duplicates, reordering, …) from a state with well-formed rings: well-formedness is discharged by `ring_wellformedness_invariant`; what remains to be assumed about the state the prefix ends in is exactly `QuietBut` (both sides idle, numbers in sync, within the 60 s) and `FreshNext`; the conclusion is `QuietBut` plus `Aged … 1` (add `PAged … 1`, which data packets preserve, for `Quiescent`). -/
theorem freshness_renewal_after_fault_prefix :
    ∀ {P : Par} (hP : P.Ok) (fuel : Nat) (hfuel : 3 ≤ fuel) (frames : List (List Nat)) (w0 : W)
    (hw0 : SrvWF w0.srv) (prefix_ : List Ev)
    (hq : QuietBut P (run w0 prefix_))
    (hfr : FreshNext P (Server.getUser (run w0 prefix_).srv P.u) (run w0 prefix_).cs.c.datacmc frames.length)
    (h15 : 15 ≤ frames.length) (hok : ∀ f ∈ frames, UpFrame1 P (Server.getUser (run w0 prefix_).srv P.u).tunIp f),
    QuietBut P (offerAllC P.u fuel (run w0 prefix_) frames) ∧
    Aged P (Server.getUser (offerAllC P.u fuel (run w0 prefix_) frames).srv P.u)
      (offerAllC P.u fuel (run w0 prefix_) frames).cs.c.datacmc 1 ∧
    (offerAllC P.u fuel (run w0 prefix_) frames).tunS = (run w0 prefix_).tunS ++ frames.map tunImage ∧
    (offerAllC P.u fuel (run w0 prefix_) frames).tunC = (run w0 prefix_).tunC :=
  fun hP fuel hfuel frames _ hw0 prefix_ hq hfr h15 hok =>
    C02L.renewed_aged hP fuel hfuel frames _ hq ((C02L.srvWF_run prefix_ hw0).get _) hfr h15 hok

/-- non-vacuity of the bridge: the state after the freshness counterexample's mishandled packet (`C02L.qaWD`) satisfies the
hypotheses, and fifteen packets later `Quiescent` holds again (no evaluation of the 60-event run) -/
example := @C02L.qa_bridge

/-- the finding of (2), kernel-evaluated: from the demo session a downstream blackout that starts after fragment 0 of a
five-fragment packet arrived leaves the client quiescent with `inpkt = (seqno 1, fragment 0, len 30)` and the server 7 ahead;
the next packet offered is delivered as a frame that was never offered (old fragment 0 ++ new fragment 1) -/
example : quiet 0 C02L.exReach = true ∧ C02L.exReach.cs.c.inpkt.fragment = 0 ∧ C02L.exReach.cs.c.inpkt.len = 30 ∧
    (runPrompt 0 40 (step C02L.exReach (.offerS (demoFrame 2 31)))).tunC = [(demoFrame 2 100).take 29 ++ (demoFrame 2 31).drop 29] :=
  ⟨C02L.stale_fragment0_reachable.1, C02L.stale_fragment0_reachable.2.2.2.2.1, C02L.stale_fragment0_reachable.2.2.2.2.2.1,
    C02L.stale_fragment0_reachable.2.2.2.2.2.2.2.2.1⟩

/-- quiescence does not imply an empty reassembly buffer -/
example : ∃ w, Quiescent exP w ∧ w.cs.c.inpkt.fragment = 0 ∧ w.cs.c.inpkt.len ≠ 0 := C02L.quiet_not_len_zero.1

end Iodine.C02
