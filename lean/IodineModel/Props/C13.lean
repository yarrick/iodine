import IodineModel.Client.Shell
import IodineModel.Lemmas.Shell
/-
C13 — whatever bytes a server or an on-path relay places in a login reply, the only peer-derived values that
appear in operating-system configuration commands run by the client are syntactically valid dotted-quad IPv4
addresses and decimal integers within the accepted ranges; no other peer-controlled text is ever passed to a shell.

The model (Client/Shell.lean) is `handshake_login` from the received reply on: glibc `sscanf` for
"%64[^-]-%64[^-]-%d-%d", glibc `inet_pton4`, `tun_setip`, `tun_setmtu` with `system()` recorded.
The specification side below is written without reference to the model's code: literals are Lean string
literals, numerals are what Lean's `toString` prints.
-/
namespace Iodine.C13
open Iodine.Client.Shell

/-! ### Specification vocabulary -/

/-- ASCII codes of a literal. -/
def str (s : String) : List Nat := s.toList.map Char.toNat

/-- The decimal numeral of `n` (no sign, no padding, no leading zero; `0` is "0"). -/
def decimal (n : Nat) : List Nat := str (toString n)

/-- Four decimal fields 0..255 without leading zeros, separated by '.', nothing else. -/
def DottedQuad (s : List Nat) : Prop :=
  ∃ a b c d, a ≤ 255 ∧ b ≤ 255 ∧ c ≤ 255 ∧ d ≤ 255 ∧
    s = decimal a ++ str "." ++ decimal b ++ str "." ++ decimal c ++ str "." ++ decimal d

/-- The fixed, compiled-in beginning of both commands. -/
def pfx : List Nat := str "PATH=/sbin:/bin ifconfig "

/-- `PATH=/sbin:/bin ifconfig <dev> <quad> <same quad> netmask <quad>` -/
def ipText (dev a m : List Nat) : List Nat := pfx ++ dev ++ str " " ++ a ++ str " " ++ a ++ str " netmask " ++ m

/-- `PATH=/sbin:/bin ifconfig <dev> mtu <n>` -/
def mtuText (dev : List Nat) (n : Nat) : List Nat := pfx ++ dev ++ str " mtu " ++ decimal n

def IpCmd (dev cmd : List Nat) : Prop := ∃ a m, DottedQuad a ∧ DottedQuad m ∧ cmd = ipText dev a m

def MtuCmd (dev cmd : List Nat) : Prop := ∃ n, 200 < n ∧ n ≤ 1500 ∧ cmd = mtuText dev n

/-- The same two shapes cut to the 511 bytes that fit `char cmdline[512]`. -/
def IpCmdCut (dev cmd : List Nat) : Prop := ∃ a m, DottedQuad a ∧ DottedQuad m ∧ cmd = (ipText dev a m).take 511

def MtuCmdCut (dev cmd : List Nat) : Prop := ∃ n, 200 < n ∧ n ≤ 1500 ∧ cmd = (mtuText dev n).take 511

def IsSpace (c : Nat) : Prop := c = 32 ∨ (9 ≤ c ∧ c ≤ 13)
def IsDigit (c : Nat) : Prop := 48 ≤ c ∧ c ≤ 57

/-- What `%d` consumes: optional white space, an optional single sign, at least one digit. -/
def IntText (t : List Nat) : Prop :=
  ∃ ws sg ds, t = ws ++ sg ++ ds ∧ (∀ c ∈ ws, IsSpace c) ∧ (sg = [] ∨ sg = str "+" ∨ sg = str "-") ∧
    ds ≠ [] ∧ ∀ c ∈ ds, IsDigit c

/-! ### Model printing / validation against the specification vocabulary -/

/-- the literals of the specification are the byte strings of the model -/
theorem str_literals : str "." = [46] ∧ str " " = [32] ∧ str "-" = [45] ∧ str "+" = [43] ∧
    str " netmask " = sNetmask ∧ str " mtu " = sMtu ∧ pfx = ifconfig := by decide

/-- The model's `%u` prints the specification's numeral. -/
theorem utoa_eq_decimal (n : Nat) : utoa n = decimal n := by
  rw [utoa_eq_toDigits]
  simp [decimal, str, Nat.toList_repr]

/-- The model of glibc's `inet_pton4` accepts exactly the dotted quads of the specification —
so `DottedQuad` is decidable by running it. -/
theorem dottedQuad_iff_inetPton4 (s : List Nat) : DottedQuad s ↔ inetPton4 s = true := by
  have hdot := str_literals.1
  constructor
  · rintro ⟨a, b, c, d, ha, hb, hc, hd, hs⟩
    have := inetPton4_of_quad ha hb hc hd
    rw [hs]
    simpa [hdot, utoa_eq_decimal] using this
  · intro h
    obtain ⟨a, b, c, d, ha, hb, hc, hd, hs⟩ := inetPton4_quad h
    exact ⟨a, b, c, d, ha, hb, hc, hd, by rw [hs]; simp [hdot, utoa_eq_decimal]⟩

instance (s : List Nat) : Decidable (DottedQuad s) := decidable_of_iff _ (dottedQuad_iff_inetPton4 s).symm

example : DottedQuad (str "10.0.0.2") ∧ DottedQuad (str "0.0.0.0") ∧ DottedQuad (str "255.255.255.224") := by decide
example : ¬ DottedQuad (str "10.0.0.02") ∧ ¬ DottedQuad (str "10.0.0.2 ;reboot") ∧ ¬ DottedQuad (str "10.0.0.256") ∧
    ¬ DottedQuad (str "1.2.3") ∧ ¬ DottedQuad (str "1") ∧ ¬ DottedQuad (str "0x0a.0.0.2") ∧ ¬ DottedQuad (str "1.2.3.4.") ∧
    ¬ DottedQuad (str " 1.2.3.4") ∧ ¬ DottedQuad (str "1.2.3.4\n") ∧ ¬ DottedQuad (str "1..3.4") := by decide

theorem dottedQuad_length {s : List Nat} (h : DottedQuad s) : s.length ≤ 15 := by
  obtain ⟨a, b, c, d, ha, hb, hc, hd, hs⟩ := h
  rw [hs]
  have := utoa_length_le (n := a) (k := 3) (by decide) (by omega)
  have := utoa_length_le (n := b) (k := 3) (by decide) (by omega)
  have := utoa_length_le (n := c) (k := 3) (by decide) (by omega)
  have := utoa_length_le (n := d) (k := 3) (by decide) (by omega)
  simp only [← utoa_eq_decimal, List.length_append, str_literals.1, List.length_singleton]
  omega

/-! ### The property -/

/-- Structure of what one login reply makes the client run — for every device name, every reply, every
`system()` result: nothing, or the address command, or the address command followed by the MTU command; each
cut to the 511 bytes of `cmdline`. -/
theorem command_list_shape (dev reply : List Nat) (sysret : Int) :
    (loginStep dev reply sysret).commands = [] ∨
    (∃ c, IpCmdCut dev c ∧ (loginStep dev reply sysret).commands = [c]) ∨
    (∃ c m, IpCmdCut dev c ∧ MtuCmdCut dev m ∧ (loginStep dev reply sysret).commands = [c, m]) := by
  obtain ⟨hdot, hsp, _, _, hnm, hmtu, hpfx⟩ := str_literals
  rcases loginStep_cases dev reply sysret with ⟨h, _⟩ | ⟨l, _, _, hc, _, _, _, h⟩
  · exact Or.inl h
  · have hip : IpCmdCut dev (snprintf512 (ifconfig ++ dev ++ 32 :: l.client ++ 32 :: l.client ++ sNetmask ++
        inetNtoa (maskOf l.netmask.toNat))) := by
      refine ⟨l.client, inetNtoa (maskOf l.netmask.toNat), (dottedQuad_iff_inetPton4 _).mpr hc, ?_, ?_⟩
      · obtain ⟨a, b, c, d, ha, hb, hc, hd, he⟩ := inetNtoa_quad (maskOf l.netmask.toNat)
        exact ⟨a, b, c, d, ha, hb, hc, hd, by simp [he, hdot, utoa_eq_decimal]⟩
      · simp [snprintf512, ipText, hpfx, hsp, hnm]
    simp only [] at h
    rcases h with h | ⟨_, hlo, hhi, h⟩
    · exact Or.inr (Or.inl ⟨_, hip, congrArg Outcome.commands h⟩)
    · exact Or.inr (Or.inr ⟨_, _, hip,
        ⟨_, hlo, hhi, by simp [snprintf512, mtuText, hpfx, hmtu, utoa_eq_decimal]⟩, congrArg Outcome.commands h⟩)

/-- Every command handed to `system()` is one of the two fixed shapes, cut to 511 bytes: nothing but the fixed
prefix, the local device name, dotted quads, the word `netmask`/`mtu` and a decimal number in 201..1500. -/
theorem shell_args_general (dev reply : List Nat) (sysret : Int) :
    ∀ cmd ∈ (loginStep dev reply sysret).commands, IpCmdCut dev cmd ∨ MtuCmdCut dev cmd := by
  intro cmd hcmd
  rcases command_list_shape dev reply sysret with h | ⟨c, hc, h⟩ | ⟨c, m, hc, hm, h⟩ <;> rw [h] at hcmd
  · simp at hcmd
  · simp only [List.mem_singleton] at hcmd; subst hcmd; exact Or.inl hc
  · simp only [List.mem_cons, List.not_mem_nil, or_false] at hcmd
    rcases hcmd with rfl | rfl
    · exact Or.inl hc
    · exact Or.inr hm

/-- With a device name of at most 430 bytes nothing is cut (25 + |dev| + 1 + 15 + 1 + 15 + 9 + 15 ≤ 511;
`if_name` holds at most 249 bytes).  The bound is exact, see the example `431` below. -/
theorem cut_is_identity {dev cmd : List Nat} (hdev : dev.length ≤ 430) :
    (IpCmdCut dev cmd → IpCmd dev cmd) ∧ (MtuCmdCut dev cmd → MtuCmd dev cmd) := by
  obtain ⟨_, hsp, _, _, hnm, hmtu, hpfx⟩ := str_literals
  have h25 : ifconfig.length = 25 := rfl
  have h9 : sNetmask.length = 9 := rfl
  have h5 : sMtu.length = 5 := rfl
  constructor
  · rintro ⟨a, m, ha, hm, rfl⟩
    refine ⟨a, m, ha, hm, List.take_of_length_le ?_⟩
    have := dottedQuad_length ha
    have := dottedQuad_length hm
    simp only [ipText, List.length_append, hpfx, hsp, hnm, h25, h9, List.length_singleton]
    omega
  · rintro ⟨n, hlo, hhi, rfl⟩
    refine ⟨n, hlo, hhi, List.take_of_length_le ?_⟩
    have := utoa_length_le (n := n) (k := 4) (by decide) (by omega)
    simp only [mtuText, List.length_append, hpfx, hmtu, h25, h5, ← utoa_eq_decimal]
    omega

/-- C13: every command is exactly `PATH=/sbin:/bin ifconfig <dev> <quad> <quad> netmask <quad>` or
`PATH=/sbin:/bin ifconfig <dev> mtu <201..1500>`. -/
theorem shell_args_are_quads_and_ranged_ints (dev reply : List Nat) (sysret : Int) (hdev : dev.length ≤ 430) :
    ∀ cmd ∈ (loginStep dev reply sysret).commands, IpCmd dev cmd ∨ MtuCmd dev cmd := by
  intro cmd hcmd
  rcases shell_args_general dev reply sysret cmd hcmd with h | h
  · exact Or.inl ((cut_is_identity hdev).1 h)
  · exact Or.inr ((cut_is_identity hdev).2 h)

/-- The command list is `[]`, `[ip]` or `[ip, mtu]`: the MTU command only ever follows the address command. -/
theorem mtu_only_after_ip (dev reply : List Nat) (sysret : Int) (hdev : dev.length ≤ 430) :
    (loginStep dev reply sysret).commands = [] ∨
    (∃ c, IpCmd dev c ∧ (loginStep dev reply sysret).commands = [c]) ∨
    (∃ c m, IpCmd dev c ∧ MtuCmd dev m ∧ (loginStep dev reply sysret).commands = [c, m]) := by
  rcases command_list_shape dev reply sysret with h | ⟨c, hc, h⟩ | ⟨c, m, hc, hm, h⟩
  · exact Or.inl h
  · exact Or.inr (Or.inl ⟨c, (cut_is_identity hdev).1 hc, h⟩)
  · exact Or.inr (Or.inr ⟨c, m, (cut_is_identity hdev).1 hc, (cut_is_identity hdev).2 hm, h⟩)

/-- At most two commands per login reply (for every device name). -/
theorem at_most_two_commands (dev reply : List Nat) (sysret : Int) :
    (loginStep dev reply sysret).commands.length ≤ 2 := by
  rcases command_list_shape dev reply sysret with h | ⟨c, _, h⟩ | ⟨c, m, _, _, h⟩ <;> simp [h]

/-- `handshake_login` reports success only after both commands ran. -/
theorem ok_only_after_both_commands (dev reply : List Nat) (sysret : Int)
    (h : (loginStep dev reply sysret).result = .ok) : (loginStep dev reply sysret).commands.length = 2 := by
  rcases loginStep_cases dev reply sysret with ⟨_, hne⟩ | ⟨l, _, _, _, _, _, _, h'⟩
  · exact absurd h hne
  · simp only [] at h'
    rcases h' with h' | ⟨_, _, _, h'⟩
    · rw [h'] at h; simp at h
    · simp [h']

/-- Anything is run only if the visible part of the reply (up to the first NUL) reads
`<quad>-<quad>-<int>-<int>…`: two strict dotted quads, two integers in `%d` syntax; what follows the fourth
field is ignored, bytes after a NUL are never looked at. -/
theorem no_command_unless_four_fields (dev reply : List Nat) (sysret : Int)
    (h : (loginStep dev reply sysret).commands ≠ []) :
    ∃ f1 f2 i3 i4 tail hidden,
      reply = f1 ++ str "-" ++ f2 ++ str "-" ++ i3 ++ str "-" ++ i4 ++ tail ++ hidden ∧
      DottedQuad f1 ∧ DottedQuad f2 ∧ IntText i3 ∧ IntText i4 ∧
      0 ∉ f1 ++ str "-" ++ f2 ++ str "-" ++ i3 ++ str "-" ++ i4 ++ tail ∧ (hidden = [] ∨ hidden.head? = some 0) := by
  obtain ⟨_, _, hdash, hplus, _, _, _⟩ := str_literals
  rcases loginStep_cases dev reply sysret with ⟨h0, _⟩ | ⟨l, hl, _, hc, hs, _, _, _⟩
  · exact absurd h0 h
  · obtain ⟨r3, r4, tail, hvis, _, _, h3, h4⟩ := scanLogin_some hl
    obtain ⟨ws3, sg3, ds3, e3, hws3, hsg3, hds3, hdg3, _⟩ := scanInt_some h3
    obtain ⟨ws4, sg4, ds4, e4, hws4, hsg4, hds4, hdg4, _⟩ := scanInt_some h4
    have hsp : ∀ c, isSpace c = true → IsSpace c := by
      intro c hc; simp [isSpace] at hc; unfold IsSpace; omega
    have hdg : ∀ c, isDigit c = true → IsDigit c := by
      intro c hc; simp [isDigit] at hc; exact hc
    have hvis' : cstr reply = l.server ++ str "-" ++ l.client ++ str "-" ++ (ws3 ++ sg3 ++ ds3) ++ str "-" ++
        (ws4 ++ sg4 ++ ds4) ++ tail := by
      rw [hvis, e3, e4, hdash]; simp
    refine ⟨l.server, l.client, ws3 ++ sg3 ++ ds3, ws4 ++ sg4 ++ ds4, tail, reply.dropWhile (· ≠ 0), ?_,
      (dottedQuad_iff_inetPton4 _).mpr hs, (dottedQuad_iff_inetPton4 _).mpr hc,
      ⟨ws3, sg3, ds3, rfl, fun c hc => hsp c (hws3 c hc), by rw [hplus, hdash]; exact hsg3, hds3, fun c hc => hdg c (hdg3 c hc)⟩,
      ⟨ws4, sg4, ds4, rfl, fun c hc => hsp c (hws4 c hc), by rw [hplus, hdash]; exact hsg4, hds4, fun c hc => hdg c (hdg4 c hc)⟩,
      ?_, ?_⟩
    · rw [← hvis']; exact (List.takeWhile_append_dropWhile (p := (· ≠ 0)) (l := reply)).symm
    · rw [← hvis']
      intro h0
      have := of_mem_takeWhile (p := (· ≠ 0)) h0
      simp at this
    · rcases dropWhile_head (· ≠ 0) reply with h0 | ⟨x, t, hx, hp⟩
      · exact Or.inl h0
      · right; rw [hx]; simp at hp; simp [hp]

/-- A reply starting with "LNAK" or "BADIP" runs nothing. -/
theorem lnak_badip_no_command (dev rest : List Nat) (sysret : Int) :
    loginStep dev (str "LNAK" ++ rest) sysret = ⟨[], .badPassword⟩ ∧
    loginStep dev (str "BADIP" ++ rest) sysret = ⟨[], .badIp⟩ := by
  have h1 : str "LNAK" = [76, 78, 65, 75] := by decide
  have h2 : str "BADIP" = [66, 65, 68, 73, 80] := by decide
  rw [h1, h2]
  constructor
  · simp [loginStep, cstr, sLNAK]
  · simp [loginStep, cstr, sLNAK, sBADIP]

/-! ### Non-vacuity -/

/-- a good reply produces the two commands -/
example : loginStep (str "dns0") (str "10.0.0.1-10.0.0.2-1130-27") =
    ⟨[str "PATH=/sbin:/bin ifconfig dns0 10.0.0.2 10.0.0.2 netmask 255.255.255.224",
      str "PATH=/sbin:/bin ifconfig dns0 mtu 1130"], .ok⟩ := by decide +kernel

/-- … and they are instances of the two shapes -/
example : IpCmd (str "dns0") (str "PATH=/sbin:/bin ifconfig dns0 10.0.0.2 10.0.0.2 netmask 255.255.255.224") :=
  ⟨str "10.0.0.2", str "255.255.255.224", by decide, by decide, by decide +kernel⟩
example : MtuCmd (str "dns0") (str "PATH=/sbin:/bin ifconfig dns0 mtu 1130") := ⟨1130, by decide, by decide, by decide +kernel⟩

/-- hostile text after a valid address: nothing is run -/
example : loginStep (str "dns0") (str "10.0.0.1-10.0.0.2 ;reboot-1130-27") = ⟨[], .errx⟩ := by decide +kernel
example : loginStep (str "dns0") (str "10.0.0.1;id-10.0.0.2-1130-27") = ⟨[], .errx⟩ := by decide +kernel
example : loginStep (str "dns0") (str "10.0.0.1-$(id)-1130-27") = ⟨[], .errx⟩ := by decide +kernel
/-- hostile text in the integer fields never reaches a command: `%d` stops at the first non-digit -/
example : loginStep [] (str "10.0.0.1-10.0.0.2-1130-27;id") =
    ⟨[str "PATH=/sbin:/bin ifconfig  10.0.0.2 10.0.0.2 netmask 255.255.255.224", str "PATH=/sbin:/bin ifconfig  mtu 1130"], .ok⟩ := by
  decide +kernel
example : (loginStep [] (str "10.0.0.1-10.0.0.2-1130`id`-27")).commands = [] := by decide +kernel
/-- the address command alone (mtu out of range → errx after one command) -/
example : loginStep [] (str "10.0.0.1-10.0.0.2-200-27") =
    ⟨[str "PATH=/sbin:/bin ifconfig  10.0.0.2 10.0.0.2 netmask 255.255.255.224"], .errx⟩ := by decide +kernel
/-- `int` truncation: 2^32 + 201 is accepted as 201, 2^32 + 27 as /27 -/
example : (loginStep [] (str "10.0.0.1-10.0.0.2-4294967497-4294967323")).commands =
    [str "PATH=/sbin:/bin ifconfig  10.0.0.2 10.0.0.2 netmask 255.255.255.224", str "PATH=/sbin:/bin ifconfig  mtu 201"] := by
  decide +kernel
/-- bytes after a NUL are invisible; LNAK / BADIP -/
example : (loginStep [] (str "10.0.0.1-10.0.0.2-1130-27" ++ 0 :: str ";id")).commands.length = 2 := by decide +kernel
example : (loginStep [] (str "LNAK-10.0.0.2-1130-27")).commands = [] ∧ (loginStep [] (str "BADIP")).result = .badIp := by
  decide +kernel
/-- hypothesis of `no_command_unless_four_fields` is satisfiable -/
example : (loginStep [] (str "10.0.0.1-10.0.0.2- +1130- 27")).commands ≠ [] := by decide +kernel

/-- The bound 430 is exact: with a 431-byte device name and 15-byte addresses the address command would be
512 bytes long and loses its last byte (still only prefix, device name, quads — `shell_args_general`). -/
example :
    let dev := List.replicate 431 97
    let full := ipText dev (str "100.100.100.100") (str "255.255.255.224")
    (loginStep dev (str "100.100.100.100-100.100.100.100-1130-27")).commands = [full.take 511, mtuText dev 1130] ∧
    full.length = 512 := by
  decide +kernel

end Iodine.C13
