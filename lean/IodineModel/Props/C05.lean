import IodineModel.Props.C12
import IodineModel.Props.C03
import IodineModel.Props.C04
/-
C05 — the server survives arbitrary datagrams (memory safety, termination).  Per-call theorems; whole sessions in Props/C05Session.lean.

What is PROVED here (each a restatement, under the property's own name, of a theorem of Props/C12, C03 or C04):

* the receive path of EVERY datagram — `dns_get_id`, `dns_decode(QR_QUERY)`, `readname` — never reads outside the 64 KiB receive buffer,
  never writes outside `name[256]`, and terminates (the model's loops run on fuel; running out of fuel is a `Fault`, and no `Fault` occurs);
  the model's reads go through a checked accessor (`RxBuf.get`), so this is not true by totalisation;
* a request naming a userid outside the table (negative through the signed `char`, ≥ `created_users`, 16..31 from a Base32 digit) or an
  unallocated slot never touches `users[]`: the handler returns the unchanged state and the refusal;
* established sessions of other clients are framed: a query handled for one session changes another session's slot only through the two
  documented interactions (allocation of an expired slot by `V`, a packet forwarded to it).

Continued in Props/C05Session.lean (whole sessions on ARBITRARY inputs: no encoder call behind `write_dns` / the NS, A and forward encoders
ever stores outside its buffer, whatever the question name looks like; the state invariant `BufInv` — every stored list within its C array;
an explicit bound on the loops of one iteration), Props/C05Continue.lean (non-interference over runs: established sessions continue) and
Props/C05Main.lean (the same from the command line on).

What is NOT proved and is covered only by the sanitizer-instrumented correspondence runs (harness/h_srv, ASan + UBSan, hostile generators):
undefined behaviour of kinds the model does not represent (uninitialised reads, aliasing, signed overflow outside the modelled arithmetic),
libc/zlib internals, stack usage.
-/
namespace Iodine.C05
open Iodine

/-- `dns_decode(NULL, 0, q, QR_QUERY, packet, r)` on ANY datagram that fits the receive buffer: no out-of-bounds read, no out-of-bounds
write, terminates. -/
theorem query_decode_no_fault (b : Wire.RxBuf) (h : b.pkt.size ≤ b.cap) : ∃ r, Wire.dnsDecodeQuery b = Except.ok r :=
  C12.dns_decode_query_no_fault b h

/-- `readname` at any offset with any destination size ≥ 3 (compression loops, pointers to/after the end, over-long labels, bytes ≥ 0x80):
no fault, at most `length` bytes written, result NUL-terminated or empty. -/
theorem readname_no_fault (b : Wire.RxBuf) (h : b.pkt.size ≤ b.cap) (off length : Nat) (hl : 3 ≤ length) :
    ∃ src' w, Wire.readname b off length = Except.ok (src', w) ∧ w.length ≤ length ∧ (w = [] ∨ ∃ w', w = w' ++ [0]) :=
  C12.readname_no_fault b h off length hl

/-- `dns_get_id` (forward replies) never faults. -/
theorem get_id_no_fault (b : Wire.RxBuf) (h : b.pkt.size ≤ b.cap) : ∃ r, Wire.dnsGetId b = Except.ok r :=
  C12.dns_get_id_no_fault b h

/-- What is decoded does not depend on what earlier datagrams left in the buffer (so a short datagram cannot make the server parse,
echo or deliver another client's traffic). -/
theorem query_decode_own_bytes_only (pkt r₁ r₂ : Array Nat) (cap : Nat) :
    Wire.dnsDecodeQuery { pkt := pkt, res := r₁, cap := cap } = Wire.dnsDecodeQuery { pkt := pkt, res := r₂, cap := cap } :=
  C12.dns_decode_query_residue_indep pkt r₁ r₂ cap

/-- A request naming a slot outside the table, an inactive or a disabled slot: the handler returns the UNCHANGED state and only the refusal. -/
theorem bad_slot_refused (s : Server.Srv) (q : Server.Query) (tunsel : Bool) (dlen : Nat) (u : Int)
    (hd : Common.queryDatalen q.name s.cfg.topdomain = some dlen) (hn : C04.names q dlen = some u)
    (hbad : u < 0 ∨ u ≥ ↑s.cfg.createdUsers ∨ (Server.getUser s u.toNat).active = false ∨ (Server.getUser s u.toNat).disabled = true) :
    Server.dispatch s (Server.Input.q q) tunsel = (s, C04.refusal q dlen) :=
  C04.unallocated_refused s q tunsel dlen u hd hn hbad

/-- Other clients' sessions keep their state: a query changes slot `v` only if it names `v` and is accepted for it, or is a `V` request that
allocates `v`, or is an accepted data request whose completed packet is forwarded to `v`. -/
theorem other_sessions_framed (s : Server.Srv) (q : Server.Query) (tunsel : Bool) (v : Nat)
    (h : Server.getUser (Server.dispatch s (Server.Input.q q) tunsel).fst v ≠ Server.getUser s v) :
    ∃ dlen, Common.queryDatalen q.name s.cfg.topdomain = some dlen ∧ C04.IsTunnelRequest q dlen ∧
      (C04.names q dlen = some ↑v ∧ C04.Accepted s q v ∨
        C04.lower ((C04.payload q dlen).getD 0 0) = 118 ∧ (Server.findAvailableUser s).fst = some v ∨
          (C04.hexVal (C04.lower ((C04.payload q dlen).getD 0 0))).isSome = true ∧
            (∃ u : Nat, C04.names q dlen = some (u : Int) ∧ C04.Accepted s q u) ∧ ∃ A, C04.FirstOwner s v A) :=
  C04.other_sessions_framed s q tunsel v h

/-- non-vacuity: a compression loop (pointer to itself) is decoded without fault and yields nothing -/
example : ∃ r, Wire.dnsDecodeQuery { pkt := #[0,1,1,0,0,1,0,0,0,0,0,0, 0xc0,12, 0,10,0,1], res := #[], cap := 65536 } = Except.ok r :=
  query_decode_no_fault _ (by decide)

end Iodine.C05
