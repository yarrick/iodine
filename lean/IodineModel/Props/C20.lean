import IodineModel.FwQuery
import IodineModel.Lemmas.FwQuery
/-
C20 — DNS forwarding (`iodined -b port`): a query for a name outside the tunnel domain is relayed
to the local DNS port with the same id; the reply bearing that id is sent, bytes unchanged, to the
address that asked, for any of the FW_QUERY_CACHE_SIZE most recent forwarded queries with
distinct ids; a reply whose id matches no remembered query is never sent to another requester.

The property statements, their specification vocabulary and the glue to the lemma file (helper lemmas: Lemmas/FwQuery.lean).  The specification side
(`queries`, `recent`, …) is written over the event sequence alone, independently of the ring.

All theorems hold for ALL event sequences (any interleaving of queries and replies, any asker
numbers, any ids); no "askers ≥ 1" hypothesis is needed — the null address 0 is mentioned only
where the C code can actually produce it (never-written slot).
-/
namespace Iodine.C20
open Iodine.FwQuery

/-! ### Specification vocabulary (event sequences only) -/

/-- the forwarded queries of an event sequence, oldest first, as (asker, id) -/
def queries : List Ev → List (Addr × Nat)
  | [] => []
  | .query a i :: r => (a, i) :: queries r
  | .reply _ _ :: r => queries r

/-- the last `m` elements (all of them if there are fewer) -/
def lastN {α} (m : Nat) (l : List α) : List α := l.drop (l.length - m)

/-- the last SIZE forwarded queries -/
def recent (evs : List Ev) : List (Addr × Nat) := lastN SIZE (queries evs)

def ids (l : List (Addr × Nat)) : List Nat := l.map Prod.snd

/-- the `k`-th forwarded query (0-based) is one of the last SIZE -/
def InWindow (evs : List Ev) (k : Nat) : Prop :=
  k < (queries evs).length ∧ (queries evs).length ≤ k + SIZE

/-! ### glue between the specification vocabulary and the lemma file -/

theorem queries_eq_putsOf (evs : List Ev) : queries evs = putsOf evs := by
  induction evs with
  | nil => rfl
  | cons e evs ih => cases e <;> simp [queries, ih]

theorem mem_recent (evs : List Ev) (x : Addr × Nat) :
    x ∈ recent evs ↔ ∃ k, InWindow evs k ∧ (queries evs)[k]? = some x := by
  simp only [recent, lastN, InWindow, mem_drop_length_sub, and_assoc]

theorem inv_queries (evs : List Ev) : Inv (queries evs) (run evs).1 := by
  rw [queries_eq_putsOf]; exact inv_run evs

/-! ### The core invariant: the ring holds exactly the last SIZE puts -/

/-- After any event sequence: the ring has SIZE slots, the write index is (#queries mod SIZE), and
reading the ring from the write index round (ring order = oldest first) gives the never-written
slots (null address, id 0) followed by exactly the last min(SIZE, #queries) queries, in order. -/
theorem slots_are_last_puts (evs : List Ev) :
    let s := (run evs).1
    s.slots.length = SIZE ∧
    s.ix = (queries evs).length % SIZE ∧
    s.slots.drop s.ix ++ s.slots.take s.ix =
      List.replicate (SIZE - (queries evs).length) (0, 0) ++ recent evs := by
  have h := inv_queries evs
  exact ⟨h.len, h.ix, h.ring_order⟩

/-- Pointwise form: query number `k` of the last SIZE sits in slot `k % SIZE`; the slots
`#queries ≤ j < SIZE` still hold the null entry. -/
theorem slot_of_recent_query (evs : List Ev) :
    (∀ k, InWindow evs k → (run evs).1.slots[k % SIZE]? = (queries evs)[k]?) ∧
    (∀ j, (queries evs).length ≤ j → j < SIZE → (run evs).1.slots[j]? = some (0, 0)) := by
  have h := inv_queries evs
  exact ⟨fun k hk => h.window hk.1 hk.2, fun j hn hj => h.unwritten hn hj⟩

example : (run [.query 5 100, .reply 100 [1], .query 6 101]).1.slots.take 3 = [(5, 100), (6, 101), (0, 0)] := by
  decide

/-! ### Relaying the query -/

/-- A non-tunnel query is relayed with the same id (exactly one output), and remembered. -/
theorem fw_query_relayed (evs : List Ev) (a i : Nat) :
    run (evs ++ [.query a i]) = (put (run evs).1 a i, (run evs).2 ++ [.forward i]) := by
  rw [run_snoc]; rfl

example : (run [.query 3 4660]).2 = [.forward 4660] := by decide

/-! ### Routing the reply -/

/-- General form: if `a` asked with id `i` among the last SIZE forwarded queries and every one of
those queries carrying id `i` came from `a`, a reply with id `i` produces exactly one more output:
the reply bytes, unchanged, to `a`.  The ring is left as it was (nothing is removed).

Note on id 0 and never-written slots: no side condition "i ≠ 0 or the ring is full" is needed,
because while the ring is not full the written slots 0..n-1 all precede the never-written slots
n..SIZE-1, so the first-match scan meets the real entry first. -/
theorem fw_reply_routed_of_same_asker (evs : List Ev) (a i : Nat) (bytes : List Nat)
    (hmem : (a, i) ∈ recent evs) (hsame : ∀ b, (b, i) ∈ recent evs → b = a) :
    run (evs ++ [.reply i bytes]) = ((run evs).1, (run evs).2 ++ [.toAsker a bytes]) := by
  have h := inv_queries evs
  obtain ⟨k, hk, hq⟩ := (mem_recent evs _).mp hmem
  obtain ⟨k', b, hk', hk2', hq', hget, hslot, _⟩ := h.get_window hk.1 hk.2 hq
  have hb : b = a := hsame b ((mem_recent evs _).mpr ⟨k', ⟨hk', hk2'⟩, hq'⟩)
  rw [run_snoc, step_reply_state, step_reply_out, hget]
  simp only [hslot, hb]

/-- C20, routing: if `Ev.query a i` is among the last SIZE forwarded queries and the id `i` occurs
exactly once among their ids, then the reply with id `i` goes — exactly one additional output,
bytes unchanged — to `a`. -/
theorem fw_reply_routed (evs : List Ev) (a i : Nat) (bytes : List Nat)
    (hmem : (a, i) ∈ recent evs) (hdistinct : (ids (recent evs)).count i = 1) :
    run (evs ++ [.reply i bytes]) = ((run evs).1, (run evs).2 ++ [.toAsker a bytes]) :=
  fw_reply_routed_of_same_asker evs a i bytes hmem
    (fun _ hb => asker_unique_of_count (by simpa [ids] using hdistinct) hb hmem)

/-- 3 outstanding queries, reply to the middle one -/
example : (run [.query 1 10, .query 2 11, .query 3 12, .reply 11 [170, 187]]).2 =
    [.forward 10, .forward 11, .forward 12, .toAsker 2 [170, 187]] := by decide

/-- 20 > SIZE outstanding queries with ids 100..119: the reply to the 5th most recent is routed -/
example : ((run ((List.range 20).map (fun k => Ev.query (k + 1) (100 + k)) ++ [.reply 115 [1, 2, 3]])).2).drop 20 =
    [.toAsker 16 [1, 2, 3]] := by decide +kernel

/-- id 0 is an ordinary id once it has been asked, even in a ring that is not full -/
example : (run [.query 7 0, .reply 0 [9]]).2 = [.forward 0, .toAsker 7 [9]] := by decide

/-- the hypotheses of `fw_reply_routed` are satisfiable with a wrapped ring -/
example : let evs := (List.range 20).map (fun k => Ev.query (k + 1) (100 + k))
    (16, 115) ∈ recent evs ∧ (ids (recent evs)).count 115 = 1 := by decide +kernel

/-! ### Unknown ids -/

/-- C20, dropping: if `i` is not the id of any of the last SIZE forwarded queries, the reply produces
no output at all — with the single exception of id 0 while fewer than SIZE queries have ever been
forwarded: then the C finds a never-written slot (id 0) and calls sendto with its null address
(address 0, addrlen 0), modelled as `toAsker 0 bytes`. -/
theorem fw_unknown_dropped (evs : List Ev) (i : Nat) (bytes : List Nat)
    (hunk : i ∉ ids (recent evs)) :
    run (evs ++ [.reply i bytes]) =
      ((run evs).1,
       (run evs).2 ++ if i = 0 ∧ (queries evs).length < SIZE then [.toAsker 0 bytes] else []) := by
  have h := inv_queries evs
  have hno : ∀ k, k < (queries evs).length → (queries evs).length ≤ k + SIZE →
      ∀ c, (queries evs)[k]? ≠ some (c, i) := by
    intro k hk hk2 c hc
    apply hunk
    exact List.mem_map.mpr ⟨(c, i), (mem_recent evs _).mpr ⟨k, ⟨hk, hk2⟩, hc⟩, rfl⟩
  rw [run_snoc, step_reply_state, step_reply_out, h.get_no_window hno]
  by_cases hc : i = 0 ∧ (queries evs).length < SIZE
  · have := slot_eq_of_getElem? (h.unwritten (Nat.le_refl _) hc.2)
    simp only [if_pos hc, this]
  · simp only [if_neg hc]

/-- … in particular nothing is sent to any real asker (number ≥ 1). -/
theorem fw_unknown_not_to_real_asker (evs : List Ev) (i : Nat) (bytes : List Nat)
    (hunk : i ∉ ids (recent evs)) :
    ∃ extra, (run (evs ++ [.reply i bytes])).2 = (run evs).2 ++ extra ∧
      ∀ a b, Out.toAsker a b ∈ extra → a = 0 := by
  refine ⟨_, by rw [fw_unknown_dropped evs i bytes hunk], ?_⟩
  intro a b hmem
  split at hmem
  · simp only [List.mem_singleton, Out.toAsker.injEq] at hmem
    exact hmem.1
  · cases hmem

/-- unknown id, nothing sent -/
example : (run [.query 1 10, .query 2 11, .reply 12 [5]]).2 = [.forward 10, .forward 11] := by decide
/-- unknown id 0 in a ring that is not full: sendto with the null address -/
example : (run [.query 1 10, .query 2 11, .reply 0 [5]]).2 =
    [.forward 10, .forward 11, .toAsker 0 [5]] := by decide
/-- unknown id 0 in a full ring: nothing -/
example : ((run ((List.range 16).map (fun k => Ev.query (k + 1) (100 + k)) ++ [.reply 0 [5]])).2).drop 16 = [] := by
  decide +kernel

/-- Safety for every reply, known id or not: at most one output, the bytes unchanged, and the
addressee is an asker of that very id among the last SIZE forwarded queries (or the null address of a
never-written slot, only for id 0 in a ring that is not full). -/
theorem fw_reply_only_to_recent_asker (evs : List Ev) (i : Nat) (bytes : List Nat) :
    run (evs ++ [.reply i bytes]) = run evs ∨
    ∃ a, run (evs ++ [.reply i bytes]) = ((run evs).1, (run evs).2 ++ [.toAsker a bytes]) ∧
      ((a, i) ∈ recent evs ∨ (a = 0 ∧ i = 0 ∧ (queries evs).length < SIZE)) := by
  by_cases hmem : i ∈ ids (recent evs)
  · right
    obtain ⟨⟨a, i'⟩, hx, hxi⟩ := List.mem_map.mp hmem
    simp only at hxi
    subst hxi
    have h := inv_queries evs
    obtain ⟨k, hk, hq⟩ := (mem_recent evs _).mp hx
    obtain ⟨k', b, hk', hk2', hq', hget, hslot, _⟩ := h.get_window hk.1 hk.2 hq
    refine ⟨b, ?_, Or.inl ((mem_recent evs _).mpr ⟨k', ⟨hk', hk2'⟩, hq'⟩)⟩
    rw [run_snoc, step_reply_state, step_reply_out, hget]
    simp only [hslot]
  · rw [fw_unknown_dropped evs i bytes hmem]
    by_cases hc : i = 0 ∧ (queries evs).length < SIZE
    · right
      exact ⟨0, by rw [if_pos hc], Or.inr ⟨rfl, hc.1, hc.2⟩⟩
    · left
      rw [if_neg hc, List.append_nil]

/-! ### Stale ids -/

/-- Once SIZE further queries have been forwarded, a reply bearing the old id `i` is sent to nobody,
provided none of those further queries reused the id.  (If the id was reused, the reply goes to a
recent asker of that id, by `fw_reply_only_to_recent_asker` — never to the overwritten one unless
it asked again.) -/
theorem fw_stale_not_leaked (pre post : List Ev) (a i : Nat) (bytes : List Nat)
    (hmany : SIZE ≤ (queries post).length) (hfresh : i ∉ ids (queries post)) :
    run (pre ++ [.query a i] ++ post ++ [.reply i bytes]) = run (pre ++ [.query a i] ++ post) := by
  have happ : ∀ e1 e2, queries (e1 ++ e2) = queries e1 ++ queries e2 := by
    intro e1 e2; simp only [queries_eq_putsOf, putsOf_append]
  have hq : queries (pre ++ [.query a i] ++ post) = (queries pre ++ [(a, i)]) ++ queries post := by
    rw [happ, happ]; rfl
  have hunk : i ∉ ids (recent (pre ++ [.query a i] ++ post)) := by
    intro hmem
    obtain ⟨x, hx, hxi⟩ := List.mem_map.mp hmem
    obtain ⟨k, ⟨hk, hk2⟩, hqk⟩ := (mem_recent _ _).mp hx
    rw [hq] at hk hk2 hqk
    simp only [List.length_append, List.length_singleton] at hk hk2
    rw [List.getElem?_append_right (by simp only [List.length_append, List.length_singleton]; omega)] at hqk
    exact hfresh (List.mem_map.mpr ⟨x, List.mem_of_getElem? hqk, hxi⟩)
  rw [fw_unknown_dropped _ i bytes hunk, if_neg, List.append_nil]
  rw [hq]
  simp only [List.length_append, List.length_singleton]
  omega

/-- asker 1 asked with id 100; 16 further queries (ids 200..215) push it out; the reply is dropped -/
example : let evs := [Ev.query 1 100] ++ (List.range 16).map (fun k => Ev.query (k + 2) (200 + k))
    run (evs ++ [.reply 100 [1]]) = run evs := by decide +kernel
/-- … whereas after only 15 further queries it is still delivered -/
example : let evs := [Ev.query 1 100] ++ (List.range 15).map (fun k => Ev.query (k + 2) (200 + k))
    (run (evs ++ [.reply 100 [1]])).2 = (run evs).2 ++ [.toAsker 1 [1]] := by decide +kernel
/-- id reuse: asker 1's id 100 was pushed out, asker 9 reused id 100 later; the reply goes to 9 only -/
example : let evs := [Ev.query 1 100] ++ (List.range 16).map (fun k => Ev.query (k + 2) (200 + k)) ++ [Ev.query 9 100]
    (run (evs ++ [.reply 100 [1]])).2 = (run evs).2 ++ [.toAsker 9 [1]] := by decide +kernel

/-! ### Duplicate ids among the recent queries -/

/-- When several of the last SIZE forwarded queries carry the same id, the reply goes to the one in
the lowest-numbered slot (slot of query number `k` is `k % SIZE`), which is neither necessarily the
oldest nor the most recent.  This is why the property requires distinct ids. -/
theorem fw_duplicate_id_goes_to_first_slot (evs : List Ev) (k a i : Nat) (bytes : List Nat)
    (hk : InWindow evs k) (hq : (queries evs)[k]? = some (a, i))
    (hfirst : ∀ k', InWindow evs k' → (∃ c, (queries evs)[k']? = some (c, i)) →
      k % SIZE ≤ k' % SIZE) :
    run (evs ++ [.reply i bytes]) = ((run evs).1, (run evs).2 ++ [.toAsker a bytes]) := by
  have h := inv_queries evs
  obtain ⟨k', b, hk', hk2', hq', hget, hslot, hmin⟩ := h.get_window hk.1 hk.2 hq
  have h1 := hfirst k' ⟨hk', hk2'⟩ ⟨b, hq'⟩
  have h2 := hmin k hk.1 hk.2 ⟨a, hq⟩
  have hkk : k' = k := by
    obtain ⟨hka, hkb⟩ := hk
    simp only [SIZE, Iodine.Gen.FW_QUERY_CACHE_SIZE] at *
    omega
  subst hkk
  rw [hq] at hq'
  have hb : b = a := by
    have := Option.some.inj hq'
    exact (Prod.mk.inj this).1.symm
  rw [run_snoc, step_reply_state, step_reply_out, hget]
  simp only [hslot, hb]

/-- two outstanding queries with the same id, ring not wrapped: the OLDER asker gets the reply -/
example : (run [.query 1 7, .query 2 7, .reply 7 [1]]).2 = [.forward 7, .forward 7, .toAsker 1 [1]] := by decide
/-- ring wrapped: query number 5 (asker 6) and query number 16 (asker 17, slot 0) share id 7:
the MOST RECENT asker gets the reply, and asker 6 — still within the last SIZE — does not -/
example : let evs := (List.range 17).map (fun k => Ev.query (k + 1) (if k = 5 ∨ k = 16 then 7 else 100 + k))
    (6, 7) ∈ recent evs ∧ (run (evs ++ [.reply 7 [1]])).2 = (run evs).2 ++ [.toAsker 17 [1]] := by
  decide +kernel
/-- so `fw_reply_routed` is false without the distinctness hypothesis -/
example : ¬ ∀ (evs : List Ev) (a i : Nat) (bytes : List Nat), (a, i) ∈ recent evs →
    run (evs ++ [.reply i bytes]) = ((run evs).1, (run evs).2 ++ [.toAsker a bytes]) := by
  intro h
  exact absurd (h [.query 1 7, .query 2 7] 2 7 [] (by decide)) (by decide)

end Iodine.C20
