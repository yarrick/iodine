import IodineModel.Server.Options
import IodineModel.Server.Bytes
import IodineModel.Client.Options
/-
Vocabulary for the "from the command line on" theorems (Props/C03Main.lean … C19Main.lean): only definitions live here; the theorems
are in the property files so that each property's proof audit lists them.  `Starts`, `entry`, `bentry` are for iodined; `CStarts`,
`cpw` for iodine (C06Main, C08Main, C13Main).

The quantifier the server-side theorems share: for every argument vector `argv` and environment `env` (password variable, typed line, the result of every
operating-system call `main()` makes) for which `main()` of iodined reaches `tunnel()` with the globals `f` (`Starts env argv f`), every
stream `rnd` of `rand()` values, every pair `dest4 dest6` of local addresses `recvmsg` reports, and then every sequence of inputs
(datagram bytes, tun frames, forwarded replies, time-outs) and clock values.
-/
namespace Iodine.Top
open Iodine Iodine.Server Iodine.Server.Options

/-- `main(argc, argv)` of iodined, run in environment `env`, calls `tunnel()` with the globals `f` -/
def Starts (env : Env) (argv : List (List Nat)) (f : Final) : Prop := (serverMain env argv).final = some f

/-- the state of the session machine when `tunnel()` is entered (the stored clock value is irrelevant: `C10.start_clock_irrelevant`) -/
def entry (f : Final) (rnd : List Nat) (dest4 dest6 : Nat) : Srv := f.srv rnd dest4 dest6 1000

/-- the same with the statics `td1 = td2 = 0` of `write_dns_nameenc`: the state of the byte-level process -/
def bentry (f : Final) (rnd : List Nat) (dest4 dest6 : Nat) : BSrv := ⟨entry f rnd dest4 dest6, (0, 0)⟩

/-- `main(argc, argv)` of iodine, run in environment `env`, calls `client_handshake()` with client.c's statics, the arguments and the
password buffer of `f` -/
def CStarts (env : Client.Options.Env) (argv : List (List Nat)) (f : Client.Options.Final) : Prop :=
  (Client.Options.clientMain env argv).final = some f

/-- the 32 bytes `login_calculate` reads through the pointer `client_set_password` stored -/
def cpw (f : Client.Options.Final) : List Nat := f.password.take 32

end Iodine.Top
