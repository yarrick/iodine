import IodineModel.Props.C02
import IodineModel.Lemmas.C02qU6
import IodineModel.Lemmas.C02qD9
import IodineModel.Lemmas.C02qL1
import IodineModel.Lemmas.C02qM8
import IodineModel.Lemmas.C02qB7
import IodineModel.Lemmas.C02qB8
import IodineModel.Lemmas.C02qA6
import IodineModel.Lemmas.C02qO9
import IodineModel.Lemmas.C02t5
/-
C02 — the RECOVERY clause for one fault class, machine-checked: the sequence-number window after a blackout
(finding c02:seqno-window), overlapping transfers, and freshness of the server's duplicate memories under faults.

(1) THE WINDOW.  Packet sequence numbers are 3 bits; a receiver drops a data fragment whose number is its current one (with a
    fragment number not above the current one) or one of the THREE before it, and takes anything else for a new packet.
    `QuiescentDesync P du dd w`: quiescent, but the client's upstream number is `du` ahead of the server's and the server's
    downstream number `dd` ahead of the client's.  Such a state is what `d` packets given up in a row leave behind
    ((1b) `giveup_run_upstream`: every upstream datagram lost, one offered packet: 9 events, 4 s, the server untouched).
    (1a) What the next offered packet does in such a state:
    * upstream (the SERVER's window; within a session only the data handler, `Server.dataUpstream`, writes `inpacket.seqno`):
      `d ≤ 3` delivered and resynchronised (`desync_up_delivered`); `4 ≤ d ≤ 6` dropped, `d ↦ d + 1` (`desync_up_dropped`,
      14 steps, 4 s); `d = 7`: the number equals the server's — dropped the same way if the server's last fragment number is
      ≥ 1; if it is 0 the server's own numbers LOOK LIKE the acknowledgement of fragment 0 and the client believes a packet
      delivered that was dropped (one-fragment packet: lost silently, test `C02L.test_desync_up_6`; longer ones: the server
      appends fragments 1… to its stale buffer).  Hence `recovery_after_giveups`: at most 4 packets lost, then delivery
      resumes and stays.
      The same in lazy mode: `desync_up_delivered_lazy`, `desync_up_dropped_lazy`, `desync_false_ack`,
      `recovery_after_giveups_lazy` (witness `C02L.desync_drops_new_packets_lazy`).
    * downstream (the CLIENT's window): `desync_down_delivered_*` (`d ≤ 3`), `desync_down_dropped_*` (`4 ≤ d ≤ 6`; `d = 7`
      with last fragment number ≠ 0), and a second mover: a DATALESS answer whose number is outside the window is adopted
      (`idle_poll_resyncs_down`, `1 ≤ d ≤ 4`) — in immediate mode the client polls every `selecttimeout` seconds, so after a
      downstream blackout of `k ≤ 4` packets nothing is lost unless a packet is offered before the next poll; `d = 7` with
      last fragment number 0 and an empty buffer is the "weird situation" clause: delivered.  So `k` give-ups lose the next
      `8 − k` packets (`k = 5, 6, 7`), one fewer when the receiver's last fragment number is 0 — the numbers seen on the real
      programs (`C02L.desync_drops_new_packets_down_lazy`: k = 5 → 2 lost, k = 6 → 1).
    * WHY `k = 4` DIFFERS BETWEEN THE MODES (upstream): not because somebody else moves the server's number — nobody does —
      but because the LAZY client gives up fewer packets in the same time: getting no answers it first lowers
      `selecttimeout`, then switches lazy mode off (`send_query`'s "too few answers" test, 5 lazy-off queries at 1 s each during
      which it reads no tun frames), and frames offered while it is still resending are read and DISCARDED once
      `outchunkresent ≥ 2` (`client_tun_frame_while_sending`) without consuming a sequence number.  With 4 frames offered
      5.5 s apart only 3 numbers are used up (`d = 3`: all delivered).  In immediate mode every offered frame costs a number
      (`d = 4`: 4 lost).  After such a blackout the client is in immediate mode and the server still lazy.
(2) OVERLAPPING TRANSFERS, lazy mode: the product invariant and its establishment (`overlap_offer_lazy`), the one-round
    step (`overlap_round_lazy`), one-fragment packets end to end (`overlap_single_lazy`).  All fragment counts:
    `clean_path_two_simultaneous_offers_lazy` in `Props/C02c.lean`.
(3) FRESHNESS (`Aged`/`PAged`) is NOT an invariant under faults: `freshness_not_invariant` (drops only, 26 s, quiescent and
    in sync afterwards) and the next packet is mishandled (`freshness_loss_mishandles`: delivered, but only after a 1 s
    timeout); it RENEWS itself (`freshness_renewal`).  So the clean-path theorems apply after a fault prefix only under the
    extra hypothesis `Aged … 1 ∧ PAged … 1` — guaranteed while at most 20 data queries were sent since the last quiescent
    state, or after 15 clean data cycles.

The composition "blackout, then clean path" as ONE theorem needs the clean-path chain for freshness slack `1 + 4k` (the
give-up run ends in `QuietImmDS`; the chain and `desync_up_*` here are stated for slack 1): `blackout_then_clean_upstream` in
`Props/C02c.lean`.  Here the composition is checked on concrete runs by the kernel (`C02L.compose_k3' … compose_k8'`).
-/
set_option linter.unusedVariables false

namespace Iodine.C02
open Iodine Iodine.World Iodine.C02L
open Iodine.Server (Session)

/-- quiescent (immediate mode) but DESYNCHRONISED: the client's `outpkt.seqno` is `du` ahead of the server's
`inpacket.seqno`, the server's `outpacket.seqno` is `dd` ahead of the client's `inpkt.seqno` (all mod 8) -/
abbrev QuiescentDesync (P : C02L.Par) (du dd : Nat) (w : W) : Prop := C02L.QuietImmD P du dd w

/-- the same in lazy mode -/
abbrev QuiescentDesyncLazy (P : C02L.Par) (du dd : Nat) (w : W) : Prop := C02L.QuietLazyD P du dd w

theorem quiescentDesync_zero {P : C02L.Par} {w : W} : QuiescentDesync P 0 0 w ↔ Quiescent P w := C02L.quietImmD_zero

theorem quiescentDesyncLazy_zero {P : C02L.Par} {w : W} : QuiescentDesyncLazy P 0 0 w ↔ QuiescentLazy P w := C02L.quietLazyD_zero

/-- desynchronised states are quiescent for the scheduler -/
theorem quiescentDesync_quiet {P : C02L.Par} {du dd : Nat} {w : W} (h : QuiescentDesync P du dd w) : quiet P.u w = true := h.quiet

/-- **(1a) upstream, immediate mode, `d ≤ 3`**: the client's number is at most 3 ahead — the packet is delivered exactly as on the clean path (`2·g + 1` steps) and the numbers are in sync again. -/
theorem desync_up_delivered :
    ∀ {P : Par} (hP : P.Ok) {d : Nat} {w : W} (hq : QuietImmD P d 0 w) (hd : d ≤ 3) (frame : List Nat)
    (h24 : 24 ≤ frame.length) (hl : frame.length < 65536) (hb : Codec.Bytes frame)
    (hdst : Server.ipDst frame ≠ (Server.getUser w.srv P.u).tunIp)
    (hg16 : upFrags P (frame.length + 1) (0x5a :: frame) ≤ 16),
    ∃ w', promptSteps P.u (2 * upFrags P (frame.length + 1) (0x5a :: frame) + 1) (step w (.offerC frame)) = some w' ∧
      QuietImm P w' ∧
      w'.tunS = w.tunS ++ [tunImage frame] ∧ w'.tunC = w.tunC ∧
      (Server.getUser w'.srv P.u).tunIp = (Server.getUser w.srv P.u).tunIp ∧
      (Server.getUser w'.srv P.u).fragsize = (Server.getUser w.srv P.u).fragsize :=
  fun {_} hP {_} {_} hq hd frame h24 hl hb hdst hg16 => C02L.up_packet_imm_desync_ok hP hq hd frame h24 hl hb hdst hg16

/-- **(1a) upstream, immediate mode, `d` in the window** (`DropsUp`: `4 ≤ d ≤ 6`, or `d = 7` and the server's last fragment number is not 0): the packet is NOT delivered; the server answers every copy with its own numbers, the client resends three times at 1 s and gives up (14 scheduler steps, 4 s); the state is desynchronised by `d + 1`. -/
theorem desync_up_dropped :
    ∀ {P : Par} (hP : P.Ok) {d : Nat} {w : W} (hq : QuietImmD P d 0 w)
    (hd : DropsUp (Server.getUser w.srv P.u) d) (frame : List Nat)
    (hne : frame ≠ []) (hl : frame.length < 65536) (hb : Codec.Bytes frame),
    ∃ w', promptSteps P.u 14 (step w (.offerC frame)) = some w' ∧
      QuietImmD P ((d + 1) % 8) 0 w' ∧ w'.tunS = w.tunS ∧ w'.tunC = w.tunC ∧
      (Server.getUser w'.srv P.u).inpacket = (Server.getUser w.srv P.u).inpacket ∧
      (Server.getUser w'.srv P.u).tunIp = (Server.getUser w.srv P.u).tunIp ∧
      (Server.getUser w'.srv P.u).fragsize = (Server.getUser w.srv P.u).fragsize ∧
      w'.srv.now = w.srv.now + 4 ∧ w'.cs.c.selecttimeout = w.cs.c.selecttimeout :=
  fun {_} hP {_} {_} hq hd frame hne hl hb => C02L.up_packet_imm_desync_drop hP hq hd frame hne hl hb

/-- (upstream, immediate mode; THEOREM).  BOUNDED RECOVERY: from a state desynchronised by `d`, of the packets offered next the first `lostUp d` (0 for `d ≤ 3`, else `8 − d` ≤ 4) are lost, all later ones are delivered exactly once and in order, and from the first delivered packet on the state is the synchronised `Quiescent` of the clean-path theorems — delivery resumes and stays.  (Hypothesis `d ≤ 3 ∨ 1 ≤ inpacket.fragment`: see `desync_false_ack` below for what happens otherwise.) -/
theorem recovery_after_giveups :
    ∀ {P : Par} (hP : P.Ok) (fuel : Nat) (hfuel : 33 ≤ fuel),
    ∀ (frames : List (List Nat)) (d : Nat) (w : W), QuietImmD P d 0 w → d < 8 →
      (d ≤ 3 ∨ 1 ≤ (Server.getUser w.srv P.u).inpacket.fragment) →
      (∀ f ∈ frames, UpFrameOk P (Server.getUser w.srv P.u).tunIp f) →
      (offerAllC P.u fuel w frames).tunS = w.tunS ++ (frames.drop (lostUp d)).map tunImage ∧
      (offerAllC P.u fuel w frames).tunC = w.tunC ∧
      (lostUp d < frames.length → QuietImm P (offerAllC P.u fuel w frames)) :=
  fun hP fuel hfuel frames d w hq hd hfr hok => C02L.recovery_after_giveups_up_imm hP fuel hfuel frames d w hq hd hfr hok

/-- **(1a) downstream, immediate mode, `4 ≤ d ≤ 6`**: NOT delivered.  The client takes every copy of fragment 0 for a recent duplicate and keeps pinging with its own numbers; a one-fragment packet is forgotten by the server as it is sent (3 steps), a longer one is resent on six polls and dropped on the seventh (21 steps); desynchronised by `d + 1`. -/
theorem desync_down_dropped_immediate :
    ∀ {P : Par} (hP : P.Ok) {w : W} {d : Nat} (hq : QuietImmD P 0 d w) (hd : 4 ≤ d ∧ d ≤ 6)
    (frame : List Nat) (hF : 0 < (Server.getUser w.srv P.u).fragsize)
    (h24 : 24 ≤ frame.length) (hl : frame.length < 65536) (hdst : Server.ipDst frame = (Server.getUser w.srv P.u).tunIp)
    (hto : (Client.selectOf w.cs.c).to < 10000000)
    (hexp : ¬ w.cs.c.lastdownstreamtime + 60 < w.cs.c.now + ((Client.selectOf w.cs.c).to / 1000000).toNat)
    (hlive : w.srv.now + ((Client.selectOf w.cs.c).to / 1000000).toNat < (Server.getUser w.srv P.u).lastPkt + 60),
    ∃ w', promptSteps P.u (dropSteps (downFrags (Server.getUser w.srv P.u).fragsize (frame.length + 1) (frame.length + 1)))
        (step w (.offerS frame)) = some w' ∧
      QuietImmD P 0 (d + 1) w' ∧ w'.tunC = w.tunC ∧ w'.tunS = w.tunS ∧
      (Server.getUser w'.srv P.u).fragsize = (Server.getUser w.srv P.u).fragsize ∧
      (Server.getUser w'.srv P.u).tunIp = (Server.getUser w.srv P.u).tunIp ∧
      (Server.getUser w'.srv P.u).lastPkt = w'.srv.now ∧ w'.cs.c.lastdownstreamtime = w'.cs.c.now ∧
      w'.cs.c.selecttimeout = w.cs.c.selecttimeout ∧ w'.cs.c.sendPingSoon ≤ 500 ∧ w'.cs.c.inpkt = w.cs.c.inpkt :=
  @C02L.down_packet_imm_desync_drop

/-- … `d = 7` with the client's last fragment number not 0: lost as a duplicate fragment; in sync afterwards. -/
theorem desync_down_dropped7_immediate :
    ∀ {P : Par} (hP : P.Ok) {w : W} (hq : QuietImmD P 0 7 w)
    (hfr : w.cs.c.inpkt.fragment ≠ 0)
    (frame : List Nat) (hF : 0 < (Server.getUser w.srv P.u).fragsize)
    (h24 : 24 ≤ frame.length) (hl : frame.length < 65536) (hdst : Server.ipDst frame = (Server.getUser w.srv P.u).tunIp)
    (hto : (Client.selectOf w.cs.c).to < 10000000)
    (hexp : ¬ w.cs.c.lastdownstreamtime + 60 < w.cs.c.now + ((Client.selectOf w.cs.c).to / 1000000).toNat)
    (hlive : w.srv.now + ((Client.selectOf w.cs.c).to / 1000000).toNat < (Server.getUser w.srv P.u).lastPkt + 60),
    ∃ w', promptSteps P.u (dropSteps (downFrags (Server.getUser w.srv P.u).fragsize (frame.length + 1) (frame.length + 1)))
        (step w (.offerS frame)) = some w' ∧
      QuietImm P w' ∧ w'.tunC = w.tunC ∧ w'.tunS = w.tunS ∧
      (Server.getUser w'.srv P.u).fragsize = (Server.getUser w.srv P.u).fragsize ∧
      (Server.getUser w'.srv P.u).tunIp = (Server.getUser w.srv P.u).tunIp ∧
      (Server.getUser w'.srv P.u).lastPkt = w'.srv.now ∧ w'.cs.c.lastdownstreamtime = w'.cs.c.now ∧
      w'.cs.c.selecttimeout = w.cs.c.selecttimeout ∧ w'.cs.c.sendPingSoon ≤ 500 ∧ w'.cs.c.inpkt = w.cs.c.inpkt :=
  @C02L.down_packet_imm_desync_drop7

/-- **(1a) downstream, immediate mode, `d ≤ 3`**: delivered as on the clean path; in sync again. -/
theorem desync_down_delivered_immediate :
    ∀ {P : Par} (hP : P.Ok) {w : W} {d : Nat} (hq : QuietImmD P 0 d w) (hd : d ≤ 3) (frame : List Nat)
    (hF : 0 < (Server.getUser w.srv P.u).fragsize)
    (hok : DownFrameOk (Server.getUser w.srv P.u).tunIp (Server.getUser w.srv P.u).fragsize frame)
    (hto : (Client.selectOf w.cs.c).to < 10000000)
    (hexp : ¬ w.cs.c.lastdownstreamtime + 60 < w.cs.c.now + ((Client.selectOf w.cs.c).to / 1000000).toNat)
    (hlive : w.srv.now + ((Client.selectOf w.cs.c).to / 1000000).toNat < (Server.getUser w.srv P.u).lastPkt + 60),
    ∃ w', promptSteps P.u (downSteps (downFrags (Server.getUser w.srv P.u).fragsize (frame.length + 1) (frame.length + 1)))
        (step w (.offerS frame)) = some w' ∧
      QuietImm P w' ∧ w'.tunC = w.tunC ++ [tunImage frame] ∧ w'.tunS = w.tunS ∧
      (Server.getUser w'.srv P.u).fragsize = (Server.getUser w.srv P.u).fragsize ∧
      (Server.getUser w'.srv P.u).tunIp = (Server.getUser w.srv P.u).tunIp ∧
      (Server.getUser w'.srv P.u).lastPkt = w'.srv.now ∧ w'.cs.c.lastdownstreamtime = w'.cs.c.now ∧
      w'.cs.c.selecttimeout = w.cs.c.selecttimeout ∧ w'.cs.c.sendPingSoon ≤ 5 :=
  @C02L.down_packet_imm_desync_ok

/-- An idle poll RESYNCHRONISES the downstream numbers when `1 ≤ d ≤ 4`: the dataless answer carries a number outside the client's window and the client adopts it (`datalessAdopt`).  This is the other mover of a receiver's number — there is none upstream. -/
theorem idle_poll_resyncs_down :
    ∀ {P : Par} (hP : P.Ok) {w : W} {d : Nat} (hq : QuietImmD P 0 d w) (hd : 1 ≤ d ∧ d ≤ 4)
    (hto : (Client.selectOf w.cs.c).to < 10000000)
    (hexp : ¬ w.cs.c.lastdownstreamtime + 60 < w.cs.c.now + ((Client.selectOf w.cs.c).to / 1000000).toNat)
    (hlive : w.srv.now + ((Client.selectOf w.cs.c).to / 1000000).toNat < (Server.getUser w.srv P.u).lastPkt + 60),
    ∃ w1 w2, run w [.tickC, .deliverUp, .deliverDown] = w1 ∧ QuietImm P w1 ∧ w1.cs.c.sendPingSoon = 500 ∧
      w1.cs.c.inpkt.seqno = (w.cs.c.inpkt.seqno + d) % 8 ∧
      w1.tunC = w.tunC ∧ w1.tunS = w.tunS ∧ w1.cs.c.now = w1.cs.c.lastdownstreamtime ∧
      run w1 [.tickC, .deliverUp, .deliverDown] = w2 ∧ QuietImm P w2 ∧ w2.cs.c.sendPingSoon = 0 ∧
      w2.cs.c.inpkt = w1.cs.c.inpkt ∧ w2.tunC = w.tunC ∧ w2.tunS = w.tunS ∧ w2.cs.c.now = w1.cs.c.now :=
  @C02L.idle_poll_resyncs_down

/-- recovery downstream, immediate mode (PARTIAL: the client's last fragment number must not be 0; otherwise `d = 7` is the "weird situation" clause and the packet IS delivered — kernel-evaluated runs `C02L.desync7_both_outcomes`). -/
theorem recovery_after_giveups_down_immediate_partial :
    ∀ {P : Par} (hP : P.Ok) (fuel : Nat) (hfuel : 36 ≤ fuel)
    (lost rest : List (List Nat)) (w : W) (d : Nat) (hd : 4 ≤ d ∧ d ≤ 7) (hlen : lost.length = 8 - d)
    (hq : QuietImmD P 0 d w) (hfr : w.cs.c.inpkt.fragment ≠ 0) (hr : Roomy P w) (hsel : w.cs.c.selecttimeout ≤ 9)
    (hF : 0 < (Server.getUser w.srv P.u).fragsize)
    (hok : ∀ f ∈ lost ++ rest, DownFrameOk (Server.getUser w.srv P.u).tunIp (Server.getUser w.srv P.u).fragsize f),
    QuietImm P (offerAllS P.u fuel w (lost ++ rest)) ∧
    (offerAllS P.u fuel w (lost ++ rest)).tunC = w.tunC ++ rest.map tunImage ∧
    (offerAllS P.u fuel w (lost ++ rest)).tunS = w.tunS :=
  @C02L.recovery_after_giveups_down_imm_partial

/-- **(1a) downstream, lazy mode, `d` in the window**: NOT delivered (3 resp. 21 steps, one less if a ping was due); desynchronised by `d + 1`. -/
theorem desync_down_dropped_lazy :
    ∀ {P : Par} (hP : P.Ok) {w : W} {d : Nat} (hq : QuietLazyD P 0 d w)
    (hd : (4 ≤ d ∧ d ≤ 6) ∨ (d = 7 ∧ w.cs.c.inpkt.fragment ≠ 0)) (frame : List Nat)
    (hF : 0 < (Server.getUser w.srv P.u).fragsize)
    (hok : DownFrameOk (Server.getUser w.srv P.u).tunIp (Server.getUser w.srv P.u).fragsize frame),
    ∃ w', promptSteps P.u (dropStepsL w.cs.c.sendPingSoon
          (downFrags (Server.getUser w.srv P.u).fragsize (frame.length + 1) (frame.length + 1)))
        (step w (.offerS frame)) = some w' ∧
      QuietLazyD P 0 ((d + 1) % 8) w' ∧ w'.cs.c.sendPingSoon = 0 ∧ w'.tunC = w.tunC ∧ w'.tunS = w.tunS ∧
      (Server.getUser w'.srv P.u).fragsize = (Server.getUser w.srv P.u).fragsize ∧
      (Server.getUser w'.srv P.u).tunIp = (Server.getUser w.srv P.u).tunIp ∧ w'.cs.c.inpkt = w.cs.c.inpkt :=
  @C02L.down_packet_lazy_desync_drop

/-- **(1a) downstream, lazy mode, `d ≤ 3`**: delivered; in sync again. -/
theorem desync_down_delivered_lazy :
    ∀ {P : Par} (hP : P.Ok) {w : W} {d : Nat} (hq : QuietLazyD P 0 d w) (hd : d ≤ 3)
    (frame : List Nat) (hF : 0 < (Server.getUser w.srv P.u).fragsize)
    (hok : DownFrameOk (Server.getUser w.srv P.u).tunIp (Server.getUser w.srv P.u).fragsize frame),
    ∃ w', promptSteps P.u (downStepsL w.cs.c.sendPingSoon
          (downFrags (Server.getUser w.srv P.u).fragsize (frame.length + 1) (frame.length + 1)))
        (step w (.offerS frame)) = some w' ∧
      QuietLazy P w' ∧ w'.cs.c.sendPingSoon = 0 ∧ w'.tunC = w.tunC ++ [tunImage frame] ∧ w'.tunS = w.tunS ∧
      (Server.getUser w'.srv P.u).fragsize = (Server.getUser w.srv P.u).fragsize ∧
      (Server.getUser w'.srv P.u).tunIp = (Server.getUser w.srv P.u).tunIp :=
  @C02L.down_packet_lazy_desync_ok

/-- recovery downstream, lazy mode (PARTIAL: as above). -/
theorem recovery_after_giveups_down_lazy_partial :
    ∀ {P : Par} (hP : P.Ok) (fuel : Nat) (hfuel : 33 ≤ fuel),
    ∀ (frames : List (List Nat)) (d : Nat) (w : W), QuietLazyD P 0 d w → d < 8 → (4 ≤ d → w.cs.c.inpkt.fragment ≠ 0) →
      0 < (Server.getUser w.srv P.u).fragsize →
      (∀ f ∈ frames, DownFrameOk (Server.getUser w.srv P.u).tunIp (Server.getUser w.srv P.u).fragsize f) →
      lostDown d < frames.length →
      QuietLazy P (offerAllS P.u fuel w frames) ∧
      (offerAllS P.u fuel w frames).tunC = w.tunC ++ (frames.drop (lostDown d)).map tunImage ∧
      (offerAllS P.u fuel w frames).tunS = w.tunS :=
  @C02L.recovery_after_giveups_down_lazy_partial

/-- **(1b) the give-up run**: one packet offered while EVERY upstream datagram is lost (`blackoutEvUp`, 9 events: `dropUp`, then `tickC dropUp` four times).  The server does not move (its clock: +4 s), the client is idle again one sequence number further; the freshness slack of the server's memories has grown by 4 (data counter) and 1 (ping seed): `QuietImmDS`. -/
theorem giveup_run_upstream :
    ∀ {P : Par} (hP : P.Ok) {w : W} {du dd sl sp : Nat} (hq : QuietImmDS P du dd sl sp w)
    (frame : List Nat) (hne : frame ≠ []) (hl : frame.length < 65536) (hb : Codec.Bytes frame)
    (hsl : sl ≤ 18) (hsp : sp ≤ 1000)
    (hc : ¬ w.cs.c.lastdownstreamtime + 60 < w.cs.c.now + 4)
    (hs : w.srv.now + 4 < (Server.getUser w.srv P.u).lastPkt + 60),
    GaveUp P w (runSched blackoutEvUp 9 (step w (.offerC frame))) ∧
    QuietImmDS P ((du + 1) % 8) dd (sl + 4) (sp + 1) (runSched blackoutEvUp 9 (step w (.offerC frame))) :=
  @C02L.giveup_run_up_imm

/-- … iterated over `k` offered packets: desynchronised by `k`, slack `+4k`/`+k`; `k ≤ 5` from a quiescent state (the slack must stay ≤ 21). -/
theorem giveup_runs_upstream :
    ∀ {P : Par} (hP : P.Ok) (frames : List (List Nat))
    (hok : ∀ f ∈ frames, f ≠ [] ∧ f.length < 65536 ∧ Codec.Bytes f),
    ∀ {w : W} {du dd sl sp : Nat}, QuietImmDS P du dd sl sp w →
    sl + 4 * frames.length ≤ 22 → sp + frames.length ≤ 1001 →
    ¬ w.cs.c.lastdownstreamtime + 60 < w.cs.c.now + 4 * frames.length →
    w.srv.now + 4 * frames.length < (Server.getUser w.srv P.u).lastPkt + 60 →
    GaveUpN w (giveupRunUp frames w) frames.length ∧
    QuietImmDS P ((du + frames.length) % 8) dd (sl + 4 * frames.length) (sp + frames.length) (giveupRunUp frames w) :=
  @C02L.giveup_runs_up_imm

/-- **(3) renewal**: whatever the server's memories held, after 15 clean data cycles (and 4 cache writes) they are `Aged … 1` again. -/
theorem freshness_renewal :
    ∀ {P : Par} (hu : P.u < 16) {nd nc : Nat} {x0 x : Session} {k0 k : Nat}
    (h : CleanSess nd nc (x0, k0) (x, k)) (hwf : RingWF x0) (hk : k0 < 36) (hnd : 15 ≤ nd) (hnc : 4 ≤ nc),
    k < 36 ∧ Aged P x k 1 :=
  @C02L.CleanSess.renewed

/-- **(3) counterexample, drops only**: the state `C02L.qaWC` = `exW` after the 104-event schedule `C02L.qaSchedC` (32 lost queries in 26 s, `C02L.qa_runC`) is quiescent, in sync, `PAged`, … -/
theorem freshness_counterexample_state :
    QuietBut Iodine.C02.exP qaWC ∧ quiet 0 qaWC = true ∧
    PAged Iodine.C02.exP (Server.getUser qaWC.srv 0) qaWC.cs.c.randSeed 1 := by
  refine ⟨quietBut_exP qaWC (by decide +kernel) (by decide +kernel) (by decide +kernel) (by decide +kernel), by decide +kernel, ?_⟩
  refine ⟨by decide +kernel, by decide +kernel, by decide +kernel, by decide +kernel, ?_, ?_⟩
  · intro i hi c ⟨h1, _⟩
    have : ∀ i, i < 30 → ((Server.getUser qaWC.srv 0).qmemping.getD
        (C16L.ringPos Gen.QMEMPING_LEN (Server.getUser qaWC.srv 0).qmempingLast i) Server.QmemEntry.zero).type = 0 := by
      decide +kernel
    rw [this i hi] at h1
    exact absurd h1 (by decide)
  · intro i hi c ⟨_, h1, _⟩
    have : ∀ i, i < 4 → ((Server.getUser qaWC.srv 0).dnscache.getD
        (C16L.ringPos Gen.DNSCACHE_LEN (Server.getUser qaWC.srv 0).dcLast i) Server.DnsCacheEntry.zero).q.name.getD 0 0 ≠ 112 := by
      decide +kernel
    exact absurd h1 (this i hi)

/-- … but NOT `Aged` for any slack up to 26 (the clean-path theorems need `≤ 21`): freshness of the data memories is not an invariant under drops (the data-CMC counter, period 36, advances on every resend) … -/
theorem freshness_not_invariant :
    ¬ ∃ sl, sl ≤ 26 ∧ Aged Iodine.C02.exP (Server.getUser qaWC.srv 0) qaWC.cs.c.datacmc sl :=
  @C02L.qa_dropC_not_aged

/-- … and the next clean-path packet really is mishandled: its first query is answered from `qmem` ("x"), the three steps `clean_path_single_fragment` promises deliver nothing, the packet arrives only after a 1 s client timeout (6 steps). -/
theorem freshness_loss_mishandles :
    Iodine.C02.AcceptableUp Iodine.C02.exP (Server.getUser qaWC.srv 0).tunIp qaF1 ∧ Iodine.C02.fragments Iodine.C02.exP qaF1 = 1 ∧
    (run qaWC [.offerC qaF1, .deliverUp]).down.map (fun d => match d with | .ans _ _ _ data => data | .raw b => b) = [[120]] ∧
    (runPromptCount 0 3 (step qaWC (.offerC qaF1)) 0).1.tunS = qaWC.tunS ∧
    quiet 0 (runPromptCount 0 3 (step qaWC (.offerC qaF1)) 0).1 = false ∧
    promptTrace 0 60 (step qaWC (.offerC qaF1)) = [.deliverUp, .deliverDown, .tickC, .deliverUp, .tickS, .deliverDown] ∧
    (runPromptCount 0 60 (step qaWC (.offerC qaF1)) 0).1.tunS = qaWC.tunS ++ [qaF1] := by
  -- the five facts about the run are decided together: the kernel then runs each step of it once
  exact ⟨⟨by decide, by decide, by unfold Codec.Bytes; decide, by decide +kernel, by decide +kernel⟩, by decide +kernel,
    by rw [run_fast, runPromptCount_fast, promptTrace_fast, step_fast]; decide +kernel⟩

/-- **(2) overlapping transfers, lazy mode**: a packet offered on each side before anything is delivered (either order: the offers commute) establishes the product invariant `C02L.BothFlightL` (upstream fragment in flight AND downstream fragment in flight, the server holding no query). -/
theorem overlap_offer_lazy :
    ∀ {P : Par} (hP : P.Ok) {w : W} (hq : QuietLazy P w) (fu fd : List Nat)
    (hu : UpFrameOk P (Server.getUser w.srv P.u).tunIp fu)
    (hd : DownFrameOk (Server.getUser w.srv P.u).tunIp (Server.getUser w.srv P.u).fragsize fd)
    (hF : 0 < (Server.getUser w.srv P.u).fragsize),
    ∃ w2, step (step w (.offerC fu)) (.offerS fd) = w2 ∧ step (step w (.offerS fd)) (.offerC fu) = w2 ∧
      BothFlightL P (0x5a :: fu) (0x5a :: fd) w2 (newPacket w.cs.c fu) 0 0 ((w.cs.c.inpkt.seqno + 1) % 8) 0
        (downLen (Server.getUser w.srv P.u).fragsize (0x5a :: fd).length) 0 ∧
      w2.tunS = w.tunS ∧ w2.tunC = w.tunC ∧ (Server.getUser w2.srv P.u).tunIp = (Server.getUser w.srv P.u).tunIp ∧
      (Server.getUser w2.srv P.u).fragsize = (Server.getUser w.srv P.u).fragsize :=
  @C02L.both_offer_lazy

/-- … one round (4 events `deliverUp deliverDown deliverUp deliverDown`) advances BOTH transfers by one fragment, as long as neither fragment is the last of its packet. -/
theorem overlap_round_lazy :
    ∀ {P : Par} (hP : P.Ok) {outU outD : List Nat} {w : W} {c0 : Client.Cli} {ou fu : Nat} {sq : Int} {od D fd : Nat}
    (h : BothFlightL P outU outD w c0 ou fu sq od D fd) (h64u : outU.length ≤ 65536) (h64d : outD.length ≤ 65536)
    (hltU : ou + fragLen P (outU.drop ou) < outU.length) (hfu : fu + 1 < 16)
    (hltD : od + D < outD.length) (hfd : fd + 1 < 16),
    ∃ w' c0', promptSteps P.u 4 w = some w' ∧
      BothFlightL P outU outD w' c0' (ou + fragLen P (outU.drop ou)) (fu + 1) sq (od + D)
        (downLen (Server.getUser w.srv P.u).fragsize (outD.length - (od + D))) (fd + 1) ∧
      w'.tunS = w.tunS ∧ w'.tunC = w.tunC ∧ c0'.outpkt.seqno = c0.outpkt.seqno ∧
      (Server.getUser w'.srv P.u).tunIp = (Server.getUser w.srv P.u).tunIp ∧
      (Server.getUser w'.srv P.u).fragsize = (Server.getUser w.srv P.u).fragsize :=
  @C02L.both_round_lazy

/-- … and end to end for one-fragment packets: both arrive exactly once after 5 events, whichever was offered first; quiescent again.  (Packets of several fragments: `clean_path_two_simultaneous_offers_lazy`.) -/
theorem overlap_single_lazy :
    ∀ {P : Par} (hP : P.Ok) {w : W} (hq : QuietLazy P w) (fu fd : List Nat)
    (hu : UpFrameOk P (Server.getUser w.srv P.u).tunIp fu)
    (hd : DownFrameOk (Server.getUser w.srv P.u).tunIp (Server.getUser w.srv P.u).fragsize fd)
    (hF : 0 < (Server.getUser w.srv P.u).fragsize)
    (hU1 : upFrags P (fu.length + 1) (0x5a :: fu) = 1)
    (hD1 : downFrags (Server.getUser w.srv P.u).fragsize (fd.length + 1) (fd.length + 1) = 1),
    ∃ w', (∀ fuel, 5 ≤ fuel → runPromptCount P.u fuel (step (step w (.offerC fu)) (.offerS fd)) 0 = (w', 5)) ∧
      (∀ fuel, 5 ≤ fuel → runPromptCount P.u fuel (step (step w (.offerS fd)) (.offerC fu)) 0 = (w', 5)) ∧
      QuietLazy P w' ∧ w'.tunS = w.tunS ++ [tunImage fu] ∧ w'.tunC = w.tunC ++ [tunImage fd] :=
  by
  intro P hP w hq fu fd hu hd hF hU1 hD1
  obtain ⟨w2, _, _, hB, _⟩ := both_offer_lazy hP hq fu fd hu hd hF
  obtain ⟨_, _, _, hm2, _⟩ := send_readyL hP hB.ready
  simp only [List.drop_zero, Nat.zero_add] at hm2
  have h24u := hu.h24
  have h24d := hd.h24
  apply overlap_single_lazy_run hP hq fu fd hu hd hF
  · have h0 : upFrags P fu.length ((0x5a :: fu).drop (fragLen P (0x5a :: fu))) = 0 := by
      simp [upFrags] at hU1
      omega
    rcases upFrags_eq_zero P _ _ h0 with h | h
    · omega
    · have := congrArg List.length h
      simp only [List.length_drop, List.length_nil] at this
      omega
  · have h0 : downFrags (Server.getUser w.srv P.u).fragsize fd.length
        (fd.length + 1 - downLen (Server.getUser w.srv P.u).fragsize (fd.length + 1)) = 0 := by
      simp [downFrags] at hD1
      omega
    have hle : downLen (Server.getUser w.srv P.u).fragsize (fd.length + 1) ≤ fd.length + 1 := by unfold downLen; omega
    rcases downFrags_eq_zero _ _ _ h0 with h | h
    · omega
    · show downLen _ (fd.length + 1) = fd.length + 1
      omega

/-- **(1a) upstream, LAZY mode, `d ≤ 3`**: delivered as on the clean path; in sync again. -/
theorem desync_up_delivered_lazy :
    ∀ {P : Par} (hP : P.Ok) {d : Nat} {w : W} (hq : QuietLazyD P d 0 w) (hd : d ≤ 3)
    (frame : List Nat) (h24 : 24 ≤ frame.length) (hl : frame.length < 65536) (hb : Codec.Bytes frame)
    (hdst : Server.ipDst frame ≠ (Server.getUser w.srv P.u).tunIp)
    (hg16 : upFrags P (frame.length + 1) (0x5a :: frame) ≤ 16),
    ∃ w', promptSteps P.u (2 * upFrags P (frame.length + 1) (0x5a :: frame) + 1) (step w (.offerC frame)) = some w' ∧
      QuietLazy P w' ∧
      w'.tunS = w.tunS ++ [[0, 0, 8, 0] ++ frame.drop 4] ∧ w'.tunC = w.tunC ∧
      (Server.getUser w'.srv P.u).tunIp = (Server.getUser w.srv P.u).tunIp ∧
      (Server.getUser w'.srv P.u).fragsize = (Server.getUser w.srv P.u).fragsize :=
  @C02L.up_packet_lazy_desync_ok

/-- **(1a) upstream, LAZY mode, `d` in the window**: NOT delivered; 14 steps (`deliverUp deliverDown tickC` four times — each copy makes the server answer the query it held, with its own numbers —, then the give-up ping and the answer to the last data query), 4 s; desynchronised by `d + 1`. -/
theorem desync_up_dropped_lazy :
    ∀ {P : Par} (hP : P.Ok) {d : Nat} {w : W} (hq : QuietLazyD P d 0 w) (hd : 4 ≤ d ∧ d ≤ 7)
    (h7 : d = 7 → 1 ≤ (Server.getUser w.srv P.u).inpacket.fragment) (frame : List Nat)
    (hne : frame ≠ []) (hl : frame.length < 65536) (hb : Codec.Bytes frame),
    ∃ w', promptSteps P.u 14 (step w (.offerC frame)) = some w' ∧ QuietLazyD P ((d + 1) % 8) 0 w' ∧
      w'.tunS = w.tunS ∧ w'.tunC = w.tunC ∧
      (Server.getUser w'.srv P.u).inpacket = (Server.getUser w.srv P.u).inpacket ∧
      (Server.getUser w'.srv P.u).tunIp = (Server.getUser w.srv P.u).tunIp ∧
      (Server.getUser w'.srv P.u).fragsize = (Server.getUser w.srv P.u).fragsize ∧
      w'.srv.now = w.srv.now + 4 ∧ w'.cs.c.now = w.cs.c.now + 4 :=
  @C02L.up_packet_lazy_desync_drop

/-- **the false acknowledgement** (`d = 7`, the server's last fragment number 0, a one-fragment packet; lazy mode): the server drops the fragment as a repeat, but its own numbers `(seqno, 0)` ARE the acknowledgement the client waits for — the client believes the packet delivered; lost silently in 2 steps, in sync afterwards. -/
theorem desync_false_ack :
    ∀ {P : Par} (hP : P.Ok) {w : W} (hq : QuietLazyD P 7 0 w)
    (h0 : (Server.getUser w.srv P.u).inpacket.fragment = 0) (frame : List Nat)
    (hne : frame ≠ []) (hl : frame.length < 65536) (hb : Codec.Bytes frame)
    (hone : fragLen P (0x5a :: frame) = (0x5a :: frame).length),
    ∃ w', promptSteps P.u 2 (step w (.offerC frame)) = some w' ∧ QuietLazy P w' ∧
      w'.tunS = w.tunS ∧ w'.tunC = w.tunC ∧
      (Server.getUser w'.srv P.u).inpacket = (Server.getUser w.srv P.u).inpacket ∧
      (Server.getUser w'.srv P.u).tunIp = (Server.getUser w.srv P.u).tunIp ∧
      (Server.getUser w'.srv P.u).fragsize = (Server.getUser w.srv P.u).fragsize ∧
      w'.srv.now = w.srv.now :=
  @C02L.up_packet_lazy_desync_false_ack

/-- **recovery_after_giveups, lazy mode**: as `recovery_after_giveups`; for `d ≥ 4` either the server's last fragment number is ≥ 1 or all offered packets have one fragment (then the false acknowledgement is covered as well). -/
theorem recovery_after_giveups_lazy :
    ∀ {P : Par} (hP : P.Ok) (fuel : Nat) (hfuel : 33 ≤ fuel),
    ∀ (fs : List (List Nat)) (d : Nat) (w : W), QuietLazyD P d 0 w → d < 8 →
      (4 ≤ d → 1 ≤ (Server.getUser w.srv P.u).inpacket.fragment ∨ ∀ f ∈ fs, OneFrag P f) →
      (∀ f ∈ fs, UpFrameOk P (Server.getUser w.srv P.u).tunIp f) →
      (offerAllC P.u fuel w fs).tunS = w.tunS ++ (fs.drop (lost d)).map tunImage ∧
      (offerAllC P.u fuel w fs).tunC = w.tunC ∧
      (Resync d fs.length → QuietLazy P (offerAllC P.u fuel w fs)) ∧
      (fs.length < lost d → QuietLazyD P (d + fs.length) 0 (offerAllC P.u fuel w fs)) :=
  @C02L.recovery_after_giveups_up_lazy_nojunk

/-- `exW` after a two-fragment packet went up: quiescent, the server's last fragment number is 1 -/
def exW1 : W := runPrompt 0 40 (step exW (.offerC (demoFrame 9 30)))

theorem ex_quiescent1 : Quiescent exP exW1 ∧ (Server.getUser exW1.srv exP.u).tunIp = (Server.getUser exW.srv exP.u).tunIp ∧
    exW1.tunS = [demoFrame 9 30] ∧ exW1.tunC = [] := by
  have ha := ex_acceptable.1
  obtain ⟨w', h1, h2, h3, h4, h5, _⟩ := C02L.up_packet_imm exP_ok ex_quiescent (demoFrame 9 30) ha.h24 ha.hl ha.bytes ha.dst ha.frags
  have hrun : exW1 = w' := C02L.runPrompt_of_steps 0 _ _ _ h1 h2.quiet 40 (by have := ha.frags; omega)
  rw [hrun]
  have ht : exW.tunS = [] ∧ exW.tunC = [] := by decide +kernel
  exact ⟨h2, h5, by rw [h3, ht.1]; decide, by rw [h4, ht.2]⟩

/-- after that packet the server's last fragment number is 1, and both 60 s limits leave room for 16 more seconds (what
`QuietMD.up_packet` tells of the state after a packet) -/
theorem ex_eval1 : 1 ≤ (Server.getUser exW1.srv exP.u).inpacket.fragment ∧
    ¬ exW1.cs.c.lastdownstreamtime + 60 < exW1.cs.c.now + 4 * 4 ∧
    exW1.srv.now + 4 * 4 < (Server.getUser exW1.srv exP.u).lastPkt + 60 := by
  have ha := ex_acceptable.1
  obtain ⟨w', h1, h2, -, hfrag, hc⟩ :=
    (C02L.quietMD_imm.2 (C02L.quietImmDS_zero.2 ex_quiescent)).up_packet exP_ok
      (show C02L.Mode.Ok (.imm 1 1) from ⟨by omega, by omega⟩) (Nat.zero_le 3) (demoFrame 9 30) ha.h24 ha.hl ha.bytes ha.dst ha.frags
  have hrun : exW1 = w' :=
    C02L.runPrompt_of_steps 0 _ _ _ h1 (C02L.quietImmDS_zero.1 (C02L.quietMD_imm.1 h2)).quiet 40 (by have := ha.frags; omega)
  have h2f : 2 ≤ C02L.upFrags exP ((demoFrame 9 30).length + 1) (0x5a :: demoFrame 9 30) := by decide +kernel
  have hlast := hc.last
  have hldt := hc.ldt
  rw [hrun]
  omega

theorem ex_frag1 : 1 ≤ (Server.getUser exW1.srv exP.u).inpacket.fragment := ex_eval1.1

attribute [irreducible] exW1

/-! `shiftUp` touches the client's sequence number only.  (Stated for every state: comparing `(shiftUp exW1 d).srv` with
`exW1.srv` by unfolding would make the kernel run `exW1`.) -/

theorem shiftUp_srv (w : W) (d : Nat) : (C02L.shiftUp w d).srv = w.srv := rfl

theorem shiftUp_tunS (w : W) (d : Nat) : (C02L.shiftUp w d).tunS = w.tunS := rfl

theorem ex_desync (d : Nat) : QuiescentDesync exP d 0 (C02L.shiftUp exW1 d) := by
  -- for every quiescent world, so that the concrete run `exW1` is never unfolded
  have key : ∀ {w : W}, Quiescent exP w → QuiescentDesync exP d 0 (C02L.shiftUp w d) := by
    intro w h
    have hc := h.cst
    have h3 := hc.iseq
    refine ⟨h.ph, ⟨hc.running, hc.conn, hc.imm, hc.uid, hc.uch, hc.td, hc.L, hc.enc, hc.ty, hc.cid, hc.cmc, hc.alive, ?_, hc.iseq,
      hc.ifrag, hc.seed⟩, h.idleC, h.up, h.down, h.srv, h.idle, h.oq, ?_, ?_, h.aged, h.paged⟩
    · exact ⟨Int.emod_nonneg _ (by decide), Int.emod_lt_of_pos _ (by decide)⟩
    · show (w.cs.c.outpkt.seqno + d) % 8 = _
      rw [← h.syncu]; rfl
    · exact h.syncd.trans (C02L.seqno_add_zero h3).symm
  exact key ex_quiescent1.1

theorem ex_up_frames : ∀ f ∈ [demoFrame 9 4, demoFrame 9 5, demoFrame 9 6, demoFrame 9 7, demoFrame 9 30],
    AcceptableUp exP (Server.getUser exW.srv exP.u).tunIp f := by
  intro f hf
  simp only [List.mem_cons, List.not_mem_nil, or_false] at hf
  rcases hf with rfl | rfl | rfl | rfl | rfl <;>
    exact ⟨by decide, by decide, by unfold Codec.Bytes; decide, by decide +kernel, by decide +kernel⟩

/-- The finding c02:seqno-window, machine-checked.
(i) By the theorems: on the demo session, with the client's upstream number 4 ahead of the server's (four packets given up
    in a row), of five NEW packets offered on the clean path the first four are never delivered, the fifth is; quiescent and
    in sync afterwards.
(ii) By kernel evaluation of the executable joined model (independent of the clean-path and recovery theorems; the
    evaluation goes through `Lemmas/WorldFast.lean`, `step_fast`): the run "k packets offered while
    every upstream datagram is lost, then clean path" from `exW` loses the next 4 packets for `k = 4`, 3 for `k = 5`, 1 for
    `k = 7`, none for `k = 3` and `k = 8` (`fA i`, `fB i`: the demo frames of `Lemmas/C02qB4.lean`, `giveupRunUp`: offer, nine
    blackout events, repeat). -/
theorem desync_drops_new_packets :
    (QuiescentDesync exP 4 0 (C02L.shiftUp exW1 4) ∧
      (offerAllC 0 40 (C02L.shiftUp exW1 4) [demoFrame 9 4, demoFrame 9 5, demoFrame 9 6, demoFrame 9 7, demoFrame 9 30]).tunS =
        exW1.tunS ++ [demoFrame 9 30] ∧
      Quiescent exP (offerAllC 0 40 (C02L.shiftUp exW1 4) [demoFrame 9 4, demoFrame 9 5, demoFrame 9 6, demoFrame 9 7, demoFrame 9 30])) ∧
    ((offerAllC 0 80 (C02L.giveupRunUp [C02L.fA 0, C02L.fA 1, C02L.fA 2, C02L.fA 3] exW)
        [C02L.fB 0, C02L.fB 1, C02L.fB 2, C02L.fB 3, C02L.fB 4]).tunS = [C02L.fB 4] ∧
     (offerAllC 0 80 (C02L.giveupRunUp [C02L.fA 0, C02L.fA 1, C02L.fA 2, C02L.fA 3, C02L.fA 4] exW)
        [C02L.fB 0, C02L.fB 1, C02L.fB 2, C02L.fB 3]).tunS = [C02L.fB 3]) := by
  have hip : (Server.getUser (C02L.shiftUp exW1 4).srv exP.u).tunIp = (Server.getUser exW.srv exP.u).tunIp := by
    rw [shiftUp_srv]; exact ex_quiescent1.2.1
  have hrec := recovery_after_giveups exP_ok 40 (by omega)
    [demoFrame 9 4, demoFrame 9 5, demoFrame 9 6, demoFrame 9 7, demoFrame 9 30] 4 (C02L.shiftUp exW1 4) (ex_desync 4) (by omega)
    (Or.inr (by rw [shiftUp_srv]; exact ex_frag1)) (by intro f hf; rw [hip]; exact ex_up_frames f hf)
  have hl4 : C02L.lostUp 4 = 4 := by decide
  have hi : C02L.tunImage (demoFrame 9 30) = demoFrame 9 30 := by decide
  refine ⟨⟨ex_desync 4, ?_, ?_⟩, C02L.compose_k4', C02L.compose_k5'⟩
  · have h1 := hrec.1
    rw [hl4, shiftUp_tunS] at h1
    exact h1.trans (by show exW1.tunS ++ [C02L.tunImage (demoFrame 9 30)] = _; rw [hi])
  · exact hrec.2.2 (by rw [hl4]; decide)

/-- non-vacuity of `desync_up_dropped`: desynchronised by 5 the one-fragment frame is lost after exactly 14 steps and the
state is desynchronised by 6 -/
example : ∃ w', C02L.promptSteps 0 14 (step (C02L.shiftUp exW1 5) (.offerC (demoFrame 9 4))) = some w' ∧
    QuiescentDesync exP 6 0 w' ∧ w'.tunS = exW1.tunS := by
  obtain ⟨w', h1, h2, h3, _⟩ := desync_up_dropped exP_ok (ex_desync 5) (Or.inl ⟨by omega, by omega⟩) (demoFrame 9 4)
    (by decide) (by decide) (by unfold Codec.Bytes; decide)
  exact ⟨w', h1, h2, h3.trans (shiftUp_tunS _ _)⟩

/-- non-vacuity of the downstream and lazy statements: `C02L.quietImmD_desyncC`, `C02L.QuietLazy.desync` produce a
desynchronised state from every quiescent one; applied examples in `Lemmas/C02qD5.lean`, `C02qD9.lean`, `C02qM1.lean`,
`C02qM8.lean`; of the give-up run: `C02L.bkW4_quiet`; of the overlap theorems: `Lemmas/C02qO9.lean` -/
example : QuiescentDesync exP 0 4 (C02L.exD 4) ∧ Roomy exP (C02L.exD 4) :=
  ⟨C02L.desync_drops_new_packets_down_imm.1, C02L.desync_drops_new_packets_down_imm.2.1⟩

end Iodine.C02
