import IodineModel.Codec.Inst
import IodineModel.Lemmas.Codec
/-
C07 — Base32/64/64u/128 codecs are lossless, alphabet-pure and capacity-exact.

The property statements, and helpers about the tables (`wf_of_tableOk`, `chars_in_table`; `doc_plain`, `tables_byte`:
what the documented ranges imply for every table entry); the other helper lemmas are in Lemmas/Codec.lean.  The theorems are
proved for every codec instance satisfying `WF`, and `WF` is established for the four
instances from kernel evaluation over the tables (`table_ok_b*`, `rev_b32`) that are regenerated from /repo/src on every
run — so a changed table re-opens these obligations.
-/
namespace Iodine.C07
open Iodine Iodine.Codec

/-! ### The documented alphabets (doc/proto_00000502.txt), written as ranges -/
def lower (c : Nat) : Prop := 97 ≤ c ∧ c ≤ 122
def upper (c : Nat) : Prop := 65 ≤ c ∧ c ≤ 90
def digit (c : Nat) : Prop := 48 ≤ c ∧ c ≤ 57
/-- Base32: a-z0-5 -/
def Doc32 (c : Nat) : Prop := lower c ∨ (48 ≤ c ∧ c ≤ 53)
/-- Base64: a-zA-Z0-9-+ -/
def Doc64 (c : Nat) : Prop := lower c ∨ upper c ∨ digit c ∨ c = 45 ∨ c = 43
/-- Base64u: a-zA-Z0-9-_ -/
def Doc64u (c : Nat) : Prop := lower c ∨ upper c ∨ digit c ∨ c = 45 ∨ c = 95
/-- Base128: a-zA-Z0-9 and bytes 0xBC-0xFD -/
def Doc128 (c : Nat) : Prop := lower c ∨ upper c ∨ digit c ∨ (188 ≤ c ∧ c ≤ 253)

instance : DecidablePred lower := fun c => by unfold lower; infer_instance
instance : DecidablePred upper := fun c => by unfold upper; infer_instance
instance : DecidablePred digit := fun c => by unfold digit; infer_instance
instance : DecidablePred Doc32 := fun c => by unfold Doc32; infer_instance
instance : DecidablePred Doc64 := fun c => by unfold Doc64; infer_instance
instance : DecidablePred Doc64u := fun c => by unfold Doc64u; infer_instance
instance : DecidablePred Doc128 := fun c => by unfold Doc128; infer_instance

/-! ### Obligations on the generated tables -/

/-- table size, injectivity, documented alphabet, no NUL -/
def TableOk (c : Codec) (Doc : Nat → Prop) : Prop :=
  c.tbl.length = 2 ^ c.k ∧ c.tbl.Nodup ∧ ∀ ch ∈ c.tbl, Doc ch ∧ ch ≠ 0

theorem table_ok_b32 : TableOk b32 Doc32 := by unfold TableOk; decide +kernel
theorem table_ok_b64 : TableOk b64 Doc64 := by unfold TableOk; decide +kernel
theorem table_ok_b64u : TableOk b64u Doc64u := by unfold TableOk; decide +kernel
theorem table_ok_b128 : TableOk b128 Doc128 := by unfold TableOk; decide +kernel

/-- Base32's reverse table holds both cases of a letter (`base32_reverse_init` writes them): checked on the table -/
theorem rev_b32 : ∀ i, i < 2 ^ 5 → b32.rev (lookup b32 i) = i ∧ lookup b32 i ≠ 0 := by decide +kernel

theorem wf_b32 : WF b32 :=
  ⟨Or.inl rfl, table_ok_b32.1, fun i h => (rev_b32 i h).1, fun i h => (rev_b32 i h).2⟩

/-- the other `*_reverse_init` write each character once, which inverts any table without repetitions -/
theorem wf_of_tableOk {c : Codec} {Doc : Nat → Prop} (hk : c.k = 5 ∨ c.k = 6 ∨ c.k = 7) (h : TableOk c Doc)
    (hrev : c.rev = mkRev (revWrites c.tbl)) : WF c := by
  have hl : ∀ i (hi : i < c.tbl.length), lookup c i = c.tbl[i] := fun i hi => by
    rw [lookup, List.getD_eq_getElem?_getD, List.getElem?_eq_getElem hi, Option.getD_some]
  refine ⟨hk, h.1, fun i hi => ?_, fun i hi => ?_⟩ <;> rw [← h.1] at hi <;> rw [hl i hi]
  · rw [hrev]; exact mkRev_revWrites h.2.1 hi
  · exact (h.2.2 _ (List.getElem_mem hi)).2

theorem wf_b64 : WF b64 := wf_of_tableOk (.inr (.inl rfl)) table_ok_b64 rfl
theorem wf_b64u : WF b64u := wf_of_tableOk (.inr (.inl rfl)) table_ok_b64u rfl
theorem wf_b128 : WF b128 := wf_of_tableOk (.inr (.inr rfl)) table_ok_b128 rfl

/-- the documented alphabets contain no '.', and only bytes -/
theorem doc_plain {c : Nat} (h : Doc32 c ∨ Doc64 c ∨ Doc64u c ∨ Doc128 c) : c ≠ 46 ∧ c < 256 := by
  unfold Doc32 Doc64 Doc64u Doc128 lower upper digit at h
  omega

/-- … hence the four tables hold bytes -/
theorem tables_byte : (∀ ch ∈ b32.tbl, ch < 256) ∧ (∀ ch ∈ b64.tbl, ch < 256) ∧
    (∀ ch ∈ b64u.tbl, ch < 256) ∧ (∀ ch ∈ b128.tbl, ch < 256) :=
  ⟨fun ch h => (doc_plain (.inl (table_ok_b32.2.2 ch h).1)).2,
   fun ch h => (doc_plain (.inr (.inl (table_ok_b64.2.2 ch h).1))).2,
   fun ch h => (doc_plain (.inr (.inr (.inl (table_ok_b64u.2.2 ch h).1)))).2,
   fun ch h => (doc_plain (.inr (.inr (.inr (table_ok_b128.2.2 ch h).1)))).2⟩

/-! ### The property, for every well-formed instance, every byte string, every capacity -/

/-- Decoding the encoding returns exactly the input (any decoder capacity that holds it). -/
theorem roundtrip {c : Codec} (wf : WF c) (d : List Nat) (hd : Bytes d) (cap : Nat) (hcap : d.length ≤ cap) :
    dec c cap (encFull c d).length (encFull c d) = d := by
  unfold dec
  rw [cstr_of_nonzero _ (encFull_nonzero wf d), decAll_encFull wf d hd]
  exact List.take_of_length_le hcap

/-- The documented length ratio: n bytes give exactly ⌈8n/k⌉ characters. -/
theorem length_exact (c : Codec) (d : List Nat) :
    (encFull c d).length = (8 * d.length + c.k - 1) / c.k := encFull_length c d

/-- Every emitted character belongs to the table — for every capacity. -/
theorem chars_in_table {c : Codec} (wf : WF c) (cap : Nat) (d : List Nat) :
    ∀ ch ∈ (enc c cap d).chars, ch ∈ c.tbl := by
  intro ch hch
  unfold enc at hch
  simp only [] at hch
  split at hch
  · exact encFull_mem_tbl wf d ch hch
  · exact encFull_mem_tbl wf d ch (List.mem_of_mem_take hch)

/-- Alphabet purity against the *documented* alphabets. -/
theorem alphabet_pure_b32 (cap : Nat) (d : List Nat) : ∀ ch ∈ (enc b32 cap d).chars, Doc32 ch :=
  fun ch h => (table_ok_b32.2.2 ch (chars_in_table wf_b32 cap d ch h)).1
theorem alphabet_pure_b64 (cap : Nat) (d : List Nat) : ∀ ch ∈ (enc b64 cap d).chars, Doc64 ch :=
  fun ch h => (table_ok_b64.2.2 ch (chars_in_table wf_b64 cap d ch h)).1
theorem alphabet_pure_b64u (cap : Nat) (d : List Nat) : ∀ ch ∈ (enc b64u cap d).chars, Doc64u ch :=
  fun ch h => (table_ok_b64u.2.2 ch (chars_in_table wf_b64u cap d ch h)).1
theorem alphabet_pure_b128 (cap : Nat) (d : List Nat) : ∀ ch ∈ (enc b128 cap d).chars, Doc128 ch :=
  fun ch h => (table_ok_b128.2.2 ch (chars_in_table wf_b128 cap d ch h)).1

/-- What a capped encoder call promises. -/
structure Contract (c : Codec) (cap : Nat) (d : List Nat) (r : EncResult) : Prop where
  /-- never more characters than the capacity … -/
  len_le : r.chars.length ≤ cap
  /-- … and nothing written beyond index `cap` (dropped character and NUL included) -/
  written_le : r.written ≤ cap + 1
  used_le : r.used ≤ d.length
  /-- the emitted text decodes to exactly the reported number of input bytes -/
  decodes : ∀ N, r.used ≤ N → dec c N r.chars.length r.chars = d.take r.used
  /-- nothing that fits is withheld: one more byte would need more than `cap` characters -/
  maximal : r.used = d.length ∨ cap < nchars c.k (r.used + 1)
  /-- the length ratio holds for the consumed part -/
  ratio : r.chars.length = nchars c.k r.used
  /-- a capped encoding is a prefix of the full one -/
  pref : r.chars = (encFull c d).take r.chars.length

theorem capacity_contract {c : Codec} (wf : WF c) (cap : Nat) (d : List Nat) (hd : Bytes d) :
    Contract c cap d (enc c cap d) := by
  have hk := wf.k_ok
  have hfull := encFull_length c d
  unfold enc
  simp only []
  split
  · rename_i hm
    refine ⟨?_, ?_, ?_, ?_, ?_, ?_, ?_⟩ <;> dsimp only
    · rw [hfull]; exact hm
    · omega
    · exact Nat.le_refl _
    · intro N hN
      rw [List.take_of_length_le (Nat.le_refl _)]
      exact roundtrip wf d hd N hN
    · exact Or.inl rfl
    · exact hfull
    · rw [List.take_of_length_le (Nat.le_refl _)]
  · rename_i hm
    generalize hj : (if c.k * (cap - 1) / 8 < c.k * cap / 8 then cap else cap - 1) = j
    obtain ⟨hjcap, hmax, hratio⟩ := backoff hk cap j hj
    have hjm : j ≤ nchars c.k d.length := by omega
    have hlen : ((encFull c d).take j).length = j := by
      rw [List.length_take, hfull]; omega
    refine ⟨?_, ?_, ?_, ?_, ?_, ?_, ?_⟩ <;> dsimp only
    · rw [hlen]; exact hjcap
    · omega
    · exact bytes_le hk hjm
    · intro N hN
      unfold dec
      rw [cstr_of_nonzero _ (fun ch h => encFull_nonzero wf d ch (List.mem_of_mem_take h))]
      rw [decAll_encFull_take wf d hd j hjm]
      rw [List.take_take]; congr 1; omega
    · exact Or.inr hmax
    · rw [hlen]; exact hratio
    · rw [hlen]

/-- With room for two characters the encoder always consumes at least one byte, so a sender
that hands the rest of its data to successive calls terminates. -/
theorem progress {c : Codec} (wf : WF c) (cap : Nat) (d : List Nat) (hcap : 2 ≤ cap) (hd : d ≠ []) :
    1 ≤ (enc c cap d).used := by
  have hk := wf.k_ok
  have hpos : 0 < d.length := List.length_pos_iff.mpr hd
  unfold enc
  simp only []
  split
  · exact hpos
  · simp only []
    rcases hk with h | h | h <;> rw [h] <;> split <;> omega

/-- Successive chunks lose and repeat nothing: decoding the chunks in order and appending what
was not yet encoded gives back the input, for every list of capacities. -/
theorem chunks_lossless {c : Codec} (wf : WF c) (caps : List Nat) (d : List Nat) (hd : Bytes d)
    (N : Nat) (hN : d.length ≤ N) :
    ((encChunks c caps d).1.flatMap (fun s => dec c N s.length s)) ++ (encChunks c caps d).2 = d := by
  induction caps generalizing d with
  | nil => simp [encChunks]
  | cons cap caps ih =>
    have hc := capacity_contract wf cap d hd
    have hd' : Bytes (d.drop (enc c cap d).used) := fun b hb => hd b (List.mem_of_mem_drop hb)
    have ih' := ih (d.drop (enc c cap d).used) hd' (by simp; omega)
    simp only [encChunks, List.flatMap_cons, List.append_assoc]
    rw [hc.decodes N (Nat.le_trans hc.used_le hN), ih', List.take_append_drop]

/-! ### Non-vacuity: concrete instances of the hypotheses and of the interesting branches -/

example : Bytes [104, 101, 108, 108, 111, 255, 0] := by unfold Bytes; decide
/-- a capped call that backs off: 3 characters of room, 2 kept, 1 byte consumed -/
example : enc b32 3 [104, 101, 108, 108, 111] = ⟨[110, 98], 1, 3⟩ := by decide +kernel
example : (encChunks b64 [4, 3, 100] [255, 254, 253, 252, 251]).1.length = 3 := by decide +kernel

end Iodine.C07
