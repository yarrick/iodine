import IodineModel.Users
import IodineModel.Lemmas.Users
/-
C18 — tunnel address pool of iodined (user.c: init_users / find_user_by_ip / find_available_user).

For every server tunnel address and netmask /8../30 the server creates min(USERS, subnet size - 3)
sessions, each with a distinct host address inside the server's subnet that is neither the
server's own address nor the network or broadcast address; looking up a tunnel address finds
exactly the live logged-in session that owns it; a session heard from within the last 60 s is
never handed out again.

The property statements and their specification vocabulary (helper lemmas: Lemmas/Users.lean).  The specification side
(`mask`, `net`, `bcast`, `LiveLoggedIn`, `Owns`, `Reusable`) is ordinary integer arithmetic on
host-order addresses and does not mention the model's byte-order-aware `addLastOctet`, the
bitwise mask or the loop.
-/
namespace Iodine.C18
open Iodine Iodine.Users

/-! ### Specification vocabulary (host-order addresses, plain arithmetic) -/

/-- the /n netmask -/
def mask (n : Nat) : Nat := 2 ^ 32 - 2 ^ (32 - n)
/-- network address of `a` in its /n subnet -/
def net (a n : Nat) : Nat := a - a % 2 ^ (32 - n)
/-- broadcast address of `a`'s /n subnet -/
def bcast (a n : Nat) : Nat := net a n + 2 ^ (32 - n) - 1

/-- the session in this slot is live and logged in at time `now` -/
def LiveLoggedIn (s : Slot) (now : Nat) : Prop :=
  s.active = true ∧ s.authenticated = true ∧ s.disabled = false ∧ now < s.lastPkt + 60
/-- the slot is a live logged-in session with tunnel address `ip` -/
def Owns (s : Slot) (now ip : Nat) : Prop := LiveLoggedIn s now ∧ s.tunIp = ip
/-- the slot may be handed to a new client: never used or silent for more than 60 s, not disabled -/
def Reusable (s : Slot) (now : Nat) : Prop :=
  (s.active = false ∨ s.lastPkt + 60 < now) ∧ s.disabled = false

/-! ### Mask and network address as computed by the C -/

/-- the shift loop of `init_users` computes the /n netmask -/
theorem netmask_is_mask (n : Nat) (h8 : 8 ≤ n) (h30 : n ≤ 30) : netmask n = mask n :=
  netmask_eq n (by omega)

example : netmask 27 = 0xFFFFFFE0 ∧ mask 27 = 0xFFFFFFE0 := by decide +kernel

/-- `my_ip & netmask` is the network address -/
theorem ipstart_is_net (my n : Nat) (h8 : 8 ≤ n) (h30 : n ≤ 30) (hmy : my < 2 ^ 32) :
    my &&& netmask n = net my n := by
  rw [netmask_eq n (by omega)]; exact and_mask my n (by omega) hmy

-- 192.168.37.201/20 -> 192.168.32.0
example : 3232245193 &&& netmask 20 = 3232243712 ∧ net 3232245193 20 = 3232243712 := by
  decide +kernel

/-! ### The pool -/

/-- the number of sessions is min(USERS, subnet size - 3) -/
theorem pool_size (my n : Nat) (h8 : 8 ≤ n) (h30 : n ≤ 30) (hmy : my < 2 ^ 32) :
    (initUsers my n).length = min Gen.USERS (2 ^ (32 - n) - 3) := by
  rw [(initUsers_spec my n h8 h30 hmy).1, Nat.min_comm]

-- 10.0.0.1/27: 16 users (limited by USERS); 10.0.0.1/29: 5 users; 10.0.0.1/30: 1 user
example : (initUsers 167772161 27).length = 16 ∧ (initUsers 167772161 29).length = 5 ∧
    (initUsers 167772161 30).length = 1 := by decide +kernel

/-- The last-octet-only addition the C performs on the byte-swapped address never wraps for the
offsets the loop can use: for every `k ≤ usercount + 1` the last octet of the network address
plus `k` stays below 256, so `addLastOctet` coincides with ordinary addition. -/
theorem no_carry_offsets (my n : Nat) (h8 : 8 ≤ n) (h30 : n ≤ 30) (k : Nat)
    (hk : k ≤ min Gen.USERS (2 ^ (32 - n) - 3) + 1) :
    net my n % 256 + k < 256 ∧ addLastOctet (net my n) k = net my n + k := by
  have hr : net my n % 256 + k < 256 :=
    lastOctet_room my (2 ^ (32 - n)) k Gen.USERS (subnetSize_pow n h8 h30) users_small (by omega)
  exact ⟨hr, addLastOctet_eq _ _ hr⟩

/-- ... and therefore every assigned address is `network address + j` (ordinary addition) for
some `1 ≤ j ≤ usercount + 1`, the byte-swapped addition agreeing with it. -/
theorem no_carry (my n : Nat) (h8 : 8 ≤ n) (h30 : n ≤ 30) (hmy : my < 2 ^ 32) :
    ∀ ip ∈ initUsers my n, ∃ j, 1 ≤ j ∧ j ≤ min Gen.USERS (2 ^ (32 - n) - 3) + 1 ∧
      ip = net my n + j ∧ addLastOctet (net my n) j = net my n + j := by
  intro ip hip
  obtain ⟨j, h1, h2, h3, _⟩ := (initUsers_spec my n h8 h30 hmy).2.1 ip hip
  exact ⟨j, h1, by omega, h3, (no_carry_offsets my n h8 h30 j (by omega)).2⟩

-- the distinction is real: outside the pool's offsets the C addition does wrap
-- (10.0.0.250 "+ 0.0.0.10" = 10.0.0.4, not 10.0.1.4)
example : addLastOctet 167772410 10 = 167772164 ∧ 167772410 + 10 = 167772420 := by decide +kernel
-- a pool that sits at the very top of the last octet: 192.168.255.253/30 -> [192.168.255.254]
example : initUsers 3232301053 30 = [3232301054] := by decide +kernel
-- 10.1.2.200/25, host part inside the last octet, network address 10.1.2.128
example : initUsers 167838408 25 = (List.range 16).map (· + 167838337) := by decide +kernel

/-- every assigned address lies in the server's subnet (and is a 32-bit address) -/
theorem pool_in_subnet (my n : Nat) (h8 : 8 ≤ n) (h30 : n ≤ 30) (hmy : my < 2 ^ 32) :
    ∀ ip ∈ initUsers my n, net ip n = net my n ∧ ip < 2 ^ 32 := by
  intro ip hip
  obtain ⟨j, h1, h2, h3, _⟩ := (initUsers_spec my n h8 h30 hmy).2.1 ip hip
  have := subnet_arith my (2 ^ (32 - n)) j Gen.USERS (subnetSize_pow n h8 h30) hmy h1 h2
  subst h3
  exact ⟨this.1, this.2.1⟩

/-- no assigned address is the server's own, the network or the broadcast address -/
theorem pool_excludes (my n : Nat) (h8 : 8 ≤ n) (h30 : n ≤ 30) (hmy : my < 2 ^ 32) :
    ∀ ip ∈ initUsers my n, ip ≠ my ∧ ip ≠ net my n ∧ ip ≠ bcast my n := by
  intro ip hip
  obtain ⟨j, h1, h2, h3, h4⟩ := (initUsers_spec my n h8 h30 hmy).2.1 ip hip
  have := subnet_arith my (2 ^ (32 - n)) j Gen.USERS (subnetSize_pow n h8 h30) hmy h1 h2
  refine ⟨h4, ?_, ?_⟩
  · rw [h3]; exact this.2.2.1
  · rw [h3]; exact this.2.2.2

/-- the assigned addresses are strictly increasing in slot order -/
theorem pool_sorted (my n : Nat) (h8 : 8 ≤ n) (h30 : n ≤ 30) (hmy : my < 2 ^ 32) :
    (initUsers my n).Pairwise (· < ·) :=
  (initUsers_spec my n h8 h30 hmy).2.2

/-- the assigned addresses are pairwise distinct -/
theorem pool_distinct (my n : Nat) (h8 : 8 ≤ n) (h30 : n ≤ 30) (hmy : my < 2 ^ 32) :
    (initUsers my n).Nodup :=
  List.nodup_iff_pairwise_ne.2
    ((pool_sorted my n h8 h30 hmy).imp (fun h => Nat.ne_of_lt h))

-- 10.0.0.1/27 (the default netmask): 10.0.0.2 .. 10.0.0.17
example : initUsers 167772161 27 = (List.range 16).map (· + 167772162) := by decide +kernel
-- server in the middle of the pool (10.0.0.8/27): 10.0.0.1..7, 10.0.0.9..17 — the skip branch
example : initUsers 167772168 27 =
    [167772161, 167772162, 167772163, 167772164, 167772165, 167772166, 167772167,
     167772169, 167772170, 167772171, 167772172, 167772173, 167772174, 167772175,
     167772176, 167772177] := by decide +kernel
-- server just behind the pool (10.0.0.17/27): skip on the last iteration never happens,
-- 10.0.0.1 .. 10.0.0.16
example : initUsers 167772177 27 = (List.range 16).map (· + 167772161) := by decide +kernel
-- /30: one user; server .1 -> user .2, server .2 -> user .1
example : initUsers 167772161 30 = [167772162] ∧ initUsers 167772162 30 = [167772161] := by
  decide +kernel
-- /29 with the server on the last usable address 10.0.0.6: users .1 .. .5
example : initUsers 167772166 29 = [167772161, 167772162, 167772163, 167772164, 167772165] := by
  decide +kernel
-- /8 and /16
example : initUsers 167772161 8 = (List.range 16).map (· + 167772162) ∧
    initUsers 2886729729 16 = (List.range 16).map (· + 2886729730) := by decide +kernel

/-! ### Lookup by tunnel address -/

/-- `find_user_by_ip` returns `u` iff slot `u` is the first live logged-in session owning `ip` -/
theorem lookup_exact (slots : List Slot) (now ip u : Nat) :
    findUserByIp slots now ip = some u ↔
      ∃ h : u < slots.length, Owns slots[u] now ip ∧
        ∀ j (hj : j < u), ¬ Owns slots[j] now ip := by
  unfold findUserByIp
  rw [findUserByIpFrom_some]
  simp only [Owns, LiveLoggedIn, and_assoc]
  constructor
  · rintro ⟨k, hk, hlt, hp, hmin⟩
    obtain rfl : u = k := by omega
    exact ⟨hlt, hp, hmin⟩
  · rintro ⟨hlt, hp, hmin⟩
    exact ⟨u, by omega, hlt, hp, hmin⟩

/-- with pairwise distinct tunnel addresses (as `init_users` guarantees, `pool_distinct`) the
lookup finds exactly the live logged-in owner of the address -/
theorem lookup_unique_owner (slots : List Slot) (now ip u : Nat)
    (hd : (slots.map (·.tunIp)).Nodup) :
    findUserByIp slots now ip = some u ↔ ∃ h : u < slots.length, Owns slots[u] now ip := by
  rw [lookup_exact]
  constructor
  · rintro ⟨h, ho, _⟩; exact ⟨h, ho⟩
  · rintro ⟨h, ho⟩
    refine ⟨h, ho, ?_⟩
    intro j hj hoj
    have e : (slots.map (·.tunIp))[j]'(by simp; omega) = (slots.map (·.tunIp))[u]'(by simpa using h) := by
      simp only [List.getElem_map]; rw [hoj.2, ho.2]
    have := (List.getElem_inj hd).1 e
    omega

/-- the same for a slot table set up by `init_users` -/
theorem lookup_unique_owner_pool (my n : Nat) (h8 : 8 ≤ n) (h30 : n ≤ 30) (hmy : my < 2 ^ 32)
    (slots : List Slot) (hs : slots.map (·.tunIp) = initUsers my n) (now ip u : Nat) :
    findUserByIp slots now ip = some u ↔ ∃ h : u < slots.length, Owns slots[u] now ip :=
  lookup_unique_owner slots now ip u (hs ▸ pool_distinct my n h8 h30 hmy)

-- three slots on 10.0.0.2..4: slot 0 timed out, slot 1 live and logged in, slot 2 active but not
-- logged in.  10.0.0.3 is found in slot 1; the others are not found.
example :
    let slots : List Slot :=
      [⟨167772162, true, true, false, 100⟩, ⟨167772163, true, true, false, 150⟩,
       ⟨167772164, true, false, false, 190⟩]
    findUserByIp slots 200 167772163 = some 1 ∧ findUserByIp slots 200 167772162 = none ∧
    findUserByIp slots 200 167772164 = none ∧ findUserByIp slots 209 167772163 = some 1 ∧
    findUserByIp slots 210 167772163 = none := by decide +kernel

/-! ### Handing out a slot -/

/-- `find_available_user` returning `u` means: slot `u` was reusable (never used, or silent for
more than 60 s; not disabled), no earlier slot was, and the only change to the table is that
slot `u` is claimed (active, not authenticated, `last_pkt = now`; its tunnel address is kept). -/
theorem available_never_live (slots slots' : List Slot) (now u : Nat)
    (h : findAvailableUser slots now = (some u, slots')) :
    ∃ hu : u < slots.length, Reusable slots[u] now ∧
      (∀ j (hj : j < u), ¬ Reusable slots[j] now) ∧
      slots' = slots.set u (slots[u].claim now) := by
  obtain ⟨k, hk, hlt, hp, hmin, hset⟩ := findAvailableFrom_some now slots 0 u slots' h
  obtain rfl : u = k := by omega
  exact ⟨hlt, hp, hmin, hset⟩

/-- a session that was active within the last 60 s is never taken over -/
theorem active_recent_not_taken (slots slots' : List Slot) (now u : Nat) (hu : u < slots.length)
    (hact : slots[u].active = true) (hrecent : now ≤ slots[u].lastPkt + 60) :
    findAvailableUser slots now ≠ (some u, slots') := by
  intro h
  obtain ⟨_, hr, _, _⟩ := available_never_live slots slots' now u h
  unfold Reusable at hr
  rcases hr.1 with h0 | h1
  · rw [hact] at h0; cases h0
  · omega

/-- in particular the owner found by `find_user_by_ip` is never handed to someone else -/
theorem owner_not_taken (slots slots' : List Slot) (now ip u : Nat)
    (hl : findUserByIp slots now ip = some u) :
    findAvailableUser slots now ≠ (some u, slots') := by
  obtain ⟨hu, ho, _⟩ := (lookup_exact slots now ip u).1 hl
  exact active_recent_not_taken slots slots' now u hu ho.1.1 (by have := ho.1.2.2.2; omega)

-- slot 0 live, slot 1 disabled, slot 2 silent for 61 s: slot 2 is taken over and reset
example :
    findAvailableUser
      [⟨167772162, true, true, false, 190⟩, ⟨167772163, false, false, true, 0⟩,
       ⟨167772164, true, true, false, 139⟩, ⟨167772165, false, false, false, 0⟩] 200 =
    (some 2,
      [⟨167772162, true, true, false, 190⟩, ⟨167772163, false, false, true, 0⟩,
       ⟨167772164, true, false, false, 200⟩, ⟨167772165, false, false, false, 0⟩]) := by
  decide +kernel
-- exactly 60 s of silence: not yet reusable (and, by `lookup_exact`, no longer found either)
example :
    (findAvailableUser [⟨167772162, true, true, false, 140⟩] 200).1 = none ∧
    findUserByIp [⟨167772162, true, true, false, 140⟩] 200 167772162 = none := by
  decide +kernel

end Iodine.C18
