import IodineModel.Bits
/-
Generic model of iodine's BaseN codecs (`base32.c`, `base64.c`, `base128.c`; `base64u.c` is
`base64.c` with another table).  All of them are the same bit-stream coder: the input bytes
are read most-significant-bit first, cut into groups of `k` bits (k = 5, 6, 7), the last
group padded with zero bits, and each group is mapped through a 2^k-entry table.

What the C encoders do when the output capacity is too small (the "previous char is
useless" back-off) is reproduced by `enc`; the decoders' three stop conditions
(capacity, `slen`, NUL) by `dec`.  The unrolled C loops are tied to these closed forms by
the correspondence check (see DESIGN.md §6 C07), which is *complete* for the per-character
expressions: each output character depends on at most two adjacent input bytes and the
position in the block, and all (position, byte, byte) triples are enumerated.
-/
namespace Iodine.Codec

structure Codec where
  /-- bits per encoded character -/
  k : Nat
  /-- the alphabet `cbN[]` (generated from the source) -/
  tbl : List Nat
  /-- the reverse table as `baseN_reverse_init` fills it -/
  rev : Nat → Nat

/-- `memset(rev, 0, 256)` followed by the writes `rev[c] = i` in program order:
the last write to a cell wins, untouched cells stay 0. -/
def mkRev (writes : List (Nat × Nat)) (c : Nat) : Nat :=
  match writes.reverse.find? (fun w => w.1 == c) with
  | some w => w.2
  | none => 0

/-- the writes of `for (i...) rev[tbl[i]] = i` -/
def revWrites (tbl : List Nat) : List (Nat × Nat) := tbl.zipIdx

def toBits (d : List Nat) : List Bool := d.flatMap (bitsBE 8)

/-- number of characters needed for `n` bytes: ⌈8n/k⌉ -/
def nchars (k n : Nat) : Nat := (8 * n + k - 1) / k

/-- the input bit stream padded with zero bits to a whole number of characters -/
def padded (k : Nat) (d : List Nat) : List Bool :=
  toBits d ++ List.replicate (k * nchars k d.length - 8 * d.length) false

/-- the k-bit group values of the full encoding -/
def encVals (k : Nat) (d : List Nat) : List Nat :=
  (chunksN k (nchars k d.length) (padded k d)).map ofBitsBE

def lookup (c : Codec) (v : Nat) : Nat := c.tbl.getD v 0

/-- encoding with unlimited capacity -/
def encFull (c : Codec) (d : List Nat) : List Nat := (encVals c.k d).map (lookup c)

structure EncResult where
  /-- characters left in the buffer before the terminating NUL (the return value counts them) -/
  chars : List Nat
  /-- what `*buflen` is set to: input bytes consumed -/
  used : Nat
  /-- highest buffer index written, plus one (includes the dropped character and the NUL) -/
  written : Nat
  deriving Repr, DecidableEq

/-- `baseN_encode(buf, &cap, d, |d|)`.  When `cap` characters are not enough the loop has
written `cap` characters; if the last of them does not complete an input byte it is dropped
("previous char is useless"). -/
def enc (c : Codec) (cap : Nat) (d : List Nat) : EncResult :=
  let m := nchars c.k d.length
  if m ≤ cap then ⟨encFull c d, d.length, m + 1⟩
  else
    let j := if c.k * (cap - 1) / 8 < c.k * cap / 8 then cap else cap - 1
    ⟨(encFull c d).take j, c.k * j / 8, max cap (j + 1)⟩

/-- the part of `str` the decoder looks at: at most `slen` characters, up to the first NUL -/
def cstr (slen : Nat) (s : List Nat) : List Nat := (s.take slen).takeWhile (fun ch => ch != 0)

def decBits (c : Codec) (s : List Nat) : List Bool := s.flatMap (fun ch => bitsBE c.k (c.rev ch))

/-- all whole bytes contained in the characters `s` -/
def decAll (c : Codec) (s : List Nat) : List Nat :=
  let b := decBits c s
  (chunksN 8 (b.length / 8) b).map ofBitsBE

/-- `baseN_decode(buf, &cap, str, slen)` -/
def dec (c : Codec) (cap slen : Nat) (s : List Nat) : List Nat := (decAll c (cstr slen s)).take cap

/-- Successive chunks, as the senders use the encoder: each call gets the rest of the data. -/
def encChunks (c : Codec) : List Nat → List Nat → List (List Nat) × List Nat
  | [], d => ([], d)
  | cap :: caps, d =>
    let r := enc c cap d
    let (cs, rest) := encChunks c caps (d.drop r.used)
    (r.chars :: cs, rest)

/-- Well-formedness of a codec instance; every clause is decidable on the generated tables. -/
structure WF (c : Codec) : Prop where
  k_ok : c.k = 5 ∨ c.k = 6 ∨ c.k = 7
  len : c.tbl.length = 2 ^ c.k
  rev_tbl : ∀ i, i < 2 ^ c.k → c.rev (lookup c i) = i
  nonzero : ∀ i, i < 2 ^ c.k → lookup c i ≠ 0

def Bytes (d : List Nat) : Prop := ∀ b ∈ d, b < 256

end Iodine.Codec
