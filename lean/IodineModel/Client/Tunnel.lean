import IodineModel.Client.State
import IodineModel.Encoding
import IodineModel.Wire.DnsEncode
import IodineModel.Wire.DnsDecode
/-
Model of the tunnel phase of the iodine client (/repo/src/client.c): one Lean function per C function, the exits
in the order of the C text.  Everything is a pure function `Cli → … → Cli × List CEvent` (plus, where a C function
can be left through the `select` of `handshake_waitdns`, a `Stop` saying so).

What is NOT here: `dns_decode`/`dns_namedec` of a received DNS answer (the model is fed what `read_dns_withq`
returned: `Rq`), and the bytes of the queries (the event is `query id type name`, the name as the repository's own
`dns_decode` reads it back from the datagram — for every legal host name that is the name itself).
Compression is the test scheme of the harness (`0x5a ++ bytes`).
-/
namespace Iodine.Client
open Iodine Iodine.Gen

def ascii (s : String) : List Nat := s.toList.map Char.toNat

/-- `b32_5to8(int in)` = `cb32[in & 31]` -/
def b32_5to8 (x : Int) : Nat := cb32.getD (maskI x 32) 0

/-- `(size_t) x` for an `int` x -/
def sizeT (x : Int) : Nat := (x % (2 ^ 64 : Int)).toNat

/-! ### build_hostname as the client calls it -/

/-- `build_hostname(buf, buflen, data, datalen, topdomain, enc, hostname_maxlen)`; `prev` = the byte in front of
`buf`.  `Encoding.buildHostname` covers the normal case; when `MIN((size_t)maxlen, buflen) - strlen(topdomain) - 8`
wraps around (`size_t`) the C code encodes with that huge bound, i.e. everything it is given. -/
def buildHostname (cd : Codec.Codec) (maxlen : Int) (buflen prev : Nat) (td d : List Nat) : Encoding.Built :=
  match Encoding.buildHostname cd (sizeT maxlen) buflen prev td d with
  | some b => b
  | none =>
    let space0 := (min (sizeT maxlen) buflen + 2 ^ 64 - td.length - 8) % 2 ^ 64
    let space := space0 - space0 / 57
    let r := Codec.enc cd space d
    let s := Encoding.dotify r.chars
    let last := s.getLast?.getD prev
    let s' := if last = Encoding.DOT then s else s ++ [Encoding.DOT]
    ⟨s' ++ td, r.used⟩

/-! ### send_query -/

/-- the head of `send_query`: `chunkid_prev2 = chunkid_prev; chunkid_prev = chunkid; chunkid += 7727;
if (chunkid == 0) chunkid = 7727;` (`uint16_t`) -/
def rotateChunkid (c : Cli) : Cli :=
  let id := (c.chunkid + 7727) % 65536
  { c with chunkidPrev2 := c.chunkidPrev, chunkidPrev := c.chunkid, chunkid := if id = 0 then 7727 else id }

/-- `dns_encode(packet, 4096, &q, QR_QUERY, hostname, strlen(hostname))` + `sendto`, seen through the repository's
`dns_decode(NULL, 0, &q, QR_QUERY, …)` (what the harness prints).  `none`: `len < 1`, "dns_encode doesn't fit",
nothing is sent. -/
def wireQuery (id ty : Nat) (edns : Bool) (host : List Nat) : Option CEvent :=
  match Wire.DnsEncode.dnsEncodeQuery 4096 id ty edns host with
  | .ok pkt =>
    if pkt.length < 1 then none
    else
      match Wire.dnsDecodeQuery { pkt := pkt.toArray } with
      | .ok d => some (.query d.id d.type d.name)
      | .error _ => some (.query 0 0 [])
  | .ret _ => none
  | .fault _ => none

/-- `send_query` up to and including the `sendto`; the `Bool` says that the function went on behind the
`if (len < 1) return;` -/
def sendQueryPlain (c : Cli) (host : List Nat) : Res × Bool :=
  let c := rotateChunkid c
  match wireQuery c.chunkid c.doQtype c.edns0 host with
  | none => ((c, []), false)
  | some ev => ((c, [ev]), true)

/-- `send_handshake_query(fd, prefix)`: prefix (at most 60 characters) + 3 CMC characters + '.' + topdomain
(`buf[300]`: at most 292 characters of it).  The `send_query` in it is reached from `handshake_lazyoff`,
where `lazymode == 0`, or from the handshake, where `send_query_sendcnt < 0` (Client/Handshake.lean): its "too few answers" block is dead, so it is `sendQueryPlain`
(`Lemmas/Client.lean`, `sendQuery_of_not_lazy`: `sendQuery c h = ⟨…sendQueryPlain c h…, false⟩` when `c.lazymode = false`). -/
def sendHandshakeQuery (c : Cli) (prefix_ : List Nat) : Res :=
  let cmc := [b32_5to8 ((c.randSeed / 1024 % 32 : Nat) : Int), b32_5to8 ((c.randSeed / 32 % 32 : Nat) : Int),
              b32_5to8 ((c.randSeed % 32 : Nat) : Int), 46]
  let c := { c with randSeed := (c.randSeed + 1) % 65536 }
  let buf := prefix_.take 60 ++ cmc
  (sendQueryPlain c (buf ++ c.topdomain.take (300 - buf.length - 1))).1

/-- `send_lazy_switch(fd)` -/
def sendLazySwitch (c : Cli) : Res :=
  sendHandshakeQuery c [111, b32_5to8 c.userid, if c.lazymode then 108 else 105]

/-- what a piece of C code that ends in `send_query` did: `parked` = the thread did not come back, it sits in the
`select` of `handshake_waitdns` (first iteration of `handshake_lazyoff`) -/
structure Sent where
  c : Cli
  evs : List CEvent
  parked : Bool
deriving DecidableEq, Repr

/-- head of one iteration of `for (i = 0; running && i < 5; i++)` in `handshake_lazyoff`: either
`send_lazy_switch` and on into `handshake_waitdns`'s `select` (`parked`), or the loop is over and
`handshake_lazyoff` returns (both `if (!running) return;` and the `warnx` path). -/
def lazyoffIter (c : Cli) (i : Nat) : Sent :=
  if c.running ∧ i < 5 then
    let r := sendLazySwitch c
    ⟨r.1, r.2, true⟩
  else ⟨c, [], false⟩

/-- the test `(send_query_sendcnt > 6 && send_query_recvcnt <= 0) ||
(send_query_sendcnt > 10 && 4 * send_query_recvcnt < send_query_sendcnt)` -/
def tooFewAnswers (c : Cli) : Bool :=
  (c.sendcnt > 6 && c.recvcnt == 0) || (c.sendcnt > 10 && decide (4 * (c.recvcnt : Int) < c.sendcnt))

/-- the block after `sendto` in `send_query` -/
def sendQueryCount (c : Cli) : Sent :=
  if 0 ≤ c.sendcnt ∧ c.sendcnt < 100 ∧ c.lazymode then
    let c := { c with sendcnt := c.sendcnt + 1 }
    if tooFewAnswers c then
      if c.selecttimeout > 1 then
        ⟨{ c with selecttimeout := 1, sendcnt := 0, recvcnt := 0 }, [], false⟩
      else
        -- `else if (lazymode)`: true here
        lazyoffIter { c with lazymode := false, selecttimeout := 1 } 0
    else ⟨c, [], false⟩
  else ⟨c, [], false⟩

/-- `send_query(fd, hostname)` -/
def sendQuery (c : Cli) (host : List Nat) : Sent :=
  let r := sendQueryPlain c host
  if r.2 then
    let s := sendQueryCount r.1.1
    ⟨s.c, r.1.2 ++ s.evs, s.parked⟩
  else ⟨r.1.1, r.1.2, false⟩

/-! ### the senders -/

/-- `send_raw(fd, buf, buflen, cmd)`: `packet[4096]`, so at most 4092 bytes of payload -/
def sendRaw (c : Cli) (buf : List Nat) (buflen cmd : Nat) : CEvent :=
  .rawtx (rawHeader.take 3 ++ [(cmd ||| maskI c.userid 16) % 256] ++ buf.take (min (4096 - RAW_HDR_LEN) buflen))

/-- `send_raw_data(dns_fd)` -/
def sendRawData (c : Cli) : Res :=
  ({ c with outpkt := { c.outpkt with len := 0 } }, [sendRaw c c.outpkt.data c.outpkt.len RAW_HDR_CMD_DATA])

/-- `send_packet(fd, cmd, data, datalen)`: always Base32, `buf[4096]` -/
def sendPacket (c : Cli) (cmd : Nat) (data : List Nat) : Sent :=
  sendQuery c (cmd :: (buildHostname Codec.b32 c.hostnameMaxlen 4095 cmd c.topdomain data).name)

/-- the four header characters and the data-CMC character of an upstream data query -/
def chunkHeader (c : Cli) (last : Bool) : List Nat :=
  [c.useridChar,
   b32_5to8 ((maskI c.outpkt.seqno 8 * 4 ||| maskI c.outpkt.fragment 16 / 4 : Nat) : Int),
   b32_5to8 ((maskI c.outpkt.fragment 4 * 8 ||| maskI c.inpkt.seqno 8 : Nat) : Int),
   b32_5to8 ((maskI c.inpkt.fragment 16 * 2 ||| (if last then 1 else 0) : Nat) : Int),
   (ascii "abcdefghijklmnopqrstuvwxyz0123456789").getD c.datacmc 0]

/-- the bytes `send_chunk` offers to `build_hostname`: `outpkt.data[offset .. len)` -/
def outRest (p : Packet) : List Nat := (p.data.take p.len).drop p.offset

/-- `send_chunk(fd)`.  (`build_hostname` is given `buf + 5` before `buf[4]` has been written: for an empty encoding
it would look at an uninitialised byte, modelled as 0.) -/
def sendChunk (c : Cli) : Sent :=
  let avail := c.outpkt.len - c.outpkt.offset
  let b := buildHostname c.dataenc.codec c.hostnameMaxlen 4091 0 c.topdomain (outRest c.outpkt)
  let c := { c with outpkt := { c.outpkt with sentlen := b.used } }
  let hdr := chunkHeader c (b.used == avail)
  let c := { c with datacmc := if c.datacmc + 1 ≥ 36 then 0 else c.datacmc + 1 }
  sendQuery c (hdr ++ b.name)

/-- `send_ping(fd)` -/
def sendPing (c : Cli) : Sent :=
  if c.conn = .dnsNull then
    let data := [maskI c.userid 256, (maskI c.inpkt.seqno 8 * 16 ||| maskI c.inpkt.fragment 16) % 256,
                 c.randSeed / 256 % 256, c.randSeed % 256]
    sendPacket { c with randSeed := (c.randSeed + 1) % 65536 } 112 data
  else ⟨{ c with lastrawping := c.now }, [sendRaw c [] 0 RAW_HDR_CMD_PING], false⟩

/-! ### how a handler ends -/

inductive Stop where
  | ret (rv : Int)          -- the C function returned `rv`
  | park (k : Resume)       -- the thread is parked in `handshake_lazyoff`'s first `select`; `k` = rest of the function
deriving DecidableEq, Repr

/-- the code between the return of `send_chunk`/`send_ping` and the return of the enclosing function;
second component: the return value of that function (0 for the timeout branch of `client_tunnel`) -/
def resume (c : Cli) : Resume → Cli × Int
  | .tunChunk read => ({ c with sendPingSoon := 0 }, read)
  | .dnsOosPing => ({ c with sendPingSoon := 0 }, -1)
  | .dnsChunk read => ({ c with sendPingSoon := 0 }, read)     -- `send_something_now = 0`: no final ping
  | .dnsPing read => ({ c with sendPingSoon := 0 }, read)
  | .timeout => ({ c with sendPingSoon := 0 }, 0)

/-- a sender was called after `pre` had been emitted; `k` is what follows the call -/
def afterSend (s : Sent) (pre : List CEvent) (k : Resume) : Cli × List CEvent × Stop :=
  if s.parked then (s.c, pre ++ s.evs, .park k)
  else ((resume s.c k).1, pre ++ s.evs, .ret (resume s.c k).2)

/-! ### compression (test scheme), tun device -/

/-- test `compress2`: 0x5a followed by the input -/
def compress (d : List Nat) : List Nat := 0x5a :: d

/-- test `uncompress` into a buffer of `cap` bytes -/
def uncompress (d : List Nat) (cap : Nat) : Option (List Nat) :=
  match d with
  | [] => none
  | b :: rest => if b = 0x5a ∧ rest.length ≤ cap then some rest else none

/-- `write_tun(tun_fd, data, len)` on Linux: the first four bytes are overwritten with 00 00 08 00, then `len` bytes
are written -/
def writeTun (out : List Nat) : CEvent := .tunw (([0, 0, 8, 0] ++ out.drop 4).take out.length)

/-! ### tunnel_tun -/

/-- `tunnel_tun(tun_fd, dns_fd)` when `read_tun` delivers `frame` (`in[64*1024]`) -/
def tunnelTun (c : Cli) (frame : List Nat) : Cli × List CEvent × Stop :=
  let frame := frame.take 65536
  let read : Int := frame.length
  if frame.length = 0 then (c, [], .ret (-1))
  else if isSending c then (c, [], .ret (-1))
  else
    let out := compress frame
    let c := { c with outpkt := { c.outpkt with data := out.take 65536, sentlen := 0, offset := 0,
                                                seqno := sChar (((c.outpkt.seqno + 1) % 8 : Int)), len := out.length,
                                                fragment := 0 },
                      outchunkresent := 0 }
    if c.conn = .dnsNull then afterSend (sendChunk c) [] (.tunChunk read)
    else
      let r := sendRawData c
      (r.1, r.2, .ret read)

/-! ### read_dns_withq, raw-mode half -/

/-- `read_dns_withq` for `conn == CONN_RAW_UDP` on datagram `data` (`data[64*1024]`); it always returns 0 -/
def readRaw (c : Cli) (data : List Nat) : Res :=
  let data := data.take 65536
  if data.length < RAW_HDR_LEN then (c, [])
  else if data.take 3 ≠ rawHeader.take 3 then (c, [])
  else
    let b3 := data.getD 3 0
    if ((b3 &&& RAW_HDR_USR_MASK : Nat) : Int) ≠ c.userid then (c, [])
    else
      let cmd := b3 &&& RAW_HDR_CMD_MASK
      let c := if cmd = RAW_HDR_CMD_DATA ∨ cmd = RAW_HDR_CMD_PING then { c with lastdownstreamtime := c.now } else c
      if cmd ≠ RAW_HDR_CMD_DATA then (c, [])
      else
        match uncompress (data.drop RAW_HDR_LEN) 65536 with
        | some out => (c, [writeTun out])
        | none => (c, [])

/-! ### tunnel_dns -/

/-- what `read_dns_withq` returned in DNS mode: return value, `q.id`, `q.type`, `q.rcode`, `q.name[0]`
and `buf[0..rv)` -/
structure Rq where
  rv : Int
  id : Nat
  type : Nat
  rcode : Nat
  name0 : Nat
  buf : List Nat
deriving DecidableEq, Repr, Inhabited

/-- a datagram from which `read_dns_withq` got nothing -/
def Rq.zero : Rq := ⟨0, 0, 0, 0, 0, []⟩

/-- `recent_seqno(ourseqno, gotseqno)` (common.c): `n` iterations left -/
def recentSeqnoLoop (got : Int) : Nat → Int → Bool
  | 0, _ => false
  | n + 1, our =>
    let our := if our < 0 then 7 else our
    if got = our then true else recentSeqnoLoop got n (our - 1)

def recentSeqno (our got : Int) : Bool := recentSeqnoLoop got 4 our

/-- the two header bytes of a downstream data answer -/
structure Hdr where
  dnSeq : Int      -- new_down_seqno   = (buf[1] >> 5) & 7
  dnFrag : Int     -- new_down_fragment = (buf[1] >> 1) & 15
  upSeq : Int      -- up_ack_seqno     = (buf[0] >> 4) & 7
  upFrag : Int     -- up_ack_fragment  = buf[0] & 15
  last : Bool      -- buf[1] & 1
deriving DecidableEq, Repr

/-- `buf` is a `char[]`: for a byte ≥ 128 `buf[1] >> 5` shifts a negative `int` (arithmetic shift), the `& 7` /
`& 15` then keep exactly the bits an unsigned shift would have delivered -/
def decodeHdr (buf : List Nat) : Hdr :=
  let b0 := buf.getD 0 0
  let b1 := buf.getD 1 0
  { dnSeq := ((b1 / 32 % 8 : Nat) : Int), dnFrag := ((b1 / 2 % 16 : Nat) : Int),
    upSeq := ((b0 / 16 % 8 : Nat) : Int), upFrag := ((b0 % 16 : Nat) : Int), last := b1 % 2 = 1 }

/-- first exit: `q.name[0]` is none of 'P', 'p', userid_char, userid_char2 -/
def notData (c : Cli) (name0 : Nat) : Bool :=
  name0 != 80 && name0 != 112 && name0 != c.useridChar && name0 != c.useridChar2

/-- the SERVFAIL bookkeeping inside `if (read < 2)` -/
def servfailCount (c : Cli) (rq : Rq) : Cli :=
  if rq.rv < 0 ∧ rq.rcode = 2 ∧ c.lazymode ∧ c.selecttimeout > 1 then
    if c.packrecv < 500 ∧ c.packrecvServfail < 4 then
      { c with packrecvServfail := c.packrecvServfail + 1 }
    else if c.packrecv < 500 ∧ c.packrecvServfail = 4 then
      { c with packrecvServfail := c.packrecvServfail + 1, selecttimeout := 1, sendcnt := 0, recvcnt := 0 }
    else if c.packrecv ≥ 500 ∧ c.packrecvServfail > 0 then
      { c with packrecvServfail := 0 }
    else c
  else c

/-- "This is the previous seqno, or a bit earlier": `read = 2; send_ping_soon = 500;` -/
def dupeSeqno (c : Cli) (h : Hdr) (read : Int) : Cli × Int :=
  if read > 2 ∧ h.dnSeq ≠ c.inpkt.seqno ∧ recentSeqno c.inpkt.seqno h.dnSeq then
    ({ c with sendPingSoon := 500 }, 2)
  else (c, read)

/-- `if (!(packrecv & 0x1000000)) packrecv++; send_query_recvcnt++;` -/
def countRecv (c : Cli) : Cli :=
  { c with packrecv := if c.packrecv / 0x1000000 % 2 = 0 then c.packrecv + 1 else c.packrecv,
           recvcnt := c.recvcnt + 1 }

/-- `q.id` is one of the three remembered ids -/
def recentId (c : Cli) (id : Nat) : Bool := id == c.chunkid || id == c.chunkidPrev || id == c.chunkidPrev2

/-- the bookkeeping of the out-of-sequence exit (before its ping) -/
def oosCount (c : Cli) : Cli :=
  let c := { c with packrecvOos := c.packrecvOos + 1 }
  if c.lazymode ∧ c.packrecv < 1000 ∧ c.packrecvOos = 5 then
    { c with selecttimeout := 1, sendcnt := 0, recvcnt := 0 }
  else c

/-- "In lazy mode, we shouldn't get much replies to our most-recent query" -/
def lazyHint (c : Cli) (id : Nat) : Cli :=
  if id = c.chunkid ∧ c.lazymode then
    if c.sendPingSoon = 0 ∨ c.sendPingSoon > 900 then { c with sendPingSoon := 900 } else c
  else c

/-- "a seqno that we didn't see yet, but it has no data any more" -/
def datalessAdopt (c : Cli) (h : Hdr) (read : Int) : Cli :=
  if read = 2 ∧ h.dnSeq ≠ c.inpkt.seqno ∧ !recentSeqno c.inpkt.seqno h.dnSeq then
    { c with inpkt := { c.inpkt with seqno := sChar h.dnSeq, fragment := sChar h.dnFrag, len := 0 }, sendPingSoon := 500 }
  else c

/-- the `if … else if …` chain at the head of `while (read > 2)`: `none` = one of the two `break`s
(duplicate fragment / missed fragment), otherwise the state with which the fragment is taken -/
def acceptFragment (c : Cli) (h : Hdr) : Option Cli :=
  if h.dnSeq ≠ c.inpkt.seqno then
    some { c with inpkt := { c.inpkt with seqno := sChar h.dnSeq, fragment := sChar h.dnFrag, len := 0 } }
  else if c.inpkt.fragment = 0 ∧ h.dnFrag = 0 ∧ c.inpkt.len = 0 then some c      -- "weird situation"
  else if h.dnFrag ≤ c.inpkt.fragment then none
  else if h.dnFrag > c.inpkt.fragment + 1 then none
  else some c

/-- `inpkt.fragment = new_down_fragment; datalen = MIN(read - 2, sizeof(inpkt.data) - inpkt.len);
memcpy(&inpkt.data[inpkt.len], &buf[2], datalen); inpkt.len += datalen;` -/
def appendFragment (c : Cli) (h : Hdr) (buf : List Nat) (read : Int) : Cli :=
  let chunk := ((buf.take read.toNat).drop 2).take (PACKET_DATA_SIZE - c.inpkt.len)
  { c with inpkt := { c.inpkt with fragment := sChar h.dnFrag, data := c.inpkt.data.take c.inpkt.len ++ chunk,
                                   len := c.inpkt.len + chunk.length } }

/-- "If last fragment flag is set": uncompress → write_tun, `inpkt.len = 0` -/
def deliver (c : Cli) : Res :=
  let evs := match uncompress (c.inpkt.data.take c.inpkt.len) 65536 with
    | some out => [writeTun out]
    | none => []
  ({ c with inpkt := { c.inpkt with len := 0 } }, evs)

/-- the whole `while (read > 2) { … break; }`; the `Bool` is `send_something_now` -/
def downstream (c : Cli) (h : Hdr) (buf : List Nat) (read : Int) (sendNow : Bool) : Cli × List CEvent × Bool :=
  if read > 2 then
    match acceptFragment c h with
    | none => ({ c with sendPingSoon := 500 }, [], sendNow)
    | some c =>
      let c := appendFragment c h buf read
      let r : Res := if h.last then deliver c else (c, [])
      if r.1.inpkt.len = 0 then ({ r.1 with sendPingSoon := 5 }, r.2, sendNow)
      else (r.1, r.2, true)
  else (c, [], sendNow)

/-- "Send ping if we didn't send anything yet" … `return read;` -/
def finalPing (c : Cli) (evs : List CEvent) (sendNow : Bool) (read : Int) : Cli × List CEvent × Stop :=
  if sendNow then afterSend (sendPing c) evs (.dnsPing read) else (c, evs, .ret read)

/-- "Upstream data traffic" and the end of `tunnel_dns` -/
def upstream (c : Cli) (h : Hdr) (evs : List CEvent) (sendNow : Bool) (read : Int) : Cli × List CEvent × Stop :=
  if isSending c ∧ h.upSeq = c.outpkt.seqno ∧ h.upFrag = c.outpkt.fragment then
    let c := { c with outpkt := { c.outpkt with offset := c.outpkt.offset + c.outpkt.sentlen } }
    if c.outpkt.offset ≥ c.outpkt.len then
      -- Packet completed
      let c := { c with outpkt := { c.outpkt with offset := 0, len := 0, sentlen := 0 }, outchunkresent := 0 }
      let c := if c.sendPingSoon = 0 ∨ c.sendPingSoon > 20 then { c with sendPingSoon := 20 } else c
      finalPing c evs sendNow read
    else
      -- More to send
      let c := { c with outpkt := { c.outpkt with fragment := sChar (c.outpkt.fragment + 1) }, outchunkresent := 0 }
      afterSend (sendChunk c) evs (.dnsChunk read)
  else finalPing c evs sendNow read

/-- `tunnel_dns(tun_fd, dns_fd)` in DNS mode, from the return of `read_dns_withq` on -/
def tunnelDns (c : Cli) (rq : Rq) : Cli × List CEvent × Stop :=
  if notData c rq.name0 then ({ c with sendPingSoon := 700 }, [], .ret (-1))
  else if rq.rv < 2 then ({ servfailCount c rq with sendPingSoon := 900 }, [], .ret (-1))
  else if rq.rv = 5 ∧ rq.buf.take 5 = ascii "BADIP" then (c, [], .ret (-1))
  else
    let sendNow := c.sendPingSoon != 0
    let c := { c with sendPingSoon := 0 }
    let h := decodeHdr rq.buf
    let d := dupeSeqno c h rq.rv
    let read := d.2
    let c := countRecv d.1
    if !recentId c rq.id then
      let c := oosCount c
      if sendNow then afterSend (sendPing c) [] .dnsOosPing else (c, [], .ret (-1))
    else
      let c := { c with lastdownstreamtime := c.now }
      let c := lazyHint c rq.id
      let c := datalessAdopt c h read
      let r := downstream c h rq.buf read sendNow
      upstream r.1 h r.2.1 r.2.2 read

/-- `tunnel_dns(tun_fd, dns_fd)` in raw mode: `read_dns_withq` did everything, `return 1` -/
def tunnelDnsRaw (c : Cli) (data : List Nat) : Cli × List CEvent × Stop :=
  let r := readRaw c data
  (r.1, r.2, .ret 1)

/-! ### client_tunnel -/

/-- entry of `client_tunnel`: `lastdownstreamtime = time(NULL); lastrawping = time(NULL); send_query_sendcnt = 0;` -/
def clientTunnelEnter (c : Cli) : Cli := { c with lastdownstreamtime := c.now, lastrawping := c.now, sendcnt := 0 }

/-- `tv` and `fds` of the `select` in `client_tunnel` -/
def selectOf (c : Cli) : Sel :=
  let to : Int :=
    if c.sendPingSoon ≠ 0 then (c.sendPingSoon : Int) * 1000
    else if isSending c then 1000000
    else c.selecttimeout * 1000000
  { to := to, tun := !isSending c || decide (c.outchunkresent ≥ 2), dns := true }

/-- after `select`: the 60 s check -/
def afterSelect (c : Cli) : Cli :=
  if c.lastdownstreamtime + 60 < c.now then { c with running := false } else c

/-- `if (i > 0 && conn == CONN_RAW_UDP && lastrawping + selecttimeout <= time(NULL)) send_ping(dns_fd);` -
the raw-mode keepalive sent although `select` did not time out (traffic in one direction only) -/
def rawKeepalive (c : Cli) : Cli × List CEvent :=
  if c.conn ≠ .dnsNull ∧ (c.lastrawping : Int) + c.selecttimeout ≤ (c.now : Int) then
    ({ c with lastrawping := c.now }, [sendRaw c [] 0 RAW_HDR_CMD_PING])
  else (c, [])

/-- the `i == 0` branch -/
def timeoutBranch (c : Cli) : Cli × List CEvent × Stop :=
  if isSending c then
    if c.outchunkresent < 3 then
      afterSend (sendChunk { c with outchunkresent := c.outchunkresent + 1 }) [] .timeout
    else
      let c := { c with outpkt := { c.outpkt with offset := 0, len := 0, sentlen := 0 }, outchunkresent := 0 }
      afterSend (sendPing c) [] .timeout
  else afterSend (sendPing c) [] .timeout

/-! ### handshake_waitdns as called by handshake_lazyoff -/

/-- what the `select` of `handshake_waitdns` delivered -/
inductive WaitIn where
  | timeout            -- `r == 0`
  | ans (rq : Rq)      -- the socket was readable and `read_dns_withq` returned this

/-- one round of the `while (1)` of `handshake_waitdns(dns_fd, in, sizeof(in), 'o', 'O', 1)`:
`none` = `continue` (back into `select`), otherwise the return value (and the state: `sleep(1)`) -/
def waitdnsRound (c : Cli) : WaitIn → Option (Cli × Int)
  | .timeout => some (c, -3)
  | .ans rq =>
    if rq.id ≠ c.chunkid ∨ (rq.name0 ≠ 111 ∧ rq.name0 ≠ 79) then none
    else
      -- (the "Got empty reply" exit needs name[0] ∈ {Y,y,V,v}: impossible here)
      let c := if rq.rv < 0 ∧ rq.rcode = 2 then { c with now := c.now + 1 } else c
      if rq.rv < 0 then some (c, -2) else some (c, rq.rv)

/-- the body of the `for` loop of `handshake_lazyoff` after `handshake_waitdns` returned `read` with `in = buf`:
`true` = "Server switched back to legacy mode", return -/
def lazyoffGot (c : Cli) (read : Int) (buf : List Nat) : Cli × Bool :=
  if read = 9 ∧ buf.take 9 = ascii "Immediate" then ({ c with lazymode := false, selecttimeout := 1 }, true)
  else (c, false)

end Iodine.Client
