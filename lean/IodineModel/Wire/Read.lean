/-
Model of the READ side of iodine's DNS wire format, `/repo/src/read.c`:
`readname_loop`/`readname`, `readshort`, `readlong`, `readdata`, `readtxtbin`.

The receive buffer.  Client and server receive into `char packet[64*1024]` and hand
`(packet, packetlen)` to the decoders; `packetlen` is the length of the datagram, the bytes at index
≥ `packetlen` are *stale residue* of earlier datagrams.  `RxBuf` models exactly that: `pkt` is the
datagram, `res` a residue pattern (byte at index `i ≥ pkt.size` is `res[i % res.size]`, zero for the empty
pattern — this is what `rx_buffer` of harness/h_wire.h builds), `cap` the size of the C array.  EVERY C
read `packet[i]`/`*s`/`p[k]`/`memcpy(…, src, n)` goes through `RxBuf.get`, which returns
`Fault.oob` for an index ≥ `cap` (C: read outside the array) and the residue byte for
`pkt.size ≤ i < cap` — the model is able to express a dependence on the residue; that the current code
has none is the content of Props/C12.lean, not of this file.

`pkt`/`res` are `Array Nat` (not `List Nat`): the driver is fed datagrams of up to 64 KiB and the decoders
follow compression pointers, i.e. they index randomly.

Pointers (`char *s`, `*src`, `data`) are `Nat` offsets into the buffer.  Local C arrays are Lean lists
holding the bytes written so far; every write checks the capacity of the C array and yields
`Fault.oobWrite` beyond it.  Loops that are not structurally recursive carry fuel; running out of fuel is
the fault `Fault.fuel`, so the no-fault theorems of C12 contain the statement that the fuel suffices
(= the C loop terminates within that many iterations).

`readname_loop`, invariants of the C code used by the transcription (each is obvious from the text):
`d == dst + len` (both are only ever incremented together), so the list `out` of bytes written so far
determines both (`len = out.length`); the function returns the number of bytes it has written
(`0` and nothing written on the three `return 0` exits, which also leave `*src` untouched).
`len < length - 2` / `len < length - 1` are `size_t` comparisons; they are transcribed as
`len + 2 < length` / `len + 1 < length`, which is the same for `length ≥ 2`.  All callers pass
`length ∈ {255, 256}` or, recursively, `length - len ≥ 3`; `readname` below rejects `length < 3`
like the harness does (`bad-op`).
-/
namespace Iodine.Wire

inductive Fault where
  /-- read outside the receive buffer (or outside a local array) -/
  | oob
  /-- write outside a local array / the caller's buffer -/
  | oobWrite
  /-- a fuelled loop ran out of fuel (never happens, see C12.*_no_fault) -/
  | fuel
  /-- precondition of the model violated by the caller (`readname` with `length < 3`) -/
  | precond
  deriving DecidableEq, Repr, Inhabited

/-- (core has no `DecidableEq (Except ε α)`; needed to `decide` concrete runs of the model) -/
instance {ε α} [DecidableEq ε] [DecidableEq α] : DecidableEq (Except ε α)
  | .ok a, .ok b => if h : a = b then isTrue (h ▸ rfl) else isFalse (fun e => h (Except.ok.inj e))
  | .error a, .error b => if h : a = b then isTrue (h ▸ rfl) else isFalse (fun e => h (Except.error.inj e))
  | .ok _, .error _ => isFalse (fun e => nomatch e)
  | .error _, .ok _ => isFalse (fun e => nomatch e)

structure RxBuf where
  /-- the datagram -/
  pkt : Array Nat
  /-- residue pattern -/
  res : Array Nat := #[]
  /-- size of the C array `packet[]` -/
  cap : Nat := 65536

namespace RxBuf

/-- `packetlen` -/
@[reducible] def plen (b : RxBuf) : Nat := b.pkt.size

/-- `packet[i]` -/
def get (b : RxBuf) (i : Nat) : Except Fault Nat :=
  if b.cap ≤ i then .error .oob
  else if i < b.pkt.size then .ok (b.pkt.getD i 0)
  else if b.res.size = 0 then .ok 0
  else .ok (b.res.getD (i % b.res.size) 0)

end RxBuf

/-! ### C arrays that start zero-filled

A zero-initialised C array is represented by the list of its leading bytes; everything behind the list
is still zero. -/

/-- the C string stored in an array: bytes up to the first NUL -/
def cstr (a : List Nat) : List Nat := a.takeWhile (· ≠ 0)

/-- the array after `w` has been stored at its start (`readname(…, dst = a, …)` wrote `w`) -/
def overwrite (a w : List Nat) : List Nat := w ++ a.drop w.length

/-- store one byte behind the `out.length` bytes already written to an array of `cap` bytes -/
def push (cap : Nat) (out : List Nat) (x : Nat) : Except Fault (List Nat) :=
  if out.length < cap then .ok (out ++ [x]) else .error .oobWrite

/-! ### readname -/

/-- `dst[len++] = '\0'; end: (*src) = (s < end) ? s + 1 : end; return len;` -/
def nameFinish (b : RxBuf) (length s : Nat) (out : List Nat) : Except Fault (Nat × List Nat) := do
  let out ← push length out 0
  .ok (if s < b.plen then s + 1 else b.plen, out)

/-- `while (c && len < length - 1 && s < end) { *d++ = *s++; len++; c--; }` -/
def copyLabel (b : RxBuf) (length : Nat) : (c : Nat) → (s : Nat) → (out : List Nat) →
    Except Fault (Nat × List Nat)
  | 0, s, out => .ok (s, out)
  | c+1, s, out =>
    if out.length + 1 < length ∧ s < b.plen then do
      let x ← b.get s
      let out ← push length out x
      copyLabel b length c (s + 1) out
    else .ok (s, out)

/-- The `while` loop of one `readname_loop` activation, from the loop test on.  `rec off len'` is the
recursive call `readname_loop(packet, packetlen, &dummy, d, len', loop - 1)` with
`dummy = packet + off`; it returns what that call wrote at `d`.  `src0` is the caller's `*src`
(returned unchanged by the `return 0` exits).  Result: new `*src` and everything written to `dst`;
the C return value is the length of the latter. -/
def nameLoop (b : RxBuf) (length : Nat) (rec : Nat → Nat → Except Fault (List Nat)) (src0 : Nat) :
    (fuel : Nat) → (s : Nat) → (out : List Nat) → Except Fault (Nat × List Nat)
  | fuel, s, out =>
    -- while (s < end && *s && len < length - 2)
    if ¬ s < b.plen then nameFinish b length s out else do
    let c ← b.get s
    if c = 0 ∨ ¬ out.length + 2 < length then nameFinish b length s out else
    match fuel with
    | 0 => .error .fuel
    | fuel+1 =>
      -- c = *s++
      let s := s + 1
      if c &&& 0xc0 = 0xc0 then
        -- second byte of the pointer is missing: break
        if ¬ s < b.plen then nameFinish b length s out else do
        let c2 ← b.get s
        let offset := ((c &&& 0x3f) <<< 8) ||| (c2 &&& 0xff)
        if offset ≥ b.plen then
          -- bad jump: first in packet `return 0`, after some data `break`
          if out.length = 0 then .ok (src0, []) else nameFinish b length s out
        else do
          let sub ← rec offset (length - out.length)
          if sub.length = 0 ∧ out.length > 0 then do
            -- nothing usable behind the pointer: dst[len++] = '\0'
            let out ← push length out 0
            .ok (s + 1, out)
          else
            -- len += offset; goto end   (here s < end)
            .ok (s + 1, out ++ sub)
      else if c &&& 0xc0 ≠ 0 then
        -- reserved label type
        if out.length = 0 then .ok (src0, []) else nameFinish b length s out
      else do
        let (s, out) ← copyLabel b length c s out
        if out.length + 1 ≥ length then nameFinish b length s out else
        if s < b.plen then do
          let x ← b.get s
          if x ≠ 0 then do
            let out ← push length out 46
            nameLoop b length rec src0 fuel s out
          else nameLoop b length rec src0 fuel s out
        else nameLoop b length rec src0 fuel s out

/-- `readname_loop(packet, packetlen, &src, dst, length, loop)`: new `*src`, bytes written to `dst`.
Every iteration of the `while` loop advances `s`, which stays ≤ `end`: `plen` iterations suffice. -/
def readnameLoop (b : RxBuf) : (loop : Nat) → (src : Nat) → (length : Nat) → Except Fault (Nat × List Nat)
  | 0, src, _ => .ok (src, [])
  | loop+1, src, length =>
    nameLoop b length (fun off len' => (readnameLoop b loop off len').map (·.2)) src b.plen src []

/-- `readname(packet, packetlen, &src, dst, length)`; result `(new *src, bytes written to dst)`,
the C return value is the number of bytes written. -/
def readname (b : RxBuf) (src length : Nat) : Except Fault (Nat × List Nat) :=
  if length < 3 then .error .precond else readnameLoop b 10 src length

/-- the C return value of `readname` -/
def readnameRv (r : Nat × List Nat) : Nat := r.2.length

/-! ### readshort, readlong, readdata -/

/-- `readshort`: `(value, new *src)` -/
def readshort (b : RxBuf) (src : Nat) : Except Fault (Nat × Nat) := do
  let p0 ← b.get src
  let p1 ← b.get (src + 1)
  .ok (((p0 <<< 8) ||| p1) % 65536, src + 2)

/-- `readlong`: `(value, new *src)` -/
def readlong (b : RxBuf) (src : Nat) : Except Fault (Nat × Nat) := do
  let p0 ← b.get src
  let p1 ← b.get (src + 1)
  let p2 ← b.get (src + 2)
  let p3 ← b.get (src + 3)
  .ok (((p0 <<< 24) ||| (p1 <<< 16) ||| (p2 <<< 8) ||| p3) % 4294967296, src + 4)

/-- the bytes `src[0..n)` as `memcpy(dst, src, n)` reads them -/
def readBytes (b : RxBuf) : (n : Nat) → (src : Nat) → Except Fault (List Nat)
  | 0, _ => .ok []
  | n+1, src => do
    let x ← b.get src
    let r ← readBytes b n (src + 1)
    .ok (x :: r)

/-- `readdata(packet, &src, dst, len)` into a `dst` of `dstcap` bytes: `(bytes stored, new *src)` -/
def readdata (b : RxBuf) (src len dstcap : Nat) : Except Fault (List Nat × Nat) :=
  if dstcap < len then .error .oobWrite else do
  let d ← readBytes b len src
  .ok (d, src + len)

/-! ### readtxtbin -/

/-- the `while (srcremain > 0)` loop; `dstcap` is the real capacity of `dst`, `out` what has been stored
(`dstused = out.length`).  Result `(rv, new *src, bytes stored in dst)`; the two `return 0` exits leave
what was already copied in `dst`. -/
def readtxtbinGo (b : RxBuf) (dstcap : Nat) :
    (fuel : Nat) → (src srcremain dstremain : Nat) → (out : List Nat) → Except Fault (Nat × Nat × List Nat)
  | fuel, src, srcremain, dstremain, out =>
    if srcremain = 0 then .ok (out.length, src, out) else
    match fuel with
    | 0 => .error .fuel
    | fuel+1 => do
      let tocopy ← b.get src
      let src := src + 1
      let srcremain := srcremain - 1
      if tocopy > srcremain then .ok (0, src, out)
      else if tocopy > dstremain then .ok (0, src, out)
      else do
        let bytes ← readBytes b tocopy src
        if out.length + tocopy > dstcap then .error .oobWrite else
        readtxtbinGo b dstcap fuel (src + tocopy) (srcremain - tocopy) (dstremain - tocopy) (out ++ bytes)

/-- `readtxtbin(packet, &src, srcremain, dst, dstremain)` with a `dst` of exactly `dstremain` bytes.
`srcremain` strictly decreases in every iteration. -/
def readtxtbin (b : RxBuf) (src srcremain dstremain : Nat) : Except Fault (Nat × Nat × List Nat) :=
  readtxtbinGo b dstremain srcremain src srcremain dstremain []

end Iodine.Wire
