import IodineModel.Gen.Tables
import IodineModel.Bits
import IodineModel.Hex
import IodineModel.Codec.Generic
import IodineModel.Codec.Inst
import IodineModel.Encoding
import IodineModel.Users
import IodineModel.Common
import IodineModel.Login
import IodineModel.FwQuery
import IodineModel.Wire.Read
import IodineModel.Wire.DnsDecode
import IodineModel.Wire.Put
import IodineModel.Wire.DnsEncode
import IodineModel.Wire.Strict
import IodineModel.Drv.Codec
import IodineModel.Drv.Encoding
import IodineModel.Drv.Users
import IodineModel.Server.State
import IodineModel.Server.Handle
import IodineModel.Client.State
import IodineModel.Client.Tunnel
import IodineModel.Drv.Common
import IodineModel.Drv.Login
import IodineModel.Drv.FwQuery
import IodineModel.Drv.Slots
import IodineModel.Drv.WireRead
import IodineModel.Drv.WirePut
import IodineModel.Server.Loop
import IodineModel.Server.Run
import IodineModel.Drv.Server
import IodineModel.Client.Shell
import IodineModel.Client.Loop
import IodineModel.Client.Handshake
import IodineModel.Drv.Client
import IodineModel.Getopt
import IodineModel.Server.Options
import IodineModel.Client.Options
import IodineModel.Drv.Options
import IodineModel.Lemmas.Client
import IodineModel.Lemmas.Ite
import IodineModel.Lemmas.CliFrame
import IodineModel.Lemmas.HsPos
import IodineModel.Lemmas.Hs
import IodineModel.Lemmas.HsSys
import IodineModel.Lemmas.Common
import IodineModel.Lemmas.C11a
import IodineModel.Lemmas.C11b
import IodineModel.Lemmas.HsRef
import IodineModel.Drv.Shell
import IodineModel.Lemmas.Shell
import IodineModel.Props.C13
import IodineModel.Lemmas.Runs
import IodineModel.Lemmas.SrvC04a
import IodineModel.Lemmas.SrvC16a
import IodineModel.Lemmas.HandlerCases
import IodineModel.Lemmas.Codec
import IodineModel.Lemmas.Encoding
import IodineModel.Lemmas.Users
import IodineModel.Lemmas.Login
import IodineModel.Lemmas.FwQuery
import IodineModel.Lemmas.WireRead
import IodineModel.Props.C07
import IodineModel.Props.C08
import IodineModel.Server.WriteDns
import IodineModel.Server.Bytes
import IodineModel.Props.C12
import IodineModel.Props.C17
import IodineModel.Props.C18
import IodineModel.Props.C19
import IodineModel.Props.C20
import IodineModel.Lemmas.SrvC04b
import IodineModel.Lemmas.SrvC04c
import IodineModel.Lemmas.Steps
import IodineModel.Lemmas.SrvC16c
import IodineModel.Lemmas.SrvC04e
import IodineModel.Lemmas.SrvC04f
import IodineModel.Lemmas.SrvC16b
import IodineModel.Lemmas.SrvC16h
import IodineModel.Props.C16
import IodineModel.Lemmas.Strict
import IodineModel.Lemmas.WirePut
import IodineModel.Props.C10
import IodineModel.Lemmas.SrvC03a
import IodineModel.Lemmas.SrvC03b
import IodineModel.Lemmas.SrvC03e
import IodineModel.Props.C03
import IodineModel.Lemmas.SrvC14a
import IodineModel.Lemmas.SrvC14d
import IodineModel.Props.C14
import IodineModel.Props.C04
import IodineModel.Lemmas.SrvC15a
import IodineModel.Lemmas.SrvC15c
import IodineModel.Lemmas.SrvC15e
import IodineModel.Lemmas.SrvC15g
import IodineModel.Props.C15
import IodineModel.Props.C05
import IodineModel.Props.C06
import IodineModel.Client.ReadDns
import IodineModel.Drv.Downstream
import IodineModel.Drv.ServerBytes
import IodineModel.Lemmas.WireRt
import IodineModel.Lemmas.WireRt2
import IodineModel.Lemmas.WireRt3
import IodineModel.Lemmas.Downstream
import IodineModel.Lemmas.DownstreamE2E
import IodineModel.Lemmas.MxClient
import IodineModel.Lemmas.MxServer
import IodineModel.Lemmas.DownstreamMx
import IodineModel.Lemmas.BytesA
import IodineModel.Lemmas.BytesB
import IodineModel.Lemmas.BytesC
import IodineModel.Lemmas.C05Sb
import IodineModel.Lemmas.BytesF
import IodineModel.Lemmas.BytesD
import IodineModel.Lemmas.BytesE
import IodineModel.Lemmas.BytesG
import IodineModel.Lemmas.BytesH
import IodineModel.Lemmas.BytesJ
import IodineModel.Lemmas.C05Sn
import IodineModel.Lemmas.BytesI
import IodineModel.Props.C10Session
import IodineModel.Props.C09
import IodineModel.Lemmas.C11c
import IodineModel.Lemmas.C11f
import IodineModel.Lemmas.C11d
import IodineModel.Props.C11
import IodineModel.Drv.Negot
import IodineModel.Lemmas.C01a
import IodineModel.Lemmas.C01b
import IodineModel.Lemmas.C01c
import IodineModel.Lemmas.C01d
import IodineModel.Lemmas.C01e
import IodineModel.Lemmas.C01f
import IodineModel.Lemmas.C01g
import IodineModel.Lemmas.Chain
import IodineModel.Lemmas.C01h
import IodineModel.Lemmas.C01i
import IodineModel.Lemmas.C01j
import IodineModel.Props.C01
import IodineModel.World
import IodineModel.Lemmas.C02frame
import IodineModel.Lemmas.C02a
import IodineModel.Lemmas.C02base
import IodineModel.Lemmas.C02s1
import IodineModel.Lemmas.C02b
import IodineModel.Lemmas.C02w
import IodineModel.Lemmas.WorldFast
import IodineModel.Lemmas.C02s2
import IodineModel.Lemmas.C02s5
import IodineModel.Lemmas.C02u1
import IodineModel.Lemmas.C02p
import IodineModel.Lemmas.C02h
import IodineModel.Lemmas.C02v1
import IodineModel.Lemmas.C02sched
import IodineModel.Lemmas.C02v2
import IodineModel.Lemmas.C02v4
import IodineModel.Lemmas.C02f
import IodineModel.Lemmas.C02g
import IodineModel.Lemmas.C02v5
import IodineModel.Lemmas.C02v7
import IodineModel.Lemmas.C02d2
import IodineModel.Lemmas.C02mode
import IodineModel.Lemmas.C02v8
import IodineModel.Lemmas.C02L2
import IodineModel.Lemmas.C02up1
import IodineModel.Lemmas.C02q0
import IodineModel.Lemmas.C02up2
import IodineModel.Lemmas.C02v10
import IodineModel.Lemmas.C02L9
import IodineModel.Lemmas.C02L10
import IodineModel.Lemmas.C02up4
import IodineModel.Lemmas.C02d1
import IodineModel.Lemmas.C02d5
import IodineModel.Lemmas.C02d9
import IodineModel.Lemmas.C02down1
import IodineModel.Lemmas.C02d14
import IodineModel.Lemmas.C02M1
import IodineModel.Lemmas.C02M6
import IodineModel.Lemmas.C02up5
import IodineModel.Lemmas.C02up6
import IodineModel.Lemmas.C02R1
import IodineModel.Lemmas.C02R5
import IodineModel.Lemmas.C02t
import IodineModel.Lemmas.C02t2
import IodineModel.Lemmas.C02t3
import IodineModel.Lemmas.C02M8
import IodineModel.Props.C02
import IodineModel.Lemmas.CliQ1
import IodineModel.Lemmas.CliQ3
import IodineModel.Props.C08Session
import IodineModel.Props.C10Session2
import IodineModel.Lemmas.WorldFastRun
import IodineModel.Lemmas.C02qA1
import IodineModel.Lemmas.C02qA2
import IodineModel.Lemmas.C02qA6
import IodineModel.Lemmas.C02qB1
import IodineModel.Lemmas.C02qB4
import IodineModel.Lemmas.C02qB5
import IodineModel.Lemmas.C02qB7
import IodineModel.Lemmas.C02qB8
import IodineModel.Lemmas.C02qB9
import IodineModel.Lemmas.C02qM1
import IodineModel.Lemmas.C02qD3
import IodineModel.Lemmas.C02qD5
import IodineModel.Lemmas.C02qD7
import IodineModel.Lemmas.C02qM8
import IodineModel.Lemmas.C02rD4
import IodineModel.Lemmas.C02qD9
import IodineModel.Lemmas.C02qL1
import IodineModel.Lemmas.C02qM7
import IodineModel.Lemmas.C02qO2
import IodineModel.Lemmas.C02qO1
import IodineModel.Lemmas.C02qO3
import IodineModel.Lemmas.C02qO4
import IodineModel.Lemmas.C02qO5
import IodineModel.Lemmas.C02qO6
import IodineModel.Lemmas.C02qO9
import IodineModel.Lemmas.C02qU3
import IodineModel.Lemmas.C02qU6
import IodineModel.Lemmas.C02t5
import IodineModel.Props.C02b
import IodineModel.Lemmas.Opt
import IodineModel.Lemmas.OptSrv
import IodineModel.Lemmas.OptCli
import IodineModel.Props.C19Main
import IodineModel.Props.C18Main
import IodineModel.Props.C17Main
import IodineModel.Props.Top
import IodineModel.Lemmas.OptTop
import IodineModel.Props.C10Main
import IodineModel.Props.C08Main
import IodineModel.Lemmas.C02rA1
import IodineModel.Lemmas.C02rA3
import IodineModel.Lemmas.C02rA8
import IodineModel.Lemmas.C02rD5
import IodineModel.Lemmas.C02rD7
import IodineModel.Lemmas.C02rG2
import IodineModel.Lemmas.C02rG5
import IodineModel.Lemmas.C02rG6
import IodineModel.Lemmas.C02rG7
import IodineModel.Lemmas.C02rG8
import IodineModel.Lemmas.C02rO2
import IodineModel.Lemmas.C02rH5
import IodineModel.Lemmas.C02rO4
import IodineModel.Lemmas.C02rH7
import IodineModel.Lemmas.C02rO10
import IodineModel.Lemmas.C02rO7
import IodineModel.Lemmas.C02rO9
import IodineModel.Lemmas.C02rU3
import IodineModel.Lemmas.C02rU6
import IodineModel.Props.C02c
import IodineModel.Props.C03Main
import IodineModel.Props.C04Main
import IodineModel.Props.C14Main
import IodineModel.Props.C15Main
import IodineModel.Props.C16Main
import IodineModel.Props.C12Main
import IodineModel.Props.C09Main
import IodineModel.Lemmas.C06Events
import IodineModel.Lemmas.C06Sa
import IodineModel.Lemmas.C06Sb
import IodineModel.Lemmas.C06Sc
import IodineModel.Props.C06Session
import IodineModel.Props.C06Main
import IodineModel.Props.C13Main
import IodineModel.Lemmas.C05Sa
import IodineModel.Lemmas.C05Sc
import IodineModel.Lemmas.C05Sd
import IodineModel.Props.C05Session
import IodineModel.Lemmas.C05N1
import IodineModel.Lemmas.C05N5
import IodineModel.Props.C05Continue
import IodineModel.Props.C05Main
